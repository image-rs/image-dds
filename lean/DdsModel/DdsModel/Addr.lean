/-
Addressing model of full-surface and rectangle decoding (property C05).

What is modelled (src/decode/read_write.rs, decoder.rs, uncompressed.rs, src/color/mod.rs):
the three decode families
  * per pixel      `for_each_pixel_untyped` / `for_each_pixel_rect_untyped`
  * blocks         `for_each_block_untyped` / `for_each_block_rect_untyped` with the three
                   `ProcessBlocksFn` shapes (`general_process_blocks`, `process_4x4_blocks_helper`
                   incl. `handle_width_offset` and its aligned fast path, `process_2x1_blocks_helper`)
  * bi-planar      `for_each_bi_planar` / `for_each_bi_planar_rect` with `process_bi_planar_helper`
together with `ChannelConversionBuffer::{process_pixels, process_blocks, process_bi_planar}`
(the 3072-byte chunking), `UntypedLineBuffer`, `DecoderSet::get_decoder`, the whole-image COPY
fast paths and the 16-entry `convert_channels` table.

The per-unit decode function (pixel / block / macro pixel -> colours) is NOT modelled: the
model computes *which* output pixel receives *which* pixel of *which* encoded unit.  The
result of a decode is a list of `Run`s in the order the code performs the writes; the index
arithmetic of the code is kept verbatim (Nat subtraction truncates where Rust would trap or
wrap; `Theorems/C05.lean` shows the operands are ordered under the callers' invariants).

A temporary conversion buffer is modelled by relocation: what the callee writes at buffer
pixel (y, x) is what the caller copies to output pixel (row0 + y, col0 + x).
-/
import DdsModel.Mach
import DdsModel.SrcConsts
namespace Dds.Addr
open Dds

/-- One horizontal run of decoded pixels.  Pixel `t < n` of the run is written to the output
view at `(row, col + t)`; it is pixel `(px + t, py)` of the encoded unit `(ux, uy)` (`ux` = index
of the unit inside its line of units, `uy` = index of the line of units, both absolute in the
surface).  For the per-pixel family a unit is a pixel and a run covers the units `ux .. ux+n`. -/
structure Run where
  row : Nat
  col : Nat
  n : Nat
  ux : Nat
  uy : Nat
  px : Nat
  py : Nat
deriving Repr, DecidableEq, Inhabited

/-- A callee works on a sub-slice of the output (`dr` rows down, `dc` pixels right) and on a
sub-slice of the encoded units (`dux` units right, line `duy`). -/
def Run.shift (dr dc dux duy : Nat) (r : Run) : Run :=
  { r with row := r.row + dr, col := r.col + dc, ux := r.ux + dux, uy := r.uy + duy }

/-- `ChannelConversionBuffer::BUFFER_BYTES` -/
def BUFFER_BYTES : Nat := SrcConsts.CONVERSION_BUFFER_BYTES   -- 3072 at the pinned commit; regenerated from the source

/-- `util::round_down_to_multiple` -/
def roundDown (v m : Nat) : Nat := v - v % m

/-- `(0..n).step_by(p)`: the chunk starts `0, p, 2p, … < n`.  (Rust panics for `p = 0`; the
callers' `p` is positive, see `C05.pref_pos`.) -/
def stepStarts (n p : Nat) : List Nat := (List.range (divCeil n p)).map (· * p)

/-! ### `UntypedLineBuffer` -/

/-- `UntypedLineBuffer::new`: `lines_in_buffer = (64 KiB / bytes_per_line).clamp(1, height)` -/
def lbCapacity (bytesPerLine height : Nat) : Nat :=
  let c := 65536 / bytesPerLine
  if c < 1 then 1 else if c > height then height else c

/-- The lines `next_line` yields: refills of `min(capacity, lines_on_disk)` consecutive lines
each, handed out one by one.  `base` = lines consumed from the reader so far. -/
def lbLines (cap : Nat) : (fuel onDisk base : Nat) → List Nat
  | 0, _, _ => []
  | fuel + 1, onDisk, base =>
    if onDisk = 0 then []
    else
      let k := min cap onDisk
      (List.range k).map (base + ·) ++ lbLines cap fuel (onDisk - k) (base + k)

/-- all lines handed out for a buffer created with `(bytes_per_line, height)` -/
def lineBuffer (bytesPerLine height : Nat) : List Nat :=
  lbLines (lbCapacity bytesPerLine height) height height 0

/-! ### per-pixel family -/

/-- `ChannelConversionBuffer::process_pixels` on one row of `pixels` pixels: without a
conversion one call of the pixel function, else chunks of `BUFFER_BYTES / native_bpp` pixels. -/
def convPixels (conv : Bool) (nbpp pixels : Nat) : List Run :=
  if !conv then [⟨0, 0, pixels, 0, 0, 0, 0⟩]
  else
    let bufPx := BUFFER_BYTES / nbpp
    (stepStarts pixels bufPx).map fun cs =>
      let ce := min (cs + bufPx) pixels
      ⟨0, cs, ce - cs, cs, 0, 0, 0⟩

/-- `for_each_pixel_untyped`: output row `y` (`rows_mut`) receives line `y` of the reader. -/
def pixelFull (conv : Bool) (nbpp W H : Nat) : List Run :=
  (List.range H).flatMap fun y => (convPixels conv nbpp W).map (Run.shift y 0 0 y)

/-- the same with the line order taken from the modelled `UntypedLineBuffer` -/
def pixelFullLB (conv : Bool) (nbpp encBytes W H : Nat) : List Run :=
  (lineBuffer (W * encBytes) H).zipIdx.flatMap fun (line, y) =>
    (convPixels conv nbpp W).map (Run.shift y 0 0 line)

/-- whole-image COPY fast paths (`COPY_U8/U16/U32/S8`, BGRA swap): `read_exact_image` reads
`data` in one go when the view is contiguous (`row_pitch = width * bpp`, so byte
`(y*W + x)*bpp` is row `y`, pixel `x`), else row by row through `rows_mut`. -/
def copyFull (W H : Nat) : List Run :=
  (List.range H).map fun y => ⟨y, 0, W, 0, y, 0, 0⟩

/-- `for_each_pixel_rect_untyped`: position of the reader (in encoded pixels from the start of
the surface) when row `y` of the rectangle is read: `bytes_per_row*oy + before` is skipped
first, `before + after` between two rows. -/
def rectRowPos (W ox oy w : Nat) : Nat → Nat
  | 0 => W * oy + ox
  | y + 1 => rectRowPos W ox oy w y + w + (ox + (W - ox - w))

/-- `for_each_pixel_rect_untyped` (`get_row(y)` receives the `w` pixels read at `rectRowPos y`) -/
def pixelRect (conv : Bool) (nbpp W ox oy w h : Nat) : List Run :=
  (List.range h).flatMap fun y =>
    let p := rectRowPos W ox oy w y
    (convPixels conv nbpp w).map fun r =>
      { r with row := r.row + y, ux := (p + r.ux) % W, uy := (p + r.ux) / W }

/-! ### block family -/

/-- `PixelRange` -/
structure PRange where
  width : Nat
  wo : Nat
  rs : Nat
  re : Nat
deriving Repr

/-- the inner `for y in range.rows.iter()` of `general_process_blocks` -/
def genRows (r : PRange) (pixelX blockW bi pox : Nat) : List Run :=
  (List.range' r.rs (r.re - r.rs)).map fun y => ⟨y - r.rs, pixelX, blockW, bi, 0, pox, y⟩

/-- the block loop of `general_process_blocks` (`todo` blocks left, current `block_index`,
accumulator `pixel_x`) -/
def genLoop (bw : Nat) (r : PRange) : (todo bi pixelX : Nat) → List Run
  | 0, _, _ => []
  | todo + 1, bi, pixelX =>
    let pox := if bi = 0 then r.wo else 0
    let blockW := min (min (bw - pox) r.width) (r.width + r.wo - bi * bw)
    genRows r pixelX blockW bi pox ++ genLoop bw r todo (bi + 1) (pixelX + blockW)

/-- `general_process_blocks::<bw, bh, ..>` on a slice of `nblocks` encoded blocks -/
def procGeneral (bw : Nat) (r : PRange) (nblocks : Nat) : List Run := genLoop bw r nblocks 0 0

/-- the aligned fast path of `process_4x4_blocks_helper` (`range.rows.len() == 4`): full blocks
`width / 4`, then the partial block of `width - full*4` pixels; `y` is both the output row and
the row inside the block. -/
def fast4 (width : Nat) : List Run :=
  ((List.range (width / 4)).flatMap fun bi =>
    (List.range 4).map fun y => (⟨y, bi * 4, 4, bi, 0, 0, y⟩ : Run)) ++
  (if width % 4 ≠ 0 then
    (List.range 4).map fun y => (⟨y, width / 4 * 4, width - width / 4 * 4, width / 4, 0, 0, y⟩ : Run)
   else [])

/-- `process_4x4_blocks_helper`.  `fast` = the aligned fast path is available
(`stride % size_of::<OutPixel>() == 0` and `cast::from_bytes_mut` succeeds). -/
def proc4 (fast : Bool) (r : PRange) (nblocks : Nat) : List Run :=
  -- handle_width_offset
  let pixelW := min (4 - r.wo) r.width
  let handled : Bool := r.wo != 0 && pixelW != 0
  let pre := if handled then procGeneral 4 ⟨pixelW, r.wo, r.rs, r.re⟩ 1 else []
  let r' : PRange := if handled then ⟨r.width - pixelW, 0, r.rs, r.re⟩ else r
  let nb' := if handled then nblocks - 1 else nblocks
  let dc := if handled then pixelW else 0
  let dux := if handled then 1 else 0
  let rest := if r'.re - r'.rs = 4 ∧ fast then fast4 r'.width else procGeneral 4 r' nb'
  pre ++ rest.map (Run.shift 0 dc dux 0)

/-- `process_2x1_blocks_helper` (ignores the stride and the row range: one row) -/
def proc2 (r : PRange) (nblocks : Nat) : List Run :=
  let first : Bool := r.wo == 1
  let pre : List Run := if first then [⟨0, 0, 1, 0, 0, 1, 0⟩] else []
  let width := if first then r.width - 1 else r.width
  let nb := if first then nblocks - 1 else nblocks
  let d := if first then 1 else 0
  let widthHalf := width / 2
  let pairs := (List.range (min nb widthHalf)).map fun i => (⟨0, d + 2 * i, 2, d + i, 0, 0, 0⟩ : Run)
  let last : List Run := if width % 2 = 1 then [⟨0, d + (width - 1), 1, d + (nb - 1), 0, 0, 0⟩] else []
  pre ++ pairs ++ last

/-- which `ProcessBlocksFn` a format uses -/
inductive Proc where
  | general (bw : Nat)
  | four
  | two
deriving Repr, DecidableEq

def Proc.bw : Proc → Nat
  | .general bw => bw
  | .four => 4
  | .two => 2

def Proc.run (p : Proc) (fast : Bool) (r : PRange) (nblocks : Nat) : List Run :=
  match p with
  | .general bw => procGeneral bw r nblocks
  | .four => proc4 fast r nblocks
  | .two => proc2 r nblocks

/-- `ChannelConversionBuffer::process_blocks`.  `fast` describes the *caller's* output (used
only without conversion; the temporary buffer is `u32`-aligned with
`stride = chunk * native_bpp`, so there the fast path is always available). -/
def convBlocks (p : Proc) (fast : Bool) (conv : Bool) (nbpp : Nat) (r : PRange) (nblocks : Nat) :
    List Run :=
  if !conv then p.run fast r nblocks
  else
    let bw := p.bw
    let height := r.re - r.rs
    let bufW := BUFFER_BYTES / (nbpp * height)
    let offsetWidth := min (bw - r.wo) r.width
    let pre := if r.wo ≠ 0 then p.run true ⟨offsetWidth, r.wo, r.rs, r.re⟩ 1 else []
    let width := if r.wo ≠ 0 then r.width - offsetWidth else r.width
    let dux := if r.wo ≠ 0 then 1 else 0
    let dc := if r.wo ≠ 0 then offsetWidth else 0
    let pref := roundDown bufW bw
    pre ++ (stepStarts width pref).flatMap fun cs =>
      let ce := min (cs + pref) width
      let csz := ce - cs
      let blockOffset := cs / bw
      let blockCount := divCeil csz bw
      (p.run true ⟨csz, 0, r.rs, r.re⟩ blockCount).map (Run.shift 0 (dc + cs) (dux + blockOffset) 0)

/-- `for_each_block_untyped`: block line `by` → rows `by*bh ..` (`get_row_range`). -/
def blockFull (p : Proc) (bh : Nat) (fastAt : Nat → Bool) (conv : Bool) (nbpp W H : Nat) : List Run :=
  let widthBlocks := divCeil W p.bw
  let heightBlocks := divCeil H bh
  (List.range heightBlocks).flatMap fun by_ =>
    let pixelRows := min bh (H - by_ * bh)
    (convBlocks p (fastAt (by_ * bh)) conv nbpp ⟨W, 0, 0, pixelRows⟩ widthBlocks).map
      (Run.shift (by_ * bh) 0 0 by_)

/-- geometry of `for_each_block_rect_untyped` -/
structure RectGeom where
  bw : Nat
  bh : Nat
  ox : Nat
  oy : Nat
  w : Nat
  h : Nat

def RectGeom.skipBefore (g : RectGeom) : Nat := g.oy / g.bh
def RectGeom.linesToRead (g : RectGeom) : Nat := divCeil (g.h + g.oy) g.bh - g.skipBefore
def RectGeom.skipAfter (g : RectGeom) (H : Nat) : Nat :=
  divCeil H g.bh - g.skipBefore - g.linesToRead
def RectGeom.brStart (g : RectGeom) : Nat := g.ox / g.bw
def RectGeom.brEnd (g : RectGeom) : Nat := divCeil (g.ox + g.w) g.bw
def RectGeom.widthOffset (g : RectGeom) : Nat := g.ox % g.bw
/-- `rows` of block line `k` of the lines read (`block_line_y = skipBefore + k`) -/
def RectGeom.rowStart (g : RectGeom) (k : Nat) : Nat := g.oy - (g.skipBefore + k) * g.bh
def RectGeom.rowEnd (g : RectGeom) (k : Nat) : Nat := min (g.oy + g.h - (g.skipBefore + k) * g.bh) g.bh
/-- the accumulator `pixel_row` before block line `k` is processed -/
def RectGeom.pixelRow (g : RectGeom) : Nat → Nat
  | 0 => 0
  | k + 1 => g.pixelRow k + (g.rowEnd k - g.rowStart k)

/-- the `while let Some(block_line)` loop of `for_each_block_rect_untyped` -/
def rectLoop (p : Proc) (g : RectGeom) (fastAt : Nat → Bool) (conv : Bool) (nbpp : Nat) :
    (todo k pixelRow : Nat) → List Run
  | 0, _, _ => []
  | todo + 1, k, pixelRow =>
    let rs := g.rowStart k
    let re := g.rowEnd k
    (convBlocks p (fastAt pixelRow) conv nbpp ⟨g.w, g.widthOffset, rs, re⟩ (g.brEnd - g.brStart)).map
        (Run.shift pixelRow 0 g.brStart (g.skipBefore + k))
      ++ rectLoop p g fastAt conv nbpp todo (k + 1) (pixelRow + (re - rs))

/-- `for_each_block_rect_untyped` -/
def blockRect (p : Proc) (g : RectGeom) (fastAt : Nat → Bool) (conv : Bool) (nbpp : Nat) : List Run :=
  rectLoop p g fastAt conv nbpp g.linesToRead 0 0

/-! ### bi-planar family -/

/-- One run of a bi-planar decode: output `(row, col + t)` is computed from the luma sample
`(lx + t, ly)` of plane 1 and the chroma sample `(cx + (px + t) / ssx, cy)` of plane 2;
`yoff` is the `y` argument handed to the pixel function. -/
structure PlRun where
  row : Nat
  col : Nat
  n : Nat
  lx : Nat
  ly : Nat
  cx : Nat
  cy : Nat
  px : Nat
  yoff : Nat
deriving Repr, DecidableEq, Inhabited

def PlRun.shift (dr dc dlx dly dcx dcy : Nat) (r : PlRun) : PlRun :=
  { r with row := r.row + dr, col := r.col + dc, lx := r.lx + dlx, ly := r.ly + dly,
           cx := r.cx + dcx, cy := r.cy + dcy }

/-- `process_bi_planar_helper::<SSX, ..>`: offset part (fed into slots `0..w` of a macro pixel),
full macro pixels, rest. -/
def planarHelper (ssx offset width yoff : Nat) : List PlRun :=
  let w0 := min (ssx - offset) width
  let pre : List PlRun := if offset > 0 then [⟨0, 0, w0, 0, 0, 0, 0, 0, yoff⟩] else []
  let width' := if offset > 0 then width - w0 else width
  let d := if offset > 0 then w0 else 0
  let dc := if offset > 0 then 1 else 0
  let full := width' / ssx
  let fullW := full * ssx
  let mid := (List.range full).map fun x => (⟨0, d + x * ssx, ssx, d + x * ssx, 0, dc + x, 0, 0, yoff⟩ : PlRun)
  let restW := width' - full * ssx
  let last : List PlRun :=
    if restW > 0 then [⟨0, d + fullW, restW, d + fullW, 0, dc + full, 0, 0, yoff⟩] else []
  pre ++ mid ++ last

/-- `ChannelConversionBuffer::process_bi_planar` -/
def convPlanar (conv : Bool) (nbpp ssx offset width yoff : Nat) : List PlRun :=
  if !conv then planarHelper ssx offset width yoff
  else
    let bufPx := BUFFER_BYTES / nbpp
    let offsetWidth := min (ssx - offset) width
    let pre := if offset ≠ 0 then planarHelper ssx offset offsetWidth yoff else []
    let width' := if offset ≠ 0 then width - offsetWidth else width
    let d := if offset ≠ 0 then offsetWidth else 0
    let dcx := if offset ≠ 0 then 1 else 0
    let pref := roundDown bufPx ssx
    pre ++ (stepStarts width' pref).flatMap fun cs =>
      let ce := min (cs + pref) width'
      let csz := ce - cs
      let p2start := cs / ssx
      (planarHelper ssx 0 csz yoff).map (PlRun.shift 0 (d + cs) (d + cs) 0 (dcx + p2start) 0)

/-- the `for y_offset in 0..sub_sampling_y` loop of `for_each_bi_planar` for chroma line `c`
(`y` is the running row counter; returns the runs and the new `y`) -/
def planarFullInner (conv : Bool) (nbpp ssx W H c : Nat) : (todo yoff y : Nat) → List PlRun × Nat
  | 0, _, y => ([], y)
  | todo + 1, yoff, y =>
    if y ≥ H then ([], y)
    else
      let here := (convPlanar conv nbpp ssx 0 W yoff).map (PlRun.shift y 0 0 y 0 c)
      let (rest, y') := planarFullInner conv nbpp ssx W H c todo (yoff + 1) (y + 1)
      (here ++ rest, y')

/-- the `while let Some(uv_line)` loop of `for_each_bi_planar` -/
def planarFullLoop (conv : Bool) (nbpp ssx ssy W H : Nat) : (todo c y : Nat) → List PlRun
  | 0, _, _ => []
  | todo + 1, c, y =>
    let (here, y') := planarFullInner conv nbpp ssx W H c ssy 0 y
    here ++ planarFullLoop conv nbpp ssx ssy W H todo (c + 1) y'

/-- `for_each_bi_planar` -/
def planarFull (conv : Bool) (nbpp ssx ssy W H : Nat) : List PlRun :=
  planarFullLoop conv nbpp ssx ssy W H (divCeil H ssy) 0 0

/-- geometry of `for_each_bi_planar_rect` -/
structure PlGeom where
  ssx : Nat
  ssy : Nat
  H : Nat
  ox : Nat
  oy : Nat
  w : Nat
  h : Nat

def PlGeom.uvBefore (g : PlGeom) : Nat := g.oy / g.ssy
def PlGeom.uvAfter (g : PlGeom) : Nat := divCeil g.H g.ssy - divCeil (g.oy + g.h) g.ssy
def PlGeom.uvLines (g : PlGeom) : Nat := divCeil g.H g.ssy - g.uvBefore - g.uvAfter

/-- the `for y_offset` loop of `for_each_bi_planar_rect` for the `k`-th chroma line read
(absolute chroma line `uvBefore + k`).  Plane 1 holds the lines `oy .. oy+h` of the surface
(`plain1_bytes_per_line * oy` is skipped first), so buffer line `y - oy` is surface line
`oy + (y - oy)`. -/
def planarRectInner (conv : Bool) (nbpp : Nat) (g : PlGeom) (k : Nat) :
    (todo yoff y : Nat) → List PlRun × Nat
  | 0, _, y => ([], y)
  | todo + 1, yoff, y =>
    if y < g.oy then planarRectInner conv nbpp g k todo (yoff + 1) (y + 1)
    else if y ≥ g.oy + g.h then ([], y)
    else
      let uvStart := g.ox / g.ssx
      let offset := g.ox % g.ssx
      let here := (convPlanar conv nbpp g.ssx offset g.w yoff).map
        (PlRun.shift (y - g.oy) 0 g.ox (g.oy + (y - g.oy)) uvStart (g.uvBefore + k))
      let (rest, y') := planarRectInner conv nbpp g k todo (yoff + 1) (y + 1)
      (here ++ rest, y')

def planarRectLoop (conv : Bool) (nbpp : Nat) (g : PlGeom) : (todo k y : Nat) → List PlRun
  | 0, _, _ => []
  | todo + 1, k, y =>
    let (here, y') := planarRectInner conv nbpp g k g.ssy 0 y
    here ++ planarRectLoop conv nbpp g todo (k + 1) y'

/-- `for_each_bi_planar_rect` -/
def planarRect (conv : Bool) (nbpp : Nat) (g : PlGeom) : List PlRun :=
  planarRectLoop conv nbpp g g.uvLines 0 (g.uvBefore * g.ssy)

/-! ### what ends up in the output -/

def Run.covers (r : Run) (row col : Nat) : Bool :=
  r.row == row && decide (r.col ≤ col) && decide (col < r.col + r.n)

/-- source pixel, absolute in the surface: `(ux*bw + px + t, uy*bh + py)`.  The encoded unit is
`(sx / bw, sy / bh)`, the position inside it `(sx % bw, sy % bh)` (runs never leave their unit: the
last clause of `C05.rect_eq_crop_block`). -/
def Run.srcAt (bw bh : Nat) (r : Run) (col : Nat) : Nat × Nat :=
  (r.ux * bw + r.px + (col - r.col), r.uy * bh + r.py)

/-- the last write that hits output pixel `(row, col)` -/
def lastWrite (bw bh : Nat) (runs : List Run) (row col : Nat) : Option (Nat × Nat) :=
  (runs.reverse.find? (·.covers row col)).map (·.srcAt bw bh col)

def PlRun.covers (r : PlRun) (row col : Nat) : Bool :=
  r.row == row && decide (r.col ≤ col) && decide (col < r.col + r.n)

/-- (luma x, luma y, chroma x, chroma y, yoff) of output pixel `col` of the run -/
def PlRun.srcAt (ssx : Nat) (r : PlRun) (col : Nat) : Nat × Nat × Nat × Nat × Nat :=
  (r.lx + (col - r.col), r.ly, r.cx + (r.px + (col - r.col)) / ssx, r.cy, r.yoff)

def lastWritePl (ssx : Nat) (runs : List PlRun) (row col : Nat) : Option (Nat × Nat × Nat × Nat × Nat) :=
  (runs.reverse.find? (·.covers row col)).map (·.srcAt ssx col)

/-- The decoded view for an arbitrary per-unit decode function `dec unitBytes px py` and
arbitrary encoded data `data ux uy`; `none` = the byte keeps its previous contents. -/
def image {β γ : Type} (bw bh : Nat) (dec : β → Nat → Nat → γ) (data : Nat → Nat → β)
    (runs : List Run) (row col : Nat) : Option γ :=
  (lastWrite bw bh runs row col).map fun (sx, sy) => dec (data (sx / bw) (sy / bh)) (sx % bw) (sy % bh)

/-- bi-planar: pixel function `g luma chroma yoff` applied slot-wise (as all three bi-planar
formats do: `y.map(|y| yuv([y,u,v]))`) -/
def imagePl {β₁ β₂ γ : Type} (ssx : Nat) (g : β₁ → β₂ → Nat → γ) (plane1 : Nat → Nat → β₁)
    (plane2 : Nat → Nat → β₂) (runs : List PlRun) (row col : Nat) : Option γ :=
  (lastWritePl ssx runs row col).map fun (lx, ly, cx, cy, yo) => g (plane1 lx ly) (plane2 cx cy) yo

/-- byte range of a run inside the view's data (`get_row`, `get_row_range`,
`out[pixel_row * row_pitch ..][chunk_start * bpp ..][y * row_pitch ..]`) -/
def Run.byteLo (pitch obpp : Nat) (r : Run) : Nat := r.row * pitch + r.col * obpp
def Run.byteHi (pitch obpp : Nat) (r : Run) : Nat := r.row * pitch + (r.col + r.n) * obpp

/-- the same for a bi-planar run (`get_row(y)`, then `out[offset_width * bpp ..][chunk_start * bpp ..]`) -/
def PlRun.byteLo (pitch obpp : Nat) (r : PlRun) : Nat := r.row * pitch + r.col * obpp
def PlRun.byteHi (pitch obpp : Nat) (r : PlRun) : Nat := r.row * pitch + (r.col + r.n) * obpp

/-! ### colour formats, decoder selection, channel mapping -/

inductive Channels where
  | gray | alpha | rgb | rgba
deriving Repr, DecidableEq, Inhabited

def Channels.count : Channels → Nat
  | .gray => 1 | .alpha => 1 | .rgb => 3 | .rgba => 4

inductive Precision where
  | u8 | u16 | f32
deriving Repr, DecidableEq, Inhabited

def Precision.size : Precision → Nat
  | .u8 => 1 | .u16 => 2 | .f32 => 4

structure Color where
  ch : Channels
  pr : Precision
deriving Repr, DecidableEq, Inhabited

def Color.bpp (c : Color) : Nat := c.ch.count * c.pr.size

/-- `DecoderSet::get_decoder` over the list of native colours of the set's decoders (every
decoder supports all channel layouts of its own precision, `Decoder::new_with_all_channels`):
an exact match first, else the first decoder of the same precision.  `none` = the `expect`
fails. -/
def getDecoder (natives : List Color) (c : Color) : Option Color :=
  match natives.find? (· == c) with
  | some d => some d
  | none => natives.find? (·.pr == c.pr)

/-- where an output channel comes from -/
inductive ChanSrc where
  | ch (k : Nat)   -- channel `k` of the native pixel
  | zero           -- `Norm::ZERO`
  | one            -- `Norm::ONE` (opaque / white)
deriving Repr, DecidableEq

/-- the channel read exists in a native pixel of `n` channels -/
def ChanSrc.inRange (n : Nat) : ChanSrc → Bool
  | .ch k => decide (k < n)
  | _ => true

/-- `convert_channels` (src/color/mod.rs) with `ch.rs`: the 16-entry table -/
def chanMap : Channels → Channels → List ChanSrc
  | .gray, .gray => [.ch 0]
  | .alpha, .alpha => [.ch 0]
  | .rgb, .rgb => [.ch 0, .ch 1, .ch 2]
  | .rgba, .rgba => [.ch 0, .ch 1, .ch 2, .ch 3]
  | .gray, .alpha => [.one]
  | .rgb, .alpha => [.one]
  | .alpha, .gray => [.zero]
  | .alpha, .rgb => [.zero, .zero, .zero]
  | .gray, .rgb => [.ch 0, .ch 0, .ch 0]
  | .gray, .rgba => [.ch 0, .ch 0, .ch 0, .one]
  | .alpha, .rgba => [.zero, .zero, .zero, .ch 0]
  | .rgb, .gray => [.ch 0]
  | .rgb, .rgba => [.ch 0, .ch 1, .ch 2, .one]
  | .rgba, .gray => [.ch 0]
  | .rgba, .alpha => [.ch 3]
  | .rgba, .rgb => [.ch 0, .ch 1, .ch 2]

/-- apply the table to one native pixel (list of channel values) -/
def mapPixel {α : Type} (zero one : α) (src : List α) (m : List ChanSrc) : List α :=
  m.map fun
    | .ch k => src.getD k zero
    | .zero => zero
    | .one => one

def allChannels : List Channels := [.gray, .alpha, .rgb, .rgba]
def allPrecisions : List Precision := [.u8, .u16, .f32]

end Dds.Addr
