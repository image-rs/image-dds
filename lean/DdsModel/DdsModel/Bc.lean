/-
Implementation-shaped model of the BC1–BC5 block decoders of image-dds
(`src/decode/bc.rs` module `blocks`, `src/color/formats.rs` `B5G6R5`, `n4`, `n5`, `n6`, `n8`, `s8`,
`src/color/mod.rs` `Norm`).  Integer arithmetic exactly as in the code: every Rust operator on a
`u8`/`u16`/`u32` is followed by the wrap of the release profile (`w8`/`w16`/`w32`), every `as uN` cast
is a truncation; `no_wrap` of `Theorems/C03.lean` bounds the largest intermediate values below the wrap
points.  `f32` operations are the correctly rounded software operations of `F32.lean`; `f32` results are
bit patterns.

A block is a function `blk : Nat → Nat` (byte at offset i); pixels are lists of channel values.
-/
import DdsModel.F32
namespace Dds.Bc

inductive Prec | u8 | u16 | f32
  deriving DecidableEq, Repr

inductive Fmt
  | bc1 | bc2 | bc2rgb | bc2p | bc3 | bc3rgb | bc3p | rxgb | bc3n | bc4u | bc4s | bc5u | bc5s
  deriving DecidableEq, Repr

def w8 (x : Nat) : Nat := x % 256
def w16 (x : Nat) : Nat := x % 65536
def w32 (x : Nat) : Nat := x % 4294967296

/-! ### `formats.rs` scalar conversions -/

/-- `n4::n8`: `x * 17` (u8) -/
def n4n8 (x : Nat) : Nat := w8 (x * 17)
/-- `n5::n8`: `((x as u16 * 2108 + 92) >> 8) as u8` -/
def n5n8 (x : Nat) : Nat := w8 (w16 (w16 (x * 2108) + 92) >>> 8)
/-- `n6::n8`: `((x as u16 * 1036 + 132) >> 8) as u8` -/
def n6n8 (x : Nat) : Nat := w8 (w16 (w16 (x * 1036) + 132) >>> 8)
/-- `n8::n16`: `x as u16 * 257` -/
def n8n16 (x : Nat) : Nat := w16 (x * 257)
/-- `n8::f32`: `(x as f32 * K0) * K1`, `K0 = 3.0`, `K1 = 1.0 / (255.0 * K0)` (const-evaluated in f32) -/
def n8f32 (x : Nat) : Nat := F32.mul (F32.mul (F32.ofNat x) (F32.ofNat 3)) (F32.divLit 1 765)
/-- `s8::norm`: `x.wrapping_add(128).saturating_sub(1)` -/
def s8norm (x : Nat) : Nat := w8 (x + 128) - 1
/-- `s8::n8`: `((norm x as u16 * 258 + 2) >> 8) as u8` -/
def s8n8 (x : Nat) : Nat := w8 (w16 (w16 (s8norm x * 258) + 2) >>> 8)
/-- `s8::n16`: `((norm x as u32 * 16909064 + 32520) >> 16) as u16` -/
def s8n16 (x : Nat) : Nat := w16 (w32 (w32 (s8norm x * 16909064) + 32520) >>> 16)
/-- `s8::uf32`: `(norm x as f32 * 31.0) * (1.0 / (254.0 * 31.0))` -/
def s8uf32 (x : Nat) : Nat :=
  F32.mul (F32.mul (F32.ofNat (s8norm x)) (F32.ofNat 31)) (F32.divLit 1 7874)
/-- `x as i8` -/
def asI8 (x : Nat) : Int := if x < 128 then (x : Int) else (x : Int) - 256

/-- `NormConvert::to` from `u8` (`with_precision`) -/
def widen (pr : Prec) (v : Nat) : Nat :=
  match pr with
  | .u8 => v
  | .u16 => n8n16 v
  | .f32 => n8f32 v

/-! ### `B5G6R5` -/

structure B565 where
  r5 : Nat
  g6 : Nat
  b5 : Nat

/-- `B5G6R5::from_u16` -/
def B565.fromU16 (u : Nat) : B565 := ⟨(u >>> 11) &&& 0x1F, (u >>> 5) &&& 0x3F, u &&& 0x1F⟩

abbrev Rgb := Nat × Nat × Nat
abbrev Rgba := Nat × Nat × Nat × Nat

/-- `to_n8` -/
def B565.toN8 (c : B565) : Rgb := (n5n8 c.r5, n6n8 c.g6, n5n8 c.b5)

/-- 5-bit channel of `one_third_color_rgb8`: `((r * 351 + 61) >> 7) as u8` with `r = self*2 + other` (u16) -/
def third5 (s c : Nat) : Nat := let r := w16 (w16 (s * 2) + c); w8 (w16 (w16 (r * 351) + 61) >>> 7)
/-- 6-bit channel: `((g as u32 * 2763 + 1039) >> 11) as u8` -/
def third6 (s c : Nat) : Nat := let g := w16 (w16 (s * 2) + c); w8 (w32 (w32 (g * 2763) + 1039) >>> 11)
/-- 5-bit channel of `mid_color_rgb8`: `((r * 1053 + 125) >> 8) as u8` with `r = self + other` -/
def mid5 (s c : Nat) : Nat := let r := w16 (s + c); w8 (w16 (w16 (r * 1053) + 125) >>> 8)
/-- 6-bit channel: `((g as u32 * 4145 + 1019) >> 11) as u8` -/
def mid6 (s c : Nat) : Nat := let g := w16 (s + c); w8 (w32 (w32 (g * 4145) + 1019) >>> 11)

/-- `one_third_color_rgb8`: nearest RGB8 of `self*2/3 + color*1/3` -/
def B565.oneThird (s c : B565) : Rgb := (third5 s.r5 c.r5, third6 s.g6 c.g6, third5 s.b5 c.b5)
/-- `mid_color_rgb8` -/
def B565.mid (s c : B565) : Rgb := (mid5 s.r5 c.r5, mid6 s.g6 c.g6, mid5 s.b5 c.b5)

/-- `ToRgba::to_rgba` for `[u8; 3]` -/
def toRgba (c : Rgb) : Rgba := (c.1, c.2.1, c.2.2, 255)

/-- `lut[index]` for a 4-entry table -/
def lut4 {α : Type} (c0 c1 c2 c3 : α) (i : Nat) : α :=
  match i with
  | 0 => c0
  | 1 => c1
  | 2 => c2
  | _ => c3

def le16 (blk : Nat → Nat) (o : Nat) : Nat := blk o + 256 * blk (o + 1)
def le24 (blk : Nat → Nat) (o : Nat) : Nat := blk o + 256 * blk (o + 1) + 65536 * blk (o + 2)
def le32 (blk : Nat → Nat) (o : Nat) : Nat :=
  blk o + 256 * blk (o + 1) + 65536 * blk (o + 2) + 16777216 * blk (o + 3)

/-- `split_16(..).1` -/
def upper (blk : Nat → Nat) : Nat → Nat := fun i => blk (i + 8)

/-! ### BC1 -/

/-- pixel `p` of `bc1_u8_rgba` -/
def bc1Px (blk : Nat → Nat) (p : Nat) : Rgba :=
  let color0 := le16 blk 0
  let color1 := le16 blk 2
  let c0b := B565.fromU16 color0
  let c1b := B565.fromU16 color1
  let c0 := toRgba c0b.toN8
  let c1 := toRgba c1b.toN8
  let c2 := if color0 > color1 then toRgba (c0b.oneThird c1b) else toRgba (c0b.mid c1b)
  let c3 := if color0 > color1 then toRgba (c1b.oneThird c0b) else (0, 0, 0, 0)
  let indexes := le32 blk 4
  lut4 c0 c1 c2 c3 ((indexes >>> (p * 2)) &&& 3)

/-- pixel `p` of `bc1_no_default_u8_rgba` (always four colours; BC2 and BC3 colour) -/
def bc1NoDefaultPx (blk : Nat → Nat) (p : Nat) : Rgba :=
  let color0 := le16 blk 0
  let color1 := le16 blk 2
  let c0b := B565.fromU16 color0
  let c1b := B565.fromU16 color1
  let c0 := toRgba c0b.toN8
  let c1 := toRgba c1b.toN8
  let c2 := toRgba (c0b.oneThird c1b)
  let c3 := toRgba (c1b.oneThird c0b)
  let indexes := le32 blk 4
  lut4 c0 c1 c2 c3 ((indexes >>> (p * 2)) &&& 3)

/-! ### BC4 -/

/-- `BC4uOperations` / `BC4sOperations` + the `Norm` constants -/
structure Bc4Ops where
  fromByte : Nat → Nat
  interp6 : Nat → Nat
  interp4 : Nat → Nat
  zero : Nat
  half : Nat
  one : Nat

/-- `impl BC4uOperations for u8 / u16 / f32`; f32: `interpolation as f32 / 1785.0` -/
def bc4uOps : Prec → Bc4Ops
  | .u8 => { fromByte := fun b => b
             interp6 := fun i => w8 (w32 (w32 (i * 9360) + 32160) >>> 16)
             interp4 := fun i => w8 (w32 (w32 (i * 13104) + 30288) >>> 16)
             zero := 0, half := 128, one := 255 }
  | .u16 => { fromByte := n8n16
              interp6 := fun i => w16 (w32 (w32 (i * 2406112) + 28064) >>> 16)
              interp4 := fun i => w16 (w32 (w32 (i * 3368544) + 34368) >>> 16)
              zero := 0, half := 32768, one := 65535 }
  | .f32 => { fromByte := n8f32
              interp6 := fun i => F32.div (F32.ofNat i) (F32.ofNat 1785)
              interp4 := fun i => F32.div (F32.ofNat i) (F32.ofNat 1275)
              zero := 0, half := 0x3F000000, one := 0x3F800000 }

/-- `impl BC4sOperations for u8 / u16 / f32` -/
def bc4sOps : Prec → Bc4Ops
  | .u8 => { fromByte := s8n8
             interp6 := fun i => w8 (w32 (w32 (i * 255) + 889) / 1778)
             interp4 := fun i => w8 (w32 (w32 (i * 255) + 635) / 1270)
             zero := 0, half := 128, one := 255 }
  | .u16 => { fromByte := s8n16
              interp6 := fun i => w16 (w32 (w32 (i * 65535) + 889) / 1778)
              interp4 := fun i => w16 (w32 (w32 (i * 65535) + 635) / 1270)
              zero := 0, half := 32768, one := 65535 }
  | .f32 => { fromByte := s8uf32
              interp6 := fun i => F32.div (F32.ofNat i) (F32.ofNat 1778)
              interp4 := fun i => F32.div (F32.ofNat i) (F32.ofNat 1270)
              zero := 0, half := 0x3F000000, one := 0x3F800000 }

/-- `lut[index]` for the 8-entry table of `bc4u_gray`/`bc4s_gray`; `a`,`b` are the `u16` endpoint
values entering the interpolation, `six` the mode -/
def bc4Lut (ops : Bc4Ops) (c0 c1 a b : Nat) (six : Bool) (i : Nat) : Nat :=
  match i with
  | 0 => c0
  | 1 => c1
  | 2 => if six then ops.interp6 (w16 (w16 (a * 6) + b)) else ops.interp4 (w16 (w16 (a * 4) + b))
  | 3 => if six then ops.interp6 (w16 (w16 (a * 5) + w16 (b * 2)))
         else ops.interp4 (w16 (w16 (a * 3) + w16 (b * 2)))
  | 4 => if six then ops.interp6 (w16 (w16 (a * 4) + w16 (b * 3)))
         else ops.interp4 (w16 (w16 (a * 2) + w16 (b * 3)))
  | 5 => if six then ops.interp6 (w16 (w16 (a * 3) + w16 (b * 4))) else ops.interp4 (w16 (a + w16 (b * 4)))
  | 6 => if six then ops.interp6 (w16 (w16 (a * 2) + w16 (b * 5))) else ops.zero
  | _ => if six then ops.interp6 (w16 (a + w16 (b * 6))) else ops.one

/-- index of pixel `p = i*8 + j`: `(indexes_i >> (j*3)) & 0b111`, `indexes_i` = 3 little-endian bytes -/
def bc4Index (blk : Nat → Nat) (p : Nat) : Nat :=
  let indexes := le24 blk (2 + 3 * (p / 8))
  (indexes >>> ((p % 8) * 3)) &&& 7

/-- pixel `p` of `bc4u_gray::<T>` -/
def bc4uPx (ops : Bc4Ops) (blk : Nat → Nat) (p : Nat) : Nat :=
  let c0 := blk 0
  let c1 := blk 1
  bc4Lut ops (ops.fromByte c0) (ops.fromByte c1) c0 c1 (decide (c0 > c1)) (bc4Index blk p)

/-- pixel `p` of `bc4s_gray::<T>` -/
def bc4sPx (ops : Bc4Ops) (blk : Nat → Nat) (p : Nat) : Nat :=
  let red0 := blk 0
  let red1 := blk 1
  bc4Lut ops (ops.fromByte red0) (ops.fromByte red1) (s8norm red0) (s8norm red1)
    (decide (asI8 red0 > asI8 red1)) (bc4Index blk p)

/-! ### BC2, BC3 and the variants (8 bit) -/

/-- explicit alpha of pixel `p = i*4 + j` in `bc2_u8_rgba` -/
def bc2Alpha (blk : Nat → Nat) (p : Nat) : Nat :=
  let hi := blk ((p / 4) * 2)
  let lo := blk ((p / 4) * 2 + 1)
  n4n8 (lut4 (hi &&& 0xF) (hi >>> 4) (lo &&& 0xF) (lo >>> 4) (p % 4))

def setA (c : Rgba) (a : Nat) : Rgba := (c.1, c.2.1, c.2.2.1, a)

/-- `bc2_u8_rgba` -/
def bc2Px (blk : Nat → Nat) (p : Nat) : Rgba := setA (bc1NoDefaultPx (upper blk) p) (bc2Alpha blk p)
/-- `bc3_u8_rgba` -/
def bc3Px (blk : Nat → Nat) (p : Nat) : Rgba :=
  setA (bc1NoDefaultPx (upper blk) p) (bc4uPx (bc4uOps .u8) blk p)

/-- one channel of `to_straight_alpha`: `(c as u16 * 255 / alpha as u16).min(255) as u8`, alpha 0 → 255 -/
def straight (c a : Nat) : Nat :=
  let a := if a = 0 then 255 else a
  w8 (min (w16 (c * 255) / a) 255)

def toStraight (c : Rgba) : Rgba :=
  (straight c.1 c.2.2.2, straight c.2.1 c.2.2.2, straight c.2.2.1 c.2.2.2, c.2.2.2)

/-- `calc_b` of `bc3n_u8_rgb` (f32 arithmetic, then `as u8`) -/
def calcB (r g : Nat) : Nat :=
  let k := F32.divLit 2 255
  let one := F32.ofNat 1
  let x := F32.sub (F32.mul (F32.ofNat r) k) one
  let y := F32.sub (F32.mul (F32.ofNat g) k) one
  let z := F32.sqrt (F32.max0 (F32.sub (F32.sub one (F32.mul x x)) (F32.mul y y)))
  -- 0.5 * 255.0 = 127.5 and 0.5 * 255.0 + 0.5 = 128.0 are exact constants
  F32.toU8 (F32.add (F32.mul z (F32.divLit 255 2)) (F32.ofNat 128))

def l3 (c : Rgb) : List Nat := [c.1, c.2.1, c.2.2]
def l4 (c : Rgba) : List Nat := [c.1, c.2.1, c.2.2.1, c.2.2.2]

/-- one decoded pixel at 8 bit for the 8-bit-defined formats -/
def px8 (f : Fmt) (blk : Nat → Nat) (p : Nat) : List Nat :=
  match f with
  | .bc1 => l4 (bc1Px blk p)
  | .bc2 => l4 (bc2Px blk p)
  | .bc2rgb => let c := bc1NoDefaultPx (upper blk) p; [c.1, c.2.1, c.2.2.1]
  | .bc2p => l4 (toStraight (bc2Px blk p))
  | .bc3 => l4 (bc3Px blk p)
  | .bc3rgb => let c := bc1NoDefaultPx (upper blk) p; [c.1, c.2.1, c.2.2.1]
  | .bc3p => l4 (toStraight (bc3Px blk p))
  | .rxgb => let c := bc3Px blk p; [c.2.2.2, c.2.1, c.2.2.1]
  | .bc3n => let c := bc3Px blk p; [c.2.2.2, c.2.1, calcB c.2.2.2 c.2.1]
  | _ => []

/-- the precision-dependent conversions (a parameter so that the compiled driver can substitute
memoised, provably equal versions; see `Drv/C03.lean` and `C03.driver_fast_path_eq`) -/
structure Conv where
  widen : Prec → Nat → Nat
  uOps : Prec → Bc4Ops
  sOps : Prec → Bc4Ops

def stdConv : Conv := ⟨widen, bc4uOps, bc4sOps⟩

/-- one decoded pixel -/
def pxWith (cv : Conv) (f : Fmt) (pr : Prec) (blk : Nat → Nat) (p : Nat) : List Nat :=
  match f with
  | .bc4u => [bc4uPx (cv.uOps pr) blk p]
  | .bc4s => [bc4sPx (cv.sOps pr) blk p]
  | .bc5u => [bc4uPx (cv.uOps pr) blk p, bc4uPx (cv.uOps pr) (upper blk) p, (cv.uOps pr).zero]
  | .bc5s => [bc4sPx (cv.sOps pr) blk p, bc4sPx (cv.sOps pr) (upper blk) p, (cv.sOps pr).half]
  | f => (px8 f blk p).map (cv.widen pr)

def px (f : Fmt) (pr : Prec) (blk : Nat → Nat) (p : Nat) : List Nat := pxWith stdConv f pr blk p

/-- the 16 decoded pixels of one block -/
def decodeBlockWith (cv : Conv) (f : Fmt) (pr : Prec) (blk : Nat → Nat) : List (List Nat) :=
  (List.range 16).map (pxWith cv f pr blk)

def decodeBlock (f : Fmt) (pr : Prec) (blk : Nat → Nat) : List (List Nat) :=
  decodeBlockWith stdConv f pr blk

end Dds.Bc
