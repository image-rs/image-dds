/-
C01 — the composed reader: bytes → words → header → format → layout → iterator → decode calls over a
stream that may be short or faulty.

Nothing here is a new model of library code: the file only *composes* the existing models
* `Header.lean` / `HeaderTables.lean`   `Header::read` (strict and permissive), `PixelInfo::from_header`
* `FormatTables.lean`                   `Format::from_header`, `impl From<Format> for PixelInfo`
* `Layout.lean`                         `DataLayout::from_header_with`
* `Iter.lean`                           `SurfaceIterator`
* `Stream.lean`                         `decode` / `decode_rect` / `io_skip_exact` over an `Env`
in the order in which src/decoder.rs calls them:

  `Decoder::new_with_options` = `Header::read` ; `Format::from_header` ; `DataLayout::from_header_with`
                                ; `SurfaceIterator::new`
  `Decoder::{read_surface, read_surface_rect, skip_surface, skip_mipmaps, read_cube_map,
             rewind_to_previous_surface, rewind_to_start}`

`Decoder.lean` (C08) models the same calls over an ideal, long enough reader; here the reader is the
`Stream.Env` (any length, optional hard error, optional early end of file, either `seek` behaviour),
so a call can also end in an I/O error, and the reader position is absolute.
`R.panic` / `OpenErr.panic` stand for a Rust panic (`unwrap`, `expect`, index, `assert!`, overflow
trap); `Theorems/C01.lean` shows the calls of its list never produce them (the two
rewinds, which are not in it, can: `i64::try_from(..).expect`).
-/
import DdsModel.HeaderTables
import DdsModel.FormatTables
import DdsModel.Stream
import DdsModel.Decoder
namespace Dds.Reader
open Dds Dds.Stream

/-- the part of a header `Format::from_header` looks at -/
def hdrOf : Header → C19.Hdr
  | .dx9 x =>
    match x.pixelFormat with
    | .fourCC c => .fourCC c
    | .mask m => .mask ⟨m.flags, m.rgbBitCount.toU32, m.rMask, m.gMask, m.bMask, m.aMask⟩
  | .dx10 x => .dx10 x.dxgiFormat x.alphaMode.toU32

inductive OpenErr where
  | header (e : HeaderErr)
  | format (e : C19.FmtErr)
  | layout (e : LayoutErr)
  /-- a Rust panic (an `unwrap()` in `impl From<Format> for PixelInfo`, `get_decoders`, the layout code) -/
  | panic
deriving Repr, Inhabited

/-- a successfully created `Decoder` -/
structure Opened where
  header : Header
  format : C19.Format
  /-- the helper family `get_decoders(format)` dispatches to -/
  fam : Fam
  /-- `PixelInfo::from(format)` -/
  px : PixelInfo
  layout : DataLayout
  /-- the unread words: the data section -/
  rest : List Nat

/-- `Decoder::new_with_options` on a stream of `u32` words -/
def openWords (opts : ParseOptions) (ws : List Nat) : Except OpenErr Opened :=
  match Header.read pixelInfoOf opts ws with
  | .error e => .error (.header e)
  | .ok (h, rest) =>
    match C19.formatOfHeader (hdrOf h) with
    | .error e => .error (.format e)
    | .ok f =>
      match C19.formatPixelInfoP f, lookupFormat f.name with
      | some px, some fam =>
        match layoutOf h.toLayoutHeader px with
        | none => .error .panic
        | some (.error e) => .error (.layout e)
        | some (.ok L) => .ok ⟨h, f, fam, px, L, rest⟩
      | _, _ => .error .panic

/-- ... on a byte string -/
def openBytes (opts : ParseOptions) (bs : List Nat) : Except OpenErr Opened :=
  openWords opts (leWords bs)

/-- `DataLayout::from_header`: `PixelInfo::from_header` then `from_header_with`; outer `none` = panic,
`some none` = the format error of `PixelInfo::from_header` -/
def layoutFromHeader (h : Header) : Option (Option (Except LayoutErr DataLayout)) :=
  match pixelInfoOf h with
  | none => some none
  | some px => (layoutOf h.toLayoutHeader px).map some

/-! ### decoder calls over an arbitrary stream -/

/-- result kinds of the `Decoder` calls -/
inductive R where
  | ok | io | noMoreSurfaces | unexpectedSurfaceSize | rectOutOfBounds
  | cannotSkipMipmapsInVolume | notACubeMap | memoryLimitExceeded | panic
deriving DecidableEq, Repr, Inhabited

def ofRes : Res → R
  | .ok => .ok
  | .ioError => .io
  | .memLimit => .memoryLimitExceeded
  | .rectOutOfBounds => .rectOutOfBounds
  | .panic => .panic

/-- the mutable part of a `Decoder`: iterator, absolute reader position, `options.memory_limit` -/
structure RS where
  iter : SurfIter
  pos : Nat
  limit : Nat
deriving Repr, Inhabited

inductive Op where
  | read (w h : Nat) (c : Colour)
  | rect (ox oy w h : Nat) (c : Colour)
  | skipSurface
  | skipMipmaps
  | cube (w h : Nat) (c : Colour)
  | setLimit (l : Nat)
  | rewindPrev
  | rewindStart
deriving Repr, Inhabited

/-- the operations C01 speaks about (the rewinding calls document a panic for data sections above
`i64::MAX` bytes and are not in its list) -/
def Op.inC01 : Op → Bool
  | .rewindPrev => false
  | .rewindStart => false
  | _ => true

/-- the static part of a `Decoder` together with the stream it reads -/
structure Cfg where
  env : Env
  fam : Fam
  layout : DataLayout

/-- `decode` / `decode_rect` at the current reader position -/
def decodeCall (k : Cfg) (c : Colour) (call : Call) (s : RS) : R × Nat :=
  let r := Stream.run k.env [] (plan k.fam c call) s.pos s.limit
  (ofRes r.1, r.2.pos)

/-- `Decoder::read_surface` -/
def readSurface (k : Cfg) (s : RS) (w h : Nat) (c : Colour) : RS × R :=
  match s.iter.currentP with
  | none => (s, .panic)
  | some none => (s, .noMoreSurfaces)
  | some (some cur) =>
    if normSize w h ≠ (cur.w, cur.h) then (s, .unexpectedSurfaceSize) else
    let r := decodeCall k c (.full (normSize w h).1 (normSize w h).2) s
    match r.1 with
    | .ok =>
      match s.iter.advanceP with
      | none => ({ s with pos := r.2 }, .panic)
      | some it => ({ s with iter := it, pos := r.2 }, .ok)
    | e => ({ s with pos := r.2 }, e)

/-- `Decoder::read_surface_rect` -/
def readRect (k : Cfg) (s : RS) (ox oy w h : Nat) (c : Colour) : RS × R :=
  match s.iter.currentP with
  | none => (s, .panic)
  | some none => (s, .noMoreSurfaces)
  | some (some cur) =>
    let r := decodeCall k c (.rect cur.w cur.h ox oy (normSize w h).1 (normSize w h).2) s
    match r.1 with
    | .ok =>
      match s.iter.advanceP with
      | none => ({ s with pos := r.2 }, .panic)
      | some it => ({ s with iter := it, pos := r.2 }, .ok)
    | e => ({ s with pos := r.2 }, e)

/-- `Decoder::skip_surface` -/
def skipSurface (k : Cfg) (s : RS) : RS × R :=
  match s.iter.currentP with
  | none => (s, .panic)
  | some none => (s, .noMoreSurfaces)
  | some (some cur) =>
    let r := skipExact k.env s.pos cur.len
    if r.1 then
      match s.iter.advanceP with
      | none => ({ s with pos := r.2 }, .panic)
      | some it => ({ s with iter := it, pos := r.2 }, .ok)
    else ({ s with pos := r.2 }, .io)

/-- `Decoder::skip_mipmaps`: the iterator moves first, then the reader is asked to skip -/
def skipMipmaps (k : Cfg) (s : RS) : RS × R :=
  match s.iter.skipMipmapsP with
  | none => (s, .panic)
  | some (.error _) => (s, .cannotSkipMipmapsInVolume)
  | some (.ok (it, n)) =>
    let r := skipExact k.env s.pos n
    ({ s with iter := it, pos := r.2 }, if r.1 then .ok else .io)

/-- the loop over the present faces in `Decoder::read_cube_map` -/
def cubeLoop (k : Cfg) (faces fw fh : Nat) (c : Colour) : List (Nat × Nat × Nat) → RS → RS × R
  | [], s => (s, .ok)
  | (bit, _, _) :: rest, s =>
    if !hasFace faces bit then cubeLoop k faces fw fh c rest s else
    match s.iter.currentP with
    | none => (s, .panic)
    | some none => (s, .noMoreSurfaces)
    | some (some cur) =>
      if (cur.w, cur.h) ≠ (fw, fh) then (s, .unexpectedSurfaceSize) else
      -- the crop `ImageViewMut::new_with(image.cropped_data(..), ..).expect(..)` is C20's `crop_spec`
      match readSurface k s fw fh c with
      | (s1, .ok) =>
        match skipMipmaps k s1 with
        | (s2, .ok) => cubeLoop k faces fw fh c rest s2
        | (s2, e) => (s2, e)
      | (s1, e) => (s1, e)

/-- `Decoder::read_cube_map` -/
def readCubeMap (k : Cfg) (s : RS) (w h : Nat) (c : Colour) : RS × R :=
  match k.layout with
  | .textureArray a =>
    let faces? : Option Nat := match a.kind with
      | .textures => none
      | .cubeMaps => some 63
      | .partialCubeMap f => some f
    match faces? with
    | none => (s, .notACubeMap)
    | some faces =>
      if ckMul32 a.w 4 ≠ some (normSize w h).1 ∨ ckMul32 a.h 3 ≠ some (normSize w h).2 then
        (s, .unexpectedSurfaceSize)
      else cubeLoop k faces a.w a.h c faceOffsets s
  | _ => (s, .notACubeMap)

/-- `reader.seek(SeekFrom::Current(-delta))`: the target may be negative (`InvalidInput`) -/
def seekBack (e : Env) (pos delta : Nat) : Bool × Nat :=
  if pos < delta then (false, pos)
  else if seekFails e (pos - delta) then (false, pos)
  else (true, seekLand e pos (pos - delta))

/-- one call of the decoder -/
def step (k : Cfg) (s : RS) : Op → RS × R
  | .read w h c => readSurface k s w h c
  | .rect ox oy w h c => readRect k s ox oy w h c
  | .skipSurface => skipSurface k s
  | .skipMipmaps => skipMipmaps k s
  | .cube w h c => readCubeMap k s w h c
  | .setLimit l => ({ s with limit := l }, .ok)
  | .rewindPrev =>
    match s.iter.elapsedP, s.iter.rewindP with
    | some cur, some it =>
      match it.elapsedP with
      | none => (s, .panic)
      | some prev =>
        let delta := wSub cur prev
        if delta > I64MAX then ({ s with iter := it }, .panic)
        else
          let r := seekBack k.env s.pos delta
          ({ s with iter := it, pos := r.2 }, if r.1 then .ok else .io)
    | _, _ => (s, .panic)
  | .rewindStart =>
    match s.iter.elapsedP with
    | none => (s, .panic)
    | some el =>
      if el > I64MAX then (s, .panic)
      else
        let r := seekBack k.env s.pos el
        if r.1 then ({ s with iter := SurfIter.new k.layout, pos := r.2 }, .ok)
        else ({ s with pos := r.2 }, .io)

/-- a whole call sequence -/
def runOps (k : Cfg) : RS → List Op → RS × List R
  | s, [] => (s, [])
  | s, op :: rest =>
    let r := step k s op
    let t := runOps k r.1 rest
    (t.1, r.2 :: t.2)

end Dds.Reader
