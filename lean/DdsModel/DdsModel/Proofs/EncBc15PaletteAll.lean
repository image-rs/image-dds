/-
C13, BC1–BC5 encoder core: the palette relations read off the complete evaluations of `Proofs/EncBc15PalColour.lean` and
`Proofs/EncBc15PalBc4.lean`, and the index maps of bc4.rs against the decoder's palette.
-/
import DdsModel.Proofs.Bc
import DdsModel.Proofs.EncBc15PalColour
import DdsModel.Proofs.EncBc15PalBc4
namespace Dds.Enc15
open Dds Dds.Bc Dds.Enc13


/-- every entry of both palettes, every endpoint pair of a channel with levels `0..m`: what the channel's evaluation
says, once the decoder's integer palette (`n8`, `third`, `mid`) is known to be the specification's `chan8` -/
theorem palette_of_chk {m : Nat} {conv n8 : Nat → Nat} {third mid : Nat → Nat → Nat}
    (hchk : chkChannel m conv n8 third mid = true)
    (hchan : ∀ (four : Bool) (k a b : Nat), k < 4 → a ≤ m → b ≤ m →
      lut4 (n8 a) (n8 b) (if four then third a b else mid a b) (if four then third b a else 0) k =
        BcSpec.chan8 four k a b m)
    (mode : PaletteMode) (a b k : Nat) (ha : a ≤ m) (hb : b ≤ m) (hk : k < (if mode = .p3 then 3 else 4)) :
    let v := paletteEntry mode (conv a) (conv b) k
    let w := paletteWeights mode k
    f32Small v = true ∧ f32Nearest8 v = BcSpec.chan8 (decide (mode = .p4)) k a b m ∧
    f32Within22 v (w.1 * a + w.2 * b) ((w.1 + w.2) * m) = true := by
  refine (okEntry_iff _ _ _ _).mp ?_
  have e0 := (chkChannel_spec hchk a ha).1
  have e1 := (chkChannel_spec hchk b hb).1
  have hp := chkPair_spec ((chkChannel_spec hchk a ha).2 b hb)
  cases mode with
  | p4 =>
    simp only [reduceCtorEq, if_false] at hk
    have hk4 : k = 0 ∨ k = 1 ∨ k = 2 ∨ k = 3 := by omega
    rcases hk4 with rfl | rfl | rfl | rfl <;>
      simp only [paletteEntry, p4Entry, paletteWeights, decide_true, Nat.one_mul, Nat.zero_mul, Nat.add_zero, Nat.zero_add,
        Nat.reduceAdd]
    · rw [← hchan true 0 a b (by omega) ha hb]; exact e0
    · rw [← hchan true 1 a b (by omega) ha hb]; exact e1
    · rw [← hchan true 2 a b (by omega) ha hb]; exact hp.1
    · rw [← hchan true 3 a b (by omega) ha hb]; exact hp.2.1
  | p3 =>
    simp only [if_true] at hk
    have hk3 : k = 0 ∨ k = 1 ∨ k = 2 := by omega
    rcases hk3 with rfl | rfl | rfl <;>
      simp only [paletteEntry, p3Entry, paletteWeights, reduceCtorEq, decide_false, Nat.one_mul, Nat.zero_mul, Nat.add_zero,
        Nat.zero_add, Nat.reduceAdd]
    · rw [← hchan false 0 a b (by omega) ha hb]; exact e0
    · rw [← hchan false 1 a b (by omega) ha hb]; exact e1
    · rw [← hchan false 2 a b (by omega) ha hb]; exact hp.2.2

/-! ### BC4: `INDEX_MAP` and the index order of `Inter4Palette` against the decoder's palette (exact, all endpoints) -/

/-- six interpolants: step `j` counted from `c1` is written as the index whose entry has weights `j : 7 − j` -/
theorem indexMap6 (c0 c1 m j : Nat) (h1 : 1 ≤ j) (h6 : j ≤ 6) :
    intended4 true c0 c1 m (INDEX_MAP.getD j 0) = BcSpec.interp j (7 - j) c0 c1 m := by
  have hj : j = 1 ∨ j = 2 ∨ j = 3 ∨ j = 4 ∨ j = 5 ∨ j = 6 := by omega
  rcases hj with rfl | rfl | rfl | rfl | rfl | rfl <;> rfl

theorem indexMap6_ends (c0 c1 m : Nat) :
    intended4 true c0 c1 m (INDEX_MAP.getD 0 0) = BcSpec.interp 0 1 c0 c1 m ∧
    intended4 true c0 c1 m (INDEX_MAP.getD 7 0) = BcSpec.interp 1 0 c0 c1 m := ⟨rfl, rfl⟩

/-- four interpolants: `colors[k]` is index `k`: weights `6 − k : k − 1` of five, then the constants 0 and 1 -/
theorem indexMap4 (c0 c1 m : Nat) :
    intended4 false c0 c1 m 0 = BcSpec.interp 1 0 c0 c1 m ∧ intended4 false c0 c1 m 1 = BcSpec.interp 0 1 c0 c1 m ∧
    (∀ k, 2 ≤ k → k ≤ 5 → intended4 false c0 c1 m k = BcSpec.interp (6 - k) (k - 1) c0 c1 m) ∧
    intended4 false c0 c1 m 6 = 0 ∧ intended4 false c0 c1 m 7 = 1 := by
  refine ⟨rfl, rfl, ?_, rfl, rfl⟩
  intro k h2 h5
  have hk : k = 2 ∨ k = 3 ∨ k = 4 ∨ k = 5 := by omega
  rcases hk with rfl | rfl | rfl | rfl <;> rfl


theorem subPair_facts (snorm : Bool) (kind i : Nat) (hi : i + 1 < denOf snorm) :
    (subPair snorm kind i).2 < (subPair snorm kind i).1 ∧ (subPair snorm kind i).1 ≤ denOf snorm ∧
    1 ≤ (subPair snorm kind i).2 := by
  unfold subPair
  by_cases h0 : kind = 0
  · rw [if_pos h0]
    exact ⟨by show i + 1 < denOf snorm; omega, Nat.le_refl _, by show 1 ≤ i + 1; omega⟩
  · rw [if_neg h0]
    exact ⟨by show i + 1 < i + 2; omega, by show i + 2 ≤ _; omega, by show 1 ≤ i + 1; omega⟩

/-- the BC4 palettes in binary32 on the sub-domain: both modes, UNORM and SNORM -/
theorem bc4_palette_sub (snorm : Bool) (kind i : Nat) (hk : kind < 2) (hi : i + 1 < denOf snorm) :
    let hl := subPair snorm kind i
    (∀ j, 1 ≤ j → j < 8 →
      let e := endpointsOfBytes snorm (byteOf snorm hl.1) (byteOf snorm hl.2)
      okEntryT ((Inter6Palette.new e.c0f e.c1f).stepValue j) (dec4 snorm true hl.1 hl.2 (INDEX_MAP.getD j 0))
        (j * hl.1 + (7 - j) * hl.2) (7 * denOf snorm) = true) ∧
    (∀ k, k < 8 →
      let e := endpointsOfBytes snorm (byteOf snorm hl.2) (byteOf snorm hl.1)
      okEntryT ((inter4Colors e.c0f e.c1f).getD k 0) (dec4 snorm false hl.2 hl.1 k) (num4 hl.2 hl.1 (denOf snorm) k)
        (den4 (denOf snorm) k) = true) := by
  have hall : chkSub snorm = true := by
    cases snorm
    · exact sub_unorm
    · exact sub_snorm
  have h := chkSub_spec hall kind i hk hi
  exact ⟨chk6Pair_spec h.1, chk4Pair_spec h.2⟩

/-- `dec4` is what the decoder shows: the 8-bit pixel of a written block with these endpoint bytes and index `k` -/
theorem dec4_unorm (six : Bool) (l0 l1 k : Nat) :
    dec4 false six l0 l1 k = bc4Lut (bc4uOps .u8) l0 l1 l0 l1 six k := rfl

theorem dec4_snorm (six : Bool) (l0 l1 k : Nat) :
    dec4 true six l0 l1 k = bc4Lut (bc4sOps .u8) (s8n8 (fromNorm l0)) (s8n8 (fromNorm l1)) l0 l1 six k := rfl

end Dds.Enc15
