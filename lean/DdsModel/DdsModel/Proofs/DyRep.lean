/-
`Bc6.lean`'s dyadic float (`Dy`, `rnd24`) and `ConvF32.lean`'s binary32 are two models of the same Rust `f32`.  On
positive finite values in the normal range every `Dy` operation is the `CF32` operation on the pattern of the same
value: `Rep p d` says that the pattern `p` has the value of `d`, and `Rep.mul`, `Rep.add`, `Rep.toUInt` carry it
through `fmul`, `fadd`, `toNatSat`.  All of it rests on `F32Mono.pval_rpU`: in the normal range `rpU` is `rnd24`.
-/
import DdsModel.Bc6
import DdsModel.Proofs.F32Err
namespace Dds.Bc6
open Dds.ConvFast Dds.CF32 Dds.F32Mono Dds.F32Err

/-- `rnd24` on mantissa and exponent separately: the mantissa does not depend on the exponent, the exponent
grows by the number of bits dropped -/
theorem rnd24_eq (n : Nat) (e : Int) :
    rnd24 ⟨n, e⟩ = ⟨rne n (Nat.log2 n - 23), e + ((Nat.log2 n - 23 : Nat) : Int)⟩ := by
  have hk : bitLen n - 24 = Nat.log2 n - 23 := by
    unfold bitLen
    split
    · rename_i h0; rw [h0, Nat.log2_zero]
    · omega
  unfold rnd24
  by_cases h : bitLen n ≤ 24
  · have z : Nat.log2 n - 23 = 0 := by omega
    simp only [h, if_true, z, rne_zero, Int.natCast_zero, Int.add_zero]
  · simp only [h, if_false, hk, rne, beq_iff_eq, gt_iff_lt]

theorem rnd24_small {x : Dy} (h : x.n < 2 ^ 24) : rnd24 x = x := by
  have : bitLen x.n ≤ 24 := by
    unfold bitLen
    split
    · omega
    · rename_i h0; have := (Nat.log2_lt h0).2 h; omega
  unfold rnd24
  simp only [this, if_true]

/-- the value of a dyadic in units of `2^-149`, the scale of `F32Mono.pval` -/
def Dy.pv (d : Dy) : Nat := d.n * 2 ^ (d.e + 149).toNat

/-- the pattern `p` is finite, non-negative and has the value of `d` -/
structure Rep (p : Nat) (d : Dy) : Prop where
  fin : p < 0x7F800000
  exp : -149 ≤ d.e
  val : pval p = d.pv

/-- a non-zero integer below `2^a`, scaled by `2^E` -/
theorem pow_bounds {n a E b : Nat} (h0 : n ≠ 0) (hn : n < 2 ^ a) (hE : 23 ≤ E) (hb : a + E ≤ b) :
    2 ^ 23 ≤ n * 2 ^ E ∧ n * 2 ^ E < 2 ^ b :=
  ⟨Nat.le_trans (Nat.pow_le_pow_right (by decide) hE) (Nat.le_mul_of_pos_left _ (Nat.pos_of_ne_zero h0)),
    mul_pow_lt hn hb⟩

/-- one rounding: the pattern of the exact `m·2^e`, a value in `[2^-126, 2^127)`, represents `rnd24 ⟨m, e⟩` -/
theorem Rep.round {m : Nat} {e : Int} (he : -149 ≤ e) (h1 : 2 ^ 23 ≤ m * 2 ^ (e + 149).toNat)
    (h2 : m * 2 ^ (e + 149).toNat < 2 ^ 276) : Rep (rpU m ((e + 149).toNat + 851)) (rnd24 ⟨m, e⟩) := by
  have hm : m ≠ 0 := by
    intro h
    rw [h, Nat.zero_mul] at h1
    exact absurd h1 (by decide)
  have hne : m * 2 ^ (e + 149).toNat ≠ 0 := Nat.mul_ne_zero hm (Nat.ne_of_gt (Nat.two_pow_pos _))
  have b1 := (Nat.le_log2 hne).2 h1
  have b2 := (Nat.log2_lt hne).2 h2
  rw [log2_mul_pow m _ hm] at b1 b2
  clear h1 h2 hne
  obtain ⟨f, v⟩ := pval_rpU (B := (e + 149).toNat + 851) hm (by omega) (by omega)
  have ee : (e + ((Nat.log2 m - 23 : Nat) : Int) + 149).toNat = (e + 149).toNat + 851 + (Nat.log2 m - 23) - 851 := by
    omega
  rw [rnd24_eq]
  refine ⟨f, by show -149 ≤ e + _; omega, ?_⟩
  rw [v]
  unfold Dy.pv
  rw [ee]

theorem Rep.mul {pa pb : Nat} {a b : Dy} (ha : Rep pa a) (hb : Rep pb b) (he : -149 ≤ a.e + b.e)
    (h1 : 2 ^ 23 ≤ a.n * b.n * 2 ^ (a.e + b.e + 149).toNat) (h2 : a.n * b.n * 2 ^ (a.e + b.e + 149).toNat < 2 ^ 276) :
    Rep (fmul pa pb) (a.mul b) := by
  have e1 := ha.exp
  have e2 := hb.exp
  have ee : 702 + ((a.e + 149).toNat + (b.e + 149).toNat) = (a.e + b.e + 149).toNat + 851 := by omega
  rw [fmul_pval pa pb ha.fin hb.fin, ha.val, hb.val]
  unfold Dy.pv Dy.mul
  rw [Nat.mul_mul_mul_comm, ← Nat.pow_add, rpU_scale, ee]
  exact Rep.round he h1 h2

theorem Rep.add {pa pb : Nat} {a b : Dy} (ha : Rep pa a) (hb : Rep pb b) (h1 : 2 ^ 23 ≤ a.pv + b.pv)
    (h2 : a.pv + b.pv < 2 ^ 276) : Rep (fadd pa pb) (a.add b) := by
  have e1 := ha.exp
  have e2 := hb.exp
  -- both values in units of the smaller exponent, as `Dy.add` writes the sum
  have s : a.pv + b.pv = (a.n * 2 ^ (a.e - min a.e b.e).toNat + b.n * 2 ^ (b.e - min a.e b.e).toNat) *
      2 ^ (min a.e b.e + 149).toNat := by
    unfold Dy.pv
    rw [Nat.add_mul, Nat.mul_assoc, Nat.mul_assoc, ← Nat.pow_add, ← Nat.pow_add]
    congr 3 <;> omega
  rw [fadd_pval pa pb ha.fin hb.fin, ha.val, hb.val, s, rpU_scale, Nat.add_comm 851]
  rw [s] at h1 h2
  exact Rep.round (by omega) h1 h2

theorem Rep.toUInt {p : Nat} {d : Dy} (h : Rep p d) (max : Nat) : toNatSat p max = d.toUInt max := by
  have he := h.exp
  rw [toNatSat_pval p max h.fin, h.val]
  unfold Dy.pv Dy.toUInt
  have hv : d.n * 2 ^ (d.e + 149).toNat / 2 ^ 149 =
      if d.e ≥ 0 then d.n * 2 ^ d.e.toNat else d.n / 2 ^ (-d.e).toNat := by
    split
    · have : (d.e + 149).toNat = d.e.toNat + 149 := by omega
      rw [this, Nat.pow_add, ← Nat.mul_assoc, Nat.mul_div_cancel _ (Nat.two_pow_pos 149)]
    · have : 149 = (-d.e).toNat + (d.e + 149).toNat := by omega
      rw [show (2 : Nat) ^ 149 = 2 ^ ((-d.e).toNat + (d.e + 149).toNat) by rw [← this], Nat.pow_add,
        Nat.mul_div_mul_right _ _ (Nat.two_pow_pos _)]
  rw [hv]
  generalize (if d.e ≥ 0 then d.n * 2 ^ d.e.toNat else d.n / 2 ^ (-d.e).toNat) = v
  simp only []
  split <;> omega

/-- rounding at most doubles a value -/
theorem pv_rnd24_le (m : Nat) (e : Int) (he : -149 ≤ e) : (rnd24 ⟨m, e⟩).pv ≤ 2 * (m * 2 ^ (e + 149).toNat) := by
  have ee : (e + ((Nat.log2 m - 23 : Nat) : Int) + 149).toNat = (Nat.log2 m - 23) + (e + 149).toNat := by omega
  rw [rnd24_eq]
  unfold Dy.pv
  dsimp only
  rw [ee, Nat.pow_add, ← Nat.mul_assoc, ← Nat.mul_assoc]
  apply Nat.mul_le_mul_right
  by_cases hm : m = 0
  · rw [hm, Nat.log2_zero, rne_zero]; exact Nat.le_refl _
  · have h1 := Nat.mul_le_mul_right (2 ^ (Nat.log2 m - 23)) (rne_hi m (Nat.log2 m - 23))
    have h2 := Nat.div_mul_le_self m (2 ^ (Nat.log2 m - 23))
    have h3 : 2 ^ (Nat.log2 m - 23) ≤ m :=
      Nat.le_trans (Nat.pow_le_pow_right (by decide) (Nat.sub_le _ _)) (Nat.log2_self_le hm)
    rw [Nat.add_mul, Nat.one_mul] at h1
    omega

/-- a value of at most 24 significant bits is not rounded -/
theorem Rep.exact (n B : Nat) (hn : n < 2 ^ 24) (hB : 851 ≤ B) (hB2 : 24 + B ≤ 1127) :
    Rep (rpU n B) ⟨n, (B : Int) - 1000⟩ := by
  have ee : B - 851 = ((B : Int) - 1000 + 149).toNat := by omega
  obtain ⟨f, v⟩ := pval_rpU_small n B hn hB hB2
  refine ⟨f, by show -149 ≤ (B : Int) - 1000; omega, ?_⟩
  rw [v, ee]
  rfl

theorem Rep.ofNat (n : Nat) (hn : n < 2 ^ 24) : Rep (CF32.ofNat n) ⟨n, 0⟩ :=
  ofNat_eq_rpU n ▸ Rep.exact n 1000 hn (by decide) (by decide)

theorem Rep.twoPowi (e : Int) (h1 : -126 ≤ e) (h2 : e ≤ 127) : Rep (CF32.twoPowi e) ⟨1, e⟩ := by
  obtain ⟨k, hk⟩ : ∃ k : Nat, (e + 127).toNat = k + 1 := ⟨(e + 127).toNat - 1, by omega⟩
  have hp : CF32.twoPowi e = (851 + k - 851) * 2 ^ 23 + 2 ^ 23 := by
    unfold CF32.twoPowi; rw [hk, Nat.shiftLeft_eq, Nat.add_mul, Nat.one_mul, show 851 + k - 851 = k by omega]
  refine ⟨?_, by show -149 ≤ e; omega, ?_⟩
  · rw [hp]; have : (851 + k - 851) * 2 ^ 23 ≤ 253 * 2 ^ 23 := Nat.mul_le_mul_right _ (by omega); omega
  · rw [hp, pval_pack _ _ (by omega) (Nat.pow_le_pow_right (by decide) (by decide)) (Or.inr (Nat.le_refl _)), ← Nat.pow_add]
    unfold Dy.pv
    rw [Nat.one_mul, show (e + 149).toNat = 23 + (851 + k - 851) by omega]

theorem Rep.half : Rep CF32.half ⟨1, -1⟩ := by
  have h := Rep.twoPowi (-1) (by decide) (by decide)
  rwa [show CF32.twoPowi (-1) = CF32.half by decide +kernel] at h

/-- `(a * b + 0.5) as uN`, the tail of every integer conversion, in both models; the product lies in
`[2^-126, 2^101)` -/
theorem Rep.scale {p q : Nat} {d k : Dy} (h : Rep p d) (hk : Rep q k) (max : Nat) (he : -149 ≤ d.e + k.e)
    (h1 : 2 ^ 23 ≤ d.n * k.n * 2 ^ (d.e + k.e + 149).toNat) (h2 : d.n * k.n * 2 ^ (d.e + k.e + 149).toNat < 2 ^ 250) :
    toNatSat (fadd (fmul p q) CF32.half) max = ((d.mul k).add ⟨1, -1⟩).toUInt max := by
  have up {x : Nat} (hx : x < 2 ^ 252) : x < 2 ^ 276 :=
    Nat.lt_of_lt_of_le hx (Nat.pow_le_pow_right (n := 2) (i := 252) (j := 276) (by decide) (by decide))
  have r2 := Rep.mul h hk he h1 (up (by omega))
  have hb : (d.mul k).pv ≤ 2 * (d.n * k.n * 2 ^ (d.e + k.e + 149).toNat) := pv_rnd24_le (d.n * k.n) (d.e + k.e) he
  have hh : (Dy.mk 1 (-1)).pv = 2 ^ 148 := Nat.one_mul _
  exact (Rep.add r2 Rep.half (by rw [hh]; omega) (up (by rw [hh]; omega))).toUInt max

end Dds.Bc6
