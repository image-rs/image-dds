/-
C13, BC1–BC5 encoder core: BC2 = `concat_blocks(bc2_alpha(..), compress_bc1_block(..))`.  Connects the explicit-alpha
writer (`Enc13.bc2AlphaBlock`, proved against the decoder in `Proofs/Enc13Single.lean`: `bc2_alpha_px`) with the colour
half (`Proofs/EncBc15Blocks.lean`).
-/
import DdsModel.Proofs.EncBc15Blocks
import DdsModel.Proofs.Enc13Single
namespace Dds.Enc15
open Dds Dds.Bc Dds.Enc13

theorem bc2AlphaBlock_length (alphas : List Nat) : (bc2AlphaBlock alphas).length = 8 := by
  unfold bc2AlphaBlock; simp

theorem bc2AlphaBlock_lt (alphas : List Nat) : ∀ x ∈ bc2AlphaBlock alphas, x < 256 := by
  intro x hx
  unfold bc2AlphaBlock at hx
  simp only [List.mem_map] at hx
  obtain ⟨k, _, rfl⟩ := hx
  exact Nat.mod_lt _ (by decide)

/-- the whole BC2 block: alpha bytes of `bc2_alpha` for ANY sixteen 8-bit alphas, then the P4 colour block -/
theorem bc2_full (alphas : List Nat) (h : ∀ a ∈ alphas, a ≤ 255) (e0 e1 : C565) (v0 : e0.Valid) (v1 : e1.Valid) (idx : Nat)
    (hi : idx < 2 ^ 32) (pr : Prec) :
    Bc.decodeBlock .bc2 pr (blkOf (concatBlocks (bc2AlphaBlock alphas) (withIndexes (createEndpoints .p4 e0 e1) idx))) =
      (List.range 16).map fun p =>
        (intendedRgb .p4 (createEndpoints .p4 e0 e1) (idxGet 2 idx p) ++ [17 * n4FromU8 (alphas.getD p 0)]).map
          (BcSpec.widen pr) := by
  rw [bc2_block _ (bc2AlphaBlock_length alphas) (bc2AlphaBlock_lt alphas) e0 e1 v0 v1 idx hi pr]
  apply List.map_congr_left
  intro p hp
  rw [List.mem_range] at hp
  have hc := createEndpoints_spec .p4 e0 e1 v0 v1
  have hb := blkOf_lt _ (concat_lt (bc2AlphaBlock_lt alphas)
    (withIndexes_lt (createEndpoints .p4 e0 e1) idx (toU16_lt _ hc.1) (toU16_lt _ hc.2.1)))
  have ha := (bc2_alpha_px alphas h
    (blkOf (concatBlocks (bc2AlphaBlock alphas) (withIndexes (createEndpoints .p4 e0 e1) idx)))
    (fun i hi8 => blkOf_append_left (bc2AlphaBlock alphas) _ i (by rw [bc2AlphaBlock_length]; exact hi8)) p hp).1
  have e : (px8 .bc2 (blkOf (concatBlocks (bc2AlphaBlock alphas) (withIndexes (createEndpoints .p4 e0 e1) idx))) p).getD 3 0 =
      Bc.bc2Alpha (blkOf (concatBlocks (bc2AlphaBlock alphas) (withIndexes (createEndpoints .p4 e0 e1) idx))) p := rfl
  rw [e, Bc.bc2Alpha_eq _ hb p hp] at ha
  rw [ha]

/-- every combination of sixteen 4-bit values is written by `bc2_alpha` (for the alphas `17·nᵢ`) at the nibble positions
the decoder reads: byte `k` = `n₂ₖ + 16·n₂ₖ₊₁`, decoded alpha of pixel `p` = `17·nₚ` -/
theorem bc2_nibbles (n : List Nat) (hl : n.length = 16) (hn : ∀ x ∈ n, x ≤ 15) :
    (∀ k, k < 8 → (bc2AlphaBlock (n.map (17 * ·))).getD k 0 = n.getD (2 * k) 0 + 16 * n.getD (2 * k + 1) 0) ∧
    ∀ p, p < 16 → Bc.bc2Alpha (blkOf (bc2AlphaBlock (n.map (17 * ·)))) p = 17 * n.getD p 0 := by
  have ha : ∀ a ∈ n.map (17 * ·), a ≤ 255 := by
    intro a h
    simp only [List.mem_map] at h
    obtain ⟨x, hx, rfl⟩ := h
    have := hn x hx; omega
  have hq : ∀ i, i < 16 → n4FromU8 ((n.map (17 * ·)).getD i 0) = n.getD i 0 := by
    intro i hi
    have h1 : i < n.length := by omega
    simp only [List.getD_eq_getElem?_getD, List.getElem?_map, List.getElem?_eq_getElem h1, Option.map_some, Option.getD_some]
    have := hn _ (List.getElem_mem h1)
    unfold n4FromU8; omega
  constructor
  · intro k hk
    rw [bc2AlphaBlock_bytes _ ha k hk, hq _ (by omega), hq _ (by omega)]
  · intro p hp
    rw [bc2AlphaBlock_px _ ha p hp, hq p hp]

end Dds.Enc15
