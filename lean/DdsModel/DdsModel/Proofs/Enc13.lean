import DdsModel.Enc13
import DdsModel.Proofs.BcPixels
import DdsModel.Proofs.ListLemmas
import DdsModel.Proofs.EncBc15Index
import DdsModel.Range
namespace Dds.Enc13
open Dds Dds.Bc
open Dds.BcSpec (leWord)

theorem toU16_eq (c : C565) (h : c.Valid) : c.toU16 = c.r * 2048 + c.g * 32 + c.b := by
  obtain ⟨hr, hg, hb⟩ := h
  unfold C565.toU16 w16
  have h1 : c.r <<< 11 = c.r * 2048 := by rw [Nat.shiftLeft_eq]
  have h2 : c.g <<< 5 = c.g * 32 := by rw [Nat.shiftLeft_eq]
  rw [Nat.mod_eq_of_lt (by omega), Nat.mod_eq_of_lt (by omega)]
  rw [Nat.or_assoc, ← Nat.shiftLeft_add_eq_or_of_lt (by omega : c.b < 2 ^ 5),
    ← Nat.shiftLeft_add_eq_or_of_lt (by omega : c.g <<< 5 + c.b < 2 ^ 11)]
  omega

theorem toU16_lt (c : C565) (h : c.Valid) : c.toU16 < 65536 := by
  rw [toU16_eq c h]; obtain ⟨hr, hg, hb⟩ := h; omega

theorem toU16_fields (c : C565) (h : c.Valid) :
    c.toU16 / 2048 = c.r ∧ c.toU16 / 32 % 64 = c.g ∧ c.toU16 % 32 = c.b := by
  rw [toU16_eq c h]; obtain ⟨hr, hg, hb⟩ := h; omega

/-- the three cases of `new_p4` with the packed values as sums -/
theorem newP4_spec (c0 c1 : C565) (h0 : c0.Valid) (h1 : c1.Valid) :
    (newP4 c0 c1).1.Valid ∧ (newP4 c0 c1).2.Valid ∧ (newP4 c0 c1).1.toU16 > (newP4 c0 c1).2.toU16 := by
  have e0 := toU16_eq c0 h0
  have e1 := toU16_eq c1 h1
  obtain ⟨hr0, hg0, hb0⟩ := h0
  obtain ⟨hr1, hg1, hb1⟩ := h1
  unfold newP4
  simp only []
  by_cases hlt : c0.toU16 < c1.toU16
  · rw [if_pos hlt]; exact ⟨⟨hr1, hg1, hb1⟩, ⟨hr0, hg0, hb0⟩, hlt⟩
  · rw [if_neg hlt]
    by_cases heq : c0.toU16 = c1.toU16
    · rw [if_pos heq]
      by_cases hb : c1.b = 0
      · rw [if_pos hb]
        have v : ({ c0 with b := 1 } : C565).Valid := ⟨hr0, hg0, (by show 1 < 32; omega)⟩
        refine ⟨v, ⟨hr1, hg1, hb1⟩, ?_⟩
        rw [toU16_eq _ v, e1]
        show c0.r * 2048 + c0.g * 32 + 1 > _
        omega
      · rw [if_neg hb]
        have hw : w8 (c1.b + 256 - 1) = c1.b - 1 := by unfold w8; omega
        have v : ({ c1 with b := w8 (c1.b + 256 - 1) } : C565).Valid := ⟨hr1, hg1, (by show w8 (c1.b + 256 - 1) < 32; rw [hw]; omega)⟩
        refine ⟨⟨hr0, hg0, hb0⟩, v, ?_⟩
        rw [toU16_eq _ v, e0]
        show _ > c1.r * 2048 + c1.g * 32 + w8 (c1.b + 256 - 1)
        rw [hw]; omega
    · rw [if_neg heq]
      refine ⟨⟨hr0, hg0, hb0⟩, ⟨hr1, hg1, hb1⟩, ?_⟩
      show c0.toU16 > c1.toU16
      omega

theorem newP3_spec (c0 c1 : C565) (h0 : c0.Valid) (h1 : c1.Valid) :
    (newP3Default c0 c1).1.Valid ∧ (newP3Default c0 c1).2.Valid ∧
      (newP3Default c0 c1).1.toU16 ≤ (newP3Default c0 c1).2.toU16 := by
  unfold newP3Default
  by_cases h : c0.toU16 > c1.toU16
  · rw [if_pos h]; exact ⟨h1, h0, (by show c1.toU16 ≤ c0.toU16; omega)⟩
  · rw [if_neg h]; exact ⟨h0, h1, (by show c0.toU16 ≤ c1.toU16; omega)⟩


/-- `get_alpha_map`: sixteen `set_opaque_if` are sixteen 1-bit `set`s; the map is the number with binary digits
`opaque8 aᵢ` -/
theorem alphaMap_eq (alphas : List Nat) (hl : alphas.length = 16) :
    alphaMap alphas = Enc15.packed 1 (fun i => if opaque8 (alphas.getD i 0) then 1 else 0) 16 := by
  have hv : ∀ j, (if opaque8 (alphas.getD j 0) then 1 else 0) < 2 ^ 1 := fun j => by split <;> decide
  unfold alphaMap
  rw [hl]
  exact Enc7.foldl_range_eq (Enc15.packed 1 fun i => if opaque8 (alphas.getD i 0) then 1 else 0) _ 16 (fun k hk => by
    have h := Enc15.idxSetRaw_packed 1 65536 (by decide) (by decide) _ hv k hk
    rwa [Enc15.idxSetRaw, Nat.mul_one] at h) 16 (Nat.le_refl _)

theorem alphaMap_testBit (alphas : List Nat) (hl : alphas.length = 16) (i : Nat) :
    (alphaMap alphas).testBit i = (decide (i < 16) && decide (alphas.getD i 0 ≥ 128)) := by
  have hv : ∀ j, (if opaque8 (alphas.getD j 0) then 1 else 0) < 2 ^ 1 := fun j => by split <;> decide
  rw [alphaMap_eq alphas hl, Nat.testBit_eq_decide_div_mod_eq]
  by_cases hi : i < 16
  · have h := Enc15.packed_digit 1 (by decide) _ hv 16 i hi
    rw [Nat.mul_one] at h
    rw [h, decide_eq_true hi, Bool.true_and]
    unfold opaque8
    by_cases ho : alphas.getD i 0 ≥ 128
    · rw [decide_eq_true ho, if_pos (decide_eq_true (by omega))]; rfl
    · rw [decide_eq_false ho, if_neg (by rw [decide_eq_true_eq]; omega)]; rfl
  · have := Nat.lt_of_lt_of_le (Enc15.packed_lt 1 (by decide) _ hv 16) (Nat.pow_le_pow_right (by decide) (show 1 * 16 ≤ i by omega))
    rw [Nat.div_eq_of_lt this, decide_eq_false hi]; rfl
/-- a block given as its list of bytes -/
def blkOf (l : List Nat) : Nat → Nat := fun i => l.getD i 0

theorem blkOf_append_left (l l' : List Nat) (i : Nat) (h : i < l.length) : blkOf (l ++ l') i = blkOf l i := by
  unfold blkOf
  rw [List.getD_eq_getElem?_getD, List.getD_eq_getElem?_getD, List.getElem?_append_left h]

theorem blkOf_append_right (l l' : List Nat) (i : Nat) : blkOf (l ++ l') (l.length + i) = blkOf l' i := by
  unfold blkOf
  rw [List.getD_eq_getElem?_getD, List.getD_eq_getElem?_getD, List.getElem?_append_right (by omega),
    Nat.add_sub_cancel_left]

theorem blkOf_mid (pre l post : List Nat) (i : Nat) (hi : i < l.length) :
    blkOf (pre ++ l ++ post) (pre.length + i) = l.getD i 0 := by
  rw [List.append_assoc, blkOf_append_right, blkOf_append_left _ _ _ hi]; rfl

theorem blkOf_lt (l : List Nat) (h : ∀ x ∈ l, x < 256) (i : Nat) : blkOf l i < 256 :=
  getD_lt (by decide) h i

/-- `x.to_le_bytes()[..n]` -/
def leBytes (x n : Nat) : List Nat := (List.range n).map fun k => x / 256 ^ k % 256

theorem leBytes_length (x n : Nat) : (leBytes x n).length = n := by unfold leBytes; simp

theorem leBytes_lt (x n : Nat) : ∀ b ∈ leBytes x n, b < 256 := by
  intro b hb
  obtain ⟨k, _, rfl⟩ := List.mem_map.mp hb
  exact Nat.mod_lt _ (by decide)

theorem leBytes_getD (x n k : Nat) (hk : k < n) : (leBytes x n).getD k 0 = x / 256 ^ k % 256 := by
  unfold leBytes
  rw [List.getD_eq_getElem?_getD, List.getElem?_map, List.getElem?_range hk]; rfl

theorem leWord_of_bytes (blk : Nat → Nat) : ∀ (n o x : Nat), (∀ j, j < n → blk (o + j) = x / 256 ^ j % 256) →
    leWord blk o n = x % 256 ^ n
  | 0, _, x, _ => by rw [Nat.pow_zero, Nat.mod_one]; rfl
  | n + 1, o, x, h => by
    have ih := leWord_of_bytes blk n (o + 1) (x / 256) fun j hj => by
      rw [Nat.add_assoc, Nat.add_comm 1 j, h (j + 1) (by omega), Nat.pow_succ', Nat.div_div_eq_div_mul]
    have h0 := h 0 (by omega)
    rw [Nat.add_zero, Nat.pow_zero, Nat.div_one] at h0
    show blk o + 256 * leWord blk (o + 1) n = _
    rw [ih, h0, Nat.pow_succ', Nat.mod_mul]

theorem leWord_leBytes (pre post : List Nat) (x n : Nat) :
    leWord (blkOf (pre ++ leBytes x n ++ post)) pre.length n = x % 256 ^ n :=
  leWord_of_bytes _ n _ x fun j hj => by
    rw [blkOf_mid pre _ post j (by rw [leBytes_length]; exact hj), leBytes_getD x n j hj]

theorem map_all_transparent (alphas : List Nat) (hl : alphas.length = 16)
    (h : ∀ i, i < 16 → alphas.getD i 0 < 128) : alphaMap alphas = ALL_TRANSPARENT := by
  apply Nat.eq_of_testBit_eq
  intro i
  rw [alphaMap_testBit alphas hl i]
  by_cases hi : i < 16
  · have h2 : ¬ alphas.getD i 0 ≥ 128 := by have := h i hi; omega
    rw [decide_eq_true hi, decide_eq_false h2]; simp [ALL_TRANSPARENT]
  · rw [decide_eq_false hi]; simp [ALL_TRANSPARENT]

theorem map_all_opaque (alphas : List Nat) (hl : alphas.length = 16)
    (h : ∀ i, i < 16 → alphas.getD i 0 ≥ 128) : alphaMap alphas = ALL_OPAQUE := by
  apply Nat.eq_of_testBit_eq
  intro i
  rw [alphaMap_testBit alphas hl i, show ALL_OPAQUE = 2 ^ 16 - 1 from rfl, Nat.testBit_two_pow_sub_one]
  by_cases hi : i < 16
  · rw [decide_eq_true (h i hi)]; simp
  · rw [decide_eq_false hi]; simp

/-! ### BC1 pixels and `Portable` -/

/-- as `lut4_P`, with the last entry needed only where it is selected -/
theorem lut4_P_sel {α : Type} (P : α → Prop) (c0 c1 c2 c3 : α) (k : Nat)
    (h0 : P c0) (h1 : P c1) (h2 : P c2) (h3 : 3 ≤ k → P c3) : P (lut4 c0 c1 c2 c3 k) :=
  match k with
  | 0 => h0
  | 1 => h1
  | 2 => h2
  | k + 3 => h3 (Nat.le_add_left 3 k)

/-- a BC1 pixel is opaque unless it is index 3 of the three-colour mode -/
theorem bc1Px_opaque (blk : Nat → Nat) (p : Nat) (h : le16 blk 0 > le16 blk 2 ∨ colourIndex blk 0 p ≠ 3) :
    (bc1Px blk p).2.2.2 = 255 := by
  unfold bc1Px
  refine lut4_P_sel (fun c : Rgba => c.2.2.2 = 255) _ _ _ _ _ rfl rfl ?_ fun hk => ?_
  · split <;> rfl
  · have h3 : colourIndex blk 0 p = 3 := by
      have := Nat.and_le_right (n := le32 blk 4 >>> (p * 2)) (m := 3)
      unfold colourIndex; rw [Nat.zero_add]; omega
    rw [if_pos (h.resolve_right fun hne => hne h3)]; rfl

def dist (a b : Nat) : Nat := if a ≥ b then a - b else b - a

/-- error of the nearest-palette assignment of the value `v` -/
def nearestErr (pal : List Nat) (v : Nat) : Nat := pal.foldl (fun m x => min m (dist x v)) 256

theorem foldl_min_le (f : Nat → Nat) (l : List Nat) : ∀ init, l.foldl (fun m x => min m (f x)) init ≤ init ∧
    ∀ x ∈ l, l.foldl (fun m x => min m (f x)) init ≤ f x :=
  fun init => ⟨(Dds.foldl_min_le f l init).1, (Dds.foldl_min_le f l init).2.1⟩

/-- the four decoded 8-bit values of one channel of a colour palette with `m`-level endpoints (specification) -/
def specPalette (four : Bool) (e0 e1 m : Nat) : List Nat := (List.range 4).map fun k => BcSpec.chan8 four k e0 e1 m

/-- the eight decoded 8-bit values of a BC4 UNORM palette (specification) -/
def specPalette4 (e0 e1 : Nat) : List Nat :=
  (List.range 8).map fun k => BcSpec.rnd (255 * BcSpec.bc4Entry (decide (e0 > e1)) k e0 e1 255)

theorem mem_specPalette4 (v e1 : Nat) (hv : v ≤ 255) : v ∈ specPalette4 v e1 := by
  refine List.mem_map.mpr ⟨0, by decide, ?_⟩
  simp only [BcSpec.bc4Entry, interp_eq, Nat.one_mul, Nat.zero_mul, Nat.add_zero]
  exact (u_byte_fin .u8 v hv).symm


/-- the interpolation numerator `n = 2·a + b` of the "two thirds" entry reaches every value `0..3·m` -/
def splitThird (m n : Nat) : Nat × Nat := (min m (n / 2), n - 2 * min m (n / 2))

theorem splitThird_le (m n : Nat) (h : n ≤ 3 * m) : (splitThird m n).1 ≤ m ∧ (splitThird m n).2 ≤ m := by
  unfold splitThird; simp only []; omega

/-- the numerator whose entry `255·n / (3·m)` lies nearest to the grey level `g` -/
def greyNum (m g : Nat) : Nat := (2 * (3 * m) * g + 255) / 510

theorem greyNum_le (m g : Nat) (hg : g ≤ 255) : greyNum m g ≤ 3 * m := by
  unfold greyNum
  generalize 3 * m = k
  have := Nat.mul_le_mul_left (2 * k) hg
  omega

theorem grey5_near : ∀ g, g ≤ 255 →
    dist (third5 (splitThird 31 (greyNum 31 g)).1 (splitThird 31 (greyNum 31 g)).2) g ≤ 1 :=
  forall_le_of_allRange (d := 3) (by decide +kernel)
theorem grey6_near : ∀ g, g ≤ 255 →
    dist (third6 (splitThird 63 (greyNum 63 g)).1 (splitThird 63 (greyNum 63 g)).2) g ≤ 1 :=
  forall_le_of_allRange (d := 3) (by decide +kernel)

end Dds.Enc13
