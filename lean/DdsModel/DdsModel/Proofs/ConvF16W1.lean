/- `chkW16` on the 16-bit values `32768 … 65535`, by kernel evaluation. -/
import DdsModel.Proofs.ConvF16Chk
namespace Dds.ConvFast

theorem w16_4 : allRange chkW16 7 32768 8192 = true := by decide +kernel
theorem w16_5 : allRange chkW16 7 40960 8192 = true := by decide +kernel
theorem w16_6 : allRange chkW16 7 49152 8192 = true := by decide +kernel
theorem w16_7 : allRange chkW16 7 57344 8192 = true := by decide +kernel

theorem w16_hi : allRange chkW16 9 32768 32768 = true :=
  allRange_join (allRange_join w16_4 w16_5) (allRange_join w16_6 w16_7)

end Dds.ConvFast
