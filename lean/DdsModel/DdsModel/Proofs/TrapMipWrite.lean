/-
C15 / C11 (mipmap-generating encoder), part 3: the trapping mirror of `write_surface_impl` returns `some` of
`Enc.write` (C11's model) for every encoder state whose iterator satisfies C08's invariant and whose cache is linked to it
(`Linked`).
-/
import DdsModel.Proofs.TrapMipGen
import DdsModel.Proofs.SurfIter
import DdsModel.Proofs.RatLemmas
import DdsModel.Theorems.C11
namespace Dds.TrapMip
open Dds Dds.Trap Dds.TrapEnc

/-- what `Encoder::new` establishes between the layout and its iterator (`SurfaceIterator::new(layout)`) and no
call changes: a texture iterator walks a non-volume layout with the layout's level count, a volume iterator a volume -/
def Linked (e : Enc) : Prop :=
  match e.iter with
  | .tex t => e.layout.isVolume = false ∧ e.layout.mips = t.first.mips
  | .vol _ => e.layout.isVolume = true

theorem levelRangeT_ok (n level : Nat) (hl : level ≤ 255) : ∃ r, levelRangeT n level = some r := by
  unfold levelRangeT
  by_cases h : n = 0
  · rw [if_pos h]; exact ⟨_, rfl⟩
  · rw [if_neg h, ckI32_of_range (by omega), bind_some']
    have hle : (1 : Rat) - (2 / 5 : Rat) ^ level ≤ 1 - (2 / 5 : Rat) ^ (level + 1) := by
      rw [Rat.sub_eq_add_neg, Rat.sub_eq_add_neg]
      exact Rat.add_le_add_left.2 (Rat.neg_le_neg (rat_pow_succ_le (by decide +kernel) (by decide +kernel) level))
    dsimp only
    rw [dbgP_of hle, bind_some']
    exact ⟨_, rfl⟩

theorem levelCounterT_ok (n : Nat) : ∀ (m level : Nat), level + m ≤ 255 → levelCounterT n m level = some ()
  | 0, _, _ => rfl
  | m + 1, level, h => by
    unfold levelCounterT
    rw [ck_of_lt (by omega), bind_some']
    obtain ⟨r, hr⟩ := levelRangeT_ok n (level + 1) (by omega)
    rw [hr, bind_some']
    exact levelCounterT_ok n m (level + 1) (by omega)

/-- the image of a `write_surface` call as the public API can build it -/
structure ImgOK (im : Img) : Prop where
  view : VOK im.v im.c
  col : im.c.OK
  bytes : im.v.w * im.v.h * im.c.bpp ≤ BMAX

theorem normSizeE_view {v : View} {c : Color} (hv : VOK v c) : normSizeE v.w v.h = (v.w, v.h) := by
  unfold normSizeE
  by_cases he : v.w = 0 ∨ v.h = 0
  · obtain ⟨h1, h2, _, _⟩ := hv.inv.empty he
    rw [if_pos he, h1, h2]
  · rw [if_neg he]

theorem write_of_cur (e : Enc) (w h : Nat) (pre : Bool) {r : Option SurfInfo} {it : SurfIter}
    (hc : e.iter.currentP = some r) (hadv : e.iter.advanceP = some it) :
    e.write w h pre =
      match r with
      | none => (e, .tooManySurfaces)
      | some s =>
        if (s.w, s.h) ≠ normSizeE w h then (e, .unexpectedSurfaceSize)
        else if pre then (e, .cancelled)
        else if !e.sizeOk s.w s.h then (e, .invalidSize)
        else if e.toGen s > 0 then
          ({ e with iter := it, written := e.written + s.len } : Enc).genLoop 255
        else ({ e with iter := it, written := e.written + s.len }, .ok) := by
  unfold Enc.write
  simp only [hc]
  cases r with
  | none => rfl
  | some s => simp only [hadv]

/-- the level of the current surface fits a `u8` with room for `+ 1`; for a texture iterator it is level
`t.level < mips` of its texture -/
theorem current_level {e : Enc} (hI : C08.IterInv e.iter) {s : SurfInfo} (hc : e.iter.currentP = some (some s)) :
    s.level < 255 ∧
    match e.iter with
    | .tex t => t.idx < t.len ∧ t.level < t.first.mips ∧ s.level = t.level ∧
        (s.w, s.h) = (mipSize t.first.w t.level, mipSize t.first.h t.level)
    | .vol _ => True := by
  have hcur := C08.current_eq hI hc
  cases hit : e.iter with
  | vol t =>
    rw [hit] at hI hcur
    obtain ⟨hl, rfl⟩ := hcur
    have hm := VolIter.Inv.mips_lt hI
    exact ⟨by show t.level < 255; omega, trivial⟩
  | tex t =>
    rw [hit] at hI hcur
    obtain ⟨hi, rfl⟩ := hcur
    have hm := TexIter.Inv.mips_lt hI
    have hlm := TexIter.Inv.level_lt hI hi
    exact ⟨by show t.level < 255; omega, hi, hlm, rfl, rfl⟩

/-- `mipmaps_to_generate`: `current.mipmap_level + 1` does not overflow `u8` -/
theorem toGenT_eq {e : Enc} (hI : C08.IterInv e.iter) {s : SurfInfo} (hc : e.iter.currentP = some (some s)) :
    toGenT e s = some (e.toGen s) := by
  have hlv := (current_level hI hc).1
  unfold toGenT Enc.toGen
  by_cases hg : (e.generate && !e.layout.isVolume) = true
  · rw [if_pos hg, if_pos hg, ck_of_lt (by omega), bind_some', pure_some', Nat.mod_eq_of_lt (by unfold U8; omega)]
  · rw [if_neg hg, if_neg hg, pure_some']

/-- after the surface of level `l` of a texture with levels left, the look-ahead of `write_surface_impl` gathers the
declared levels `l + 1 … mips − 1` -/
theorem gather_advance {t : TexIter} (v : t.Inv) (hi : t.idx < t.len) (hn : t.level + 1 < t.first.mips) :
    Mip.gatherSizes 255 (.tex t.advance) =
      some (Mip.declared t.first.w t.first.h (t.level + 1) (t.first.mips - (t.level + 1))) := by
  have hm := v.mips_lt
  have hta : t.advance = { t with level := t.level + 1 } := (v.advance_eq hi).trans (if_pos hn)
  have hg := Mip.gather_tex 255 t.advance v.advance.1 (by rw [hta]; exact hi)
    (by rw [hta]; exact Nat.le_add_left 1 _) (by rw [hta]; show t.first.mips ≤ 255 + (t.level + 1); omega)
  rw [hta] at hg ⊢
  exact hg

/-- with levels to generate (a texture iterator below its last level, by `Linked`) the call handed to
`MipmapCache::generate` is admissible and has at most 254 sizes -/
theorem gather_ok {e : Enc} (hI : C08.IterInv e.iter) (hL : Linked e) {s : SurfInfo} {it : SurfIter}
    (hc : e.iter.currentP = some (some s)) (hadv : e.iter.advanceP = some it) (hn : 0 < e.toGen s) {im : Img}
    (him : ImgOK im) (hsz : (s.w, s.h) = (im.v.w, im.v.h)) :
    ∃ sizes, Mip.gatherSizes 255 it = some sizes ∧ CallOK ⟨im.addr, im.v, im.c, sizes, im.f, im.sa⟩ ∧
      sizes.length ≤ 254 := by
  have hcur := (current_level hI hc).2
  unfold Linked at hL
  unfold Enc.toGen at hn
  cases hit : e.iter with
  | vol t =>
    rw [hit] at hL
    rw [show e.layout.isVolume = true from hL, Bool.not_true, Bool.and_false, if_neg Bool.false_ne_true] at hn
    omega
  | tex t =>
    rw [hit] at hcur hI hL hadv
    obtain ⟨hi, hlm, hsl, hwh⟩ := hcur
    have hI' : t.Inv := hI
    have hm := hI'.mips_lt
    have hn' : t.level + 1 < t.first.mips := by
      by_cases hg : (e.generate && !e.layout.isVolume) = true
      · rw [if_pos hg, hsl, Nat.mod_eq_of_lt (by unfold U8; omega), hL.2] at hn
        omega
      · rw [if_neg hg] at hn; omega
    obtain ⟨hvw, hvh⟩ := Prod.mk.inj (hsz.symm.trans hwh)
    have hcnt : t.first.mips - (t.level + 1) = (t.first.mips - (t.level + 2)) + 1 := by omega
    rw [← Option.some.inj (show some (SurfIter.tex t.advance) = some it from hadv), gather_advance hI' hi hn', hcnt]
    refine ⟨_, rfl, callOK_declared him.view him.col hvw hvh him.bytes, ?_⟩
    unfold Mip.declared
    rw [List.length_map, List.length_range']
    omega

theorem writeSurfaceT_ok {al : Alloc} (ha : AlOK al) (rayon : Bool) (e : Enc) (hI : C08.IterInv e.iter)
    (hL : Linked e) {k : Cache} (hk : CacheOK k) {im : Img} (him : ImgOK im) (pre : Bool) :
    ∃ k', writeSurfaceT al rayon e k im pre =
        some ((e.write im.v.w im.v.h pre).1, (e.write im.v.w im.v.h pre).2, k') ∧ CacheOK k' := by
  obtain ⟨it, hadv, _⟩ := C08.advance_spec hI
  obtain ⟨r, hc⟩ : ∃ r, e.iter.currentP = some r := by
    rcases C08.current_cases hI with ⟨hc, _⟩ | ⟨_, hc, _⟩ <;> exact ⟨_, hc⟩
  unfold writeSurfaceT writeSurfaceWithT
  rw [hc, bind_some', write_of_cur e im.v.w im.v.h pre hc hadv]
  cases r with
  | none => exact ⟨k, rfl, hk⟩
  | some s =>
    dsimp only
    by_cases hsz : (s.w, s.h) ≠ normSizeE im.v.w im.v.h
    · rw [if_pos hsz, if_pos hsz]; exact ⟨k, rfl, hk⟩
    rw [if_neg hsz, if_neg hsz, toGenT_eq hI hc, bind_some']
    obtain ⟨_, hr⟩ := levelRangeT_ok (e.toGen s) 0 (Nat.zero_le _)
    rw [hr, bind_some']
    cases pre with
    | true => rw [if_pos rfl, if_pos rfl]; exact ⟨k, rfl, hk⟩
    | false =>
      rw [if_neg Bool.false_ne_true, if_neg Bool.false_ne_true]
      by_cases hok : (!e.sizeOk s.w s.h) = true
      · rw [if_pos hok, if_pos hok]; exact ⟨k, rfl, hk⟩
      rw [if_neg hok, if_neg hok, hadv, bind_some']
      by_cases hn : e.toGen s > 0
      · -- the mipmap branch: look-ahead, `generate`, the `u8` level counter of the callback
        rw [normSizeE_view him.view] at hsz
        obtain ⟨sizes, hg, hq, hlen⟩ := gather_ok hI hL hc hadv hn him (Classical.not_not.mp hsz)
        obtain ⟨k', pl, g1, _, g3⟩ := generateT_ok ha rayon hk hq
        rw [if_pos hn, if_pos hn, allocT_of_le (by omega), bind_some', hg, bind_some', g1, bind_some']
        dsimp only
        rw [levelCounterT_ok _ _ 0 (by omega), bind_some', pure_some']
        exact ⟨k', rfl, g3⟩
      · rw [if_neg hn, if_neg hn, pure_some']
        exact ⟨k, rfl, hk⟩

/-! ### `Linked` is kept by every call

The only way a call changes `iter` is `SurfaceIterator::advance`, which moves the cursor only
(`C08.advanceP_base`); no call assigns `layout`. -/

def Walk (e e' : Enc) : Prop := e'.layout = e.layout ∧ e'.iter.base = e.iter.base

theorem Walk.refl (e : Enc) : Walk e e := ⟨rfl, rfl⟩

theorem Walk.trans {a b c : Enc} (h1 : Walk a b) (h2 : Walk b c) : Walk a c :=
  ⟨h2.1.trans h1.1, h2.2.trans h1.2⟩

theorem Walk.linked {e e' : Enc} (h : Walk e e') (hL : Linked e) : Linked e' := by
  obtain ⟨h1, h2⟩ := h
  unfold Linked at hL ⊢
  rw [h1]
  cases he : e.iter <;> cases he' : e'.iter <;> rw [he, he'] at h2 <;> rw [he] at hL <;>
    simp only [SurfIter.base, Sum.inl.injEq, Prod.mk.injEq, reduceCtorEq] at h2
  · exact ⟨hL.1, by rw [h2.1]; exact hL.2⟩
  · exact hL

theorem Walk.advance {e : Enc} {it : SurfIter} (h : e.iter.advanceP = some it) (w : Nat) :
    Walk e { e with iter := it, written := w } :=
  ⟨rfl, C08.advanceP_base h⟩

/-- the generation loop only advances the iterator -/
theorem genLoop_walk : ∀ (fuel : Nat) (e : Enc), Walk e (e.genLoop fuel).1
  | 0, e => Walk.refl e
  | fuel + 1, e => by
    unfold Enc.genLoop
    split
    · exact Walk.refl e
    · exact Walk.refl e
    · split
      · exact Walk.refl e
      · split
        · exact Walk.refl e
        · split
          · exact Walk.refl e
          · next ha => exact (Walk.advance ha _).trans (genLoop_walk fuel _)

theorem write_walk (e : Enc) (w h : Nat) (c : Bool) : Walk e (e.write w h c).1 := by
  unfold Enc.write
  split
  · exact Walk.refl e
  · exact Walk.refl e
  · split
    · exact Walk.refl e
    · split
      · exact Walk.refl e
      · split
        · exact Walk.refl e
        · split
          · exact Walk.refl e
          · next ha =>
            split
            · exact (Walk.advance ha _).trans (genLoop_walk 255 _)
            · exact Walk.advance ha _

/-- every call kind of `Enc.step` — write (accepted, rejected, failed while generating), cancelled write, the
`mipmaps.generate` option, `finish` — leaves the layout and what the iterator walks as they are -/
theorem step_walk (e : Enc) : ∀ op : EncOp, Walk e (e.step op).1
  | .setGenerate _ => ⟨rfl, rfl⟩
  | .finish => Walk.refl e
  | .write w h => write_walk e w h false
  | .writeCancelled w h => write_walk e w h true

theorem linked_step (e : Enc) (hL : Linked e) (op : EncOp) : Linked (e.step op).1 :=
  (step_walk e op).linked hL

/-- `Linked` holds after any sequence of calls (induction over the list; no depth bound) -/
theorem linked_history (ops : List EncOp) : ∀ (e : Enc), Linked e → Linked (C11.run e ops).1 :=
  fun e hL => (run_induction (step := Enc.step) (run := C11.run) (fun _ => rfl) (fun _ _ _ => rfl)
    (Good := fun _ => True) (fun e op hL => ⟨linked_step e hL op, trivial⟩) ops e hL).1

end Dds.TrapMip
