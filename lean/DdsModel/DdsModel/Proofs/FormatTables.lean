/-
Helper lemmas for C19: quantification over the finite tables by complete evaluation, and the
structural lemmas for the default arms (arbitrary FourCC / mask values).
-/
import DdsModel.FormatTables
import DdsModel.Proofs.ListLemmas
import DdsModel.Proofs.SrcTables
namespace Dds.C19

theorem Format.mem_all (f : Format) : f ∈ Format.all :=
  List.mem_of_getElem? (i := f.ctorIdx) (by cases f <;> rfl)

theorem forall_format {P : Format → Prop} [DecidablePred P]
    (h : Format.all.all (fun f => decide (P f)) = true) : ∀ f, P f := by
  intro f
  have := List.all_eq_true.mp h f (Format.mem_all f)
  exact of_decide_eq_true this

theorem ColorFormat.mem_all (c : ColorFormat) : c ∈ ColorFormat.all := by
  cases c with
  | mk ch p => cases ch <;> cases p <;> decide

theorem Dithering.mem_all (d : Dithering) : d ∈ Dithering.all := by
  cases d with
  | mk c a => cases c <;> cases a <;> decide

theorem Format.ofH_toH : ∀ f : Format, Format.ofH f.toH = f := forall_format (by decide)

/-- the range pattern of `TryFrom<u32> for DxgiFormat` and the table of named constants describe the same codes -/
theorem dxgiValid_eq_row (code : Nat) : dxgiValid code = (dxgiRow? code).isSome := by
  rw [dxgiRow?, find?_isSome_eq_any, dxgiTable, List.any_map]
  exact SrcTables.codeAccepted_eq_named code

theorem dxgiValid_iff_row : ∀ code, code < 256 → (dxgiValid code = (dxgiRow? code).isSome) :=
  fun code _ => dxgiValid_eq_row code

/-- every accepted code fits the `u8` behind `DxgiFormat` -/
theorem dxgiValid_lt {v : Nat} (h : dxgiValid v = true) : v < 256 := SrcTables.codeAccepted_lt h

theorem dxgiTable_nodup : (dxgiTable.map (·.code)).Nodup := by
  rw [dxgiTable, List.map_map]
  exact SrcTables.dxgiNamed_nodup

theorem dxgiRow?_some {code : Nat} {r : DxgiRow} (h : dxgiRow? code = some r) : r ∈ dxgiTable ∧ r.code = code :=
  ⟨List.mem_of_find?_eq_some h, by simpa using List.find?_some h⟩

/-- `From<Format> for PixelInfo` never panics and gives the layout of the format definition -/
theorem formatPixelInfoP_eq : ∀ f : Format, formatPixelInfoP f = some f.row.px :=
  forall_format (by decide +kernel)

theorem dxgiTable_fmt_px : ∀ r ∈ dxgiTable, ∀ f, r.fmt = some f → r.px = some f.row.px := by decide +kernel

theorem specialCases_px : ∀ t ∈ SrcTables.specialCases, dxgiPixelInfo t.2.1 = some (Format.ofH t.2.2).row.px := by
  decide

theorem maskFind_some {pf : MaskPF} {f : Format} :
    ∀ rows : List MaskRow, maskFind pf rows = some f →
      ∃ row, row ∈ rows ∧ row.matches pf = true ∧ row.fmt = f
  | [], h => nomatch h
  | row :: rest, h => by
    unfold maskFind at h
    split at h
    · exact ⟨row, List.mem_cons_self, ‹_›, Option.some.inj h⟩
    · obtain ⟨r, hr, h1, h2⟩ := maskFind_some rest h
      exact ⟨r, List.mem_cons_of_mem _ hr, h1, h2⟩

theorem matches_bitCount {row : MaskRow} {pf : MaskPF} (h : row.matches pf = true) :
    pf.bitCount = row.pat.bitCount := by
  unfold MaskRow.matches at h
  simp only [Bool.and_eq_true, beq_iff_eq] at h
  exact h.1.1.1.1.2

/-- `maskRows` are the rows of `KNOWN_PIXEL_FORMATS`; the seeded defect C09h fails the build here -/
theorem maskRows_bitCount : ∀ row ∈ maskRows, row.fmt.row.px = .fixed ((row.pat.bitCount % 256) / 8) := by
  decide +kernel

/-- For every header from which a format is detected — ANY DXGI code and alpha mode, ANY FourCC value, ANY mask
pixel format — `PixelInfo::from_header` does not panic and returns the layout of that format. -/
theorem pixelInfoOfHeaderP_of_detected {h : Hdr} {f : Format} (hf : formatOfHeader h = .ok f) :
    pixelInfoOfHeaderP h = some (.ok f.row.px) := by
  cases h with
  | dx10 code alpha =>
    have key : dxgiPixelInfo code = some f.row.px := by
      simp only [formatOfHeader] at hf
      split at hf
      · rename_i g hs
        cases hf
        obtain ⟨t, ht, rfl⟩ := Option.map_eq_some_iff.mp hs
        have hc : t.2.1 = code := by
          have := List.find?_some ht
          simp only [Bool.and_eq_true, beq_iff_eq] at this
          exact this.2
        rw [← hc]
        exact specialCases_px t (List.mem_of_find?_eq_some ht)
      · split at hf
        · rename_i g hg
          cases hf
          obtain ⟨r, hr, hfm⟩ := Option.bind_eq_some_iff.mp hg
          rw [dxgiPixelInfo, hr]
          exact dxgiTable_fmt_px r (dxgiRow?_some hr).1 f hfm
        · cases hf
    simp only [pixelInfoOfHeaderP, key]
  | fourCC cc =>
    simp only [formatOfHeader] at hf
    split at hf
    · rename_i g hc
      cases hf
      simp only [pixelInfoOfHeaderP, hc, formatPixelInfoP_eq f, Option.map_some]
    · cases hf
  | mask pf =>
    simp only [formatOfHeader] at hf
    split at hf
    · rename_i g hc
      cases hf
      obtain ⟨row, hrow, hmatch, rfl⟩ := maskFind_some maskRows hc
      rw [pixelInfoOfHeaderP, matches_bitCount hmatch, maskRows_bitCount row hrow]
    · cases hf

end Dds.C19
