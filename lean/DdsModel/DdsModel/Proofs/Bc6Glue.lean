/-
C03x glue (BC6H): `Bc6.decodeBlock = Bc6Spec.decodeBlock` for every block, signed and unsigned.
-/
import DdsModel.Proofs.Bc6GlueExtract
import DdsModel.Proofs.Bc6GlueArith
import DdsModel.Proofs.ListLemmas
namespace Dds.Bc6
open Dds.BcTables Dds.Bc6Spec Dds.Bc7

deriving instance DecidableEq for Bc6Spec.ModeRec


theorem modeOf_low5 (b : Nat) : Bc6Spec.modeOf b = Bc6Spec.modeOf (b % 32) := by
  have e2 : b % 32 % 2 ^ 2 = b % 2 ^ 2 := Nat.mod_mod_of_dvd _ (by decide)
  have e5 : b % 32 % 2 ^ 5 = b % 2 ^ 5 := Nat.mod_mod_of_dvd _ (by decide)
  simp only [Bc6Spec.modeOf, Bc6Spec.modes, List.find?, e2, e5]

theorem extractMode_snd (b : Nat) : (extractMode b).2 = b >>> (if b % 4 < 2 then 2 else 5) := by
  have e3 : ∀ s, (consumeBits 3 s).2 = s >>> 3 := fun s => by rw [consumeBits_eq 3 s (by decide) (by decide)]
  simp only [extractMode, consumeBits_eq 2 b (by decide) (by decide), Nat.reducePow]
  by_cases h0 : b % 4 = 0
  · simp [h0]
  · by_cases h1 : b % 4 = 1
    · simp [h1]
    · by_cases h2 : b % 4 = 2
      · simp [h2, e3, ← Nat.shiftRight_add]
      · have : ¬ b % 4 < 2 := by omega
        simp only [h0, h1, h2, if_false, this]
        split <;> simp [e3, ← Nat.shiftRight_add]

/-- the mode the code selects, the record the spec selects, and the header start, for all 32 low-bit patterns -/
def dispatchOk (x : Nat) : Bool :=
  match (extractMode x).1 with
  | .two m => decide (Bc6Spec.modeOf x = some (recTwo m)) && decide ((if x % 4 < 2 then 2 else 5) = (recTwo m).modeBits)
  | .one m => decide (Bc6Spec.modeOf x = some (recOne m)) && decide ((if x % 4 < 2 then 2 else 5) = 5)
  | .invalid => decide (Bc6Spec.modeOf x = none)

theorem dispatchOk_true : ∀ x, x < 32 → dispatchOk x = true := by decide +kernel


theorem palette_getD (W : List Nat) (a b : Int) (prec : Nat) (signed : Bool) (idx : Nat) (h : idx < W.length) :
    (palette W a b prec signed).getD idx 0 =
      paletteEntry (Bc6.unquantize a prec signed) (Bc6.unquantize b prec signed) (W.getD idx 0) signed := by
  simp only [palette, List.getD_eq_getElem?_getD, List.getElem?_map, List.getElem?_eq_getElem h, Option.map_some,
    Option.getD_some]

theorem w3_le : ∀ idx, idx < 8 → implW6_3.getD idx 0 ≤ 64 := by decide
theorem w4_le : ∀ idx, idx < 16 → implW6_4.getD idx 0 ≤ 64 := by decide

/-- unquantize → interpolate → finish for two endpoint values in range: code = spec, no `i32` overflow -/
theorem entry_eq (signed : Bool) (bits : Nat) (a z : Int) (w : Nat) (hw : w ≤ 64)
    (hbits : bits ≤ 16) (ha : inRange signed bits a) (hz : inRange signed bits z) :
    paletteEntry (Bc6.unquantize a bits signed) (Bc6.unquantize z bits signed) w signed =
      finish signed (Bc6Spec.lerp (Bc6Spec.unquantize signed bits a) (Bc6Spec.unquantize signed bits z) w) := by
  obtain ⟨e1, r1⟩ := unquantize_eq signed bits a hbits ha
  obtain ⟨e2, r2⟩ := unquantize_eq signed bits z hbits hz
  rw [e1, e2]
  exact paletteEntry_eq signed _ _ w hw r1 r2

theorem two_params (m : ModeTwo) (c : Nat) (hc : c < 3) :
    let d := if c = 0 then m.deltaBitCount.1 else if c = 1 then m.deltaBitCount.2.1 else m.deltaBitCount.2.2
    6 ≤ m.a0BitCount ∧ m.a0BitCount ≤ 16 ∧ 1 ≤ d ∧ d ≤ m.a0BitCount ∧ (m.transformed = false → d = m.a0BitCount) ∧
    (d = m.deltaBitCount.1 ∨ d = m.deltaBitCount.2.1 ∨ d = m.deltaBitCount.2.2) := by
  have : c = 0 ∨ c = 1 ∨ c = 2 := by omega
  rcases this with h | h | h <;> subst h <;> cases m <;> decide

/-- one channel of a two-region block, at the level of raw field values -/
theorem chan_two (signed : Bool) (m : ModeTwo) (c : Nat) (hc : c < 3) (w x y z s idx : Nat)
    (hw : w < 2 ^ m.a0BitCount)
    (hx : x < 2 ^ (if c = 0 then m.deltaBitCount.1 else if c = 1 then m.deltaBitCount.2.1 else m.deltaBitCount.2.2))
    (hy : y < 2 ^ (if c = 0 then m.deltaBitCount.1 else if c = 1 then m.deltaBitCount.2.1 else m.deltaBitCount.2.2))
    (hz : z < 2 ^ (if c = 0 then m.deltaBitCount.1 else if c = 1 then m.deltaBitCount.2.1 else m.deltaBitCount.2.2))
    (hs : s < 2) (hidx : idx < 8) :
    let d := if c = 0 then m.deltaBitCount.1 else if c = 1 then m.deltaBitCount.2.1 else m.deltaBitCount.2.2
    let ws := decompressTwoChan m signed d (w : Int) (x : Int) (y : Int) (z : Int)
    (([palette implW6_3 (getI ws 0) (getI ws 1) m.a0BitCount signed,
       palette implW6_3 (getI ws 2) (getI ws 3) m.a0BitCount signed].getD s []).getD idx 0) =
      finish signed (Bc6Spec.lerp
        (Bc6Spec.unquantize signed m.a0BitCount
          (endpointV m.a0BitCount d m.transformed signed w ([w, x, y, z].getD (2 * s) 0) (2 * s)))
        (Bc6Spec.unquantize signed m.a0BitCount
          (endpointV m.a0BitCount d m.transformed signed w ([w, x, y, z].getD (2 * s + 1) 0) (2 * s + 1)))
        ((specWeights 3).getD idx 0)) := by
  intro d ws
  obtain ⟨p1, p2, p3, p4, p5, p6⟩ := two_params m c hc
  have hws : ws = _ := decompressTwoChan_eq m signed d w x y z p6 hw hx hy hz
  have hr : ∀ raw e, raw < 2 ^ d → inRange signed m.a0BitCount (endpointV m.a0BitCount d m.transformed signed w raw e) :=
    fun raw e hraw => endpointV_inRange _ _ _ _ _ _ _ p1 p2 p3 p4 p5 hw hraw
  have hr0 : inRange signed m.a0BitCount (endpointV m.a0BitCount d m.transformed signed w w 0) := by
    rw [endpointV_zero]; exact hr 0 0 (Nat.two_pow_pos _)
  have hW : specWeights 3 = implW6_3 := rfl
  rw [hws, hW]
  have hs' : s = 0 ∨ s = 1 := by omega
  rcases hs' with h | h <;> subst h
  · show (palette implW6_3 _ _ _ _).getD idx 0 = _
    rw [palette_getD _ _ _ _ _ _ (show idx < implW6_3.length from hidx)]
    exact entry_eq signed _ _ _ _ (w3_le idx hidx) p2 hr0 (hr x 1 hx)
  · show (palette implW6_3 _ _ _ _).getD idx 0 = _
    rw [palette_getD _ _ _ _ _ _ (show idx < implW6_3.length from hidx)]
    exact entry_eq signed _ _ _ _ (w3_le idx hidx) p2 (hr y 2 hy) (hr z 3 hz)



theorem two_eq (signed : Bool) (m : ModeTwo) (b : Nat)
    (hmode : extractMode b = (.two m, b >>> (recTwo m).modeBits))
    (hspec : Bc6Spec.modeOf b = some (recTwo m)) :
    Bc6.decodeBlock signed b = Bc6Spec.decodeBlock signed b := by
  obtain ⟨hreg, hprec, hdelta, htr, hhdr, _⟩ := recTwo_facts m
  obtain ⟨hst, hacc⟩ := extractTwo_eq m b
  unfold Bc6.decodeBlock Bc6Spec.decodeBlock
  rw [hmode, hspec]
  simp only [hst, hreg, hhdr, if_true, consumeBits_at 5 b 77 (by decide) (by decide)]
  apply map_range_congr
  intro i hi
  apply map_range_congr
  intro c hc
  rw [getD_map_range _ _ hc]
  have hpart : b / 2 ^ 77 % 32 = Bc7Spec.rd b 77 5 := rfl
  have hp : Bc7Spec.rd b 77 5 < 64 := Nat.lt_of_lt_of_le (rd_lt b 77 5) (by decide)
  have hsub := subset2Index_eq (Bc7Spec.rd b 77 5) i hp hi
  have hs2 := Nat.lt_succ_of_le (specSubset2_le (Bc7Spec.rd b 77 5) i hp hi)
  have hidx : getIndex (newP2 3 (b >>> (77 + 5)) (implP2 (Bc7Spec.rd b 77 5)).2).1 i =
      index b (77 + 5) 3 2 (Bc7Spec.rd b 77 5) i := index_impl2 3 b (77 + 5) _ i (by omega) hi hp
  have hk : index b (77 + 5) 3 2 (Bc7Spec.rd b 77 5) i < 8 := by
    show Bc7Spec.rd b _ _ < 2 ^ 3
    apply rd_lt_of_le
    split <;> omega
  obtain ⟨a0, l0⟩ := hacc c 0 hc (by decide)
  obtain ⟨a1, l1⟩ := hacc c 1 hc (by decide)
  obtain ⟨a2, l2⟩ := hacc c 2 hc (by decide)
  obtain ⟨a3, l3⟩ := hacc c 3 hc (by decide)
  simp only [fieldWidth, Nat.reduceEqDiff, if_true, if_false, hprec, deltaW, hdelta] at l0 l1 l2 l3
  rw [hpart, hidx, hsub, a0, a1, a2, a3]
  have hch := chan_two signed m c hc _ _ _ _ (specSubset 2 (Bc7Spec.rd b 77 5) i)
    (index b (77 + 5) 3 2 (Bc7Spec.rd b 77 5) i) l0 l1 l2 l3 hs2 hk
  simp only [] at hch
  rw [hch]
  simp only [endpoint_eq_V, hprec, htr, deltaW, hdelta]
  generalize specSubset 2 (Bc7Spec.rd b 77 5) i = s at hs2
  have hs' : s = 0 ∨ s = 1 := by omega
  rcases hs' with h | h <;> subst h <;> rfl


theorem one_params (m : ModeOne) :
    6 ≤ m.a0BitCount ∧ m.a0BitCount ≤ 16 ∧ 1 ≤ m.b0BitCount ∧ m.b0BitCount ≤ m.a0BitCount ∧
    (m.transformed = false → m.b0BitCount = m.a0BitCount) := by
  cases m <;> decide

theorem chan_one (signed : Bool) (m : ModeOne) (a z idx : Nat)
    (ha : a < 2 ^ m.a0BitCount) (hz : z < 2 ^ m.b0BitCount) (hidx : idx < 16) :
    let ab := decompressOneChan m signed (a : Int) (z : Int)
    (palette implW6_4 (getI ab 0) (getI ab 1) m.a0BitCount signed).getD idx 0 =
      finish signed (Bc6Spec.lerp
        (Bc6Spec.unquantize signed m.a0BitCount (endpointV m.a0BitCount m.b0BitCount m.transformed signed a a 0))
        (Bc6Spec.unquantize signed m.a0BitCount (endpointV m.a0BitCount m.b0BitCount m.transformed signed a z 1))
        ((specWeights 4).getD idx 0)) := by
  intro ab
  obtain ⟨p1, p2, p3, p4, p5⟩ := one_params m
  have hab : ab = _ := decompressOneChan_eq m signed a z ha hz
  have hr : ∀ raw e, raw < 2 ^ m.b0BitCount →
      inRange signed m.a0BitCount (endpointV m.a0BitCount m.b0BitCount m.transformed signed a raw e) :=
    fun raw e hraw => endpointV_inRange _ _ _ _ _ _ _ p1 p2 p3 p4 p5 ha hraw
  have hr0 : inRange signed m.a0BitCount (endpointV m.a0BitCount m.b0BitCount m.transformed signed a a 0) := by
    rw [endpointV_zero]; exact hr 0 0 (Nat.two_pow_pos _)
  have hW : specWeights 4 = implW6_4 := rfl
  rw [hab, hW, palette_getD _ _ _ _ _ _ (show idx < implW6_4.length from hidx)]
  exact entry_eq signed _ _ _ _ (w4_le idx hidx) p2 hr0 (hr z 1 hz)

theorem one_eq (signed : Bool) (m : ModeOne) (b : Nat)
    (hmode : extractMode b = (.one m, b >>> 5))
    (hspec : Bc6Spec.modeOf b = some (recOne m)) :
    Bc6.decodeBlock signed b = Bc6Spec.decodeBlock signed b := by
  have hok := oneOk_true m
  simp only [oneOk, Bool.and_eq_true, beq_iff_eq, List.all_eq_true, List.mem_range, decide_eq_true_eq,
    Bool.or_eq_true, Bool.not_eq_true'] at hok
  obtain ⟨⟨⟨⟨⟨⟨hreg, hprec⟩, hdelta⟩, htr⟩, hmb⟩, hhdr⟩, _⟩ := hok
  obtain ⟨hst, hacc⟩ := extractOne_eq m b
  unfold Bc6.decodeBlock Bc6Spec.decodeBlock
  rw [hmode, hspec]
  simp only [hst, hreg, hhdr, Nat.reduceEqDiff, if_false]
  apply map_range_congr
  intro i hi
  apply map_range_congr
  intro c hc
  rw [getD_map_range _ _ hc]
  have hidx : getIndex (newP1 4 (b >>> 65)).1 i = index b 65 4 1 0 i :=
    index_impl1 4 b 65 1 0 i (by omega) hi (by decide) (by decide)
  have hk : index b 65 4 1 0 i < 16 := by
    show Bc7Spec.rd b _ _ < 2 ^ 4
    apply rd_lt_of_le
    split <;> omega
  obtain ⟨a0, a1, l0, l1⟩ := hacc c hc
  have hdw : deltaW (recOne m) c = m.b0BitCount := by
    simp only [deltaW, hdelta]; split
    · rfl
    · split <;> rfl
  simp only [fieldWidth, if_true, if_false, hprec, hdw, Nat.one_ne_zero] at l0 l1
  rw [hidx, a0, a1]
  have hch := chan_one signed m _ _ (index b 65 4 1 0 i) l0 l1 hk
  simp only [] at hch
  rw [hch]
  simp only [endpoint_eq_V, hprec, htr, hdw, specSubset1, Nat.mul_zero, Nat.zero_add]


theorem dispatch (b : Nat) :
    match (extractMode b).1 with
    | .two m => Bc6Spec.modeOf b = some (recTwo m) ∧ extractMode b = (.two m, b >>> (recTwo m).modeBits)
    | .one m => Bc6Spec.modeOf b = some (recOne m) ∧ extractMode b = (.one m, b >>> 5)
    | .invalid => Bc6Spec.modeOf b = none := by
  have hx : b % 32 < 32 := Nat.mod_lt _ (by decide)
  have hd := dispatchOk_true (b % 32) hx
  have h1 := extractMode_low5 b
  have h2 := extractMode_snd b
  have h3 := modeOf_low5 b
  have h4 : b % 32 % 4 = b % 4 := by omega
  unfold dispatchOk at hd
  rw [h4, ← h1] at hd
  cases hm : (extractMode b).1 <;> rw [hm] at hd <;> simp only [Bool.and_eq_true, decide_eq_true_eq] at hd
  · exact ⟨h3.trans hd.1, by rw [← hd.2, ← h2, ← hm]⟩
  · exact ⟨h3.trans hd.1, by rw [← hd.2, ← h2, ← hm]⟩
  · exact h3.trans hd

theorem decodeBlock_eq (signed : Bool) (b : Nat) : Bc6.decodeBlock signed b = Bc6Spec.decodeBlock signed b := by
  have hd := dispatch b
  cases hm : (extractMode b).1 with
  | two m => rw [hm] at hd; exact two_eq signed m b hd.2 hd.1
  | one m => rw [hm] at hd; exact one_eq signed m b hd.2 hd.1
  | invalid =>
    rw [hm] at hd
    simp only [Bc6.decodeBlock, hm, Bc6Spec.decodeBlock, hd]

end Dds.Bc6
