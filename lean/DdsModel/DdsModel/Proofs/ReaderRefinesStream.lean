/-
C01, reader ⊑ cursor, the stream side: one `decode` / `decode_rect` / `io_skip_exact` over an ARBITRARY stream.

`C06.io_error_or_exact_success` / `C06.success_consumes_exactly` / `C07.memory_limit_exceeded_iff` speak
about an allocator that grants and a limit that covers the need.  The composition theorem needs the
same facts for every allocator and every limit (`Stream.run_outcome`), in the form "what does each
result kind tell about the reader position and the stream":
* `ok`        ⇒ the reader moved by exactly the encoded length of the surface,
* `memLimit`  ⇒ the reader did not move, and the limit is below the need or the allocator refused,
* `ioError`   ⇒ the first offset the stream cannot deliver lies before the end of the surface,
* nothing else is returned by an accepted call.
-/
import DdsModel.Reader
import DdsModel.Theorems.C06
namespace Dds.Reader
open Dds Dds.Stream

/-- **What each result of an accepted `decode` / `decode_rect` says**, on every stream (any length,
fault, early end, seek behaviour), for every allocator and every memory limit. -/
theorem run_facts {f : Fam} (hf : f.WF) (c : Colour) (call : Call) {ops : List Stream.Op}
    (hplan : plan f c call = .ok ops) (e : Env) (pos limit : Nat) (hU : pos + call.bytes f < U64) :
    ((Stream.run e [] (plan f c call) pos limit).1 = .ok ∨
      (Stream.run e [] (plan f c call) pos limit).1 = .ioError ∨
      (Stream.run e [] (plan f c call) pos limit).1 = .memLimit) ∧
    ((Stream.run e [] (plan f c call) pos limit).1 = .ok →
      (Stream.run e [] (plan f c call) pos limit).2.pos = pos + call.bytes f) ∧
    ((Stream.run e [] (plan f c call) pos limit).1 = .memLimit →
      (Stream.run e [] (plan f c call) pos limit).2.pos = pos ∧
      (limit < need ops ∨ ¬ C06.AllocatorGrants e)) ∧
    ((Stream.run e [] (plan f c call) pos limit).1 = .ioError → e.len < U64 →
      e.lim < pos + call.bytes f) := by
  rw [← C06.trace_covers_surface hf hplan] at hU ⊢
  have hpos : (Stream.run e [] (plan f c call) pos limit).1 = .memLimit →
      (Stream.run e [] (plan f c call) pos limit).2.pos = pos := fun hm =>
    (C06.non_io_error_keeps_position hf c call e [] pos limit (by rw [hm]; decide) (by rw [hm]; decide)).1
  cases run_outcome hf hplan e [] pos limit hU with
  | ok hr hp _ =>
    exact ⟨.inl hr, fun _ => hp, fun h => Res.noConfusion (hr.symm.trans h),
      fun h => Res.noConfusion (hr.symm.trans h)⟩
  | io hr hlim =>
    exact ⟨.inr (.inl hr), fun h => Res.noConfusion (hr.symm.trans h),
      fun h => Res.noConfusion (hr.symm.trans h), fun _ => hlim⟩
  | mem hr hbud =>
    exact ⟨.inr (.inr hr), fun h => Res.noConfusion (hr.symm.trans h),
      fun hm => ⟨hpos hm, (Classical.em _).imp hbud id⟩, fun h => Res.noConfusion (hr.symm.trans h)⟩

/-- a rect that is not inside the surface is rejected before anything else happens (the surface itself
being acceptable) -/
theorem plan_rect_outside {f : Fam} (c : Colour) (W H x y w h : Nat)
    (hc : checkLikelyOverflow f W H = true)
    (hout : ¬ (if w = 0 ∨ h = 0 then x ≤ W ∧ y ≤ H else x + w ≤ W ∧ y + h ≤ H)) :
    plan f c (.rect W H x y w h) = .error .rectOutOfBounds := by
  simp only [plan, hc, Bool.true_eq_false, if_false]
  by_cases he : w = 0 ∨ h = 0
  · rw [if_pos he] at hout ⊢; rw [if_neg hout]
  · rw [if_neg he] at hout ⊢; rw [if_neg hout]

end Dds.Reader
