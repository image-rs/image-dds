/- The layout header of a well-formed header is in C02's range, and the layout computations on it cannot panic. -/
import DdsModel.Proofs.Header
import DdsModel.Theorems.C02
namespace Dds

theorem Header.toLayoutHeader_inRange {h : Header} (hwf : h.WF) : C02.HeaderInRange h.toLayoutHeader := by
  cases h with
  | dx9 x =>
    obtain ⟨a, b, c, _⟩ := hwf
    refine ⟨a, b, ?_, ?_⟩
    · intro v hv
      simp only [Header.toLayoutHeader] at hv
      rw [hv] at c; exact c
    · intro c' dim n hk; cases hk
  | dx10 x =>
    obtain ⟨a, b, c, _, _, _, _, harr, _⟩ := hwf
    refine ⟨a, b, ?_, ?_⟩
    · intro v hv
      simp only [Header.toLayoutHeader] at hv
      rw [hv] at c; exact c
    · intro c' dim n hk
      simp only [Header.toLayoutHeader, HeaderKind.dx10.injEq] at hk
      rw [← hk.2.2]; exact harr

theorem Header.toLayoutHeader_mips {h : Header} (hwf : h.WF) : 1 ≤ h.toLayoutHeader.mipmapCount := by
  cases h with
  | dx9 x => exact hwf.2.2.2.1
  | dx10 x => exact hwf.2.2.2.1

/-- The layout computations behind `Header.layoutLen` / the `test` closure of
`fix_based_on_file_len` do not panic for a well-formed header and pixel info: `layoutOf`
returns, and the `data_len()` of a returned layout is defined (no `unwrap` on `None`). -/
theorem Header.layoutLen_no_panic {h : Header} (hwf : h.WF) {px : PixelInfo} (hp : px.WF) :
    layoutOf h.toLayoutHeader px ≠ none ∧
    ∀ L, layoutOf h.toLayoutHeader px = some (.ok L) → ∃ n, L.dataLenP = some n ∧ n < U64 := by
  refine ⟨layoutOf_ne_none _ _ hp, fun L hL => ?_⟩
  obtain ⟨hv, _⟩ := C02.layoutOf_valid _ _ hp (Header.toLayoutHeader_inRange hwf) L hL
  obtain ⟨_, h2, h3⟩ := C02.flatten_eq_spec L hv
  exact ⟨_, h2, h3⟩

end Dds
