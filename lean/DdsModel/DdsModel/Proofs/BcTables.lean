/-
Finite facts about the BC6H/BC7 tables, all by complete evaluation in the kernel: each table is evaluated once, by a
Boolean checker; every other statement about the partition and anchor tables is read off `spec_tables_wf` and
`impl_tables_eq_spec`.
-/
import DdsModel.BcTables
namespace Dds.BcTables

def specWellformed : Bool :=
  specP2.length = 64 && specP3.length = 64 && specAnchor2.length = 64 && specAnchor3a.length = 64 &&
  specAnchor3b.length = 64 &&
  (List.range 64).all (fun p =>
    -- two subsets
    specSubset 2 p 0 = 0 &&
    (List.range 16).all (fun i => specSubset 2 p i ≤ 1) &&
    specAnchor2.getD p 0 < 16 && specAnchor2.getD p 0 ≠ 0 &&
    specSubset 2 p (specAnchor2.getD p 0) = 1 &&
    -- three subsets
    specSubset 3 p 0 = 0 &&
    (List.range 16).all (fun i => specSubset 3 p i ≤ 2) &&
    specAnchor3a.getD p 0 < 16 && specAnchor3b.getD p 0 < 16 &&
    specSubset 3 p (specAnchor3a.getD p 0) = 1 &&
    specSubset 3 p (specAnchor3b.getD p 0) = 2)

theorem specWellformed_true : specWellformed = true := by decide +kernel

/-- the code's tables (parsed from its literals by the models of `subset2`/`subset3`) against the spec tables -/
def implMatchesSpec : Bool :=
  implP2Lit.length = 64 && implP3Lit.length = 64 &&
  (List.range 64).all (fun p =>
    (List.range 16).all (fun i => subset2Index (implP2 p) i = specSubset 2 p i) &&
    (implP2 p).2 = specAnchor2.getD p 0 &&
    (List.range 16).all (fun i => subset3Index (implP3 p) i = specSubset 3 p i) &&
    (implP3 p).2.1 = min (specAnchor3a.getD p 0) (specAnchor3b.getD p 0) &&
    (implP3 p).2.2 = max (specAnchor3a.getD p 0) (specAnchor3b.getD p 0) &&
    0 < (implP2 p).2 && 0 < (implP3 p).2.1 && (implP3 p).2.1 < (implP3 p).2.2 && (implP3 p).2.2 < 16)

theorem implMatchesSpec_true : implMatchesSpec = true := by decide +kernel

/-! The two checkers above, partition by partition. -/

theorem spec_tables_wf (p : Nat) (hp : p < 64) :
    specSubset 2 p 0 = 0 ∧ (∀ i, i < 16 → specSubset 2 p i ≤ 1) ∧
    0 < specAnchor2.getD p 0 ∧ specAnchor2.getD p 0 < 16 ∧ specSubset 2 p (specAnchor2.getD p 0) = 1 ∧
    specSubset 3 p 0 = 0 ∧ (∀ i, i < 16 → specSubset 3 p i ≤ 2) ∧
    specAnchor3a.getD p 0 < 16 ∧ specAnchor3b.getD p 0 < 16 ∧
    specSubset 3 p (specAnchor3a.getD p 0) = 1 ∧ specSubset 3 p (specAnchor3b.getD p 0) = 2 := by
  have h := specWellformed_true
  simp only [specWellformed, Bool.and_eq_true, List.all_eq_true, List.mem_range, decide_eq_true_eq, and_assoc] at h
  obtain ⟨h1, h2, h3, h4, h5, h6, h7, h8, h9, h10, h11⟩ := h.2.2.2.2.2 p hp
  exact ⟨h1, h2, Nat.pos_of_ne_zero h4, h3, h5, h6, h7, h8, h9, h10, h11⟩

theorem impl_tables_eq_spec (p : Nat) (hp : p < 64) :
    (∀ i, i < 16 → subset2Index (implP2 p) i = specSubset 2 p i) ∧
    (implP2 p).2 = specAnchor2.getD p 0 ∧
    (∀ i, i < 16 → subset3Index (implP3 p) i = specSubset 3 p i) ∧
    (implP3 p).2.1 = min (specAnchor3a.getD p 0) (specAnchor3b.getD p 0) ∧
    (implP3 p).2.2 = max (specAnchor3a.getD p 0) (specAnchor3b.getD p 0) ∧
    0 < (implP2 p).2 ∧ 0 < (implP3 p).2.1 ∧ (implP3 p).2.1 < (implP3 p).2.2 ∧ (implP3 p).2.2 < 16 := by
  have h := implMatchesSpec_true
  simp only [implMatchesSpec, Bool.and_eq_true, List.all_eq_true, List.mem_range, decide_eq_true_eq, and_assoc] at h
  exact h.2.2 p hp

theorem subset2Index_eq (p i : Nat) (hp : p < 64) (hi : i < 16) : subset2Index (implP2 p) i = specSubset 2 p i :=
  (impl_tables_eq_spec p hp).1 i hi
theorem subset3Index_eq (p i : Nat) (hp : p < 64) (hi : i < 16) : subset3Index (implP3 p) i = specSubset 3 p i :=
  (impl_tables_eq_spec p hp).2.2.1 i hi
theorem specSubset2_le (p i : Nat) (hp : p < 64) (hi : i < 16) : specSubset 2 p i ≤ 1 := (spec_tables_wf p hp).2.1 i hi
theorem specSubset3_le (p i : Nat) (hp : p < 64) (hi : i < 16) : specSubset 3 p i ≤ 2 :=
  (spec_tables_wf p hp).2.2.2.2.2.2.1 i hi
theorem subset2Index_le (p i : Nat) (hp : p < 64) (hi : i < 16) : subset2Index (implP2 p) i ≤ 1 :=
  subset2Index_eq p i hp hi ▸ specSubset2_le p i hp hi
theorem subset3Index_le (p i : Nat) (hp : p < 64) (hi : i < 16) : subset3Index (implP3 p) i ≤ 2 :=
  subset3Index_eq p i hp hi ▸ specSubset3_le p i hp hi

/-- The anchors of a partition as the code stores them (pixel 0 and the fix-up indices), highest first: a descending
list of pixels, and the pixels the specification calls anchors. -/
theorem anchorList2 (p : Nat) (hp : p < 64) :
    [(implP2 p).2, 0].Pairwise (· > ·) ∧ (∀ a ∈ [(implP2 p).2, 0], a < 16) ∧
    ∀ j, specIsAnchor 2 p j = true ↔ j ∈ [(implP2 p).2, 0] := by
  obtain ⟨_, hf, _, _, _, h0, _⟩ := impl_tables_eq_spec p hp
  have h16 := (spec_tables_wf p hp).2.2.2.1
  refine ⟨List.pairwise_pair.mpr h0, fun a ha => ?_, fun j => ?_⟩
  · simp only [List.mem_cons, List.not_mem_nil, or_false] at ha
    omega
  · simp only [specIsAnchor, hf, Bool.or_eq_true, Bool.and_eq_true, decide_eq_true_eq, List.mem_cons,
      List.not_mem_nil, Nat.reduceEqDiff, true_and, false_and, or_false]
    omega

theorem anchorList3 (p : Nat) (hp : p < 64) :
    [(implP3 p).2.2, (implP3 p).2.1, 0].Pairwise (· > ·) ∧ (∀ a ∈ [(implP3 p).2.2, (implP3 p).2.1, 0], a < 16) ∧
    ∀ j, specIsAnchor 3 p j = true ↔ j ∈ [(implP3 p).2.2, (implP3 p).2.1, 0] := by
  obtain ⟨_, _, _, h2, h3, _, h0, h23, h16⟩ := impl_tables_eq_spec p hp
  refine ⟨?_, fun a ha => ?_, fun j => ?_⟩
  · simp only [List.pairwise_cons, List.mem_cons, List.not_mem_nil, or_false, forall_eq_or_imp, forall_eq,
      false_imp_iff, implies_true, List.Pairwise.nil, and_true]
    omega
  · simp only [List.mem_cons, List.not_mem_nil, or_false] at ha
    omega
  · simp only [specIsAnchor, h2, h3, Bool.or_eq_true, Bool.and_eq_true, decide_eq_true_eq, List.mem_cons,
      List.not_mem_nil, Nat.reduceEqDiff, true_and, false_and, or_false]
    omega

theorem anchorList1 (n p j : Nat) (hn : n ≠ 2) (hn' : n ≠ 3) : specIsAnchor n p j = true ↔ j ∈ [0] := by
  simp [specIsAnchor, hn, hn']

theorem weights7_x4 :
    implW7_2 = specW2.map (· * 4) ∧ implW7_3 = specW3.map (· * 4) ∧ implW7_4 = specW4.map (· * 4) := by decide
theorem weights6_eq : implW6_3 = specW3 ∧ implW6_4 = specW4 := by decide

theorem weights_sum_64 :
    (∀ i, i < 4 → specW2.getD i 0 + specW2.getD (3 - i) 0 = 64) ∧
    (∀ i, i < 8 → specW3.getD i 0 + specW3.getD (7 - i) 0 = 64) ∧
    (∀ i, i < 16 → specW4.getD i 0 + specW4.getD (15 - i) 0 = 64) := by decide

end Dds.BcTables
