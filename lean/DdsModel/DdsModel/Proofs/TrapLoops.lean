/- Proofs for `TrapLoops.lean` (C01): vocabulary lemmas, `ImageViewMut` row access, `UntypedLineBuffer`,
`process_pixels`, the two pixel loops, `read_exact_image` / `for_each_slice`. -/
import DdsModel.TrapLoops
import DdsModel.Proofs.TrapUnc
import DdsModel.Proofs.StreamPaths
import DdsModel.Proofs.Addr
import DdsModel.Proofs.NatLemmas
import DdsModel.Proofs.TrapWp
namespace Dds.TrapLoops
open Dds Dds.Trap

/-- the machine sizes as numerals, for `omega` -/
theorem sizes : U32B = 2 ^ 32 ∧ USIZE = 2 ^ 64 ∧ I64MAX + 1 = 2 ^ 63 := ⟨rfl, rfl, rfl⟩

/-- the conversion buffer is a tuning constant: only this much of it is used -/
theorem bufBytes_bounds : 240 ≤ BUFFER_BYTES ∧ BUFFER_BYTES < 2 ^ 20 := by decide

section
variable {Q : Nat → Prop}
@[wp ↓] theorem ret_ckU {x : Nat} : Ret (ckU x) Q ↔ x < USIZE ∧ Q x := by unfold ckU; exact ret_ck
@[wp ↓] theorem ret_ck32 {x : Nat} : Ret (ck32 x) Q ↔ x < U32B ∧ Q x := by unfold ck32; exact ret_ck
@[wp ↓] theorem ret_modT {a b : Nat} : Ret (modT a b) Q ↔ b ≠ 0 ∧ Q (a % b) := by unfold modT; exact ret_guard_not
@[wp ↓] theorem ret_divCeilT {a b : Nat} : Ret (divCeilT a b) Q ↔ b ≠ 0 ∧ Q (divCeil a b) := by
  unfold divCeilT; exact ret_guard_not
end
section
variable {Q : Sl → Prop} {s : Sl}
@[wp ↓] theorem ret_range {a b : Nat} : Ret (s.range a b) Q ↔ (a ≤ b ∧ b ≤ s.len) ∧ Q ⟨s.buf, s.off + a, b - a⟩ := by
  unfold Sl.range; exact ret_guard
@[wp ↓] theorem ret_upto {b : Nat} : Ret (s.upto b) Q ↔ b ≤ s.len ∧ Q ⟨s.buf, s.off, b⟩ := by
  unfold Sl.upto
  rw [ret_range]
  exact ⟨fun h => ⟨h.1.2, h.2⟩, fun h => ⟨⟨Nat.zero_le _, h.1⟩, h.2⟩⟩
@[wp ↓] theorem ret_drop {a : Nat} : Ret (s.drop a) Q ↔ a ≤ s.len ∧ Q ⟨s.buf, s.off + a, s.len - a⟩ := by
  unfold Sl.drop
  rw [ret_range]
  exact ⟨fun h => ⟨h.1.1, h.2⟩, fun h => ⟨⟨h.1, Nat.le_refl _⟩, h.2⟩⟩
end

/- A slice that holds `n` elements of `k` bytes, cut at element indices: the byte bounds are the images of the element
bounds, the byte offsets cannot overflow (they stay below the slice length), and what comes out is again counted in
elements.  These rules take the whole idiom (the products, then the cut) at once; passed to `simp only` as
`↓ret_unitRange hs hlt hk` next to `wp` they fire before the rules of the single operators.  They match the element
size as it stands in `hs`: a size the mirror reads by `bppT` has to be in place when the walk arrives, so `ret_bppT` is
passed root-first as well (`↓ret_bppT hp`). -/
section
variable {β : Type} {s : Sl} {n k a b : Nat} {Q : β → Prop}

/-- `&s[a * k .. b * k]` -/
theorem ret_unitRange {f : Sl → Option β} (hs : s.len = n * k) (hlt : s.len < USIZE) (hk : 0 < k) :
    Ret (ckU (a * k) >>= fun x => ckU (b * k) >>= fun y => s.range x y >>= f) Q ↔
      (a ≤ b ∧ b ≤ n) ∧ Ret (f ⟨s.buf, s.off + a * k, (b - a) * k⟩) Q := by
  simp only [wp, hs, ← Nat.sub_mul]
  rw [hs] at hlt
  constructor
  · rintro ⟨_, _, ⟨h1, h2⟩, q⟩
    exact ⟨⟨Nat.le_of_mul_le_mul_right h1 hk, Nat.le_of_mul_le_mul_right h2 hk⟩, q⟩
  · rintro ⟨⟨h1, h2⟩, q⟩
    have e1 := Nat.mul_le_mul_right k h1
    have e2 := Nat.mul_le_mul_right k h2
    exact ⟨by omega, by omega, ⟨e1, e2⟩, q⟩

/-- `&s[a * k .. (a + 1) * k]`: row `a` of `n` rows of `k` bytes -/
theorem ret_unitRow {f : Sl → Option β} (hs : s.len = k * n) (hlt : s.len < USIZE) (hk : 0 < k) :
    Ret (ckU (a * k) >>= fun x => ckU (a + 1) >>= fun a1 => ckU (a1 * k) >>= fun y => s.range x y >>= f) Q ↔
      a < n ∧ Ret (f ⟨s.buf, s.off + a * k, k⟩) Q := by
  simp only [wp, hs, Nat.succ_mul, Nat.add_sub_cancel_left]
  rw [hs] at hlt
  constructor
  · rintro ⟨_, _, _, ⟨_, h2⟩, q⟩
    rw [← Nat.succ_mul, Nat.mul_comm k] at h2
    exact ⟨Nat.le_of_mul_le_mul_right h2 hk, q⟩
  · rintro ⟨h1, q⟩
    have e := Nat.mul_le_mul_left k (Nat.succ_le_of_lt h1)
    have := Nat.le_mul_of_pos_left n hk
    rw [Nat.mul_succ, Nat.mul_comm k a] at e
    exact ⟨by omega, by omega, by omega, ⟨by omega, e⟩, q⟩

/-- `&s[..a * k]`; the byte offset stays with the continuation (`&s[a * k..]` follows) -/
theorem ret_unitUpto {f : Nat → Sl → Option β} (hs : s.len = n * k) (hlt : s.len < USIZE) (hk : 0 < k) :
    Ret (ckU (a * k) >>= fun x => s.upto x >>= f x) Q ↔ a ≤ n ∧ Ret (f (a * k) ⟨s.buf, s.off, a * k⟩) Q := by
  simp only [wp, hs]
  rw [hs] at hlt
  exact ⟨fun ⟨_, h, q⟩ => ⟨Nat.le_of_mul_le_mul_right h hk, q⟩,
    fun ⟨h, q⟩ => have e := Nat.mul_le_mul_right k h; ⟨by omega, e, q⟩⟩

/-- `&s[a * k..]` -/
theorem ret_unitDrop {f : Sl → Option β} (hs : s.len = n * k) (hk : 0 < k) :
    Ret (s.drop (a * k) >>= f) Q ↔ a ≤ n ∧ Ret (f ⟨s.buf, s.off + a * k, (n - a) * k⟩) Q := by
  simp only [wp, hs, ← Nat.sub_mul]
  exact ⟨fun ⟨h, q⟩ => ⟨Nat.le_of_mul_le_mul_right h hk, q⟩, fun ⟨h, q⟩ => ⟨Nat.mul_le_mul_right k h, q⟩⟩
end


def Wr (R : Sl → Prop) (evs : List Ev) : Prop := ∀ s, Ev.wr s ∈ evs → R s

theorem ios_append (a b : List Ev) : ios (a ++ b) = ios a ++ ios b := by
  induction a with
  | nil => rfl
  | cons x t ih => cases x <;> simp [ios, ih]

theorem Wr.nil (R : Sl → Prop) : Wr R [] := by intro s h; cases h
theorem Wr.append {R : Sl → Prop} {a b : List Ev} (ha : Wr R a) (hb : Wr R b) : Wr R (a ++ b) := by
  intro s h
  rcases List.mem_append.mp h with h | h
  · exact ha s h
  · exact hb s h
theorem Wr.mono {R S : Sl → Prop} {a : List Ev} (h : Wr R a) (hi : ∀ s, R s → S s) : Wr S a :=
  fun s hs => hi s (h s hs)
theorem Wr.io (R : Sl → Prop) (o : Stream.Op) : Wr R [Ev.io o] := by
  intro s h; simp at h
theorem Wr.one {R : Sl → Prop} {s : Sl} (h : R s) : Wr R [Ev.wr s] := by
  intro t ht; simp at ht; subst ht; exact h

theorem mem_outWrites {evs : List Ev} {s : Sl} : s ∈ outWrites evs ↔ Ev.wr s ∈ evs ∧ s.buf = .out := by
  induction evs with
  | nil => simp [outWrites]
  | cons x t ih =>
    cases x with
    | io o => simp [outWrites, ih]
    | wr u =>
      by_cases hu : u.buf = .out <;> simp only [outWrites, hu, if_true, if_false, List.mem_cons, ih, Ev.wr.injEq]
      · exact ⟨fun h => h.elim (fun e => ⟨.inl e, e ▸ hu⟩) fun h => ⟨.inr h.1, h.2⟩,
          fun h => h.1.elim .inl fun h1 => .inr ⟨h1, h.2⟩⟩
      · exact ⟨fun h => ⟨.inr h.1, h.2⟩, fun h => h.1.elim (fun e => absurd (e ▸ h.2) hu) fun h1 => ⟨h1, h.2⟩⟩

/-- the usual claim about the events of a helper: no reader / allocator operation, every write satisfies `R` -/
def Quiet (R : Sl → Prop) (evs : List Ev) : Prop := ios evs = [] ∧ Wr R evs

theorem Quiet.nil (R : Sl → Prop) : Quiet R [] := ⟨rfl, Wr.nil R⟩
theorem Quiet.append {R : Sl → Prop} {a b : List Ev} (ha : Quiet R a) (hb : Quiet R b) : Quiet R (a ++ b) :=
  ⟨by rw [ios_append, ha.1, hb.1]; rfl, ha.2.append hb.2⟩
theorem Quiet.mono {R S : Sl → Prop} {a : List Ev} (h : Quiet R a) (hi : ∀ s, R s → S s) : Quiet S a :=
  ⟨h.1, h.2.mono hi⟩
theorem Quiet.one {R : Sl → Prop} {s : Sl} (h : R s) : Quiet R [Ev.wr s] := ⟨rfl, Wr.one h⟩
theorem Quiet.one_iff {R : Sl → Prop} {s : Sl} : Quiet R [Ev.wr s] ↔ R s :=
  ⟨fun h => h.2 s (List.mem_singleton.2 rfl), Quiet.one⟩

/-- what is shown of a helper: the mirror returns, and its events are `Quiet R` -/
abbrev Runs (f : Option (List Ev)) (R : Sl → Prop) : Prop := Ret f (Quiet R)

theorem Runs.mono {f : Option (List Ev)} {R S : Sl → Prop} (h : Runs f R) (hi : ∀ s, R s → S s) : Runs f S :=
  h.imp fun _ h => ⟨h.1, h.2.mono hi⟩

theorem Runs.bind {a : Option (List Ev)} {k : List Ev → Option (List Ev)} {R : Sl → Prop} (ha : Runs a R)
    (hk : ∀ e, Quiet R e → Runs (k e) R) : Runs (a >>= k) R := by
  obtain ⟨e, he, q⟩ := ha
  rw [he, bind_some']
  exact hk e q

theorem Runs.seq {a b : Option (List Ev)} {R : Sl → Prop} (ha : Runs a R) (hb : Runs b R) :
    Runs (do let e1 ← a; let e2 ← b; pure (e1 ++ e2)) R :=
  ha.bind fun _ q1 => hb.bind fun _ q2 => ⟨_, rfl, q1.append q2⟩

/-- two helpers one after the other, their events concatenated -/
theorem Ret.seq {a b : Option (List Ev)} {R : Sl → Prop} (ha : Ret a (Quiet R)) (hb : Ret b (Quiet R)) :
    Ret a fun e1 => Ret b fun e2 => Quiet R (e1 ++ e2) :=
  ha.mono fun _ q1 => hb.mono fun _ q2 => q1.append q2

/-- a mirror that returns a pair, for the contracts written `∃ a b, m = some (a, b) ∧ …` (loop bodies) -/
theorem Ret.pair {α β} {m : Option (α × β)} {P : α → β → Prop} (h : Ret m fun r => P r.1 r.2) :
    ∃ a b, m = some (a, b) ∧ P a b :=
  let ⟨r, e, p⟩ := h
  ⟨r.1, r.2, e, p⟩


theorem forT_nil {α} (body : α → Option (List Ev)) : forT body [] = some [] := rfl

theorem forT_cons {α} (body : α → Option (List Ev)) (x : α) (l : List α) {e r : List Ev}
    (hx : body x = some e) (hl : forT body l = some r) : forT body (x :: l) = some (e ++ r) := by
  unfold forT at hl ⊢
  unfold mapT at hl ⊢
  simp only [List.map_cons, hx, allSome]
  cases h : allSome (List.map body l) with
  | none => rw [h] at hl; cases hl
  | some rr => rw [h] at hl; simp only [Option.some.injEq] at hl; subst hl; simp

/-- a loop of independent iterations with a known reader trace per iteration -/
theorem forT_spec {α} (body : α → Option (List Ev)) (g : α → List Stream.Op) (R : Sl → Prop) :
    ∀ l : List α, (∀ x ∈ l, ∃ e, body x = some e ∧ ios e = g x ∧ Wr R e) →
      ∃ evs, forT body l = some evs ∧ ios evs = l.flatMap g ∧ Wr R evs
  | [], _ => ⟨[], rfl, rfl, Wr.nil R⟩
  | x :: l, h => by
    obtain ⟨e, he, ie, we⟩ := h x (List.mem_cons_self ..)
    obtain ⟨r, hr, ir, wr⟩ := forT_spec body g R l (fun y hy => h y (List.mem_cons_of_mem _ hy))
    exact ⟨e ++ r, forT_cons body x l he hr, by rw [ios_append, ie, ir, List.flatMap_cons], we.append wr⟩

theorem forT_quiet {α} {body : α → Option (List Ev)} {R : Sl → Prop} {l : List α} (h : ∀ x ∈ l, Runs (body x) R) :
    Runs (forT body l) R := by
  obtain ⟨evs, he, hi, hw⟩ := forT_spec body (fun _ => []) R l h
  exact ⟨evs, he, hi.trans (List.flatMap_eq_nil_iff.2 fun _ _ => rfl), hw⟩

theorem Ret.forT {α} {body : α → Option (List Ev)} {R : Sl → Prop} {l : List α} (h : ∀ x ∈ l, Ret (body x) (Quiet R)) :
    Ret (forT body l) (Quiet R) := forT_quiet h

theorem forT_none {α} (body : α → Option (List Ev)) (l : List α) (x : α) (hx : x ∈ l) (hn : body x = none) :
    forT body l = none := by
  have : mapT body l = none := by
    unfold mapT
    induction l with
    | nil => cases hx
    | cons y t ih =>
      simp only [List.map_cons]
      rcases List.mem_cons.mp hx with rfl | h
      · rw [hn]; rfl
      · cases hy : body y with
        | none => rfl
        | some e => simp only [allSome, ih h]
  unfold forT; rw [this]

/-- where a write may go: into the conversion buffer, or inside the slice `d` -/
def WrOK (d : Sl) (s : Sl) : Prop :=
  s.buf = .tmp ∨ (s.buf = d.buf ∧ d.off ≤ s.off ∧ s.off + s.len ≤ d.off + d.len)

theorem WrOK.self (d : Sl) : WrOK d d := Or.inr ⟨rfl, Nat.le_refl _, Nat.le_refl _⟩

theorem WrOK.sub {d d' s : Sl} (h : WrOK d' s) (hb : d'.buf = d.buf) (h1 : d.off ≤ d'.off)
    (h2 : d'.off + d'.len ≤ d.off + d.len) : WrOK d s := by
  rcases h with h | ⟨a, b, c⟩
  · exact Or.inl h
  · exact Or.inr ⟨a.trans hb, by omega, by omega⟩

theorem WrOK.tmp {d s : Sl} (h : WrOK d s) (hd : d.buf = .tmp) (x : Sl) : WrOK x s := by
  rcases h with h | ⟨a, _, _⟩
  · exact Or.inl h
  · exact Or.inl (a.trans hd)


theorem Color.bpp_bounds (c : Color) (hp : c.psz = 1 ∨ c.psz = 2 ∨ c.psz = 4) : 1 ≤ c.bpp ∧ c.bpp ≤ 16 := by
  have := TrapUnc.chanCount_le c.ch
  unfold Color.bpp
  rcases hp with h | h | h <;> rw [h] <;> omega

theorem Color.bppT_eq (c : Color) (hp : c.psz = 1 ∨ c.psz = 2 ∨ c.psz = 4) : c.bppT = some c.bpp :=
  ck_of_lt (by have := c.bpp_bounds hp; omega)

theorem Color.bppT_bind {β} {f : Nat → Option β} (c : Color) (hp : c.psz = 1 ∨ c.psz = 2 ∨ c.psz = 4) :
    (c.bppT >>= f) = f c.bpp := by rw [c.bppT_eq hp, bind_some']

theorem ret_bppT {c : Color} {Q : Nat → Prop} (hp : c.psz = 1 ∨ c.psz = 2 ∨ c.psz = 4) : Ret c.bppT Q ↔ Q c.bpp := by
  rw [c.bppT_eq hp, ret_some]

/-- `cast::from_bytes` on `n` whole elements -/
theorem ret_fromBytesT_mul {n k : Nat} {Q : Nat → Prop} (hk : 0 < k) : Ret (TrapUnc.fromBytesT (n * k) k) Q ↔ Q n := by
  rw [TrapUnc.fromBytesT_mul n hk, ret_some]

/-- no conversion: the target colour is the native one -/
theorem Color.mk_ch {c : Color} {ch : Unc.Channels} (h : c.ch = ch) : Color.mk ch c.psz = c := by subst h; rfl

/-- the target colour of a decode: the channels of the view in the native precision -/
theorem Color.mk_psz {c : Color} {p : Nat} (h : c.psz = p) : Color.mk c.ch p = c := by subst h; rfl

namespace Img
variable {i : Img}

theorem Ok.bpp (ok : i.Ok) : 1 ≤ i.color.bpp ∧ i.color.bpp ≤ 16 := i.color.bpp_bounds ok.psz

theorem Ok.bpr_lt (ok : i.Ok) : 1 ≤ i.w * i.color.bpp ∧ i.w * i.color.bpp < 2 ^ 36 := by
  have hb := ok.bpp
  have h1 : i.w * i.color.bpp ≤ i.w * 16 := Nat.mul_le_mul_left _ hb.2
  have h2 : i.w * 1 ≤ i.w * i.color.bpp := Nat.mul_le_mul_left _ hb.1
  have := ok.w_lt; have := ok.w_pos; have := sizes
  omega

theorem Ok.len_lt (ok : i.Ok) : i.len < USIZE := by
  have := ok.len_le; have := sizes; omega

theorem Ok.bytesPerRowT (ok : i.Ok) : i.bytesPerRowT = some (i.w * i.color.bpp) := by
  unfold Img.bytesPerRowT
  rw [i.color.bppT_eq ok.psz]
  exact ckU_of_lt (by have := ok.bpr_lt; have := sizes; omega)

theorem Ok.rows_le (ok : i.Ok) {y k : Nat} (hk : 0 < k) (hy : y + k ≤ i.h) :
    y * i.pitch + (k - 1) * i.pitch + i.w * i.color.bpp ≤ i.len := geom_rows_le ok.len_eq hk hy

/-- row `y` starts inside the data -/
theorem Ok.row_le (ok : i.Ok) {y : Nat} (hy : y < i.h) :
    y * i.pitch + i.w * i.color.bpp ≤ i.len ∧ y * i.pitch ≤ i.pitch * (i.h - 1) :=
  ⟨geom_row_le ok.len_eq hy, Nat.mul_comm .. ▸ Nat.mul_le_mul_left _ (Nat.le_sub_one_of_lt hy)⟩

theorem Ok.getRowT (ok : i.Ok) {y : Nat} (hy : y < i.h) :
    i.getRowT y = some ⟨.out, y * i.pitch, i.w * i.color.bpp⟩ := by
  have h := ok.row_le hy
  have hl := ok.len_lt
  rw [← ret_eq]
  unfold Img.getRowT
  simp only [wp, ok.bytesPerRowT, Img.data, Sl.mk.injEq, true_and, Nat.zero_add]
  omega

theorem Ok.getRowRangeT (ok : i.Ok) {y k : Nat} (hk : 0 < k) (hy : y + k ≤ i.h) :
    i.getRowRangeT y k = some ⟨.out, y * i.pitch, (k - 1) * i.pitch + i.w * i.color.bpp⟩ := by
  have h := ok.rows_le hk hy
  have hl := ok.len_lt
  rw [← ret_eq]
  unfold Img.getRowRangeT
  simp only [wp, ok.bytesPerRowT, Img.data, Sl.mk.injEq, true_and, Nat.zero_add]
  omega

theorem Ok.pitch_mul_h (ok : i.Ok) : i.pitch * i.h < USIZE :=
  geom_pitch_mul_h_lt ok.len_eq ok.h_pos ok.pitch_lt (by have := ok.len_le; have := sizes; omega)

theorem Ok.isContiguousT (ok : i.Ok) : i.isContiguousT = some (i.pitch * i.h == i.len) := by
  unfold Img.isContiguousT
  rw [ckU_of_lt ok.pitch_mul_h]
  rfl

/-- `is_contiguous`: either the view has no padding, or it is handled row by row -/
theorem Ok.isContiguousT_cases (ok : i.Ok) :
    (i.isContiguousT = some true ∧ i.pitch = i.w * i.color.bpp ∧ i.len = i.w * i.h * i.color.bpp) ∨
      i.isContiguousT = some false := by
  rw [ok.isContiguousT]
  by_cases hc : i.pitch * i.h = i.len
  · have hp := (geom_contig_iff ok.len_eq ok.h_pos).1 hc
    exact Or.inl ⟨by rw [beq_iff_eq.2 hc], hp, by rw [← hc, hp, Nat.mul_right_comm]⟩
  · exact Or.inr (by rw [beq_eq_false_iff_ne.2 hc])

theorem Ok.pitch_pos (ok : i.Ok) : 1 ≤ i.pitch := by have := ok.bpr_lt; have := ok.pitch_ge; omega

theorem Ok.rowsMutCount (ok : i.Ok) : i.rowsMutCount = i.h := by
  have hb := ok.bpr_lt; have hg := ok.pitch_ge; have hl := ok.len_eq
  have e := Nat.mul_pred_add i.pitch ok.h_pos
  unfold Img.rowsMutCount
  rw [Nat.max_eq_left ok.pitch_pos]
  apply Nat.div_eq_of_lt_le
  · rw [Nat.mul_comm]; omega
  · rw [Nat.succ_mul, Nat.mul_comm]; omega

theorem Ok.rowsMutItemT (ok : i.Ok) {k : Nat} (hk : k < i.h) :
    i.rowsMutItemT (i.w * i.color.bpp) k = some ⟨.out, k * i.pitch, i.w * i.color.bpp⟩ := by
  have h := ok.row_le hk
  unfold Img.rowsMutItemT
  simp only [Nat.max_eq_left ok.pitch_pos]
  rw [Sl.upto_of]
  simp only [Nat.le_min]
  exact ⟨ok.pitch_ge, by omega⟩

end Img

/-- where writes of a decode may go: inside the first `rowBytes` bytes of one of the `rows` rows of a view -/
def InRows (base pitch rows rowBytes : Nat) (s : Sl) : Prop :=
  s.buf = .out → ∃ y, y < rows ∧ base + y * pitch ≤ s.off ∧ s.off + s.len ≤ base + y * pitch + rowBytes

theorem InRows.of_WrOK {base pitch rows rowBytes y : Nat} {d s : Sl} (h : WrOK d s) (hy : y < rows)
    (hd : d.off = base + y * pitch) (hl : d.len ≤ rowBytes) : InRows base pitch rows rowBytes s := by
  intro hb
  rcases h with h | ⟨_, b, c⟩
  · rw [h] at hb; cases hb
  · exact ⟨y, hy, by omega, by omega⟩


/-- state of the line buffer: capacity `cap` lines, `avail` lines still in the buffer, `onDisk` lines not yet read -/
structure LBInv (b : LB) (cap avail onDisk : Nat) : Prop where
  bpl_pos : 0 < b.bpl
  cap_pos : 0 < cap
  bufLen : b.bufLen = cap * b.bpl
  lt : cap * b.bpl < USIZE
  disk : b.linesOnDisk = onDisk
  st : (avail = 0 ∧ b.bufFilled ≤ b.cur) ∨ (0 < avail ∧ b.cur + avail * b.bpl = b.bufFilled ∧ b.bufFilled ≤ b.bufLen)

theorem clampLines_bounds {q height : Nat} (hh : 0 < height) : 0 < clampLines q height ∧ clampLines q height ≤ height := by
  unfold clampLines
  split
  · omega
  · split <;> omega

/-- the capacity is the one of C06's trace model -/
theorem clampLines_stream (bpl height : Nat) :
    clampLines (SrcConsts.TARGET_BUFFER_SIZE / bpl) height = Stream.linesInBuffer bpl height := rfl

theorem LB.newT_spec {bpl height : Nat} (hb : 0 < bpl) (hbl : bpl < USIZE) (hh : 0 < height) :
    ∃ lb, LB.newT bpl height = some (lb, [Ev.io (.alloc (Stream.lineBufLen bpl height))]) ∧ lb.bpl = bpl ∧
      LBInv lb (Stream.linesInBuffer bpl height) 0 height := by
  -- `clamp(1, height) * bytes_per_line` is at most 64 KiB or one line
  have hlt : clampLines (SrcConsts.TARGET_BUFFER_SIZE / bpl) height * bpl < USIZE := by
    have : SrcConsts.TARGET_BUFFER_SIZE < USIZE := by decide
    have : clampLines (SrcConsts.TARGET_BUFFER_SIZE / bpl) height * bpl ≤ max SrcConsts.TARGET_BUFFER_SIZE bpl :=
      Stream.lineBufLen_le bpl height
    omega
  refine ⟨⟨Stream.lineBufLen bpl height, 0, bpl, height, Stream.lineBufLen bpl height⟩, ?_, rfl, ?_⟩
  · rw [← ret_eq]
    unfold LB.newT
    simp only [wp]
    exact ⟨by omega, hh, hlt, rfl⟩
  · exact ⟨hb, (clampLines_bounds hh).1, rfl, hlt, rfl, Or.inl ⟨rfl, Nat.zero_le _⟩⟩

theorem LB.lineT_spec {b : LB} {cap avail onDisk : Nat} (inv : LBInv b cap avail onDisk) (ha : 0 < avail)
    (evs : List Ev) :
    ∃ b', b.lineT evs = some (some ⟨.line, b.cur, b.bpl⟩, b', evs) ∧ b'.bpl = b.bpl ∧
      LBInv b' cap (avail - 1) onDisk := by
  obtain ⟨h1, h2, h3, h4, h5, h6⟩ := inv
  rcases h6 with ⟨h, _⟩ | ⟨_, h6, h7⟩
  · omega
  have e := Nat.pred_mul_add b.bpl ha
  refine ⟨{ b with cur := b.cur + b.bpl }, ?_, rfl, ⟨h1, h2, h3, h4, h5, ?_⟩⟩
  · rw [← ret_eq]
    unfold LB.lineT
    simp only [wp, Nat.zero_add, Nat.add_sub_cancel_left, and_true, ← and_assoc]
    omega
  · show (avail - 1 = 0 ∧ b.bufFilled ≤ b.cur + b.bpl) ∨
      (0 < avail - 1 ∧ b.cur + b.bpl + (avail - 1) * b.bpl = b.bufFilled ∧ b.bufFilled ≤ b.bufLen)
    by_cases h0 : avail - 1 = 0
    · left; rw [h0] at e; omega
    · right; omega

/-- C06's refill trace with an explicit capacity -/
def refillsFrom (cap bpl onDisk : Nat) : List Stream.Op :=
  List.replicate (onDisk / cap) (.read (cap * bpl)) ++ (if onDisk % cap = 0 then [] else [.read (onDisk % cap * bpl)])

theorem refillsFrom_zero (cap bpl : Nat) : refillsFrom cap bpl 0 = [] := by
  unfold refillsFrom; simp

theorem refillsFrom_step {cap bpl onDisk : Nat} (hc : 0 < cap) (hd : 0 < onDisk) :
    refillsFrom cap bpl onDisk = .read (min cap onDisk * bpl) :: refillsFrom cap bpl (onDisk - min cap onDisk) := by
  unfold refillsFrom
  by_cases h : cap ≤ onDisk
  · obtain ⟨d, rfl⟩ : ∃ d, onDisk = d + cap := ⟨onDisk - cap, by omega⟩
    rw [Nat.min_eq_left h, Nat.add_sub_cancel, Nat.add_div_right _ hc, Nat.add_mod_right, List.replicate_succ]; rfl
  · have hlt : onDisk < cap := by omega
    rw [Nat.min_eq_right (by omega), Nat.div_eq_of_lt hlt, Nat.mod_eq_of_lt hlt, Nat.sub_self]
    simp [show onDisk ≠ 0 by omega]

theorem refillsFrom_stream {bpl lines : Nat} (hb : 0 < bpl) :
    refillsFrom (Stream.linesInBuffer bpl lines) bpl lines = Stream.refills bpl lines := by
  unfold refillsFrom Stream.refills
  simp only [Stream.lineBufLen_div hb]

theorem LB.nextLineT_done {b : LB} {cap : Nat} (inv : LBInv b cap 0 0) : b.nextLineT = some (none, b, []) := by
  obtain ⟨_, _, _, _, h5, h6⟩ := inv
  have : b.bufFilled ≤ b.cur := by rcases h6 with ⟨_, h⟩ | ⟨h, _⟩ <;> omega
  unfold LB.nextLineT
  rw [if_pos this, if_pos h5]

/-- `next_line` while a line is left, in the buffer or on disk: it hands out one line, after the refill of C06's trace
if the buffer was used up -/
theorem LB.nextLineT_step {b : LB} {cap avail onDisk : Nat} (inv : LBInv b cap avail onDisk) (h : 0 < avail + onDisk)
    (R : Sl → Prop) :
    ∃ b' line e avail' onDisk', b.nextLineT = some (some line, b', e) ∧ line.buf = .line ∧ line.len = b.bpl ∧
      b'.bpl = b.bpl ∧ LBInv b' cap avail' onDisk' ∧ avail' + onDisk' + 1 = avail + onDisk ∧
      ios e ++ refillsFrom cap b.bpl onDisk' = refillsFrom cap b.bpl onDisk ∧ Wr R e := by
  obtain ⟨h1, h2, h3, h4, h5, h6⟩ := inv
  unfold LB.nextLineT
  by_cases ha : 0 < avail
  · have hlt : ¬ b.cur ≥ b.bufFilled := by
      have : 1 * b.bpl ≤ avail * b.bpl := Nat.mul_le_mul_right _ ha
      omega
    obtain ⟨b', hl, hb, hi⟩ := LB.lineT_spec ⟨h1, h2, h3, h4, h5, h6⟩ ha []
    rw [if_neg hlt]
    exact ⟨b', _, [], avail - 1, onDisk, hl, rfl, rfl, hb, hi, by omega, rfl, Wr.nil R⟩
  · have hge : b.cur ≥ b.bufFilled := by omega
    have hq : b.bufLen / b.bpl = cap := by rw [h3]; exact Nat.mul_div_cancel _ h1
    have hm : min cap onDisk * b.bpl ≤ cap * b.bpl := Nat.mul_le_mul_right _ (Nat.min_le_left _ _)
    have hmp : 0 < min cap onDisk := by omega
    obtain ⟨b', hl, hb, hi⟩ := LB.lineT_spec
      (b := { b with linesOnDisk := onDisk - min cap onDisk, bufFilled := min cap onDisk * b.bpl, cur := 0 })
      ⟨h1, h2, h3, h4, rfl, Or.inr ⟨hmp, Nat.zero_add _, by show min cap onDisk * b.bpl ≤ b.bufLen; omega⟩⟩ hmp
      [Ev.io (.read (min cap onDisk * b.bpl))]
    rw [if_pos hge, if_neg (by omega)]
    refine ⟨b', ⟨.line, 0, b.bpl⟩, [Ev.io (.read (min cap onDisk * b.bpl))], min cap onDisk - 1, onDisk - min cap onDisk,
      ret_eq.1 ?_, rfl, rfl, hb, hi, by omega, (refillsFrom_step h2 (by omega)).symm, Wr.io R _⟩
    simp only [wp, hq, h5, hl, and_true, ← and_assoc]
    omega

/-- **the `while let Some(line) = next_line()` loop**: with a body that maintains `Inv` and returns on every line,
the loop returns within `avail + onDisk + 1` calls of `next_line`, and its reader trace is C06's refill list -/
theorem whileLines_spec {σ : Type} (body : σ → Sl → Option (σ × List Ev)) (cap bpl H : Nat) (Inv : Nat → σ → Prop)
    (R : Sl → Prop)
    (hbody : ∀ k st line, k < H → Inv k st → line.buf = .line → line.len = bpl →
      ∃ st' e, body st line = some (st', e) ∧ Inv (k + 1) st' ∧ Quiet R e) :
    ∀ (fuel : Nat) (lb : LB) (avail onDisk : Nat) (st : σ) (k : Nat), LBInv lb cap avail onDisk → lb.bpl = bpl →
      avail + onDisk < fuel → k + avail + onDisk = H → Inv k st →
      ∃ evs, whileLinesT body fuel lb st = some evs ∧ ios evs = refillsFrom cap bpl onDisk ∧ Wr R evs := by
  intro fuel
  induction fuel with
  | zero => intro lb avail onDisk st k _ _ h; omega
  | succ fuel ih =>
    intro lb avail onDisk st k inv hbpl hf hk hinv
    unfold whileLinesT
    by_cases h : 0 < avail + onDisk
    · obtain ⟨b', line, e1, a', d', h1, h2, h3, h4, h5, h6, h7, h8⟩ := LB.nextLineT_step inv h R
      obtain ⟨st', e, hb1, hb2, hb3⟩ := hbody k st line (by omega) hinv h2 (h3.trans hbpl)
      obtain ⟨e3, hr1, hr2, hr3⟩ := ih b' a' d' st' (k + 1) h5 (h4.trans hbpl) (by omega) (by omega) hb2
      refine ⟨e1 ++ e ++ e3, by rw [h1]; simp only [hb1, hr1], ?_, (h8.append hb3.2).append hr3⟩
      rw [ios_append, ios_append, hb3.1, hr2, List.append_nil, ← hbpl, h7]
    · obtain ⟨rfl, rfl⟩ : avail = 0 ∧ onDisk = 0 := by omega
      rw [LB.nextLineT_done inv]
      exact ⟨[], rfl, (refillsFrom_zero ..).symm, Wr.nil R⟩

/-- **a fresh line buffer and the `while let` loop over all its lines**: `new` allocates C06's buffer, the loop hands
out exactly `height` lines of `bpl` bytes, terminates within `height + 1` calls and reads C06's refill list -/
theorem lineLoop_spec {bpl height : Nat} (hb : 0 < bpl) (hbl : bpl < USIZE) (hh : 0 < height) :
    ∃ lb, LB.newT bpl height = some (lb, [Ev.io (.alloc (Stream.lineBufLen bpl height))]) ∧
      ∀ {σ : Type} (body : σ → Sl → Option (σ × List Ev)) (Inv : Nat → σ → Prop) (R : Sl → Prop) (st : σ),
        (∀ k st line, k < height → Inv k st → line.buf = .line → line.len = bpl →
          ∃ st' e, body st line = some (st', e) ∧ Inv (k + 1) st' ∧ Quiet R e) → Inv 0 st →
        ∃ evs, whileLinesT body (height + 1) lb st = some evs ∧ ios evs = Stream.refills bpl height ∧ Wr R evs := by
  obtain ⟨lb, h1, h2, h3⟩ := LB.newT_spec hb hbl hh
  refine ⟨lb, h1, fun body Inv R st hbody h0 => ?_⟩
  rw [← refillsFrom_stream hb]
  exact whileLines_spec body _ bpl height Inv R hbody (height + 1) lb 0 height st 0 h3 h2 (by omega) (by omega) h0


theorem PxFn.runT_spec {f : PxFn} {encSize decSize n : Nat} (hf : f.Fits encSize decSize) (hn : n < 2 ^ 40)
    {enc dec : Sl} (he : enc.len = n * encSize) (hd : dec.len = n * decSize) : Runs (f.runT enc dec) (WrOK dec) := by
  cases f with
  | helper a b =>
    obtain ⟨ha, hb, c, _, rfl, rfl⟩ := hf
    rw [← Nat.mul_assoc] at he hd
    simp only [PxFn.runT, wp, he, hd, TrapUnc.processPixelsT_eq a b (n * c) ha hb, Quiet.one_iff]
    exact Or.inr ⟨rfl, Nat.le_refl _, by simp only; omega⟩
  | copy =>
    have hl : enc.len = dec.len := by rw [he, hd, (hf : encSize = decSize)]
    simp only [PxFn.runT, wp, Quiet.one_iff]
    exact ⟨hl, hl.symm, WrOK.self dec⟩
  | unroll a b =>
    obtain ⟨rfl, hb, c, hc, rfl, rfl⟩ := hf
    rw [← Nat.mul_assoc] at he hd
    have hlt : n * c < 2 ^ 60 := by
      have : n * c ≤ n * 16 := Nat.mul_le_mul_left _ hc
      omega
    simp only [PxFn.runT, wp, he, hd, TrapUnc.processPixelsUnrollT_eq b (n * c) hb hlt, Quiet.one_iff]
    exact WrOK.self dec

/-- a pixel function that fits a non-empty decoded pixel reads a non-empty encoded one -/
theorem PxFn.Fits.enc_pos {f : PxFn} {encSize decSize : Nat} (hf : f.Fits encSize decSize) (hd : 0 < decSize) :
    0 < encSize := by
  cases f with
  | copy => exact (show encSize = decSize from hf) ▸ hd
  | helper a b =>
    obtain ⟨ha, _, c, _, rfl, rfl⟩ := hf
    exact Nat.mul_pos (Nat.pos_of_ne_zero fun h0 => by rw [h0, Nat.zero_mul] at hd; omega) ha
  | unroll a b =>
    obtain ⟨ha, _, c, _, rfl, rfl⟩ := hf
    exact Nat.mul_pos (Nat.pos_of_ne_zero fun h0 => by rw [h0, Nat.zero_mul] at hd; omega) (by omega)

theorem convertChannelsForT_spec {native : Color} {target : Unc.Channels} (hp : native.psz = 1 ∨ native.psz = 2 ∨ native.psz = 4)
    {n : Nat} {src dst : Sl} (hs : src.len = n * native.bpp) (hd : dst.len = n * (Color.mk target native.psz).bpp) :
    convertChannelsForT native target src dst = some [Ev.wr dst] := by
  unfold convertChannelsForT
  have e1 : src.len = n * (native.psz * TrapUnc.chanCount native.ch) := by rw [hs, Color.bpp, Nat.mul_comm native.psz]
  have e2 : dst.len = n * (native.psz * TrapUnc.chanCount target) := by rw [hd, Color.bpp, Nat.mul_comm native.psz]
  rw [e1, e2, TrapUnc.convertChannelsT_eq native.ch target native.psz n hp]
  rfl

theorem tmpBuffer_len : tmpBuffer.len = BUFFER_BYTES := by decide

theorem convPixelsT_spec {native : Color} {target : Unc.Channels} {f : PxFn} {encSize n : Nat}
    (hp : native.psz = 1 ∨ native.psz = 2 ∨ native.psz = 4) (hf : f.Fits encSize native.bpp) (hE : encSize < 256)
    (hn0 : 0 < n) (hn : n < U32B) {enc out : Sl} (he : enc.len = n * encSize)
    (ho : out.len = n * (Color.mk target native.psz).bpp) : Runs (convPixelsT native target f enc out) (WrOK out) := by
  obtain ⟨h32, h64, _⟩ := sizes
  unfold convPixelsT
  by_cases hc : native.ch = target
  · rw [if_pos hc]
    rw [Color.mk_ch hc] at ho
    exact PxFn.runT_spec hf (by omega) he ho
  · rw [if_neg hc]
    obtain ⟨hB1, hB2⟩ := bufBytes_bounds
    have hcnt := TrapUnc.chanCount_le target
    have hm : (Color.mk target native.psz).bpp % TrapUnc.chanCount target = 0 := Nat.mul_mod_right _ _
    generalize hO : (Color.mk target native.psz).bpp = O at ho hm
    have hOb : 1 ≤ O ∧ O ≤ 16 := hO ▸ Color.bpp_bounds ⟨target, native.psz⟩ hp
    have hNb := Color.bpp_bounds native hp
    generalize hN : native.bpp = N at hNb hf
    have hP : 0 < BUFFER_BYTES / N := Nat.div_pos (by omega) (by omega)
    have hPN : BUFFER_BYTES / N * N ≤ BUFFER_BYTES := Nat.div_mul_le_self _ _
    have hPle : BUFFER_BYTES / N ≤ BUFFER_BYTES := Nat.div_le_self _ _
    have hq1 : out.len / O = n := by rw [ho]; exact Nat.mul_div_cancel _ (by omega)
    have hq2 : enc.len / n = encSize := by rw [he]; exact Nat.mul_div_cancel_left _ hn0
    have t1 : enc.len < USIZE := by have := Nat.mul_le_mul_left n (Nat.le_of_lt hE); omega
    have t2 : out.len < USIZE := by have := Nat.mul_le_mul_left n hOb.2; omega
    have hep := hf.enc_pos hNb.1
    simp only [wp, ↓ret_bppT (c := ⟨target, native.psz⟩) hp, ↓ret_bppT hp, hO, hN, hq1, hq2, ← and_assoc]
    refine ⟨by omega, Ret.forT fun cs hcs => ?_⟩
    obtain ⟨_, h1, h2, h3⟩ := Addr.chunk_facts hP hcs
    -- the chunk in the encoded line, in the output row and in the conversion buffer
    simp only [↓ret_unitRange he t1 hep, ↓ret_unitRange ho t2 hOb.1, wp, tmpBuffer_len, ← and_assoc]
    generalize hce : min (cs + BUFFER_BYTES / N) n = ce at h1 h2 h3
    have p3 : (ce - cs) * N ≤ BUFFER_BYTES / N * N := Nat.mul_le_mul_right _ h3
    have o4 := add_mul_le_mul (show cs + (ce - cs) ≤ n by omega) O
    exact ⟨by omega, Ret.seq
      (Ret.mono (PxFn.runT_spec (n := ce - cs) hf (by omega) rfl rfl) fun _ q => q.mono fun s hs => hs.tmp rfl out)
      ⟨_, convertChannelsForT_spec hp (n := ce - cs) (by simp only [hN]) (by simp only [hO]),
        Quiet.one (Or.inr ⟨rfl, by simp only; omega, by simp only; omega⟩)⟩⟩


/-- how a decoder of `uncompressed.rs` instantiates the two pixel loops: `debug_assert`s of the entry, `PixelSize` -/
structure PixelCfg (img : Img) (native : Color) (encSize decSize : Nat) (f : PxFn) : Prop where
  prec : img.color.psz = native.psz
  dec : native.bpp = decSize
  enc_pos : 0 < encSize
  enc_lt : encSize < 256
  fits : f.Fits encSize decSize

theorem convPixels_row {img : Img} {native : Color} {encSize decSize : Nat} {f : PxFn} (ok : img.Ok)
    (c : PixelCfg img native encSize decSize f) {line : Sl} (hl : line.len = img.w * encSize) {y : Nat} (hy : y < img.h) :
    Runs (convPixelsT native img.color.ch f line ⟨.out, y * img.pitch, img.w * img.color.bpp⟩)
      (InRows 0 img.pitch img.h (img.w * img.color.bpp)) :=
  Ret.mono (convPixelsT_spec (target := img.color.ch) (c.prec ▸ ok.psz) (c.dec ▸ c.fits) c.enc_lt ok.w_pos ok.w_lt hl
    (out := ⟨.out, y * img.pitch, img.w * img.color.bpp⟩) (by rw [Color.mk_psz c.prec]))
    fun _ q => q.mono fun s hs => InRows.of_WrOK hs hy (Nat.zero_add _).symm (Nat.le_refl _)

theorem pixelRows_spec {img : Img} {native : Color} {encSize decSize : Nat} {f : PxFn} (ok : img.Ok)
    (c : PixelCfg img native encSize decSize f) (cap : Nat) :
    ∀ (m : Nat) (lb : LB) (avail onDisk k : Nat), avail + onDisk = m → k + m = img.h → LBInv lb cap avail onDisk →
      lb.bpl = img.w * encSize →
      Ret (pixelRowsT img native encSize f (img.w * img.color.bpp) (List.range' k m) lb) fun evs =>
        ios evs = refillsFrom cap (img.w * encSize) onDisk ∧
        Wr (InRows 0 img.pitch img.h (img.w * img.color.bpp)) evs := by
  intro m
  induction m with
  | zero =>
    intro lb avail onDisk k h1 _ _ _
    obtain rfl : onDisk = 0 := by omega
    exact ⟨[], rfl, (refillsFrom_zero ..).symm, Wr.nil _⟩
  | succ m ih =>
    intro lb avail onDisk k h1 h2 inv hbpl
    obtain ⟨b', line, e1, a', d', n1, n2, n3, n4, n5, n6, n7, n8⟩ := LB.nextLineT_step inv (by omega) _
    have hk : k < img.h := by omega
    rw [List.range'_succ]
    unfold pixelRowsT
    simp only [wp, ok.rowsMutItemT hk, n1, n3.trans hbpl, Nat.mul_mod_left, true_and]
    refine ⟨Nat.ne_of_gt c.enc_pos, Ret.mono (convPixels_row ok c (n3.trans hbpl) hk) fun e2 q2 =>
      Ret.mono (ih b' a' d' (k + 1) (by omega) (by omega) n5 (n4.trans hbpl)) fun e3 ⟨i3, w3⟩ =>
        ⟨?_, (n8.append q2.2).append w3⟩⟩
    rw [ios_append, ios_append, q2.1, i3, List.append_nil, ← hbpl, n7]

/-- **`for_each_pixel_untyped`**: no trap; trace = C06's `pixelFull`; every write inside a row of the view -/
theorem pixelFullT_spec {img : Img} {native : Color} {encSize decSize : Nat} {f : PxFn} (ok : img.Ok)
    (c : PixelCfg img native encSize decSize f) :
    ∃ evs, pixelFullT img native encSize decSize f = some evs ∧ ios evs = Stream.pixelFull encSize img.w img.h ∧
      Wr (InRows 0 img.pitch img.h (img.w * img.color.bpp)) evs := by
  have hbl : img.w * encSize < USIZE := by
    have : img.w * encSize ≤ img.w * 256 := Nat.mul_le_mul_left _ (by have := c.enc_lt; omega)
    have := ok.w_lt; have := sizes; omega
  have hbp : 0 < img.w * encSize := Nat.mul_pos ok.w_pos c.enc_pos
  obtain ⟨lb, hnew, hbpl, inv⟩ := LB.newT_spec hbp hbl ok.h_pos
  have hrows := pixelRows_spec ok c (Stream.linesInBuffer (img.w * encSize) img.h) img.h lb 0 img.h 0
    (by omega) (by omega) inv hbpl
  have hpp := ok.pitch_pos
  show Ret _ _
  unfold pixelFullT
  simp only [wp, ↓ret_bppT (c.prec ▸ ok.psz), hnew, ok.bytesPerRowT, ok.rowsMutCount, List.range_eq_range',
    ← and_assoc]
  refine ⟨⟨⟨⟨c.prec, c.dec⟩, hbl⟩, by omega⟩, Ret.mono hrows fun e1 ⟨i1, w1⟩ => ⟨?_, (Wr.io _ _).append w1⟩⟩
  rw [ios_append, i1, refillsFrom_stream hbp]
  unfold Stream.pixelFull
  rw [Stream.lineBufNew_eq hbp ok.h_pos]; rfl

/-- reader trace of iteration `y` of the rect row loop -/
def rectRowOps (gap rd y : Nat) : List Stream.Op := (if y > 0 then [.skip gap] else []) ++ [.read rd]

theorem rectRowsRest_flatMap (gap rd : Nat) : ∀ k s, 0 < s →
    (List.range' s k).flatMap (rectRowOps gap rd) = Stream.rectRowsRest gap rd k
  | 0, _, _ => rfl
  | k + 1, s, hs => by
    rw [List.range'_succ, List.flatMap_cons, rectRowsRest_flatMap gap rd k (s + 1) (by omega)]
    simp [rectRowOps, hs, Stream.rectRowsRest]

theorem rectRows_flatMap (gap rd : Nat) : ∀ k, (List.range k).flatMap (rectRowOps gap rd) = Stream.rectRows gap rd k
  | 0 => rfl
  | k + 1 => by
    rw [List.range_eq_range', List.range'_succ, List.flatMap_cons, rectRowsRest_flatMap gap rd k 1 (by omega)]
    simp [rectRowOps, Stream.rectRows]

theorem pixelRectRowT_spec {img : Img} {native : Color} {encSize decSize : Nat} {f : PxFn} (ok : img.Ok)
    (c : PixelCfg img native encSize decSize f) {before after y : Nat} (hg : before + after < USIZE) (hy : y < img.h) :
    Ret (pixelRectRowT img native encSize f before after ⟨.row, 0, img.w * encSize⟩ y) fun e =>
      ios e = rectRowOps (before + after) (img.w * encSize) y ∧
      Wr (InRows 0 img.pitch img.h (img.w * img.color.bpp)) e := by
  have hconv := convPixels_row ok c (line := ⟨.row, 0, img.w * encSize⟩) rfl hy
  have hb := ok.bpp
  have hep := c.enc_pos
  have q1 : img.w * encSize / encSize = img.w := Nat.mul_div_cancel _ hep
  have q2 : img.w * img.color.bpp / img.color.bpp = img.w := Nat.mul_div_cancel _ (by omega)
  unfold pixelRectRowT rectRowOps
  by_cases h0 : y > 0
  · simp only [wp, if_pos h0, ok.getRowT hy, ↓ret_bppT ok.psz, q1, q2, true_and, ← and_assoc]
    exact ⟨by omega, Ret.mono hconv fun e2 q =>
      ⟨by rw [ios_append, ios_append, q.1]; rfl, ((Wr.io _ _).append (Wr.io _ _)).append q.2⟩⟩
  · simp only [wp, if_neg h0, ok.getRowT hy, ↓ret_bppT ok.psz, q1, q2, true_and, ← and_assoc]
    exact ⟨by omega, Ret.mono hconv fun e2 q =>
      ⟨by rw [ios_append, ios_append, q.1]; rfl, ((Wr.nil _).append (Wr.io _ _)).append q.2⟩⟩

/-- **`for_each_pixel_rect_untyped`**: surface `W × H`, the image is the rect at `(ox, oy)` inside it -/
theorem pixelRectT_spec {img : Img} {native : Color} {encSize decSize : Nat} {f : PxFn} (ok : img.Ok)
    (c : PixelCfg img native encSize decSize f) {W H ox oy : Nat} (hx : ox + img.w ≤ W) (hy : oy + img.h ≤ H)
    (hsurf : W * H * encSize ≤ I64MAX) :
    ∃ evs, pixelRectT img W H ox oy native encSize decSize f = some evs ∧
      ios evs = Stream.pixelRect encSize W H ox oy img.w img.h ∧
      Wr (InRows 0 img.pitch img.h (img.w * img.color.bpp)) evs := by
  have hep := c.enc_pos
  have hhp := ok.h_pos
  obtain ⟨_, h64, hI⟩ := sizes
  -- everything is at most `H` surface rows of `W * encSize` bytes
  have hT : W * encSize * H ≤ I64MAX := by rw [Nat.mul_right_comm]; exact hsurf
  have hpx : W * H ≤ W * H * encSize := Nat.le_mul_of_pos_right _ hep
  have hT1 : W * encSize * oy + W * encSize ≤ W * encSize * H := Nat.mul_le_mul_left _ (by omega : oy + 1 ≤ H)
  have hT2 : (H - oy - img.h + 1) * (W * encSize) ≤ H * (W * encSize) := Nat.mul_le_mul_right _ (by omega)
  rw [Nat.add_mul, Nat.one_mul, Nat.mul_comm H] at hT2
  have hb : ox * encSize ≤ W * encSize := Nat.mul_le_mul_right _ (by omega)
  have ha : (W - ox - img.w) * encSize ≤ W * encSize := Nat.mul_le_mul_right _ (by omega)
  have hr : img.w * encSize ≤ W * encSize := Nat.mul_le_mul_right _ (by omega)
  have hrows := forT_spec
    (pixelRectRowT img native encSize f (ox * encSize) ((W - ox - img.w) * encSize) ⟨.row, 0, img.w * encSize⟩)
    (rectRowOps (ox * encSize + (W - ox - img.w) * encSize) (img.w * encSize))
    (InRows 0 img.pitch img.h (img.w * img.color.bpp)) (List.range img.h)
    fun y hy' => pixelRectRowT_spec ok c (by omega) (List.mem_range.mp hy')
  have hprec := c.prec
  have hdec := c.dec
  show Ret _ _
  unfold pixelRectT
  simp only [wp, ↓ret_bppT (c.prec ▸ ok.psz), ← and_assoc]
  refine ⟨by omega, Ret.mono hrows fun e1 ⟨i1, w1⟩ => ⟨⟨by omega, ?_⟩,
    (((Wr.io _ _).append (Wr.io _ _)).append w1).append (Wr.io _ _)⟩⟩
  simp only [ios_append, i1, rectRows_flatMap, ios, Stream.pixelRect, if_pos hsurf, List.nil_append, List.cons_append]


/-- where a whole-image decoder writes: inside a row, or — contiguous views only, there is no padding then — all data -/
def CopyWr (i : Img) (s : Sl) : Prop :=
  s.buf = .out → (∃ y, y < i.h ∧ y * i.pitch ≤ s.off ∧ s.off + s.len ≤ y * i.pitch + i.w * i.color.bpp) ∨
    (i.pitch = i.w * i.color.bpp ∧ s.off + s.len ≤ i.len)

theorem CopyWr.of_row {i : Img} {k : Nat} (hk : k < i.h) {s : Sl}
    (h : WrOK ⟨.out, k * i.pitch, i.w * i.color.bpp⟩ s) : CopyWr i s := by
  intro hb
  rcases h with h | ⟨_, b, c⟩
  · rw [h] at hb; cases hb
  · exact Or.inl ⟨k, hk, b, c⟩

theorem CopyWr.of_data {i : Img} (hp : i.pitch = i.w * i.color.bpp) {s : Sl} (h : WrOK i.data s) : CopyWr i s := by
  intro hb
  rcases h with h | ⟨_, _, c⟩
  · rw [h] at hb; cases hb
  · exact Or.inr ⟨hp, by simpa [Img.data] using c⟩

theorem flatMap_const {α β} (x : List β) : ∀ l : List α, l.flatMap (fun _ => x) = (List.replicate l.length x).flatten
  | [] => rfl
  | _ :: l => by rw [List.flatMap_cons, flatMap_const x l]; rfl

theorem readExactImageT_spec {img : Img} (ok : img.Ok) :
    ∃ evs, readExactImageT img = some evs ∧
      (ios evs = Stream.copyFull img.color.bpp img.w img.h ∨
        ios evs = List.replicate img.h (.read (img.w * img.color.bpp))) ∧
      Stream.span (ios evs) = img.w * img.h * img.color.bpp ∧ Wr (CopyWr img) evs := by
  show Ret _ _
  unfold readExactImageT
  rcases ok.isContiguousT_cases with ⟨hc, hp, e⟩ | hc
  · simp only [wp, hc, if_true]
    exact ⟨Or.inl (by simp [ios, Stream.copyFull, e]), by simp [ios, Stream.span, e],
      (Wr.io _ _).append (Wr.one (CopyWr.of_data hp (WrOK.self _)))⟩
  · simp only [wp, hc, Bool.false_eq_true, if_false, ok.bytesPerRowT, ok.rowsMutCount]
    obtain ⟨evs, he, hi, hw⟩ := forT_spec
      (fun k => do let row ← img.rowsMutItemT (img.w * img.color.bpp) k; pure [Ev.io (.read row.len), Ev.wr row])
      (fun _ => [.read (img.w * img.color.bpp)]) (CopyWr img) (List.range img.h) (by
        intro k hk
        have hk : k < img.h := List.mem_range.mp hk
        show Ret _ _
        simp only [wp, ok.rowsMutItemT hk]
        exact ⟨rfl, (Wr.io _ _).append (Wr.one (CopyWr.of_row hk (WrOK.self _)))⟩)
    rw [flatMap_const, List.length_range, List.flatten_replicate_singleton] at hi
    refine ⟨by have := ok.pitch_pos; omega, evs, he, Or.inr hi, ?_, hw⟩
    rw [hi, Stream.span_replicate_read, Nat.mul_comm img.w img.h, Nat.mul_assoc]

theorem SliceFn.runT_spec {g : SliceFn} {c : Color} (hg : g.Fits c) {n : Nat} {s : Sl} (hs : s.len = n * c.bpp) :
    Runs (g.runT s) (WrOK s) := by
  have hmod : s.len % c.psz = 0 := by rw [hs, Color.bpp, ← Nat.mul_assoc]; exact Nat.mul_mod_left _ _
  cases g with
  | nothing => exact ⟨[], rfl, Quiet.nil _⟩
  | le16 =>
    rw [(hg : c.psz = 2)] at hmod
    simp only [SliceFn.runT, wp]
    exact ⟨hmod, Quiet.nil _⟩
  | le32 =>
    rw [(hg : c.psz = 4)] at hmod
    simp only [SliceFn.runT, wp]
    exact ⟨hmod, Quiet.nil _⟩
  | s8 => exact ⟨[Ev.wr s], rfl, Quiet.one (WrOK.self s)⟩
  | bgraSwap =>
    have : s.len = 4 * n := by rw [hs, (hg : c = ⟨.rgba, 1⟩)]; simp [Color.bpp, TrapUnc.chanCount, Nat.mul_comm]
    simp only [SliceFn.runT, wp, this, TrapUnc.bgraSwapT_eq]
    exact Quiet.one (WrOK.self s)

theorem forEachSliceT_spec {img : Img} (ok : img.Ok) {g : SliceFn} (hg : g.Fits img.color) :
    Runs (forEachSliceT img g) (CopyWr img) := by
  unfold forEachSliceT
  rcases ok.isContiguousT_cases with ⟨hc, hp, e⟩ | hc
  · simp only [wp, hc, if_true]
    exact Ret.mono (SliceFn.runT_spec hg (n := img.w * img.h) (s := img.data) e) fun _ q =>
      q.mono fun s => CopyWr.of_data hp
  · simp only [wp, hc, Bool.false_eq_true, if_false, ok.bytesPerRowT, ok.rowsMutCount]
    refine ⟨by have := ok.pitch_pos; omega, Ret.forT fun k hk => ?_⟩
    have hk : k < img.h := List.mem_range.mp hk
    simp only [wp, ok.rowsMutItemT hk]
    exact Ret.mono (SliceFn.runT_spec hg (n := img.w) rfl) fun _ q => q.mono fun s => CopyWr.of_row hk

/-- **the whole-image COPY decoders** (`COPY_U8/U16/U32/S8`, the BGRA swap): `read_exact_image` then `for_each_slice` -/
theorem copyFullT_spec {img : Img} (ok : img.Ok) {g : SliceFn} (hg : g.Fits img.color) :
    ∃ evs, copyFullT img g = some evs ∧
      (ios evs = Stream.copyFull img.color.bpp img.w img.h ∨
        ios evs = List.replicate img.h (.read (img.w * img.color.bpp))) ∧
      Stream.span (ios evs) = img.w * img.h * img.color.bpp ∧ Wr (CopyWr img) evs := by
  show Ret _ _
  unfold copyFullT
  simp only [wp]
  refine Ret.mono (readExactImageT_spec ok) fun e1 ⟨i1, s1, w1⟩ => ?_
  split
  · simp only [wp, List.append_nil]
    exact ⟨i1, s1, w1⟩
  · simp only [wp]
    refine Ret.mono (forEachSliceT_spec ok hg) fun e2 q2 => ⟨?_, ?_, w1.append q2.2⟩ <;>
      rw [ios_append, q2.1, List.append_nil] <;> assumption

end Dds.TrapLoops
