/-
Generic lemmas of C03 (BC1–BC5): bit-field and index extraction, palette selection, and the assembly of
the finite lemmas of `Proofs/BcFinite.lean` into per-pixel equalities `implementation model = spec`.
-/
import DdsModel.Proofs.BcFinite
namespace Dds.Bc
open Dds.BcSpec (rnd quant leWord chan8 colorEntry bc4Entry interp)

theorem and3 (x : Nat) : x &&& 3 = x % 4 := Nat.and_two_pow_sub_one_eq_mod x 2
theorem and7 (x : Nat) : x &&& 7 = x % 8 := Nat.and_two_pow_sub_one_eq_mod x 3
theorem and15 (x : Nat) : x &&& 0xF = x % 16 := Nat.and_two_pow_sub_one_eq_mod x 4
theorem and31 (x : Nat) : x &&& 0x1F = x % 32 := Nat.and_two_pow_sub_one_eq_mod x 5
theorem and63 (x : Nat) : x &&& 0x3F = x % 64 := Nat.and_two_pow_sub_one_eq_mod x 6


theorem leWord_shift (blk : Nat → Nat) (s : Nat) : ∀ n o, leWord (fun i => blk (i + s)) o n = leWord blk (o + s) n := by
  intro n
  induction n with
  | zero => intro o; rfl
  | succ n ih =>
    intro o
    simp only [leWord]
    rw [ih (o + 1)]
    have : o + 1 + s = o + s + 1 := by omega
    rw [this]

theorem le16_eq (blk : Nat → Nat) (o : Nat) : le16 blk o = leWord blk o 2 := by
  simp only [le16, leWord]; omega

theorem le32_eq (blk : Nat → Nat) (o : Nat) : le32 blk o = leWord blk o 4 := by
  simp only [le32, leWord, Nat.add_assoc, Nat.reduceAdd]; omega

theorem shr_and (x p w : Nat) : (x >>> (p * w)) &&& (2 ^ w - 1) = x / (2 ^ w) ^ p % 2 ^ w := by
  rw [Nat.and_two_pow_sub_one_eq_mod, Nat.shiftRight_eq_div_pow, Nat.mul_comm, Nat.pow_mul]

theorem digit_concat (B k lo hi p : Nat) (hB : 0 < B) (hlo : lo < B ^ k) :
    (lo + B ^ k * hi) / B ^ p % B = if p < k then lo / B ^ p % B else hi / B ^ (p - k) % B := by
  split
  · obtain ⟨j, rfl⟩ : ∃ j, k = p + (j + 1) := ⟨k - p - 1, by omega⟩
    rw [Nat.pow_add, Nat.pow_succ, Nat.mul_assoc, Nat.add_mul_div_left _ _ (Nat.pow_pos hB), Nat.mul_comm (B ^ j) B,
      Nat.mul_assoc, Nat.add_mul_mod_self_left]
  · obtain ⟨j, rfl⟩ : ∃ j, p = k + j := ⟨p - k, by omega⟩
    rw [Nat.pow_add, ← Nat.div_div_eq_div_mul, Nat.add_mul_div_left _ _ (Nat.pow_pos hB), Nat.div_eq_of_lt hlo,
      Nat.zero_add, Nat.add_sub_cancel_left]

/-- colour index: `(indexes >> (p*2)) & 0b11` is the base-4 digit `p` of the little-endian word -/
theorem colorIndex_eq (blk : Nat → Nat) (p : Nat) :
    (le32 blk 4 >>> (p * 2)) &&& 3 = leWord blk 4 4 / 4 ^ p % 4 := by
  rw [le32_eq]
  exact shr_and _ p 2

/-- BC4 index: `(indexes_i >> (j*3)) & 0b111` is the base-8 digit `p` of the 48-bit little-endian word -/
theorem bc4Index_eq (blk : Nat → Nat) (hb : ∀ i, blk i < 256) (p : Nat) (hp : p < 16) :
    bc4Index blk p = leWord blk 2 6 / 8 ^ p % 8 := by
  have h2 := hb 2; have h3 := hb 3; have h4 := hb 4
  have hw : leWord blk 2 6 = le24 blk 2 + 8 ^ 8 * le24 blk 5 := by
    simp only [leWord, le24, Nat.add_assoc, Nat.reduceAdd]; omega
  have hlo : le24 blk 2 < 8 ^ 8 := by simp only [le24, Nat.reduceAdd]; omega
  rw [hw, digit_concat 8 8 _ _ p (by decide) hlo]
  show (le24 blk (2 + 3 * (p / 8)) >>> (p % 8 * 3)) &&& 7 = _
  rw [show (7 : Nat) = 2 ^ 3 - 1 from rfl, shr_and]
  split
  · rename_i h
    rw [Nat.div_eq_of_lt h, Nat.mod_eq_of_lt h]
  · have e1 : p / 8 = 1 := by omega
    have e2 : p % 8 = p - 8 := by omega
    rw [e1, e2]

theorem leWord_digit16 (blk : Nat → Nat) (hb : ∀ i, blk i < 256) :
    ∀ n o p, p < 2 * n → leWord blk o n / 16 ^ p % 16 = blk (o + p / 2) / 16 ^ (p % 2) % 16
  | 0, _, _, h => absurd h (Nat.not_lt_zero _)
  | n + 1, o, p, h => by
    show (blk o + 16 ^ 2 * leWord blk (o + 1) n) / 16 ^ p % 16 = _
    rw [digit_concat 16 2 _ _ p (by decide) (hb o)]
    split
    · have e1 : p / 2 = 0 := by omega
      have e2 : p % 2 = p := by omega
      rw [e1, e2, Nat.add_zero]
    · have e1 : o + 1 + (p - 2) / 2 = o + p / 2 := by omega
      have e2 : (p - 2) % 2 = p % 2 := by omega
      rw [leWord_digit16 blk hb n (o + 1) (p - 2) (by omega), e1, e2]

theorem bc2Nibble_eq (blk : Nat → Nat) (hb : ∀ i, blk i < 256) (p : Nat) (hp : p < 16) :
    lut4 (blk (p / 4 * 2) &&& 0xF) (blk (p / 4 * 2) >>> 4) (blk (p / 4 * 2 + 1) &&& 0xF)
      (blk (p / 4 * 2 + 1) >>> 4) (p % 4) = leWord blk 0 8 / 16 ^ p % 16 := by
  have h := hb (p / 2)
  have hj : p % 4 = 0 ∨ p % 4 = 1 ∨ p % 4 = 2 ∨ p % 4 = 3 := by omega
  rw [leWord_digit16 blk hb 8 0 p (by omega), Nat.zero_add]
  rcases hj with hj | hj | hj | hj <;> rw [hj] <;> simp only [lut4, and15, Nat.shiftRight_eq_div_pow]
  · rw [show p / 4 * 2 = p / 2 by omega, show p % 2 = 0 by omega, Nat.pow_zero, Nat.div_one]
  · rw [show p / 4 * 2 = p / 2 by omega, show p % 2 = 1 by omega]; omega
  · rw [show p / 4 * 2 + 1 = p / 2 by omega, show p % 2 = 0 by omega, Nat.pow_zero, Nat.div_one]
  · rw [show p / 4 * 2 + 1 = p / 2 by omega, show p % 2 = 1 by omega]; omega

/-- `B5G6R5::from_u16` extracts the 5:6:5 fields -/
theorem fromU16_eq (c : Nat) (hc : c < 65536) :
    B565.fromU16 c = ⟨c / 2048, c / 32 % 64, c % 32⟩ := by
  unfold B565.fromU16
  rw [and31, and63, and31, Nat.shiftRight_eq_div_pow, Nat.shiftRight_eq_div_pow]
  congr 1 <;> omega


theorem lt4_cases {k : Nat} (hk : k < 4) : k = 0 ∨ k = 1 ∨ k = 2 ∨ k = 3 := by omega

/-- one colour channel of width `m`: if the endpoint expansion `e` and the `third` / `mid` interpolations are
nearest values of the exact ones, the four palette entries of either mode are the specification's -/
theorem chan_eq {m : Nat} {e : Nat → Nat} {third mid : Nat → Nat → Nat}
    (he : ∀ n, n ≤ m → e n = rnd (255 * frac n m))
    (ht : ∀ a b, a ≤ m → b ≤ m → third a b = rnd (255 * frac (2 * a + b) (3 * m)))
    (hm : ∀ a b, a ≤ m → b ≤ m → mid a b = rnd (255 * frac (a + b) (2 * m)))
    (four : Bool) (k a b : Nat) (hk : k < 4) (ha : a ≤ m) (hb : b ≤ m) :
    lut4 (e a) (e b) (if four then third a b else mid a b) (if four then third b a else 0) k =
      chan8 four k a b m := by
  rcases lt4_cases hk with h | h | h | h <;> subst h <;> cases four <;>
    simp only [lut4, chan8, colorEntry, interp_eq, if_true, if_false, Bool.false_eq_true, Nat.one_mul, Nat.zero_mul,
      Nat.add_zero, Nat.zero_add, Nat.reduceAdd]
  · exact he a ha
  · exact he a ha
  · exact he b hb
  · exact he b hb
  · exact hm a b ha hb
  · exact ht a b ha hb
  · rw [ht b a hb ha, Nat.add_comm]

theorem chan5_eq : ∀ (four : Bool) (k a b : Nat), k < 4 → a ≤ 31 → b ≤ 31 →
    lut4 (n5n8 a) (n5n8 b) (if four then third5 a b else mid5 a b) (if four then third5 b a else 0) k =
      chan8 four k a b 31 := chan_eq n5n8_fin third5_fin mid5_fin
theorem chan6_eq : ∀ (four : Bool) (k a b : Nat), k < 4 → a ≤ 63 → b ≤ 63 →
    lut4 (n6n8 a) (n6n8 b) (if four then third6 a b else mid6 a b) (if four then third6 b a else 0) k =
      chan8 four k a b 63 := chan_eq n6n8_fin third6_fin mid6_fin

theorem palette_eq (four : Bool) (c0 c1 k : Nat) (h0 : c0 < 65536) (h1 : c1 < 65536) (hk : k < 4) :
    lut4 (toRgba (B565.fromU16 c0).toN8) (toRgba (B565.fromU16 c1).toN8)
      (if four then toRgba ((B565.fromU16 c0).oneThird (B565.fromU16 c1))
        else toRgba ((B565.fromU16 c0).mid (B565.fromU16 c1)))
      (if four then toRgba ((B565.fromU16 c1).oneThird (B565.fromU16 c0)) else (0, 0, 0, 0)) k
    = (chan8 four k (c0 / 2048) (c1 / 2048) 31, chan8 four k (c0 / 32 % 64) (c1 / 32 % 64) 63,
       chan8 four k (c0 % 32) (c1 % 32) 31, if !four && k == 3 then 0 else 255) := by
  rw [fromU16_eq c0 h0, fromU16_eq c1 h1,
    ← chan5_eq four k (c0 / 2048) (c1 / 2048) hk (by omega) (by omega),
    ← chan6_eq four k (c0 / 32 % 64) (c1 / 32 % 64) hk (by omega) (by omega),
    ← chan5_eq four k (c0 % 32) (c1 % 32) hk (by omega) (by omega)]
  rcases lt4_cases hk with h | h | h | h <;> subst h <;> cases four <;> rfl

theorem le16_lt (blk : Nat → Nat) (hb : ∀ i, blk i < 256) (o : Nat) : le16 blk o < 65536 := by
  have h0 := hb o; have h1 := hb (o + 1)
  unfold le16; omega

theorem bc1Px_eq (blk : Nat → Nat) (hb : ∀ i, blk i < 256) (p : Nat) :
    bc1Px blk p = BcSpec.colorPx true blk 0 p := by
  have hk : leWord blk 4 4 / 4 ^ p % 4 < 4 := Nat.mod_lt _ (by decide)
  have h := palette_eq (decide (le16 blk 0 > le16 blk 2)) (le16 blk 0) (le16 blk 2) _
    (le16_lt blk hb 0) (le16_lt blk hb 2) hk
  unfold bc1Px BcSpec.colorPx BcSpec.fourMode
  simp only [colorIndex_eq blk p, Nat.zero_add, ← le16_eq, Bool.not_true, Bool.false_or]
  rw [← h]
  by_cases hgt : le16 blk 0 > le16 blk 2
  · simp only [hgt, if_true, decide_true]
  · simp only [hgt, if_false, decide_false, Bool.false_eq_true]

/-- the BC2/BC3 colour pixel (always four colours) -/
theorem bc1NoDefaultPx_eq (blk : Nat → Nat) (hb : ∀ i, blk i < 256) (p : Nat) :
    bc1NoDefaultPx blk p = BcSpec.colorPx false blk 0 p := by
  have hk : leWord blk 4 4 / 4 ^ p % 4 < 4 := Nat.mod_lt _ (by decide)
  have h := palette_eq true (le16 blk 0) (le16 blk 2) _ (le16_lt blk hb 0) (le16_lt blk hb 2) hk
  unfold bc1NoDefaultPx BcSpec.colorPx BcSpec.fourMode
  simp only [colorIndex_eq blk p, Nat.zero_add, ← le16_eq, Bool.not_false, Bool.true_or]
  rw [← h]
  simp only [if_true]

theorem colorPx_upper (bc1 : Bool) (blk : Nat → Nat) (p : Nat) :
    BcSpec.colorPx bc1 (upper blk) 0 p = BcSpec.colorPx bc1 blk 8 p := by
  unfold BcSpec.colorPx upper
  simp only [leWord_shift]

theorem upper_lt (blk : Nat → Nat) (hb : ∀ i, blk i < 256) : ∀ i, upper blk i < 256 := fun i => hb (i + 8)


theorem bc2Alpha_eq (blk : Nat → Nat) (hb : ∀ i, blk i < 256) (p : Nat) (hp : p < 16) :
    bc2Alpha blk p = BcSpec.bc2Alpha blk p := by
  simp only [bc2Alpha, BcSpec.bc2Alpha]
  rw [bc2Nibble_eq blk hb p hp]
  have hn : leWord blk 0 8 / 16 ^ p % 16 ≤ 15 := by
    have := Nat.mod_lt (leWord blk 0 8 / 16 ^ p) (show 0 < 16 by decide)
    omega
  exact n4n8_fin _ hn


theorem lt8_cases {k : Nat} (hk : k < 8) :
    k = 0 ∨ k = 1 ∨ k = 2 ∨ k = 3 ∨ k = 4 ∨ k = 5 ∨ k = 6 ∨ k = 7 := by omega

/-- the 8-entry palette of `bc4u_gray`/`bc4s_gray` equals the specification's, given that the
precision's operations are correct on the interpolation numerators -/
theorem bc4Lut_eq (ops : Bc4Ops) (pr : Prec) (m a b c0 c1 : Nat) (six : Bool) (k : Nat) (hk : k < 8)
    (ha : a ≤ m) (hb : b ≤ m) (hm : m ≤ 255)
    (h0 : c0 = quant pr (frac a m)) (h1 : c1 = quant pr (frac b m))
    (h6 : ∀ n, n ≤ 7 * m → ops.interp6 n = quant pr (frac n (7 * m)))
    (h4 : ∀ n, n ≤ 5 * m → ops.interp4 n = quant pr (frac n (5 * m)))
    (hz : ops.zero = quant pr 0) (ho : ops.one = quant pr 1) :
    bc4Lut ops c0 c1 a b six k = quant pr (bc4Entry six k a b m) := by
  have H6 : ∀ n n', n = n' → n' ≤ 7 * m → ops.interp6 n = quant pr (frac n' (7 * m)) := by
    intro n n' hn hle; subst hn; exact h6 _ hle
  have H4 : ∀ n n', n = n' → n' ≤ 5 * m → ops.interp4 n = quant pr (frac n' (5 * m)) := by
    intro n n' hn hle; subst hn; exact h4 _ hle
  rcases lt8_cases hk with h | h | h | h | h | h | h | h <;> subst h <;> cases six <;>
    simp only [bc4Lut, bc4Entry, interp_eq, if_true, if_false, Bool.false_eq_true, Nat.reduceSub,
      Nat.reduceEqDiff, Nat.one_mul, Nat.zero_mul, Nat.add_zero, Nat.zero_add, Nat.reduceAdd]
  all_goals first
    | exact h0
    | exact h1
    | exact hz
    | exact ho
    | exact H6 _ _ (by unfold w16; omega) (by omega)
    | exact H4 _ _ (by unfold w16; omega) (by omega)

theorem bc4uPx_eq (pr : Prec) (blk : Nat → Nat) (hb : ∀ i, blk i < 256) (p : Nat) (hp : p < 16) :
    bc4uPx (bc4uOps pr) blk p = quant pr (BcSpec.bc4uVal blk 0 p) := by
  have h0 := hb 0; have h1 := hb 1
  have hk : leWord blk 2 6 / 8 ^ p % 8 < 8 := Nat.mod_lt _ (by decide)
  have hc := consts_fin pr
  unfold bc4uPx BcSpec.bc4uVal
  simp only [bc4Index_eq blk hb p hp, Nat.zero_add]
  exact bc4Lut_eq (bc4uOps pr) pr 255 (blk 0) (blk 1) _ _ _ _ hk (by omega) (by omega) (by omega)
    (u_byte_fin pr _ (by omega)) (u_byte_fin pr _ (by omega)) (u6_fin pr) (u4_fin pr) hc.1 hc.2.1

theorem asI8_eq (x : Nat) : asI8 x = BcSpec.sraw x := rfl

theorem bc4sPx_eq (pr : Prec) (blk : Nat → Nat) (hb : ∀ i, blk i < 256) (p : Nat) (hp : p < 16) :
    bc4sPx (bc4sOps pr) blk p = quant pr (BcSpec.bc4sVal blk 0 p) := by
  have h0 := hb 0; have h1 := hb 1
  have hk : leWord blk 2 6 / 8 ^ p % 8 < 8 := Nat.mod_lt _ (by decide)
  have hc := consts_fin pr
  have n0 := s_norm_fin (blk 0) (by omega)
  have n1 := s_norm_fin (blk 1) (by omega)
  unfold bc4sPx BcSpec.bc4sVal
  simp only [bc4Index_eq blk hb p hp, Nat.zero_add, asI8_eq, n0.1, n1.1]
  exact bc4Lut_eq (bc4sOps pr) pr 254 _ _ _ _ _ _ hk (by omega) (by omega) (by omega)
    (s_byte_fin pr _ (by omega)) (s_byte_fin pr _ (by omega)) (s6_fin pr) (s4_fin pr) hc.2.2.1 hc.2.2.2.1

theorem bc4uVal_upper (blk : Nat → Nat) (p : Nat) : BcSpec.bc4uVal (upper blk) 0 p = BcSpec.bc4uVal blk 8 p := by
  unfold BcSpec.bc4uVal upper
  simp only [leWord_shift, Nat.zero_add]
theorem bc4sVal_upper (blk : Nat → Nat) (p : Nat) : BcSpec.bc4sVal (upper blk) 0 p = BcSpec.bc4sVal blk 8 p := by
  unfold BcSpec.bc4sVal upper
  simp only [leWord_shift, Nat.zero_add]

end Dds.Bc
