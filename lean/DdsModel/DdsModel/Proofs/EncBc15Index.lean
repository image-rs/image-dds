/-
C13, BC1–BC5 encoder core: the index lists (bc1.rs / bc4.rs `IndexList`).  Sixteen `set` calls on an empty list give the
base-`2^I` number whose digits are the values, no assertion fires, and `get` / the decoder's digit extraction return them.
-/
import DdsModel.EncBc15
import DdsModel.Proofs.Fields
namespace Dds.Enc15
open Dds Dds.Enc7 Dds.Bc7Spec

/-- `Σ_{j<n} v j · 2^(I·j)` -/
def packed (I : Nat) (v : Nat → Nat) : Nat → Nat
  | 0 => 0
  | n + 1 => packed I v n + v n * 2 ^ (I * n)

theorem packed_eq_fv (I : Nat) (v : Nat → Nat) : ∀ n, packed I v n = fv (run n I v)
  | 0 => rfl
  | n + 1 => by rw [run_succ, fv_snoc, width_run, ← packed_eq_fv I v n, Nat.mul_comm n I]; rfl

section
variable (I : Nat) (hI : I < 64) (v : Nat → Nat) (hv : ∀ j, v j < 2 ^ I)
include hI hv

theorem packed_lt (n : Nat) : packed I v n < 2 ^ (I * n) := by
  have := fv_lt _ (fieldsOK_run n I v hI fun e _ => hv e)
  rwa [width_run, Nat.mul_comm, ← packed_eq_fv] at this

theorem packed_digit (n i : Nat) (h : i < n) : packed I v n / 2 ^ (i * I) % 2 ^ I = v i := by
  have := rd_run n I v [] i hI (fun e _ => hv e) h
  rwa [List.append_nil, ← packed_eq_fv] at this

/-- OR-ing the next digit into its (still empty) place appends it -/
theorem packed_or_shl (n : Nat) : packed I v n ||| v n <<< (n * I) = packed I v (n + 1) := by
  have := or_shl_fv (run n I v) (v n) I (fieldsOK_run n I v hI fun e _ => hv e)
  rwa [width_run, ← run_succ, ← packed_eq_fv, ← packed_eq_fv] at this

end

theorem idxGet_eq (I d i : Nat) (hI : I ≤ 8) : idxGet I d i = d / 2 ^ (i * I) % 2 ^ I := by
  unfold idxGet
  rw [Nat.and_two_pow_sub_one_eq_mod, Nat.shiftRight_eq_div_pow]
  have h1 : d / 2 ^ (i * I) % 2 ^ I < 2 ^ I := Nat.mod_lt _ (Nat.two_pow_pos I)
  have h2 : 2 ^ I ≤ 2 ^ 8 := Nat.pow_le_pow_right (by decide) hI
  exact Nat.mod_eq_of_lt (by show _ < 256; omega)

theorem idxGet_packed (I : Nat) (hI : I ≤ 8) (v : Nat → Nat) (hv : ∀ j, v j < 2 ^ I) (n i : Nat) (h : i < n) :
    idxGet I (packed I v n) i = v i := by
  rw [idxGet_eq I _ i hI, packed_digit I (by omega) v hv n i h]

theorem idxGet_of_lt (I d i : Nat) (hI : I ≤ 8) (h : d < 2 ^ (I * i)) : idxGet I d i = 0 := by
  rw [idxGet_eq I d i hI, Nat.mul_comm i I, Nat.div_eq_of_lt h, Nat.zero_mod]

/-- the assignment of `set` on a list holding `n` entries appends digit `n`; nothing is shifted out of the word -/
theorem idxSetRaw_packed (I W : Nat) (hI : I < 64) (hW : 2 ^ (I * 16) ≤ W) (v : Nat → Nat) (hv : ∀ j, v j < 2 ^ I) (n : Nat)
    (hn : n < 16) : idxSetRaw I W (packed I v n) n (v n) = packed I v (n + 1) := by
  have h1 : v n <<< (n * I) < W := by
    have h2 : packed I v n + v n * 2 ^ (I * n) < 2 ^ (I * (n + 1)) := packed_lt I hI v hv (n + 1)
    have h3 : 2 ^ (I * (n + 1)) ≤ 2 ^ (I * 16) := Nat.pow_le_pow_right (by decide) (Nat.mul_le_mul_left I (by omega))
    rw [Nat.shiftLeft_eq, Nat.mul_comm n I]
    omega
  rw [idxSetRaw, Nat.mod_eq_of_lt h1, packed_or_shl I hI v hv n]

/-- one `set` on a list holding `n` entries: no assertion fires and the value becomes digit `n` -/
theorem idxSet_packed (I W : Nat) (hI : I ≤ 8) (hW : 2 ^ (I * 16) ≤ W) (v : Nat → Nat) (hv : ∀ j, v j < 2 ^ I) (n : Nat)
    (hn : n < 16) : idxSet I W (packed I v n) n (v n) = some (packed I v (n + 1)) := by
  unfold idxSet
  rw [if_pos ⟨hn, hv n, idxGet_of_lt I _ n hI (packed_lt I (by omega) v hv n)⟩, idxSetRaw_packed I W (by omega) hW v hv n hn]

/-- sixteen `set`s: the list is `packed I v 16`, below `2^(16·I)`, and `get i` returns `v i` -/
theorem idxFill_spec (I W : Nat) (hI : I ≤ 8) (hW : 2 ^ (I * 16) ≤ W) (v : Nat → Nat) (hv : ∀ j, v j < 2 ^ I)
    (f : Nat → Option Nat) (hf : ∀ i, i < 16 → f i = some (v i)) :
    idxFill I W f = some (packed I v 16) ∧ packed I v 16 < 2 ^ (I * 16) ∧
      ∀ i, i < 16 → idxGet I (packed I v 16) i = v i :=
  ⟨foldl_range_eq (fun n => some (packed I v n)) _ 16
      (fun k hk => by simp only [Option.bind_some, hf k hk]; exact idxSet_packed I W hI hW v hv k hk) 16 (Nat.le_refl _),
    packed_lt I (by omega) v hv 16, fun i hi => idxGet_packed I hI v hv 16 i hi⟩

theorem foldl_bind_none {α β : Type} (g : β → α → Option β) (l : List α) :
    l.foldl (fun acc i => acc.bind fun d => g d i) none = none := by
  induction l with
  | nil => rfl
  | cons a l ih => exact ih

/-- an assertion of `set` fires (value out of range) or the selector fails ⇒ `idxFill` is `none`;
conversely `some` means every value was in range -/
theorem idxFill_some (I W : Nat) (f : Nat → Option Nat) (d : Nat) (h : idxFill I W f = some d) :
    ∀ i, i < 16 → ∃ x, f i = some x ∧ x < 2 ^ I := by
  have key : ∀ (l : List Nat) (acc : Option Nat),
      l.foldl (fun acc i => acc.bind fun d => (f i).bind fun x => idxSet I W d i x) acc = some d →
      ∀ i ∈ l, ∃ x, f i = some x ∧ x < 2 ^ I := by
    intro l
    induction l with
    | nil => intro _ _ i hi; cases hi
    | cons a l ih =>
      intro acc hfold i hi
      rw [List.foldl_cons] at hfold
      rcases List.mem_cons.mp hi with rfl | hi
      · -- a step that yields `none` makes the whole fold `none`
        cases acc with
        | none => rw [Option.bind_none, foldl_bind_none] at hfold; cases hfold
        | some d0 =>
          cases hfi : f i with
          | none => rw [Option.bind_some, hfi, Option.bind_none, foldl_bind_none] at hfold; cases hfold
          | some x =>
            refine ⟨x, rfl, Decidable.byContradiction fun hx => ?_⟩
            have : idxSet I W d0 i x = none := by unfold idxSet; rw [if_neg (fun h => hx h.2.1)]
            rw [Option.bind_some, hfi, Option.bind_some, this, foldl_bind_none] at hfold
            cases hfold
      · exact ih _ hfold i hi
  exact fun i hi => key _ _ h i (List.mem_range.mpr hi)

/-- the decoder-side digit: `idx / 4^p % 4`, `idx / 8^p % 8` -/
theorem idxGet2_spec (d p : Nat) : idxGet 2 d p = d / 4 ^ p % 4 := by
  rw [idxGet_eq 2 d p (by decide), Nat.mul_comm p 2, Nat.pow_mul]
theorem idxGet3_spec (d p : Nat) : idxGet 3 d p = d / 8 ^ p % 8 := by
  rw [idxGet_eq 3 d p (by decide), Nat.mul_comm p 3, Nat.pow_mul]

/-- `new_all(value)`: every entry is `value` -/
theorem MASK3_eq : MASK3 = packed 3 (fun _ => 1) 16 := by decide

theorem newAll_spec (value : Nat) (h : value < 8) :
    newAll value = some (packed 3 (fun _ => value) 16) := by
  unfold newAll
  rw [if_pos h, MASK3_eq]
  have e : ∀ n, value * packed 3 (fun _ => 1) n = packed 3 (fun _ => value) n := by
    intro n; induction n with
    | zero => rfl
    | succ n ih => show value * (packed 3 (fun _ => 1) n + 1 * 2 ^ (3 * n)) = _; rw [Nat.mul_add, ih, Nat.one_mul]; rfl
  rw [e]
  have := packed_lt 3 (by decide) (fun _ => value) (fun _ => h) 16
  congr 1
  exact Nat.mod_eq_of_lt (Nat.lt_of_lt_of_le this (by decide))

end Dds.Enc15
