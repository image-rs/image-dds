/-
The operators of `ConvF32.lean` by class of their operands: the equations through which proofs
use `fmul`, `fadd` and `toNatSat` without unfolding them.
-/
import DdsModel.ConvF32
namespace Dds.CF32

theorem fmul_fin (a b : Nat) (ha : isNaN a = false) (ha' : isInf a = false)
    (hb : isNaN b = false) (hb' : isInf b = false) :
    fmul a b = roundPack (isNeg a != isNeg b) (mant a * mant b) (expo a + expo b) := by
  unfold fmul
  simp only [force_eq, ha, ha', hb, hb', Bool.or_self, Bool.false_eq_true, if_false]

theorem fmul_inf_left (a b : Nat) (ha : isInf a = true) (hb : isNaN b = false)
    (hb0 : isZero b = false) :
    fmul a b = if isNeg a != isNeg b then negInf else posInf := by
  have hn : isNaN a = false := by
    unfold isInf at ha
    unfold isNaN
    simp only [Bool.and_eq_true, beq_iff_eq] at ha
    simp [ha.1, ha.2]
  have hz : isZero a = false := by
    unfold isInf expField at ha
    unfold isZero signBit
    simp only [Bool.and_eq_true, beq_iff_eq, Nat.shiftRight_eq_div_pow] at ha
    simp only [beq_eq_false_iff_ne, ne_eq]
    omega
  unfold fmul
  simp only [force_eq, hn, ha, hb, hb0, hz, Bool.or_self, Bool.true_or, Bool.false_eq_true,
    if_false, if_true]

/-- finite operands: aligned at the smaller exponent, added exactly, rounded once; an exact zero
sum is `-0.0` only when both operands are negative -/
theorem fadd_fin (a b : Nat) (ha : isNaN a = false) (ha' : isInf a = false)
    (hb : isNaN b = false) (hb' : isInf b = false) :
    fadd a b =
      (let e := min (expo a) (expo b)
       let A : Int := (mant a <<< (expo a - e).toNat : Nat)
       let B : Int := (mant b <<< (expo b - e).toNat : Nat)
       let S := (if isNeg a then -A else A) + (if isNeg b then -B else B)
       if S == 0 then (if isNeg a && isNeg b then signBit else 0)
       else roundPack (S < 0) S.natAbs e) := by
  unfold fadd
  simp only [force_eq, forceI_eq, ha, ha', hb, hb', Bool.or_self, Bool.false_eq_true, if_false]

theorem fadd_inf_left (a b : Nat) (ha : isNaN a = false) (ha' : isInf a = true)
    (hb : isNaN b = false) (hb' : isInf b = false) : fadd a b = a := by
  unfold fadd
  simp only [force_eq, ha, ha', hb, hb', Bool.or_self, Bool.false_eq_true, if_false, if_true,
    Bool.false_and]

theorem toNatSat_of_neg (x max : Nat) (hn : isNaN x = false) (hneg : isNeg x = true) :
    toNatSat x max = 0 := by
  unfold toNatSat
  simp only [force_eq, hn, hneg, Bool.false_eq_true, if_false, if_true]

theorem toNatSat_le_cap (x max : Nat) : toNatSat x max ≤ max := by
  unfold toNatSat
  simp only [force_eq]
  split
  · exact Nat.zero_le _
  split
  · exact Nat.zero_le _
  split
  · exact Nat.le_refl _
  generalize (if expo x ≥ 0 then mant x <<< (expo x).toNat else mant x >>> (-expo x).toNat) = v
  split <;> omega

end Dds.CF32
