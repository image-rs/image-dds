/-
The calls of the ideal decoder (`Decoder.lean`) in closed form.

`read_surface`, `read_surface_rect` and `skip_surface` are one operation, `Dec.consumeIf`, with three
different guards; under the iterator invariant it has three outcomes (`Dec.consumeIf_cases`), and so
the properties of the calls are read off a normal form of the result instead of the definition of
`Dec.step`. The rewinding calls get the same treatment, and the face loop of `read_cube_map` is
written with `?`-sequencing (`thenI`).
-/
import DdsModel.Decoder
import DdsModel.Proofs.SurfIter
namespace Dds
open C08

/-- look at the current surface; reject it with the guard's error, or move past it -/
def Dec.consumeIf (d : Dec) (guard : SurfInfo → Option DecRes) : Dec × DecRes :=
  match d.iter.currentP with
  | none => (d, .panic)
  | some none => (d, .noMoreSurfaces)
  | some (some s) =>
    match guard s with
    | some e => (d, e)
    | none =>
      match d.iter.advanceP with
      | none => (d, .panic)
      | some it => ({ d with iter := it, pos := d.pos + s.len }, .ok)

/-- the checks of `read_surface` before it decodes -/
def Dec.readGuard (d : Dec) (w h : Nat) (s : SurfInfo) : Option DecRes :=
  if normSize w h ≠ (s.w, s.h) then some .unexpectedSurfaceSize
  else if likelyOverflow d.layout.px (normSize w h).1 (normSize w h).2 then some .memoryLimitExceeded
  else none

/-- the checks of `read_surface_rect` before it decodes -/
def Dec.rectGuard (d : Dec) (ox oy w h : Nat) (s : SurfInfo) : Option DecRes :=
  if likelyOverflow d.layout.px s.w s.h then some .memoryLimitExceeded
  else if !containsRect s.w s.h ox oy (normSize w h).1 (normSize w h).2 then some .rectOutOfBounds
  else none

theorem Dec.readSurface_eq (d : Dec) (w h : Nat) :
    d.readSurface w h = d.consumeIf (d.readGuard w h) := by
  unfold Dec.readSurface Dec.consumeIf Dec.readGuard
  cases d.iter.currentP with
  | none => rfl
  | some r =>
    cases r with
    | none => rfl
    | some s =>
      simp only
      split
      · rfl
      · split <;> rfl

theorem Dec.step_readRect_eq (d : Dec) (ox oy w h : Nat) :
    d.step (.readRect ox oy w h) =
      ((d.consumeIf (d.rectGuard ox oy w h)).1, (d.consumeIf (d.rectGuard ox oy w h)).2, []) := by
  unfold Dec.step Dec.consumeIf Dec.rectGuard
  cases d.iter.currentP with
  | none => rfl
  | some r =>
    cases r with
    | none => rfl
    | some s =>
      simp only
      split
      · rfl
      · split
        · rfl
        · cases d.iter.advanceP <;> rfl

theorem Dec.step_skipSurface_eq (d : Dec) :
    d.step .skipSurface = ((d.consumeIf fun _ => none).1, (d.consumeIf fun _ => none).2, []) := by
  unfold Dec.step Dec.consumeIf
  cases d.iter.currentP with
  | none => rfl
  | some r =>
    cases r with
    | none => rfl
    | some s => simp only; cases d.iter.advanceP <;> rfl

/-- The outcomes of `consumeIf` under the iterator invariant: `NoMoreSurfaces` exactly at the end of
the list; the guard's error, nothing changed; or the iterator moved past the current surface and the
reader by its length. No panic. -/
theorem Dec.consumeIf_cases {d : Dec} (v : IterInv d.iter) (guard : SurfInfo → Option DecRes) :
    (abs d.iter = count d.iter ∧ d.consumeIf guard = (d, .noMoreSurfaces)) ∨
    ∃ cur, d.iter.currentP = some (some cur) ∧ abs d.iter < count d.iter ∧
      ((∃ e, guard cur = some e ∧ d.consumeIf guard = (d, e)) ∨
       (guard cur = none ∧ ∃ it', Consumed d.iter cur it' ∧
         d.consumeIf guard = ({ d with iter := it', pos := d.pos + cur.len }, .ok))) := by
  unfold Dec.consumeIf
  rcases current_cases v with ⟨hc, he⟩ | ⟨cur, hc, hlt⟩
  · rw [hc]; exact Or.inl ⟨he, rfl⟩
  · rw [hc]
    refine Or.inr ⟨cur, rfl, hlt, ?_⟩
    simp only
    cases guard cur with
    | some e => exact Or.inl ⟨e, rfl, rfl⟩
    | none =>
      obtain ⟨it', h⟩ := consume_spec v hc
      exact Or.inr ⟨rfl, it', h, by simp only [h.adv]⟩

/-- `skip_mipmaps` refuses inside a volume level, or moves iterator and reader forward together -/
theorem Dec.skipMipmaps_cases {d : Dec} (v : IterInv d.iter) :
    d.skipMipmaps = (d, .cannotSkipMipmapsInVolume) ∨
    ∃ it' n, Moved d.iter it' n ∧ d.skipMipmaps = ({ d with iter := it', pos := d.pos + n }, .ok) := by
  unfold Dec.skipMipmaps
  rcases skip_spec v with h | ⟨it', n, h, m⟩
  · rw [h]; exact Or.inl rfl
  · rw [h]; exact Or.inr ⟨it', n, m, rfl⟩

/-- `rewind_to_previous_surface` on a data section of at most `i64::MAX` bytes: the byte distance to
the previous surface is computed without wrap and seeked back over -/
theorem Dec.step_rewindPrev_eq {d : Dec} (v : IterInv d.iter) (hs : total d.iter ≤ I64MAX) :
    ∃ it', d.iter.rewindP = some it' ∧ IterInv it' ∧ it'.base = d.iter.base ∧
      abs it' = abs d.iter - 1 ∧ elapsed it' ≤ elapsed d.iter ∧
      d.step .rewindPrev =
        ({ d with iter := it', pos := d.pos - ((elapsed d.iter - elapsed it' : Nat) : Int) }, .ok, []) := by
  obtain ⟨it', hr, hi, hb, ha, hle⟩ := rewind_spec v
  refine ⟨it', hr, hi, hb, ha, hle, ?_⟩
  have := elapsed_le_total v
  have := I64MAX_lt_U64
  simp only [Dec.step, elapsedP_eq v, hr, elapsedP_eq hi, wSub_eq (show elapsed d.iter < U64 by omega) hle]
  rw [if_neg (by omega)]

/-- `rewind_to_start` on a data section of at most `i64::MAX` bytes -/
theorem Dec.step_rewindStart_eq {d : Dec} (v : IterInv d.iter) (hs : total d.iter ≤ I64MAX) :
    d.step .rewindStart =
      ({ d with iter := SurfIter.new d.layout, pos := d.pos - (elapsed d.iter : Int) }, .ok, []) := by
  have := elapsed_le_total v
  simp only [Dec.step, elapsedP_eq v]
  rw [if_neg (by omega)]


/-- sequencing with `?`: run `g` only after `ok` -/
def thenI (b : Dec × DecRes) (g : Dec → Dec × DecRes) : Dec × DecRes := if b.2 = .ok then g b.1 else b

/-- the face loop without the list of written cells -/
def Dec.cubeI (faces fw fh : Nat) : List (Nat × Nat × Nat) → Dec → Dec × DecRes
  | [], d => (d, .ok)
  | (bit, _, _) :: rest, d =>
    if !hasFace faces bit then cubeI faces fw fh rest d else
    match d.iter.currentP with
    | none => (d, .panic)
    | some none => (d, .noMoreSurfaces)
    | some (some s) =>
      if (s.w, s.h) ≠ (fw, fh) then (d, .unexpectedSurfaceSize) else
      thenI (thenI (d.readSurface fw fh) Dec.skipMipmaps) (cubeI faces fw fh rest)

theorem Dec.cubeLoop_eq (faces fw fh : Nat) :
    ∀ (l : List (Nat × Nat × Nat)) (d : Dec) (cells : List (Nat × Nat)),
      ((d.cubeLoop faces fw fh l cells).1, (d.cubeLoop faces fw fh l cells).2.1) =
        Dec.cubeI faces fw fh l d := by
  intro l
  induction l with
  | nil => intro d cells; rfl
  | cons x rest ih =>
    intro d cells
    obtain ⟨bit, cx, cy⟩ := x
    unfold Dec.cubeLoop Dec.cubeI
    split
    · exact ih d cells
    · cases d.iter.currentP with
      | none => rfl
      | some r =>
        cases r with
        | none => rfl
        | some cur =>
          simp only
          split
          · rfl
          · generalize d.readSurface fw fh = a
            obtain ⟨d1, r1⟩ := a
            cases r1 <;> simp only [thenI, reduceCtorEq, if_false, if_true]
            generalize d1.skipMipmaps = b
            obtain ⟨d2, r2⟩ := b
            cases r2 <;> simp only [reduceCtorEq, if_false, if_true, ih]

/-- The face loop keeps every relation `R` between a start state and an outcome that holds of a call
rejected without a change, of `read_surface` and of `skip_mipmaps`, and composes along `?`; `P` is what
`R` re-establishes for the next call and must include the iterator invariant. -/
theorem Dec.cubeI_rel {P : Dec → Prop} {R : Dec → Dec × DecRes → Prop} {faces fw fh : Nat}
    (inv : ∀ {d}, P d → IterInv d.iter) (refl : ∀ {d} (q), P d → q ≠ .panic → R d (d, q))
    (next : ∀ {d b}, R d b → P b.1)
    (seq : ∀ {d b} {g : Dec → Dec × DecRes}, R d b → R b.1 (g b.1) → R d (thenI b g))
    (read : ∀ {d}, P d → R d (d.readSurface fw fh)) (skip : ∀ {d}, P d → R d d.skipMipmaps) :
    ∀ (l : List (Nat × Nat × Nat)) (d : Dec), P d → R d (Dec.cubeI faces fw fh l d) := by
  intro l
  induction l with
  | nil => intro d v; exact refl _ v (by decide)
  | cons x rest ih =>
    intro d v
    obtain ⟨bit, cx, cy⟩ := x
    unfold Dec.cubeI
    split
    · exact ih d v
    · rcases current_cases (inv v) with ⟨hc, _⟩ | ⟨cur, hc, _⟩ <;> rw [hc]
      · exact refl _ v (by decide)
      · simp only
        split
        · exact refl _ v (by decide)
        · have h2 := seq (read v) (skip (next (read v)))
          exact seq h2 (ih _ (next h2))

/-- `read_cube_map` rejects the call before reading anything, or is the face loop -/
theorem Dec.readCubeMap_cases (d : Dec) (w h : Nat) :
    (∃ q, (q = .notACubeMap ∨ q = .unexpectedSurfaceSize) ∧ d.readCubeMap w h = (d, q, [])) ∨
    ∃ faces fw fh, d.readCubeMap w h = d.cubeLoop faces fw fh faceOffsets [] := by
  unfold Dec.readCubeMap
  cases d.layout with
  | texture t => exact Or.inl ⟨_, Or.inl rfl, rfl⟩
  | volume t => exact Or.inl ⟨_, Or.inl rfl, rfl⟩
  | textureArray a =>
    simp only
    cases a.kind with
    | textures => exact Or.inl ⟨_, Or.inl rfl, rfl⟩
    | cubeMaps =>
      simp only
      split
      · exact Or.inl ⟨_, Or.inr rfl, rfl⟩
      · exact Or.inr ⟨_, _, _, rfl⟩
    | partialCubeMap f =>
      simp only
      split
      · exact Or.inl ⟨_, Or.inr rfl, rfl⟩
      · exact Or.inr ⟨_, _, _, rfl⟩


namespace C08

/-- the decoder invariant: the iterator invariant, the reader position equal to the ideal
offset of the cursor, and a fresh iterator for the same layout being valid too; the data
section is at most `i64::MAX` bytes (larger files cannot exist; the rewinding calls document a
panic beyond it) -/
structure DecInv (d : Dec) : Prop where
  iter : IterInv d.iter
  pos : d.pos = (elapsed d.iter : Int)
  fresh : IterInv (SurfIter.new d.layout)
  count_eq : count (SurfIter.new d.layout) = count d.iter
  total_eq : total (SurfIter.new d.layout) = total d.iter
  flat_eq : flat (SurfIter.new d.layout) = flat d.iter
  small : total d.iter ≤ I64MAX

theorem DecInv.move {d : Dec} (v : DecInv d) {it' : SurfIter} {p : Int} (hi : IterInv it')
    (hb : it'.base = d.iter.base) (hp : p = (elapsed it' : Int)) :
    DecInv { d with iter := it', pos := p } := by
  obtain ⟨h1, h2, h3⟩ := of_base_eq hb
  exact ⟨hi, hp, v.fresh, v.count_eq.trans h1.symm, v.total_eq.trans h2.symm,
    v.flat_eq.trans h3.symm, h2 ▸ v.small⟩

theorem DecInv.moved {d : Dec} (v : DecInv d) {it' : SurfIter} {n : Nat} (m : Moved d.iter it' n) :
    DecInv { d with iter := it', pos := d.pos + n } :=
  v.move m.inv m.base (by rw [m.elapsed, v.pos]; omega)

structure Kept (d : Dec) (b : Dec × DecRes) : Prop where
  inv : DecInv b.1
  noPanic : b.2 ≠ .panic
  layout : b.1.layout = d.layout

theorem Kept.refl {d : Dec} (v : DecInv d) {q : DecRes} (hq : q ≠ .panic) : Kept d (d, q) :=
  ⟨v, hq, rfl⟩

theorem Kept.thenI {d : Dec} {b : Dec × DecRes} {g : Dec → Dec × DecRes} (h1 : Kept d b)
    (hg : Kept b.1 (g b.1)) : Kept d (thenI b g) := by
  unfold Dds.thenI
  split
  · exact ⟨hg.inv, hg.noPanic, hg.layout.trans h1.layout⟩
  · exact h1

/-- a guard rejects with an error of its own -/
def Rejects (g : SurfInfo → Option DecRes) : Prop :=
  ∀ s e, g s = some e → e = .unexpectedSurfaceSize ∨ e = .memoryLimitExceeded ∨ e = .rectOutOfBounds

theorem rejects_readGuard (d : Dec) (w h : Nat) : Rejects (d.readGuard w h) := by
  intro s e he
  unfold Dec.readGuard at he
  split at he
  · cases he; exact Or.inl rfl
  · split at he
    · cases he; exact Or.inr (Or.inl rfl)
    · cases he

theorem rejects_rectGuard (d : Dec) (ox oy w h : Nat) : Rejects (d.rectGuard ox oy w h) := by
  intro s e he
  unfold Dec.rectGuard at he
  split at he
  · cases he; exact Or.inr (Or.inl rfl)
  · split at he
    · cases he; exact Or.inr (Or.inr rfl)
    · cases he

/-- The consuming calls: the invariant is kept; a call that does not succeed changes nothing; one that
succeeds moves the cursor forward by exactly one surface; `NoMoreSurfaces` exactly at the end. -/
theorem consumeIf_spec {d : Dec} (v : DecInv d) {g : SurfInfo → Option DecRes} (hg : Rejects g) :
    Kept d (d.consumeIf g) ∧ ((d.consumeIf g).2 ≠ .ok → (d.consumeIf g).1 = d) ∧
    ((d.consumeIf g).2 = .ok →
      abs (d.consumeIf g).1.iter = abs d.iter + 1 ∧ abs d.iter < count d.iter) ∧
    ((d.consumeIf g).2 = .noMoreSurfaces ↔ abs d.iter = count d.iter) := by
  have ok : DecRes.ok ≠ .panic := by decide
  rcases Dec.consumeIf_cases v.iter g with ⟨he, h⟩ | ⟨cur, _, hlt, ⟨e, he, h⟩ | ⟨_, it', hc, h⟩⟩ <;>
    rw [h]
  · exact ⟨.refl v (by decide), fun _ => rfl, (fun h => by cases h), fun _ => he, fun _ => rfl⟩
  · rcases hg cur e he with rfl | rfl | rfl <;>
      exact ⟨.refl v (by decide), fun _ => rfl, (fun h => by cases h), (fun h => by cases h),
        (fun h => by omega)⟩
  · exact ⟨⟨v.moved hc.toMoved, ok, rfl⟩,
      fun h => absurd rfl h, fun _ => ⟨hc.abs, hc.lt⟩, (fun h => by cases h), (fun h => by omega)⟩

theorem skipMipmaps_spec {d : Dec} (v : DecInv d) :
    Kept d d.skipMipmaps ∧ (d.skipMipmaps.2 ≠ .ok → d.skipMipmaps.1 = d) := by
  rcases Dec.skipMipmaps_cases v.iter with h | ⟨it', n, m, h⟩ <;> rw [h]
  · exact ⟨.refl v (by decide), fun _ => rfl⟩
  · exact ⟨⟨v.moved m, (by decide : DecRes.ok ≠ .panic), rfl⟩,
      fun h => absurd rfl h⟩

theorem readSurface_kept {d : Dec} (v : DecInv d) (w h : Nat) : Kept d (d.readSurface w h) := by
  rw [Dec.readSurface_eq]; exact (consumeIf_spec v (rejects_readGuard d w h)).1

theorem step_kept {d : Dec} (v : DecInv d) (op : DecOp) : Kept d ((d.step op).1, (d.step op).2.1) := by
  cases op with
  | read w h =>
    exact readSurface_kept v w h
  | readRect ox oy w h =>
    rw [Dec.step_readRect_eq]; exact (consumeIf_spec v (rejects_rectGuard d ox oy w h)).1
  | skipSurface =>
    rw [Dec.step_skipSurface_eq]
    exact (consumeIf_spec v (g := fun _ => none) (fun _ _ h => by cases h)).1
  | skipMipmaps => exact (skipMipmaps_spec v).1
  | rewindPrev =>
    obtain ⟨it', _, hi, hb, _, hle, h⟩ := Dec.step_rewindPrev_eq v.iter v.small
    rw [h]
    exact ⟨v.move hi hb (by have := v.pos; omega), (by decide : DecRes.ok ≠ .panic), rfl⟩
  | rewindStart =>
    rw [Dec.step_rewindStart_eq v.iter v.small]
    refine ⟨⟨v.fresh, ?_, v.fresh, rfl, rfl, rfl, v.total_eq ▸ v.small⟩,
      (by decide : DecRes.ok ≠ .panic), rfl⟩
    show d.pos - (elapsed d.iter : Int) = (elapsed (SurfIter.new d.layout) : Int)
    rw [(new_zero d.layout).2, v.pos]; omega
  | readCubeMap w h =>
    show Kept d ((d.readCubeMap w h).1, (d.readCubeMap w h).2.1)
    rcases Dec.readCubeMap_cases d w h with ⟨q, hq, h⟩ | ⟨faces, fw, fh, h⟩ <;> rw [h]
    · exact .refl v (q := q) (by rcases hq with rfl | rfl <;> decide)
    · rw [Dec.cubeLoop_eq]
      exact Dec.cubeI_rel DecInv.iter (fun _ v hq => .refl v hq) Kept.inv Kept.thenI
        (fun v => readSurface_kept v _ _) (fun v => (skipMipmaps_spec v).1) _ d v

end C08

end Dds
