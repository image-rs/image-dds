/-
C03x glue: `Indexes::decompress_single_index` inserts a zero bit at the top position of the anchor's
index; the fields of the decompressed word are the positional reads of the specification's anchor rule.
Shared by BC7 (all modes) and BC6H.

The anchors of a partition are a descending list of pixel numbers `as` (`newP` is `Indexes::new_p1 / p2 / p3` for such a
list, `insTops` the word with a zero above each anchor entry); `fld_insTops` reads entry `i` of that word at
`i * w - #{a ∈ as | a < i}`, one bit narrower if `i ∈ as`, which is the shape of the specification's rule.
-/
import DdsModel.Proofs.Bc7
namespace Dds.Bc7
open Dds.BcTables Dds.Bc7Spec

/-- decide every arithmetic side condition of a bit-level boolean expression with `omega` -/
macro "bsimp" : tactic => `(tactic| simp (disch := omega) only [decide_eq_true, decide_eq_false, if_pos, if_neg,
  Bool.true_and, Bool.and_true, Bool.false_and, Bool.and_false, Bool.or_false, Bool.false_or, Bool.true_or,
  Bool.or_true, Bool.not_true, Bool.not_false, Bool.and_self, Bool.or_self])

theorem U8_eq : U8 = 2 ^ 8 := by decide

/-- `x` with a zero bit inserted at position `k` -/
def insZ (x k : Nat) : Nat := x % 2 ^ k + 2 ^ (k + 1) * (x / 2 ^ k)

theorem insZ_testBit (x k j : Nat) :
    (insZ x k).testBit j = if j < k then x.testBit j else if j = k then false else x.testBit (j - 1) := by
  unfold insZ
  have hlt : x % 2 ^ k < 2 ^ (k + 1) :=
    Nat.lt_trans (Nat.mod_lt _ (Nat.two_pow_pos k)) (Nat.pow_lt_pow_right (by decide) (by omega))
  rw [Nat.add_comm, Nat.testBit_two_pow_mul_add _ hlt, Nat.testBit_mod_two_pow, Nat.testBit_div_two_pow]
  by_cases h1 : j < k
  · have : j < k + 1 := by omega
    simp [h1, this]
  · by_cases h2 : j = k
    · subst h2; simp
    · have h3 : ¬ j < k + 1 := by omega
      have h4 : j - (k + 1) + k = j - 1 := by omega
      simp [h1, h2, h3, h4]

theorem compl_testBit (n : Nat) (j : Nat) :
    (U64 - 1 - (2 ^ n - 1)).testBit j = (decide (j < 64) && !decide (j < n)) := by
  have h2 : 0 < 2 ^ n := Nat.two_pow_pos n
  by_cases hn : n ≤ 64
  · have hle : 2 ^ n ≤ 2 ^ 64 := Nat.pow_le_pow_right (by decide) hn
    have e : U64 - 1 - (2 ^ n - 1) = 2 ^ 64 - ((2 ^ n - 1) + 1) := by rw [U64_eq]; omega
    by_cases hn' : n = 64
    · subst hn'
      have : U64 - 1 - (2 ^ 64 - 1) = 0 := by decide
      rw [this]; simp
    · have hlt : 2 ^ n - 1 < 2 ^ 64 := by
        have : 2 ^ n < 2 ^ 64 := Nat.pow_lt_pow_right (by decide) (by omega)
        omega
      rw [e, Nat.testBit_two_pow_sub_succ hlt, Nat.testBit_two_pow_sub_one]
  · have hle : 2 ^ 64 ≤ 2 ^ n := Nat.pow_le_pow_right (by decide) (by omega)
    have : U64 - 1 - (2 ^ n - 1) = 0 := by rw [U64_eq]; omega
    rw [this]; simp; omega

/-- `decompress_single_index(bits, x, a)` = `x` with a zero inserted at bit `a*bits + bits - 1`
(the top bit of entry `a`), as long as the result fits the `u64` -/
theorem decompressSingleIndex_eq (bits x a : Nat) (hb : bits = 2 ∨ bits = 3 ∨ bits = 4) (ha : a < 16)
    (hx : x < 2 ^ (16 * bits - 1)) :
    decompressSingleIndex bits x a = insZ x (a * bits + bits - 1) := by
  have hK : (a * bits) % U8 = a * bits := by
    rcases hb with h | h | h <;> subst h <;> rw [U8_eq] <;> omega
  have hK64 : a * bits < 64 := by rcases hb with h | h | h <;> subst h <;> omega
  have hKb : a * bits + bits ≤ 16 * bits := by rcases hb with h | h | h <;> subst h <;> omega
  have hbits64 : bits < 64 := by omega
  have hb16 : 16 * bits ≤ 64 := by omega
  have hb2 : 2 ≤ bits := by omega
  have hxbit : ∀ j, 16 * bits - 1 ≤ j → x.testBit j = false := by
    intro j hj
    exact Nat.testBit_lt_two_pow (Nat.lt_of_lt_of_le hx (Nat.pow_le_pow_right (by decide) hj))
  have hm1 := mask64_eq _ hK64
  have hm2 := mask64_eq _ hbits64
  have hc := compl_testBit bits
  simp only [U64_eq] at hm1 hm2 hc
  apply Nat.eq_of_testBit_eq
  intro j
  simp only [decompressSingleIndex, getMask, hK, U64_eq, hm1, hm2, Nat.and_two_pow_sub_one_eq_mod,
    Nat.testBit_or, Nat.testBit_and, hc, Nat.testBit_shiftLeft, Nat.testBit_shiftRight,
    Nat.testBit_mod_two_pow, insZ_testBit]
  generalize a * bits = K at *
  clear hm1 hm2 hc hK hx hb
  by_cases h1 : j < K
  · bsimp
  · by_cases h2 : j < K + bits - 1
    · bsimp; congr 1; omega
    · by_cases h3 : j = K + bits - 1
      · bsimp
      · by_cases h4 : j < 64
        · bsimp; congr 1; omega
        · have := hxbit (j - 1) (by omega)
          bsimp; exact this.symm

theorem insZ_lt (x k n : Nat) (hx : x < 2 ^ n) : insZ x k < 2 ^ (n + 1) := by
  apply Nat.lt_pow_two_of_testBit
  intro j hj
  have h1 : x.testBit j = false := Nat.testBit_lt_two_pow (Nat.lt_of_lt_of_le hx (Nat.pow_le_pow_right (by decide) (by omega)))
  have h2 : x.testBit (j - 1) = false :=
    Nat.testBit_lt_two_pow (Nat.lt_of_lt_of_le hx (Nat.pow_le_pow_right (by decide) (by omega)))
  rw [insZ_testBit]
  split
  · exact h1
  · split
    · rfl
    · exact h2

def fld (y q n : Nat) : Nat := (y >>> q) % 2 ^ n

theorem fld_testBit (y q n j : Nat) : (fld y q n).testBit j = (decide (j < n) && y.testBit (q + j)) := by
  simp only [fld, Nat.testBit_mod_two_pow, Nat.testBit_shiftRight]

/-- fields of a word with an inserted zero bit: below the zero, containing it as top bit, above it -/
theorem fld_insZ_below (x k q n : Nat) (h : q + n ≤ k) : fld (insZ x k) q n = fld x q n := by
  apply Nat.eq_of_testBit_eq; intro j
  simp only [fld_testBit, insZ_testBit]
  by_cases hj : j < n <;> bsimp
theorem fld_insZ_top (x k q n : Nat) (h : q + n = k + 1) : fld (insZ x k) q n = fld x q (n - 1) := by
  apply Nat.eq_of_testBit_eq; intro j
  simp only [fld_testBit, insZ_testBit]
  by_cases hj : j < n - 1
  · bsimp
  · by_cases hj' : j < n
    · bsimp
    · bsimp
theorem fld_insZ_above (x k q n : Nat) (h : k < q) : fld (insZ x k) q n = fld x (q - 1) n := by
  apply Nat.eq_of_testBit_eq; intro j
  simp only [fld_testBit, insZ_testBit]
  by_cases hj : j < n
  · bsimp; congr 1; omega
  · bsimp

theorem fld_mod (y N q n : Nat) (h : q + n ≤ N) : fld (y % 2 ^ N) q n = fld y q n := by
  apply Nat.eq_of_testBit_eq; intro j
  simp only [fld_testBit, Nat.testBit_mod_two_pow]
  by_cases hj : j < n <;> bsimp

theorem consumeBits64_eq (count s : Nat) (h : count < 64) : consumeBits64 count s = (s % 2 ^ count, s >>> count) := by
  unfold consumeBits64
  have hd : 2 ^ count ∣ U64 := by rw [U64_eq]; exact Nat.pow_dvd_pow 2 (by omega)
  simp only [h, if_true, mask64_eq count h, Nat.and_two_pow_sub_one_eq_mod, Nat.mod_mod_of_dvd _ hd]

theorem consumeBits64_at (count b P : Nat) (h : count < 64) :
    consumeBits64 count (b >>> P) = ((b >>> P) % 2 ^ count, b >>> (P + count)) := by
  rw [consumeBits64_eq _ _ h, Nat.shiftRight_add]

theorem getIndex_eq (unc bits pixel : Nat) (hb : bits ≤ 8) :
    getIndex ⟨unc, bits, getMask bits⟩ pixel = fld unc (pixel * bits) bits := by
  have hle : 2 ^ bits ≤ U8 := by rw [U8_eq]; exact Nat.pow_le_pow_right (by decide) hb
  have hlt : unc >>> (pixel * bits) % 2 ^ bits < U8 := Nat.lt_of_lt_of_le (Nat.mod_lt _ (Nat.two_pow_pos bits)) hle
  simp only [getIndex, fld, getMask_eq bits (by omega), Nat.and_two_pow_sub_one_eq_mod, Nat.mod_eq_of_lt hlt]


/-- `x` with a zero inserted as the top bit of every `w`-bit entry `a ∈ as`; `as` is descending, so every position
is a position in the result -/
def insTops (w x : Nat) (as : List Nat) : Nat := as.foldr (fun a y => insZ y (a * w + w - 1)) x

theorem insTops_cons (w x a : Nat) (as : List Nat) :
    insTops w x (a :: as) = insZ (insTops w x as) (a * w + w - 1) := rfl

theorem insTops_lt (w x n : Nat) (as : List Nat) (hx : x < 2 ^ n) : insTops w x as < 2 ^ (n + as.length) := by
  induction as with
  | nil => exact hx
  | cons a as ih => exact insZ_lt _ _ _ ih

/-- the top bit of an entry lies below every later entry -/
theorem top_lt (w a' a : Nat) (hw : 0 < w) (h : a' < a) : a' * w + w - 1 < a * w := by
  have := Nat.mul_le_mul_right w (Nat.succ_le_of_lt h)
  rw [Nat.succ_mul] at this
  omega

theorem length_le_of_desc (m : Nat) (as : List Nat) (hd : as.Pairwise (· > ·)) (h : ∀ a ∈ as, a < m) :
    as.length ≤ m := by
  induction as generalizing m with
  | nil => exact Nat.zero_le _
  | cons a as ih =>
    obtain ⟨ha, hd⟩ := List.pairwise_cons.mp hd
    have := ih a hd ha
    have := h a (List.mem_cons_self ..)
    simp only [List.length_cons]; omega

theorem fld_insTops_above (w x q n : Nat) (as : List Nat) (hw : 0 < w) (hd : as.Pairwise (· > ·))
    (h : ∀ a ∈ as, a * w + w - 1 < q) : fld (insTops w x as) q n = fld x (q - as.length) n := by
  induction as generalizing q with
  | nil => rfl
  | cons a as ih =>
    obtain ⟨ha, hd⟩ := List.pairwise_cons.mp hd
    have hq := h a (List.mem_cons_self ..)
    rw [insTops_cons, fld_insZ_above _ _ _ _ hq, ih (q - 1) hd, List.length_cons, Nat.sub_sub, Nat.add_comm]
    intro a' ha'
    have := top_lt w a' a hw (ha a' ha')
    omega

/-- The entries of a `T`-bit word whose anchor entries `as` were stored without their top bit: entry `i` is read at
`i * w` minus the number of anchors before it, one bit narrower if `i` is an anchor itself. -/
theorem fld_insTops (w s T i : Nat) (as : List Nat) (hw : 0 < w) (hd : as.Pairwise (· > ·))
    (hT : ∀ a ∈ as, a * w + w - 1 < T) (hi : i * w + w ≤ T) :
    fld (insTops w (s % 2 ^ (T - as.length)) as) (i * w) w =
      fld s (i * w - (as.filter (· < i)).length) (if i ∈ as then w - 1 else w) := by
  induction as generalizing T with
  | nil => exact fld_mod _ _ _ _ hi
  | cons a as ih =>
    obtain ⟨ha, hd'⟩ := List.pairwise_cons.mp hd
    have hlen := length_le_of_desc a as hd' ha
    have haT := hT a (List.mem_cons_self ..)
    have hbelow : ∀ a' ∈ as, a' * w + w - 1 < a * w := fun a' h' => top_lt w a' a hw (ha a' h')
    have hiw : i ≤ i * w := Nat.le_mul_of_pos_right i hw
    have hfil : (∀ a' ∈ as, a' < i) → as.filter (· < i) = as := fun hj =>
      List.filter_eq_self.mpr fun a' h' => decide_eq_true (hj a' h')
    rw [insTops_cons, List.length_cons]
    rcases Nat.lt_trichotomy i a with h | h | h
    · have := top_lt w i a hw h
      rw [fld_insZ_below _ _ _ _ (by omega), show T - (as.length + 1) = T - 1 - as.length by omega,
        ih (T - 1) hd' (fun a' h' => by have := hbelow a' h'; omega) (by omega)]
      have hmem : i ∈ a :: as ↔ i ∈ as := by
        rw [List.mem_cons]; exact or_iff_right (Nat.ne_of_lt h)
      rw [List.filter_cons_of_neg (by simpa using Nat.le_of_lt h)]
      simp only [hmem]
    · subst h
      rw [fld_insZ_top _ _ _ _ (by omega), fld_insTops_above w _ _ _ as hw hd' hbelow, fld_mod _ _ _ _ (by omega)]
      rw [List.filter_cons_of_neg (by simp), hfil ha, if_pos (List.mem_cons_self ..)]
    · have := top_lt w a i hw h
      rw [fld_insZ_above _ _ _ _ (by omega),
        fld_insTops_above w _ _ _ as hw hd' (fun a' h' => by have := hbelow a' h'; omega), fld_mod _ _ _ _ (by omega)]
      have hmem : ¬ i ∈ a :: as := by
        rw [List.mem_cons]
        exact fun h' => h'.elim (fun e => by omega) (fun h' => by have := ha i h'; omega)
      rw [List.filter_cons_of_pos (by simpa using h), hfil (fun a' h' => Nat.lt_trans (ha a' h') h), if_neg hmem,
        List.length_cons, Nat.sub_sub, Nat.add_comm]

/-- `decompress_single_index` for the anchors `as` in ascending order (the list is descending, `foldr` starts at its
end), on a payload short enough for all the insertions to stay inside the `u64` -/
theorem decompress_all (w x n : Nat) (as : List Nat) (hb : w = 2 ∨ w = 3 ∨ w = 4) (h16 : ∀ a ∈ as, a < 16)
    (hx : x < 2 ^ n) (hn : n + as.length ≤ 16 * w) :
    as.foldr (fun a c => decompressSingleIndex w c a) x = insTops w x as := by
  induction as with
  | nil => rfl
  | cons a as ih =>
    simp only [List.length_cons] at hn
    rw [List.foldr_cons, ih (fun a' h' => h16 a' (List.mem_cons_of_mem _ h')) (by omega), insTops_cons]
    refine decompressSingleIndex_eq w _ a hb (h16 a (List.mem_cons_self ..)) ?_
    exact Nat.lt_of_lt_of_le (insTops_lt w x n as hx) (Nat.pow_le_pow_right (by decide) (by omega))

/-- `Indexes::new_p1 / new_p2 / new_p3` with the anchors as a (descending) list -/
def newP (w s : Nat) (as : List Nat) : Indexes × Nat :=
  let r := consumeBits64 (16 * w - as.length) s
  (⟨as.foldr (fun a c => decompressSingleIndex w c a) r.1, w, getMask w⟩, r.2)

theorem newP1_eq (w s : Nat) : newP1 w s = newP w s [0] := rfl
theorem newP2_eq (w s f2 : Nat) : newP2 w s f2 = newP w s [f2, 0] := rfl
theorem newP3_eq (w s f2 f3 : Nat) : newP3 w s f2 f3 = newP w s [f3, f2, 0] := rfl

theorem newP_of_read (w s c t : Nat) (as : List Nat) (hb : w = 2 ∨ w = 3 ∨ w = 4) (h16 : ∀ a ∈ as, a < 16)
    (hlen : as.length ≤ 16) (hr : consumeBits64 (16 * w - as.length) s = (c, t)) (hc : c < 2 ^ (16 * w - as.length)) :
    newP w s as = (⟨insTops w c as, w, getMask w⟩, t) := by
  simp only [newP, hr]
  rw [decompress_all w _ _ as hb h16 hc (by omega)]

theorem newP_eq (w s : Nat) (as : List Nat) (hb : w = 2 ∨ w = 3 ∨ w = 4) (h16 : ∀ a ∈ as, a < 16)
    (h0 : 0 < as.length) (hlen : as.length ≤ 16) :
    newP w s as = (⟨insTops w (s % 2 ^ (16 * w - as.length)) as, w, getMask w⟩, s >>> (16 * w - as.length)) :=
  newP_of_read w s _ _ as hb h16 hlen (consumeBits64_eq _ s (by omega)) (Nat.mod_lt _ (Nat.two_pow_pos _))

/-- `get_index` on the word built by `new_p1 / p2 / p3` reads the block where the anchor rule says -/
theorem getIndex_newP (w b P i : Nat) (as : List Nat) (hb : w = 2 ∨ w = 3 ∨ w = 4) (hi : i < 16)
    (hd : as.Pairwise (· > ·)) (h16 : ∀ a ∈ as, a < 16) (h0 : 0 < as.length) :
    getIndex (newP w (b >>> P) as).1 i =
      rd b (P + i * w - (as.filter (· < i)).length) (if i ∈ as then w - 1 else w) := by
  have hw : 0 < w := by omega
  have hi' := top_lt w i 16 hw hi
  have hc : (as.filter (· < i)).length ≤ i * w :=
    Nat.le_trans (length_le_of_desc i _ (hd.filter _) fun a h => by simpa using (List.mem_filter.mp h).2)
      (Nat.le_mul_of_pos_right i hw)
  rw [newP_eq w _ as hb h16 h0 (length_le_of_desc 16 as hd h16), getIndex_eq _ w i (by omega),
    fld_insTops w _ (16 * w) i as hw hd (fun a h => by have := top_lt w a 16 hw (h16 a h); omega) (by omega),
    fld, ← Nat.shiftRight_add, ← rd_eq_shift, Nat.add_sub_assoc hc]

end Dds.Bc7
