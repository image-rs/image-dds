/- Proofs for `TrapLoopsPlanar.lean` (C01): the bi-planar helpers and loops never trap under the callers' invariants. -/
import DdsModel.TrapLoopsPlanar
import DdsModel.Proofs.TrapLoopsBlock
namespace Dds.TrapLoops
open Dds Dds.Trap

/-- `process_bi_planar_helper` after the offset part: `width` pixels that start at pixel `off` of `dec` -/
theorem planarTailT_spec {ssx p1 size : Nat} {dec : Sl} {off width total : Nat} (hs : 0 < ssx) (hp1 : 0 < p1)
    (hsz : 0 < size) (hoff : off + width = total) (hw : width < U32B) (hd : total * size ≤ dec.len) :
    Runs (planarTailT ssx p1 size dec width (divCeil width ssx) width off width) (WrOK dec) := by
  have hfl : width / ssx * ssx ≤ width := Nat.div_mul_le_self _ _
  have hdm := Nat.div_add_mod width ssx
  rw [Nat.mul_comm] at hdm
  have hml := Nat.mod_lt width hs
  have hUS := sizes
  have hwr : ∀ (a b : Nat), a + b ≤ total → WrOK dec ⟨dec.buf, dec.off + a * size, b * size⟩ := by
    intro a b hab
    have := add_mul_le_mul hab size
    exact Or.inr ⟨rfl, by simp only; omega, by simp only; omega⟩
  have qfull : Quiet (WrOK dec)
      (if width / ssx = 0 then [] else [Ev.wr ⟨dec.buf, dec.off + off * size, width / ssx * (ssx * size)⟩]) := by
    split
    · exact Quiet.nil _
    · rw [← Nat.mul_assoc]; exact Quiet.one (hwr off (width / ssx * ssx) (by omega))
  unfold planarTailT
  simp only [wp, Nat.mul_assoc _ ssx p1, ret_fromBytesT_mul (Nat.mul_pos hs hp1), Nat.mul_assoc _ ssx size,
    ret_fromBytesT_mul (Nat.mul_pos hs hsz), ret_ite, and_self, imp_self, implies_true, and_true, ← and_assoc]
  have hdc := div_le_divCeil width ssx
  exact ⟨⟨by omega, fun hr => ⟨⟨⟨fun x hx => by omega, div_lt_divCeil_of_rem (by omega)⟩, fun x hx => by omega⟩,
    qfull.append (Quiet.one (hwr (off + width / ssx * ssx) _ (by omega)))⟩⟩, fun _ => qfull.append (Quiet.nil _)⟩

/-- the contract of a `ProcessBiPlanarFn` (the `debug_assert_eq!`s of :910–916) -/
structure PlPre (ssx p1 p2 size : Nat) (plane1 plane2 dec : Sl) (offset width : Nat) : Prop where
  ssx_pos : 0 < ssx
  p1_pos : 0 < p1
  p2_pos : 0 < p2
  size_pos : 0 < size
  off_lt : offset < ssx
  w_pos : 0 < width
  wsum_lt : offset + width < U32B
  l1 : plane1.len = width * p1
  l2 : plane2.len = divCeil (offset + width) ssx * p2
  ld : dec.len = width * size

theorem planarHelperT_spec {ssx p1 p2 size : Nat} {plane1 plane2 dec : Sl} {offset width : Nat}
    (h : PlPre ssx p1 p2 size plane1 plane2 dec offset width) :
    Runs (planarHelperT ssx p1 p2 size plane1 plane2 dec offset width) (WrOK dec) := by
  obtain ⟨hs, hp1, hp2, hsz, hol, hw, hws, l1, l2, ld⟩ := h
  have h32 := sizes.1
  have hdl : width * size ≤ dec.len := Nat.le_of_eq ld.symm
  unfold planarHelperT
  rw [l1, l2, ld]
  simp only [wp, ret_fromBytesT_mul hp1, ret_fromBytesT_mul hp2, ret_fromBytesT_mul hsz, ret_ite]
  refine ⟨fun _ => ?_, fun h0 => ?_⟩
  · have sp := offsetSplit hol hw
    have hD := sp.rest
    rw [Nat.add_comm] at hD
    generalize min (ssx - offset) width = w at sp hD ⊢
    have hle := sp.le
    have hfit := sp.fit
    have hpos := sp.pos
    have hws1 : w * size ≤ width * size := Nat.mul_le_mul_right _ hle
    rw [Nat.mod_eq_of_lt (by omega), hD, if_neg (Nat.ne_of_gt hpos)]
    exact ⟨hol, by omega, fun x hx => by omega, by omega, fun x hx => by omega, hle, hle, by omega, hle,
      Ret.mono (planarTailT_spec (off := w) hs hp1 hsz (by omega) (by omega) hdl) fun e q =>
        (Quiet.one (Or.inr ⟨rfl, Nat.le_refl _, by simp only; omega⟩)).append q⟩
  · obtain rfl : offset = 0 := by omega
    rw [Nat.zero_add]
    exact planarTailT_spec (off := 0) hs hp1 hsz (by omega) (by omega) hdl


/-- the main loop of `process_bi_planar` on `width` pixels that start at a macro-pixel boundary -/
theorem convPlanarMainT_spec {native : Color} {target : Unc.Channels} {ssx p1 p2 bufPx width : Nat}
    {plane1 plane2 out : Sl} (hp : native.psz = 1 ∨ native.psz = 2 ∨ native.psz = 4) (hs : 0 < ssx) (hp1 : 0 < p1)
    (hp1l : p1 < 16) (hp2 : 0 < p2) (hp2l : p2 < 16) (hge : ssx ≤ bufPx) (hfit : bufPx * native.bpp ≤ BUFFER_BYTES)
    (hw : width < U32B) (l1 : plane1.len = width * p1) (l2 : plane2.len = divCeil width ssx * p2)
    (lo : out.len = width * (Color.mk target native.psz).bpp) :
    Runs (convPlanarMainT native target ssx p1 p2 native.bpp (Color.mk target native.psz).bpp bufPx plane1 plane2 out
      width) (WrOK out) := by
  obtain ⟨f1, f2, f3⟩ := pref_facts hs hge
  obtain ⟨h32, h64, _⟩ := sizes
  have hB := bufBytes_bounds.2
  have hNb := Color.bpp_bounds native hp
  have hOb := Color.bpp_bounds ⟨target, native.psz⟩ hp
  have hdcw := divCeil_le_self width hs
  -- the three slices fit `usize`
  have t1 : plane1.len < USIZE := by have := Nat.mul_le_mul_left width (Nat.le_of_lt hp1l); omega
  have t2 : plane2.len < USIZE := by have := Nat.mul_le_mul hdcw (Nat.le_of_lt hp2l); omega
  have t3 : out.len < USIZE := by have := Nat.mul_le_mul_left width hOb.2; omega
  unfold convPlanarMainT
  simp only [wp, ← and_assoc]
  generalize bufPx - bufPx % ssx = pref at f1 f2 f3
  refine ⟨⟨⟨Nat.ne_of_gt hs, Nat.mod_le _ _⟩, Nat.ne_of_gt f1⟩, Ret.forT fun cs hcs => ?_⟩
  obtain ⟨hd, h1, h2, h3⟩ := Addr.chunk_facts f1 hcs
  -- the chunk in plane 1, in plane 2, in the output row and in the conversion buffer
  simp only [↓ret_unitRange l1 t1 hp1, ↓ret_unitRange l2 t2 hp2, ↓ret_unitRange lo t3 hOb.1, wp, tmpBuffer_len,
    ← and_assoc]
  generalize hce : min (cs + pref) width = ce at h1 h2 h3
  have hblk := div_add_divCeil_sub hs (Nat.dvd_trans f3 hd) (Nat.le_of_lt h1)
  have hblk' := divCeil_mono hs h2
  have d1 : (ce - cs) * native.bpp ≤ bufPx * native.bpp := Nat.mul_le_mul_right _ (by omega)
  have d2 : bufPx * 1 ≤ bufPx * native.bpp := Nat.mul_le_mul_left _ hNb.1
  have o4 := add_mul_le_mul (show cs + (ce - cs) ≤ width by omega) (Color.mk target native.psz).bpp
  rw [Nat.mod_eq_of_lt (by omega : ce - cs < U32B)]
  exact ⟨by omega, Ret.seq
    (Ret.mono (planarHelperT_spec ⟨hs, hp1, hp2, hNb.1, hs, by omega, by omega, rfl,
      by rw [Nat.zero_add, ← hblk, Nat.add_sub_cancel_left], rfl⟩) fun _ q => q.mono fun s hs => hs.tmp rfl out)
    ⟨_, convertChannelsForT_spec hp (n := ce - cs) rfl rfl,
      Quiet.one (Or.inr ⟨rfl, by simp only; omega, by simp only; omega⟩)⟩⟩

theorem convPlanarT_spec {native : Color} {target : Unc.Channels} {ssx p1 p2 : Nat} {plane1 plane2 out : Sl}
    {offset width : Nat} (hp : native.psz = 1 ∨ native.psz = 2 ∨ native.psz = 4) (hsl : ssx < 16) (hp1l : p1 < 16)
    (hp2l : p2 < 16) (h : PlPre ssx p1 p2 (Color.mk target native.psz).bpp plane1 plane2 out offset width) :
    Runs (convPlanarT native target ssx p1 p2 plane1 plane2 out offset width) (WrOK out) := by
  unfold convPlanarT
  split
  · rename_i hc
    rw [Color.mk_ch hc] at h
    exact planarHelperT_spec h
  · obtain ⟨hs, hp1, hp2, hsz, hol, hw, hws, l1, l2, ld⟩ := h
    obtain ⟨h32, h64, _⟩ := sizes
    obtain ⟨hB1, hB2⟩ := bufBytes_bounds
    have hNb := Color.bpp_bounds native hp
    have hOb := Color.bpp_bounds ⟨target, native.psz⟩ hp
    have hge : ssx ≤ BUFFER_BYTES / native.bpp := by
      rw [Nat.le_div_iff_mul_le (by omega)]
      have : ssx * native.bpp ≤ 15 * 16 := Nat.mul_le_mul (by omega) hNb.2
      omega
    have hfit : BUFFER_BYTES / native.bpp * native.bpp ≤ BUFFER_BYTES := Nat.div_mul_le_self _ _
    have t1 : plane1.len < USIZE := by have := Nat.mul_le_mul_left width (Nat.le_of_lt hp1l); omega
    have t3 : out.len < USIZE := by have := Nat.mul_le_mul_left width hOb.2; omega
    have a3 : divCeil (offset + width) ssx * p2 ≤ (offset + width) * 16 :=
      Nat.mul_le_mul (divCeil_le_self _ hs) (by omega)
    simp only [↓ret_unitUpto l1 t1 hp1, ↓ret_unitUpto ld t3 hsz, ↓ret_unitDrop l1 hp1, ↓ret_unitDrop ld hsz, wp,
      ↓ret_bppT (c := ⟨target, native.psz⟩) hp, ↓ret_bppT hp, ret_ite, tmpBuffer_len, ← and_assoc]
    refine ⟨⟨by omega, fun h0 => ?_⟩, fun h0 => ?_⟩
    · have sp := offsetSplit hol hw
      have hD := sp.bytes (len := plane2.len) (bpb := p2) (by rw [l2, Nat.add_comm])
      generalize min (ssx - offset) width = ow at sp hD ⊢
      have hle := sp.le
      have hfit' := sp.fit
      have b3 : ow * native.bpp ≤ BUFFER_BYTES / native.bpp * native.bpp := Nat.mul_le_mul_right _ (by omega)
      have o4 := add_mul_le_mul (show ow + (width - ow) ≤ width by omega) (Color.mk target native.psz).bpp
      refine ⟨by omega, Ret.mono (planarHelperT_spec ⟨hs, hp1, hp2, hNb.1, hol, sp.pos, by omega, rfl,
        by rw [Nat.add_comm offset ow, sp.head, Nat.one_mul], rfl⟩) fun w1 q1 =>
        ⟨_, convertChannelsForT_spec hp (n := ow) rfl rfl, by omega, ?_⟩⟩
      refine Ret.mono (convPlanarMainT_spec (width := width - ow) hp hs hp1 hp1l hp2 hp2l hge hfit (by omega) rfl hD.2
        rfl) fun e q3 => ((q1.mono fun s hs => hs.tmp rfl out).append (Quiet.one ?_)).append (q3.mono fun s hs => ?_)
      · exact Or.inr ⟨rfl, Nat.le_refl _, by simp only; omega⟩
      · exact WrOK.sub (d := out) hs rfl (by simp only; omega) (by simp only; omega)
    · obtain rfl : offset = 0 := by omega
      rw [Nat.zero_add] at l2
      exact convPlanarMainT_spec hp hs hp1 hp1l hp2 hp2l hge hfit (by omega) l1 l2 ld


/-- how a decoder of `bi_planar.rs` instantiates the loops: `BiPlaneInfo` with `u8` fields in the ranges of `Fam.WF` -/
structure PlanarCfg (img : Img) (native : Color) (p1 p2 ssx ssy : Nat) : Prop where
  prec : img.color.psz = native.psz
  p1_pos : 0 < p1
  p1_lt : p1 < 16
  p2_pos : 0 < p2
  p2_lt : p2 < 16
  ssx_pos : 0 < ssx
  ssx_lt : ssx < 16
  ssy_pos : 0 < ssy
  ssy_lt : ssy < 16

theorem convPlanar_row {img : Img} {native : Color} {p1 p2 ssx ssy : Nat} (ok : img.Ok)
    (c : PlanarCfg img native p1 p2 ssx ssy) {line1 uv : Sl} {offset row : Nat} (hrow : row < img.h)
    (ho : offset < ssx) (hws : offset + img.w < U32B) (l1 : line1.len = img.w * p1)
    (l2 : uv.len = divCeil (offset + img.w) ssx * p2) :
    Runs (convPlanarT native img.color.ch ssx p1 p2 line1 uv ⟨.out, row * img.pitch, img.w * img.color.bpp⟩ offset
      img.w) (InRows 0 img.pitch img.h (img.w * img.color.bpp)) := by
  have hp : native.psz = 1 ∨ native.psz = 2 ∨ native.psz = 4 := c.prec ▸ ok.psz
  exact Ret.mono (convPlanarT_spec (out := ⟨.out, row * img.pitch, img.w * img.color.bpp⟩) hp c.ssx_lt c.p1_lt c.p2_lt
    ⟨c.ssx_pos, c.p1_pos, c.p2_pos, (Color.bpp_bounds ⟨img.color.ch, native.psz⟩ hp).1, ho, ok.w_pos, hws, l1, l2,
      by rw [Color.mk_psz c.prec]⟩) fun _ q => q.mono fun s hs =>
        InRows.of_WrOK hs hrow (Nat.zero_add _).symm (Nat.le_refl _)

theorem planarFullInnerT_spec {img : Img} {native : Color} {p1 p2 ssx ssy : Nat} (ok : img.Ok)
    (c : PlanarCfg img native p1 p2 ssx ssy) (hsurf : img.w * p1 * img.h ≤ I64MAX) {uvLine : Sl}
    (l2 : uvLine.len = divCeil img.w ssx * p2) :
    ∀ (l : List Nat) (y : Nat), y ≤ img.h →
      Ret (planarFullInnerT img native ssx p1 p2 (img.w * p1) ⟨.plane1, 0, img.w * p1 * img.h⟩ uvLine l y) fun r =>
        r.1 = min img.h (y + l.length) ∧ Quiet (InRows 0 img.pitch img.h (img.w * img.color.bpp)) r.2 := by
  obtain ⟨h32, h64, hI⟩ := sizes
  have hhl := ok.h_lt
  have hwl := ok.w_lt
  have hk : 0 < img.w * p1 := Nat.mul_pos ok.w_pos c.p1_pos
  have t1 : (Sl.mk .plane1 0 (img.w * p1 * img.h)).len < USIZE := by simp only; omega
  intro l
  induction l with
  | nil => intro y hy; exact ⟨_, rfl, by simp only [List.length_nil]; omega, Quiet.nil _⟩
  | cons a rest ih =>
    intro y hy
    unfold planarFullInnerT
    refine ret_ite.2 ⟨fun hge => ret_some.2 ⟨by simp only [List.length_cons]; omega, Quiet.nil _⟩, fun hlt => ?_⟩
    have hy' : y < img.h := by omega
    simp only [↓ret_unitRow rfl t1 hk, wp, ok.getRowT hy']
    exact ⟨by omega, Ret.mono (convPlanar_row ok c (uv := uvLine) (offset := 0) hy' c.ssx_pos (by omega) rfl
      (by rw [Nat.zero_add]; exact l2)) fun e q =>
      ⟨by omega, Ret.mono (ih (y + 1) (by omega)) fun r hr =>
        ⟨by rw [hr.1]; simp only [List.length_cons]; omega, q.append hr.2⟩⟩⟩

/-- the part of the surface bound `check_likely_overflow` gives that the bi-planar loops need -/
structure PlanarSurf (p1 p2 ssx ssy W H : Nat) : Prop where
  plane1 : W * p1 * H ≤ I64MAX
  plane2 : divCeil W ssx * p2 * divCeil H ssy ≤ I64MAX

/-- **`for_each_bi_planar`**: no trap; trace = C06's `biPlanarFull`; every write inside a row of the view -/
theorem planarFullT_spec {img : Img} {native : Color} {p1 p2 ssx ssy : Nat} (ok : img.Ok)
    (c : PlanarCfg img native p1 p2 ssx ssy) (hs : PlanarSurf p1 p2 ssx ssy img.w img.h) :
    ∃ evs, planarFullT img native p1 p2 ssx ssy = some evs ∧
      ios evs = Stream.biPlanarFull p1 p2 ssx ssy img.w img.h ∧
      Wr (InRows 0 img.pitch img.h (img.w * img.color.bpp)) evs := by
  have hsx := c.ssx_pos
  have hsy := c.ssy_pos
  obtain ⟨h32, h64, hI⟩ := sizes
  have hhb : 0 < divCeil img.h ssy := divCeil_pos ok.h_pos hsy
  have hbp : 0 < divCeil img.w ssx * p2 := Nat.mul_pos (divCeil_pos ok.w_pos hsx) c.p2_pos
  have hs1 := hs.plane1
  have hbl : divCeil img.w ssx * p2 < USIZE := by
    have : divCeil img.w ssx * p2 * 1 ≤ divCeil img.w ssx * p2 * divCeil img.h ssy := Nat.mul_le_mul_left _ hhb
    have := hs.plane2; omega
  have hp1l : img.w * p1 ≤ img.w * p1 * img.h := Nat.le_mul_of_pos_right _ ok.h_pos
  have hmod : ssy % 256 = ssy := Nat.mod_eq_of_lt (by have := c.ssy_lt; omega)
  obtain ⟨lb, hnew, hloop⟩ := lineLoop_spec hbp hbl hhb
  have hl := hloop
    (fun y uvLine => do
      dbgP (y < img.h)
      planarFullInnerT img native ssx p1 p2 (img.w * p1) ⟨.plane1, 0, img.w * p1 * img.h⟩ uvLine (List.range (ssy % 256)) y)
    (fun k y => y = min img.h (k * ssy)) (InRows 0 img.pitch img.h (img.w * img.color.bpp)) 0 (by
      rintro k _ line hk rfl _ hl
      have hkm : k * ssy < img.h := (lt_divCeil_iff hsy).1 hk
      refine Ret.pair ?_
      simp only [wp, hmod]
      exact ⟨by omega, Ret.mono (planarFullInnerT_spec ok c hs1 hl (List.range ssy) _ (Nat.min_le_left _ _))
        fun r hr => ⟨by rw [hr.1, List.length_range, Nat.succ_mul]; omega, hr.2⟩⟩) (by simp)
  have hprec := c.prec
  show Ret _ _
  unfold planarFullT
  simp only [wp, hnew, ← and_assoc]
  refine ⟨by omega, Ret.mono hl fun e1 ⟨i1, w1⟩ =>
    ⟨?_, ((Wr.io _ _).append ((Wr.io _ _).append (Wr.io _ _))).append w1⟩⟩
  simp only [i1, ios, Stream.biPlanarFull, Stream.lineBufNew_eq hbp hhb, List.cons_append, List.nil_append]

theorem planarRectInnerT_spec {img : Img} {native : Color} {p1 p2 ssx ssy : Nat} (ok : img.Ok)
    (c : PlanarCfg img native p1 p2 ssx ssy) {W ox oy : Nat} (hx : ox + img.w ≤ W) (hW : W < U32B)
    (hoy : oy + img.h < U32B) (hsurf : W * p1 * img.h ≤ I64MAX) {uvLine : Sl} (l2 : uvLine.len = divCeil W ssx * p2) :
    ∀ (l : List Nat) (y : Nat), y ≤ oy + img.h →
      Ret (planarRectInnerT img ox oy native ssx p1 p2 (W * p1) ⟨.plane1, 0, W * p1 * img.h⟩ uvLine l y) fun r =>
        r.1 = min (oy + img.h) (y + l.length) ∧ Quiet (InRows 0 img.pitch img.h (img.w * img.color.bpp)) r.2 := by
  obtain ⟨h32, h64, hI⟩ := sizes
  have hhp := ok.h_pos
  intro l
  induction l with
  | nil => intro y hy; exact ⟨_, rfl, by simp only [List.length_nil]; omega, Quiet.nil _⟩
  | cons a rest ih =>
    intro y hy
    unfold planarRectInnerT
    simp only [wp, ret_ite]
    refine ⟨fun hlt => ⟨by omega, Ret.mono (ih (y + 1) (by omega)) fun r hr =>
      ⟨by rw [hr.1]; simp only [List.length_cons]; omega, hr.2⟩⟩, fun hge => ⟨hoy, fun hend =>
        ⟨by simp only [List.length_cons]; omega, Quiet.nil _⟩, fun hin => ?_⟩⟩
    have hd : y - oy < img.h := by omega
    have hsx := c.ssx_pos
    have hp2l := c.p2_lt
    have hp1l := c.p1_lt
    -- the chroma samples of the rect within a chroma line (C05's block range with 1-row blocks)
    obtain ⟨_, _, _, _, b5, b6⟩ := C05.block_range_covers ⟨ssx, 1, ox, 0, img.w, 1⟩ hsx ok.w_pos
    have b6 : divCeil (ox + img.w) ssx - ox / ssx = divCeil (ox % ssx + img.w) ssx := b6
    have u1 : ox / ssx * p2 ≤ divCeil (ox + img.w) ssx * p2 := Nat.mul_le_mul_right _ (Nat.le_of_lt b5)
    have u2 : divCeil (ox + img.w) ssx * p2 ≤ divCeil W ssx * p2 := Nat.mul_le_mul_right _ (divCeil_mono hsx hx)
    have u3 : divCeil W ssx * p2 ≤ W * 16 := Nat.mul_le_mul (divCeil_le_self _ hsx) (by omega)
    have u4 : divCeil (ox + img.w) ssx * p2 - ox / ssx * p2 = divCeil (ox % ssx + img.w) ssx * p2 := by
      rw [← Nat.sub_mul, b6]
    -- its luma samples within a luma line, the line within the plane
    have v1 := add_mul_le_mul hx p1
    have v2 : W * p1 ≤ W * 16 := Nat.mul_le_mul_left _ (by omega)
    have v3 : (y - oy + 1) * (W * p1) ≤ img.h * (W * p1) := Nat.mul_le_mul_right _ hd
    rw [Nat.succ_mul, Nat.mul_comm img.h] at v3
    have hml : ox % ssx < ssx := Nat.mod_lt _ hsx
    have hmle : ox % ssx ≤ ox := Nat.mod_le _ _
    simp only [ok.getRowT hd, wp, ← and_assoc]
    exact ⟨by omega, Ret.mono (convPlanar_row ok c (offset := ox % ssx) hd hml (by omega) (Nat.add_sub_cancel_left ..) u4)
      fun e q => ⟨by omega, Ret.mono (ih (y + 1) (by omega)) fun r hr =>
        ⟨by rw [hr.1]; simp only [List.length_cons]; omega, q.append hr.2⟩⟩⟩

/-- **`for_each_bi_planar_rect`**: surface `W × H` whose encoded length passed `check_likely_overflow`, the image is
the rect at `(ox, oy)` inside it -/
theorem planarRectT_spec {img : Img} {native : Color} {p1 p2 ssx ssy : Nat} (ok : img.Ok)
    (c : PlanarCfg img native p1 p2 ssx ssy) {W H ox oy : Nat} (hx : ox + img.w ≤ W) (hy : oy + img.h ≤ H)
    (hW : W < U32B) (hH : H < U32B) (hs : PlanarSurf p1 p2 ssx ssy W H) :
    ∃ evs, planarRectT img W H ox oy native p1 p2 ssx ssy = some evs ∧
      Stream.biPlanarRect p1 p2 ssx ssy W H oy img.h = .ok (ios evs) ∧
      Wr (InRows 0 img.pitch img.h (img.w * img.color.bpp)) evs := by
  have hsx := c.ssx_pos
  have hsy := c.ssy_pos
  obtain ⟨h32, h64, hI⟩ := sizes
  have hhp := ok.h_pos
  have hhl := ok.h_lt
  have hwp := ok.w_pos
  have hmod : ssy % 256 = ssy := Nat.mod_eq_of_lt (by have := c.ssy_lt; omega)
  -- chroma lines skipped, read, skipped
  have hB : oy / ssy < divCeil (oy + img.h) ssy := div_lt_divCeil hsy hhp
  have hB2 : divCeil (oy + img.h) ssy ≤ divCeil H ssy := divCeil_mono hsy hy
  have eLines : divCeil H ssy - oy / ssy - (divCeil H ssy - divCeil (oy + img.h) ssy) =
      divCeil (oy + img.h) ssy - oy / ssy := by omega
  generalize hL : divCeil (oy + img.h) ssy - oy / ssy = L at eLines
  have hLp : 0 < L := by omega
  have hyb : oy / ssy * ssy ≤ oy := Nat.div_mul_le_self _ _
  have hhb : 0 < divCeil H ssy := divCeil_pos (by omega) hsy
  have hbp : 0 < divCeil W ssx * p2 := Nat.mul_pos (divCeil_pos (by omega) hsx) c.p2_pos
  -- whole lines of the two planes stay below the surface bound
  have hs2 := hs.plane2
  have hs1 := hs.plane1
  have hbl : divCeil W ssx * p2 < USIZE := by
    have : divCeil W ssx * p2 * 1 ≤ divCeil W ssx * p2 * divCeil H ssy := Nat.mul_le_mul_left _ hhb
    omega
  have hp1 : ∀ n, n ≤ H → W * p1 * n ≤ I64MAX := fun n hn => Nat.le_trans (Nat.mul_le_mul_left _ hn) hs1
  -- the loop over the chroma lines read
  obtain ⟨lb, hnew, hloop⟩ := lineLoop_spec hbp hbl hLp
  have hl := hloop
    (fun y uvLine => do
      let t ← ck32 (oy + img.h)
      dbgP (y < t)
      planarRectInnerT img ox oy native ssx p1 p2 (W * p1) ⟨.plane1, 0, W * p1 * img.h⟩ uvLine (List.range (ssy % 256)) y)
    (fun k y => y = min (oy + img.h) ((oy / ssy + k) * ssy)) (InRows 0 img.pitch img.h (img.w * img.color.bpp))
    (oy / ssy * ssy) (by
      rintro k _ line hk rfl _ hl
      have hkm : (oy / ssy + k) * ssy < oy + img.h := (lt_divCeil_iff hsy).1 (by omega)
      refine Ret.pair ?_
      simp only [wp, hmod]
      exact ⟨by omega, by omega, Ret.mono (planarRectInnerT_spec ok c hx hW (by omega) (hp1 img.h (by omega)) hl
        (List.range ssy) _ (Nat.min_le_left _ _)) fun r hr =>
          ⟨by rw [hr.1, List.length_range, ← Nat.add_assoc, Nat.succ_mul]; omega, hr.2⟩⟩)
    (by simp only [Nat.add_zero]; omega)
  -- the skips
  have huv : ∀ n, n ≤ divCeil H ssy → n * (divCeil W ssx * p2) ≤ I64MAX := by
    intro n hn
    have : n * (divCeil W ssx * p2) ≤ divCeil H ssy * (divCeil W ssx * p2) := Nat.mul_le_mul_right _ hn
    rw [Nat.mul_comm (divCeil H ssy)] at this; omega
  have hp1b : W * p1 ≤ W * p1 * H := Nat.le_mul_of_pos_right _ (by omega)
  have k1 := hp1 img.h (by omega)
  have k2 := hp1 oy (by omega)
  have k3 := hp1 (H - oy - img.h) (by omega)
  have k4 := huv (oy / ssy) (by omega)
  have k5 := huv (divCeil H ssy - divCeil (oy + img.h) ssy) (by omega)
  have hprec := c.prec
  show Ret _ _
  unfold planarRectT
  simp only [wp, ret_ite, eLines, hnew, ← and_assoc]
  refine ⟨⟨by omega, fun _ => ⟨by omega, Ret.mono hl fun e1 ⟨i1, w1⟩ => ⟨⟨by omega, ?_⟩, ?_⟩⟩⟩, fun h => absurd (by omega) h⟩
  · unfold Stream.biPlanarRect
    simp only []
    rw [if_pos (by unfold U64; omega), eLines]
    simp only [ios_append, i1, ios, Stream.lineBufNew_eq hbp hLp, List.cons_append, List.nil_append]
  · exact (((Wr.io _ _).append (Wr.io _ _)).append
      ((Wr.io _ _).append ((Wr.io _ _).append ((Wr.io _ _).append (Wr.io _ _)))) |>.append w1).append (Wr.io _ _)

end Dds.TrapLoops
