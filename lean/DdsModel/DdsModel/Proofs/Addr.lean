/-
Addressing model `Addr.lean` (C05): chunk starts, the last write to an output pixel, the crop
predicates, the per-pixel family and the line buffer.
-/
import DdsModel.Addr
import DdsModel.Proofs.DivCeil
import DdsModel.Proofs.ListLemmas
namespace Dds.Addr
open Dds


theorem mem_stepStarts {n p cs : Nat} (hp : 0 < p) :
    cs ∈ stepStarts n p ↔ ∃ k, k * p < n ∧ cs = k * p := by
  unfold stepStarts
  simp only [List.mem_map, List.mem_range, lt_divCeil_iff hp]
  exact ⟨fun ⟨k, hk, e⟩ => ⟨k, hk, e.symm⟩, fun ⟨k, hk, e⟩ => ⟨k, hk, e.symm⟩⟩

theorem stepStart_lt {n p cs : Nat} (hp : 0 < p) (h : cs ∈ stepStarts n p) : cs < n := by
  obtain ⟨k, hk, rfl⟩ := (mem_stepStarts hp).1 h
  exact hk

theorem chunk_of {n p x : Nat} (hp : 0 < p) (hx : x < n) :
    (x / p) * p < n ∧ (x / p) * p ≤ x ∧ x < min ((x / p) * p + p) n := by
  have h1 := Nat.div_mul_le_self x p
  have h2 : x < x / p * p + p := Nat.lt_div_mul_add hp
  omega

theorem stepStarts_tiles {n p x : Nat} (hp : 0 < p) (hx : x < n) :
    ∃ cs ∈ stepStarts n p, cs ≤ x ∧ x < min (cs + p) n :=
  have ⟨h1, h2, h3⟩ := chunk_of hp hx
  ⟨x / p * p, (mem_stepStarts hp).2 ⟨_, h1, rfl⟩, h2, h3⟩

theorem stepStart_dvd {n p cs : Nat} (h : cs ∈ stepStarts n p) : p ∣ cs := by
  obtain ⟨k, _, rfl⟩ := List.mem_map.1 h
  exact Nat.dvd_mul_left p k

theorem stepStart_aligned {n p b cs : Nat} (hdvd : p % b = 0) (h : cs ∈ stepStarts n p) : cs / b * b = cs :=
  Nat.div_mul_cancel (Nat.dvd_trans (Nat.dvd_of_mod_eq_zero hdvd) (stepStart_dvd h))

/-- chunk `[cs, ce)` of `(0..n).step_by(p)`, `ce = min (cs + p) n` -/
theorem chunk_facts {n p cs : Nat} (hp : 0 < p) (h : cs ∈ stepStarts n p) :
    p ∣ cs ∧ cs < min (cs + p) n ∧ min (cs + p) n ≤ n ∧ min (cs + p) n - cs ≤ p := by
  have := stepStart_lt hp h
  exact ⟨stepStart_dvd h, by omega, by omega, by omega⟩


theorem covers_iff (r : Run) (row col : Nat) :
    r.covers row col = true ↔ r.row = row ∧ r.col ≤ col ∧ col < r.col + r.n := by
  simp only [Run.covers, Bool.and_eq_true, beq_iff_eq, decide_eq_true_eq, and_assoc]

/-- every run lies inside the `w × h` view and carries the source pixels of the crop at `(ox, oy)` -/
def CropSound (bw bh ox oy w h : Nat) (runs : List Run) : Prop :=
  ∀ r ∈ runs, r.row < h ∧ r.col + r.n ≤ w ∧ r.ux * bw + r.px = ox + r.col ∧ r.uy * bh + r.py = oy + r.row

def CropCover (w h : Nat) (runs : List Run) : Prop :=
  ∀ i j, i < w → j < h → ∃ r ∈ runs, r.covers j i = true

def WithinUnit (bw bh : Nat) (runs : List Run) : Prop :=
  ∀ r ∈ runs, r.px + r.n ≤ bw ∧ r.py < bh

theorem lastWrite_crop {bw bh ox oy w h : Nat} {runs : List Run}
    (hs : CropSound bw bh ox oy w h runs) (hc : CropCover w h runs) (i j : Nat) (hi : i < w) (hj : j < h) :
    lastWrite bw bh runs j i = some (ox + i, oy + j) := by
  refine find_last_map (fun r hr hcov => ?_) (hc i j hi hj)
  obtain ⟨_, _, h3, h4⟩ := hs r hr
  obtain ⟨c1, c2, _⟩ := (covers_iff r j i).1 hcov
  unfold Run.srcAt
  rw [h3, h4, c1]
  congr 1
  omega

theorem lastWrite_outside {bw bh ox oy w h : Nat} {runs : List Run}
    (hs : CropSound bw bh ox oy w h runs) (row col : Nat) (ho : ¬ (col < w ∧ row < h)) :
    lastWrite bw bh runs row col = none := by
  refine find_last_none fun r hr => ?_
  obtain ⟨h1, h2, _, _⟩ := hs r hr
  rw [← Bool.not_eq_true, covers_iff]
  omega

theorem lastWrite_eq_of_crop {bw bh ox oy w h : Nat} {A B : List Run}
    (hsA : CropSound bw bh ox oy w h A) (hcA : CropCover w h A)
    (hsB : CropSound bw bh ox oy w h B) (hcB : CropCover w h B) (row col : Nat) :
    lastWrite bw bh A row col = lastWrite bw bh B row col := by
  by_cases hin : col < w ∧ row < h
  · rw [lastWrite_crop hsA hcA col row hin.1 hin.2, lastWrite_crop hsB hcB col row hin.1 hin.2]
  · rw [lastWrite_outside hsA row col hin, lastWrite_outside hsB row col hin]

theorem bytes_in_row {row col n w obpp pitch : Nat} (hc : col + n ≤ w) :
    row * pitch ≤ row * pitch + col * obpp ∧ row * pitch + (col + n) * obpp ≤ row * pitch + w * obpp :=
  ⟨Nat.le_add_right _ _, Nat.add_le_add_left (Nat.mul_le_mul_right obpp hc) _⟩

/-- bytes of a run that lies inside a `w`-pixel row stay inside the addressed part of that row -/
theorem run_bytes_in_row (pitch obpp w : Nat) (r : Run) (hp : w * obpp ≤ pitch) (hc : r.col + r.n ≤ w) :
    r.row * pitch ≤ r.byteLo pitch obpp ∧ r.byteLo pitch obpp ≤ r.byteHi pitch obpp ∧
    r.byteHi pitch obpp ≤ r.row * pitch + w * obpp ∧ r.byteHi pitch obpp ≤ (r.row + 1) * pitch := by
  have h := bytes_in_row (row := r.row) (obpp := obpp) (pitch := pitch) hc
  have h2 : r.col * obpp ≤ (r.col + r.n) * obpp := Nat.mul_le_mul_right obpp (Nat.le_add_right _ _)
  unfold Run.byteLo Run.byteHi
  rw [Nat.succ_mul]
  omega

/-- What `rect_eq_crop_*` say about a rectangle decode, from its crop predicates and those of the
full decode: pixel `(i, j)` carries source pixel `(ox+i, oy+j)`, as the full decode has it there;
nothing outside the view is written; every write stays in the addressed bytes of its row. -/
theorem crop_pair {bw bh ox oy w h W H : Nat} {rect full : List Run}
    (hs : CropSound bw bh ox oy w h rect) (hc : CropCover w h rect)
    (hsF : CropSound bw bh 0 0 W H full) (hcF : CropCover W H full) (hx : ox + w ≤ W) (hy : oy + h ≤ H) :
    (∀ i j, i < w → j < h →
      lastWrite bw bh rect j i = some (ox + i, oy + j) ∧
      lastWrite bw bh rect j i = lastWrite bw bh full (oy + j) (ox + i)) ∧
    (∀ row col, ¬ (col < w ∧ row < h) → lastWrite bw bh rect row col = none) ∧
    (∀ r ∈ rect, ∀ pitch obpp, w * obpp ≤ pitch →
      r.row < h ∧ r.row * pitch ≤ r.byteLo pitch obpp ∧ r.byteHi pitch obpp ≤ r.row * pitch + w * obpp) := by
  refine ⟨fun i j hi hj => ?_, lastWrite_outside hs, fun r hr pitch obpp _ => ?_⟩
  · rw [lastWrite_crop hs hc i j hi hj, lastWrite_crop hsF hcF (ox + i) (oy + j) (by omega) (by omega),
      Nat.zero_add, Nat.zero_add]
    exact ⟨rfl, rfl⟩
  · exact ⟨(hs r hr).1, bytes_in_row (hs r hr).2.1⟩

theorem crop_full {bw bh W H : Nat} {full : List Run}
    (hs : CropSound bw bh 0 0 W H full) (hc : CropCover W H full) :
    (∀ i j, i < W → j < H → lastWrite bw bh full j i = some (i, j)) ∧
    (∀ row col, ¬ (col < W ∧ row < H) → lastWrite bw bh full row col = none) := by
  refine ⟨fun i j hi hj => ?_, lastWrite_outside hs⟩
  rw [lastWrite_crop hs hc i j hi hj, Nat.zero_add, Nat.zero_add]


structure RowSpec (pixels : Nat) (runs : List Run) : Prop where
  sound : ∀ r ∈ runs, r.row = 0 ∧ r.ux = r.col ∧ r.uy = 0 ∧ r.px = 0 ∧ r.py = 0 ∧ r.col + r.n ≤ pixels ∧ 0 < r.n
  cover : ∀ x, x < pixels → ∃ r ∈ runs, r.col ≤ x ∧ x < r.col + r.n

theorem convPixels_spec (conv : Bool) (nbpp pixels : Nat) (hb : 0 < BUFFER_BYTES / nbpp) (hp : 0 < pixels) :
    RowSpec pixels (convPixels conv nbpp pixels) := by
  unfold convPixels
  cases conv with
  | false =>
    rw [Bool.not_false, if_pos rfl]
    constructor
    · intro r hr
      obtain rfl := List.mem_singleton.1 hr
      exact ⟨rfl, rfl, rfl, rfl, rfl, Nat.le_of_eq (Nat.zero_add _), hp⟩
    · exact fun x hx => ⟨_, List.mem_singleton.2 rfl, Nat.zero_le _, by rwa [Nat.zero_add]⟩
  | true =>
    rw [Bool.not_true, if_neg Bool.false_ne_true]
    constructor
    · intro r hr
      obtain ⟨cs, hcs, rfl⟩ := List.mem_map.1 hr
      have := stepStart_lt hb hcs
      dsimp only
      omega
    · intro x hx
      obtain ⟨cs, hcs, h1, h2⟩ := stepStarts_tiles hb hx
      refine ⟨_, List.mem_map.2 ⟨cs, hcs, rfl⟩, h1, ?_⟩
      dsimp only
      omega

theorem rectRowPos_eq (W ox oy w y : Nat) (h : ox + w ≤ W) :
    rectRowPos W ox oy w y = W * (oy + y) + ox := by
  induction y with
  | zero => rfl
  | succ y ih =>
    unfold rectRowPos
    rw [ih, ← Nat.add_assoc oy y 1, Nat.mul_add W (oy + y) 1]
    omega

/-- the cover does not depend on where the rows start in the source, so it needs no `ox + w ≤ W` -/
theorem pixelRect_cover (conv : Bool) (nbpp W ox oy w h : Nat) (hb : 0 < BUFFER_BYTES / nbpp) (hw : 0 < w) :
    CropCover w h (pixelRect conv nbpp W ox oy w h) := by
  intro i j hi hj
  obtain ⟨r0, hr0, c⟩ := (convPixels_spec conv nbpp w hb hw).cover i hi
  have s := (convPixels_spec conv nbpp w hb hw).sound r0 hr0
  refine ⟨{ r0 with row := r0.row + j, ux := (rectRowPos W ox oy w j + r0.ux) % W,
                    uy := (rectRowPos W ox oy w j + r0.ux) / W }, ?_, (covers_iff _ _ _).2 ?_⟩
  · simp only [pixelRect, List.mem_flatMap, List.mem_range, List.mem_map]
    exact ⟨j, hj, r0, hr0, rfl⟩
  · dsimp only
    omega

theorem pixelRect_crop (conv : Bool) (nbpp W ox oy w h : Nat) (hb : 0 < BUFFER_BYTES / nbpp)
    (hw : 0 < w) (hx : ox + w ≤ W) :
    CropSound 1 1 ox oy w h (pixelRect conv nbpp W ox oy w h) ∧ CropCover w h (pixelRect conv nbpp W ox oy w h) := by
  refine ⟨fun r hr => ?_, pixelRect_cover conv nbpp W ox oy w h hb hw⟩
  simp only [pixelRect, List.mem_flatMap, List.mem_range, List.mem_map, rectRowPos_eq W ox oy w _ hx] at hr
  obtain ⟨y, hy, r0, hr0, rfl⟩ := hr
  have s := (convPixels_spec conv nbpp w hb hw).sound r0 hr0
  -- the position is `(ox + ux) + W * (oy + y)` with `ox + ux < W`
  have e : W * (oy + y) + ox + r0.ux = (ox + r0.ux) + W * (oy + y) := by omega
  have e1 : (W * (oy + y) + ox + r0.ux) % W = ox + r0.ux := by
    rw [e, Nat.add_mul_mod_self_left, Nat.mod_eq_of_lt (by omega)]
  have e2 : (W * (oy + y) + ox + r0.ux) / W = oy + y := by
    rw [e, Nat.add_mul_div_left _ _ (by omega), Nat.div_eq_of_lt (by omega), Nat.zero_add]
  dsimp only
  rw [e1, e2]
  omega

theorem pixelRect_sound (conv : Bool) (nbpp W ox oy w h : Nat) (hb : 0 < BUFFER_BYTES / nbpp)
    (hw : 0 < w) (hx : ox + w ≤ W) :
    CropSound 1 1 ox oy w h (pixelRect conv nbpp W ox oy w h) :=
  (pixelRect_crop conv nbpp W ox oy w h hb hw hx).1

theorem pixelFull_crop (conv : Bool) (nbpp W H : Nat) (hb : 0 < BUFFER_BYTES / nbpp) (hw : 0 < W) :
    CropSound 1 1 0 0 W H (pixelFull conv nbpp W H) ∧ CropCover W H (pixelFull conv nbpp W H) := by
  have sp := convPixels_spec conv nbpp W hb hw
  have hmem : ∀ r, r ∈ pixelFull conv nbpp W H ↔
      ∃ y, y < H ∧ ∃ r0 ∈ convPixels conv nbpp W, Run.shift y 0 0 y r0 = r := by
    intro r
    simp only [pixelFull, List.mem_flatMap, List.mem_range, List.mem_map]
  constructor
  · intro r hr
    obtain ⟨y, hy, r0, hr0, rfl⟩ := (hmem r).1 hr
    have s := sp.sound r0 hr0
    simp only [Run.shift]
    omega
  · intro i j hi hj
    obtain ⟨r0, hr0, c⟩ := sp.cover i hi
    have s := sp.sound r0 hr0
    refine ⟨_, (hmem _).2 ⟨j, hj, r0, hr0, rfl⟩, (covers_iff _ _ _).2 ?_⟩
    simp only [Run.shift]
    omega

theorem pixelFull_sound (conv : Bool) (nbpp W H : Nat) (hb : 0 < BUFFER_BYTES / nbpp) (hw : 0 < W) :
    CropSound 1 1 0 0 W H (pixelFull conv nbpp W H) :=
  (pixelFull_crop conv nbpp W H hb hw).1

theorem pixelFull_cover (conv : Bool) (nbpp W H : Nat) (hb : 0 < BUFFER_BYTES / nbpp) (hw : 0 < W) :
    CropCover W H (pixelFull conv nbpp W H) :=
  (pixelFull_crop conv nbpp W H hb hw).2

theorem copyFull_crop (W H : Nat) : CropSound 1 1 0 0 W H (copyFull W H) ∧ CropCover W H (copyFull W H) := by
  simp only [CropSound, CropCover, copyFull, List.mem_map, List.mem_range]
  constructor
  · rintro r ⟨y, hy, rfl⟩
    dsimp only
    omega
  · intro i j hi hj
    refine ⟨_, ⟨j, hj, rfl⟩, (covers_iff _ _ _).2 ?_⟩
    dsimp only
    omega

theorem copyFull_sound (W H : Nat) : CropSound 1 1 0 0 W H (copyFull W H) :=
  (copyFull_crop W H).1

theorem copyFull_cover (W H : Nat) : CropCover W H (copyFull W H) :=
  (copyFull_crop W H).2


theorem lbLines_eq (cap : Nat) (hcap : 0 < cap) :
    ∀ fuel onDisk base, onDisk ≤ fuel → lbLines cap fuel onDisk base = (List.range onDisk).map (base + ·) := by
  intro fuel
  induction fuel with
  | zero =>
    intro onDisk base h
    obtain rfl : onDisk = 0 := by omega
    rfl
  | succ fuel ih =>
    intro onDisk base h
    unfold lbLines
    by_cases h0 : onDisk = 0
    · subst h0; rfl
    · have e : onDisk = min cap onDisk + (onDisk - min cap onDisk) := by omega
      rw [if_neg h0]
      dsimp only
      rw [ih _ _ (by omega)]
      conv => rhs; rw [e, List.range_add, List.map_append, List.map_map]
      simp only [Function.comp_def, Nat.add_assoc]

theorem lbCapacity_pos (bpl h : Nat) (hh : 0 < h) : 0 < lbCapacity bpl h := by
  unfold lbCapacity
  dsimp only
  split
  · omega
  · split <;> omega

end Dds.Addr
