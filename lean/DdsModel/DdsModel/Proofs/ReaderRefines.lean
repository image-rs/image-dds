/-
C01, reader ⊑ cursor: the simulation between the composed reader over a REAL stream
(`Reader.lean`) and the ideal decoder of C08 (`Decoder.lean`).

`Sim k base s d` relates a reader state `s` and an ideal state `d`:
  `s.iter = d.iter`  and  `s.pos = base + d.pos`        (the relation proper)
together with the invariants of the ideal state that make the relation checkable (`d` belongs to the
layout of `k`, its iterator satisfies C08's iterator invariant, its position is the cursor offset, the
iterator computes lengths with the layout's `PixelInfo`, and `base + data length` is a `u64` stream
offset).  `StepOK` is what one call of the reader and the same call of the ideal decoder have to do
with each other; `ReaderRefinesOps.lean` shows it call by call, `ReaderRefinesRun.lean` composes the calls.
-/
import DdsModel.Proofs.C01
import DdsModel.Proofs.ReaderRefinesStream
import DdsModel.Proofs.ReaderRefinesIter
namespace Dds.Reader
open Dds Dds.Stream Dds.C08

/-- **The decoder family agrees with the layout**: admissible unit sizes, and the unit sizes of the
`PixelInfo` the layout (and its iterator) computes surface lengths with.  Decidable; holds for every
file `Decoder::new_with_options` accepts (`opened_agrees`). -/
def Cfg.Agrees (k : Cfg) : Prop := k.fam.WF ∧ k.fam.px = k.layout.px

instance (k : Cfg) : Decidable k.Agrees := by unfold Cfg.Agrees; exact inferInstance

/-- result kinds of the ideal decoder as result kinds of the reader model -/
def ofDecRes : DecRes → R
  | .ok => .ok
  | .noMoreSurfaces => .noMoreSurfaces
  | .unexpectedSurfaceSize => .unexpectedSurfaceSize
  | .rectOutOfBounds => .rectOutOfBounds
  | .cannotSkipMipmapsInVolume => .cannotSkipMipmapsInVolume
  | .notACubeMap => .notACubeMap
  | .memoryLimitExceeded => .memoryLimitExceeded
  | .panic => .panic

theorem ofDecRes_inj {p q : DecRes} (h : ofDecRes p = ofDecRes q) : p = q := by
  cases p <;> cases q <;> first | rfl | cases h

theorem ofDecRes_ne_io (q : DecRes) : ofDecRes q ≠ .io := by cases q <;> decide

theorem ofDecRes_eq_ok {q : DecRes} : ofDecRes q = .ok ↔ q = .ok :=
  ⟨fun h => ofDecRes_inj (q := .ok) h, fun h => h ▸ rfl⟩

/-- the ideal decoder's operation for a reader operation (changing the memory limit is none) -/
def toDecOp : Op → Option DecOp
  | .read w h _ => some (.read w h)
  | .rect ox oy w h _ => some (.readRect ox oy w h)
  | .skipSurface => some .skipSurface
  | .skipMipmaps => some .skipMipmaps
  | .cube w h _ => some (.readCubeMap w h)
  | .setLimit _ => none
  | .rewindPrev => some .rewindPrev
  | .rewindStart => some .rewindStart

/-- the ideal decoder's reaction to a reader operation -/
def idealStep (d : Dec) (op : Op) : Dec × DecRes :=
  match toDecOp op with
  | none => (d, .ok)
  | some o => ((d.step o).1, (d.step o).2.1)

/-- bytes the allocations of the call add up to (`need` of its operation trace; 0 for calls that do
not decode and for calls rejected before the first operation) -/
def opNeed (k : Cfg) (s : RS) : Op → Nat
  | .read w h c => planNeed (plan k.fam c (.full (normSize w h).1 (normSize w h).2))
  | .rect ox oy w h c =>
    match s.iter.currentP with
    | some (some cur) =>
      planNeed (plan k.fam c (.rect cur.w cur.h ox oy (normSize w h).1 (normSize w h).2))
    | _ => 0
  | .cube _ _ c =>
    match k.layout with
    | .textureArray a => planNeed (plan k.fam c (.full (normSize a.w a.h).1 (normSize a.w a.h).2))
    | _ => 0
  | _ => 0

/-- the simulation relation (first two fields) with the invariants of the ideal state -/
structure Sim (k : Cfg) (base : Nat) (s : RS) (d : Dec) : Prop where
  iter : s.iter = d.iter
  pos : (s.pos : Int) = base + d.pos
  layout : d.layout = k.layout
  px : iterPx d.iter = k.layout.px
  inv : IterInv d.iter
  cpos : d.pos = (elapsed d.iter : Int)
  u64 : base + total d.iter < U64

/-- what every forward call of the ideal decoder does whatever its result: the position does not
decrease, layout and data length stay, the iterator invariant is kept -/
structure Static (d : Dec) (b : Dec × DecRes) : Prop where
  mono : d.pos ≤ b.1.pos
  lay : b.1.layout = d.layout
  tot : total b.1.iter = total d.iter
  inv : IterInv b.1.iter

theorem Static.refl {d : Dec} (v : IterInv d.iter) (q : DecRes) : Static d (d, q) :=
  ⟨Int.le_refl _, rfl, rfl, v⟩

theorem Static.trans {d : Dec} {b c : Dec × DecRes} (h1 : Static d b) (h2 : Static b.1 c) : Static d c :=
  ⟨Int.le_trans h1.mono h2.mono, h2.lay.trans h1.lay, h2.tot.trans h1.tot, h2.inv⟩

/-- iterator and position moved forward together, within the same layout -/
theorem Static.move {d : Dec} {it' : SurfIter} {n : Nat} (m : Moved d.iter it' n) (q : DecRes) :
    Static d ({ d with iter := it', pos := d.pos + n }, q) :=
  ⟨by show d.pos ≤ d.pos + (n : Int); omega, rfl, (of_base_eq m.base).2.1, m.inv⟩

theorem Static.consume {d : Dec} (v : IterInv d.iter) {cur : SurfInfo}
    (hc : d.iter.currentP = some (some cur)) {it' : SurfIter} (ha : d.iter.advanceP = some it') (q : DecRes) :
    Static d ({ d with iter := it', pos := d.pos + cur.len }, q) := by
  obtain ⟨it2, h⟩ := consume_spec v hc
  exact .move (h.of_advance ha).toMoved q

/-- one call of the reader (`a`) against the same call of the ideal decoder (`b`), started in states
`s` and `d`; `N` is the memory need of the call -/
structure StepOK (k : Cfg) (base : Nat) (s : RS) (d : Dec) (N : Nat) (a : RS × R) (b : Dec × DecRes) :
    Prop where
  /-- a result other than an I/O error / the memory limit is the ideal result, and the states are
  related again -/
  sim : a.2 ≠ .io → a.2 ≠ .memoryLimitExceeded → a.2 = ofDecRes b.2 ∧ Sim k base a.1 b.1
  /-- an I/O error: the stream cannot deliver every byte up to where the ideal call ends, or the call
  has to move the reader by more than `i64::MAX` bytes (`io_skip_exact` reports `UnexpectedEof`) -/
  io : a.2 = .io → k.env.len < U64 →
    (k.env.lim : Int) < base + b.1.pos ∨ (I64MAX : Int) < b.1.pos - d.pos
  /-- the memory limit: below the need, or the allocator refused, or the surface has more than
  `isize::MAX` bytes — then the ideal decoder says the same, nothing moved, and the data section has
  more than `i64::MAX` bytes -/
  mem : a.2 = .memoryLimitExceeded →
    s.limit < N ∨ ¬ C06.AllocatorGrants k.env ∨
      (b.2 = .memoryLimitExceeded ∧ Sim k base a.1 b.1 ∧ I64MAX < total d.iter)
  limit : a.1.limit = s.limit
  /-- the ideal side on its own -/
  st : Static d b

theorem StepOK.rejected {k : Cfg} {base : Nat} {s : RS} {d : Dec} {N : Nat} (h : Sim k base s d)
    {r : R} {q : DecRes} (hr : r = ofDecRes q) (hq : q ≠ .memoryLimitExceeded := by first | decide | simp) :
    StepOK k base s d N (s, r) (d, q) where
  sim := fun _ _ => ⟨hr, h⟩
  io := fun hio => absurd (hr ▸ hio) (ofDecRes_ne_io q)
  mem := fun hm => absurd (ofDecRes_inj (q := .memoryLimitExceeded) (hr ▸ hm)) hq
  limit := rfl
  st := Static.refl h.inv q

theorem Static.thenI {d : Dec} {b : Dec × DecRes} {g : Dec → Dec × DecRes} (h1 : Static d b)
    (hg : Static b.1 (g b.1)) : Static d (thenI b g) := by
  unfold Dds.thenI
  by_cases h : b.2 = .ok
  · rw [if_pos h]; exact h1.trans hg
  · rw [if_neg h]; exact h1

/-- `StepOK` composes along `?` -/
theorem StepOK.bind {k : Cfg} {base : Nat} {s : RS} {d : Dec} {N : Nat} {a : RS × R} {b : Dec × DecRes}
    {f : RS → RS × R} {g : Dec → Dec × DecRes} (h1 : StepOK k base s d N a b)
    (hg : Static b.1 (g b.1))
    (h2 : a.2 = .ok → b.2 = .ok → Sim k base a.1 b.1 → StepOK k base a.1 b.1 N (f a.1) (g b.1)) :
    StepOK k base s d N (thenR a f) (thenI b g) := by
  have hst := h1.st.thenI hg
  have hm1 := h1.st.mono
  have hm2 := hst.mono
  have hm3 : b.1.pos ≤ (thenI b g).1.pos := by
    unfold thenI
    by_cases hb : b.2 = .ok
    · rw [if_pos hb]; exact hg.mono
    · rw [if_neg hb]; exact Int.le_refl _
  by_cases ha : a.2 = .ok
  · obtain ⟨hab, hsim⟩ := h1.sim (by rw [ha]; simp) (by rw [ha]; simp)
    have hb : b.2 = .ok := ofDecRes_eq_ok.1 (by rw [← hab, ha])
    have H := h2 ha hb hsim
    have hI : thenI b g = g b.1 := by unfold thenI; rw [if_pos hb]
    have hR : thenR a f = f a.1 := by unfold thenR; rw [if_pos ha]
    rw [hI] at hst hm2 ⊢
    rw [hR]
    refine ⟨H.sim, ?_, ?_, H.limit.trans h1.limit, hst⟩
    · intro hio hlen
      rcases H.io hio hlen with h | h
      · exact Or.inl h
      · exact Or.inr (by omega)
    · intro hm
      rcases H.mem hm with h | h | h
      · exact Or.inl (by rw [← h1.limit]; exact h)
      · exact Or.inr (Or.inl h)
      · exact Or.inr (Or.inr ⟨h.1, h.2.1, by rw [← h1.st.tot]; exact h.2.2⟩)
  · have hR : thenR a f = a := by unfold thenR; rw [if_neg ha]
    rw [hR]
    refine ⟨?_, ?_, ?_, h1.limit, hst⟩
    · intro hio hme
      obtain ⟨hab, hsim⟩ := h1.sim hio hme
      have hb : b.2 ≠ .ok := fun hb => ha (by rw [hab, hb]; rfl)
      have hI : thenI b g = b := by unfold thenI; rw [if_neg hb]
      rw [hI]; exact ⟨hab, hsim⟩
    · intro hio hlen
      rcases h1.io hio hlen with h | h
      · exact Or.inl (by omega)
      · exact Or.inr (by omega)
    · intro hm
      rcases h1.mem hm with h | h | h
      · exact Or.inl h
      · exact Or.inr (Or.inl h)
      · have hb : b.2 ≠ .ok := by rw [h.1]; simp
        have hI : thenI b g = b := by unfold thenI; rw [if_neg hb]
        rw [hI]; exact Or.inr (Or.inr h)

theorem Sim.same {k : Cfg} {base : Nat} {s : RS} {d : Dec} (h : Sim k base s d) :
    Sim k base { s with pos := s.pos } d := h

/-- both sides move forward by `n` bytes to the iterator state `it'` -/
theorem Sim.move {k : Cfg} {base : Nat} {s : RS} {d : Dec} (h : Sim k base s d) {it' : SurfIter}
    {n : Nat} (m : Moved d.iter it' n) :
    Sim k base { s with iter := it', pos := s.pos + n } { d with iter := it', pos := d.pos + n } where
  iter := rfl
  pos := by
    show ((s.pos + n : Nat) : Int) = base + (d.pos + n)
    have := h.pos; omega
  layout := h.layout
  px := (iterPx_of_base m.base).trans h.px
  inv := m.inv
  cpos := by
    show d.pos + (n : Int) = (elapsed it' : Int)
    rw [m.elapsed, h.cpos]; omega
  u64 := (of_base_eq m.base).2.1 ▸ h.u64

theorem Sim.pos_bound {k : Cfg} {base : Nat} {s : RS} {d : Dec} (h : Sim k base s d) {n : Nat}
    (hn : elapsed d.iter + n ≤ total d.iter) : s.pos = base + elapsed d.iter ∧ s.pos + n < U64 := by
  have h1 := h.pos
  have h2 := h.cpos
  have h3 := h.u64
  omega

/-! ### `decode` / `decode_rect` at the current surface -/

theorem likelyOverflow_eq (f : Fam) (w h : Nat) :
    likelyOverflow f.px w h = !checkLikelyOverflow f w h := by
  unfold likelyOverflow checkLikelyOverflow
  cases f.px.surfaceBytes w h with
  | none => rfl
  | some b =>
    simp only [ISIZE_MAX, I64MAX]
    by_cases hb : b ≤ 9223372036854775807
    · simp [hb]
    · simp [hb]; omega

/-- the surface is rejected by `check_likely_overflow`: `MemoryLimitExceeded` on both sides -/
theorem decode_overflow {k : Cfg} {base : Nat} {s : RS} {d : Dec} (h : Sim k base s d) (c : Colour)
    (call : Call) (N : Nat) (hplan : plan k.fam c call = .error .memLimit) (hbig : I64MAX < total d.iter) :
    StepOK k base s d N (finish s (decodeCall k c call s)) (d, .memoryLimitExceeded) := by
  have hd : decodeCall k c call s = (.memoryLimitExceeded, s.pos) := by
    unfold decodeCall; rw [hplan]; rfl
  rw [hd, finish_err (by simp)]
  exact ⟨fun _ hm => absurd rfl hm, (fun hio => by cases hio), fun _ => Or.inr (Or.inr ⟨rfl, h.same, hbig⟩), rfl,
    Static.refl h.inv _⟩

/-- an accepted decode call at the current surface against the ideal "consume the surface" -/
theorem decode_sim {k : Cfg} (hk : k.Agrees) {base : Nat} {s : RS} {d : Dec} (h : Sim k base s d)
    {cur : SurfInfo} (hc : d.iter.currentP = some (some cur)) (c : Colour) (call : Call)
    (hsurf : call.surface = (cur.w, cur.h)) {ops : List Stream.Op} (hplan : plan k.fam c call = .ok ops)
    {it' : SurfIter} (ha : d.iter.advanceP = some it') :
    StepOK k base s d (planNeed (plan k.fam c call)) (finish s (decodeCall k c call s))
      ({ d with iter := it', pos := d.pos + cur.len }, .ok) := by
  obtain ⟨it2, hcons⟩ := consume_spec h.inv hc
  have m := (hcons.of_advance ha).toMoved
  have hlen := current_len d.iter h.inv hc
  have hbytes : call.bytes k.fam = cur.len := by
    unfold Call.bytes
    rw [hsurf, hk.2, ← h.px]; exact hlen.symm
  obtain ⟨hpos, hU⟩ := h.pos_bound m.le
  obtain ⟨htri, hok, hmem, hio⟩ := run_facts hk.1 c call hplan k.env s.pos s.limit (by rw [hbytes]; exact hU)
  have hN : planNeed (plan k.fam c call) = need ops := by rw [hplan]; rfl
  rw [hN]
  have hd : decodeCall k c call s = (ofRes (Stream.run k.env [] (plan k.fam c call) s.pos s.limit).1,
      (Stream.run k.env [] (plan k.fam c call) s.pos s.limit).2.pos) := rfl
  have hst := Static.move m .ok
  rcases htri with hr | hr | hr
  · rw [hd, hr, finish_ok (it := it') rfl (by rw [h.iter]; exact ha)]
    simp only [hok hr, hbytes]
    exact ⟨fun _ _ => ⟨rfl, h.move m⟩, (fun hio => by cases hio), (fun hm => by cases hm), rfl, hst⟩
  · rw [hd, hr, finish_err (by simp [ofRes])]
    refine ⟨fun hne => absurd rfl hne, ?_, (fun hm => by cases hm), rfl, hst⟩
    intro _ hl
    have := hio hr hl
    rw [hbytes] at this
    left
    show (k.env.lim : Int) < base + (d.pos + cur.len)
    have h1 := h.pos
    omega
  · rw [hd, hr, finish_err (by simp [ofRes])]
    refine ⟨fun _ hne => absurd rfl hne, (fun hio => by cases hio), ?_, rfl, hst⟩
    intro _
    rcases (hmem hr).2 with h' | h'
    · exact Or.inl h'
    · exact Or.inr (Or.inl h')

end Dds.Reader
