/- Helper lemmas for C16: strategy selection, plans, the look-ahead gather, plan execution. -/
import DdsModel.Mip
import DdsModel.Proofs.Iter
namespace Dds.Mip

/-! ### powers of two and the strategy -/

theorem isPow2_iff (n : Nat) : isPow2 n = true ↔ ∃ k, n = 2 ^ k := by
  unfold isPow2
  simp only [Bool.and_eq_true, bne_iff_ne, ne_eq, beq_iff_eq]
  constructor
  · intro h; exact ⟨n.log2, h.2.symm⟩
  · rintro ⟨k, rfl⟩
    exact ⟨Nat.ne_of_gt (Nat.two_pow_pos k), by rw [Nat.log2_two_pow]⟩

def AllPow2 (src : Sz) (sizes : List Sz) : Prop :=
  ∀ s ∈ src :: sizes, (∃ a, s.1 = 2 ^ a) ∧ (∃ b, s.2 = 2 ^ b)

theorem allPow2_iff (src : Sz) (sizes : List Sz) : allPow2 src sizes = true ↔ AllPow2 src sizes := by
  unfold allPow2 AllPow2
  simp only [List.all_eq_true, Bool.and_eq_true, isPow2_iff, List.mem_append, List.mem_cons,
    List.not_mem_nil, or_false]
  exact ⟨fun h s hs => h s hs.symm, fun h s hs => h s hs.symm⟩

/-! ### plans -/

theorem planSource_eq_zip (sizes : List Sz) :
    planSource sizes = sizes.zip (List.replicate sizes.length 0) := by
  unfold planSource
  induction sizes with
  | nil => rfl
  | cons s r ih => rw [List.map_cons, ih]; rfl

theorem planLoop_eq_zip : ∀ (l : List Sz) (k : Nat), planLoop l k = l.zip (List.range' k l.length)
  | [], _ => rfl
  | s :: r, k => by rw [planLoop, planLoop_eq_zip r (k + 1)]; rfl

theorem range'_pred : ∀ (n k : Nat), (List.range' (k + 1) n).map (· - 1) = List.range' k n
  | 0, _ => rfl
  | n + 1, k => by
    simp only [List.range'_succ, List.map_cons, range'_pred n (k + 1)]; rfl

/-- the number of the image every level is resized from, by strategy: from-source always image 0;
from-previous level number k+1 (position k) from image k; from-previous-two positions 0 and 1 from
the source and position k ≥ 2 from image k-1 (the level generated two steps earlier) -/
def sources (st : Strategy) (n : Nat) : List Nat :=
  match st with
  | .fromSource => List.replicate n 0
  | .fromPrevious => List.range' 0 n
  | .fromPreviousTwo => (List.range' 0 n).map (· - 1)

theorem length_sources (st : Strategy) (n : Nat) : (sources st n).length = n := by
  cases st <;> simp [sources]

theorem plan_eq_zip {f : Filter} {src : Sz} {sizes : List Sz} {pl} (h : plan f src sizes = some pl) :
    pl = sizes.zip (sources (selectStrategy f src sizes) sizes.length) := by
  unfold plan at h
  cases hs : selectStrategy f src sizes <;> rw [hs] at h <;> simp only [sources] at h ⊢
  · cases h; exact planSource_eq_zip sizes
  · match sizes, h with
    | s0 :: r, h => cases h; rw [planLoop_eq_zip]; rfl
  · match sizes, h with
    | [s0], h => cases h; rfl
    | s0 :: s1 :: r, h =>
      cases h
      rw [planLoop_eq_zip, ← range'_pred r.length 1]; rfl

theorem plan_fst {f : Filter} {src : Sz} {sizes : List Sz} {pl} (h : plan f src sizes = some pl) :
    pl.map (·.1) = sizes := by
  rw [plan_eq_zip h]; exact List.map_fst_zip (Nat.le_of_eq (length_sources _ _).symm)

theorem plan_snd {f : Filter} {src : Sz} {sizes : List Sz} {pl} (h : plan f src sizes = some pl) :
    pl.map (·.2) = sources (selectStrategy f src sizes) sizes.length := by
  rw [plan_eq_zip h]; exact List.map_snd_zip (Nat.le_of_eq (length_sources _ _))

theorem plan_some (f : Filter) (src : Sz) (sizes : List Sz) (hne : sizes ≠ []) :
    ∃ pl, plan f src sizes = some pl := by
  unfold plan
  cases selectStrategy f src sizes <;> simp only
  · exact ⟨_, rfl⟩
  · cases sizes with
    | nil => exact absurd rfl hne
    | cons s r => exact ⟨_, rfl⟩
  · match sizes, hne with
    | [s0], _ => exact ⟨_, rfl⟩
    | s0 :: s1 :: r, _ => exact ⟨_, rfl⟩

/-- every level is resized from the source or from a level generated before it -/
theorem plan_earlier {f : Filter} {src : Sz} {sizes : List Sz} {pl} (h : plan f src sizes = some pl)
    (k : Nat) (hk : k < pl.length) : (pl[k]'hk).2 ≤ k := by
  have hg : (pl.map (·.2))[k]? = some (pl[k]'hk).2 := by
    rw [List.getElem?_map, List.getElem?_eq_getElem hk]; rfl
  have hk' : k < sizes.length := by rwa [← plan_fst h, List.length_map]
  rw [plan_snd h] at hg
  cases hsel : selectStrategy f src sizes <;> rw [hsel] at hg <;> simp only [sources] at hg
  · rw [List.getElem?_replicate, if_pos hk'] at hg
    simp only [Option.some.injEq] at hg; omega
  · rw [List.getElem?_range' hk'] at hg
    simp only [Option.some.injEq] at hg; omega
  · rw [List.getElem?_map, List.getElem?_range' hk'] at hg
    simp only [Option.map_some, Option.some.injEq] at hg; omega

/-! ### the look-ahead gather on a texture iterator -/

/-- the declared mipmap levels `l .. mips-1` of a texture -/
def declared (w h : Nat) (l n : Nat) : List Sz :=
  (List.range' l n).map fun k => (mipSize w k, mipSize h k)

theorem declared_succ (w h l n : Nat) :
    declared w h l (n + 1) = (mipSize w l, mipSize h l) :: declared w h (l + 1) n := by
  unfold declared; rw [List.range'_succ, List.map_cons]

theorem mem_declared {w h l n : Nat} {s : Sz} (hs : s ∈ declared w h l n) :
    ∃ k, s = (mipSize w k, mipSize h k) := by
  obtain ⟨k, _, rfl⟩ := List.mem_map.mp hs
  exact ⟨k, rfl⟩

theorem gatherSizes_tex (fuel : Nat) {t : TexIter} (v : t.Inv) :
    gatherSizes (fuel + 1) (.tex t) =
      if t.idx < t.len ∧ t.level ≠ 0 then
        (gatherSizes fuel (.tex t.advance)).map
          ((mipSize t.first.w t.level, mipSize t.first.h t.level) :: ·)
      else some [] := by
  simp only [gatherSizes, SurfIter.currentP, SurfIter.advanceP, v.currentP]
  by_cases hi : t.idx < t.len
  · by_cases hl : t.level = 0 <;> simp [hi, hl]
  · simp [hi]

theorem gather_tex : ∀ (fuel : Nat) (t : TexIter), t.Inv → t.idx < t.len → 1 ≤ t.level →
    t.first.mips ≤ fuel + t.level →
    gatherSizes fuel (.tex t) = some (declared t.first.w t.first.h t.level (t.first.mips - t.level)) := by
  intro fuel
  induction fuel with
  | zero => intro t v hi _ hf; have := v.cursor; omega
  | succ fuel ih =>
    intro t v hi hl hf
    have hlm : t.level < t.first.mips := by have := v.cursor; omega
    have hadv := v.advance_eq hi
    rw [gatherSizes_tex fuel v, if_pos ⟨hi, by omega⟩,
      show t.first.mips - t.level = (t.first.mips - (t.level + 1)) + 1 by omega, declared_succ]
    split at hadv
    · rw [ih t.advance v.advance.1 (by rw [hadv]; exact hi) (by rw [hadv]; exact Nat.le_add_left 1 _)
        (by rw [hadv]; show t.first.mips ≤ fuel + (t.level + 1); omega), hadv]
      rfl
    · -- the last level of this texture: the next surface is no mipmap
      have : gatherSizes fuel (.tex t.advance) = some [] := by
        cases fuel with
        | zero => rfl
        | succ fuel => rw [gatherSizes_tex fuel v.advance.1, if_neg (by rw [hadv]; simp)]
      rw [this, show t.first.mips - (t.level + 1) = 0 by omega]
      rfl

/-! ### the encoder's loop consumes exactly the gathered surfaces -/

def advN : Nat → SurfIter → Option SurfIter
  | 0, it => some it
  | n + 1, it => match it.advanceP with
    | none => none
    | some it' => advN n it'

theorem genLoop_follows_gather : ∀ (fuel : Nat) (e : Enc) (sizes : List Sz),
    gatherSizes fuel e.iter = some sizes → (∀ s ∈ sizes, e.sizeOk s.1 s.2 = true) →
    (e.genLoop fuel).2 = .ok ∧ advN sizes.length e.iter = some (e.genLoop fuel).1.iter ∧
      (e.genLoop fuel).1.layout = e.layout := by
  intro fuel
  induction fuel with
  | zero => intro e sizes hg _; cases hg; exact ⟨rfl, rfl, rfl⟩
  | succ fuel ih =>
    intro e sizes hg hok
    unfold gatherSizes at hg
    unfold Enc.genLoop
    split at hg
    next => cases hg
    next hc => cases hg; rw [hc]; exact ⟨rfl, rfl, rfl⟩
    next s hc =>
      rw [hc]; simp only
      split at hg
      next h0 => cases hg; rw [if_pos h0]; exact ⟨rfl, rfl, rfl⟩
      next h0 =>
        split at hg
        next => cases hg
        next it' ha =>
          obtain ⟨rest, hr, rfl⟩ := Option.map_eq_some_iff.mp hg
          rw [if_neg h0, if_neg (by simp [hok (s.w, s.h) List.mem_cons_self]), ha]
          obtain ⟨r1, r2, r3⟩ := ih { e with iter := it', written := e.written + s.len } rest hr
            (fun x hx => hok x (List.mem_cons_of_mem _ hx))
          refine ⟨r1, ?_, r3⟩
          simp only [List.length_cons, advN, ha]
          exact r2

/-! ### executing a plan -/

def AllRel {α β : Type} (Rel : α → β → Prop) : List α → List β → Prop
  | [], [] => True
  | a :: as, b :: bs => Rel a b ∧ AllRel Rel as bs
  | _, _ => False

theorem AllRel.append {α β : Type} {Rel : α → β → Prop} : ∀ {l1 : List α} {l2 : List β} {a : α} {b : β},
    AllRel Rel l1 l2 → Rel a b → AllRel Rel (l1 ++ [a]) (l2 ++ [b])
  | [], [], _, _, _, h => ⟨h, trivial⟩
  | _ :: _, _ :: _, _, _, h1, h => ⟨h1.1, AllRel.append h1.2 h⟩
  | [], _ :: _, _, _, h1, _ => h1.elim
  | _ :: _, [], _, _, h1, _ => h1.elim

theorem AllRel.getD {α β : Type} {Rel : α → β → Prop} : ∀ {l1 : List α} {l2 : List β} (j : Nat) {a : α} {b : β},
    AllRel Rel l1 l2 → Rel a b → Rel (l1.getD j a) (l2.getD j b)
  | [], [], _, _, _, _, h => by simpa using h
  | _ :: _, _ :: _, 0, _, _, h1, _ => by simpa using h1.1
  | _ :: as, _ :: bs, j + 1, _, _, h1, h => by
    simp only [List.getD_cons_succ]; exact AllRel.getD j h1.2 h
  | [], _ :: _, _, _, _, h1, _ => h1.elim
  | _ :: _, [], _, _, _, h1, _ => h1.elim

theorem AllRel.mono {α β : Type} {Rel Rel' : α → β → Prop} (h : ∀ a b, Rel a b → Rel' a b) :
    ∀ {l1 : List α} {l2 : List β}, AllRel Rel l1 l2 → AllRel Rel' l1 l2
  | [], [], _ => trivial
  | _ :: _, _ :: _, h1 => ⟨h _ _ h1.1, AllRel.mono h h1.2⟩
  | [], _ :: _, h1 => h1.elim
  | _ :: _, [], h1 => h1.elim

/-- Two executions of the same plan: the sources are related by `S`, every resize turns a pair
related by `S` or `Rel` into a pair related by `Rel`; then the generated levels are pointwise
related by `Rel`. -/
theorem runPlan_rel {S Rel : Img → Img → Prop} {R R' : Img → Sz → Img}
    (hR : ∀ i i' s, (S i i' ∨ Rel i i') → Rel (R i s) (R' i' s)) {src src' : Img} (hs : S src src') :
    ∀ (pl : List (Sz × Nat)) (acc acc' : List Img), AllRel Rel acc acc' →
      AllRel Rel (runPlan R src pl acc) (runPlan R' src' pl acc')
  | [], _, _, h => h
  | (s, j) :: rest, acc, acc', h => by
    unfold runPlan
    apply runPlan_rel hR hs rest
    apply AllRel.append h
    apply hR
    exact AllRel.getD (Rel := fun a b => S a b ∨ Rel a b) j (l1 := src :: acc) (l2 := src' :: acc')
      ⟨Or.inl hs, AllRel.mono (fun _ _ h => Or.inr h) h⟩ (Or.inl hs)

theorem AllRel.diag {α : Type} {P : α → Prop} : ∀ {l : List α}, AllRel (fun a _ => P a) l l → ∀ a ∈ l, P a
  | [], _, _, hm => by cases hm
  | x :: xs, h, a, hm => by
    rcases List.mem_cons.mp hm with rfl | hm'
    · exact h.1
    · exact AllRel.diag h.2 a hm'

/-- if the source satisfies `S` and every resize of an image satisfying `S` or `P` satisfies `P`,
every generated level satisfies `P` -/
theorem runPlan_inv {S P : Img → Prop} {R : Img → Sz → Img} (hR : ∀ i s, (S i ∨ P i) → P (R i s)) {src : Img}
    (hs : S src) (pl : List (Sz × Nat)) : ∀ l ∈ runPlan R src pl [], P l := by
  have := runPlan_rel (S := fun a _ => S a) (Rel := fun a _ => P a) (R := R) (R' := R)
    (fun i _ s h => hR i s h) (src := src) (src' := src) hs pl [] [] trivial
  exact AllRel.diag this

theorem AllRel.length {α β : Type} {Rel : α → β → Prop} : ∀ {l1 : List α} {l2 : List β},
    AllRel Rel l1 l2 → l1.length = l2.length
  | [], [], _ => rfl
  | _ :: _, _ :: _, h => by simp only [List.length_cons]; rw [AllRel.length h.2]
  | [], _ :: _, h => h.elim
  | _ :: _, [], h => h.elim

theorem AllRel.get {α β : Type} {Rel : α → β → Prop} : ∀ {l1 : List α} {l2 : List β} (k : Nat) (a : α) (b : β),
    AllRel Rel l1 l2 → l1[k]? = some a → l2[k]? = some b → Rel a b
  | [], [], _, _, _, _, h, _ => by cases h
  | x :: _, y :: _, 0, a, b, h, h1, h2 => by
    simp only [List.getElem?_cons_zero, Option.some.injEq] at h1 h2; subst h1; subst h2; exact h.1
  | _ :: _, _ :: _, k + 1, a, b, h, h1, h2 => by
    simp only [List.getElem?_cons_succ] at h1 h2; exact AllRel.get k a b h.2 h1 h2
  | [], _ :: _, _, _, _, h, _, _ => h.elim
  | _ :: _, [], _, _, _, h, _, _ => h.elim

theorem runPlan_length (R : Img → Sz → Img) (src : Img) : ∀ (pl : List (Sz × Nat)) (acc : List Img),
    (runPlan R src pl acc).length = acc.length + pl.length
  | [], acc => by simp [runPlan]
  | (s, j) :: rest, acc => by
    unfold runPlan
    rw [runPlan_length R src rest]; simp only [List.length_append, List.length_cons, List.length_nil]; omega

end Dds.Mip
