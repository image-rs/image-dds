/-
C01, reader ⊑ cursor: the iterator side.

The length `SurfaceIterator::current()` reports is computed from the iterator's own copy of the
`PixelInfo` (`first.pixels` / `volume.pixels`); the bytes `decode` consumes are computed from the
decoder family of the format.  `iterPx` names the former; it is the layout's `PixelInfo` for a fresh
iterator and no iterator operation changes it.  Together with `Cfg.Agrees` (family = layout's
`PixelInfo`, true of every row of the format table: `fam_of_format`) this is the arithmetic link
between the two models: `cur.len = k.fam.px.surfIdeal cur.w cur.h = Call.bytes`.
-/
import DdsModel.Theorems.C08
namespace Dds.Reader
open Dds Dds.C08

/-- the `PixelInfo` the iterator computes surface lengths with -/
def iterPx : SurfIter → PixelInfo
  | .tex t => t.first.px
  | .vol t => t.volume.px

theorem iterPx_new (L : DataLayout) : iterPx (SurfIter.new L) = L.px := by
  cases L <;> rfl

/-- it belongs to the part of the state no iterator operation changes -/
theorem iterPx_of_base {it it' : SurfIter} (h : it'.base = it.base) : iterPx it' = iterPx it := by
  cases it <;> cases it' <;> simp only [SurfIter.base, Sum.inl.injEq, Sum.inr.injEq, Prod.mk.injEq,
    reduceCtorEq] at h
  · exact congrArg Texture.px h.1
  · exact congrArg Volume.px h

theorem current_len (it : SurfIter) (v : IterInv it) {cur : SurfInfo}
    (hc : it.currentP = some (some cur)) : cur.len = (iterPx it).surfIdeal cur.w cur.h := by
  cases it <;> obtain ⟨_, rfl⟩ := current_eq v hc <;> rfl

/-- `consume_spec` with the length of the consumed surface written in the iterator's own `PixelInfo` -/
theorem consume (it : SurfIter) (v : IterInv it) {cur : SurfInfo}
    (hc : it.currentP = some (some cur)) :
    ∃ it', it.advanceP = some it' ∧ IterInv it' ∧ elapsed it' = elapsed it + cur.len ∧
      total it' = total it ∧ iterPx it' = iterPx it ∧ elapsed it + cur.len ≤ total it ∧
      cur.len = (iterPx it).surfIdeal cur.w cur.h := by
  obtain ⟨it', h⟩ := consume_spec v hc
  exact ⟨it', h.adv, h.inv, h.elapsed, (of_base_eq h.base).2.1, iterPx_of_base h.base, h.le,
    current_len it v hc⟩

/-- the cursor of an iterator state that is not at the end points at an element of the flattened
surface list whose offset is the elapsed byte count (`C08.tex_current_is_flat` /
`C08.vol_current_is_flat` for either kind of iterator) -/
theorem current_is_flat (it : SurfIter) (v : IterInv it) (h : abs it < count it) :
    ∃ s, (flat it)[abs it]? = some s ∧ s.offset = elapsed it := by
  cases it with
  | tex t =>
    obtain ⟨s, h1, h2, _⟩ := tex_current_is_flat t v ((TexIter.Inv.abs_lt_iff v).1 h)
    exact ⟨s, h1, h2⟩
  | vol t =>
    obtain ⟨s, h1, h2, _⟩ := vol_current_is_flat t v ((VolIter.Inv.abs_lt_iff v).1 h)
    exact ⟨s, h1, h2⟩

end Dds.Reader
