/- Per-path facts about the traces of `Stream.lean`: every allocation precedes the first reader
operation, the reader is moved by exactly the surface's byte length, closed form of the need. -/
import DdsModel.Proofs.Stream
import DdsModel.Proofs.Layout
import DdsModel.Proofs.DivCeil
namespace Dds.Stream
open Dds

theorem span_replicate_read (k m : Nat) : span (List.replicate k (.read m)) = k * m := by
  induction k with
  | zero => simp [span]
  | succ k ih => simp only [List.replicate_succ, span, ih, Nat.succ_mul]; omega

theorem ioOnly_replicate_read (k m : Nat) : ioOnly (List.replicate k (.read m)) := by
  induction k with
  | zero => trivial
  | succ k ih => simp only [List.replicate_succ]; exact ih

theorem linesInBuffer_pos {bpl lines : Nat} (hl : 0 < lines) : 0 < linesInBuffer bpl lines := by
  unfold linesInBuffer; simp only; split
  · omega
  · split <;> omega

theorem linesInBuffer_le {bpl lines : Nat} (hl : 0 < lines) : linesInBuffer bpl lines ≤ lines := by
  unfold linesInBuffer; simp only; split
  · omega
  · split <;> omega

theorem lineBufLen_div {bpl lines : Nat} (hb : 0 < bpl) :
    lineBufLen bpl lines / bpl = linesInBuffer bpl lines := Nat.mul_div_cancel _ hb

theorem lineBufNew_eq {bpl lines : Nat} (hb : 0 < bpl) (hl : 0 < lines) :
    lineBufNew bpl lines = [.alloc (lineBufLen bpl lines)] := by
  unfold lineBufNew; rw [if_neg (by omega)]

theorem lineBufLen_le_total {bpl lines : Nat} (hl : 0 < lines) : lineBufLen bpl lines ≤ lines * bpl :=
  Nat.mul_le_mul_right _ (linesInBuffer_le hl)

/-- the line buffer has at most 64 KiB, or exactly one line -/
theorem lineBufLen_le_max (bpl lines : Nat) :
    lineBufLen bpl lines ≤ TARGET_BUFFER_SIZE ∨ lineBufLen bpl lines = bpl := by
  unfold lineBufLen linesInBuffer
  simp only
  by_cases h1 : TARGET_BUFFER_SIZE / bpl < 1
  · right; rw [if_pos h1, Nat.one_mul]
  · left; rw [if_neg h1]
    have hm : TARGET_BUFFER_SIZE / bpl * bpl ≤ TARGET_BUFFER_SIZE := Nat.div_mul_le_self _ _
    split
    · rename_i h2
      exact Nat.le_trans (Nat.mul_le_mul_right _ (Nat.le_of_lt h2)) hm
    · exact hm

theorem lineBufLen_le (bpl lines : Nat) : lineBufLen bpl lines ≤ max TARGET_BUFFER_SIZE bpl := by
  rcases lineBufLen_le_max bpl lines with h | h
  · exact Nat.le_trans h (Nat.le_max_left _ _)
  · rw [h]; exact Nat.le_max_right _ _

theorem span_refills {bpl lines : Nat} (hb : 0 < bpl) : span (refills bpl lines) = lines * bpl := by
  unfold refills
  rw [lineBufLen_div hb, span_append, span_replicate_read]
  have : span (if lines % linesInBuffer bpl lines = 0 then []
      else [Op.read (lines % linesInBuffer bpl lines * bpl)]) = lines % linesInBuffer bpl lines * bpl := by
    split
    · next h => rw [h, Nat.zero_mul]; rfl
    · rfl
  rw [this, ← Nat.mul_assoc, ← Nat.add_mul, Nat.div_add_mod']

theorem ioOnly_refills (bpl lines : Nat) : ioOnly (refills bpl lines) := by
  unfold refills
  apply ioOnly_append (ioOnly_replicate_read _ _)
  split <;> trivial

structure Facts (ops : List Op) (bytes nd : Nat) : Prop where
  /-- every allocation precedes the first reader operation -/
  af : allocFirst ops
  /-- the reader operations cover exactly the surface -/
  sp : span ops = bytes
  /-- the allocation requests add up to `nd` -/
  cf : need ops = nd
  /-- no more is requested than the surface is long -/
  le : nd ≤ bytes

theorem Facts.nd {ops : List Op} {bytes nd : Nat} (h : Facts ops bytes nd) : need ops ≤ bytes :=
  h.cf ▸ h.le

theorem Facts.io {ops : List Op} {bytes : Nat} (hio : ioOnly ops) (hsp : span ops = bytes) :
    Facts ops bytes 0 :=
  ⟨ioOnly_allocFirst hio, hsp, ioOnly_need hio, Nat.zero_le _⟩

theorem Facts.alloc1 {ops : List Op} {bytes a : Nat} (hio : ioOnly ops) (hsp : span ops = bytes)
    (hle : a ≤ bytes) : Facts (.alloc a :: ops) bytes a :=
  ⟨(ioOnly_allocFirst hio : allocFirst ops), hsp, by rw [need, ioOnly_need hio]; rfl, hle⟩

theorem Facts.alloc {ops : List Op} {bytes nd a : Nat} (h : Facts ops bytes nd) (hle : a + nd ≤ bytes) :
    Facts (.alloc a :: ops) bytes (a + nd) :=
  ⟨h.af, h.sp, by rw [need, h.cf], hle⟩

theorem copyFull_facts (bpp w h : Nat) : Facts (copyFull bpp w h) (w * h * bpp) 0 :=
  .io trivial rfl

theorem lineBuf_facts {bpl lines : Nat} (hb : 0 < bpl) (hl : 0 < lines) :
    Facts (lineBufNew bpl lines ++ refills bpl lines) (bpl * lines) (lineBufLen bpl lines) := by
  rw [lineBufNew_eq hb hl, Nat.mul_comm]
  exact .alloc1 (ioOnly_refills _ _) (span_refills hb) (lineBufLen_le_total hl)

theorem pixelFull_facts {bpp w h : Nat} (hb : 0 < bpp) (hw : 0 < w) (hh : 0 < h) :
    Facts (pixelFull bpp w h) (w * h * bpp) (lineBufLen (w * bpp) h) := by
  rw [Nat.mul_right_comm]
  exact lineBuf_facts (Nat.mul_pos hw hb) hh

theorem blockFull_facts {bw bh bpb w h : Nat} (hbw : 0 < bw) (hbh : 0 < bh) (hb : 0 < bpb)
    (hw : 0 < w) (hh : 0 < h) :
    Facts (blockFull bw bh bpb w h) (divCeil w bw * divCeil h bh * bpb)
      (lineBufLen (divCeil w bw * bpb) (divCeil h bh)) := by
  unfold blockFull
  rw [if_neg (by omega), List.nil_append, Nat.mul_right_comm]
  exact lineBuf_facts (Nat.mul_pos (divCeil_pos hw hbw) hb) (divCeil_pos hh hbh)

theorem biPlanarFull_facts {e1 e2 sx sy w h : Nat} (he2 : 0 < e2) (hsx : 0 < sx) (hsy : 0 < sy)
    (hw : 0 < w) (hh : 0 < h) :
    Facts (biPlanarFull e1 e2 sx sy w h) (w * h * e1 + divCeil w sx * divCeil h sy * e2)
      (lineBufLen (divCeil w sx * e2) (divCeil h sy) + w * e1 * h) := by
  have hbpl : 0 < divCeil w sx * e2 := Nat.mul_pos (divCeil_pos hw hsx) he2
  have hhb := divCeil_pos hh hsy
  have hL := lineBufLen_le_total (bpl := divCeil w sx * e2) hhb
  simp only [biPlanarFull]
  rw [lineBufNew_eq hbpl hhb, Nat.mul_right_comm w h, Nat.mul_right_comm (divCeil w sx), Nat.mul_comm _ (divCeil h sy)]
  refine .alloc (.alloc1 (ops := .read _ :: refills _ _) (ioOnly_refills _ _) ?_ (Nat.le_add_right _ _)) ?_
  · simp only [span, span_refills hbpl]
  · omega

theorem ioOnly_rectRowsRest (gap rd : Nat) : ∀ k, ioOnly (rectRowsRest gap rd k)
  | 0 => trivial
  | k + 1 => ioOnly_rectRowsRest gap rd k

theorem ioOnly_rectRows (gap rd : Nat) : ∀ k, ioOnly (rectRows gap rd k)
  | 0 => trivial
  | k + 1 => ioOnly_rectRowsRest gap rd k

theorem span_rectRowsRest (gap rd : Nat) : ∀ k, span (rectRowsRest gap rd k) = k * (gap + rd)
  | 0 => by rw [Nat.zero_mul]; rfl
  | k + 1 => by rw [rectRowsRest, span, span, span_rectRowsRest gap rd k, Nat.succ_mul]; omega

/-- `h` rows with `h - 1` gaps between them -/
theorem span_rectRows (gap rd : Nat) {h : Nat} (hh : 0 < h) :
    span (rectRows gap rd h) + gap = h * (gap + rd) := by
  obtain ⟨k, rfl⟩ : ∃ k, h = k + 1 := ⟨h - 1, by omega⟩
  rw [rectRows, span, span_rectRowsRest, Nat.succ_mul]; omega

theorem pixelRect_facts {bpp W H x y w h : Nat} (hx : x + w ≤ W) (hy : y + h ≤ H)
    (hh : 0 < h) (hfit : W * H * bpp ≤ I64MAX) :
    Facts (pixelRect bpp W H x y w h) (W * H * bpp) (w * bpp) := by
  have hrow : x * bpp + (W - x - w) * bpp + w * bpp = W * bpp := by
    rw [← Nat.add_mul, ← Nat.add_mul]; congr 1; omega
  have hrows := span_rectRows (x * bpp + (W - x - w) * bpp) (w * bpp) hh
  have hsurf : W * bpp * y + h * (W * bpp) + (H - y - h) * (W * bpp) = W * bpp * H := by
    rw [Nat.mul_comm (W * bpp) y, ← Nat.add_mul, ← Nat.add_mul, Nat.mul_comm]; congr 1; omega
  have h1 : w * bpp ≤ W * bpp := Nat.mul_le_mul_right _ (by omega)
  have h2 : W * bpp * 1 ≤ W * bpp * H := Nat.mul_le_mul_left _ (by omega)
  rw [hrow] at hrows
  simp only [pixelRect, if_pos hfit, List.nil_append, List.cons_append]
  rw [Nat.mul_right_comm W H]
  refine .alloc1 (ioOnly_append (ioOnly_rectRows _ _ _) trivial) ?_ (by omega)
  simp only [span, span_append]
  omega

/-- The shape shared by the rect decodes that go through a line buffer: of `A` lines on disk, skip `C`,
buffer and read up to line `B`, skip the rest; `pre` is what a path does between creating the buffer and
the first skip. -/
theorem lbRegion_facts {bpl A B C a z s : Nat} {pre : List Op} (hb : 0 < bpl) (hCB : C < B) (hBA : B ≤ A)
    (hpre : ioOnly pre) (hs : span pre = s) (ha : a = C * bpl) (hz : z = (A - B) * bpl) :
    Facts (lineBufNew bpl (B - C) ++ (pre ++ [.skip a]) ++ refills bpl (B - C) ++ [.skip z])
      (s + A * bpl) (lineBufLen bpl (B - C)) := by
  subst hs ha hz
  have hL := lineBufLen_le_total (bpl := bpl) (Nat.sub_pos_of_lt hCB)
  have hAB : C * bpl + (B - C) * bpl + (A - B) * bpl = A * bpl := by
    rw [← Nat.add_mul, ← Nat.add_mul]; congr 1; omega
  rw [lineBufNew_eq hb (Nat.sub_pos_of_lt hCB)]
  simp only [List.cons_append, List.nil_append]
  have hskip : ∀ n, ioOnly [.skip n] := fun _ => trivial
  refine .alloc1 (ioOnly_append (ioOnly_append (ioOnly_append hpre (hskip _)) (ioOnly_refills _ _)) (hskip _))
    ?_ (by omega)
  simp only [span_append, span, span_refills hb]
  omega

theorem blockRect_facts {bw bh bpb W H y h : Nat} (hbw : 0 < bw) (hbh : 0 < bh) (hb : 0 < bpb)
    (hW : 0 < W) (hy : y + h ≤ H) (hh : 0 < h) :
    Facts (blockRect bw bh bpb W H y h) (divCeil W bw * divCeil H bh * bpb)
      (lineBufLen (divCeil W bw * bpb) (divCeil (h + y) bh - y / bh)) := by
  have h1 : y / bh < divCeil (h + y) bh := by rw [Nat.add_comm]; exact div_lt_divCeil hbh hh
  have h2 : divCeil (h + y) bh ≤ divCeil H bh := divCeil_mono hbh (by omega)
  have ha : divCeil W bw * (y / bh) * bpb = y / bh * (divCeil W bw * bpb) := by
    rw [Nat.mul_right_comm, Nat.mul_comm]
  have hz : divCeil W bw * (divCeil H bh - y / bh - (divCeil (h + y) bh - y / bh)) * bpb =
      (divCeil H bh - divCeil (h + y) bh) * (divCeil W bw * bpb) := by
    rw [Nat.sub_sub_sub_cancel_right (Nat.le_of_lt h1), Nat.mul_right_comm, Nat.mul_comm]
  have := lbRegion_facts (pre := []) (Nat.mul_pos (divCeil_pos hW hbw) hb) h1 h2 trivial rfl ha hz
  rw [Nat.mul_right_comm, Nat.mul_comm]
  simpa only [blockRect, List.nil_append, span, Nat.zero_add] using this

theorem biPlanarRect_facts {e1 e2 sx sy W H y h : Nat} (he2 : 0 < e2) (hsx : 0 < sx)
    (hsy : 0 < sy) (hW : 0 < W) (hy : y + h ≤ H) (hh : 0 < h) (hlt : W * e1 * h < U64) :
    ∃ ops, biPlanarRect e1 e2 sx sy W H y h = .ok ops ∧
      Facts ops (W * H * e1 + divCeil W sx * divCeil H sy * e2)
        (W * e1 * h + lineBufLen (divCeil W sx * e2) (divCeil (y + h) sy - y / sy)) := by
  have h1 : y / sy < divCeil (y + h) sy := div_lt_divCeil hsy hh
  have h2 : divCeil (y + h) sy ≤ divCeil H sy := divCeil_mono hsy (by omega)
  have hl : divCeil H sy - y / sy - (divCeil H sy - divCeil (y + h) sy) = divCeil (y + h) sy - y / sy := by
    omega
  have hp1 : W * e1 * y + (W * e1 * h + (W * e1 * (H - y - h) + 0)) = W * H * e1 := by
    rw [Nat.add_zero, ← Nat.mul_add, ← Nat.mul_add, Nat.mul_right_comm W H]; congr 1; omega
  have := lbRegion_facts (pre := [.skip (W * e1 * y), .read (W * e1 * h), .skip (W * e1 * (H - y - h))])
    (Nat.mul_pos (divCeil_pos hW hsx) he2) h1 h2 trivial hp1 rfl rfl
  have hle : W * e1 * h ≤ W * H * e1 := by
    rw [Nat.mul_right_comm W H]; exact Nat.mul_le_mul_left _ (by omega)
  have hL : lineBufLen (divCeil W sx * e2) (divCeil (y + h) sy - y / sy) ≤ divCeil H sy * (divCeil W sx * e2) :=
    Nat.le_trans (lineBufLen_le_total (Nat.sub_pos_of_lt h1))
      (Nat.mul_le_mul_right _ (Nat.le_trans (Nat.sub_le _ _) h2))
  simp only [biPlanarRect, if_pos hlt, hl]
  rw [Nat.mul_right_comm (divCeil W sx), Nat.mul_comm _ (divCeil H sy)]
  exact ⟨_, rfl, this.alloc (by omega)⟩

/-! ### closed form of the need -/

/-- the need of a call in closed form, per family -/
def needOf (f : Fam) (c : Colour) : Call → Nat
  | .full w h =>
    if w = 0 ∨ h = 0 then 0 else
    match f with
    | .pixel bpp fast => if fast = some c then 0 else lineBufLen (w * bpp) h
    | .block bw bh bpb => lineBufLen (divCeil w bw * bpb) (divCeil h bh)
    | .biPlanar e1 e2 sx sy => lineBufLen (divCeil w sx * e2) (divCeil h sy) + w * e1 * h
  | .rect W _ _ y w h =>
    if w = 0 ∨ h = 0 then 0 else
    match f with
    | .pixel bpp _ => w * bpp
    | .block bw bh bpb => lineBufLen (divCeil W bw * bpb) (divCeil (h + y) bh - y / bh)
    | .biPlanar e1 e2 sx sy =>
      W * e1 * h + lineBufLen (divCeil W sx * e2) (divCeil (y + h) sy - y / sy)

/-- bytes of one encoded line held in the line buffer (0 if the path has no line buffer) -/
def lineBytes (f : Fam) : Call → Nat
  | .full w _ =>
    match f with
    | .pixel bpp _ => w * bpp
    | .block bw _ bpb => divCeil w bw * bpb
    | .biPlanar _ e2 sx _ => divCeil w sx * e2
  | .rect W _ _ _ _ _ =>
    match f with
    | .pixel _ _ => 0
    | .block bw _ bpb => divCeil W bw * bpb
    | .biPlanar _ e2 sx _ => divCeil W sx * e2

/-- the row buffer of a pixel rect / the plane-1 buffer of a bi-planar decode -/
def rowOrPlaneBytes (f : Fam) : Call → Nat
  | .full w h =>
    match f with
    | .biPlanar e1 _ _ _ => w * e1 * h
    | _ => 0
  | .rect W _ _ _ w h =>
    match f with
    | .pixel bpp _ => w * bpp
    | .block _ _ _ => 0
    | .biPlanar e1 _ _ _ => W * e1 * h

theorem needOf_le (f : Fam) (c : Colour) (call : Call) :
    needOf f c call ≤ max TARGET_BUFFER_SIZE (lineBytes f call) + rowOrPlaneBytes f call := by
  cases call with
  | full w h =>
    simp only [needOf, lineBytes, rowOrPlaneBytes]
    split
    · exact Nat.zero_le _
    · cases f with
      | pixel bpp fast =>
        simp only
        split
        · exact Nat.zero_le _
        · exact Nat.le_trans (lineBufLen_le _ _) (Nat.le_add_right _ _)
      | block bw bh bpb => exact Nat.le_trans (lineBufLen_le _ _) (Nat.le_add_right _ _)
      | biPlanar e1 e2 sx sy => exact Nat.add_le_add_right (lineBufLen_le _ _) _
  | rect W H x y w h =>
    simp only [needOf, lineBytes, rowOrPlaneBytes]
    split
    · exact Nat.zero_le _
    · cases f with
      | pixel bpp fast => exact Nat.le_add_left _ _
      | block bw bh bpb => exact Nat.le_trans (lineBufLen_le _ _) (Nat.le_add_right _ _)
      | biPlanar e1 e2 sx sy =>
        simp only
        have := lineBufLen_le (divCeil W sx * e2) (divCeil (y + h) sy - y / sy)
        omega

/-! ### `decode` / `decode_rect` as a whole -/

theorem Fam.WF.px {f : Fam} (h : f.WF) : f.px.WF := by
  cases f with
  | pixel bpp fast => exact h.2.1
  | block bw bh bpb => obtain ⟨a, b, c, d, _, g⟩ := h; exact ⟨g, a, b, c, d⟩
  | biPlanar e1 e2 sx sy => obtain ⟨_, b, _, d, e, f', g, i⟩ := h; exact ⟨b, d, e, f', g, i⟩

/-- encoded byte length of the surface the call is positioned at (the property's formula) -/
def Call.bytes (f : Fam) (c : Call) : Nat := f.px.surfIdeal c.surface.1 c.surface.2

theorem surfIdeal_block {bw bh : Nat} (hbw : 0 < bw) (hbh : 0 < bh) (bpb w h : Nat) :
    (Fam.block bw bh bpb).px.surfIdeal w h = divCeil w bw * divCeil h bh * bpb := by
  rw [divCeil_eq w bw hbw, divCeil_eq h bh hbh]; rfl

theorem surfIdeal_biPlanar {sx sy : Nat} (hsx : 0 < sx) (hsy : 0 < sy) (e1 e2 w h : Nat) :
    (Fam.biPlanar e1 e2 sx sy).px.surfIdeal w h = w * h * e1 + divCeil w sx * divCeil h sy * e2 := by
  rw [divCeil_eq w sx hsx, divCeil_eq h sy hsy]; rfl

theorem surfIdeal_empty {f : Fam} (hf : f.WF) {w h : Nat} (he : w = 0 ∨ h = 0) :
    f.px.surfIdeal w h = 0 := by
  cases f with
  | pixel bpp fast => show w * h * bpp = 0; rcases he with rfl | rfl <;> simp
  | block bw bh bpb =>
    rw [surfIdeal_block hf.1 hf.2.2.1]
    rcases he with rfl | rfl <;> simp [divCeil_zero]
  | biPlanar e1 e2 sx sy =>
    rw [surfIdeal_biPlanar hf.2.2.2.2.1 hf.2.2.2.2.2.2.1]
    rcases he with rfl | rfl <;> simp [divCeil_zero]

/-- `check_likely_overflow` passes exactly when the formula length is at most `isize::MAX` -/
theorem checkLikelyOverflow_iff {f : Fam} (hf : f.WF) (w h : Nat) :
    checkLikelyOverflow f w h = true ↔ f.px.surfIdeal w h ≤ ISIZE_MAX := by
  unfold checkLikelyOverflow
  rw [surfaceBytes_eq f.px hf.px w h]
  by_cases hU : f.px.surfIdeal w h < U64
  · rw [ckSome_lt hU]; simp
  · rw [ckSome_ge hU]; simp; unfold ISIZE_MAX; unfold U64 at hU; omega

theorem surfaceBytes_of_check {f : Fam} (hf : f.WF) {w h : Nat}
    (hc : f.px.surfIdeal w h ≤ ISIZE_MAX) : f.px.surfaceBytes w h = some (f.px.surfIdeal w h) := by
  rw [surfaceBytes_eq f.px hf.px w h, ckSome_lt (by unfold ISIZE_MAX at hc; unfold U64; omega)]

theorem ISIZE_MAX_eq : ISIZE_MAX = I64MAX := rfl

theorem fullOps_facts {f : Fam} (hf : f.WF) (c : Colour) {w h : Nat} (hw : 0 < w) (hh : 0 < h) :
    Facts (fullOps f c w h) (f.px.surfIdeal w h) (needOf f c (.full w h)) := by
  simp only [needOf, if_neg (by omega : ¬ (w = 0 ∨ h = 0))]
  cases f with
  | pixel bpp fast =>
    simp only [fullOps]
    split
    · next hfc => rw [hf.2.2 c hfc]; exact copyFull_facts bpp w h
    · exact pixelFull_facts hf.1 hw hh
  | block bw bh bpb =>
    obtain ⟨a, _, b, _, d, _⟩ := hf
    rw [surfIdeal_block a b]; exact blockFull_facts a b d hw hh
  | biPlanar e1 e2 sx sy =>
    obtain ⟨_, _, a, _, b, _, d, _⟩ := hf
    rw [surfIdeal_biPlanar b d]; exact biPlanarFull_facts a b d hw hh

/-- inside a surface of at most `isize::MAX` bytes `rectOps` does not fail: for the bi-planar formats
`plain1_bytes_per_line.checked_mul(image_height)` is at most the first plane -/
theorem rectOps_facts {f : Fam} (hf : f.WF) (c : Colour) {W H x y w h : Nat} (hw : 0 < w) (hh : 0 < h)
    (hx : x + w ≤ W) (hy : y + h ≤ H) (hb : f.px.surfIdeal W H ≤ ISIZE_MAX) :
    ∃ ops, rectOps f W H x y w h = .ok ops ∧
      Facts ops (f.px.surfIdeal W H) (needOf f c (.rect W H x y w h)) := by
  simp only [needOf, if_neg (by omega : ¬ (w = 0 ∨ h = 0))]
  have hW : 0 < W := by omega
  cases f with
  | pixel bpp fast => exact ⟨_, rfl, pixelRect_facts hx hy hh hb⟩
  | block bw bh bpb =>
    obtain ⟨a, _, b, _, d, _⟩ := hf
    rw [surfIdeal_block a b]; exact ⟨_, rfl, blockRect_facts a b d hW hy hh⟩
  | biPlanar e1 e2 sx sy =>
    obtain ⟨_, _, a, _, b, _, d, _⟩ := hf
    rw [surfIdeal_biPlanar b d] at hb ⊢
    refine biPlanarRect_facts a b d hW hy hh ?_
    have h1 : W * e1 * h ≤ W * e1 * H := Nat.mul_le_mul_left _ (by omega)
    rw [Nat.mul_right_comm W e1 H] at h1
    unfold ISIZE_MAX at hb; unfold U64; omega

/-- the rect of the call lies inside its surface (an empty rect: its corner does) -/
def Call.inside : Call → Prop
  | .full _ _ => True
  | .rect W H x y w h => if w = 0 ∨ h = 0 then x ≤ W ∧ y ≤ H else x + w ≤ W ∧ y + h ≤ H

/-- what validation lets through -/
def accepts (f : Fam) (call : Call) : Prop := call.bytes f ≤ ISIZE_MAX ∧ call.inside

instance (f : Fam) (call : Call) : Decidable (accepts f call) := by
  cases call <;> unfold accepts Call.inside <;> exact inferInstance

/-- Every accepted call leads to a trace whose allocations precede the first reader operation, whose
reader operations cover exactly the surface, and whose allocation requests add up to `needOf`, which
is at most the length of the surface. -/
theorem plan_accepted {f : Fam} (hf : f.WF) (c : Colour) {call : Call} (ha : accepts f call) :
    ∃ ops, plan f c call = .ok ops ∧ Facts ops (call.bytes f) (needOf f c call) := by
  cases call with
  | full w h =>
    have hb : f.px.surfIdeal w h ≤ ISIZE_MAX := ha.1
    simp only [plan, Call.bytes, Call.surface]
    rw [(checkLikelyOverflow_iff hf w h).2 hb, if_neg (by decide)]
    split
    · next he =>
      simp only [surfIdeal_empty hf he, needOf, if_pos he]
      exact ⟨_, rfl, .io trivial rfl⟩
    · exact ⟨_, rfl, fullOps_facts hf c (by omega) (by omega)⟩
  | rect W H x y w h =>
    obtain ⟨hb, hin⟩ : f.px.surfIdeal W H ≤ ISIZE_MAX ∧
      if w = 0 ∨ h = 0 then x ≤ W ∧ y ≤ H else x + w ≤ W ∧ y + h ≤ H := ha
    simp only [plan, Call.bytes, Call.surface]
    rw [(checkLikelyOverflow_iff hf W H).2 hb, if_neg (by decide)]
    split
    · next he =>
      rw [if_pos he] at hin
      simp only [if_pos hin, surfaceBytes_of_check hf hb, needOf, if_pos he]
      exact ⟨_, rfl, .io trivial (Nat.add_zero _)⟩
    · next he =>
      rw [if_neg he] at hin
      rw [if_pos hin]
      exact rectOps_facts hf c (by omega) (by omega) hin.1 hin.2 hb

/-- the only errors returned before the first operation -/
theorem plan_rejected {f : Fam} (hf : f.WF) (c : Colour) {call : Call} (ha : ¬ accepts f call) :
    plan f c call = .error (if call.bytes f ≤ ISIZE_MAX then .rectOutOfBounds else .memLimit) := by
  have hck := checkLikelyOverflow_iff hf call.surface.1 call.surface.2
  split
  · next hb =>
    have hin : ¬ call.inside := fun hin => ha ⟨hb, hin⟩
    cases call with
    | full w h => exact (hin trivial).elim
    | rect W H x y w h =>
      simp only [plan, Call.surface, Call.inside] at hck hin ⊢
      rw [hck.2 hb, if_neg (by decide)]
      split
      · next he => rw [if_pos he] at hin; rw [if_neg hin]
      · next he => rw [if_neg he] at hin; rw [if_neg hin]
  · next hb =>
    have : checkLikelyOverflow f call.surface.1 call.surface.2 = false := by
      rw [← Bool.not_eq_true]; exact fun h => hb (hck.1 h)
    cases call <;> simp only [plan, Call.surface] at this ⊢ <;> rw [if_pos this]

theorem plan_facts {f : Fam} (hf : f.WF) {c : Colour} {call : Call} {ops : List Op}
    (h : plan f c call = .ok ops) : Facts ops (call.bytes f) (needOf f c call) ∧ call.bytes f ≤ ISIZE_MAX := by
  by_cases ha : accepts f call
  · obtain ⟨ops', h', fa⟩ := plan_accepted hf c ha
    rw [h] at h'; cases h'
    exact ⟨fa, ha.1⟩
  · rw [plan_rejected hf c ha] at h; cases h

theorem plan_need {f : Fam} (hf : f.WF) {c : Colour} {call : Call} {ops : List Op}
    (h : plan f c call = .ok ops) : need ops = needOf f c call :=
  (plan_facts hf h).1.cf

theorem plan_error {f : Fam} (hf : f.WF) {c : Colour} {call : Call} {r : Res} (h : plan f c call = .error r) :
    r = .memLimit ∨ r = .rectOutOfBounds := by
  by_cases ha : accepts f call
  · obtain ⟨_, h', _⟩ := plan_accepted hf c ha
    rw [h] at h'; cases h'
  · rw [plan_rejected hf c ha] at h
    cases h
    split
    · exact .inr rfl
    · exact .inl rfl

theorem run_outcome {f : Fam} (hf : f.WF) {c : Colour} {call : Call} {ops : List Op}
    (hplan : plan f c call = .ok ops) (e : Env) (pats : List (List Nat)) (pos limit : Nat)
    (hU : pos + span ops < U64) : Outcome e ops pos limit (run e pats (plan f c call) pos limit) := by
  obtain ⟨fa, hb⟩ := plan_facts hf hplan
  rw [hplan]
  exact interp_outcome e ops pats { pos := pos, budget := limit } (allocFirst_noPanic fa.af)
    fun n hn => ⟨Nat.le_trans (moved_le_span hn) (fa.sp ▸ hb), hU⟩
end Dds.Stream
