/- Lemmas about the tables (rows translated from the source, see HeaderTables.lean / SrcTables.lean), the constructors
and the DX9 <-> DX10 conversions. Everything that is `decide` over a table is evaluated on the translated rows. -/
import DdsModel.HeaderTables
import DdsModel.Proofs.Header
namespace Dds

/-- every code `TryFrom<Format> for DxgiFormat` returns is an accepted code (complete evaluation of the rows) -/
theorem formatToDxgi_valid_table : ∀ p ∈ SrcTables.formatToDxgi, dxgiValid p.2 = true := by decide

theorem Format.toDxgi_valid {f : Format} {d : Nat} (h : f.toDxgi = some d) : dxgiValid d = true :=
  formatToDxgi_valid_table _ (lookup_mem h)

/-- formats without a DXGI code have a DX9 pixel format, and it is well-formed -/
def Format.dx9Ok (f : Format) : Bool :=
  match f.toDxgi with
  | some _ => true
  | none =>
    match f.toDx9PixelFormat with
    | some p => decide p.WF
    | none => false

theorem Format.dx9Ok_all : ∀ f ∈ Format.all, f.dx9Ok = true := by decide +kernel

theorem Format.mem_all (f : Format) : f ∈ Format.all :=
  List.mem_of_getElem? (i := f.ctorIdx) (by cases f <;> rfl)

theorem optLt_ctorDepth (k : CtorKind) {d : Nat} (hd : d < U32) :
    optLt (match k with | .volume => some d | _ => none) U32 := by
  cases k with
  | volume => exact hd
  | _ => trivial

theorem ctorCaps2_lt (k : CtorKind) : (match k with
    | .image => 0 | .volume => CAPS2_VOLUME | .cubeMap => CAPS2_CUBE_MAP ||| CAPS2_ALL_FACES) < U32 := by
  cases k <;> decide

theorem ctorMiscFlag_lt (k : CtorKind) : (match k with | .cubeMap => MISC_TEXTURE_CUBE | _ => 0) < U32 := by
  cases k <;> decide

theorem Dx9Header.new_WF (k : CtorKind) (w h d : Nat) (p : Dx9PixelFormat) (hw : w < U32) (hh : h < U32)
    (hd : d < U32) (hp : p.WF) : (Header.dx9 (Dx9Header.new k w h d p)).WF :=
  ⟨hw, hh, optLt_ctorDepth k hd, Nat.le_refl 1, (by decide : 1 < U32), ctorCaps2_lt k, hp⟩

theorem Dx10Header.new_WF (k : CtorKind) (w h d c : Nat) (hw : w < U32) (hh : h < U32)
    (hd : d < U32) (hv : dxgiValid c = true) : (Header.dx10 (Dx10Header.new k w h d c)).WF :=
  ⟨hw, hh, optLt_ctorDepth k hd, Nat.le_refl 1, (by decide : 1 < U32), hv, ctorMiscFlag_lt k,
    (by decide : 1 < U32), fun _ => rfl⟩

theorem Header.new_WF (k : CtorKind) (w h d : Nat) (f : Format) (hw : w < U32) (hh : h < U32)
    (hd : d < U32) : ∃ h0, Header.new k w h d f = some h0 ∧ h0.WF := by
  unfold Header.new
  cases hx : f.toDxgi with
  | some dxgi => exact ⟨_, rfl, Dx10Header.new_WF k w h d dxgi hw hh hd (Format.toDxgi_valid hx)⟩
  | none =>
    have hok := Format.dx9Ok_all f (Format.mem_all f)
    rw [Format.dx9Ok, hx] at hok
    cases hp : f.toDx9PixelFormat with
    | none => rw [hp] at hok; cases hok
    | some p =>
      rw [hp] at hok
      exact ⟨_, rfl, Dx9Header.new_WF k w h d p hw hh hd (of_decide_eq_true hok)⟩

theorem Header.WF_withDimensions {h : Header} (hwf : h.WF) {w ht : Nat} {d : Option Nat} (hw : w < U32)
    (hh : ht < U32) (hd : optLt d U32) : (h.withDimensions w ht d).WF := by
  cases h <;> exact ⟨hw, hh, hd, hwf.2.2.2⟩

theorem Header.withSize_eq (h : Header) (w ht : Nat) : h.withSize w ht = h.withDimensions w ht none := by
  cases h <;> rfl

theorem Header.applyOp_WF (h : Header) (op : BuilderOp) (h' : Header) (hwf : h.WF) (hr : op.InRange)
    (ha : h.applyOp op = some h') : h'.WF := by
  have hb := maxMipCount_bounds h.maxDim
  cases op with
  | withSize w ht =>
    cases ha
    rw [Header.withSize_eq]
    exact Header.WF_withDimensions hwf hr.1 hr.2 trivial
  | withDimensions w ht dep =>
    cases ha
    exact Header.WF_withDimensions hwf hr.1 hr.2.1 hr.2.2
  | withMipmapCount m =>
    simp only [Header.applyOp, Header.withMipmapCount] at ha
    split at ha
    · cases ha
    · cases ha
      exact Header.WF_setMipmapCount hwf (by omega) hr
  | withMipmaps =>
    simp only [Header.applyOp, Header.withMipmaps, Header.withMipmapCount] at ha
    split at ha
    · cases ha
    · cases ha
      exact Header.WF_setMipmapCount hwf hb.1 (Nat.lt_of_le_of_lt hb.2 (by decide))

/-- the only step of a builder chain that panics is the documented one: `with_mipmap_count(0)` -/
theorem Header.applyOp_none {h : Header} {op : BuilderOp} (ha : h.applyOp op = none) :
    op = .withMipmapCount 0 := by
  have hb := maxMipCount_bounds h.maxDim
  cases op with
  | withSize _ _ => cases ha
  | withDimensions _ _ _ => cases ha
  | withMipmapCount m =>
    simp only [Header.applyOp, Header.withMipmapCount] at ha
    split at ha
    · rename_i hm; rw [hm]
    · cases ha
  | withMipmaps =>
    simp only [Header.applyOp, Header.withMipmaps, Header.withMipmapCount] at ha
    split at ha
    · omega
    · cases ha

theorem Header.applyOps_eq_foldlM (h : Header) (ops : List BuilderOp) :
    h.applyOps ops = ops.foldlM Header.applyOp h := by
  induction ops generalizing h with
  | nil => rfl
  | cons op ops ih =>
    rw [Header.applyOps, List.foldlM_cons]
    cases h.applyOp op
    · rfl
    · exact ih _

theorem Header.applyOps_WF (ops : List BuilderOp) {h h' : Header} (hwf : h.WF)
    (hr : ∀ op ∈ ops, op.InRange) (ha : h.applyOps ops = some h') : h'.WF :=
  foldlM_some_inv Header.applyOp_WF ops hwf hr (Header.applyOps_eq_foldlM h ops ▸ ha)

theorem Header.applyOps_none (ops : List BuilderOp) {h : Header} (ha : h.applyOps ops = none) :
    BuilderOp.withMipmapCount 0 ∈ ops := by
  obtain ⟨op, hop, _, hs⟩ := foldlM_none ops (Header.applyOps_eq_foldlM h ops ▸ ha)
  exact Header.applyOp_none hs ▸ hop


theorem Dx10Header.toDx9_shape {x : Dx10Header} {y : Dx9Header} (h : x.toDx9 = some y) :
    y.width = x.width ∧ y.height = x.height ∧ y.depth = x.depth ∧ y.mipmapCount = x.mipmapCount ∧
    x.arraySize = 1 ∧ ¬ (bitSet x.miscFlag MISC_TEXTURE_CUBE = true ∧ x.resourceDimension ≠ .tex2D) ∧
    y.caps2 = (if bitSet x.miscFlag MISC_TEXTURE_CUBE then
        (if x.resourceDimension = .tex3D then CAPS2_VOLUME else 0) ||| (CAPS2_CUBE_MAP ||| CAPS2_ALL_FACES)
      else (if x.resourceDimension = .tex3D then CAPS2_VOLUME else 0)) ∧
    toDx9Format x.dxgiFormat x.alphaMode = some y.pixelFormat := by
  unfold Dx10Header.toDx9 at h
  split at h
  · cases h
  · rename_i ha
    split at h
    · cases h
    · rename_i hc
      obtain ⟨p, hf, rfl⟩ := Option.map_eq_some_iff.mp h
      refine ⟨rfl, rfl, rfl, rfl, Decidable.not_not.mp ha, fun ⟨c1, c2⟩ => hc ?_, rfl, hf⟩
      rw [c1, bne_iff_ne.mpr c2]; rfl

theorem Dx9Header.toDx10_shape {y : Dx9Header} {x : Dx10Header} (h : y.toDx10 = some x) :
    x.width = y.width ∧ x.height = y.height ∧ x.depth = y.depth ∧ x.mipmapCount = y.mipmapCount ∧
    x.arraySize = 1 ∧ x.alphaMode = y.alphaMode ∧
    ¬ (bitSet y.caps2 CAPS2_CUBE_MAP = true ∧ hasAllFaces y.caps2 = false) ∧
    x.resourceDimension = (if bitSet y.caps2 CAPS2_VOLUME then .tex3D else .tex2D) ∧
    x.miscFlag = (if bitSet y.caps2 CAPS2_CUBE_MAP then MISC_TEXTURE_CUBE else 0) ∧
    y.pixelFormat.toDxgi? = some x.dxgiFormat := by
  unfold Dx9Header.toDx10 at h
  split at h
  · cases h
  · rename_i d hdx
    split at h
    · cases h
    · rename_i hc
      cases h
      refine ⟨rfl, rfl, rfl, rfl, rfl, rfl, fun ⟨c1, c2⟩ => hc ?_, rfl, rfl, hdx⟩
      rw [c1, c2]; rfl

def pxOfPf (p : Dx9PixelFormat) : Option PixelInfo :=
  pixelInfoOf (.dx9 { height := 0, width := 0, depth := none, mipmapCount := 1, caps2 := 0, pixelFormat := p })

theorem pixelInfoOf_dx9 (y : Dx9Header) : pixelInfoOf (.dx9 y) = pxOfPf y.pixelFormat := rfl

/-- `to_linear` maps a code to itself or to a code with the same pixel info -/
theorem dxgiRows_linear_px : ∀ r ∈ dxgiRows, r.linear = r.code ∨ dxgiPixelInfo r.linear = r.px := by
  decide +kernel

theorem dxgiPixelInfo_toLinear (c : Nat) : dxgiPixelInfo (dxgiToLinear c) = dxgiPixelInfo c := by
  unfold dxgiToLinear
  cases hr : dxgiRow? c with
  | none => rfl
  | some r =>
    have hr' : dxgiRows.find? (·.code == c) = some r := hr
    have hc : r.code = c := by simpa using List.find?_some hr'
    rcases dxgiRows_linear_px r (List.mem_of_find?_eq_some hr') with h | h
    · show dxgiPixelInfo r.linear = _
      rw [h, hc]
    · show dxgiPixelInfo r.linear = (dxgiRow? c).bind (·.px)
      rw [h, hr]; rfl

theorem dxgiToFourCC_px_table : ∀ p ∈ dxgiToFourCCTable, pxOfPf (.fourCC p.2) = dxgiPixelInfo p.1 := by
  decide +kernel

theorem fourCCToDxgi_px_table : ∀ p ∈ fourCCToDxgiTable,
    pxOfPf (.fourCC p.1) = dxgiPixelInfo p.2 := by decide +kernel

theorem dxt24_px : pxOfPf (.fourCC FOURCC_DXT2) = dxgiPixelInfo DXGI_BC2_UNORM ∧
    pxOfPf (.fourCC FOURCC_DXT4) = dxgiPixelInfo DXGI_BC3_UNORM := by decide

/-- no row of `KNOWN_PIXEL_FORMATS` is dropped by the conversion of its bit count to `RgbBitCount` -/
theorem knownPixelFormats_complete : knownPixelFormats.length = SrcTables.knownPixelFormats.length := by decide

/-- seeded C09h (an alias row of `KNOWN_PIXEL_FORMATS` with the wrong bit count) fails the build here -/
theorem knownPixelFormats_px_table : ∀ r ∈ knownPixelFormats, ∀ d, r.2.1 = some d →
    pxOfPf (.mask r.1) = dxgiPixelInfo d := by decide

/-- `to_dx9` keeps the pixel info: the pixel format it picks for the linear code (`dxgi_to_four_cc`, else
`dxgi_to_masked`) has the pixel info of that code, and `to_linear` keeps it -/
theorem toDx9Format_px {c : Nat} {a : AlphaMode} {p : Dx9PixelFormat} (h : toDx9Format c a = some p) :
    pxOfPf p = dxgiPixelInfo c := by
  rw [← dxgiPixelInfo_toLinear c]
  simp only [toDx9Format] at h
  split at h
  · rename_i h2; cases h; rw [h2.2]; exact dxt24_px.1
  · split at h
    · rename_i h4; cases h; rw [h4.2]; exact dxt24_px.2
    · split at h
      · rename_i cc hcc
        cases h
        exact dxgiToFourCC_px_table _ (lookup_mem hcc)
      · obtain ⟨m, hm, rfl⟩ := Option.map_eq_some_iff.mp h
        obtain ⟨⟨pm, od, _⟩, hr, hf⟩ := List.exists_of_findSome?_eq_some hm
        simp only at hf
        split at hf
        · rename_i hd
          cases hf
          exact knownPixelFormats_px_table _ hr _ hd
        · cases hf

theorem toDx10_px {p : Dx9PixelFormat} {d : Nat} (h : p.toDxgi? = some d) :
    dxgiPixelInfo d = pxOfPf p := by
  cases p with
  | fourCC c =>
    simp only [Dx9PixelFormat.toDxgi?] at h
    split at h
    · rename_i h2; cases h; rw [h2]; exact dxt24_px.1.symm
    · split at h
      · rename_i h4; cases h; rw [h4]; exact dxt24_px.2.symm
      · exact (fourCCToDxgi_px_table _ (lookup_mem h)).symm
  | mask m =>
    obtain ⟨⟨pm, od, _⟩, hr, hf⟩ := List.exists_of_findSome?_eq_some h
    simp only at hf
    split at hf
    · rename_i hm
      subst hm
      exact (knownPixelFormats_px_table _ hr d hf).symm
    · cases hf


def LayoutHeader.withKind (hd : LayoutHeader) (k : HeaderKind) : LayoutHeader := { hd with kind := k }

theorem bitSet_iff {x m : Nat} : bitSet x m = true ↔ x / m % 2 = 1 := beq_iff_eq

theorem layoutOf_dx9_dx10 (hd : LayoutHeader) (px : PixelInfo) (caps2 : Nat)
    (hfaces : bitSet caps2 CAPS2_CUBE_MAP = true → hasAllFaces caps2 = true) :
    layoutOf (hd.withKind (HeaderKind.dx10 (bitSet caps2 CAPS2_CUBE_MAP)
        (if bitSet caps2 CAPS2_VOLUME then ResDim.tex3D else ResDim.tex2D) 1)) px =
      layoutOf (hd.withKind (HeaderKind.dx9 caps2)) px := by
  -- `SurfaceLayoutInfo.fromHeader` does not look at the kind
  have e : ∀ k, SurfaceLayoutInfo.fromHeader { hd with kind := k } px =
      SurfaceLayoutInfo.fromHeader { hd with kind := HeaderKind.dx9 caps2 } px := fun _ => rfl
  unfold layoutOf LayoutHeader.withKind
  simp only [bitSet_iff]
  by_cases hc : caps2 / CAPS2_CUBE_MAP % 2 = 1 <;> by_cases hv : caps2 / CAPS2_VOLUME % 2 = 1 <;>
    simp only [hc, hv, if_true, if_false, ne_eq, not_true_eq_false, not_false_eq_true, reduceCtorEq, e]
  · have hf : cubeFacesOfCaps2 caps2 = 63 := eq_of_beq (hfaces (bitSet_iff.mpr hc))
    rw [hf]
    cases SurfaceLayoutInfo.fromHeader { hd with kind := HeaderKind.dx9 caps2 } px <;> rfl
  · cases SurfaceLayoutInfo.fromHeader { hd with kind := HeaderKind.dx9 caps2 } px <;> rfl
theorem Dx9Header.toDx10_layout {y : Dx9Header} {x : Dx10Header} (h : y.toDx10 = some x)
    (px : PixelInfo) :
    layoutOf (Header.dx10 x).toLayoutHeader px = layoutOf (Header.dx9 y).toLayoutHeader px := by
  obtain ⟨e1, e2, e3, e4, e5, _, hf, e6, e7, _⟩ := Dx9Header.toDx10_shape h
  have hcube : bitSet x.miscFlag MISC_TEXTURE_CUBE = bitSet y.caps2 CAPS2_CUBE_MAP := by
    rw [e7]; cases bitSet y.caps2 CAPS2_CUBE_MAP <;> decide
  have := layoutOf_dx9_dx10 ⟨y.width, y.height, y.depth, y.mipmapCount, HeaderKind.dx9 0⟩ px y.caps2
    (fun hc => by
      cases hh : hasAllFaces y.caps2 with
      | true => rfl
      | false => exact absurd ⟨hc, hh⟩ hf)
  simp only [Header.toLayoutHeader, e1, e2, e3, e4, e5, e6, hcube]
  exact this

/-- DX10 -> DX9 keeps the layout for 2D textures, cube maps and volumes; a 1D texture becomes
the 2D texture of the same width x height (its layout differs unless height = 1). -/
theorem Dx10Header.toDx9_layout {x : Dx10Header} {y : Dx9Header} (h : x.toDx9 = some y)
    (px : PixelInfo) :
    layoutOf (Header.dx9 y).toLayoutHeader px =
      layoutOf (Header.dx10 { x with resourceDimension :=
        if x.resourceDimension = .tex1D then .tex2D else x.resourceDimension }).toLayoutHeader px := by
  obtain ⟨e1, e2, e3, e4, e5, hnc, e6, _⟩ := Dx10Header.toDx9_shape h
  simp only [Header.toLayoutHeader, e1, e2, e3, e4, e5, e6]
  -- the DX9 header written for `x` has caps2 `c`; read back as DX10 it is the header on the right
  have key := fun c hc =>
    (layoutOf_dx9_dx10 ⟨x.width, x.height, x.depth, x.mipmapCount, HeaderKind.dx9 0⟩ px c hc).symm
  cases hcb : bitSet x.miscFlag MISC_TEXTURE_CUBE with
  | true =>
    have hdim : x.resourceDimension = .tex2D := Decidable.byContradiction fun hd => hnc ⟨hcb, hd⟩
    simp only [hdim, if_true]
    exact key (0 ||| (CAPS2_CUBE_MAP ||| CAPS2_ALL_FACES)) (fun _ => by decide)
  | false =>
    simp only [Bool.false_eq_true, if_false]
    cases x.resourceDimension with
    | tex3D => exact key CAPS2_VOLUME nofun
    | tex2D => exact key 0 nofun
    | tex1D => exact key 0 nofun

end Dds
