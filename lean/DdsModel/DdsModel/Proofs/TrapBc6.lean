/-
C01 (codec bodies, BC6H): the trapping mirror `TrapBc6.decodeT` returns `some` of the wrapping model
(`Bc6.decodeBlock` + the half conversions) for every block, both formats, three precisions.
-/
import DdsModel.TrapBc6
import DdsModel.Proofs.TrapBc7
import DdsModel.Proofs.Bc6Glue
import DdsModel.Proofs.Bc6GlueNoOverflow
import DdsModel.Proofs.TrapWp
namespace Dds.TrapBc6
open Dds Dds.Trap Dds.Bc6 Dds.BcTables

@[wp ↓] theorem ret_shlI32 {x : Int} {s : Nat} {Q : Int → Prop} : Ret (shlI32 x s) Q ↔ s < 32 ∧ Q (shl32 x s) := by
  unfold shlI32; exact ret_guard
@[wp ↓] theorem ret_sarI32 {x : Int} {s : Nat} {Q : Int → Prop} : Ret (sarI32 x s) Q ↔ s < 32 ∧ Q (sar32 x s) := by
  unfold sarI32; exact ret_guard

theorem shlI32_of_lt {x : Int} {s : Nat} (h : s < 32) : shlI32 x s = some (shl32 x s) := if_pos h
theorem sarI32_of_lt {x : Int} {s : Nat} (h : s < 32) : sarI32 x s = some (sar32 x s) := if_pos h


theorem consumeBits32T_eq (count s : Nat) (h : 0 < count ∧ count ≤ 31) :
    consumeBits32T count s = some (consumeBits32 count s) := by
  unfold consumeBits32T consumeBits32 TrapBc7.skipT
  rw [← ret_eq]
  simp only [wp, and_true]
  omega

theorem consumeBitsRevT_eq (count s : Nat) (h : count ≤ 8) :
    consumeBitsRevT count s = some (consumeBitsRev count s) := by
  unfold consumeBitsRevT consumeBitsRev Bc7.mask8 TrapBc7.skipT
  rw [← ret_eq]
  by_cases h2 : count ≥ 2
  · simp only [wp, if_pos h2, and_true]
    omega
  · simp only [wp, if_neg h2, and_true]
    omega


/-- the eight 5-bit codes `xxx10` are the eight arms of the `match` -/
theorem modeTwoOfBitsT_eq : ∀ h, h < 8 → modeTwoOfBitsT (((h <<< 2) % U8) ||| 2) =
    some (let bits := ((h <<< 2) % U8) ||| 2
      if bits = 2 then .M11_544 else if bits = 6 then .M11_454 else if bits = 10 then .M11_445
      else if bits = 14 then .M9_555 else if bits = 18 then .M8_655 else if bits = 22 then .M8_565
      else if bits = 26 then .M8_556 else .M6_666) := by decide

theorem modeOneOfBitsT_eq : ∀ k, k < 4 → modeOneOfBitsT k =
    some (if k = 0 then .M10_10 else if k = 1 then .M11_9 else if k = 2 then .M12_8 else .M16_4) := by decide

theorem extractModeT_eq (s : Nat) : extractModeT s = some (extractMode s) := by
  have h2 := TrapBc7.consumeBits_lt_pow 2 s (by omega)
  have h3 := TrapBc7.consumeBits_lt_pow 3 (Bc7.consumeBits 2 s).2 (by omega)
  unfold extractModeT extractMode extractModeHighT
  rw [TrapBc7.consumeBitsT_eq _ _ (by omega), bind_some', TrapBc7.consumeBitsT_eq _ _ (by omega), bind_some',
    bind_some']
  refine ite_eq_some (fun _ => pure_some' _) fun _ => ite_eq_some (fun _ => pure_some' _) fun _ =>
    ite_eq_some (fun _ => ?_) fun _ => ?_
  · rw [modeTwoOfBitsT_eq _ h3, bind_some', pure_some']
  · rw [if_pos (by omega)]
    refine ite_eq_some (fun _ => pure_some' _) fun _ => ?_
    rw [modeOneOfBitsT_eq _ (Nat.lt_of_le_of_lt Nat.and_le_right (by decide)), bind_some', pure_some']


theorem stepOpT_eq (st : List Nat × Nat) (op : Op) (h : op.bit < 31) : stepOpT st op = some (stepOp st op) := by
  unfold stepOpT stepOp
  refine ite_eq_some (fun _ => ?_) fun _ => ?_
  · rw [consumeBits32T_eq _ _ (by omega), bind_some', pure_some']
  · rw [consumeBits32T_eq _ _ (by omega), bind_some', shl_of_lt (by omega), bind_some', pure_some']

theorem foldOpsT_eq (ops : List Op) (st : List Nat × Nat) (h : ∀ op ∈ ops, op.bit < 31) :
    foldOpsT ops st = some (ops.foldl stepOp st) := by
  induction ops generalizing st with
  | nil => rfl
  | cons op ops ih =>
    unfold foldOpsT
    rw [stepOpT_eq _ _ (h op (List.mem_cons_self ..)), bind_some', List.foldl_cons]
    exact ih _ (fun o ho => h o (List.mem_cons_of_mem _ ho))

theorem ops_bits (m : ModeTwo) : ∀ op ∈ modeTwoOps m, op.bit < 31 := by
  cases m <;> decide

theorem extractTwoT_eq (m : ModeTwo) (s : Nat) : extractTwoT m s = some (extractTwo m s) :=
  foldOpsT_eq _ _ (ops_bits m)

theorem extractOneT_eq (m : ModeOne) (s : Nat) : extractOneT m s = some (extractOne m s) := by
  have h1 : 10 ≤ m.a0BitCount ∧ m.a0BitCount ≤ 16 := by cases m <;> decide
  unfold extractOneT extractOne
  simp (disch := omega) only [consumeBits32T_eq, consumeBitsRevT_eq, subU_of_le, bind_some', pure_some']

theorem extractPartitionT_eq (s : Nat) : extractPartitionT s = some (Bc7.consumeBits 5 s) := by
  have h := TrapBc7.consumeBits_lt_pow 5 s (by omega)
  unfold extractPartitionT
  rw [TrapBc7.consumeBitsT_eq _ _ (by omega), bind_some', dbgP_of h, bind_some', idxF_of_lt (by omega), bind_some', pure_some']


theorem two_pow_bounds (k : Nat) (hk : k ≤ 16) : 1 ≤ 2 ^ k ∧ 2 ^ k ≤ 65536 :=
  ⟨Nat.one_le_two_pow, Nat.pow_le_pow_right (by decide) hk⟩

theorem shl32_one (k : Nat) (hk : k ≤ 16) : shl32 1 k = ((2 ^ k : Nat) : Int) := by
  have := two_pow_bounds k hk
  rw [shl32, Int.one_mul, wrap32_id _ (by omega) (by omega)]

theorem and_high_zero (v k n : Nat) (hk : k ≤ n) (hv : v < 2 ^ k) : v &&& (2 ^ n - 2 ^ k) = 0 := by
  apply Nat.eq_of_testBit_eq
  intro i
  rw [Nat.testBit_and, Nat.zero_testBit]
  by_cases hi : i < k
  · have e : 2 ^ n - 2 ^ k = 2 ^ k * (2 ^ (n - k) - 1) := by
      rw [Nat.mul_sub, ← Nat.pow_add, Nat.mul_one]
      congr 2; omega
    rw [e, Nat.testBit_two_pow_mul, decide_eq_false (Nat.not_le_of_lt hi), Bool.false_and, Bool.and_false]
  · rw [Nat.testBit_lt_two_pow (Nat.lt_of_lt_of_le hv (Nat.pow_le_pow_right (by decide) (by omega))), Bool.false_and]

/-- the third `debug_assert!` of `sign_extend` holds for a `k`-bit pattern -/
theorem no_high_bits (x : Int) (k : Nat) (hk : k ≤ 16) (hx : 0 ≤ x ∧ x < ((2 ^ k : Nat) : Int)) :
    and32 x (toU32 (-(shl32 1 k - 1) - 1)) = 0 := by
  have hb := two_pow_bounds k hk
  have e1 : toU32 (-(shl32 1 k - 1) - 1) = 2 ^ 32 - 2 ^ k := by
    rw [shl32_one k hk]
    unfold toU32
    have : (2 : Nat) ^ 32 = 4294967296 := by decide
    omega
  have e2 : toU32 x = x.toNat := by unfold toU32; omega
  unfold and32
  rw [e1, e2, and_high_zero _ k 32 (by omega) (by omega)]
  rfl

theorem signExtendT_eq (x : Int) (k : Nat) (hk : 1 ≤ k ∧ k ≤ 16) (hx : 0 ≤ x ∧ x < ((2 ^ k : Nat) : Int)) :
    signExtendT x k = some (signExtend x k) := by
  have hb := two_pow_bounds k hk.2
  have h1 := shl32_one k hk.2
  unfold signExtendT signExtend
  rw [← ret_eq]
  simp only [wp, no_high_bits x k hk.2 hx, and_true, true_and, ← and_assoc]
  omega

theorem maskT_eq (k : Nat) (hk : k ≤ 16) : maskT k = some () := by
  have hb := two_pow_bounds k hk
  unfold maskT
  rw [← ret_eq]
  simp only [wp, shl32_one k hk, and_true]
  omega

def Pat (k : Nat) (v : Int) : Prop := 0 ≤ v ∧ v < ((2 ^ k : Nat) : Int)

theorem pat_cast (k v : Nat) (h : v < 2 ^ k) : Pat k (v : Int) := ⟨Int.natCast_nonneg v, Int.ofNat_lt.mpr h⟩

theorem addMask_pat (a b : Int) (k : Nat) (hk : k ≤ 16)
    (ha : -1073741824 ≤ a ∧ a < 1073741824) (hb : -1073741824 ≤ b ∧ b < 1073741824) :
    Pat k (addMask a b (maskOf k)) := by
  rw [addMask_eq a b k hk ha hb]
  have h2 : (0 : Int) < ((2 ^ k : Nat) : Int) := by have := Nat.two_pow_pos k; omega
  exact ⟨Int.emod_nonneg _ (by omega), Int.emod_lt_of_pos _ h2⟩

theorem signExtend_bound (v : Int) (k : Nat) (hk : 1 ≤ k ∧ k ≤ 16) (hv : Pat k v) :
    -65536 ≤ signExtend v k ∧ signExtend v k < 65536 := by
  rw [signExtend_int v k hk.1 hk.2 hv.1 hv.2]
  exact sext_bound k _ hk.2 (by have h1 := hv.1; have h2 := hv.2; omega)

theorem pat_bound (v : Int) (k : Nat) (hk : k ≤ 16) (hv : Pat k v) : -65536 ≤ v ∧ v < 65536 := by
  have h0 := two_pow_bounds k hk
  have h1 := hv.1; have h2 := hv.2
  omega


theorem decompressTwoChanT_eq (m : ModeTwo) (signed : Bool) (d : Nat) (w x y z : Int) (hd : 1 ≤ d ∧ d ≤ 16)
    (hw : Pat m.a0BitCount w) (hx : Pat d x) (hy : Pat d y) (hz : Pat d z) :
    decompressTwoChanT m signed d w x y z = some (decompressTwoChan m signed d w x y z) := by
  have hp : 1 ≤ m.a0BitCount ∧ m.a0BitCount ≤ 16 := by cases m <;> decide
  have sw := signExtendT_eq w _ hp hw
  have sx := signExtendT_eq x d hd hx
  have sy := signExtendT_eq y d hd hy
  have sz := signExtendT_eq z d hd hz
  have bw := signExtend_bound w _ hp hw
  have bx := signExtend_bound x d hd hx
  have by' := signExtend_bound y d hd hy
  have bz := signExtend_bound z d hd hz
  have cw := pat_bound w _ hp.2 hw
  have sx' := signExtendT_eq _ _ hp (addMask_pat (signExtend x d) (signExtend w m.a0BitCount) _ hp.2 (by omega) (by omega))
  have sy' := signExtendT_eq _ _ hp (addMask_pat (signExtend y d) (signExtend w m.a0BitCount) _ hp.2 (by omega) (by omega))
  have sz' := signExtendT_eq _ _ hp (addMask_pat (signExtend z d) (signExtend w m.a0BitCount) _ hp.2 (by omega) (by omega))
  cases signed <;> cases htr : m.transformed <;>
    simp only [decompressTwoChanT, decompressTwoChan, htr, sw, sx, sy, sz, sx', sy', sz', maskT_eq _ hp.2, bind_some',
      pure_some', Bool.or_false, Bool.or_true, Bool.or_self, Bool.false_eq_true, ↓reduceIte]

theorem decompressOneChanT_eq (m : ModeOne) (signed : Bool) (a b : Int)
    (ha : Pat m.a0BitCount a) (hb : Pat m.b0BitCount b) :
    decompressOneChanT m signed a b = some (decompressOneChan m signed a b) := by
  have hp : 1 ≤ m.a0BitCount ∧ m.a0BitCount ≤ 16 := by cases m <;> decide
  have hq : 1 ≤ m.b0BitCount ∧ m.b0BitCount ≤ 16 := by cases m <;> decide
  have h20 : subU 20 m.a0BitCount = some m.b0BitCount := subU_of_le (by cases m <;> decide)
  have sa := signExtendT_eq a _ hp ha
  have sb := signExtendT_eq b _ hq hb
  have ba := signExtend_bound a _ hp ha
  have bb := signExtend_bound b _ hq hb
  have ca := pat_bound a _ hp.2 ha
  have sb1 := signExtendT_eq _ _ hp (addMask_pat (signExtend a m.a0BitCount) (signExtend b m.b0BitCount) _ hp.2
    (by omega) (by omega))
  cases signed <;> cases htr : m.transformed <;>
    simp only [decompressOneChanT, decompressOneChan, htr, h20, sa, sb, sb1, maskT_eq _ hp.2, bind_some',
      pure_some', Bool.or_false, Bool.or_true, Bool.or_self, Bool.false_eq_true, ↓reduceIte]


theorem ckI32_eq (x : Int) : ckI32 x = ck32 x := by
  unfold ckI32 ck32
  by_cases h : -2147483648 ≤ x ∧ x < 2147483648
  · rw [if_pos h, if_pos (by omega)]
  · rw [if_neg h, if_neg (by omega)]

/-- `finish_unquantize`: the two mirrors are the same function -/
theorem finishUnquantizeT_eq_Ck (e : Int) (signed : Bool) : finishUnquantizeT e signed = finishUnquantizeCk e signed := by
  simp only [finishUnquantizeT, finishUnquantizeCk, ckI32_eq, sarI32_of_lt (by decide : 5 < 32), sarI32_of_lt (by decide : 6 < 32),
    Option.bind_eq_bind, Option.bind_some, Option.pure_def]

theorem paletteEntryT_eq_Ck (a b : Int) (w : Nat) (signed : Bool) : paletteEntryT a b w signed = paletteEntryCk a b w signed := by
  simp only [paletteEntryT, paletteEntryCk, ckI32_eq, sarI32_of_lt (by decide : 6 < 32), finishUnquantizeT_eq_Ck,
    Option.bind_eq_bind, Option.bind_some]

theorem finishUnquantizeT_eq (signed : Bool) (e : Int)
    (he : if signed then -32768 ≤ e ∧ e ≤ 32767 else 0 ≤ e ∧ e ≤ 65535) :
    finishUnquantizeT e signed = some (finishUnquantize e signed) :=
  (finishUnquantizeT_eq_Ck e signed).trans (finishUnquantizeCk_some signed e he)

theorem paletteEntryT_eq (signed : Bool) (a b : Int) (w : Nat) (hw : w ≤ 64)
    (ha : if signed then -32768 ≤ a ∧ a ≤ 32767 else 0 ≤ a ∧ a ≤ 65535)
    (hb : if signed then -32768 ≤ b ∧ b ≤ 32767 else 0 ≤ b ∧ b ≤ 65535) :
    paletteEntryT a b w signed = some (paletteEntry a b w signed) :=
  (paletteEntryT_eq_Ck a b w signed).trans (paletteEntryCk_some signed a b w hw ha hb)

/-! `unquantize`: `shlCk` refuses what `<<` loses silently, so the checked mirror is the more defined of the two -/

/-- `o'` is defined wherever `o` is, with the same value -/
def Le {α} (o o' : Option α) : Prop := ∀ v, o = some v → o' = some v

theorem Le.rfl {α} {o : Option α} : Le o o := fun _ h => h
theorem Le.bind {α β} {o o' : Option α} {f f' : α → Option β} (h : Le o o') (hf : ∀ a, Le (f a) (f' a)) :
    Le (o >>= f) (o' >>= f') := by
  intro v hv
  cases ho : o with
  | none => rw [ho] at hv; cases hv
  | some a =>
    rw [ho] at hv
    rw [h a ho]
    exact hf a v hv
theorem Le.ite {α} {c : Prop} [Decidable c] {a a' b b' : Option α} (h1 : Le a a') (h2 : Le b b') :
    Le (if c then a else b) (if c then a' else b') := by
  split
  · exact h1
  · exact h2

theorem shlCk_le (x : Int) {s : Nat} (h : s < 32) : Le (shlCk x s) (shlI32 x s) := by
  intro v hv
  unfold shlCk ck32 at hv
  split at hv
  · rename_i hr
    cases hv
    rw [shlI32_of_lt h, shl32, wrap32_id _ hr.1 hr.2]
  · cases hv

theorem unquantizeCk_le (c : Int) (bits : Nat) (signed : Bool) (hb : 1 ≤ bits ∧ bits ≤ 16) :
    Le (unquantizeCk c bits signed) (unquantizeT c bits signed) := by
  have s1 : bits < 32 := by omega
  have s2 : bits - 1 < 32 := by omega
  unfold unquantizeCk unquantizeT
  simp only [onesT, ckI32_eq, sarI32_of_lt s1, sarI32_of_lt s2, subU_of_le hb.1, bind_some', bind_assoc]
  -- both are the same program up to `shlCk` / `shlI32` at `1 << k` and `component << 15|16`
  refine Le.ite (Le.ite Le.rfl ?_)
    (Le.ite Le.rfl (Le.ite (Le.bind Le.rfl fun comp => ?_) ?_))
  all_goals exact Le.ite Le.rfl (Le.bind (shlCk_le 1 (by omega)) fun one => Le.bind Le.rfl fun m =>
    Le.ite Le.rfl (Le.bind (shlCk_le _ (by decide)) fun sh => Le.rfl))

theorem unquantizeT_eq (signed : Bool) (bits : Nat) (c : Int) (hbits : 1 ≤ bits ∧ bits ≤ 16)
    (hc : inRange signed bits c) : unquantizeT c bits signed = some (Bc6.unquantize c bits signed) :=
  unquantizeCk_le c bits signed hbits _ (unquantizeCk_some signed bits c hc)


theorem w63_le : ∀ w ∈ implW6_3, w ≤ 64 := by decide
theorem w64_le : ∀ w ∈ implW6_4, w ≤ 64 := by decide

theorem paletteT_eq (signed : Bool) (W : List Nat) (hW : ∀ w ∈ W, w ≤ 64) (bits : Nat) (a z : Int)
    (hbits : 1 ≤ bits ∧ bits ≤ 16) (ha : inRange signed bits a) (hz : inRange signed bits z) :
    paletteT W a z bits signed = some (palette W a z bits signed) := by
  obtain ⟨e1, r1⟩ := unquantize_eq signed bits a hbits.2 ha
  obtain ⟨e2, r2⟩ := unquantize_eq signed bits z hbits.2 hz
  unfold paletteT palette
  rw [unquantizeT_eq signed bits a hbits ha, bind_some', unquantizeT_eq signed bits z hbits hz, bind_some']
  apply mapT_eq_some
  intro w hw
  rw [e1, e2]
  exact paletteEntryT_eq signed _ _ w (hW w hw) r1 r2

/-! ### unsigned outputs are finite non-negative halves (the `debug_assert!`s of `bc6h_uf16`) -/

theorem paletteEntry_uf_lt (a b : Int) (w : Nat) (hw : w ≤ 64) (ha : 0 ≤ a ∧ a ≤ 65535) (hb : 0 ≤ b ∧ b ≤ 65535) :
    paletteEntry a b w false < 0x7C00 := by
  have hS : 0 ≤ Bc6Spec.lerp a b w ∧ Bc6Spec.lerp a b w ≤ 65535 := (lerp_range false a b w hw ha hb).2.2
  rw [paletteEntry_eq false a b w hw ha hb]
  unfold Bc6Spec.finish
  rw [if_pos (show (!false) = true from rfl)]
  omega

/-- what the pixel loops need to know about a palette table -/
def HalfOk (signed : Bool) (l : List Nat) : Prop := signed = false → ∀ v ∈ l, v < 0x7C00

theorem palette_halfOk (signed : Bool) (W : List Nat) (hW : ∀ w ∈ W, w ≤ 64) (bits : Nat) (a z : Int)
    (hbits : bits ≤ 16) (ha : inRange signed bits a) (hz : inRange signed bits z) :
    HalfOk signed (palette W a z bits signed) := by
  rintro rfl v hv
  obtain ⟨e1, r1⟩ := unquantize_eq false bits a hbits ha
  obtain ⟨e2, r2⟩ := unquantize_eq false bits z hbits hz
  obtain ⟨w, hw, rfl⟩ := List.mem_map.mp hv
  rw [e1, e2]
  exact paletteEntry_uf_lt _ _ w (hW w hw) r1 r2

theorem palette_len (W : List Nat) (a z : Int) (bits : Nat) (signed : Bool) :
    (palette W a z bits signed).length = W.length := List.length_map _


/-- the two palettes of one channel of a two-region block, from the raw fields -/
def palTwo (signed : Bool) (m : ModeTwo) (d : Nat) (w x y z : Int) : List (List Nat) :=
  let ws := decompressTwoChan m signed d w x y z
  [palette implW6_3 (getI ws 0) (getI ws 1) m.a0BitCount signed, palette implW6_3 (getI ws 2) (getI ws 3) m.a0BitCount signed]

theorem chanTwoT (signed : Bool) (m : ModeTwo) (c : Nat) (hc : c < 3) (w x y z : Nat)
    (hw : w < 2 ^ m.a0BitCount)
    (hx : x < 2 ^ (if c = 0 then m.deltaBitCount.1 else if c = 1 then m.deltaBitCount.2.1 else m.deltaBitCount.2.2))
    (hy : y < 2 ^ (if c = 0 then m.deltaBitCount.1 else if c = 1 then m.deltaBitCount.2.1 else m.deltaBitCount.2.2))
    (hz : z < 2 ^ (if c = 0 then m.deltaBitCount.1 else if c = 1 then m.deltaBitCount.2.1 else m.deltaBitCount.2.2)) :
    let d := if c = 0 then m.deltaBitCount.1 else if c = 1 then m.deltaBitCount.2.1 else m.deltaBitCount.2.2
    (do
      let ws ← decompressTwoChanT m signed d (w : Int) (x : Int) (y : Int) (z : Int)
      let p0 ← paletteT implW6_3 (getI ws 0) (getI ws 1) m.a0BitCount signed
      let p1 ← paletteT implW6_3 (getI ws 2) (getI ws 3) m.a0BitCount signed
      pure [p0, p1]) = some (palTwo signed m d w x y z) ∧
    ∀ l ∈ palTwo signed m d w x y z, l.length = 8 ∧ HalfOk signed l := by
  intro d
  obtain ⟨p1, p2, p3, p4, p5, p6⟩ := two_params m c hc
  have hws := decompressTwoChan_eq m signed d w x y z p6 hw hx hy hz
  have hr : ∀ raw e, raw < 2 ^ d → inRange signed m.a0BitCount (endpointV m.a0BitCount d m.transformed signed w raw e) :=
    fun raw e hraw => endpointV_inRange _ _ _ _ _ _ _ p1 p2 p3 p4 p5 hw hraw
  -- endpoint 0 ignores `raw`
  have hr0 : inRange signed m.a0BitCount (endpointV m.a0BitCount d m.transformed signed w w 0) :=
    hr 0 0 (Nat.two_pow_pos _)
  unfold palTwo
  rw [decompressTwoChanT_eq m signed d _ _ _ _ ⟨p3, by omega⟩ (pat_cast _ _ hw) (pat_cast _ _ hx) (pat_cast _ _ hy)
    (pat_cast _ _ hz), bind_some', hws]
  simp only [getI, List.getD_cons_zero, List.getD_cons_succ]
  refine ⟨?_, List.forall_mem_cons.2 ⟨⟨palette_len .., palette_halfOk _ _ w63_le _ _ _ p2 hr0 (hr x 1 hx)⟩,
    List.forall_mem_cons.2 ⟨⟨palette_len .., palette_halfOk _ _ w63_le _ _ _ p2 (hr y 2 hy) (hr z 3 hz)⟩,
      fun _ h => (List.not_mem_nil h).elim⟩⟩⟩
  rw [paletteT_eq signed _ w63_le _ _ _ ⟨by omega, p2⟩ hr0 (hr x 1 hx), bind_some',
    paletteT_eq signed _ w63_le _ _ _ ⟨by omega, p2⟩ (hr y 2 hy) (hr z 3 hz), bind_some', pure_some']

/-- the palette of one channel of a one-region block, from the raw fields -/
def palOne (signed : Bool) (m : ModeOne) (a z : Int) : List Nat :=
  let ab := decompressOneChan m signed a z
  palette implW6_4 (getI ab 0) (getI ab 1) m.a0BitCount signed

theorem chanOneT (signed : Bool) (m : ModeOne) (a z : Nat) (ha : a < 2 ^ m.a0BitCount) (hz : z < 2 ^ m.b0BitCount) :
    (do
      let ab ← decompressOneChanT m signed (a : Int) (z : Int)
      paletteT implW6_4 (getI ab 0) (getI ab 1) m.a0BitCount signed) = some (palOne signed m a z) ∧
    (palOne signed m a z).length = 16 ∧ HalfOk signed (palOne signed m a z) := by
  obtain ⟨p1, p2, p3, p4, p5⟩ := one_params m
  have hab := decompressOneChan_eq m signed a z ha hz
  have hr : ∀ raw e, raw < 2 ^ m.b0BitCount →
      inRange signed m.a0BitCount (endpointV m.a0BitCount m.b0BitCount m.transformed signed a raw e) :=
    fun raw e hraw => endpointV_inRange _ _ _ _ _ _ _ p1 p2 p3 p4 p5 ha hraw
  have hr0 : inRange signed m.a0BitCount (endpointV m.a0BitCount m.b0BitCount m.transformed signed a a 0) :=
    hr 0 0 (Nat.two_pow_pos _)
  unfold palOne
  rw [decompressOneChanT_eq m signed _ _ (pat_cast _ _ ha) (pat_cast _ _ hz), bind_some', hab]
  exact ⟨paletteT_eq signed _ w64_le _ _ _ ⟨by omega, p2⟩ hr0 (hr z 1 hz), palette_len ..,
    palette_halfOk _ _ w64_le _ _ _ p2 hr0 (hr z 1 hz)⟩


theorem subset2Index_le (m : Nat × Nat) (pixel : Nat) : subset2Index m pixel ≤ 1 :=
  Nat.le_trans (Nat.mod_le _ _) Nat.and_le_right

theorem two_T (signed : Bool) (m : ModeTwo) (b : Nat)
    (hmode : extractMode b = (.two m, b >>> (recTwo m).modeBits)) :
    decodeBlockT signed b = some (Bc6.decodeBlock signed b) ∧
    (signed = false → ∀ px ∈ Bc6.decodeBlock signed b, ∀ v ∈ px, v < 0x7C00) := by
  obtain ⟨hreg, hprec, hdelta, htr, hhdr, _⟩ := recTwo_facts m
  obtain ⟨hst, hacc⟩ := extractTwo_eq m b
  generalize hE : extractTwo m (b >>> (recTwo m).modeBits) = e at *
  -- the three channels: the raw fields are as wide as the mode says
  have hch := fun c (hc : c < 3) => by
    obtain ⟨a0, l0⟩ := hacc c 0 hc (by decide)
    obtain ⟨a1, l1⟩ := hacc c 1 hc (by decide)
    obtain ⟨a2, l2⟩ := hacc c 2 hc (by decide)
    obtain ⟨a3, l3⟩ := hacc c 3 hc (by decide)
    simp only [fieldWidth, Nat.reduceEqDiff, if_true, if_false, hprec, Bc6Spec.deltaW, hdelta] at l0 l1 l2 l3
    rw [← a0] at l0; rw [← a1] at l1; rw [← a2] at l2; rw [← a3] at l3
    exact chanTwoT signed m c hc _ _ _ _ l0 l1 l2 l3
  have hpid := TrapBc7.consumeBits_lt_pow 5 e.2 (by omega)
  have hfix := TrapBc7.implP2_fix _ (show (Bc7.consumeBits 5 e.2).1 < 64 by omega)
  unfold Bc6.decodeBlock
  simp only [hmode, hE]
  constructor
  · unfold decodeBlockT
    rw [extractModeT_eq, bind_some']
    simp only [hmode, hE, extractTwoT_eq, bind_some', extractPartitionT_eq]
    rw [TrapBc7.newP2T_eq _ _ _ (by omega) hfix, bind_some',
      mapT_eq_some _ _ _ (fun c hc => (hch c (List.mem_range.mp hc)).1), bind_some']
    apply mapT_eq_some
    intro pixel hp
    have hp : pixel < 16 := List.mem_range.mp hp
    have hidx := TrapBc7.getIndex_lt (Bc7.newP2 3 (Bc7.consumeBits 5 e.2).2 (implP2 (Bc7.consumeBits 5 e.2).1).2).1 pixel 3
      rfl (by omega)
    have hs : subset2Index (implP2 (Bc7.consumeBits 5 e.2).1) pixel < 2 := Nat.lt_succ_of_le (subset2Index_le _ _)
    simp only [dbgP_of hp, bind_some']
    rw [TrapBc7.getIndexT_eq _ _ 3 hp rfl (by omega), bind_some']
    apply mapT_eq_some
    intro c hc
    have hc : c < 3 := List.mem_range.mp hc
    rw [idx_map_range _ hc, bind_some', getD_map_range _ [] hc, idx_getD _ _ [] hs, bind_some',
      idx_getD _ _ 0 (by rw [((hch c hc).2 _ (getD_mem hs [])).1]; exact hidx)]
    rfl
  · rintro rfl px hpx v hv
    obtain ⟨pixel, _, rfl⟩ := List.mem_map.mp hpx
    obtain ⟨c, hc, rfl⟩ := List.mem_map.mp hv
    have hc := List.mem_range.mp hc
    rw [getD_map_range _ [] hc]
    exact getD_getD_lt (by decide) (fun l hl => ((hch c hc).2 l hl).2 rfl) _ _

theorem one_T (signed : Bool) (m : ModeOne) (b : Nat) (hmode : extractMode b = (.one m, b >>> 5)) :
    decodeBlockT signed b = some (Bc6.decodeBlock signed b) ∧
    (signed = false → ∀ px ∈ Bc6.decodeBlock signed b, ∀ v ∈ px, v < 0x7C00) := by
  have hok := oneOk_true m
  simp only [oneOk, Bool.and_eq_true, beq_iff_eq, List.all_eq_true, List.mem_range, decide_eq_true_eq,
    Bool.or_eq_true, Bool.not_eq_true'] at hok
  obtain ⟨⟨⟨⟨⟨⟨hreg, hprec⟩, hdelta⟩, htr⟩, hmb⟩, hhdr⟩, _⟩ := hok
  obtain ⟨hst, hacc⟩ := extractOne_eq m b
  generalize hE : extractOne m (b >>> 5) = e at *
  have hch := fun c (hc : c < 3) => by
    obtain ⟨a0, a1, l0, l1⟩ := hacc c hc
    have hdw : Bc6Spec.deltaW (recOne m) c = m.b0BitCount := by
      simp only [Bc6Spec.deltaW, hdelta]
      exact ite_eq_of rfl (ite_eq_of rfl rfl)
    simp only [fieldWidth, if_true, if_false, hprec, hdw, Nat.one_ne_zero] at l0 l1
    rw [← a0] at l0; rw [← a1] at l1
    exact chanOneT signed m _ _ l0 l1
  unfold Bc6.decodeBlock
  simp only [hmode, hE]
  constructor
  · unfold decodeBlockT
    rw [extractModeT_eq, bind_some']
    simp only [hmode, hE, extractOneT_eq, bind_some']
    rw [TrapBc7.newP1T_eq _ _ (by omega), bind_some', mapT_eq_some _ _ _ (fun c hc => (hch c (List.mem_range.mp hc)).1),
      bind_some']
    apply mapT_eq_some
    intro pixel hp
    have hp : pixel < 16 := List.mem_range.mp hp
    have hidx := TrapBc7.getIndex_lt (Bc7.newP1 4 e.2).1 pixel 4 rfl (by omega)
    rw [TrapBc7.getIndexT_eq _ _ 4 hp rfl (by omega), bind_some', dbgP_of hp, bind_some']
    apply mapT_eq_some
    intro c hc
    have hc : c < 3 := List.mem_range.mp hc
    rw [idx_map_range _ hc, bind_some', getD_map_range _ [] hc, idx_getD _ _ 0 (by rw [(hch c hc).2.1]; exact hidx)]
    rfl
  · rintro rfl px hpx v hv
    obtain ⟨pixel, _, rfl⟩ := List.mem_map.mp hpx
    obtain ⟨c, hc, rfl⟩ := List.mem_map.mp hv
    have hc := List.mem_range.mp hc
    rw [getD_map_range _ [] hc]
    exact getD_lt (by decide) ((hch c hc).2.2 rfl) _

/-- **BC6H block**: no panic site of `decode_bc6_block` is reachable, the 16 pixels are those of the wrapping
model, and for `BC6H_UF16` every output half is non-negative and finite (`< 0x7C00`) -/
theorem decodeBlockT_eq (signed : Bool) (b : Nat) :
    decodeBlockT signed b = some (Bc6.decodeBlock signed b) ∧
    (signed = false → ∀ px ∈ Bc6.decodeBlock signed b, ∀ v ∈ px, v < 0x7C00) := by
  have hd := dispatch b
  cases hm : (extractMode b).1 with
  | two m => rw [hm] at hd; exact two_T signed m b hd.2
  | one m => rw [hm] at hd; exact one_T signed m b hd.2
  | invalid =>
    unfold decodeBlockT Bc6.decodeBlock
    rw [extractModeT_eq, bind_some']
    simp only [hm]
    refine ⟨trivial, fun _ px hpx => ?_⟩
    rw [List.eq_of_mem_replicate hpx]
    exact forall_mem3 (by decide) (by decide) (by decide)


theorem uf16AssertT_eq (x : Nat) (h : x < 0x7C00) : uf16AssertT x = some () := by
  have h2 : (x >>> 10) &&& 31 < 31 := Nat.lt_of_le_of_lt Nat.and_le_left (by omega)
  unfold uf16AssertT
  rw [dbgP_of (and_high_zero x 15 16 (by decide) (by omega)), bind_some', dbgP_of h2]

theorem convT_eq (signed : Bool) (prec x : Nat) (hx : signed = false → x < 0x7C00) :
    convT signed prec x = some (conv signed prec x) := by
  have t1 : twoPowiT ((x >>> 10) &&& 31) 25 = some () :=
    twoPowiT_of (by have : (x >>> 10) &&& 31 ≤ 31 := Nat.and_le_right; omega)
  have t2 : twoPowiT 1 25 = some () := twoPowiT_of (by omega)
  unfold convT conv
  dsimp only
  cases signed
  · rw [if_neg Bool.false_ne_true, if_neg Bool.false_ne_true, uf16AssertT_eq x (hx rfl), bind_some']
    exact ite_eq_some (fun _ => then_pure t1 _) fun _ =>
      ite_eq_some (fun _ => ite_eq_of (pure_some' _) (then_pure t1 _)) fun _ => ite_eq_of (then_pure t2 _) (then_pure t1 _)
  · rw [if_pos rfl, if_pos rfl]
    exact ite_eq_some (fun _ => ite_eq_of (then_pure t1 _) (pure_some' _)) fun _ =>
      ite_eq_some (fun _ => ite_eq_of (pure_some' _) (ite_eq_of (then_pure t1 _) (pure_some' _))) fun _ =>
        ite_eq_of (then_pure t2 _) (ite_eq_of (then_pure t1 _) (pure_some' _))

/-- **the six BC6H decoders** (`bc6_{s,u}_{u8,u16,f32}`): block decode + per-channel conversion never panic and
give the wrapping model's values -/
theorem decodeT_eq (signed : Bool) (prec b : Nat) :
    decodeT signed prec b = some ((Bc6.decodeBlock signed b).map (List.map (conv signed prec))) := by
  obtain ⟨h1, h2⟩ := decodeBlockT_eq signed b
  unfold decodeT
  rw [h1, bind_some']
  exact mapT_eq_some _ _ _ fun px hpx => mapT_eq_some _ _ _ fun v hv =>
    convT_eq signed prec v (fun hs => h2 hs px hpx v hv)

end Dds.TrapBc6
