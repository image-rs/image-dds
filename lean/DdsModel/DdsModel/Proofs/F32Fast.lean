/-
Integer evaluation of the software binary32 operations of `F32.lean`.

`F32.mul a b = roundF32 (toRat a * toRat b)` etc. go through `Rat` (normalised fractions with proofs), which
the kernel evaluates slowly.  Here every finite pattern `b` gets an explicit fraction `qn b / qd b`
(`qd b` a power of two), the operations are carried out on those integers, and the result is rounded by
the same `roundF32Q` as in `F32.lean`.  Each `Fast.op` is proved equal to `F32.op` for ALL arguments
(no range condition), so the fast operations can replace the model's in any kernel computation.
-/
import DdsModel.F32
namespace Dds.F32.Fast
open Dds.F32

/-- signed numerator of the value of a finite pattern -/
def qn (b : Nat) : Int :=
  let ex := (b / 8388608) % 256
  let m := b % 8388608
  let n : Nat := if ex = 0 then m else if 150 ≤ ex then (8388608 + m) * 2 ^ (ex - 150) else 8388608 + m
  if b / 2147483648 % 2 = 1 then -(n : Int) else (n : Int)

/-- denominator (a power of two) of the value of a finite pattern -/
def qd (b : Nat) : Nat :=
  let ex := (b / 8388608) % 256
  if ex = 0 then 2 ^ 149 else if 150 ≤ ex then 1 else 2 ^ (150 - ex)

theorem qd_ne (b : Nat) : qd b ≠ 0 := by
  unfold qd
  simp only
  split
  · exact Nat.pos_iff_ne_zero.mp (Nat.pow_pos (by decide))
  · split
    · decide
    · exact Nat.pos_iff_ne_zero.mp (Nat.pow_pos (by decide))

theorem mkRat_one (n : Int) : mkRat n 1 = (n : Rat) := by
  apply Rat.ext
  · rw [Rat.num_mkRat]; simp
  · rw [Rat.den_mkRat]; simp

theorem natCast_mul_pow2 (a : Nat) (e : Int) :
    (a : Rat) * pow2 e = if 0 ≤ e then mkRat ((a * 2 ^ e.toNat : Nat) : Int) 1 else mkRat (a : Int) (2 ^ (-e).toNat) := by
  unfold pow2
  by_cases h : e ≥ 0
  · have h' : 0 ≤ e := h
    rw [if_pos h, if_pos h', ← Rat.natCast_mul, mkRat_one]
    rfl
  · have h' : ¬ 0 ≤ e := h
    rw [if_neg h, if_neg h', Rat.mkRat_eq_div, Rat.div_def, Rat.div_def, Rat.one_mul]
    rfl

theorem toRat_eq (b : Nat) : toRat b = mkRat (qn b) (qd b) := by
  unfold toRat qn qd
  simp only
  generalize b / 8388608 % 256 = ex
  generalize b % 8388608 = m
  have key : (if ex = 0 then (m : Rat) * pow2 (-149) else ((8388608 + m : Nat) : Rat) * pow2 ((ex : Int) - 150)) =
      mkRat ((if ex = 0 then m else if 150 ≤ ex then (8388608 + m) * 2 ^ (ex - 150) else 8388608 + m : Nat) : Int)
        (if ex = 0 then 2 ^ 149 else if 150 ≤ ex then 1 else 2 ^ (150 - ex)) := by
    by_cases h0 : ex = 0
    · rw [if_pos h0, if_pos h0, if_pos h0, natCast_mul_pow2]
      rfl
    · rw [if_neg h0, if_neg h0, if_neg h0, natCast_mul_pow2]
      by_cases h1 : 150 ≤ ex
      · have : (0 : Int) ≤ (ex : Int) - 150 := by omega
        rw [if_pos this, if_pos h1, if_pos h1]
        have : ((ex : Int) - 150).toNat = ex - 150 := by omega
        rw [this]
      · have : ¬ (0 : Int) ≤ (ex : Int) - 150 := by omega
        rw [if_neg this, if_neg h1, if_neg h1]
        have : (-((ex : Int) - 150)).toNat = 150 - ex := by omega
        rw [this]
  rw [key]
  split
  · rw [Rat.neg_mkRat]
  · rfl

/-- `roundF32 (N / D)` on integers (`D ≠ 0`): reduce the fraction as `Rat` does, then `roundF32Q` -/
def rnd (N : Int) (D : Nat) : Nat :=
  let g := D.gcd N.natAbs
  let n := N / (g : Int)
  if n < 0 then 0x80000000 + roundF32Q n.natAbs (D / g) else roundF32Q n.natAbs (D / g)

theorem roundF32_mkRat (N : Int) (D : Nat) (hD : D ≠ 0) : roundF32 (mkRat N D) = rnd N D := by
  unfold roundF32 rnd
  rw [Rat.num_mkRat, Rat.den_mkRat, if_neg hD, if_neg hD]

def mul (a b : Nat) : Nat := rnd (qn a * qn b) (qd a * qd b)
def add (a b : Nat) : Nat := rnd (qn a * qd b + qn b * qd a) (qd a * qd b)
def sub (a b : Nat) : Nat := rnd (qn a * qd b + -qn b * qd a) (qd a * qd b)

theorem mul_eq (a b : Nat) : F32.mul a b = mul a b := by
  unfold F32.mul mul
  rw [toRat_eq a, toRat_eq b, Rat.mkRat_mul_mkRat, roundF32_mkRat _ _ (Nat.mul_ne_zero (qd_ne a) (qd_ne b))]

theorem add_eq (a b : Nat) : F32.add a b = add a b := by
  unfold F32.add add
  rw [toRat_eq a, toRat_eq b, Rat.mkRat_add_mkRat _ _ (qd_ne a) (qd_ne b),
    roundF32_mkRat _ _ (Nat.mul_ne_zero (qd_ne a) (qd_ne b))]

theorem sub_eq (a b : Nat) : F32.sub a b = sub a b := by
  unfold F32.sub sub
  rw [toRat_eq a, toRat_eq b, Rat.sub_eq_add_neg, Rat.neg_mkRat, Rat.mkRat_add_mkRat _ _ (qd_ne a) (qd_ne b),
    roundF32_mkRat _ _ (Nat.mul_ne_zero (qd_ne a) (qd_ne b))]

theorem ofNat_eq (x : Nat) : F32.ofNat x = roundF32Q x 1 := by
  unfold F32.ofNat roundF32
  rw [Rat.num_natCast, Rat.den_natCast]
  simp

theorem toRat_neg_iff (a : Nat) : toRat a < 0 ↔ qn a < 0 := by
  rw [← Rat.not_le, ← Rat.num_nonneg, toRat_eq, Rat.num_mkRat, if_neg (qd_ne a)]
  have hg : (0 : Int) < ((qd a).gcd (qn a).natAbs : Nat) :=
    Int.natCast_pos.mpr (Nat.gcd_pos_of_pos_left _ (Nat.pos_of_ne_zero (qd_ne a)))
  rw [Int.ediv_nonneg_iff_of_pos hg]
  omega

def max0 (a : Nat) : Nat := if qn a < 0 then 0 else a

theorem max0_eq (a : Nat) : F32.max0 a = max0 a := by
  unfold F32.max0 max0
  by_cases h : qn a < 0
  · rw [if_pos h, if_pos ((toRat_neg_iff a).mpr h)]
  · rw [if_neg h, if_neg (fun h' => h ((toRat_neg_iff a).mp h'))]

/-- `x as u8` -/
def toU8 (a : Nat) : Nat :=
  if qn a < 0 then 0 else
  let g := (qd a).gcd (qn a).natAbs
  let f := (qn a / (g : Int) / ((qd a / g : Nat) : Int)).toNat
  if f > 255 then 255 else f

theorem toU8_eq (a : Nat) : F32.toU8 a = toU8 a := by
  unfold F32.toU8 toU8
  simp only
  by_cases h : qn a < 0
  · rw [if_pos h, if_pos ((toRat_neg_iff a).mpr h)]
  · rw [if_neg h, if_neg (fun h' => h ((toRat_neg_iff a).mp h'))]
    rw [Rat.floor_def, toRat_eq, Rat.num_mkRat, Rat.den_mkRat, if_neg (qd_ne a), if_neg (qd_ne a)]

/-- strict `let` for kernel evaluation: the match makes the kernel evaluate `x` to a literal BEFORE the
continuation is entered.  Only to be used for SMALL values: terms that contain a literal `≥ 2^63` are
handled very slowly by the kernel, while an unevaluated term is evaluated once and then found in the
kernel's cache (so plain β-redexes are the default way of sharing here). -/
def force {α : Type} (x : Nat) (f : Nat → α) : α :=
  match x with
  | 0 => f 0
  | n + 1 => f (Nat.succ n)

theorem force_eq {α : Type} (x : Nat) (f : Nat → α) : force x f = f x := by
  cases x <;> rfl

/-- Newton iteration `g ↦ (g + n/g)/2` while it decreases (written with the kernel-accelerated primitives) -/
def newton (n : Nat) : Nat → Nat → Nat
  | 0, g => g
  | f + 1, g => force (Nat.div (Nat.add g (Nat.div n g)) 2) fun nx => cond (Nat.blt nx g) (newton n f nx) g

theorem sqrt_unique (n s : Nat) (h1 : s * s ≤ n) (h2 : n < (s + 1) * (s + 1)) : Nat.sqrt n = s := by
  have a1 := Nat.sqrt_le n
  have a2 := Nat.lt_succ_sqrt n
  rw [Nat.succ_eq_add_one] at a2
  apply Nat.le_antisymm
  · apply Nat.le_of_lt_succ
    apply Nat.mul_self_lt_mul_self_iff.mp
    exact Nat.lt_of_le_of_lt a1 h2
  · apply Nat.le_of_lt_succ
    apply Nat.mul_self_lt_mul_self_iff.mp
    exact Nat.lt_of_le_of_lt h1 a2

/-! ### `Nat.log2` by binary search with a checked result

The kernel has no GMP shortcut for `Nat.log2` (it runs the `Nat.rec` definition, one step per bit, and is
very slow once the argument is a literal `≥ 2^63`); `Nat.pow` and `Nat.ble` are accelerated. -/

def lgStep (n acc k : Nat) : Nat := cond (Nat.ble (Nat.pow 2 (Nat.add acc k)) n) (Nat.add acc k) acc

/-- candidate for `⌊log₂ n⌋` (`n < 2^1024`) -/
def lgSearch (n : Nat) : Nat :=
  cond (Nat.blt n 340282366920938463463374607431768211456)
    (lgStep n (lgStep n (lgStep n (lgStep n (lgStep n (lgStep n (lgStep n 0 64) 32) 16) 8) 4) 2) 1)
    (lgStep n (lgStep n (lgStep n (lgStep n (lgStep n (lgStep n (lgStep n (lgStep n (lgStep n (lgStep n 0 512) 256) 128)
      64) 32) 16) 8) 4) 2) 1)

/-- `Nat.log2`: the candidate is CHECKED (`2^a ≤ n < 2^(a+1)`), otherwise fall back to `Nat.log2` -/
def lg (n : Nat) : Nat :=
  force (lgSearch n) fun a =>
    cond (Nat.ble (Nat.pow 2 a) n && Nat.blt n (Nat.pow 2 (Nat.add a 1))) a (Nat.log2 n)

theorem lg_eq (n : Nat) : lg n = Nat.log2 n := by
  unfold lg
  rw [force_eq]
  generalize lgSearch n = a
  cases h : (Nat.ble (Nat.pow 2 a) n && Nat.blt n (Nat.pow 2 (Nat.add a 1)))
  · rfl
  · simp only [Bool.and_eq_true, Nat.ble_eq, Nat.blt_eq] at h
    have h1 : 2 ^ a ≤ n := h.1
    have h2 : n < 2 ^ (a + 1) := h.2
    have hn : n ≠ 0 := by
      have : 0 < 2 ^ a := Nat.pow_pos (by decide)
      omega
    exact ((Nat.log2_eq_iff hn).mpr ⟨h1, h2⟩).symm

/-- integer square root by Newton iteration from `g0` (to be `≥ √n`): the candidate is CHECKED (`s² ≤ n < (s+1)²`); should
the check ever fail the definition falls back to `Nat.sqrt`, so the equality with `Nat.sqrt` needs no convergence argument -/
def isqrtFrom (n g0 : Nat) : Nat :=
  force (newton n 64 g0) fun s =>
    cond (Nat.ble (Nat.mul s s) n && Nat.blt n (Nat.mul (Nat.add s 1) (Nat.add s 1))) s (Nat.sqrt n)

theorem isqrtFrom_eq (n g0 : Nat) : isqrtFrom n g0 = Nat.sqrt n := by
  unfold isqrtFrom
  rw [force_eq]
  generalize newton n 64 g0 = s
  cases h : (Nat.ble (Nat.mul s s) n && Nat.blt n (Nat.mul (Nat.add s 1) (Nat.add s 1)))
  · rfl
  · simp only [Bool.and_eq_true, Nat.ble_eq, Nat.blt_eq] at h
    exact (sqrt_unique n s h.1 h.2).symm

def isqrt (n : Nat) : Nat := isqrtFrom n (Nat.pow 2 (Nat.add (Nat.div (lg n) 2) 1))

theorem isqrt_eq (n : Nat) : isqrt n = Nat.sqrt n := isqrtFrom_eq n _

/-- `F32.sqrt` with the integer root supplied by `isq` -/
def sqrtWith (isq : Nat → Nat) (a : Nat) : Nat :=
  let ex := (a / 8388608) % 256
  let m0 := a % 8388608
  if a ≥ 0x80000000 ∨ (ex = 0 ∧ m0 = 0) then 0 else
  let m := if ex = 0 then m0 else 8388608 + m0
  let e : Int := if ex = 0 then -149 else (ex : Int) - 150
  let odd := e % 2 ≠ 0
  let m := if odd then 2 * m else m
  let e := if odd then e - 1 else e
  let big := m <<< 60
  let s := isq big
  let sticky := if s * s = big then 0 else 1
  let h : Int := e / 2 - 31
  if h ≥ 0 then roundF32Q ((2 * s + sticky) <<< h.toNat) 1 else roundF32Q (2 * s + sticky) (1 <<< (-h).toNat)

def sqrt (a : Nat) : Nat := sqrtWith isqrt a

theorem sqrt_eq (a : Nat) : F32.sqrt a = sqrt a := by
  have : isqrt = Nat.sqrt := funext isqrt_eq
  unfold sqrt
  rw [this]
  rfl

end Dds.F32.Fast
