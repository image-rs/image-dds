/-
A weakest-precondition reading of the trapping mirrors.  `Ret m Q`: the mirror `m` returns (no panic) and its result
satisfies `Q`.  Every trapping operator has ONE rule `Ret (op …) Q ↔ side condition ∧ Q value`, tagged `wp`; with
`ret_bind` these turn `Ret (do …) Q` into the side conditions of the body in program order, ending in `Q result`:
`simp only [wp]` is the walk through the function, and what it leaves is the arithmetic that keeps the function from
trapping.  With `← and_assoc` in the same call the side conditions come out as one conjunction in front, for one `omega`.
The rules are root-first (`↓`): a continuation is entered only once its argument is known.
-/
import DdsModel.Trap
import DdsModel.Proofs.WpAttr
namespace Dds.Trap

/-- `m` does not trap and its result satisfies `Q` -/
def Ret {α} (m : Option α) (Q : α → Prop) : Prop := ∃ a, m = some a ∧ Q a

theorem ret_none {α} {Q : α → Prop} : Ret none Q ↔ False := ⟨fun ⟨_, h, _⟩ => (nomatch h), False.elim⟩
@[wp ↓] theorem ret_some {α} {a : α} {Q : α → Prop} : Ret (some a) Q ↔ Q a :=
  ⟨fun ⟨_, h, q⟩ => Option.some.inj h ▸ q, fun q => ⟨a, rfl, q⟩⟩
@[wp ↓] theorem ret_pure {α} {a : α} {Q : α → Prop} : Ret (pure a) Q ↔ Q a := ret_some
@[wp ↓ low] theorem ret_bind {α β} {m : Option α} {f : α → Option β} {Q : β → Prop} :
    Ret (m >>= f) Q ↔ Ret m fun a => Ret (f a) Q := by
  cases m with
  | none => exact ⟨fun ⟨_, h, _⟩ => (nomatch h), fun ⟨_, h, _⟩ => (nomatch h)⟩
  | some a => rw [bind_some', ret_some]

/-- the statements `mirror = some (model)` are `Ret` with an equation as postcondition -/
theorem ret_eq {α} {m : Option α} {v : α} : Ret m (· = v) ↔ m = some v :=
  ⟨fun ⟨_, h, e⟩ => e ▸ h, fun h => ⟨v, h, rfl⟩⟩

theorem Ret.mono {α} {m : Option α} {P Q : α → Prop} (h : Ret m P) (hi : ∀ a, P a → Q a) : Ret m Q :=
  h.imp fun a h => ⟨h.1, hi a h.2⟩

/-- a sub-mirror whose value is known -/
theorem ret_of_eq {α} {m : Option α} {a : α} {Q : α → Prop} (h : m = some a) : Ret m Q ↔ Q a := by rw [h, ret_some]

/-- the shape of every operator: `some v` under `c`, a panic otherwise -/
theorem ret_guard {α} {c : Prop} [Decidable c] {v : α} {Q : α → Prop} :
    Ret (if c then some v else none) Q ↔ c ∧ Q v := by
  by_cases h : c
  · rw [if_pos h, ret_some]; exact ⟨fun q => ⟨h, q⟩, fun q => q.2⟩
  · rw [if_neg h, ret_none]; exact ⟨False.elim, fun q => h q.1⟩

/-- the same with the test for the panic first (`/`, `%` by zero) -/
theorem ret_guard_not {α} {c : Prop} [Decidable c] {v : α} {Q : α → Prop} :
    Ret (if c then none else some v) Q ↔ ¬ c ∧ Q v := by
  by_cases h : c
  · rw [if_pos h, ret_none]; exact ⟨False.elim, fun q => q.1 h⟩
  · rw [if_neg h, ret_some]; exact ⟨fun q => ⟨h, q⟩, fun q => q.2⟩

section
variable {Q : Nat → Prop}
@[wp ↓] theorem ret_ck {b x : Nat} : Ret (ck b x) Q ↔ x < b ∧ Q x := by unfold ck; exact ret_guard
@[wp ↓] theorem ret_subU {a b : Nat} : Ret (subU a b) Q ↔ b ≤ a ∧ Q (a - b) := by unfold subU; exact ret_guard
@[wp ↓] theorem ret_shl {w b x s : Nat} : Ret (shl w b x s) Q ↔ s < w ∧ Q ((x <<< s) % b) := by
  unfold shl; exact ret_guard
@[wp ↓] theorem ret_shr {w x s : Nat} : Ret (shr w x s) Q ↔ s < w ∧ Q (x >>> s) := by unfold shr; exact ret_guard
@[wp ↓] theorem ret_div {a b : Nat} : Ret (div a b) Q ↔ b ≠ 0 ∧ Q (a / b) := by unfold div; exact ret_guard_not
end
@[wp ↓] theorem ret_dbgP {p : Prop} [Decidable p] {Q : Unit → Prop} : Ret (dbgP p) Q ↔ p ∧ Q () := by
  unfold dbgP; exact ret_guard
@[wp ↓] theorem ret_idxF {α} {n : Nat} {a : Nat → α} {i : Nat} {Q : α → Prop} : Ret (idxF n a i) Q ↔ i < n ∧ Q (a i) := by
  unfold idxF; exact ret_guard
section
variable {x : Int} {Q : Int → Prop}
@[wp ↓] theorem ret_ckI32 : Ret (ckI32 x) Q ↔ (-2147483648 ≤ x ∧ x ≤ 2147483647) ∧ Q x := by
  unfold ckI32; exact ret_guard
@[wp ↓] theorem ret_ckI16 : Ret (ckI16 x) Q ↔ (-32768 ≤ x ∧ x ≤ 32767) ∧ Q x := by unfold ckI16; exact ret_guard
@[wp ↓] theorem ret_ckI8 : Ret (ckI8 x) Q ↔ (-128 ≤ x ∧ x ≤ 127) ∧ Q x := by unfold ckI8; exact ret_guard
end

/-- a run-time test: both branches (not in the simp set; name it where both branches are live, use `if_pos` / `if_neg`
where the test is decided) -/
theorem ret_ite {α} {c : Prop} [Decidable c] {a b : Option α} {Q : α → Prop} :
    Ret (if c then a else b) Q ↔ (c → Ret a Q) ∧ (¬ c → Ret b Q) := by
  by_cases h : c
  · rw [if_pos h]; exact ⟨fun q => ⟨fun _ => q, fun n => absurd h n⟩, fun q => q.1 h⟩
  · rw [if_neg h]; exact ⟨fun q => ⟨fun n => absurd n h, fun _ => q⟩, fun q => q.2 h⟩

/-- `array.map(f)` / a loop collecting results -/
theorem Ret.mapT {α β} {f : α → Option β} {g : α → β} {l : List α} (h : ∀ x ∈ l, f x = some (g x)) {Q : List β → Prop}
    (q : Q (l.map g)) : Ret (Trap.mapT f l) Q := ⟨_, mapT_eq_some f g l h, q⟩

end Dds.Trap
