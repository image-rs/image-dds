/-
C13 — the closed forms the discrete encoder model (`Enc13.lean`) uses for f32 expressions on 8-bit inputs are the
binary32 evaluations of the Rust expressions (software IEEE-754 binary32 of `F32.lean`: every `+ - *` correctly
rounded, `as u8` truncating), for ALL 256 input values — by kernel evaluation of the whole domain:
  * `n4::from_f32(n8::f32(a))` (BC2 explicit alpha, `bc2_alpha`)                       = `(2a + 17) / 34`;
  * `closest_s8_norm` and the `BC4_EPSILON` guard of `single_color(·, snorm = true)` (bc4.rs) on the value
    `(min + max) * 0.5` of a block whose 16 values are `n8::f32(v)`                      = `snormOfU8 v`, `snormGuard8 v`;
  * the guard holds exactly for `v ∈ {0, 255}`: of the 8-bit inputs only these take the `closest` branch.
-/
import DdsModel.Enc13
import DdsModel.Range
import DdsModel.Proofs.F32Value
namespace Dds.Enc13
open Dds Dds.Bc

/-! ### the expressions on the integer operations of `Proofs/F32Raw.lean` -/
section
open Dds.F32 Dds.F32.Raw

/-- `toRat a < toRat b`; non-negative patterns are compared as fractions over their power-of-two denominators -/
def ltR (a b : Nat) : Bool :=
  sel (nonneg2 a b) (Nat.blt (Nat.mul (un a) (ud b)) (Nat.mul (un b) (ud a))) (decide (toRat a < toRat b))

theorem ltR_eq (a b : Nat) : ltR a b = decide (toRat a < toRat b) := by
  unfold ltR
  cases h : nonneg2 a b
  · rfl
  · obtain ⟨ha, hb⟩ := (nonneg2_iff a b).mp h
    have hd : ∀ x, x < 2147483648 → 0 < ud x := fun x hx => by
      rw [← ud_eq x hx]; exact Nat.pos_of_ne_zero (Fast.qd_ne x)
    rw [sel_true, blt_dec, nmul, nmul, Fast.toRat_eq a, Fast.toRat_eq b, un_eq a ha, un_eq b hb, ud_eq a ha, ud_eq b hb,
      ConvFast.mkRat_eq_natDiv, ConvFast.mkRat_eq_natDiv]
    exact decide_eq_decide.mpr (F32Mono.natDiv_lt_natDiv _ _ _ _ (hd a ha) (hd b hb)).symm

/-- `|value|` is the value of the pattern without its sign bit -/
theorem fabs_eq (x : Nat) : fabs x = toRat (x % 2147483648) := by
  have e1 : x % 2147483648 / 8388608 % 256 = x / 8388608 % 256 := by omega
  have e2 : x % 2147483648 % 8388608 = x % 8388608 := by omega
  have e3 : ¬ x % 2147483648 / 2147483648 % 2 = 1 := by omega
  unfold fabs toRat
  simp only [e1, e2, if_neg e3]
  have hm : ∀ (m : Nat) (e : Int), 0 ≤ (m : Rat) * pow2 e := F32Mono.natCast_mul_pow2_nonneg
  generalize hg : (if x / 8388608 % 256 = 0 then (↑(x % 8388608) : Rat) * pow2 (-149)
    else ((8388608 + x % 8388608 : Nat) : Rat) * pow2 (((x / 8388608 % 256 : Nat) : Int) - 150)) = mag
  have h0 : 0 ≤ mag := by rw [← hg]; split <;> exact hm _ _
  by_cases hs : x / 2147483648 % 2 = 1
  · simp only [if_pos hs]
    by_cases hp : -mag < 0
    · rw [if_pos hp, Rat.neg_neg]
    · rw [if_neg hp]
      have : mag ≤ 0 := by rw [← Rat.neg_le_neg_iff, Rat.neg_zero]; exact Rat.not_lt.mp hp
      rw [Rat.le_antisymm this h0]; rfl
  · simp only [if_neg hs, if_neg (Rat.not_lt.mpr h0)]
/-- `|toRat x| < |toRat y|` -/
def absLtR (x y : Nat) : Bool := ltR (Nat.mod x 2147483648) (Nat.mod y 2147483648)

theorem absLtR_eq (x y : Nat) : absLtR x y = decide (fabs x < fabs y) := by
  unfold absLtR
  rw [ltR_eq, nmod, nmod, fabs_eq, fabs_eq]

/-- `1.0` -/
def oneLit : Nat := 0x3F800000
/-- `0.5` -/
def halfLit : Nat := 0x3F000000

theorem toRat_zero : toRat 0 = 0 := by rw [Fast.toRat_eq]; rfl
theorem toRat_one : toRat oneLit = 1 := by rw [Fast.toRat_eq]; rfl

theorem consts : F32.ofNat 1 = oneLit ∧ fHalf = halfLit ∧
    F32.ofNat 3 = 0x40400000 ∧ F32.divLit 1 765 = 0x3AAB5601 ∧ F32.ofNat 15 = 0x41700000 ∧
    F32.ofNat 254 = 0x437E0000 ∧ F32.ofNat 31 = 0x41F80000 ∧ F32.divLit 1 7874 = 0x39052B5F ∧
    F32.divLit 1 65536 = 0x37800000 := by
  decide +kernel

def fmin1R (x : Nat) : Nat := sel (ltR oneLit x) oneLit x

theorem fmin1R_eq (x : Nat) : fmin1R x = fmin1 x := by
  unfold fmin1R fmin1
  rw [ltR_eq, sel_dec, toRat_one, consts.1]

def fclamp01R (x : Nat) : Nat := sel (ltR x 0) 0 (fmin1R x)

theorem fclamp01R_eq (x : Nat) : fclamp01R x = fclamp01 x := by
  unfold fclamp01R fclamp01
  rw [ltR_eq, sel_dec, toRat_zero, fmin1R_eq]

def n8f32R (x : Nat) : Nat := Raw.mul (Raw.mul (rq x 1) 0x40400000) 0x3AAB5601

theorem n8f32R_eq (x : Nat) : n8f32R x = n8f32 x := by
  unfold n8f32R n8f32
  rw [Raw.mul_eq, Raw.mul_eq, rq_eq, Fast.ofNat_eq, consts.2.2.1, consts.2.2.2.1]

def n4R (a : Nat) : Nat := Raw.toU8 (Raw.add (Raw.mul (fmin1R (n8f32R a)) 0x41700000) halfLit)

theorem n4R_eq (a : Nat) : n4R a = n4FromF32 (n8f32 a) := by
  unfold n4R n4FromF32
  rw [Raw.toU8_eq, Raw.add_eq, Raw.mul_eq, fmin1R_eq, n8f32R_eq, consts.2.1, consts.2.2.2.2.1]

def bc4ValueR (v : Nat) : Nat := lz (fclamp01R (n8f32R v)) fun c => Raw.mul (Raw.add c c) halfLit

theorem bc4ValueR_eq (v : Nat) : bc4ValueR v = bc4ValueOfU8 v := by
  unfold bc4ValueR bc4ValueOfU8
  rw [lz_eq, Raw.mul_eq, Raw.add_eq, fclamp01R_eq, n8f32R_eq, consts.2.1]

def snormClosestR (value : Nat) : Nat := Raw.toU8 (Raw.add (Raw.mul 0x437E0000 value) halfLit)

theorem snormClosestR_eq (value : Nat) : snormClosestR value = snormClosestF32 value := by
  unfold snormClosestR snormClosestF32
  rw [Raw.toU8_eq, Raw.add_eq, Raw.mul_eq, consts.2.1, consts.2.2.2.2.2.1]

/-- the difference may be negative: `Fast.sub` -/
def snormGuardR (value : Nat) : Bool :=
  ltR (Nat.mod (Fast.sub (Raw.mul (Raw.mul (rq (s8norm (fromNorm (snormClosestR value))) 1) 0x41F80000) 0x39052B5F)
    value) 2147483648) 0x37800000

theorem snormGuardR_eq (value : Nat) : snormGuardR value = snormGuardF32 value := by
  unfold snormGuardR snormGuardF32 s8uf32
  rw [ltR_eq, nmod, ← fabs_eq, ← Fast.sub_eq, Raw.mul_eq, Raw.mul_eq, rq_eq, Fast.ofNat_eq, snormClosestR_eq,
    consts.2.2.2.2.2.2.1, consts.2.2.2.2.2.2.2.1, consts.2.2.2.2.2.2.2.2]

end

/-- `n4::from_f32(n8::f32(a))` in binary32 is `round(a/17)` as the closed form `(2a + 17) / 34`, all 256 alphas -/
theorem n4FromU8_is_f32 : ∀ a, a ≤ 255 → n4FromF32 (n8f32 a) = n4FromU8 a := by
  have h : ∀ a, a ≤ 255 → n4R a = n4FromU8 a := forall_le_of_allRange (d := 3) (by decide +kernel)
  intro a ha
  rw [← n4R_eq, h a ha]

/-- `closest_s8_norm` and the guard `(closest.c0_f - value).abs() < BC4_EPSILON`, evaluated in binary32 on the value
`single_color` receives for a block of the constant 8-bit input `v`, are the closed forms — all 256 values -/
theorem snorm8_is_f32 : ∀ v, v ≤ 255 →
    snormClosestF32 (bc4ValueOfU8 v) = snormOfU8 v ∧ snormGuardF32 (bc4ValueOfU8 v) = snormGuard8 v := by
  have h : ∀ v, v ≤ 255 → snormClosestR (bc4ValueR v) = snormOfU8 v ∧ snormGuardR (bc4ValueR v) = snormGuard8 v :=
    forall_le_of_allRange (d := 3) (by decide +kernel)
  intro v hv
  rw [← bc4ValueR_eq, ← snormClosestR_eq, ← snormGuardR_eq]
  exact h v hv

/-- which 8-bit inputs take the `closest` branch: exactly 0 and 255 -/
theorem snormGuard8_iff : ∀ v, v ≤ 255 → (snormGuard8 v = true ↔ v = 0 ∨ v = 255) := by
  intro v hv
  -- below `254·255 / 65536 < 1` the distance is 0, i.e. `255 ∣ 254·v`
  unfold snormGuard8 snormOfU8 absDiff
  rw [decide_eq_true_eq]
  split <;> omega

/-- … in binary32: `single_color(value(v), snorm = true)` returns on its `closest` branch iff `v ∈ {0, 255}` -/
theorem snorm_closest_branch_iff (v : Nat) (hv : v ≤ 255) :
    snormGuardF32 (bc4ValueOfU8 v) = true ↔ v = 0 ∨ v = 255 := by
  rw [(snorm8_is_f32 v hv).2]; exact snormGuard8_iff v hv

/-- the predicted SNORM block: `81 81 00…` for 0, `7f 81 00…` for 255, no prediction otherwise -/
theorem bc4sSingle8_spec : ∀ v, v ≤ 255 →
    bc4sSingle8 v = if v = 0 then some [0x81, 0x81, 0, 0, 0, 0, 0, 0] else if v = 255 then some [0x7f, 0x81, 0, 0, 0, 0, 0, 0]
      else none :=
  forall_le_of_allRange (d := 3) (by decide +kernel)

example : snormGuard8 0 = true ∧ snormGuard8 255 = true ∧ snormGuard8 1 = false ∧ snormGuard8 254 = false ∧
    n4FromU8 8 = 0 ∧ n4FromU8 9 = 1 ∧ n4FromU8 255 = 15 := by decide

end Dds.Enc13
