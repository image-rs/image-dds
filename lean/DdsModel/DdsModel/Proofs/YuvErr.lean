/-
C04, YUV decoders (`yuv8/yuv10/yuv16::{f32, n8, n16}` of `src/color/formats.rs`): a rounding-error analysis of the
binary32 evaluation for ALL inputs (2^24, 2^30, 2^48 triples — no enumeration), on top of the standard model of
`Proofs/F32Err.lean` / `Proofs/F32ErrOps.lean`.

`Apx x v e M` ("`x` is finite, within `e` of `v`, and `|v| ≤ M`") is propagated through `fmul`, `fadd`, `fsub`: the
inputs `y as f32 − 16.0` are exact, the five matrix constants and `1/max` carry their rounding error, and the bounds
`M` keep every intermediate below the power of two that fixes its ulp. Composing with `fp::n8` / `fp::n16` (all 2^32
patterns, `Proofs/ConvF32Thr.lean`) gives an admissible code whenever the float is within `τ − 2^-24` of the ideal.
Exact saturation: unclamped ideal ≥ 1 + 2^-20 ⇒ maximum, ≤ −2^-20 ⇒ 0.
-/
import DdsModel.Proofs.F32ErrOps
import DdsModel.Proofs.ConvF32Thr
import DdsModel.Conv
import DdsModel.ConvSpecYuv
namespace Dds.YuvErr
open Dds Dds.CF32 Dds.Conv Dds.Spec Dds.F32Err Dds.F32Mono Dds.F32Thr

theorem mul_bound (S x M d : Rat) (hS1 : -M ≤ S) (hS2 : S ≤ M) (hx1 : -d ≤ x) (hx2 : x ≤ d) :
    -(M * d) ≤ S * x ∧ S * x ≤ M * d := by
  have hM : 0 ≤ M := by grind
  have hd : 0 ≤ d := by grind
  by_cases h : 0 ≤ x
  · have a1 := Rat.mul_le_mul_of_nonneg_right hS2 h
    have a2 := Rat.mul_le_mul_of_nonneg_right hS1 h
    have a3 := Rat.mul_le_mul_of_nonneg_left hx2 hM
    rw [Rat.neg_mul] at a2
    constructor <;> grind
  · have h' : 0 ≤ -x := by grind
    have a1 := Rat.mul_le_mul_of_nonneg_right hS2 h'
    have a2 := Rat.mul_le_mul_of_nonneg_right hS1 h'
    have a3 : M * (-x) ≤ M * d := Rat.mul_le_mul_of_nonneg_left (by grind) hM
    rw [Rat.mul_neg] at a1 a2 a3
    rw [Rat.neg_mul, Rat.mul_neg] at a2
    constructor <;> grind

/-- `x` is finite, within `e` of `v`, and `|v| ≤ M` -/
def Apx (x : Nat) (v e M : Rat) : Prop := FinP x ∧ Near (toRat x) v e ∧ -M ≤ v ∧ v ≤ M

instance (x : Nat) (v e M : Rat) : Decidable (Apx x v e M) := inferInstanceAs (Decidable (_ ∧ _ ∧ _ ∧ _))

theorem apx_exact (x : Nat) (v M : Rat) (f : FinP x) (hv : toRat x = v) (h1 : -M ≤ v) (h2 : v ≤ M) : Apx x v 0 M := by
  refine ⟨f, ?_, h1, h2⟩
  rw [hv]; unfold Near; rw [Rat.sub_self]; exact ⟨Rat.le_refl, Rat.le_refl⟩

theorem apx_weaken {x : Nat} {v e M : Rat} (h : Apx x v e M) (e' M' : Rat) (he : e ≤ e') (hM : M ≤ M') :
    Apx x v e' M' :=
  ⟨h.1, near_mono _ _ _ _ h.2.1 he, by have := h.2.2.1; grind, by have := h.2.2.2; grind⟩

theorem apx_abs {x : Nat} {v e M : Rat} (h : Apx x v e M) : -(M + e) ≤ toRat x ∧ toRat x ≤ M + e ∧ 0 ≤ e ∧ 0 ≤ M := by
  obtain ⟨_, ⟨n1, n2⟩, m1, m2⟩ := h
  refine ⟨?_, ?_, ?_, ?_⟩ <;> grind

/-- `a * b`, the product of the bounds below `w = 2^E`: one rounding (`w·2^-25`) plus the propagated errors -/
theorem apx_fmul {a b : Nat} {va ea Ma vb eb Mb : Rat} (ha : Apx a va ea Ma) (hb : Apx b vb eb Mb)
    (E : Nat) (hE : E ≤ 127) (w : Rat) (hw : w = ((2 ^ E : Nat) : Rat)) (hlt : (Ma + ea) * (Mb + eb) < w) :
    Apx (fmul a b) (va * vb) (w / 33554432 + (ea * (Mb + eb) + Ma * eb)) (Ma * Mb) := by
  obtain ⟨a1, a2, a3, a4⟩ := apx_abs ha
  obtain ⟨b1, b2, b3, b4⟩ := apx_abs hb
  obtain ⟨fa, ⟨na1, na2⟩, ma1, ma2⟩ := ha
  obtain ⟨fb, ⟨nb1, nb2⟩, mb1, mb2⟩ := hb
  obtain ⟨p1, p2⟩ := mul_bound (toRat a) (toRat b) (Ma + ea) (Mb + eb) a1 a2 b1 b2
  subst hw
  obtain ⟨f, n⟩ := fmul_ulp a b fa fb E _ hE rfl (by grind) (by grind)
  obtain ⟨q1, q2⟩ := mul_bound (toRat a - va) (toRat b) ea (Mb + eb) na1 na2 b1 b2
  obtain ⟨r1, r2⟩ := mul_bound va (toRat b - vb) Ma eb ma1 ma2 nb1 nb2
  obtain ⟨s1, s2⟩ := mul_bound va vb Ma Mb ma1 ma2 mb1 mb2
  refine ⟨f, near_trans _ _ _ _ _ n ?_, s1, s2⟩
  have e : toRat a * toRat b - va * vb = (toRat a - va) * toRat b + va * (toRat b - vb) := by grind
  unfold Near
  rw [e]
  clear e n p1 p2 s1 s2 hlt
  constructor <;> grind

theorem apx_fadd {a b : Nat} {va ea Ma vb eb Mb : Rat} (ha : Apx a va ea Ma) (hb : Apx b vb eb Mb)
    (E : Nat) (hE : E ≤ 127) (w : Rat) (hw : w = ((2 ^ E : Nat) : Rat)) (hlt : Ma + ea + (Mb + eb) < w) :
    Apx (fadd a b) (va + vb) (w / 33554432 + (ea + eb)) (Ma + Mb) := by
  obtain ⟨a1, a2, _, _⟩ := apx_abs ha
  obtain ⟨b1, b2, _, _⟩ := apx_abs hb
  obtain ⟨fa, ⟨na1, na2⟩, ma1, ma2⟩ := ha
  obtain ⟨fb, ⟨nb1, nb2⟩, mb1, mb2⟩ := hb
  subst hw
  obtain ⟨f, n⟩ := fadd_ulp a b fa fb E _ hE rfl (by grind) (by grind)
  refine ⟨f, near_trans _ _ _ _ _ n ?_, by grind, by grind⟩
  unfold Near
  constructor <;> grind

theorem apx_neg {b : Nat} {vb eb Mb : Rat} (hb : Apx b vb eb Mb) : Apx (neg b) (-vb) eb Mb := by
  obtain ⟨fb, nb, m1, m2⟩ := hb
  obtain ⟨f, v⟩ := toRat_neg b fb
  rw [← Rat.neg_le_neg_iff, Rat.neg_neg] at m1
  exact ⟨f, v ▸ near_neg _ _ _ nb, Rat.neg_le_neg m2, m1⟩

/-! the same with errors and bounds as multiples of a scale `w` (the side conditions become closed inequalities) -/

theorem apx_weaken_scaled {x : Nat} {v e M w : Rat} (h : Apx x v (e * w) (M * w)) (hw : 0 < w) (e' M' : Rat)
    (he : e ≤ e') (hM : M ≤ M') : Apx x v (e' * w) (M' * w) :=
  apx_weaken h _ _ (Rat.mul_le_mul_of_nonneg_right he (Rat.le_of_lt hw))
    (Rat.mul_le_mul_of_nonneg_right hM (Rat.le_of_lt hw))

theorem apx_fmul_scaled {k b : Nat} {K δ Mk vb eb Mb w : Rat} (hk : Apx k K δ Mk) (hb : Apx b vb (eb * w) (Mb * w))
    (hw : 0 < w) (E : Nat) (hE : E ≤ 127) (s : Rat) (hs : s * w = ((2 ^ E : Nat) : Rat))
    (hlt : (Mk + δ) * (Mb + eb) < s) :
    Apx (fmul k b) (K * vb) ((s / 33554432 + (δ * (Mb + eb) + Mk * eb)) * w) (Mk * Mb * w) := by
  have h := Rat.mul_lt_mul_of_pos_right hlt hw
  have := apx_fmul hk hb E hE (s * w) hs (by grind)
  exact apx_weaken this _ _ (by grind) (by grind)

theorem apx_fadd_scaled {a b : Nat} {va ea Ma vb eb Mb w : Rat} (ha : Apx a va (ea * w) (Ma * w))
    (hb : Apx b vb (eb * w) (Mb * w)) (hw : 0 < w) (E : Nat) (hE : E ≤ 127) (s : Rat)
    (hs : s * w = ((2 ^ E : Nat) : Rat)) (hlt : Ma + ea + (Mb + eb) < s) :
    Apx (fadd a b) (va + vb) ((s / 33554432 + (ea + eb)) * w) ((Ma + Mb) * w) := by
  have h := Rat.mul_lt_mul_of_pos_right hlt hw
  have := apx_fadd ha hb E hE (s * w) hs (by grind)
  exact apx_weaken this _ _ (by grind) (by grind)

theorem apx_fsub_scaled {a b : Nat} {va ea Ma vb eb Mb w : Rat} (ha : Apx a va (ea * w) (Ma * w))
    (hb : Apx b vb (eb * w) (Mb * w)) (hw : 0 < w) (E : Nat) (hE : E ≤ 127) (s : Rat)
    (hs : s * w = ((2 ^ E : Nat) : Rat)) (hlt : Ma + ea + (Mb + eb) < s) :
    Apx (fsub a b) (va - vb) ((s / 33554432 + (ea + eb)) * w) ((Ma + Mb) * w) := by
  unfold fsub
  rw [force_eq, Rat.sub_eq_add_neg]
  exact apx_fadd_scaled ha (apx_neg hb) hw E hE s hs hlt

/-! ### the constants, with their distance from the documented decimal values -/

theorem kY_apx : Apx kY (1164383 / 1000000) (7049 / 131072000000) (1164383 / 1000000) := by decide +kernel
theorem kRV_apx : Apx kRV (1596027 / 1000000) (2181 / 131072000000) (1596027 / 1000000) := by decide +kernel
theorem kGU_apx : Apx kGU (391762 / 1000000) (6081 / 524288000000) (391762 / 1000000) := by decide +kernel
theorem kGV_apx : Apx kGV (812968 / 1000000) (1027 / 65536000000) (812968 / 1000000) := by decide +kernel
theorem kBU_apx : Apx kBU (2017232 / 1000000) (963 / 16384000000) (2017232 / 1000000) := by decide +kernel

/-- the centred input `y − o` -/
def off (y o : Nat) : Rat := (((y : Int) - (o : Int) : Int) : Rat)

/-- `y < W`, offset `o = W/k`, `k ≥ 2`: the difference is exact and at most `(1 − 1/k)·W` in absolute value -/
theorem input_apx (y o W k : Nat) (hy : y < W) (hW : W ≤ 65536) (hk : k * o = W) (hk2 : 2 ≤ k) :
    Apx (fsub (ofNat y) (ofNat o)) (off y o) (0 * (W : Rat)) ((1 - 1 / (k : Rat)) * (W : Rat)) := by
  have e24 : (2 : Nat) ^ 24 = 16777216 := by decide
  have ho : o ≤ W := by rw [← hk]; exact Nat.le_mul_of_pos_left _ (by omega)
  obtain ⟨f1, v1⟩ := ofNat_exact y (by rw [e24]; omega)
  obtain ⟨f2, v2⟩ := ofNat_exact o (by rw [e24]; omega)
  rw [← Rat.intCast_natCast] at v1 v2
  obtain ⟨f, v⟩ := fsub_exact _ _ f1 f2 _ _ v1 v2 (by rw [e24]; omega)
  have hkr : (0 : Rat) < (k : Rat) := Rat.natCast_pos.mpr (by omega)
  have e0 : 1 / (k : Rat) * (W : Rat) = (o : Rat) := by
    rw [← hk, Rat.natCast_mul, ← Rat.mul_assoc, Rat.div_mul_cancel (Rat.ne_of_gt hkr), Rat.one_mul]
  have e : (1 - 1 / (k : Rat)) * (W : Rat) = (W : Rat) - (o : Rat) := by
    rw [Rat.sub_eq_add_neg, Rat.add_mul, Rat.one_mul, Rat.neg_mul, e0, ← Rat.sub_eq_add_neg]
  have h0 : (0 : Rat) ≤ (y : Rat) := Rat.natCast_nonneg
  have h1 : (y : Rat) ≤ (W : Rat) := Rat.natCast_le_natCast.mpr (by omega)
  have h2 : 2 * (o : Rat) ≤ (W : Rat) := by
    have : 2 * o ≤ W := by rw [← hk]; exact Nat.mul_le_mul_right _ hk2
    have := Rat.natCast_le_natCast.mpr this
    rwa [Rat.natCast_mul] at this
  rw [Rat.zero_mul, e]
  refine apx_exact _ _ _ f v ?_ ?_ <;>
    (unfold off; rw [Rat.intCast_sub, Rat.intCast_natCast, Rat.intCast_natCast]; grind)

/-- the ideal sums (unnormalised): `1.164383·c + 1.596027·e` etc. -/
def idealR (c e : Rat) : Rat := 1164383 / 1000000 * c + 1596027 / 1000000 * e
def idealG (c d e : Rat) : Rat := 1164383 / 1000000 * c - 391762 / 1000000 * d - 812968 / 1000000 * e
def idealB (c d : Rat) : Rat := 1164383 / 1000000 * c + 2017232 / 1000000 * d

/-- All inputs, any bit depth `n ≤ 16` (`W = 2^n`, offsets `W/16`, `W/2`): in units of
`W·2^-24` the sums are within 3.5 (R), 5.25 (G), 5.5 (B) of the ideal sums, and these are bounded by 1.9·W, 1.75·W,
2.2·W.  The products `kY·c`, `kBU·d` and the sums for R, G may reach `2W`, the sum for B `4W`. -/
theorem sums_err (n W oy oc y u v : Nat) (hW : W = 2 ^ n) (hn : n ≤ 16) (hoy : 16 * oy = W) (hoc : 2 * oc = W)
    (hy : y < W) (hu : u < W) (hv : v < W) :
    Apx (yuvSums oy oc y u v).1 (idealR (off y oy) (off v oc)) (7 / 33554432 * (W : Rat)) (19 / 10 * (W : Rat)) ∧
    Apx (yuvSums oy oc y u v).2.1 (idealG (off y oy) (off u oc) (off v oc)) (21 / 67108864 * (W : Rat))
      (7 / 4 * (W : Rat)) ∧
    Apx (yuvSums oy oc y u v).2.2 (idealB (off y oy) (off u oc)) (11 / 33554432 * (W : Rat)) (11 / 5 * (W : Rat)) := by
  have hW16 : W ≤ 65536 := by
    rw [hW]; exact Nat.pow_le_pow_right (by decide) hn
  have hc := input_apx y oy W 16 hy hW16 hoy (by decide)
  have hd := input_apx u oc W 2 hu hW16 hoc (by decide)
  have he := input_apx v oc W 2 hv hW16 hoc (by decide)
  have hw : (0 : Rat) < (W : Rat) := Rat.natCast_pos.mpr (by rw [hW]; exact Nat.pow_pos (by decide))
  have w1 : 1 * (W : Rat) = ((2 ^ n : Nat) : Rat) := by rw [hW, Rat.one_mul]
  have w2 : 2 * (W : Rat) = ((2 ^ (n + 1) : Nat) : Rat) := by
    rw [Nat.pow_succ, Rat.natCast_mul, ← hW, Rat.mul_comm]; rfl
  have w4 : 4 * (W : Rat) = ((2 ^ (n + 2) : Nat) : Rat) := by
    rw [Nat.pow_succ, Rat.natCast_mul, ← w2]
    show 4 * _ = 2 * _ * (2 : Rat)
    grind
  have yc := apx_fmul_scaled kY_apx hc hw (n + 1) (by omega) 2 w2 (by decide +kernel)
  have rv := apx_fmul_scaled kRV_apx he hw n (by omega) 1 w1 (by decide +kernel)
  have gu := apx_fmul_scaled kGU_apx hd hw n (by omega) 1 w1 (by decide +kernel)
  have gv := apx_fmul_scaled kGV_apx he hw n (by omega) 1 w1 (by decide +kernel)
  have bu := apx_fmul_scaled kBU_apx hd hw (n + 1) (by omega) 2 w2 (by decide +kernel)
  have r := apx_fadd_scaled yc rv hw (n + 1) (by omega) 2 w2 (by decide +kernel)
  have t := apx_fsub_scaled yc gu hw (n + 1) (by omega) 2 w2 (by decide +kernel)
  have g := apx_fsub_scaled t gv hw (n + 1) (by omega) 2 w2 (by decide +kernel)
  have b := apx_fadd_scaled yc bu hw (n + 2) (by omega) 4 w4 (by decide +kernel)
  exact ⟨apx_weaken_scaled r hw _ _ (by decide +kernel) (by decide +kernel),
    apx_weaken_scaled g hw _ _ (by decide +kernel) (by decide +kernel),
    apx_weaken_scaled b hw _ _ (by decide +kernel) (by decide +kernel)⟩


/-- the property of one output channel: finite, a pattern in `0 … 1.0` or `−0.0`, within `eps` of `q` -/
def ChanOk (out : Nat) (q eps : Rat) : Prop :=
  FinP out ∧ (out ≤ one ∨ out = signBit) ∧ Near (toRat out) q eps

/-- the value before the clamp: finite and within `eps` of the unclamped ideal -/
def ChanRaw (x : Nat) (raw eps : Rat) : Prop := FinP x ∧ Near (toRat x) raw eps

/-- what is proved of a sum `s` normalised by the constant `k`, against the unclamped ideal `q` -/
def NormOk (k s : Nat) (q : Rat) : Prop :=
  ChanRaw (fmul s k) q (10 / 16777216) ∧ ChanOk (fclamp (fmul s k) 0 one) (clamp01 q) (10 / 16777216)

theorem normOk_of_apx {k x : Nat} {v e M : Rat} (h : Apx (fmul x k) v e M) (he : e ≤ 10 / 16777216) : NormOk k x v := by
  obtain ⟨f, n, _, _⟩ := h
  obtain ⟨c1, c2, c3⟩ := fclamp01 _ f
  have n' := near_mono _ _ _ _ n he
  exact ⟨⟨f, n'⟩, c1, c2, c3 ▸ clamp01_near _ _ _ n'⟩

/-- a bit depth: offsets, the constant `k ≈ G = 1/max` (± `δ`), and the closed inequalities that keep `sum·k` below
2 (R, G) resp. 4 (B) (`lt`) and the total error of a channel below `10·2^-24` (`err`) -/
structure Depth where
  bits : Nat
  W : Nat
  oy : Nat
  oc : Nat
  k : Nat
  G : Rat
  δ : Rat
  geom : W = 2 ^ bits ∧ bits ≤ 16 ∧ 16 * oy = W ∧ 2 * oc = W
  hk : Apx k G δ G
  lt : (19 / 10 * (W : Rat) + 7 / 33554432 * (W : Rat)) * (G + δ) < 2 ∧
    (7 / 4 * (W : Rat) + 21 / 67108864 * (W : Rat)) * (G + δ) < 2 ∧
    (11 / 5 * (W : Rat) + 11 / 33554432 * (W : Rat)) * (G + δ) < 4
  err : 2 / 33554432 + (7 / 33554432 * (W : Rat) * (G + δ) + 19 / 10 * (W : Rat) * δ) ≤ 10 / 16777216 ∧
    2 / 33554432 + (21 / 67108864 * (W : Rat) * (G + δ) + 7 / 4 * (W : Rat) * δ) ≤ 10 / 16777216 ∧
    4 / 33554432 + (11 / 33554432 * (W : Rat) * (G + δ) + 11 / 5 * (W : Rat) * δ) ≤ 10 / 16777216
  f32_eq : ∀ y u v, yuvF32 bits y u v = [fclamp (fmul (yuvSums oy oc y u v).1 k) 0 one,
    fclamp (fmul (yuvSums oy oc y u v).2.1 k) 0 one, fclamp (fmul (yuvSums oy oc y u v).2.2 k) 0 one]
  raw_eq : ∀ y u v, Spec.yuvRaw bits y u v = (idealR (off y oy) (off v oc) * G,
    idealG (off y oy) (off u oc) (off v oc) * G, idealB (off y oy) (off u oc) * G)

theorem div_eq_mul_one_div (x m : Rat) : x / m = x * (1 / m) := by
  rw [Rat.div_def, Rat.div_def, Rat.one_mul]

def depth8 : Depth where
  bits := 8
  W := 256
  oy := 16
  oc := 128
  k := k255
  G := 1 / 255
  δ := 127 / 547608330240
  geom := by decide
  hk := by decide +kernel
  lt := by decide +kernel
  err := by decide +kernel
  f32_eq := fun _ _ _ => rfl
  raw_eq := fun _ _ _ => by rw [← div_eq_mul_one_div, ← div_eq_mul_one_div, ← div_eq_mul_one_div]; rfl

def depth10 : Depth where
  bits := 10
  W := 1024
  oy := 64
  oc := 512
  k := k1023
  G := 1 / 1023
  δ := 1 / 1098437885952
  geom := by decide
  hk := by decide +kernel
  lt := by decide +kernel
  err := by decide +kernel
  f32_eq := fun _ _ _ => rfl
  raw_eq := fun _ _ _ => by rw [← div_eq_mul_one_div, ← div_eq_mul_one_div, ← div_eq_mul_one_div]; rfl

def depth16 : Depth where
  bits := 16
  W := 65536
  oy := 4096
  oc := 32768
  k := k65535
  G := 1 / 65535
  δ := 1 / 281470681743360
  geom := by decide
  hk := by decide +kernel
  lt := by decide +kernel
  err := by decide +kernel
  f32_eq := fun _ _ _ => rfl
  raw_eq := fun _ _ _ => by rw [← div_eq_mul_one_div, ← div_eq_mul_one_div, ← div_eq_mul_one_div]; rfl

/-- every channel of `yuvN::f32`, all inputs: within `10·2^-24` of the clamped ideal value -/
theorem f32_err (d : Depth) (y u v : Nat) (hy : y < d.W) (hu : u < d.W) (hv : v < d.W) :
    NormOk d.k (yuvSums d.oy d.oc y u v).1 (Spec.yuvRaw d.bits y u v).1 ∧
    NormOk d.k (yuvSums d.oy d.oc y u v).2.1 (Spec.yuvRaw d.bits y u v).2.1 ∧
    NormOk d.k (yuvSums d.oy d.oc y u v).2.2 (Spec.yuvRaw d.bits y u v).2.2 := by
  obtain ⟨hW, hb, hoy, hoc⟩ := d.geom
  obtain ⟨r, g, b⟩ := sums_err d.bits d.W d.oy d.oc y u v hW hb hoy hoc hy hu hv
  rw [d.raw_eq]
  exact ⟨normOk_of_apx (apx_fmul r d.hk 1 (by decide) 2 rfl d.lt.1) d.err.1,
    normOk_of_apx (apx_fmul g d.hk 1 (by decide) 2 rfl d.lt.2.1) d.err.2.1,
    normOk_of_apx (apx_fmul b d.hk 2 (by decide) 4 rfl d.lt.2.2) d.err.2.2⟩

/-- below 1.0 consecutive patterns are at most 2^-24 apart (units of 2^-149) -/
theorem pval_succ (b : Nat) (h : b + 1 ≤ 0x3F800000) : pval (b + 1) ≤ pval b + 2 ^ 125 := by
  obtain ⟨q, r, rfl, hq, hq2, hr, hn⟩ : ∃ q r, b = (q - 851) * 2 ^ 23 + r ∧ 851 ≤ q ∧ q ≤ 976 ∧ r < 2 ^ 24 ∧
      (q = 851 ∨ 2 ^ 23 ≤ r) := by
    by_cases h0 : b < 8388608
    · exact ⟨851, b, by omega, by omega, by omega, by omega, Or.inl rfl⟩
    · exact ⟨850 + b / 8388608, b % 8388608 + 8388608, by omega, by omega, by omega, by omega, Or.inr (by omega)⟩
  rw [Nat.add_assoc, pval_pack q (r + 1) hq hr (hn.imp id (fun h => Nat.le_succ_of_le h)), pval_pack q r hq (Nat.le_of_lt hr) hn,
    Nat.add_mul, Nat.one_mul]
  exact Nat.add_le_add_left (Nat.pow_le_pow_right Nat.two_pos (by omega)) _

theorem toRat_succ (b : Nat) (h : b + 1 ≤ 0x3F800000) : toRat (b + 1) ≤ toRat b + 1 / 16777216 := by
  rw [F32Mono.toRat_natDiv b (by omega), F32Mono.toRat_natDiv (b + 1) (by omega)]
  have e : (1 : Rat) / 16777216 = ((2 ^ 125 : Nat) : Rat) / ((2 ^ 149 : Nat) : Rat) := by decide +kernel
  have hD : (0 : Rat) < ((2 ^ 149 : Nat) : Rat) := Rat.natCast_pos.mpr (Nat.two_pow_pos 149)
  rw [e, Rat.div_def, Rat.div_def, Rat.div_def, ← Rat.add_mul, ← Rat.natCast_add]
  exact Rat.mul_le_mul_of_nonneg_right (Rat.natCast_le_natCast.mpr (pval_succ b h)) (Rat.le_of_lt (Rat.inv_pos.mpr hD))

theorem chan_unit (b : Nat) (fb : FinP b) (hpat : b ≤ one ∨ b = signBit) : 0 ≤ toRat b ∧ toRat b ≤ 1 := by
  rcases hpat with h | h
  · have h1 := toRat_mono b one h (by decide)
    rw [toRat_one] at h1
    exact ⟨toRat_nonneg_of_lt b (by unfold one at h; omega), h1⟩
  · subst h; rw [toRat_signBit]; exact ⟨Rat.le_refl, by decide⟩

theorem admissible_iff_near (mx : Nat) (q : Rat) (c : Nat) :
    admissible mx q c = true ↔ Near ((c : Rat) / (mx : Rat)) (clamp01 q) (1 / (2 * (mx : Rat)) + 1 / (4096 * 255)) :=
  decide_eq_true_iff

/-- `c = ⌊m·x + ½⌋` ⇒ `c/m` is within half a step of `x` -/
theorem near_code_floor (m x c : Rat) (hm : 0 < m) (f1 : c ≤ m * x + 1 / 2) (f2 : m * x + 1 / 2 < c + 1) :
    Near (c / m) x (1 / (2 * m)) := by
  have hcm : c / m * m = c := Rat.div_mul_cancel (Rat.ne_of_gt hm)
  have hhm : 1 / (2 * m) * m = 1 / 2 := by
    have : m ≠ 0 := Rat.ne_of_gt hm
    grind
  constructor
  · apply Rat.le_of_mul_le_mul_right _ hm
    rw [Rat.sub_eq_add_neg, Rat.add_mul, hcm, Rat.neg_mul, hhm, Rat.neg_mul]
    grind
  · apply Rat.le_of_mul_le_mul_right _ hm
    rw [Rat.sub_eq_add_neg, Rat.add_mul, hcm, hhm, Rat.neg_mul]
    grind

/-- Composition with `fp::n8` / `fp::n16`: a float channel within `eps` of `q`, `eps + 2^-24 ≤ τ`, gives an admissible
code: the code is within half a step of the FLOAT, plus 2^-24 where the float is the largest one below a tie.
`hall`/`hdev` are the all-patterns theorems of `Proofs/ConvF32Thr.lean` (`fpn8_all`/`fpn8_dev`, …). -/
theorem fpn_adm (mx : Nat) (hmx : 0 < mx) (code b : Nat) (Dev : Prop) [Decidable Dev]
    (hall : (code : Int) = specCode mx b + (if Dev then 1 else 0))
    (hdev : Dev → b + 1 < 0x7F800000 ∧ 1 ≤ code ∧ toRat b < ((2 * code - 1 : Nat) : Rat) / ((2 * mx : Nat) : Rat) ∧
        ((2 * code - 1 : Nat) : Rat) / ((2 * mx : Nat) : Rat) ≤ toRat (b + 1))
    (hle : code ≤ mx)
    (q eps : Rat) (h : ChanOk b q eps) (he : eps + 1 / 16777216 ≤ 1 / 1044480) :
    admissible mx q code = true := by
  obtain ⟨fb, hpat, hn⟩ := h
  obtain ⟨x0, x1⟩ := chan_unit b fb hpat
  have hn' : Near (toRat b) (clamp01 q) eps := by
    have := clamp01_near _ _ _ hn
    rwa [clamp01_of_mem _ x0 x1] at this
  have hm : (0 : Rat) < (mx : Rat) := Rat.natCast_pos.mpr hmx
  rw [admissible_iff_near]
  suffices hc : Near ((code : Rat) / (mx : Rat)) (toRat b) (1 / (2 * (mx : Rat)) + (if Dev then 1 / 16777216 else 0)) by
    refine near_mono _ _ _ _ (near_trans _ _ _ _ _ hc hn') ?_
    clear hc hn' hn hall hdev
    generalize 1 / (2 * (mx : Rat)) = hh
    split <;> grind
  by_cases hD : Dev
  · obtain ⟨d1, d2, d3, d4⟩ := hdev hD
    have ht := tie_half code mx d2 hmx
    have hhpos : 0 < 1 / (2 * (mx : Rat)) := by
      rw [Rat.div_def, Rat.one_mul]; exact Rat.inv_pos.mpr (Rat.mul_pos (by decide) hm)
    have hb1 : b + 1 ≤ 0x3F800000 := by
      rcases hpat with hp | hp
      · unfold one at hp
        by_cases hone : b = 0x3F800000
        · exfalso
          have hcm1 : (code : Rat) / (mx : Rat) ≤ 1 := by
            apply Rat.le_of_mul_le_mul_right _ hm
            rw [Rat.div_mul_cancel (Rat.ne_of_gt hm), Rat.one_mul]; exact Rat.natCast_le_natCast.mpr hle
          rw [hone, show toRat 0x3F800000 = 1 from toRat_one] at d3
          grind
        · omega
      · exfalso; rw [hp] at d1; unfold signBit at d1; omega
    have hs := toRat_succ b hb1
    rw [if_pos hD, ht]
    clear ht hn' hn hall hdev x0 x1
    generalize ((2 * code - 1 : Nat) : Rat) / ((2 * mx : Nat) : Rat) = T at *
    generalize 1 / (2 * (mx : Rat)) = hh at *
    generalize toRat (b + 1) = x' at *
    generalize toRat b = x at *
    constructor <;> grind
  · rw [if_neg hD, Int.add_zero] at hall
    rw [if_neg hD, Rat.add_zero]
    obtain ⟨a1, a2, _, _, _⟩ := finP_flags b fb
    have hspec : specCode mx b = ((mx : Rat) * toRat b + 1 / 2).floor := by
      unfold specCode toCode nearest
      rw [a1, a2, clamp01_of_mem _ x0 x1]
      rfl
    have hc : (code : Rat) = ((((mx : Rat) * toRat b + 1 / 2).floor : Int) : Rat) := by
      rw [← hspec, ← hall, Rat.intCast_natCast]
    have f2 := Rat.lt_floor_add_one ((mx : Rat) * toRat b + 1 / 2)
    rw [Rat.intCast_add, Rat.intCast_one, ← hc] at f2
    exact near_code_floor _ _ _ hm (hc ▸ Rat.floor_le _) f2

theorem fpn8_adm (b : Nat) (q eps : Rat) (h : ChanOk b q eps) (he : eps + 1 / 16777216 ≤ 1 / 1044480) :
    admissible 255 q (fpn8 b) = true :=
  fpn_adm 255 (by decide) (fpn8 b) b (b ∈ fpN8Dev) (fpn8_all b (by have := h.1.1; omega))
    (fun hm => by
      obtain ⟨d1, _, d3, d4, d5, _⟩ := fpn8_dev b hm
      exact ⟨d1, d3, d4, d5⟩)
    (toNatSat_le_cap _ _) q eps h he

theorem fpn16_adm (b : Nat) (q eps : Rat) (h : ChanOk b q eps) (he : eps + 1 / 16777216 ≤ 1 / 1044480) :
    admissible 65535 q (fpn16 b) = true :=
  fpn_adm 65535 (by decide) (fpn16 b) b (b ∈ fpN16Dev) (fpn16_all b (by have := h.1.1; omega))
    (fun hm => by
      obtain ⟨d1, _, d3, d4, d5, _⟩ := fpn16_dev b hm
      exact ⟨d1, d3, d4, d5⟩)
    (toNatSat_le_cap _ _) q eps h he

theorem yuvAll_intro (P : Rat → Nat → Bool) (q : Rat × Rat × Rat) (r g b : Nat)
    (h1 : P q.1 r = true) (h2 : P q.2.1 g = true) (h3 : P q.2.2 b = true) : yuvAll P q [r, g, b] = true := by
  unfold yuvAll; simp only [h1, h2, h3, Bool.and_self]

theorem finP_expField (b : Nat) (h : FinP b) : (expField b != 255) = true := by
  obtain ⟨h1, h2⟩ := h
  rw [ConvFast.expField_eq]
  simp only [bne_iff_ne, ne_eq]
  omega

theorem nearF32_of (b : Nat) (q eps eps' : Rat) (h : ChanOk b q eps) (he : eps ≤ eps') : nearF32 eps' q b = true := by
  obtain ⟨fb, _, n1, n2⟩ := h
  unfold nearF32
  rw [finP_expField b fb, Bool.true_and]
  apply decide_eq_true
  constructor <;> grind

theorem clamp01_idem (q : Rat) : clamp01 (clamp01 q) = clamp01 q := by
  unfold clamp01; grind

theorem admissibleF32_of (b : Nat) (q : Rat) (h : ChanOk b (clamp01 q) (10 / 16777216)) :
    admissibleF32 (clamp01 q) b = true := by
  unfold admissibleF32
  rw [clamp01_idem]
  exact nearF32_of b _ _ _ h (by decide +kernel)

theorem admissible_clamp (mx : Nat) (q : Rat) (c : Nat) : admissible mx (clamp01 q) c = admissible mx q c := by
  unfold admissible; rw [clamp01_idem]

theorem tol_ok : (10 : Rat) / 16777216 + 1 / 16777216 ≤ 1 / 1044480 := by decide +kernel


/-- `yuvN::f32`, ALL inputs: every channel is finite and within `10·2^-24` of the ideal value (hence inside the
oracle's tolerance `τ + 2^-24`) -/
theorem yuv_f32_ok (d : Depth) (y u v : Nat) (hy : y < d.W) (hu : u < d.W) (hv : v < d.W) :
    yuvAll (nearF32 (10 / 16777216)) (Spec.yuv d.bits y u v) (yuvTo d.bits 2 y u v) = true ∧
    yuvAll admissibleF32 (Spec.yuv d.bits y u v) (yuvTo d.bits 2 y u v) = true := by
  obtain ⟨⟨_, h1⟩, ⟨_, h2⟩, ⟨_, h3⟩⟩ := f32_err d y u v hy hu hv
  have e : yuvTo d.bits 2 y u v = yuvF32 d.bits y u v := rfl
  rw [e, d.f32_eq, yuv_eq_clamp_raw]
  exact ⟨yuvAll_intro _ _ _ _ _ (nearF32_of _ _ _ _ h1 Rat.le_refl) (nearF32_of _ _ _ _ h2 Rat.le_refl)
    (nearF32_of _ _ _ _ h3 Rat.le_refl),
    yuvAll_intro _ _ _ _ _ (admissibleF32_of _ _ h1) (admissibleF32_of _ _ h2) (admissibleF32_of _ _ h3)⟩

theorem yuv8_f32_ok (y u v : Nat) (hy : y < 256) (hu : u < 256) (hv : v < 256) :
    yuvAll (nearF32 (10 / 16777216)) (Spec.yuv 8 y u v) (yuvTo 8 2 y u v) = true ∧
    yuvAll admissibleF32 (Spec.yuv 8 y u v) (yuvTo 8 2 y u v) = true :=
  yuv_f32_ok depth8 y u v hy hu hv

theorem yuv10_f32_ok (y u v : Nat) (hy : y < 1024) (hu : u < 1024) (hv : v < 1024) :
    yuvAll (nearF32 (10 / 16777216)) (Spec.yuv 10 y u v) (yuvTo 10 2 y u v) = true ∧
    yuvAll admissibleF32 (Spec.yuv 10 y u v) (yuvTo 10 2 y u v) = true :=
  yuv_f32_ok depth10 y u v hy hu hv

theorem yuv16_f32_ok (y u v : Nat) (hy : y < 65536) (hu : u < 65536) (hv : v < 65536) :
    yuvAll (nearF32 (10 / 16777216)) (Spec.yuv 16 y u v) (yuvTo 16 2 y u v) = true ∧
    yuvAll admissibleF32 (Spec.yuv 16 y u v) (yuvTo 16 2 y u v) = true :=
  yuv_f32_ok depth16 y u v hy hu hv

/-- `yuvN::n16` = `f32` then `fp::n16`, ALL inputs: every code is admissible -/
theorem yuv_n16_ok (d : Depth) (y u v : Nat) (hy : y < d.W) (hu : u < d.W) (hv : v < d.W) :
    yuvAll (admissible 65535) (Spec.yuv d.bits y u v) (yuvTo d.bits 1 y u v) = true := by
  obtain ⟨⟨_, h1⟩, ⟨_, h2⟩, ⟨_, h3⟩⟩ := f32_err d y u v hy hu hv
  have e : yuvTo d.bits 1 y u v = (yuvF32 d.bits y u v).map fpn16 := rfl
  rw [e, d.f32_eq, yuv_eq_clamp_raw]
  exact yuvAll_intro _ _ _ _ _ (fpn16_adm _ _ _ h1 tol_ok) (fpn16_adm _ _ _ h2 tol_ok) (fpn16_adm _ _ _ h3 tol_ok)

theorem yuv8_n16_ok (y u v : Nat) (hy : y < 256) (hu : u < 256) (hv : v < 256) :
    yuvAll (admissible 65535) (Spec.yuv 8 y u v) (yuvTo 8 1 y u v) = true :=
  yuv_n16_ok depth8 y u v hy hu hv

theorem yuv10_n16_ok (y u v : Nat) (hy : y < 1024) (hu : u < 1024) (hv : v < 1024) :
    yuvAll (admissible 65535) (Spec.yuv 10 y u v) (yuvTo 10 1 y u v) = true :=
  yuv_n16_ok depth10 y u v hy hu hv

theorem yuv16_n16_ok (y u v : Nat) (hy : y < 65536) (hu : u < 65536) (hv : v < 65536) :
    yuvAll (admissible 65535) (Spec.yuv 16 y u v) (yuvTo 16 1 y u v) = true :=
  yuv_n16_ok depth16 y u v hy hu hv

theorem yuvTo_n8 (bits y u v : Nat) (h8 : (bits == 8) = false) :
    yuvTo bits 0 y u v = (yuvF32 bits y u v).map fpn8 := by
  unfold yuvTo; rw [h8]; rfl

/-- `yuv10::n8`, `yuv16::n8` = `f32` then `fp::n8`, ALL inputs: every code is admissible -/
theorem yuv_n8_ok (d : Depth) (h8 : (d.bits == 8) = false) (y u v : Nat) (hy : y < d.W) (hu : u < d.W) (hv : v < d.W) :
    yuvAll (admissible 255) (Spec.yuv d.bits y u v) (yuvTo d.bits 0 y u v) = true := by
  obtain ⟨⟨_, h1⟩, ⟨_, h2⟩, ⟨_, h3⟩⟩ := f32_err d y u v hy hu hv
  rw [yuvTo_n8 _ _ _ _ h8, d.f32_eq, yuv_eq_clamp_raw]
  exact yuvAll_intro _ _ _ _ _ (fpn8_adm _ _ _ h1 tol_ok) (fpn8_adm _ _ _ h2 tol_ok) (fpn8_adm _ _ _ h3 tol_ok)

theorem yuv10_n8_ok (y u v : Nat) (hy : y < 1024) (hu : u < 1024) (hv : v < 1024) :
    yuvAll (admissible 255) (Spec.yuv 10 y u v) (yuvTo 10 0 y u v) = true :=
  yuv_n8_ok depth10 rfl y u v hy hu hv

theorem yuv16_n8_ok (y u v : Nat) (hy : y < 65536) (hu : u < 65536) (hv : v < 65536) :
    yuvAll (admissible 255) (Spec.yuv 16 y u v) (yuvTo 16 0 y u v) = true :=
  yuv_n8_ok depth16 rfl y u v hy hu hv

theorem half_apx : Apx half (1 / 2) 0 (1 / 2) := by decide +kernel

/-- `t as u8` for `t` within `e` of `T`: 0 with `T ≤ e`, or the floor of a value within `e` of `T`, or 255 with
`T + e ≥ 256` -/
theorem n8_code (t : Nat) (T e M : Rat) (ht : Apx t T e M) :
    (toNatSat t 255 = 0 ∧ T ≤ e) ∨
    (toNatSat t 255 ≤ 255 ∧ ((toNatSat t 255 : Nat) : Rat) ≤ T + e ∧ T - e < ((toNatSat t 255 : Nat) : Rat) + 1) ∨
    (toNatSat t 255 = 255 ∧ 256 ≤ T + e) := by
  obtain ⟨ft, ⟨n1, n2⟩, _, _⟩ := ht
  rcases toNatSat_floor t 255 ft with ⟨hc, hle⟩ | ⟨n, hc, hn1, hn2⟩
  · exact Or.inl ⟨hc, by grind⟩
  · rw [hc]
    by_cases hn : n ≤ 255
    · rw [Nat.min_eq_right hn]
      exact Or.inr (Or.inl ⟨hn, by grind, by grind⟩)
    · rw [Nat.min_eq_left (by omega)]
      have : ((256 : Nat) : Rat) ≤ (n : Rat) := Rat.natCast_le_natCast.mpr (by omega)
      have k256 : ((256 : Nat) : Rat) = 256 := rfl
      rw [k256] at this
      exact Or.inr (Or.inr ⟨rfl, by grind⟩)

/-- a sum `s ≈ S` (±`Es`), `|S| + Es + ½ < 1024`, `Es + 2^-15 ≤ 2^-12`: the code is admissible -/
theorem n8_direct {s : Nat} {S Es Ms : Rat} (hs : Apx s S Es Ms) (hM : Ms + Es + (1 / 2 + 0) < 1024)
    (hE : 1024 / 33554432 + (Es + 0) ≤ 1 / 4096) :
    admissible 255 (S * (1 / 255)) (toNatSat (fadd s half) 255) = true := by
  have ht := apx_fadd hs half_apx 10 (by decide) 1024 rfl hM
  have k255 : ((255 : Nat) : Rat) = 255 := rfl
  rw [admissible_iff_near, k255]
  rcases n8_code _ _ _ _ ht with ⟨hc, h1⟩ | ⟨hc, h1, h2⟩ | ⟨hc, h1⟩
  · rw [hc, clamp01_of_le _ (by grind)]
    exact ⟨by decide +kernel, by decide +kernel⟩
  · -- the code is within `½ + 2^-12` of `S`, and clamping `S/255` to `[0, 1]`, where `code/255` lies, keeps that
    have hn' : ((toNatSat (fadd s half) 255 : Nat) : Rat) ≤ 255 := by
      have := Rat.natCast_le_natCast.mpr hc
      rwa [k255] at this
    have hn0 : (0 : Rat) ≤ ((toNatSat (fadd s half) 255 : Nat) : Rat) := Rat.natCast_nonneg
    clear ht hs hc
    generalize ((toNatSat (fadd s half) 255 : Nat) : Rat) = c at *
    have n : Near (c / 255) (S * (1 / 255)) (1 / (2 * 255) + 1 / (4096 * 255)) := by
      unfold Near; constructor <;> grind
    have := clamp01_near _ _ _ n
    rwa [clamp01_of_mem _ (by grind) (by grind)] at this
  · rw [hc, clamp01_of_ge _ (by grind), k255]
    exact ⟨by decide +kernel, by decide +kernel⟩

theorem satOk_intro (prec : Nat) (raw : Rat) (out : Nat)
    (hhi : 1 + 1 / 1048576 ≤ raw → out = if prec == 0 then 255 else if prec == 1 then 65535 else one)
    (hlo : raw ≤ -(1 / 1048576) → out = 0) : satOk prec raw out = true := by
  unfold satOk
  rw [Bool.and_eq_true]
  constructor
  · by_cases h : 1 + 1 / 1048576 ≤ raw
    · rw [← hhi h, beq_self_eq_true, Bool.or_true]
    · rw [decide_eq_false h]; rfl
  · by_cases h : raw ≤ -(1 / 1048576)
    · rw [hlo h]; exact Bool.or_true _
    · rw [decide_eq_false h]; rfl

theorem sat_n8_direct {s : Nat} {S Es Ms : Rat} (hs : Apx s S Es Ms) (hM : Ms + Es + (1 / 2 + 0) < 1024)
    (hE : 1024 / 33554432 + (Es + 0) ≤ 1 / 4096) :
    satOk 0 (S * (1 / 255)) (toNatSat (fadd s half) 255) = true := by
  have hcases := n8_code _ _ _ _ (apx_fadd hs half_apx 10 (by decide) 1024 rfl hM)
  have k255 : ((255 : Nat) : Rat) = 255 := rfl
  have k1 : ((1 : Nat) : Rat) = 1 := rfl
  clear hs
  generalize toNatSat (fadd s half) 255 = c at *
  refine satOk_intro 0 _ _ (fun hhi => ?_) (fun hlo => ?_)
  · rcases hcases with ⟨hc, h1⟩ | ⟨hc, h1, h2⟩ | ⟨hc, h1⟩
    · exfalso; grind
    · have : ¬ c + 1 ≤ 255 := by
        intro h254
        have := Rat.natCast_le_natCast.mpr h254
        rw [Rat.natCast_add, k255, k1] at this
        grind
      show c = 255
      omega
    · exact hc
  · rcases hcases with ⟨hc, h1⟩ | ⟨hc, h1, h2⟩ | ⟨hc, h1⟩
    · exact hc
    · apply Nat.eq_zero_of_not_pos
      intro hpos
      have := Rat.natCast_le_natCast.mpr (show 1 ≤ c from hpos)
      rw [k1] at this
      grind
    · exfalso; grind

theorem yuvTo_8_0 (y u v : Nat) : yuvTo 8 0 y u v = [toNatSat (fadd (yuvSums 16 128 y u v).1 half) 255,
    toNatSat (fadd (yuvSums 16 128 y u v).2.1 half) 255, toNatSat (fadd (yuvSums 16 128 y u v).2.2 half) 255] := rfl

/-- `yuv8::n8` (direct `(sum + 0.5) as u8`), ALL 2^24 inputs: every code is admissible -/
theorem yuv8_n8_ok (y u v : Nat) (hy : y < 256) (hu : u < 256) (hv : v < 256) :
    yuvAll (admissible 255) (Spec.yuv 8 y u v) (yuvTo 8 0 y u v) = true := by
  obtain ⟨r, g, b⟩ := sums_err 8 256 16 128 y u v (by decide) (by decide) (by decide) (by decide) hy hu hv
  have e : Spec.yuvRaw 8 y u v = _ := depth8.raw_eq y u v
  rw [yuvTo_8_0, yuv_eq_clamp_raw, e]
  refine yuvAll_intro _ _ _ _ _ ?_ ?_ ?_ <;> (show admissible 255 (clamp01 _) _ = true) <;> rw [admissible_clamp]
  · exact n8_direct r (by decide +kernel) (by decide +kernel)
  · exact n8_direct g (by decide +kernel) (by decide +kernel)
  · exact n8_direct b (by decide +kernel) (by decide +kernel)

/-- saturation of one F32 channel and of the codes derived from it by `fp::n8` / `fp::n16` -/
theorem sat_f32 (x : Nat) (raw : Rat) (h : ChanRaw x raw (10 / 16777216)) :
    satOk 2 raw (fclamp x 0 one) = true ∧ satOk 1 raw (fpn16 (fclamp x 0 one)) = true ∧
    satOk 0 raw (fpn8 (fclamp x 0 one)) = true := by
  obtain ⟨fx, n1, n2⟩ := h
  have hi : 1 + 1 / 1048576 ≤ raw → fclamp x 0 one = one := fun h => fclamp01_hi x fx (by grind)
  have lo : raw ≤ -(1 / 1048576) → fclamp x 0 one = 0 := fun h => fclamp01_lo x fx (by grind)
  refine ⟨satOk_intro 2 _ _ hi lo, satOk_intro 1 _ _ (fun h => ?_) (fun h => ?_),
    satOk_intro 0 _ _ (fun h => ?_) (fun h => ?_)⟩
  · rw [hi h]; decide +kernel
  · rw [lo h]; decide +kernel
  · rw [hi h]; decide +kernel
  · rw [lo h]; decide +kernel

/-- saturation of the F32 and U16 outputs, and of the U8 output where it is `fp::n8` of the F32 one -/
theorem yuv_sat (d : Depth) (y u v : Nat) (hy : y < d.W) (hu : u < d.W) (hv : v < d.W) :
    yuvAll (satOk 2) (Spec.yuvRaw d.bits y u v) (yuvTo d.bits 2 y u v) = true ∧
    yuvAll (satOk 1) (Spec.yuvRaw d.bits y u v) (yuvTo d.bits 1 y u v) = true ∧
    ((d.bits == 8) = false → yuvAll (satOk 0) (Spec.yuvRaw d.bits y u v) (yuvTo d.bits 0 y u v) = true) := by
  obtain ⟨⟨h1, _⟩, ⟨h2, _⟩, ⟨h3, _⟩⟩ := f32_err d y u v hy hu hv
  obtain ⟨a1, b1, c1⟩ := sat_f32 _ _ h1
  obtain ⟨a2, b2, c2⟩ := sat_f32 _ _ h2
  obtain ⟨a3, b3, c3⟩ := sat_f32 _ _ h3
  have e2 : yuvTo d.bits 2 y u v = yuvF32 d.bits y u v := rfl
  have e1 : yuvTo d.bits 1 y u v = (yuvF32 d.bits y u v).map fpn16 := rfl
  refine ⟨?_, ?_, fun h8 => ?_⟩
  · rw [e2, d.f32_eq]; exact yuvAll_intro _ _ _ _ _ a1 a2 a3
  · rw [e1, d.f32_eq]; exact yuvAll_intro _ _ _ _ _ b1 b2 b3
  · rw [yuvTo_n8 _ _ _ _ h8, d.f32_eq]; exact yuvAll_intro _ _ _ _ _ c1 c2 c3

/-- saturation of the direct path of `yuv8::n8` -/
theorem yuv8_sat_n8 (y u v : Nat) (hy : y < 256) (hu : u < 256) (hv : v < 256) :
    yuvAll (satOk 0) (Spec.yuvRaw 8 y u v) (yuvTo 8 0 y u v) = true := by
  obtain ⟨r, g, b⟩ := sums_err 8 256 16 128 y u v (by decide) (by decide) (by decide) (by decide) hy hu hv
  have e : Spec.yuvRaw 8 y u v = _ := depth8.raw_eq y u v
  rw [yuvTo_8_0, e]
  exact yuvAll_intro _ _ _ _ _ (sat_n8_direct r (by decide +kernel) (by decide +kernel))
    (sat_n8_direct g (by decide +kernel) (by decide +kernel)) (sat_n8_direct b (by decide +kernel) (by decide +kernel))

theorem yuv8_sat (y u v : Nat) (hy : y < 256) (hu : u < 256) (hv : v < 256) :
    yuvAll (satOk 2) (Spec.yuvRaw 8 y u v) (yuvTo 8 2 y u v) = true ∧
    yuvAll (satOk 1) (Spec.yuvRaw 8 y u v) (yuvTo 8 1 y u v) = true ∧
    yuvAll (satOk 0) (Spec.yuvRaw 8 y u v) (yuvTo 8 0 y u v) = true :=
  have h := yuv_sat depth8 y u v hy hu hv
  ⟨h.1, h.2.1, yuv8_sat_n8 y u v hy hu hv⟩

theorem yuv10_sat (y u v : Nat) (hy : y < 1024) (hu : u < 1024) (hv : v < 1024) :
    yuvAll (satOk 2) (Spec.yuvRaw 10 y u v) (yuvTo 10 2 y u v) = true ∧
    yuvAll (satOk 1) (Spec.yuvRaw 10 y u v) (yuvTo 10 1 y u v) = true ∧
    yuvAll (satOk 0) (Spec.yuvRaw 10 y u v) (yuvTo 10 0 y u v) = true :=
  have h := yuv_sat depth10 y u v hy hu hv
  ⟨h.1, h.2.1, h.2.2 rfl⟩

theorem yuv16_sat (y u v : Nat) (hy : y < 65536) (hu : u < 65536) (hv : v < 65536) :
    yuvAll (satOk 2) (Spec.yuvRaw 16 y u v) (yuvTo 16 2 y u v) = true ∧
    yuvAll (satOk 1) (Spec.yuvRaw 16 y u v) (yuvTo 16 1 y u v) = true ∧
    yuvAll (satOk 0) (Spec.yuvRaw 16 y u v) (yuvTo 16 0 y u v) = true :=
  have h := yuv_sat depth16 y u v hy hu hv
  ⟨h.1, h.2.1, h.2.2 rfl⟩

end Dds.YuvErr
