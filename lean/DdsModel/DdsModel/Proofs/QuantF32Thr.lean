/-
C12: the binary32 quantisers `nK::from_f32`, `s8::from_uf32` on ALL 2^32 bit patterns against the exact quantiser
`Quant.qL` (round half up of `clamp(x)·L`), from the kernel-checked threshold tables (`Proofs/F32ThrTab.lean`) and
the monotonicity of the software float (`Proofs/F32Mono.lean`).
-/
import DdsModel.Proofs.ConvF32Thr
import DdsModel.Proofs.Quant
import DdsModel.QuantF32
namespace Dds.QuantF32
open Dds Dds.CF32 Dds.Spec Dds.F32Mono Dds.F32Thr Dds.ConvFast Dds.EncTotal Dds.EncTotal.QuantBits

theorem spec_clamp_eq (q : Rat) : Spec.clamp01 q = Quant.clamp01 q := by
  unfold Spec.clamp01 Quant.clamp01
  by_cases h0 : q < 0
  · have h1 : ¬ (1 : Rat) ≤ q := by grind
    have h2 : ¬ (0 : Rat) ≤ q := by rw [Rat.not_le]; exact h0
    rw [if_pos h0, Rat.min_def, if_neg h1, Rat.max_def, if_neg h2]
  · have h0' : (0 : Rat) ≤ q := by rw [← Rat.not_lt]; exact h0
    rw [if_neg h0]
    by_cases h1 : 1 < q
    · rw [if_pos h1, Rat.min_def, if_pos (Rat.le_of_lt h1), Rat.max_def, if_pos (by decide)]
    · rw [if_neg h1, Rat.min_def]
      by_cases h2 : (1 : Rat) ≤ q
      · have : q = 1 := Rat.le_antisymm (by rw [← Rat.not_lt]; exact h1) h2
        rw [if_pos h2, Rat.max_def, if_pos (by decide), this]
      · rw [if_neg h2, Rat.max_def, if_pos h0']

theorem toCode_eq_qL (L : Nat) (q : Rat) : toCode L q = ((Quant.qL L q : Nat) : Int) := by
  unfold toCode nearest Quant.qL Quant.roundHalfUp
  rw [spec_clamp_eq, Rat.mul_comm]
  have h := (Quant.clamp01_mem q).1
  have hL : (0 : Rat) ≤ (L : Rat) := Rat.natCast_nonneg
  have hp : (0 : Rat) ≤ Quant.clamp01 q * (L : Rat) := Rat.mul_nonneg h hL
  have hn : (0 : Int) ≤ (Quant.clamp01 q * (L : Rat) + 1 / 2).floor := by
    rw [Rat.le_floor_iff]
    generalize Quant.clamp01 q * (L : Rat) = y at *
    have : ((0 : Int) : Rat) = 0 := rfl
    rw [this]
    grind
  exact (Int.toNat_of_nonneg hn).symm

/-- the exact quantiser on a bit pattern: `nv` on NaN, the end codes on `±∞`, `qL` of the value otherwise -/
def specQ (nv L b : Nat) : Nat :=
  if isNaN b then nv else if isInf b then (if isNeg b then 0 else L) else Quant.qL L (toRat b)

theorem specQ_cast (L b : Nat) : ((specQ 0 L b : Nat) : Int) = specCode L b := by
  unfold specQ specCode
  rw [toCode_eq_qL]
  cases isNaN b <;> cases isInf b <;> cases isNeg b <;> rfl

theorem specQ_fin (nv L b : Nat) (hn : isNaN b = false) (hi : isInf b = false) :
    specQ nv L b = Quant.qL L (toRat b) := by
  unfold specQ; rw [hn, hi]; rfl

theorem specQ_negR (nv L b : Nat) (h : NegR b) : specQ nv L b = 0 := by
  have e : specQ nv L b = specQ 0 L b := by
    unfold specQ; rw [(negR_flags b h).1]; rfl
  have := specCode_negR L b h
  rw [← specQ_cast] at this
  rw [e]
  omega

theorem nat_of_int_ite {a c : Nat} {p : Prop} [Decidable p] (h : (a : Int) = (c : Int) + (if p then 1 else 0)) :
    a = c + (if p then 1 else 0) := by
  by_cases hp : p
  · rw [if_pos hp] at h ⊢; omega
  · rw [if_neg hp] at h ⊢; omega

theorem pval_one : pval 0x3F800000 = 2 ^ 149 := by decide +kernel

theorem qL_of_one_le (L b : Nat) (h1 : one ≤ b) (h2 : b < 0x7F800000) : Quant.qL L (toRat b) = L := by
  have hD : (2 : Nat) ^ 149 ≠ 0 := Nat.pos_iff_ne_zero.mp (Nat.two_pow_pos 149)
  have hp : 2 ^ 149 ≤ pval b := by rw [← pval_one]; exact pval_mono h1
  have := toCode_eq_qL L (toRat b)
  rw [toRat_pval b h2, toCode_mkRat L (pval b) (2 ^ 149) hD, codeR_def, if_pos hp] at this
  rw [toRat_pval b h2]
  omega

/-- `n8::from_f32`, `n16::from_f32` on every bit pattern -/
theorem sat_all {K L : Nat} {tbl : List Nat} (h : PipeQ K L L 0x7F800000 tbl) (b : Nat) (hb : b < 2 ^ 32) :
    pipe K half L b = specQ 0 L b + (if b ∈ devOf tbl then 1 else 0) := by
  have := pipe_half_all h b hb
  rw [← specQ_cast] at this
  exact nat_of_int_ite this

/-- `nK::from_f32` (`K = 2, 4, 5, 6, 10`) and the norm of `s8::from_uf32` on every bit pattern: `min` sends NaN and
everything above 1.0 to 1.0, whose result is the last code -/
theorem unorm_all {K cap L : Nat} {tbl : List Nat} (h : PipeQ K cap L 0x3F800001 tbl) (b : Nat) (hb : b < 2 ^ 32) :
    QuantBits.unorm K cap b = specQ L L b + (if b ∈ devOf tbl then 1 else 0) := by
  have hone : pipe K half cap one = L := h.hfull
  have neg : NegR b → pipe K half cap (fmin b one) = specQ L L b + (if b ∈ devOf tbl then 1 else 0) := by
    intro hN
    have hs : 0x80000000 ≤ b := by have := hN.1; simpa only [signBit] using this
    rw [fmin_of_negR b hN, pipe_of_negR K cap b h.hK h.hK0 hN, specQ_negR L L b hN, if_neg (h.not_dev b (by omega))]
  show pipe K half cap (fmin b one) = _
  rcases classify b hb with h1 | h1 | h1 | h1 | h1
  · obtain ⟨a1, a2, _, _, _⟩ := posfin b h1
    rw [specQ_fin L L b a1 a2]
    by_cases hle : b ≤ one
    · rw [fmin_of_le_one b hle]
      have := h.thr_main b (by simp only [one] at hle; omega)
      rw [toCode_eq_qL] at this
      exact nat_of_int_ite this
    · have hgt : 0x3F800000 < b := by simp only [one] at hle; omega
      rw [fmin_of_ge_one b (Nat.le_of_lt hgt) (show b ≤ 0x7F800000 by omega), hone,
        qL_of_one_le L b (by simp only [one]; omega) h1, if_neg (h.not_dev b (by omega)), Nat.add_zero]
  · subst h1
    rw [fmin_of_ge_one 0x7F800000 (by decide) (by decide), hone, if_neg (h.not_dev _ (by decide))]
    rfl
  · have := not_fin_of_nan b h1
    unfold specQ
    rw [h1, fmin_of_nan b h1, hone, if_neg (h.not_dev b (by omega))]
    rfl
  · exact neg h1.1
  · exact neg (h1 ▸ ⟨by decide, by decide⟩)

/-- on an exceptional pattern: positive, finite, below `top`; the code is one above the exact quantiser; it decodes
to MORE than half a step above the input, by at most the tie tolerance `2^-12/255` -/
theorem dev_q {K cap L top : Nat} {tbl : List Nat} (h : PipeQ K cap L top tbl) (hL : 0 < L) (b : Nat)
    (hm : b ∈ devOf tbl) :
    0 < b ∧ b + 1 < top ∧ pipe K half cap b = Quant.qL L (toRat b) + 1 ∧
    1 / (2 * (L : Rat)) < Quant.deqL L (pipe K half cap b) - Quant.clamp01 (toRat b) ∧
    Quant.deqL L (pipe K half cap b) - Quant.clamp01 (toRat b) ≤ 1 / (2 * (L : Rat)) + 1 / (4096 * 255) := by
  obtain ⟨h0, h1, h2, h3, _, h5⟩ := h.dev_facts b hm
  have htop := h.htop
  rw [toCode_eq_qL] at h1
  refine ⟨(h.dev_range hm).1, h0, by omega, ?_, ?_⟩
  · -- `toRat b < tie` and `code/L = tie + 1/(2L)`
    have hq0 : (0 : Rat) ≤ toRat b := by rw [toRat_pval b (by omega)]; exact mkRat_nonneg _ _
    have hq1 : toRat b ≤ 1 := by
      have hk := h.le (show b < top by omega)
      have hlt : ((2 * pipe K half cap b - 1 : Nat) : Rat) / ((2 * L : Nat) : Rat) ≤ 1 := by
        have : (1 : Rat) = ((1 : Nat) : Rat) / ((1 : Nat) : Rat) := by decide +kernel
        rw [this, natDiv_le_natDiv _ _ _ _ (by omega) (by decide)]
        omega
      generalize ((2 * pipe K half cap b - 1 : Nat) : Rat) / ((2 * L : Nat) : Rat) = tie at *
      grind
    rw [Quant.clamp01_of_mem hq0 hq1]
    unfold Quant.deqL
    rw [tie_half _ L h2 hL]
    generalize ((2 * pipe K half cap b - 1 : Nat) : Rat) / ((2 * L : Nat) : Rat) = tie at *
    generalize 1 / (2 * (L : Rat)) = hl
    grind
  · unfold admissible at h5
    have := (of_decide_eq_true h5).2
    rw [spec_clamp_eq] at this
    exact this

theorem dev_sat {K L : Nat} {tbl : List Nat} (h : PipeQ K L L 0x7F800000 tbl) (hL : 0 < L) (b : Nat)
    (hm : b ∈ devOf tbl) :
    0 < b ∧ b < 0x7F800000 ∧ pipe K half L b = Quant.qL L (toRat b) + 1 ∧
    1 / (2 * (L : Rat)) < Quant.deqL L (pipe K half L b) - Quant.clamp01 (toRat b) ∧
    Quant.deqL L (pipe K half L b) - Quant.clamp01 (toRat b) ≤ 1 / (2 * (L : Rat)) + 1 / (4096 * 255) := by
  obtain ⟨h0, h1, h2⟩ := dev_q h hL b hm
  exact ⟨h0, by omega, h2⟩

theorem dev_min {K cap L : Nat} {tbl : List Nat} (h : PipeQ K cap L 0x3F800001 tbl) (hL : 0 < L) (b : Nat)
    (hm : b ∈ devOf tbl) :
    0 < b ∧ b < 0x3F800000 ∧ QuantBits.unorm K cap b = Quant.qL L (toRat b) + 1 ∧
    1 / (2 * (L : Rat)) < Quant.deqL L (QuantBits.unorm K cap b) - Quant.clamp01 (toRat b) ∧
    Quant.deqL L (QuantBits.unorm K cap b) - Quant.clamp01 (toRat b) ≤ 1 / (2 * (L : Rat)) + 1 / (4096 * 255) := by
  obtain ⟨h0, h1, h2⟩ := dev_q h hL b hm
  have hu : QuantBits.unorm K cap b = pipe K half cap b := by
    unfold QuantBits.unorm
    rw [fmin_of_le_one b (by simp only [one]; omega)]
    rfl
  rw [hu]
  exact ⟨h0, by omega, h2⟩

/-- `v` is the quantiser's result on a finite `b`, given by `sat_all` or `unorm_all` -/
theorem pipe_half_step {K cap L top : Nat} {tbl : List Nat} (h : PipeQ K cap L top tbl) (hL : 0 < L) (b v nv : Nat)
    (hn : isNaN b = false) (hi : isInf b = false)
    (hall : v = specQ nv L b + (if b ∈ devOf tbl then 1 else 0)) :
    -(1 / (2 * (L : Rat))) ≤ Quant.deqL L v - Quant.clamp01 (toRat b) ∧
    Quant.deqL L v - Quant.clamp01 (toRat b) ≤
      1 / (2 * (L : Rat)) + (if b ∈ devOf tbl then 1 / (4096 * 255) else 0) := by
  rw [specQ_fin nv L b hn hi] at hall
  by_cases hm : b ∈ devOf tbl
  · obtain ⟨_, _, h1, h2, h3⟩ := dev_q h hL b hm
    rw [if_pos hm, ← h1] at hall
    rw [if_pos hm, hall]
    refine ⟨?_, h3⟩
    have hl : (0 : Rat) < 1 / (2 * (L : Rat)) := by
      rw [Rat.div_def]
      exact Rat.mul_pos (by decide) (Rat.inv_pos.mpr (Rat.mul_pos (by decide) (Rat.natCast_pos.mpr hL)))
    generalize 1 / (2 * (L : Rat)) = hl' at *
    generalize Quant.deqL L (pipe K half cap b) - Quant.clamp01 (toRat b) = d at *
    grind
  · rw [if_neg hm, Nat.add_zero] at hall
    rw [if_neg hm, hall, Rat.add_zero]
    have := Quant.qL_half_step L hL (toRat b)
    exact ⟨this.2, this.1⟩

theorem n8_eq_pipe (b : Nat) : n8 b = pipe 0x437F0000 half 255 b := rfl
theorem n16_eq_pipe (b : Nat) : n16 b = pipe 0x477FFF00 half 65535 b := rfl

theorem pipeQ_n2 : PipeQ k3 255 3 0x3F800001 N2.tbl :=
  PipeQ.of_fast (by decide) (by decide) (by decide) (by decide +kernel) N2.tbl_ok
theorem pipeQ_n4 : PipeQ k15 255 15 0x3F800001 N4.tbl :=
  PipeQ.of_fast (by decide) (by decide) (by decide) (by decide +kernel) N4.tbl_ok
theorem pipeQ_n5 : PipeQ k31 255 31 0x3F800001 N5.tbl :=
  PipeQ.of_fast (by decide) (by decide) (by decide) (by decide +kernel) N5.tbl_ok
theorem pipeQ_n6 : PipeQ k63 255 63 0x3F800001 N6.tbl :=
  PipeQ.of_fast (by decide) (by decide) (by decide) (by decide +kernel) N6.tbl_ok
theorem pipeQ_n10 : PipeQ k1023 65535 1023 0x3F800001 N10.tbl :=
  PipeQ.of_fast (by decide) (by decide) (by decide) (by decide +kernel) N10.tbl_ok
theorem pipeQ_s8 : PipeQ k254 255 254 0x3F800001 S8.tbl :=
  PipeQ.of_fast (by decide) (by decide) (by decide) (by decide +kernel) S8.tbl_ok

/-- the exception sets (patterns whose code is one above the exact quantiser) -/
def n2Dev : List Nat := devOf N2.tbl
def n4Dev : List Nat := devOf N4.tbl
def n5Dev : List Nat := devOf N5.tbl
def n6Dev : List Nat := devOf N6.tbl
def n8Dev : List Nat := devOf FpN8.tbl
def n10Dev : List Nat := devOf N10.tbl
def n16Dev : List Nat := devOf FpN16.tbl
def s8Dev : List Nat := devOf S8.tbl

theorem n2Dev_eq : n2Dev = [0x3E2AAAAA, 0x3F555555] := by decide +kernel
theorem n4Dev_eq : n4Dev = [0x3D088888, 0x3F111111, 0x3F222222, 0x3F333333, 0x3F444444, 0x3F555555, 0x3F666666,
    0x3F777777] := by decide +kernel
theorem n5Dev_length : n5Dev.length = 16 := devOf_length N5.tbl_ok
theorem n6Dev_length : n6Dev.length = 32 := devOf_length N6.tbl_ok
theorem n8Dev_length : n8Dev.length = 128 := devOf_length FpN8.tbl_ok
theorem n10Dev_length : n10Dev.length = 512 := devOf_length N10.tbl_ok
theorem s8Dev_length : s8Dev.length = 128 := devOf_length S8.tbl_ok
theorem n16Dev_length : n16Dev.length = 32768 := devOf_length FpN16.tbl_ok

end Dds.QuantF32
