/-
"Nearest" stated on integers alone, without `rnd`: an exact tie may go either way, so the statement does not
depend on which way the specification rounds it.
-/
import DdsModel.Proofs.BcFinite
namespace Dds.C03
open Dds Dds.Bc

/-- `2·|v·d − M·n| ≤ d`: `v` is a nearest integer to `M·n/d` -/
def Nearest (v n d M : Nat) : Prop := 2 * (v * d - M * n) ≤ d ∧ 2 * (M * n - v * d) ≤ d

instance (v n d M : Nat) : Decidable (Nearest v n d M) := by unfold Nearest; infer_instance

theorem rnd_nearest (M n d : Nat) (hd : 0 < d) : Nearest (BcSpec.rnd (M * frac n d)) n d M := by
  rw [rnd_frac M n d hd, Nat.mul_assoc 2 M n]
  unfold Nearest
  generalize M * n = x
  have h1 := Nat.div_mul_le_self (2 * x + d) (2 * d)
  have h2 := Nat.lt_div_mul_add (a := 2 * x + d) (b := 2 * d) (by omega)
  rw [Nat.mul_left_comm] at h1 h2
  generalize (2 * x + d) / (2 * d) * d = vd at h1 h2 ⊢
  omega

end Dds.C03
