/-
`fp::n16` / `n16::from_f32`: `(x * 65535.0 + 0.5) as u16`: threshold table, codes 32769 … 40960,
checked by kernel evaluation of `chkList` (`Proofs/F32Thr.lean`).  GENERATED by tools/gen_f32thr.py (the
script is not trusted: every entry is validated here).  Entry `2t + d`: `t` = first pattern whose result is ≥ k,
`d = 1` iff `t` is still below the exact tie `(2k−1)/(2·65535)` (its result is one code too high).
-/
import DdsModel.Proofs.F32Thr
namespace Dds.F32Thr.FpN16
-- the elaborator's default recursion depth does not suffice for a list literal of 2048 numerals
set_option maxRecDepth 100000

@[irreducible] def c16 : List Nat :=
  [2113929729, 2113930241, 2113930753, 2113931265, 2113931777, 2113932289, 2113932801, 2113933313, 2113933825,
   2113934337, 2113934849, 2113935361, 2113935873, 2113936385, 2113936897, 2113937409, 2113937921, 2113938433,
   2113938945, 2113939457, 2113939969, 2113940481, 2113940993, 2113941505, 2113942017, 2113942529, 2113943041,
   2113943553, 2113944065, 2113944577, 2113945089, 2113945601, 2113946113, 2113946625, 2113947137, 2113947649,
   2113948161, 2113948673, 2113949185, 2113949697, 2113950209, 2113950721, 2113951233, 2113951745, 2113952257,
   2113952769, 2113953281, 2113953793, 2113954305, 2113954817, 2113955329, 2113955841, 2113956353, 2113956865,
   2113957377, 2113957889, 2113958401, 2113958913, 2113959425, 2113959937, 2113960449, 2113960961, 2113961473,
   2113961985, 2113962497, 2113963009, 2113963521, 2113964033, 2113964545, 2113965057, 2113965569, 2113966081,
   2113966593, 2113967105, 2113967617, 2113968129, 2113968641, 2113969153, 2113969665, 2113970177, 2113970689,
   2113971201, 2113971713, 2113972225, 2113972737, 2113973249, 2113973761, 2113974273, 2113974785, 2113975297,
   2113975809, 2113976321, 2113976833, 2113977345, 2113977857, 2113978369, 2113978881, 2113979393, 2113979905,
   2113980417, 2113980929, 2113981441, 2113981953, 2113982465, 2113982977, 2113983489, 2113984001, 2113984513,
   2113985025, 2113985537, 2113986049, 2113986561, 2113987073, 2113987585, 2113988097, 2113988609, 2113989121,
   2113989633, 2113990145, 2113990657, 2113991169, 2113991681, 2113992193, 2113992705, 2113993217, 2113993729,
   2113994241, 2113994753, 2113995266, 2113995778, 2113996290, 2113996802, 2113997314, 2113997826, 2113998338,
   2113998850, 2113999362, 2113999874, 2114000386, 2114000898, 2114001410, 2114001922, 2114002434, 2114002946,
   2114003458, 2114003970, 2114004482, 2114004994, 2114005506, 2114006018, 2114006530, 2114007042, 2114007554,
   2114008066, 2114008578, 2114009090, 2114009602, 2114010114, 2114010626, 2114011138, 2114011650, 2114012162,
   2114012674, 2114013186, 2114013698, 2114014210, 2114014722, 2114015234, 2114015746, 2114016258, 2114016770,
   2114017282, 2114017794, 2114018306, 2114018818, 2114019330, 2114019842, 2114020354, 2114020866, 2114021378,
   2114021890, 2114022402, 2114022914, 2114023426, 2114023938, 2114024450, 2114024962, 2114025474, 2114025986,
   2114026498, 2114027010, 2114027522, 2114028034, 2114028546, 2114029058, 2114029570, 2114030082, 2114030594,
   2114031106, 2114031618, 2114032130, 2114032642, 2114033154, 2114033666, 2114034178, 2114034690, 2114035202,
   2114035714, 2114036226, 2114036738, 2114037250, 2114037762, 2114038274, 2114038786, 2114039298, 2114039810,
   2114040322, 2114040834, 2114041346, 2114041858, 2114042370, 2114042882, 2114043394, 2114043906, 2114044418,
   2114044930, 2114045442, 2114045954, 2114046466, 2114046978, 2114047490, 2114048002, 2114048514, 2114049026,
   2114049538, 2114050050, 2114050562, 2114051074, 2114051586, 2114052098, 2114052610, 2114053122, 2114053634,
   2114054146, 2114054658, 2114055170, 2114055682, 2114056194, 2114056706, 2114057218, 2114057730, 2114058242,
   2114058754, 2114059266, 2114059778, 2114060291, 2114060803, 2114061315, 2114061827, 2114062339, 2114062851,
   2114063363, 2114063875, 2114064387, 2114064899, 2114065411, 2114065923, 2114066435, 2114066947, 2114067459,
   2114067971, 2114068483, 2114068995, 2114069507, 2114070019, 2114070531, 2114071043, 2114071555, 2114072067,
   2114072579, 2114073091, 2114073603, 2114074115, 2114074627, 2114075139, 2114075651, 2114076163, 2114076675,
   2114077187, 2114077699, 2114078211, 2114078723, 2114079235, 2114079747, 2114080259, 2114080771, 2114081283,
   2114081795, 2114082307, 2114082819, 2114083331, 2114083843, 2114084355, 2114084867, 2114085379, 2114085891,
   2114086403, 2114086915, 2114087427, 2114087939, 2114088451, 2114088963, 2114089475, 2114089987, 2114090499,
   2114091011, 2114091523, 2114092035, 2114092547, 2114093059, 2114093571, 2114094083, 2114094595, 2114095107,
   2114095619, 2114096131, 2114096643, 2114097155, 2114097667, 2114098179, 2114098691, 2114099203, 2114099715,
   2114100227, 2114100739, 2114101251, 2114101763, 2114102275, 2114102787, 2114103299, 2114103811, 2114104323,
   2114104835, 2114105347, 2114105859, 2114106371, 2114106883, 2114107395, 2114107907, 2114108419, 2114108931,
   2114109443, 2114109955, 2114110467, 2114110979, 2114111491, 2114112003, 2114112515, 2114113027, 2114113539,
   2114114051, 2114114563, 2114115075, 2114115587, 2114116099, 2114116611, 2114117123, 2114117635, 2114118147,
   2114118659, 2114119171, 2114119683, 2114120195, 2114120707, 2114121219, 2114121731, 2114122243, 2114122755,
   2114123267, 2114123779, 2114124291, 2114124803, 2114125315, 2114125828, 2114126340, 2114126852, 2114127364,
   2114127876, 2114128388, 2114128900, 2114129412, 2114129924, 2114130436, 2114130948, 2114131460, 2114131972,
   2114132484, 2114132996, 2114133508, 2114134020, 2114134532, 2114135044, 2114135556, 2114136068, 2114136580,
   2114137092, 2114137604, 2114138116, 2114138628, 2114139140, 2114139652, 2114140164, 2114140676, 2114141188,
   2114141700, 2114142212, 2114142724, 2114143236, 2114143748, 2114144260, 2114144772, 2114145284, 2114145796,
   2114146308, 2114146820, 2114147332, 2114147844, 2114148356, 2114148868, 2114149380, 2114149892, 2114150404,
   2114150916, 2114151428, 2114151940, 2114152452, 2114152964, 2114153476, 2114153988, 2114154500, 2114155012,
   2114155524, 2114156036, 2114156548, 2114157060, 2114157572, 2114158084, 2114158596, 2114159108, 2114159620,
   2114160132, 2114160644, 2114161156, 2114161668, 2114162180, 2114162692, 2114163204, 2114163716, 2114164228,
   2114164740, 2114165252, 2114165764, 2114166276, 2114166788, 2114167300, 2114167812, 2114168324, 2114168836,
   2114169348, 2114169860, 2114170372, 2114170884, 2114171396, 2114171908, 2114172420, 2114172932, 2114173444,
   2114173956, 2114174468, 2114174980, 2114175492, 2114176004, 2114176516, 2114177028, 2114177540, 2114178052,
   2114178564, 2114179076, 2114179588, 2114180100, 2114180612, 2114181124, 2114181636, 2114182148, 2114182660,
   2114183172, 2114183684, 2114184196, 2114184708, 2114185220, 2114185732, 2114186244, 2114186756, 2114187268,
   2114187780, 2114188292, 2114188804, 2114189316, 2114189828, 2114190340, 2114190852, 2114191365, 2114191877,
   2114192389, 2114192901, 2114193413, 2114193925, 2114194437, 2114194949, 2114195461, 2114195973, 2114196485,
   2114196997, 2114197509, 2114198021, 2114198533, 2114199045, 2114199557, 2114200069, 2114200581, 2114201093,
   2114201605, 2114202117, 2114202629, 2114203141, 2114203653, 2114204165, 2114204677, 2114205189, 2114205701,
   2114206213, 2114206725, 2114207237, 2114207749, 2114208261, 2114208773, 2114209285, 2114209797, 2114210309,
   2114210821, 2114211333, 2114211845, 2114212357, 2114212869, 2114213381, 2114213893, 2114214405, 2114214917,
   2114215429, 2114215941, 2114216453, 2114216965, 2114217477, 2114217989, 2114218501, 2114219013, 2114219525,
   2114220037, 2114220549, 2114221061, 2114221573, 2114222085, 2114222597, 2114223109, 2114223621, 2114224133,
   2114224645, 2114225157, 2114225669, 2114226181, 2114226693, 2114227205, 2114227717, 2114228229, 2114228741,
   2114229253, 2114229765, 2114230277, 2114230789, 2114231301, 2114231813, 2114232325, 2114232837, 2114233349,
   2114233861, 2114234373, 2114234885, 2114235397, 2114235909, 2114236421, 2114236933, 2114237445, 2114237957,
   2114238469, 2114238981, 2114239493, 2114240005, 2114240517, 2114241029, 2114241541, 2114242053, 2114242565,
   2114243077, 2114243589, 2114244101, 2114244613, 2114245125, 2114245637, 2114246149, 2114246661, 2114247173,
   2114247685, 2114248197, 2114248709, 2114249221, 2114249733, 2114250245, 2114250757, 2114251269, 2114251781,
   2114252293, 2114252805, 2114253317, 2114253829, 2114254341, 2114254853, 2114255365, 2114255877, 2114256389,
   2114256902, 2114257414, 2114257926, 2114258438, 2114258950, 2114259462, 2114259974, 2114260486, 2114260998,
   2114261510, 2114262022, 2114262534, 2114263046, 2114263558, 2114264070, 2114264582, 2114265094, 2114265606,
   2114266118, 2114266630, 2114267142, 2114267654, 2114268166, 2114268678, 2114269190, 2114269702, 2114270214,
   2114270726, 2114271238, 2114271750, 2114272262, 2114272774, 2114273286, 2114273798, 2114274310, 2114274822,
   2114275334, 2114275846, 2114276358, 2114276870, 2114277382, 2114277894, 2114278406, 2114278918, 2114279430,
   2114279942, 2114280454, 2114280966, 2114281478, 2114281990, 2114282502, 2114283014, 2114283526, 2114284038,
   2114284550, 2114285062, 2114285574, 2114286086, 2114286598, 2114287110, 2114287622, 2114288134, 2114288646,
   2114289158, 2114289670, 2114290182, 2114290694, 2114291206, 2114291718, 2114292230, 2114292742, 2114293254,
   2114293766, 2114294278, 2114294790, 2114295302, 2114295814, 2114296326, 2114296838, 2114297350, 2114297862,
   2114298374, 2114298886, 2114299398, 2114299910, 2114300422, 2114300934, 2114301446, 2114301958, 2114302470,
   2114302982, 2114303494, 2114304006, 2114304518, 2114305030, 2114305542, 2114306054, 2114306566, 2114307078,
   2114307590, 2114308102, 2114308614, 2114309126, 2114309638, 2114310150, 2114310662, 2114311174, 2114311686,
   2114312198, 2114312710, 2114313222, 2114313734, 2114314246, 2114314758, 2114315270, 2114315782, 2114316294,
   2114316806, 2114317318, 2114317830, 2114318342, 2114318854, 2114319366, 2114319878, 2114320390, 2114320902,
   2114321414, 2114321926, 2114322439, 2114322951, 2114323463, 2114323975, 2114324487, 2114324999, 2114325511,
   2114326023, 2114326535, 2114327047, 2114327559, 2114328071, 2114328583, 2114329095, 2114329607, 2114330119,
   2114330631, 2114331143, 2114331655, 2114332167, 2114332679, 2114333191, 2114333703, 2114334215, 2114334727,
   2114335239, 2114335751, 2114336263, 2114336775, 2114337287, 2114337799, 2114338311, 2114338823, 2114339335,
   2114339847, 2114340359, 2114340871, 2114341383, 2114341895, 2114342407, 2114342919, 2114343431, 2114343943,
   2114344455, 2114344967, 2114345479, 2114345991, 2114346503, 2114347015, 2114347527, 2114348039, 2114348551,
   2114349063, 2114349575, 2114350087, 2114350599, 2114351111, 2114351623, 2114352135, 2114352647, 2114353159,
   2114353671, 2114354183, 2114354695, 2114355207, 2114355719, 2114356231, 2114356743, 2114357255, 2114357767,
   2114358279, 2114358791, 2114359303, 2114359815, 2114360327, 2114360839, 2114361351, 2114361863, 2114362375,
   2114362887, 2114363399, 2114363911, 2114364423, 2114364935, 2114365447, 2114365959, 2114366471, 2114366983,
   2114367495, 2114368007, 2114368519, 2114369031, 2114369543, 2114370055, 2114370567, 2114371079, 2114371591,
   2114372103, 2114372615, 2114373127, 2114373639, 2114374151, 2114374663, 2114375175, 2114375687, 2114376199,
   2114376711, 2114377223, 2114377735, 2114378247, 2114378759, 2114379271, 2114379783, 2114380295, 2114380807,
   2114381319, 2114381831, 2114382343, 2114382855, 2114383367, 2114383879, 2114384391, 2114384903, 2114385415,
   2114385927, 2114386439, 2114386951, 2114387463, 2114387976, 2114388488, 2114389000, 2114389512, 2114390024,
   2114390536, 2114391048, 2114391560, 2114392072, 2114392584, 2114393096, 2114393608, 2114394120, 2114394632,
   2114395144, 2114395656, 2114396168, 2114396680, 2114397192, 2114397704, 2114398216, 2114398728, 2114399240,
   2114399752, 2114400264, 2114400776, 2114401288, 2114401800, 2114402312, 2114402824, 2114403336, 2114403848,
   2114404360, 2114404872, 2114405384, 2114405896, 2114406408, 2114406920, 2114407432, 2114407944, 2114408456,
   2114408968, 2114409480, 2114409992, 2114410504, 2114411016, 2114411528, 2114412040, 2114412552, 2114413064,
   2114413576, 2114414088, 2114414600, 2114415112, 2114415624, 2114416136, 2114416648, 2114417160, 2114417672,
   2114418184, 2114418696, 2114419208, 2114419720, 2114420232, 2114420744, 2114421256, 2114421768, 2114422280,
   2114422792, 2114423304, 2114423816, 2114424328, 2114424840, 2114425352, 2114425864, 2114426376, 2114426888,
   2114427400, 2114427912, 2114428424, 2114428936, 2114429448, 2114429960, 2114430472, 2114430984, 2114431496,
   2114432008, 2114432520, 2114433032, 2114433544, 2114434056, 2114434568, 2114435080, 2114435592, 2114436104,
   2114436616, 2114437128, 2114437640, 2114438152, 2114438664, 2114439176, 2114439688, 2114440200, 2114440712,
   2114441224, 2114441736, 2114442248, 2114442760, 2114443272, 2114443784, 2114444296, 2114444808, 2114445320,
   2114445832, 2114446344, 2114446856, 2114447368, 2114447880, 2114448392, 2114448904, 2114449416, 2114449928,
   2114450440, 2114450952, 2114451464, 2114451976, 2114452488, 2114453000, 2114453513, 2114454025, 2114454537,
   2114455049, 2114455561, 2114456073, 2114456585, 2114457097, 2114457609, 2114458121, 2114458633, 2114459145,
   2114459657, 2114460169, 2114460681, 2114461193, 2114461705, 2114462217, 2114462729, 2114463241, 2114463753,
   2114464265, 2114464777, 2114465289, 2114465801, 2114466313, 2114466825, 2114467337, 2114467849, 2114468361,
   2114468873, 2114469385, 2114469897, 2114470409, 2114470921, 2114471433, 2114471945, 2114472457, 2114472969,
   2114473481, 2114473993, 2114474505, 2114475017, 2114475529, 2114476041, 2114476553, 2114477065, 2114477577,
   2114478089, 2114478601, 2114479113, 2114479625, 2114480137, 2114480649, 2114481161, 2114481673, 2114482185,
   2114482697, 2114483209, 2114483721, 2114484233, 2114484745, 2114485257, 2114485769, 2114486281, 2114486793,
   2114487305, 2114487817, 2114488329, 2114488841, 2114489353, 2114489865, 2114490377, 2114490889, 2114491401,
   2114491913, 2114492425, 2114492937, 2114493449, 2114493961, 2114494473, 2114494985, 2114495497, 2114496009,
   2114496521, 2114497033, 2114497545, 2114498057, 2114498569, 2114499081, 2114499593, 2114500105, 2114500617,
   2114501129, 2114501641, 2114502153, 2114502665, 2114503177, 2114503689, 2114504201, 2114504713, 2114505225,
   2114505737, 2114506249, 2114506761, 2114507273, 2114507785, 2114508297, 2114508809, 2114509321, 2114509833,
   2114510345, 2114510857, 2114511369, 2114511881, 2114512393, 2114512905, 2114513417, 2114513929, 2114514441,
   2114514953, 2114515465, 2114515977, 2114516489, 2114517001, 2114517513, 2114518025, 2114518537, 2114519050,
   2114519562, 2114520074, 2114520586, 2114521098, 2114521610, 2114522122, 2114522634, 2114523146, 2114523658,
   2114524170, 2114524682, 2114525194, 2114525706, 2114526218, 2114526730, 2114527242, 2114527754, 2114528266,
   2114528778, 2114529290, 2114529802, 2114530314, 2114530826, 2114531338, 2114531850, 2114532362, 2114532874,
   2114533386, 2114533898, 2114534410, 2114534922, 2114535434, 2114535946, 2114536458, 2114536970, 2114537482,
   2114537994, 2114538506, 2114539018, 2114539530, 2114540042, 2114540554, 2114541066, 2114541578, 2114542090,
   2114542602, 2114543114, 2114543626, 2114544138, 2114544650, 2114545162, 2114545674, 2114546186, 2114546698,
   2114547210, 2114547722, 2114548234, 2114548746, 2114549258, 2114549770, 2114550282, 2114550794, 2114551306,
   2114551818, 2114552330, 2114552842, 2114553354, 2114553866, 2114554378, 2114554890, 2114555402, 2114555914,
   2114556426, 2114556938, 2114557450, 2114557962, 2114558474, 2114558986, 2114559498, 2114560010, 2114560522,
   2114561034, 2114561546, 2114562058, 2114562570, 2114563082, 2114563594, 2114564106, 2114564618, 2114565130,
   2114565642, 2114566154, 2114566666, 2114567178, 2114567690, 2114568202, 2114568714, 2114569226, 2114569738,
   2114570250, 2114570762, 2114571274, 2114571786, 2114572298, 2114572810, 2114573322, 2114573834, 2114574346,
   2114574858, 2114575370, 2114575882, 2114576394, 2114576906, 2114577418, 2114577930, 2114578442, 2114578954,
   2114579466, 2114579978, 2114580490, 2114581002, 2114581514, 2114582026, 2114582538, 2114583050, 2114583562,
   2114584074, 2114584587, 2114585099, 2114585611, 2114586123, 2114586635, 2114587147, 2114587659, 2114588171,
   2114588683, 2114589195, 2114589707, 2114590219, 2114590731, 2114591243, 2114591755, 2114592267, 2114592779,
   2114593291, 2114593803, 2114594315, 2114594827, 2114595339, 2114595851, 2114596363, 2114596875, 2114597387,
   2114597899, 2114598411, 2114598923, 2114599435, 2114599947, 2114600459, 2114600971, 2114601483, 2114601995,
   2114602507, 2114603019, 2114603531, 2114604043, 2114604555, 2114605067, 2114605579, 2114606091, 2114606603,
   2114607115, 2114607627, 2114608139, 2114608651, 2114609163, 2114609675, 2114610187, 2114610699, 2114611211,
   2114611723, 2114612235, 2114612747, 2114613259, 2114613771, 2114614283, 2114614795, 2114615307, 2114615819,
   2114616331, 2114616843, 2114617355, 2114617867, 2114618379, 2114618891, 2114619403, 2114619915, 2114620427,
   2114620939, 2114621451, 2114621963, 2114622475, 2114622987, 2114623499, 2114624011, 2114624523, 2114625035,
   2114625547, 2114626059, 2114626571, 2114627083, 2114627595, 2114628107, 2114628619, 2114629131, 2114629643,
   2114630155, 2114630667, 2114631179, 2114631691, 2114632203, 2114632715, 2114633227, 2114633739, 2114634251,
   2114634763, 2114635275, 2114635787, 2114636299, 2114636811, 2114637323, 2114637835, 2114638347, 2114638859,
   2114639371, 2114639883, 2114640395, 2114640907, 2114641419, 2114641931, 2114642443, 2114642955, 2114643467,
   2114643979, 2114644491, 2114645003, 2114645515, 2114646027, 2114646539, 2114647051, 2114647563, 2114648075,
   2114648587, 2114649099, 2114649611, 2114650124, 2114650636, 2114651148, 2114651660, 2114652172, 2114652684,
   2114653196, 2114653708, 2114654220, 2114654732, 2114655244, 2114655756, 2114656268, 2114656780, 2114657292,
   2114657804, 2114658316, 2114658828, 2114659340, 2114659852, 2114660364, 2114660876, 2114661388, 2114661900,
   2114662412, 2114662924, 2114663436, 2114663948, 2114664460, 2114664972, 2114665484, 2114665996, 2114666508,
   2114667020, 2114667532, 2114668044, 2114668556, 2114669068, 2114669580, 2114670092, 2114670604, 2114671116,
   2114671628, 2114672140, 2114672652, 2114673164, 2114673676, 2114674188, 2114674700, 2114675212, 2114675724,
   2114676236, 2114676748, 2114677260, 2114677772, 2114678284, 2114678796, 2114679308, 2114679820, 2114680332,
   2114680844, 2114681356, 2114681868, 2114682380, 2114682892, 2114683404, 2114683916, 2114684428, 2114684940,
   2114685452, 2114685964, 2114686476, 2114686988, 2114687500, 2114688012, 2114688524, 2114689036, 2114689548,
   2114690060, 2114690572, 2114691084, 2114691596, 2114692108, 2114692620, 2114693132, 2114693644, 2114694156,
   2114694668, 2114695180, 2114695692, 2114696204, 2114696716, 2114697228, 2114697740, 2114698252, 2114698764,
   2114699276, 2114699788, 2114700300, 2114700812, 2114701324, 2114701836, 2114702348, 2114702860, 2114703372,
   2114703884, 2114704396, 2114704908, 2114705420, 2114705932, 2114706444, 2114706956, 2114707468, 2114707980,
   2114708492, 2114709004, 2114709516, 2114710028, 2114710540, 2114711052, 2114711564, 2114712076, 2114712588,
   2114713100, 2114713612, 2114714124, 2114714636, 2114715148, 2114715661, 2114716173, 2114716685, 2114717197,
   2114717709, 2114718221, 2114718733, 2114719245, 2114719757, 2114720269, 2114720781, 2114721293, 2114721805,
   2114722317, 2114722829, 2114723341, 2114723853, 2114724365, 2114724877, 2114725389, 2114725901, 2114726413,
   2114726925, 2114727437, 2114727949, 2114728461, 2114728973, 2114729485, 2114729997, 2114730509, 2114731021,
   2114731533, 2114732045, 2114732557, 2114733069, 2114733581, 2114734093, 2114734605, 2114735117, 2114735629,
   2114736141, 2114736653, 2114737165, 2114737677, 2114738189, 2114738701, 2114739213, 2114739725, 2114740237,
   2114740749, 2114741261, 2114741773, 2114742285, 2114742797, 2114743309, 2114743821, 2114744333, 2114744845,
   2114745357, 2114745869, 2114746381, 2114746893, 2114747405, 2114747917, 2114748429, 2114748941, 2114749453,
   2114749965, 2114750477, 2114750989, 2114751501, 2114752013, 2114752525, 2114753037, 2114753549, 2114754061,
   2114754573, 2114755085, 2114755597, 2114756109, 2114756621, 2114757133, 2114757645, 2114758157, 2114758669,
   2114759181, 2114759693, 2114760205, 2114760717, 2114761229, 2114761741, 2114762253, 2114762765, 2114763277,
   2114763789, 2114764301, 2114764813, 2114765325, 2114765837, 2114766349, 2114766861, 2114767373, 2114767885,
   2114768397, 2114768909, 2114769421, 2114769933, 2114770445, 2114770957, 2114771469, 2114771981, 2114772493,
   2114773005, 2114773517, 2114774029, 2114774541, 2114775053, 2114775565, 2114776077, 2114776589, 2114777101,
   2114777613, 2114778125, 2114778637, 2114779149, 2114779661, 2114780173, 2114780685, 2114781198, 2114781710,
   2114782222, 2114782734, 2114783246, 2114783758, 2114784270, 2114784782, 2114785294, 2114785806, 2114786318,
   2114786830, 2114787342, 2114787854, 2114788366, 2114788878, 2114789390, 2114789902, 2114790414, 2114790926,
   2114791438, 2114791950, 2114792462, 2114792974, 2114793486, 2114793998, 2114794510, 2114795022, 2114795534,
   2114796046, 2114796558, 2114797070, 2114797582, 2114798094, 2114798606, 2114799118, 2114799630, 2114800142,
   2114800654, 2114801166, 2114801678, 2114802190, 2114802702, 2114803214, 2114803726, 2114804238, 2114804750,
   2114805262, 2114805774, 2114806286, 2114806798, 2114807310, 2114807822, 2114808334, 2114808846, 2114809358,
   2114809870, 2114810382, 2114810894, 2114811406, 2114811918, 2114812430, 2114812942, 2114813454, 2114813966,
   2114814478, 2114814990, 2114815502, 2114816014, 2114816526, 2114817038, 2114817550, 2114818062, 2114818574,
   2114819086, 2114819598, 2114820110, 2114820622, 2114821134, 2114821646, 2114822158, 2114822670, 2114823182,
   2114823694, 2114824206, 2114824718, 2114825230, 2114825742, 2114826254, 2114826766, 2114827278, 2114827790,
   2114828302, 2114828814, 2114829326, 2114829838, 2114830350, 2114830862, 2114831374, 2114831886, 2114832398,
   2114832910, 2114833422, 2114833934, 2114834446, 2114834958, 2114835470, 2114835982, 2114836494, 2114837006,
   2114837518, 2114838030, 2114838542, 2114839054, 2114839566, 2114840078, 2114840590, 2114841102, 2114841614,
   2114842126, 2114842638, 2114843150, 2114843662, 2114844174, 2114844686, 2114845198, 2114845710, 2114846222,
   2114846735, 2114847247, 2114847759, 2114848271, 2114848783, 2114849295, 2114849807, 2114850319, 2114850831,
   2114851343, 2114851855, 2114852367, 2114852879, 2114853391, 2114853903, 2114854415, 2114854927, 2114855439,
   2114855951, 2114856463, 2114856975, 2114857487, 2114857999, 2114858511, 2114859023, 2114859535, 2114860047,
   2114860559, 2114861071, 2114861583, 2114862095, 2114862607, 2114863119, 2114863631, 2114864143, 2114864655,
   2114865167, 2114865679, 2114866191, 2114866703, 2114867215, 2114867727, 2114868239, 2114868751, 2114869263,
   2114869775, 2114870287, 2114870799, 2114871311, 2114871823, 2114872335, 2114872847, 2114873359, 2114873871,
   2114874383, 2114874895, 2114875407, 2114875919, 2114876431, 2114876943, 2114877455, 2114877967, 2114878479,
   2114878991, 2114879503, 2114880015, 2114880527, 2114881039, 2114881551, 2114882063, 2114882575, 2114883087,
   2114883599, 2114884111, 2114884623, 2114885135, 2114885647, 2114886159, 2114886671, 2114887183, 2114887695,
   2114888207, 2114888719, 2114889231, 2114889743, 2114890255, 2114890767, 2114891279, 2114891791, 2114892303,
   2114892815, 2114893327, 2114893839, 2114894351, 2114894863, 2114895375, 2114895887, 2114896399, 2114896911,
   2114897423, 2114897935, 2114898447, 2114898959, 2114899471, 2114899983, 2114900495, 2114901007, 2114901519,
   2114902031, 2114902543, 2114903055, 2114903567, 2114904079, 2114904591, 2114905103, 2114905615, 2114906127,
   2114906639, 2114907151, 2114907663, 2114908175, 2114908687, 2114909199, 2114909711, 2114910223, 2114910735,
   2114911247, 2114911759, 2114912272, 2114912784, 2114913296, 2114913808, 2114914320, 2114914832, 2114915344,
   2114915856, 2114916368, 2114916880, 2114917392, 2114917904, 2114918416, 2114918928, 2114919440, 2114919952,
   2114920464, 2114920976, 2114921488, 2114922000, 2114922512, 2114923024, 2114923536, 2114924048, 2114924560,
   2114925072, 2114925584, 2114926096, 2114926608, 2114927120, 2114927632, 2114928144, 2114928656, 2114929168,
   2114929680, 2114930192, 2114930704, 2114931216, 2114931728, 2114932240, 2114932752, 2114933264, 2114933776,
   2114934288, 2114934800, 2114935312, 2114935824, 2114936336, 2114936848, 2114937360, 2114937872, 2114938384,
   2114938896, 2114939408, 2114939920, 2114940432, 2114940944, 2114941456, 2114941968, 2114942480, 2114942992,
   2114943504, 2114944016, 2114944528, 2114945040, 2114945552, 2114946064, 2114946576, 2114947088, 2114947600,
   2114948112, 2114948624, 2114949136, 2114949648, 2114950160, 2114950672, 2114951184, 2114951696, 2114952208,
   2114952720, 2114953232, 2114953744, 2114954256, 2114954768, 2114955280, 2114955792, 2114956304, 2114956816,
   2114957328, 2114957840, 2114958352, 2114958864, 2114959376, 2114959888, 2114960400, 2114960912, 2114961424,
   2114961936, 2114962448, 2114962960, 2114963472, 2114963984, 2114964496, 2114965008, 2114965520, 2114966032,
   2114966544, 2114967056, 2114967568, 2114968080, 2114968592, 2114969104, 2114969616, 2114970128, 2114970640,
   2114971152, 2114971664, 2114972176, 2114972688, 2114973200, 2114973712, 2114974224, 2114974736, 2114975248,
   2114975760, 2114976272, 2114976784, 2114977296, 2114977809]
theorem c16_ok :
    chkList (pipeF 1199570688 65535) 65535 2139095040 32769 1056964608 16384 c16
      34817 1057488905 17409 = true := by decide +kernel
theorem c16_len : 32769 + c16.length = 34817 := (chkList_end c16_ok).1
theorem c16_last : lastS 1056964608 c16 = 1057488905 := (chkList_end c16_ok).2.1

@[irreducible] def c17 : List Nat :=
  [2114978321, 2114978833, 2114979345, 2114979857, 2114980369, 2114980881, 2114981393, 2114981905, 2114982417,
   2114982929, 2114983441, 2114983953, 2114984465, 2114984977, 2114985489, 2114986001, 2114986513, 2114987025,
   2114987537, 2114988049, 2114988561, 2114989073, 2114989585, 2114990097, 2114990609, 2114991121, 2114991633,
   2114992145, 2114992657, 2114993169, 2114993681, 2114994193, 2114994705, 2114995217, 2114995729, 2114996241,
   2114996753, 2114997265, 2114997777, 2114998289, 2114998801, 2114999313, 2114999825, 2115000337, 2115000849,
   2115001361, 2115001873, 2115002385, 2115002897, 2115003409, 2115003921, 2115004433, 2115004945, 2115005457,
   2115005969, 2115006481, 2115006993, 2115007505, 2115008017, 2115008529, 2115009041, 2115009553, 2115010065,
   2115010577, 2115011089, 2115011601, 2115012113, 2115012625, 2115013137, 2115013649, 2115014161, 2115014673,
   2115015185, 2115015697, 2115016209, 2115016721, 2115017233, 2115017745, 2115018257, 2115018769, 2115019281,
   2115019793, 2115020305, 2115020817, 2115021329, 2115021841, 2115022353, 2115022865, 2115023377, 2115023889,
   2115024401, 2115024913, 2115025425, 2115025937, 2115026449, 2115026961, 2115027473, 2115027985, 2115028497,
   2115029009, 2115029521, 2115030033, 2115030545, 2115031057, 2115031569, 2115032081, 2115032593, 2115033105,
   2115033617, 2115034129, 2115034641, 2115035153, 2115035665, 2115036177, 2115036689, 2115037201, 2115037713,
   2115038225, 2115038737, 2115039249, 2115039761, 2115040273, 2115040785, 2115041297, 2115041809, 2115042321,
   2115042833, 2115043346, 2115043858, 2115044370, 2115044882, 2115045394, 2115045906, 2115046418, 2115046930,
   2115047442, 2115047954, 2115048466, 2115048978, 2115049490, 2115050002, 2115050514, 2115051026, 2115051538,
   2115052050, 2115052562, 2115053074, 2115053586, 2115054098, 2115054610, 2115055122, 2115055634, 2115056146,
   2115056658, 2115057170, 2115057682, 2115058194, 2115058706, 2115059218, 2115059730, 2115060242, 2115060754,
   2115061266, 2115061778, 2115062290, 2115062802, 2115063314, 2115063826, 2115064338, 2115064850, 2115065362,
   2115065874, 2115066386, 2115066898, 2115067410, 2115067922, 2115068434, 2115068946, 2115069458, 2115069970,
   2115070482, 2115070994, 2115071506, 2115072018, 2115072530, 2115073042, 2115073554, 2115074066, 2115074578,
   2115075090, 2115075602, 2115076114, 2115076626, 2115077138, 2115077650, 2115078162, 2115078674, 2115079186,
   2115079698, 2115080210, 2115080722, 2115081234, 2115081746, 2115082258, 2115082770, 2115083282, 2115083794,
   2115084306, 2115084818, 2115085330, 2115085842, 2115086354, 2115086866, 2115087378, 2115087890, 2115088402,
   2115088914, 2115089426, 2115089938, 2115090450, 2115090962, 2115091474, 2115091986, 2115092498, 2115093010,
   2115093522, 2115094034, 2115094546, 2115095058, 2115095570, 2115096082, 2115096594, 2115097106, 2115097618,
   2115098130, 2115098642, 2115099154, 2115099666, 2115100178, 2115100690, 2115101202, 2115101714, 2115102226,
   2115102738, 2115103250, 2115103762, 2115104274, 2115104786, 2115105298, 2115105810, 2115106322, 2115106834,
   2115107346, 2115107858, 2115108370, 2115108883, 2115109395, 2115109907, 2115110419, 2115110931, 2115111443,
   2115111955, 2115112467, 2115112979, 2115113491, 2115114003, 2115114515, 2115115027, 2115115539, 2115116051,
   2115116563, 2115117075, 2115117587, 2115118099, 2115118611, 2115119123, 2115119635, 2115120147, 2115120659,
   2115121171, 2115121683, 2115122195, 2115122707, 2115123219, 2115123731, 2115124243, 2115124755, 2115125267,
   2115125779, 2115126291, 2115126803, 2115127315, 2115127827, 2115128339, 2115128851, 2115129363, 2115129875,
   2115130387, 2115130899, 2115131411, 2115131923, 2115132435, 2115132947, 2115133459, 2115133971, 2115134483,
   2115134995, 2115135507, 2115136019, 2115136531, 2115137043, 2115137555, 2115138067, 2115138579, 2115139091,
   2115139603, 2115140115, 2115140627, 2115141139, 2115141651, 2115142163, 2115142675, 2115143187, 2115143699,
   2115144211, 2115144723, 2115145235, 2115145747, 2115146259, 2115146771, 2115147283, 2115147795, 2115148307,
   2115148819, 2115149331, 2115149843, 2115150355, 2115150867, 2115151379, 2115151891, 2115152403, 2115152915,
   2115153427, 2115153939, 2115154451, 2115154963, 2115155475, 2115155987, 2115156499, 2115157011, 2115157523,
   2115158035, 2115158547, 2115159059, 2115159571, 2115160083, 2115160595, 2115161107, 2115161619, 2115162131,
   2115162643, 2115163155, 2115163667, 2115164179, 2115164691, 2115165203, 2115165715, 2115166227, 2115166739,
   2115167251, 2115167763, 2115168275, 2115168787, 2115169299, 2115169811, 2115170323, 2115170835, 2115171347,
   2115171859, 2115172371, 2115172883, 2115173395, 2115173907, 2115174420, 2115174932, 2115175444, 2115175956,
   2115176468, 2115176980, 2115177492, 2115178004, 2115178516, 2115179028, 2115179540, 2115180052, 2115180564,
   2115181076, 2115181588, 2115182100, 2115182612, 2115183124, 2115183636, 2115184148, 2115184660, 2115185172,
   2115185684, 2115186196, 2115186708, 2115187220, 2115187732, 2115188244, 2115188756, 2115189268, 2115189780,
   2115190292, 2115190804, 2115191316, 2115191828, 2115192340, 2115192852, 2115193364, 2115193876, 2115194388,
   2115194900, 2115195412, 2115195924, 2115196436, 2115196948, 2115197460, 2115197972, 2115198484, 2115198996,
   2115199508, 2115200020, 2115200532, 2115201044, 2115201556, 2115202068, 2115202580, 2115203092, 2115203604,
   2115204116, 2115204628, 2115205140, 2115205652, 2115206164, 2115206676, 2115207188, 2115207700, 2115208212,
   2115208724, 2115209236, 2115209748, 2115210260, 2115210772, 2115211284, 2115211796, 2115212308, 2115212820,
   2115213332, 2115213844, 2115214356, 2115214868, 2115215380, 2115215892, 2115216404, 2115216916, 2115217428,
   2115217940, 2115218452, 2115218964, 2115219476, 2115219988, 2115220500, 2115221012, 2115221524, 2115222036,
   2115222548, 2115223060, 2115223572, 2115224084, 2115224596, 2115225108, 2115225620, 2115226132, 2115226644,
   2115227156, 2115227668, 2115228180, 2115228692, 2115229204, 2115229716, 2115230228, 2115230740, 2115231252,
   2115231764, 2115232276, 2115232788, 2115233300, 2115233812, 2115234324, 2115234836, 2115235348, 2115235860,
   2115236372, 2115236884, 2115237396, 2115237908, 2115238420, 2115238932, 2115239444, 2115239957, 2115240469,
   2115240981, 2115241493, 2115242005, 2115242517, 2115243029, 2115243541, 2115244053, 2115244565, 2115245077,
   2115245589, 2115246101, 2115246613, 2115247125, 2115247637, 2115248149, 2115248661, 2115249173, 2115249685,
   2115250197, 2115250709, 2115251221, 2115251733, 2115252245, 2115252757, 2115253269, 2115253781, 2115254293,
   2115254805, 2115255317, 2115255829, 2115256341, 2115256853, 2115257365, 2115257877, 2115258389, 2115258901,
   2115259413, 2115259925, 2115260437, 2115260949, 2115261461, 2115261973, 2115262485, 2115262997, 2115263509,
   2115264021, 2115264533, 2115265045, 2115265557, 2115266069, 2115266581, 2115267093, 2115267605, 2115268117,
   2115268629, 2115269141, 2115269653, 2115270165, 2115270677, 2115271189, 2115271701, 2115272213, 2115272725,
   2115273237, 2115273749, 2115274261, 2115274773, 2115275285, 2115275797, 2115276309, 2115276821, 2115277333,
   2115277845, 2115278357, 2115278869, 2115279381, 2115279893, 2115280405, 2115280917, 2115281429, 2115281941,
   2115282453, 2115282965, 2115283477, 2115283989, 2115284501, 2115285013, 2115285525, 2115286037, 2115286549,
   2115287061, 2115287573, 2115288085, 2115288597, 2115289109, 2115289621, 2115290133, 2115290645, 2115291157,
   2115291669, 2115292181, 2115292693, 2115293205, 2115293717, 2115294229, 2115294741, 2115295253, 2115295765,
   2115296277, 2115296789, 2115297301, 2115297813, 2115298325, 2115298837, 2115299349, 2115299861, 2115300373,
   2115300885, 2115301397, 2115301909, 2115302421, 2115302933, 2115303445, 2115303957, 2115304469, 2115304981,
   2115305494, 2115306006, 2115306518, 2115307030, 2115307542, 2115308054, 2115308566, 2115309078, 2115309590,
   2115310102, 2115310614, 2115311126, 2115311638, 2115312150, 2115312662, 2115313174, 2115313686, 2115314198,
   2115314710, 2115315222, 2115315734, 2115316246, 2115316758, 2115317270, 2115317782, 2115318294, 2115318806,
   2115319318, 2115319830, 2115320342, 2115320854, 2115321366, 2115321878, 2115322390, 2115322902, 2115323414,
   2115323926, 2115324438, 2115324950, 2115325462, 2115325974, 2115326486, 2115326998, 2115327510, 2115328022,
   2115328534, 2115329046, 2115329558, 2115330070, 2115330582, 2115331094, 2115331606, 2115332118, 2115332630,
   2115333142, 2115333654, 2115334166, 2115334678, 2115335190, 2115335702, 2115336214, 2115336726, 2115337238,
   2115337750, 2115338262, 2115338774, 2115339286, 2115339798, 2115340310, 2115340822, 2115341334, 2115341846,
   2115342358, 2115342870, 2115343382, 2115343894, 2115344406, 2115344918, 2115345430, 2115345942, 2115346454,
   2115346966, 2115347478, 2115347990, 2115348502, 2115349014, 2115349526, 2115350038, 2115350550, 2115351062,
   2115351574, 2115352086, 2115352598, 2115353110, 2115353622, 2115354134, 2115354646, 2115355158, 2115355670,
   2115356182, 2115356694, 2115357206, 2115357718, 2115358230, 2115358742, 2115359254, 2115359766, 2115360278,
   2115360790, 2115361302, 2115361814, 2115362326, 2115362838, 2115363350, 2115363862, 2115364374, 2115364886,
   2115365398, 2115365910, 2115366422, 2115366934, 2115367446, 2115367958, 2115368470, 2115368982, 2115369494,
   2115370006, 2115370518, 2115371031, 2115371543, 2115372055, 2115372567, 2115373079, 2115373591, 2115374103,
   2115374615, 2115375127, 2115375639, 2115376151, 2115376663, 2115377175, 2115377687, 2115378199, 2115378711,
   2115379223, 2115379735, 2115380247, 2115380759, 2115381271, 2115381783, 2115382295, 2115382807, 2115383319,
   2115383831, 2115384343, 2115384855, 2115385367, 2115385879, 2115386391, 2115386903, 2115387415, 2115387927,
   2115388439, 2115388951, 2115389463, 2115389975, 2115390487, 2115390999, 2115391511, 2115392023, 2115392535,
   2115393047, 2115393559, 2115394071, 2115394583, 2115395095, 2115395607, 2115396119, 2115396631, 2115397143,
   2115397655, 2115398167, 2115398679, 2115399191, 2115399703, 2115400215, 2115400727, 2115401239, 2115401751,
   2115402263, 2115402775, 2115403287, 2115403799, 2115404311, 2115404823, 2115405335, 2115405847, 2115406359,
   2115406871, 2115407383, 2115407895, 2115408407, 2115408919, 2115409431, 2115409943, 2115410455, 2115410967,
   2115411479, 2115411991, 2115412503, 2115413015, 2115413527, 2115414039, 2115414551, 2115415063, 2115415575,
   2115416087, 2115416599, 2115417111, 2115417623, 2115418135, 2115418647, 2115419159, 2115419671, 2115420183,
   2115420695, 2115421207, 2115421719, 2115422231, 2115422743, 2115423255, 2115423767, 2115424279, 2115424791,
   2115425303, 2115425815, 2115426327, 2115426839, 2115427351, 2115427863, 2115428375, 2115428887, 2115429399,
   2115429911, 2115430423, 2115430935, 2115431447, 2115431959, 2115432471, 2115432983, 2115433495, 2115434007,
   2115434519, 2115435031, 2115435543, 2115436055, 2115436568, 2115437080, 2115437592, 2115438104, 2115438616,
   2115439128, 2115439640, 2115440152, 2115440664, 2115441176, 2115441688, 2115442200, 2115442712, 2115443224,
   2115443736, 2115444248, 2115444760, 2115445272, 2115445784, 2115446296, 2115446808, 2115447320, 2115447832,
   2115448344, 2115448856, 2115449368, 2115449880, 2115450392, 2115450904, 2115451416, 2115451928, 2115452440,
   2115452952, 2115453464, 2115453976, 2115454488, 2115455000, 2115455512, 2115456024, 2115456536, 2115457048,
   2115457560, 2115458072, 2115458584, 2115459096, 2115459608, 2115460120, 2115460632, 2115461144, 2115461656,
   2115462168, 2115462680, 2115463192, 2115463704, 2115464216, 2115464728, 2115465240, 2115465752, 2115466264,
   2115466776, 2115467288, 2115467800, 2115468312, 2115468824, 2115469336, 2115469848, 2115470360, 2115470872,
   2115471384, 2115471896, 2115472408, 2115472920, 2115473432, 2115473944, 2115474456, 2115474968, 2115475480,
   2115475992, 2115476504, 2115477016, 2115477528, 2115478040, 2115478552, 2115479064, 2115479576, 2115480088,
   2115480600, 2115481112, 2115481624, 2115482136, 2115482648, 2115483160, 2115483672, 2115484184, 2115484696,
   2115485208, 2115485720, 2115486232, 2115486744, 2115487256, 2115487768, 2115488280, 2115488792, 2115489304,
   2115489816, 2115490328, 2115490840, 2115491352, 2115491864, 2115492376, 2115492888, 2115493400, 2115493912,
   2115494424, 2115494936, 2115495448, 2115495960, 2115496472, 2115496984, 2115497496, 2115498008, 2115498520,
   2115499032, 2115499544, 2115500056, 2115500568, 2115501080, 2115501592, 2115502105, 2115502617, 2115503129,
   2115503641, 2115504153, 2115504665, 2115505177, 2115505689, 2115506201, 2115506713, 2115507225, 2115507737,
   2115508249, 2115508761, 2115509273, 2115509785, 2115510297, 2115510809, 2115511321, 2115511833, 2115512345,
   2115512857, 2115513369, 2115513881, 2115514393, 2115514905, 2115515417, 2115515929, 2115516441, 2115516953,
   2115517465, 2115517977, 2115518489, 2115519001, 2115519513, 2115520025, 2115520537, 2115521049, 2115521561,
   2115522073, 2115522585, 2115523097, 2115523609, 2115524121, 2115524633, 2115525145, 2115525657, 2115526169,
   2115526681, 2115527193, 2115527705, 2115528217, 2115528729, 2115529241, 2115529753, 2115530265, 2115530777,
   2115531289, 2115531801, 2115532313, 2115532825, 2115533337, 2115533849, 2115534361, 2115534873, 2115535385,
   2115535897, 2115536409, 2115536921, 2115537433, 2115537945, 2115538457, 2115538969, 2115539481, 2115539993,
   2115540505, 2115541017, 2115541529, 2115542041, 2115542553, 2115543065, 2115543577, 2115544089, 2115544601,
   2115545113, 2115545625, 2115546137, 2115546649, 2115547161, 2115547673, 2115548185, 2115548697, 2115549209,
   2115549721, 2115550233, 2115550745, 2115551257, 2115551769, 2115552281, 2115552793, 2115553305, 2115553817,
   2115554329, 2115554841, 2115555353, 2115555865, 2115556377, 2115556889, 2115557401, 2115557913, 2115558425,
   2115558937, 2115559449, 2115559961, 2115560473, 2115560985, 2115561497, 2115562009, 2115562521, 2115563033,
   2115563545, 2115564057, 2115564569, 2115565081, 2115565593, 2115566105, 2115566617, 2115567129, 2115567642,
   2115568154, 2115568666, 2115569178, 2115569690, 2115570202, 2115570714, 2115571226, 2115571738, 2115572250,
   2115572762, 2115573274, 2115573786, 2115574298, 2115574810, 2115575322, 2115575834, 2115576346, 2115576858,
   2115577370, 2115577882, 2115578394, 2115578906, 2115579418, 2115579930, 2115580442, 2115580954, 2115581466,
   2115581978, 2115582490, 2115583002, 2115583514, 2115584026, 2115584538, 2115585050, 2115585562, 2115586074,
   2115586586, 2115587098, 2115587610, 2115588122, 2115588634, 2115589146, 2115589658, 2115590170, 2115590682,
   2115591194, 2115591706, 2115592218, 2115592730, 2115593242, 2115593754, 2115594266, 2115594778, 2115595290,
   2115595802, 2115596314, 2115596826, 2115597338, 2115597850, 2115598362, 2115598874, 2115599386, 2115599898,
   2115600410, 2115600922, 2115601434, 2115601946, 2115602458, 2115602970, 2115603482, 2115603994, 2115604506,
   2115605018, 2115605530, 2115606042, 2115606554, 2115607066, 2115607578, 2115608090, 2115608602, 2115609114,
   2115609626, 2115610138, 2115610650, 2115611162, 2115611674, 2115612186, 2115612698, 2115613210, 2115613722,
   2115614234, 2115614746, 2115615258, 2115615770, 2115616282, 2115616794, 2115617306, 2115617818, 2115618330,
   2115618842, 2115619354, 2115619866, 2115620378, 2115620890, 2115621402, 2115621914, 2115622426, 2115622938,
   2115623450, 2115623962, 2115624474, 2115624986, 2115625498, 2115626010, 2115626522, 2115627034, 2115627546,
   2115628058, 2115628570, 2115629082, 2115629594, 2115630106, 2115630618, 2115631130, 2115631642, 2115632154,
   2115632666, 2115633179, 2115633691, 2115634203, 2115634715, 2115635227, 2115635739, 2115636251, 2115636763,
   2115637275, 2115637787, 2115638299, 2115638811, 2115639323, 2115639835, 2115640347, 2115640859, 2115641371,
   2115641883, 2115642395, 2115642907, 2115643419, 2115643931, 2115644443, 2115644955, 2115645467, 2115645979,
   2115646491, 2115647003, 2115647515, 2115648027, 2115648539, 2115649051, 2115649563, 2115650075, 2115650587,
   2115651099, 2115651611, 2115652123, 2115652635, 2115653147, 2115653659, 2115654171, 2115654683, 2115655195,
   2115655707, 2115656219, 2115656731, 2115657243, 2115657755, 2115658267, 2115658779, 2115659291, 2115659803,
   2115660315, 2115660827, 2115661339, 2115661851, 2115662363, 2115662875, 2115663387, 2115663899, 2115664411,
   2115664923, 2115665435, 2115665947, 2115666459, 2115666971, 2115667483, 2115667995, 2115668507, 2115669019,
   2115669531, 2115670043, 2115670555, 2115671067, 2115671579, 2115672091, 2115672603, 2115673115, 2115673627,
   2115674139, 2115674651, 2115675163, 2115675675, 2115676187, 2115676699, 2115677211, 2115677723, 2115678235,
   2115678747, 2115679259, 2115679771, 2115680283, 2115680795, 2115681307, 2115681819, 2115682331, 2115682843,
   2115683355, 2115683867, 2115684379, 2115684891, 2115685403, 2115685915, 2115686427, 2115686939, 2115687451,
   2115687963, 2115688475, 2115688987, 2115689499, 2115690011, 2115690523, 2115691035, 2115691547, 2115692059,
   2115692571, 2115693083, 2115693595, 2115694107, 2115694619, 2115695131, 2115695643, 2115696155, 2115696667,
   2115697179, 2115697691, 2115698203, 2115698716, 2115699228, 2115699740, 2115700252, 2115700764, 2115701276,
   2115701788, 2115702300, 2115702812, 2115703324, 2115703836, 2115704348, 2115704860, 2115705372, 2115705884,
   2115706396, 2115706908, 2115707420, 2115707932, 2115708444, 2115708956, 2115709468, 2115709980, 2115710492,
   2115711004, 2115711516, 2115712028, 2115712540, 2115713052, 2115713564, 2115714076, 2115714588, 2115715100,
   2115715612, 2115716124, 2115716636, 2115717148, 2115717660, 2115718172, 2115718684, 2115719196, 2115719708,
   2115720220, 2115720732, 2115721244, 2115721756, 2115722268, 2115722780, 2115723292, 2115723804, 2115724316,
   2115724828, 2115725340, 2115725852, 2115726364, 2115726876, 2115727388, 2115727900, 2115728412, 2115728924,
   2115729436, 2115729948, 2115730460, 2115730972, 2115731484, 2115731996, 2115732508, 2115733020, 2115733532,
   2115734044, 2115734556, 2115735068, 2115735580, 2115736092, 2115736604, 2115737116, 2115737628, 2115738140,
   2115738652, 2115739164, 2115739676, 2115740188, 2115740700, 2115741212, 2115741724, 2115742236, 2115742748,
   2115743260, 2115743772, 2115744284, 2115744796, 2115745308, 2115745820, 2115746332, 2115746844, 2115747356,
   2115747868, 2115748380, 2115748892, 2115749404, 2115749916, 2115750428, 2115750940, 2115751452, 2115751964,
   2115752476, 2115752988, 2115753500, 2115754012, 2115754524, 2115755036, 2115755548, 2115756060, 2115756572,
   2115757084, 2115757596, 2115758108, 2115758620, 2115759132, 2115759644, 2115760156, 2115760668, 2115761180,
   2115761692, 2115762204, 2115762716, 2115763228, 2115763740, 2115764253, 2115764765, 2115765277, 2115765789,
   2115766301, 2115766813, 2115767325, 2115767837, 2115768349, 2115768861, 2115769373, 2115769885, 2115770397,
   2115770909, 2115771421, 2115771933, 2115772445, 2115772957, 2115773469, 2115773981, 2115774493, 2115775005,
   2115775517, 2115776029, 2115776541, 2115777053, 2115777565, 2115778077, 2115778589, 2115779101, 2115779613,
   2115780125, 2115780637, 2115781149, 2115781661, 2115782173, 2115782685, 2115783197, 2115783709, 2115784221,
   2115784733, 2115785245, 2115785757, 2115786269, 2115786781, 2115787293, 2115787805, 2115788317, 2115788829,
   2115789341, 2115789853, 2115790365, 2115790877, 2115791389, 2115791901, 2115792413, 2115792925, 2115793437,
   2115793949, 2115794461, 2115794973, 2115795485, 2115795997, 2115796509, 2115797021, 2115797533, 2115798045,
   2115798557, 2115799069, 2115799581, 2115800093, 2115800605, 2115801117, 2115801629, 2115802141, 2115802653,
   2115803165, 2115803677, 2115804189, 2115804701, 2115805213, 2115805725, 2115806237, 2115806749, 2115807261,
   2115807773, 2115808285, 2115808797, 2115809309, 2115809821, 2115810333, 2115810845, 2115811357, 2115811869,
   2115812381, 2115812893, 2115813405, 2115813917, 2115814429, 2115814941, 2115815453, 2115815965, 2115816477,
   2115816989, 2115817501, 2115818013, 2115818525, 2115819037, 2115819549, 2115820061, 2115820573, 2115821085,
   2115821597, 2115822109, 2115822621, 2115823133, 2115823645, 2115824157, 2115824669, 2115825181, 2115825693,
   2115826205, 2115826717, 2115827229, 2115827741, 2115828253, 2115828765, 2115829277, 2115829790, 2115830302,
   2115830814, 2115831326, 2115831838, 2115832350, 2115832862, 2115833374, 2115833886, 2115834398, 2115834910,
   2115835422, 2115835934, 2115836446, 2115836958, 2115837470, 2115837982, 2115838494, 2115839006, 2115839518,
   2115840030, 2115840542, 2115841054, 2115841566, 2115842078, 2115842590, 2115843102, 2115843614, 2115844126,
   2115844638, 2115845150, 2115845662, 2115846174, 2115846686, 2115847198, 2115847710, 2115848222, 2115848734,
   2115849246, 2115849758, 2115850270, 2115850782, 2115851294, 2115851806, 2115852318, 2115852830, 2115853342,
   2115853854, 2115854366, 2115854878, 2115855390, 2115855902, 2115856414, 2115856926, 2115857438, 2115857950,
   2115858462, 2115858974, 2115859486, 2115859998, 2115860510, 2115861022, 2115861534, 2115862046, 2115862558,
   2115863070, 2115863582, 2115864094, 2115864606, 2115865118, 2115865630, 2115866142, 2115866654, 2115867166,
   2115867678, 2115868190, 2115868702, 2115869214, 2115869726, 2115870238, 2115870750, 2115871262, 2115871774,
   2115872286, 2115872798, 2115873310, 2115873822, 2115874334, 2115874846, 2115875358, 2115875870, 2115876382,
   2115876894, 2115877406, 2115877918, 2115878430, 2115878942, 2115879454, 2115879966, 2115880478, 2115880990,
   2115881502, 2115882014, 2115882526, 2115883038, 2115883550, 2115884062, 2115884574, 2115885086, 2115885598,
   2115886110, 2115886622, 2115887134, 2115887646, 2115888158, 2115888670, 2115889182, 2115889694, 2115890206,
   2115890718, 2115891230, 2115891742, 2115892254, 2115892766, 2115893278, 2115893790, 2115894302, 2115894814,
   2115895327, 2115895839, 2115896351, 2115896863, 2115897375, 2115897887, 2115898399, 2115898911, 2115899423,
   2115899935, 2115900447, 2115900959, 2115901471, 2115901983, 2115902495, 2115903007, 2115903519, 2115904031,
   2115904543, 2115905055, 2115905567, 2115906079, 2115906591, 2115907103, 2115907615, 2115908127, 2115908639,
   2115909151, 2115909663, 2115910175, 2115910687, 2115911199, 2115911711, 2115912223, 2115912735, 2115913247,
   2115913759, 2115914271, 2115914783, 2115915295, 2115915807, 2115916319, 2115916831, 2115917343, 2115917855,
   2115918367, 2115918879, 2115919391, 2115919903, 2115920415, 2115920927, 2115921439, 2115921951, 2115922463,
   2115922975, 2115923487, 2115923999, 2115924511, 2115925023, 2115925535, 2115926047, 2115926559, 2115927071,
   2115927583, 2115928095, 2115928607, 2115929119, 2115929631, 2115930143, 2115930655, 2115931167, 2115931679,
   2115932191, 2115932703, 2115933215, 2115933727, 2115934239, 2115934751, 2115935263, 2115935775, 2115936287,
   2115936799, 2115937311, 2115937823, 2115938335, 2115938847, 2115939359, 2115939871, 2115940383, 2115940895,
   2115941407, 2115941919, 2115942431, 2115942943, 2115943455, 2115943967, 2115944479, 2115944991, 2115945503,
   2115946015, 2115946527, 2115947039, 2115947551, 2115948063, 2115948575, 2115949087, 2115949599, 2115950111,
   2115950623, 2115951135, 2115951647, 2115952159, 2115952671, 2115953183, 2115953695, 2115954207, 2115954719,
   2115955231, 2115955743, 2115956255, 2115956767, 2115957279, 2115957791, 2115958303, 2115958815, 2115959327,
   2115959839, 2115960351, 2115960864, 2115961376, 2115961888, 2115962400, 2115962912, 2115963424, 2115963936,
   2115964448, 2115964960, 2115965472, 2115965984, 2115966496, 2115967008, 2115967520, 2115968032, 2115968544,
   2115969056, 2115969568, 2115970080, 2115970592, 2115971104, 2115971616, 2115972128, 2115972640, 2115973152,
   2115973664, 2115974176, 2115974688, 2115975200, 2115975712, 2115976224, 2115976736, 2115977248, 2115977760,
   2115978272, 2115978784, 2115979296, 2115979808, 2115980320, 2115980832, 2115981344, 2115981856, 2115982368,
   2115982880, 2115983392, 2115983904, 2115984416, 2115984928, 2115985440, 2115985952, 2115986464, 2115986976,
   2115987488, 2115988000, 2115988512, 2115989024, 2115989536, 2115990048, 2115990560, 2115991072, 2115991584,
   2115992096, 2115992608, 2115993120, 2115993632, 2115994144, 2115994656, 2115995168, 2115995680, 2115996192,
   2115996704, 2115997216, 2115997728, 2115998240, 2115998752, 2115999264, 2115999776, 2116000288, 2116000800,
   2116001312, 2116001824, 2116002336, 2116002848, 2116003360, 2116003872, 2116004384, 2116004896, 2116005408,
   2116005920, 2116006432, 2116006944, 2116007456, 2116007968, 2116008480, 2116008992, 2116009504, 2116010016,
   2116010528, 2116011040, 2116011552, 2116012064, 2116012576, 2116013088, 2116013600, 2116014112, 2116014624,
   2116015136, 2116015648, 2116016160, 2116016672, 2116017184, 2116017696, 2116018208, 2116018720, 2116019232,
   2116019744, 2116020256, 2116020768, 2116021280, 2116021792, 2116022304, 2116022816, 2116023328, 2116023840,
   2116024352, 2116024864, 2116025376, 2116025888, 2116026401]
theorem c17_ok :
    chkList (pipeF 1199570688 65535) 65535 2139095040 34817 1057488905 17409 c17
      36865 1058013201 18433 = true := by decide +kernel
theorem c17_len : 34817 + c17.length = 36865 := (chkList_end c17_ok).1
theorem c17_last : lastS 1057488905 c17 = 1058013201 := (chkList_end c17_ok).2.1

@[irreducible] def c18 : List Nat :=
  [2116026913, 2116027425, 2116027937, 2116028449, 2116028961, 2116029473, 2116029985, 2116030497, 2116031009,
   2116031521, 2116032033, 2116032545, 2116033057, 2116033569, 2116034081, 2116034593, 2116035105, 2116035617,
   2116036129, 2116036641, 2116037153, 2116037665, 2116038177, 2116038689, 2116039201, 2116039713, 2116040225,
   2116040737, 2116041249, 2116041761, 2116042273, 2116042785, 2116043297, 2116043809, 2116044321, 2116044833,
   2116045345, 2116045857, 2116046369, 2116046881, 2116047393, 2116047905, 2116048417, 2116048929, 2116049441,
   2116049953, 2116050465, 2116050977, 2116051489, 2116052001, 2116052513, 2116053025, 2116053537, 2116054049,
   2116054561, 2116055073, 2116055585, 2116056097, 2116056609, 2116057121, 2116057633, 2116058145, 2116058657,
   2116059169, 2116059681, 2116060193, 2116060705, 2116061217, 2116061729, 2116062241, 2116062753, 2116063265,
   2116063777, 2116064289, 2116064801, 2116065313, 2116065825, 2116066337, 2116066849, 2116067361, 2116067873,
   2116068385, 2116068897, 2116069409, 2116069921, 2116070433, 2116070945, 2116071457, 2116071969, 2116072481,
   2116072993, 2116073505, 2116074017, 2116074529, 2116075041, 2116075553, 2116076065, 2116076577, 2116077089,
   2116077601, 2116078113, 2116078625, 2116079137, 2116079649, 2116080161, 2116080673, 2116081185, 2116081697,
   2116082209, 2116082721, 2116083233, 2116083745, 2116084257, 2116084769, 2116085281, 2116085793, 2116086305,
   2116086817, 2116087329, 2116087841, 2116088353, 2116088865, 2116089377, 2116089889, 2116090401, 2116090913,
   2116091425, 2116091938, 2116092450, 2116092962, 2116093474, 2116093986, 2116094498, 2116095010, 2116095522,
   2116096034, 2116096546, 2116097058, 2116097570, 2116098082, 2116098594, 2116099106, 2116099618, 2116100130,
   2116100642, 2116101154, 2116101666, 2116102178, 2116102690, 2116103202, 2116103714, 2116104226, 2116104738,
   2116105250, 2116105762, 2116106274, 2116106786, 2116107298, 2116107810, 2116108322, 2116108834, 2116109346,
   2116109858, 2116110370, 2116110882, 2116111394, 2116111906, 2116112418, 2116112930, 2116113442, 2116113954,
   2116114466, 2116114978, 2116115490, 2116116002, 2116116514, 2116117026, 2116117538, 2116118050, 2116118562,
   2116119074, 2116119586, 2116120098, 2116120610, 2116121122, 2116121634, 2116122146, 2116122658, 2116123170,
   2116123682, 2116124194, 2116124706, 2116125218, 2116125730, 2116126242, 2116126754, 2116127266, 2116127778,
   2116128290, 2116128802, 2116129314, 2116129826, 2116130338, 2116130850, 2116131362, 2116131874, 2116132386,
   2116132898, 2116133410, 2116133922, 2116134434, 2116134946, 2116135458, 2116135970, 2116136482, 2116136994,
   2116137506, 2116138018, 2116138530, 2116139042, 2116139554, 2116140066, 2116140578, 2116141090, 2116141602,
   2116142114, 2116142626, 2116143138, 2116143650, 2116144162, 2116144674, 2116145186, 2116145698, 2116146210,
   2116146722, 2116147234, 2116147746, 2116148258, 2116148770, 2116149282, 2116149794, 2116150306, 2116150818,
   2116151330, 2116151842, 2116152354, 2116152866, 2116153378, 2116153890, 2116154402, 2116154914, 2116155426,
   2116155938, 2116156450, 2116156962, 2116157475, 2116157987, 2116158499, 2116159011, 2116159523, 2116160035,
   2116160547, 2116161059, 2116161571, 2116162083, 2116162595, 2116163107, 2116163619, 2116164131, 2116164643,
   2116165155, 2116165667, 2116166179, 2116166691, 2116167203, 2116167715, 2116168227, 2116168739, 2116169251,
   2116169763, 2116170275, 2116170787, 2116171299, 2116171811, 2116172323, 2116172835, 2116173347, 2116173859,
   2116174371, 2116174883, 2116175395, 2116175907, 2116176419, 2116176931, 2116177443, 2116177955, 2116178467,
   2116178979, 2116179491, 2116180003, 2116180515, 2116181027, 2116181539, 2116182051, 2116182563, 2116183075,
   2116183587, 2116184099, 2116184611, 2116185123, 2116185635, 2116186147, 2116186659, 2116187171, 2116187683,
   2116188195, 2116188707, 2116189219, 2116189731, 2116190243, 2116190755, 2116191267, 2116191779, 2116192291,
   2116192803, 2116193315, 2116193827, 2116194339, 2116194851, 2116195363, 2116195875, 2116196387, 2116196899,
   2116197411, 2116197923, 2116198435, 2116198947, 2116199459, 2116199971, 2116200483, 2116200995, 2116201507,
   2116202019, 2116202531, 2116203043, 2116203555, 2116204067, 2116204579, 2116205091, 2116205603, 2116206115,
   2116206627, 2116207139, 2116207651, 2116208163, 2116208675, 2116209187, 2116209699, 2116210211, 2116210723,
   2116211235, 2116211747, 2116212259, 2116212771, 2116213283, 2116213795, 2116214307, 2116214819, 2116215331,
   2116215843, 2116216355, 2116216867, 2116217379, 2116217891, 2116218403, 2116218915, 2116219427, 2116219939,
   2116220451, 2116220963, 2116221475, 2116221987, 2116222499, 2116223012, 2116223524, 2116224036, 2116224548,
   2116225060, 2116225572, 2116226084, 2116226596, 2116227108, 2116227620, 2116228132, 2116228644, 2116229156,
   2116229668, 2116230180, 2116230692, 2116231204, 2116231716, 2116232228, 2116232740, 2116233252, 2116233764,
   2116234276, 2116234788, 2116235300, 2116235812, 2116236324, 2116236836, 2116237348, 2116237860, 2116238372,
   2116238884, 2116239396, 2116239908, 2116240420, 2116240932, 2116241444, 2116241956, 2116242468, 2116242980,
   2116243492, 2116244004, 2116244516, 2116245028, 2116245540, 2116246052, 2116246564, 2116247076, 2116247588,
   2116248100, 2116248612, 2116249124, 2116249636, 2116250148, 2116250660, 2116251172, 2116251684, 2116252196,
   2116252708, 2116253220, 2116253732, 2116254244, 2116254756, 2116255268, 2116255780, 2116256292, 2116256804,
   2116257316, 2116257828, 2116258340, 2116258852, 2116259364, 2116259876, 2116260388, 2116260900, 2116261412,
   2116261924, 2116262436, 2116262948, 2116263460, 2116263972, 2116264484, 2116264996, 2116265508, 2116266020,
   2116266532, 2116267044, 2116267556, 2116268068, 2116268580, 2116269092, 2116269604, 2116270116, 2116270628,
   2116271140, 2116271652, 2116272164, 2116272676, 2116273188, 2116273700, 2116274212, 2116274724, 2116275236,
   2116275748, 2116276260, 2116276772, 2116277284, 2116277796, 2116278308, 2116278820, 2116279332, 2116279844,
   2116280356, 2116280868, 2116281380, 2116281892, 2116282404, 2116282916, 2116283428, 2116283940, 2116284452,
   2116284964, 2116285476, 2116285988, 2116286500, 2116287012, 2116287524, 2116288036, 2116288549, 2116289061,
   2116289573, 2116290085, 2116290597, 2116291109, 2116291621, 2116292133, 2116292645, 2116293157, 2116293669,
   2116294181, 2116294693, 2116295205, 2116295717, 2116296229, 2116296741, 2116297253, 2116297765, 2116298277,
   2116298789, 2116299301, 2116299813, 2116300325, 2116300837, 2116301349, 2116301861, 2116302373, 2116302885,
   2116303397, 2116303909, 2116304421, 2116304933, 2116305445, 2116305957, 2116306469, 2116306981, 2116307493,
   2116308005, 2116308517, 2116309029, 2116309541, 2116310053, 2116310565, 2116311077, 2116311589, 2116312101,
   2116312613, 2116313125, 2116313637, 2116314149, 2116314661, 2116315173, 2116315685, 2116316197, 2116316709,
   2116317221, 2116317733, 2116318245, 2116318757, 2116319269, 2116319781, 2116320293, 2116320805, 2116321317,
   2116321829, 2116322341, 2116322853, 2116323365, 2116323877, 2116324389, 2116324901, 2116325413, 2116325925,
   2116326437, 2116326949, 2116327461, 2116327973, 2116328485, 2116328997, 2116329509, 2116330021, 2116330533,
   2116331045, 2116331557, 2116332069, 2116332581, 2116333093, 2116333605, 2116334117, 2116334629, 2116335141,
   2116335653, 2116336165, 2116336677, 2116337189, 2116337701, 2116338213, 2116338725, 2116339237, 2116339749,
   2116340261, 2116340773, 2116341285, 2116341797, 2116342309, 2116342821, 2116343333, 2116343845, 2116344357,
   2116344869, 2116345381, 2116345893, 2116346405, 2116346917, 2116347429, 2116347941, 2116348453, 2116348965,
   2116349477, 2116349989, 2116350501, 2116351013, 2116351525, 2116352037, 2116352549, 2116353061, 2116353573,
   2116354086, 2116354598, 2116355110, 2116355622, 2116356134, 2116356646, 2116357158, 2116357670, 2116358182,
   2116358694, 2116359206, 2116359718, 2116360230, 2116360742, 2116361254, 2116361766, 2116362278, 2116362790,
   2116363302, 2116363814, 2116364326, 2116364838, 2116365350, 2116365862, 2116366374, 2116366886, 2116367398,
   2116367910, 2116368422, 2116368934, 2116369446, 2116369958, 2116370470, 2116370982, 2116371494, 2116372006,
   2116372518, 2116373030, 2116373542, 2116374054, 2116374566, 2116375078, 2116375590, 2116376102, 2116376614,
   2116377126, 2116377638, 2116378150, 2116378662, 2116379174, 2116379686, 2116380198, 2116380710, 2116381222,
   2116381734, 2116382246, 2116382758, 2116383270, 2116383782, 2116384294, 2116384806, 2116385318, 2116385830,
   2116386342, 2116386854, 2116387366, 2116387878, 2116388390, 2116388902, 2116389414, 2116389926, 2116390438,
   2116390950, 2116391462, 2116391974, 2116392486, 2116392998, 2116393510, 2116394022, 2116394534, 2116395046,
   2116395558, 2116396070, 2116396582, 2116397094, 2116397606, 2116398118, 2116398630, 2116399142, 2116399654,
   2116400166, 2116400678, 2116401190, 2116401702, 2116402214, 2116402726, 2116403238, 2116403750, 2116404262,
   2116404774, 2116405286, 2116405798, 2116406310, 2116406822, 2116407334, 2116407846, 2116408358, 2116408870,
   2116409382, 2116409894, 2116410406, 2116410918, 2116411430, 2116411942, 2116412454, 2116412966, 2116413478,
   2116413990, 2116414502, 2116415014, 2116415526, 2116416038, 2116416550, 2116417062, 2116417574, 2116418086,
   2116418598, 2116419110, 2116419623, 2116420135, 2116420647, 2116421159, 2116421671, 2116422183, 2116422695,
   2116423207, 2116423719, 2116424231, 2116424743, 2116425255, 2116425767, 2116426279, 2116426791, 2116427303,
   2116427815, 2116428327, 2116428839, 2116429351, 2116429863, 2116430375, 2116430887, 2116431399, 2116431911,
   2116432423, 2116432935, 2116433447, 2116433959, 2116434471, 2116434983, 2116435495, 2116436007, 2116436519,
   2116437031, 2116437543, 2116438055, 2116438567, 2116439079, 2116439591, 2116440103, 2116440615, 2116441127,
   2116441639, 2116442151, 2116442663, 2116443175, 2116443687, 2116444199, 2116444711, 2116445223, 2116445735,
   2116446247, 2116446759, 2116447271, 2116447783, 2116448295, 2116448807, 2116449319, 2116449831, 2116450343,
   2116450855, 2116451367, 2116451879, 2116452391, 2116452903, 2116453415, 2116453927, 2116454439, 2116454951,
   2116455463, 2116455975, 2116456487, 2116456999, 2116457511, 2116458023, 2116458535, 2116459047, 2116459559,
   2116460071, 2116460583, 2116461095, 2116461607, 2116462119, 2116462631, 2116463143, 2116463655, 2116464167,
   2116464679, 2116465191, 2116465703, 2116466215, 2116466727, 2116467239, 2116467751, 2116468263, 2116468775,
   2116469287, 2116469799, 2116470311, 2116470823, 2116471335, 2116471847, 2116472359, 2116472871, 2116473383,
   2116473895, 2116474407, 2116474919, 2116475431, 2116475943, 2116476455, 2116476967, 2116477479, 2116477991,
   2116478503, 2116479015, 2116479527, 2116480039, 2116480551, 2116481063, 2116481575, 2116482087, 2116482599,
   2116483111, 2116483623, 2116484135, 2116484647, 2116485160, 2116485672, 2116486184, 2116486696, 2116487208,
   2116487720, 2116488232, 2116488744, 2116489256, 2116489768, 2116490280, 2116490792, 2116491304, 2116491816,
   2116492328, 2116492840, 2116493352, 2116493864, 2116494376, 2116494888, 2116495400, 2116495912, 2116496424,
   2116496936, 2116497448, 2116497960, 2116498472, 2116498984, 2116499496, 2116500008, 2116500520, 2116501032,
   2116501544, 2116502056, 2116502568, 2116503080, 2116503592, 2116504104, 2116504616, 2116505128, 2116505640,
   2116506152, 2116506664, 2116507176, 2116507688, 2116508200, 2116508712, 2116509224, 2116509736, 2116510248,
   2116510760, 2116511272, 2116511784, 2116512296, 2116512808, 2116513320, 2116513832, 2116514344, 2116514856,
   2116515368, 2116515880, 2116516392, 2116516904, 2116517416, 2116517928, 2116518440, 2116518952, 2116519464,
   2116519976, 2116520488, 2116521000, 2116521512, 2116522024, 2116522536, 2116523048, 2116523560, 2116524072,
   2116524584, 2116525096, 2116525608, 2116526120, 2116526632, 2116527144, 2116527656, 2116528168, 2116528680,
   2116529192, 2116529704, 2116530216, 2116530728, 2116531240, 2116531752, 2116532264, 2116532776, 2116533288,
   2116533800, 2116534312, 2116534824, 2116535336, 2116535848, 2116536360, 2116536872, 2116537384, 2116537896,
   2116538408, 2116538920, 2116539432, 2116539944, 2116540456, 2116540968, 2116541480, 2116541992, 2116542504,
   2116543016, 2116543528, 2116544040, 2116544552, 2116545064, 2116545576, 2116546088, 2116546600, 2116547112,
   2116547624, 2116548136, 2116548648, 2116549160, 2116549672, 2116550184, 2116550697, 2116551209, 2116551721,
   2116552233, 2116552745, 2116553257, 2116553769, 2116554281, 2116554793, 2116555305, 2116555817, 2116556329,
   2116556841, 2116557353, 2116557865, 2116558377, 2116558889, 2116559401, 2116559913, 2116560425, 2116560937,
   2116561449, 2116561961, 2116562473, 2116562985, 2116563497, 2116564009, 2116564521, 2116565033, 2116565545,
   2116566057, 2116566569, 2116567081, 2116567593, 2116568105, 2116568617, 2116569129, 2116569641, 2116570153,
   2116570665, 2116571177, 2116571689, 2116572201, 2116572713, 2116573225, 2116573737, 2116574249, 2116574761,
   2116575273, 2116575785, 2116576297, 2116576809, 2116577321, 2116577833, 2116578345, 2116578857, 2116579369,
   2116579881, 2116580393, 2116580905, 2116581417, 2116581929, 2116582441, 2116582953, 2116583465, 2116583977,
   2116584489, 2116585001, 2116585513, 2116586025, 2116586537, 2116587049, 2116587561, 2116588073, 2116588585,
   2116589097, 2116589609, 2116590121, 2116590633, 2116591145, 2116591657, 2116592169, 2116592681, 2116593193,
   2116593705, 2116594217, 2116594729, 2116595241, 2116595753, 2116596265, 2116596777, 2116597289, 2116597801,
   2116598313, 2116598825, 2116599337, 2116599849, 2116600361, 2116600873, 2116601385, 2116601897, 2116602409,
   2116602921, 2116603433, 2116603945, 2116604457, 2116604969, 2116605481, 2116605993, 2116606505, 2116607017,
   2116607529, 2116608041, 2116608553, 2116609065, 2116609577, 2116610089, 2116610601, 2116611113, 2116611625,
   2116612137, 2116612649, 2116613161, 2116613673, 2116614185, 2116614697, 2116615209, 2116615721, 2116616234,
   2116616746, 2116617258, 2116617770, 2116618282, 2116618794, 2116619306, 2116619818, 2116620330, 2116620842,
   2116621354, 2116621866, 2116622378, 2116622890, 2116623402, 2116623914, 2116624426, 2116624938, 2116625450,
   2116625962, 2116626474, 2116626986, 2116627498, 2116628010, 2116628522, 2116629034, 2116629546, 2116630058,
   2116630570, 2116631082, 2116631594, 2116632106, 2116632618, 2116633130, 2116633642, 2116634154, 2116634666,
   2116635178, 2116635690, 2116636202, 2116636714, 2116637226, 2116637738, 2116638250, 2116638762, 2116639274,
   2116639786, 2116640298, 2116640810, 2116641322, 2116641834, 2116642346, 2116642858, 2116643370, 2116643882,
   2116644394, 2116644906, 2116645418, 2116645930, 2116646442, 2116646954, 2116647466, 2116647978, 2116648490,
   2116649002, 2116649514, 2116650026, 2116650538, 2116651050, 2116651562, 2116652074, 2116652586, 2116653098,
   2116653610, 2116654122, 2116654634, 2116655146, 2116655658, 2116656170, 2116656682, 2116657194, 2116657706,
   2116658218, 2116658730, 2116659242, 2116659754, 2116660266, 2116660778, 2116661290, 2116661802, 2116662314,
   2116662826, 2116663338, 2116663850, 2116664362, 2116664874, 2116665386, 2116665898, 2116666410, 2116666922,
   2116667434, 2116667946, 2116668458, 2116668970, 2116669482, 2116669994, 2116670506, 2116671018, 2116671530,
   2116672042, 2116672554, 2116673066, 2116673578, 2116674090, 2116674602, 2116675114, 2116675626, 2116676138,
   2116676650, 2116677162, 2116677674, 2116678186, 2116678698, 2116679210, 2116679722, 2116680234, 2116680746,
   2116681258, 2116681771, 2116682283, 2116682795, 2116683307, 2116683819, 2116684331, 2116684843, 2116685355,
   2116685867, 2116686379, 2116686891, 2116687403, 2116687915, 2116688427, 2116688939, 2116689451, 2116689963,
   2116690475, 2116690987, 2116691499, 2116692011, 2116692523, 2116693035, 2116693547, 2116694059, 2116694571,
   2116695083, 2116695595, 2116696107, 2116696619, 2116697131, 2116697643, 2116698155, 2116698667, 2116699179,
   2116699691, 2116700203, 2116700715, 2116701227, 2116701739, 2116702251, 2116702763, 2116703275, 2116703787,
   2116704299, 2116704811, 2116705323, 2116705835, 2116706347, 2116706859, 2116707371, 2116707883, 2116708395,
   2116708907, 2116709419, 2116709931, 2116710443, 2116710955, 2116711467, 2116711979, 2116712491, 2116713003,
   2116713515, 2116714027, 2116714539, 2116715051, 2116715563, 2116716075, 2116716587, 2116717099, 2116717611,
   2116718123, 2116718635, 2116719147, 2116719659, 2116720171, 2116720683, 2116721195, 2116721707, 2116722219,
   2116722731, 2116723243, 2116723755, 2116724267, 2116724779, 2116725291, 2116725803, 2116726315, 2116726827,
   2116727339, 2116727851, 2116728363, 2116728875, 2116729387, 2116729899, 2116730411, 2116730923, 2116731435,
   2116731947, 2116732459, 2116732971, 2116733483, 2116733995, 2116734507, 2116735019, 2116735531, 2116736043,
   2116736555, 2116737067, 2116737579, 2116738091, 2116738603, 2116739115, 2116739627, 2116740139, 2116740651,
   2116741163, 2116741675, 2116742187, 2116742699, 2116743211, 2116743723, 2116744235, 2116744747, 2116745259,
   2116745771, 2116746283, 2116746795, 2116747308, 2116747820, 2116748332, 2116748844, 2116749356, 2116749868,
   2116750380, 2116750892, 2116751404, 2116751916, 2116752428, 2116752940, 2116753452, 2116753964, 2116754476,
   2116754988, 2116755500, 2116756012, 2116756524, 2116757036, 2116757548, 2116758060, 2116758572, 2116759084,
   2116759596, 2116760108, 2116760620, 2116761132, 2116761644, 2116762156, 2116762668, 2116763180, 2116763692,
   2116764204, 2116764716, 2116765228, 2116765740, 2116766252, 2116766764, 2116767276, 2116767788, 2116768300,
   2116768812, 2116769324, 2116769836, 2116770348, 2116770860, 2116771372, 2116771884, 2116772396, 2116772908,
   2116773420, 2116773932, 2116774444, 2116774956, 2116775468, 2116775980, 2116776492, 2116777004, 2116777516,
   2116778028, 2116778540, 2116779052, 2116779564, 2116780076, 2116780588, 2116781100, 2116781612, 2116782124,
   2116782636, 2116783148, 2116783660, 2116784172, 2116784684, 2116785196, 2116785708, 2116786220, 2116786732,
   2116787244, 2116787756, 2116788268, 2116788780, 2116789292, 2116789804, 2116790316, 2116790828, 2116791340,
   2116791852, 2116792364, 2116792876, 2116793388, 2116793900, 2116794412, 2116794924, 2116795436, 2116795948,
   2116796460, 2116796972, 2116797484, 2116797996, 2116798508, 2116799020, 2116799532, 2116800044, 2116800556,
   2116801068, 2116801580, 2116802092, 2116802604, 2116803116, 2116803628, 2116804140, 2116804652, 2116805164,
   2116805676, 2116806188, 2116806700, 2116807212, 2116807724, 2116808236, 2116808748, 2116809260, 2116809772,
   2116810284, 2116810796, 2116811308, 2116811820, 2116812332, 2116812845, 2116813357, 2116813869, 2116814381,
   2116814893, 2116815405, 2116815917, 2116816429, 2116816941, 2116817453, 2116817965, 2116818477, 2116818989,
   2116819501, 2116820013, 2116820525, 2116821037, 2116821549, 2116822061, 2116822573, 2116823085, 2116823597,
   2116824109, 2116824621, 2116825133, 2116825645, 2116826157, 2116826669, 2116827181, 2116827693, 2116828205,
   2116828717, 2116829229, 2116829741, 2116830253, 2116830765, 2116831277, 2116831789, 2116832301, 2116832813,
   2116833325, 2116833837, 2116834349, 2116834861, 2116835373, 2116835885, 2116836397, 2116836909, 2116837421,
   2116837933, 2116838445, 2116838957, 2116839469, 2116839981, 2116840493, 2116841005, 2116841517, 2116842029,
   2116842541, 2116843053, 2116843565, 2116844077, 2116844589, 2116845101, 2116845613, 2116846125, 2116846637,
   2116847149, 2116847661, 2116848173, 2116848685, 2116849197, 2116849709, 2116850221, 2116850733, 2116851245,
   2116851757, 2116852269, 2116852781, 2116853293, 2116853805, 2116854317, 2116854829, 2116855341, 2116855853,
   2116856365, 2116856877, 2116857389, 2116857901, 2116858413, 2116858925, 2116859437, 2116859949, 2116860461,
   2116860973, 2116861485, 2116861997, 2116862509, 2116863021, 2116863533, 2116864045, 2116864557, 2116865069,
   2116865581, 2116866093, 2116866605, 2116867117, 2116867629, 2116868141, 2116868653, 2116869165, 2116869677,
   2116870189, 2116870701, 2116871213, 2116871725, 2116872237, 2116872749, 2116873261, 2116873773, 2116874285,
   2116874797, 2116875309, 2116875821, 2116876333, 2116876845, 2116877357, 2116877869, 2116878382, 2116878894,
   2116879406, 2116879918, 2116880430, 2116880942, 2116881454, 2116881966, 2116882478, 2116882990, 2116883502,
   2116884014, 2116884526, 2116885038, 2116885550, 2116886062, 2116886574, 2116887086, 2116887598, 2116888110,
   2116888622, 2116889134, 2116889646, 2116890158, 2116890670, 2116891182, 2116891694, 2116892206, 2116892718,
   2116893230, 2116893742, 2116894254, 2116894766, 2116895278, 2116895790, 2116896302, 2116896814, 2116897326,
   2116897838, 2116898350, 2116898862, 2116899374, 2116899886, 2116900398, 2116900910, 2116901422, 2116901934,
   2116902446, 2116902958, 2116903470, 2116903982, 2116904494, 2116905006, 2116905518, 2116906030, 2116906542,
   2116907054, 2116907566, 2116908078, 2116908590, 2116909102, 2116909614, 2116910126, 2116910638, 2116911150,
   2116911662, 2116912174, 2116912686, 2116913198, 2116913710, 2116914222, 2116914734, 2116915246, 2116915758,
   2116916270, 2116916782, 2116917294, 2116917806, 2116918318, 2116918830, 2116919342, 2116919854, 2116920366,
   2116920878, 2116921390, 2116921902, 2116922414, 2116922926, 2116923438, 2116923950, 2116924462, 2116924974,
   2116925486, 2116925998, 2116926510, 2116927022, 2116927534, 2116928046, 2116928558, 2116929070, 2116929582,
   2116930094, 2116930606, 2116931118, 2116931630, 2116932142, 2116932654, 2116933166, 2116933678, 2116934190,
   2116934702, 2116935214, 2116935726, 2116936238, 2116936750, 2116937262, 2116937774, 2116938286, 2116938798,
   2116939310, 2116939822, 2116940334, 2116940846, 2116941358, 2116941870, 2116942382, 2116942894, 2116943406,
   2116943919, 2116944431, 2116944943, 2116945455, 2116945967, 2116946479, 2116946991, 2116947503, 2116948015,
   2116948527, 2116949039, 2116949551, 2116950063, 2116950575, 2116951087, 2116951599, 2116952111, 2116952623,
   2116953135, 2116953647, 2116954159, 2116954671, 2116955183, 2116955695, 2116956207, 2116956719, 2116957231,
   2116957743, 2116958255, 2116958767, 2116959279, 2116959791, 2116960303, 2116960815, 2116961327, 2116961839,
   2116962351, 2116962863, 2116963375, 2116963887, 2116964399, 2116964911, 2116965423, 2116965935, 2116966447,
   2116966959, 2116967471, 2116967983, 2116968495, 2116969007, 2116969519, 2116970031, 2116970543, 2116971055,
   2116971567, 2116972079, 2116972591, 2116973103, 2116973615, 2116974127, 2116974639, 2116975151, 2116975663,
   2116976175, 2116976687, 2116977199, 2116977711, 2116978223, 2116978735, 2116979247, 2116979759, 2116980271,
   2116980783, 2116981295, 2116981807, 2116982319, 2116982831, 2116983343, 2116983855, 2116984367, 2116984879,
   2116985391, 2116985903, 2116986415, 2116986927, 2116987439, 2116987951, 2116988463, 2116988975, 2116989487,
   2116989999, 2116990511, 2116991023, 2116991535, 2116992047, 2116992559, 2116993071, 2116993583, 2116994095,
   2116994607, 2116995119, 2116995631, 2116996143, 2116996655, 2116997167, 2116997679, 2116998191, 2116998703,
   2116999215, 2116999727, 2117000239, 2117000751, 2117001263, 2117001775, 2117002287, 2117002799, 2117003311,
   2117003823, 2117004335, 2117004847, 2117005359, 2117005871, 2117006383, 2117006895, 2117007407, 2117007919,
   2117008431, 2117008943, 2117009456, 2117009968, 2117010480, 2117010992, 2117011504, 2117012016, 2117012528,
   2117013040, 2117013552, 2117014064, 2117014576, 2117015088, 2117015600, 2117016112, 2117016624, 2117017136,
   2117017648, 2117018160, 2117018672, 2117019184, 2117019696, 2117020208, 2117020720, 2117021232, 2117021744,
   2117022256, 2117022768, 2117023280, 2117023792, 2117024304, 2117024816, 2117025328, 2117025840, 2117026352,
   2117026864, 2117027376, 2117027888, 2117028400, 2117028912, 2117029424, 2117029936, 2117030448, 2117030960,
   2117031472, 2117031984, 2117032496, 2117033008, 2117033520, 2117034032, 2117034544, 2117035056, 2117035568,
   2117036080, 2117036592, 2117037104, 2117037616, 2117038128, 2117038640, 2117039152, 2117039664, 2117040176,
   2117040688, 2117041200, 2117041712, 2117042224, 2117042736, 2117043248, 2117043760, 2117044272, 2117044784,
   2117045296, 2117045808, 2117046320, 2117046832, 2117047344, 2117047856, 2117048368, 2117048880, 2117049392,
   2117049904, 2117050416, 2117050928, 2117051440, 2117051952, 2117052464, 2117052976, 2117053488, 2117054000,
   2117054512, 2117055024, 2117055536, 2117056048, 2117056560, 2117057072, 2117057584, 2117058096, 2117058608,
   2117059120, 2117059632, 2117060144, 2117060656, 2117061168, 2117061680, 2117062192, 2117062704, 2117063216,
   2117063728, 2117064240, 2117064752, 2117065264, 2117065776, 2117066288, 2117066800, 2117067312, 2117067824,
   2117068336, 2117068848, 2117069360, 2117069872, 2117070384, 2117070896, 2117071408, 2117071920, 2117072432,
   2117072944, 2117073456, 2117073968, 2117074480, 2117074993]
theorem c18_ok :
    chkList (pipeF 1199570688 65535) 65535 2139095040 36865 1058013201 18433 c18
      38913 1058537497 19457 = true := by decide +kernel
theorem c18_len : 36865 + c18.length = 38913 := (chkList_end c18_ok).1
theorem c18_last : lastS 1058013201 c18 = 1058537497 := (chkList_end c18_ok).2.1

@[irreducible] def c19 : List Nat :=
  [2117075505, 2117076017, 2117076529, 2117077041, 2117077553, 2117078065, 2117078577, 2117079089, 2117079601,
   2117080113, 2117080625, 2117081137, 2117081649, 2117082161, 2117082673, 2117083185, 2117083697, 2117084209,
   2117084721, 2117085233, 2117085745, 2117086257, 2117086769, 2117087281, 2117087793, 2117088305, 2117088817,
   2117089329, 2117089841, 2117090353, 2117090865, 2117091377, 2117091889, 2117092401, 2117092913, 2117093425,
   2117093937, 2117094449, 2117094961, 2117095473, 2117095985, 2117096497, 2117097009, 2117097521, 2117098033,
   2117098545, 2117099057, 2117099569, 2117100081, 2117100593, 2117101105, 2117101617, 2117102129, 2117102641,
   2117103153, 2117103665, 2117104177, 2117104689, 2117105201, 2117105713, 2117106225, 2117106737, 2117107249,
   2117107761, 2117108273, 2117108785, 2117109297, 2117109809, 2117110321, 2117110833, 2117111345, 2117111857,
   2117112369, 2117112881, 2117113393, 2117113905, 2117114417, 2117114929, 2117115441, 2117115953, 2117116465,
   2117116977, 2117117489, 2117118001, 2117118513, 2117119025, 2117119537, 2117120049, 2117120561, 2117121073,
   2117121585, 2117122097, 2117122609, 2117123121, 2117123633, 2117124145, 2117124657, 2117125169, 2117125681,
   2117126193, 2117126705, 2117127217, 2117127729, 2117128241, 2117128753, 2117129265, 2117129777, 2117130289,
   2117130801, 2117131313, 2117131825, 2117132337, 2117132849, 2117133361, 2117133873, 2117134385, 2117134897,
   2117135409, 2117135921, 2117136433, 2117136945, 2117137457, 2117137969, 2117138481, 2117138993, 2117139505,
   2117140017, 2117140530, 2117141042, 2117141554, 2117142066, 2117142578, 2117143090, 2117143602, 2117144114,
   2117144626, 2117145138, 2117145650, 2117146162, 2117146674, 2117147186, 2117147698, 2117148210, 2117148722,
   2117149234, 2117149746, 2117150258, 2117150770, 2117151282, 2117151794, 2117152306, 2117152818, 2117153330,
   2117153842, 2117154354, 2117154866, 2117155378, 2117155890, 2117156402, 2117156914, 2117157426, 2117157938,
   2117158450, 2117158962, 2117159474, 2117159986, 2117160498, 2117161010, 2117161522, 2117162034, 2117162546,
   2117163058, 2117163570, 2117164082, 2117164594, 2117165106, 2117165618, 2117166130, 2117166642, 2117167154,
   2117167666, 2117168178, 2117168690, 2117169202, 2117169714, 2117170226, 2117170738, 2117171250, 2117171762,
   2117172274, 2117172786, 2117173298, 2117173810, 2117174322, 2117174834, 2117175346, 2117175858, 2117176370,
   2117176882, 2117177394, 2117177906, 2117178418, 2117178930, 2117179442, 2117179954, 2117180466, 2117180978,
   2117181490, 2117182002, 2117182514, 2117183026, 2117183538, 2117184050, 2117184562, 2117185074, 2117185586,
   2117186098, 2117186610, 2117187122, 2117187634, 2117188146, 2117188658, 2117189170, 2117189682, 2117190194,
   2117190706, 2117191218, 2117191730, 2117192242, 2117192754, 2117193266, 2117193778, 2117194290, 2117194802,
   2117195314, 2117195826, 2117196338, 2117196850, 2117197362, 2117197874, 2117198386, 2117198898, 2117199410,
   2117199922, 2117200434, 2117200946, 2117201458, 2117201970, 2117202482, 2117202994, 2117203506, 2117204018,
   2117204530, 2117205042, 2117205554, 2117206067, 2117206579, 2117207091, 2117207603, 2117208115, 2117208627,
   2117209139, 2117209651, 2117210163, 2117210675, 2117211187, 2117211699, 2117212211, 2117212723, 2117213235,
   2117213747, 2117214259, 2117214771, 2117215283, 2117215795, 2117216307, 2117216819, 2117217331, 2117217843,
   2117218355, 2117218867, 2117219379, 2117219891, 2117220403, 2117220915, 2117221427, 2117221939, 2117222451,
   2117222963, 2117223475, 2117223987, 2117224499, 2117225011, 2117225523, 2117226035, 2117226547, 2117227059,
   2117227571, 2117228083, 2117228595, 2117229107, 2117229619, 2117230131, 2117230643, 2117231155, 2117231667,
   2117232179, 2117232691, 2117233203, 2117233715, 2117234227, 2117234739, 2117235251, 2117235763, 2117236275,
   2117236787, 2117237299, 2117237811, 2117238323, 2117238835, 2117239347, 2117239859, 2117240371, 2117240883,
   2117241395, 2117241907, 2117242419, 2117242931, 2117243443, 2117243955, 2117244467, 2117244979, 2117245491,
   2117246003, 2117246515, 2117247027, 2117247539, 2117248051, 2117248563, 2117249075, 2117249587, 2117250099,
   2117250611, 2117251123, 2117251635, 2117252147, 2117252659, 2117253171, 2117253683, 2117254195, 2117254707,
   2117255219, 2117255731, 2117256243, 2117256755, 2117257267, 2117257779, 2117258291, 2117258803, 2117259315,
   2117259827, 2117260339, 2117260851, 2117261363, 2117261875, 2117262387, 2117262899, 2117263411, 2117263923,
   2117264435, 2117264947, 2117265459, 2117265971, 2117266483, 2117266995, 2117267507, 2117268019, 2117268531,
   2117269043, 2117269555, 2117270067, 2117270579, 2117271091, 2117271604, 2117272116, 2117272628, 2117273140,
   2117273652, 2117274164, 2117274676, 2117275188, 2117275700, 2117276212, 2117276724, 2117277236, 2117277748,
   2117278260, 2117278772, 2117279284, 2117279796, 2117280308, 2117280820, 2117281332, 2117281844, 2117282356,
   2117282868, 2117283380, 2117283892, 2117284404, 2117284916, 2117285428, 2117285940, 2117286452, 2117286964,
   2117287476, 2117287988, 2117288500, 2117289012, 2117289524, 2117290036, 2117290548, 2117291060, 2117291572,
   2117292084, 2117292596, 2117293108, 2117293620, 2117294132, 2117294644, 2117295156, 2117295668, 2117296180,
   2117296692, 2117297204, 2117297716, 2117298228, 2117298740, 2117299252, 2117299764, 2117300276, 2117300788,
   2117301300, 2117301812, 2117302324, 2117302836, 2117303348, 2117303860, 2117304372, 2117304884, 2117305396,
   2117305908, 2117306420, 2117306932, 2117307444, 2117307956, 2117308468, 2117308980, 2117309492, 2117310004,
   2117310516, 2117311028, 2117311540, 2117312052, 2117312564, 2117313076, 2117313588, 2117314100, 2117314612,
   2117315124, 2117315636, 2117316148, 2117316660, 2117317172, 2117317684, 2117318196, 2117318708, 2117319220,
   2117319732, 2117320244, 2117320756, 2117321268, 2117321780, 2117322292, 2117322804, 2117323316, 2117323828,
   2117324340, 2117324852, 2117325364, 2117325876, 2117326388, 2117326900, 2117327412, 2117327924, 2117328436,
   2117328948, 2117329460, 2117329972, 2117330484, 2117330996, 2117331508, 2117332020, 2117332532, 2117333044,
   2117333556, 2117334068, 2117334580, 2117335092, 2117335604, 2117336116, 2117336628, 2117337141, 2117337653,
   2117338165, 2117338677, 2117339189, 2117339701, 2117340213, 2117340725, 2117341237, 2117341749, 2117342261,
   2117342773, 2117343285, 2117343797, 2117344309, 2117344821, 2117345333, 2117345845, 2117346357, 2117346869,
   2117347381, 2117347893, 2117348405, 2117348917, 2117349429, 2117349941, 2117350453, 2117350965, 2117351477,
   2117351989, 2117352501, 2117353013, 2117353525, 2117354037, 2117354549, 2117355061, 2117355573, 2117356085,
   2117356597, 2117357109, 2117357621, 2117358133, 2117358645, 2117359157, 2117359669, 2117360181, 2117360693,
   2117361205, 2117361717, 2117362229, 2117362741, 2117363253, 2117363765, 2117364277, 2117364789, 2117365301,
   2117365813, 2117366325, 2117366837, 2117367349, 2117367861, 2117368373, 2117368885, 2117369397, 2117369909,
   2117370421, 2117370933, 2117371445, 2117371957, 2117372469, 2117372981, 2117373493, 2117374005, 2117374517,
   2117375029, 2117375541, 2117376053, 2117376565, 2117377077, 2117377589, 2117378101, 2117378613, 2117379125,
   2117379637, 2117380149, 2117380661, 2117381173, 2117381685, 2117382197, 2117382709, 2117383221, 2117383733,
   2117384245, 2117384757, 2117385269, 2117385781, 2117386293, 2117386805, 2117387317, 2117387829, 2117388341,
   2117388853, 2117389365, 2117389877, 2117390389, 2117390901, 2117391413, 2117391925, 2117392437, 2117392949,
   2117393461, 2117393973, 2117394485, 2117394997, 2117395509, 2117396021, 2117396533, 2117397045, 2117397557,
   2117398069, 2117398581, 2117399093, 2117399605, 2117400117, 2117400629, 2117401141, 2117401653, 2117402165,
   2117402678, 2117403190, 2117403702, 2117404214, 2117404726, 2117405238, 2117405750, 2117406262, 2117406774,
   2117407286, 2117407798, 2117408310, 2117408822, 2117409334, 2117409846, 2117410358, 2117410870, 2117411382,
   2117411894, 2117412406, 2117412918, 2117413430, 2117413942, 2117414454, 2117414966, 2117415478, 2117415990,
   2117416502, 2117417014, 2117417526, 2117418038, 2117418550, 2117419062, 2117419574, 2117420086, 2117420598,
   2117421110, 2117421622, 2117422134, 2117422646, 2117423158, 2117423670, 2117424182, 2117424694, 2117425206,
   2117425718, 2117426230, 2117426742, 2117427254, 2117427766, 2117428278, 2117428790, 2117429302, 2117429814,
   2117430326, 2117430838, 2117431350, 2117431862, 2117432374, 2117432886, 2117433398, 2117433910, 2117434422,
   2117434934, 2117435446, 2117435958, 2117436470, 2117436982, 2117437494, 2117438006, 2117438518, 2117439030,
   2117439542, 2117440054, 2117440566, 2117441078, 2117441590, 2117442102, 2117442614, 2117443126, 2117443638,
   2117444150, 2117444662, 2117445174, 2117445686, 2117446198, 2117446710, 2117447222, 2117447734, 2117448246,
   2117448758, 2117449270, 2117449782, 2117450294, 2117450806, 2117451318, 2117451830, 2117452342, 2117452854,
   2117453366, 2117453878, 2117454390, 2117454902, 2117455414, 2117455926, 2117456438, 2117456950, 2117457462,
   2117457974, 2117458486, 2117458998, 2117459510, 2117460022, 2117460534, 2117461046, 2117461558, 2117462070,
   2117462582, 2117463094, 2117463606, 2117464118, 2117464630, 2117465142, 2117465654, 2117466166, 2117466678,
   2117467190, 2117467702, 2117468215, 2117468727, 2117469239, 2117469751, 2117470263, 2117470775, 2117471287,
   2117471799, 2117472311, 2117472823, 2117473335, 2117473847, 2117474359, 2117474871, 2117475383, 2117475895,
   2117476407, 2117476919, 2117477431, 2117477943, 2117478455, 2117478967, 2117479479, 2117479991, 2117480503,
   2117481015, 2117481527, 2117482039, 2117482551, 2117483063, 2117483575, 2117484087, 2117484599, 2117485111,
   2117485623, 2117486135, 2117486647, 2117487159, 2117487671, 2117488183, 2117488695, 2117489207, 2117489719,
   2117490231, 2117490743, 2117491255, 2117491767, 2117492279, 2117492791, 2117493303, 2117493815, 2117494327,
   2117494839, 2117495351, 2117495863, 2117496375, 2117496887, 2117497399, 2117497911, 2117498423, 2117498935,
   2117499447, 2117499959, 2117500471, 2117500983, 2117501495, 2117502007, 2117502519, 2117503031, 2117503543,
   2117504055, 2117504567, 2117505079, 2117505591, 2117506103, 2117506615, 2117507127, 2117507639, 2117508151,
   2117508663, 2117509175, 2117509687, 2117510199, 2117510711, 2117511223, 2117511735, 2117512247, 2117512759,
   2117513271, 2117513783, 2117514295, 2117514807, 2117515319, 2117515831, 2117516343, 2117516855, 2117517367,
   2117517879, 2117518391, 2117518903, 2117519415, 2117519927, 2117520439, 2117520951, 2117521463, 2117521975,
   2117522487, 2117522999, 2117523511, 2117524023, 2117524535, 2117525047, 2117525559, 2117526071, 2117526583,
   2117527095, 2117527607, 2117528119, 2117528631, 2117529143, 2117529655, 2117530167, 2117530679, 2117531191,
   2117531703, 2117532215, 2117532727, 2117533239, 2117533752, 2117534264, 2117534776, 2117535288, 2117535800,
   2117536312, 2117536824, 2117537336, 2117537848, 2117538360, 2117538872, 2117539384, 2117539896, 2117540408,
   2117540920, 2117541432, 2117541944, 2117542456, 2117542968, 2117543480, 2117543992, 2117544504, 2117545016,
   2117545528, 2117546040, 2117546552, 2117547064, 2117547576, 2117548088, 2117548600, 2117549112, 2117549624,
   2117550136, 2117550648, 2117551160, 2117551672, 2117552184, 2117552696, 2117553208, 2117553720, 2117554232,
   2117554744, 2117555256, 2117555768, 2117556280, 2117556792, 2117557304, 2117557816, 2117558328, 2117558840,
   2117559352, 2117559864, 2117560376, 2117560888, 2117561400, 2117561912, 2117562424, 2117562936, 2117563448,
   2117563960, 2117564472, 2117564984, 2117565496, 2117566008, 2117566520, 2117567032, 2117567544, 2117568056,
   2117568568, 2117569080, 2117569592, 2117570104, 2117570616, 2117571128, 2117571640, 2117572152, 2117572664,
   2117573176, 2117573688, 2117574200, 2117574712, 2117575224, 2117575736, 2117576248, 2117576760, 2117577272,
   2117577784, 2117578296, 2117578808, 2117579320, 2117579832, 2117580344, 2117580856, 2117581368, 2117581880,
   2117582392, 2117582904, 2117583416, 2117583928, 2117584440, 2117584952, 2117585464, 2117585976, 2117586488,
   2117587000, 2117587512, 2117588024, 2117588536, 2117589048, 2117589560, 2117590072, 2117590584, 2117591096,
   2117591608, 2117592120, 2117592632, 2117593144, 2117593656, 2117594168, 2117594680, 2117595192, 2117595704,
   2117596216, 2117596728, 2117597240, 2117597752, 2117598264, 2117598776, 2117599289, 2117599801, 2117600313,
   2117600825, 2117601337, 2117601849, 2117602361, 2117602873, 2117603385, 2117603897, 2117604409, 2117604921,
   2117605433, 2117605945, 2117606457, 2117606969, 2117607481, 2117607993, 2117608505, 2117609017, 2117609529,
   2117610041, 2117610553, 2117611065, 2117611577, 2117612089, 2117612601, 2117613113, 2117613625, 2117614137,
   2117614649, 2117615161, 2117615673, 2117616185, 2117616697, 2117617209, 2117617721, 2117618233, 2117618745,
   2117619257, 2117619769, 2117620281, 2117620793, 2117621305, 2117621817, 2117622329, 2117622841, 2117623353,
   2117623865, 2117624377, 2117624889, 2117625401, 2117625913, 2117626425, 2117626937, 2117627449, 2117627961,
   2117628473, 2117628985, 2117629497, 2117630009, 2117630521, 2117631033, 2117631545, 2117632057, 2117632569,
   2117633081, 2117633593, 2117634105, 2117634617, 2117635129, 2117635641, 2117636153, 2117636665, 2117637177,
   2117637689, 2117638201, 2117638713, 2117639225, 2117639737, 2117640249, 2117640761, 2117641273, 2117641785,
   2117642297, 2117642809, 2117643321, 2117643833, 2117644345, 2117644857, 2117645369, 2117645881, 2117646393,
   2117646905, 2117647417, 2117647929, 2117648441, 2117648953, 2117649465, 2117649977, 2117650489, 2117651001,
   2117651513, 2117652025, 2117652537, 2117653049, 2117653561, 2117654073, 2117654585, 2117655097, 2117655609,
   2117656121, 2117656633, 2117657145, 2117657657, 2117658169, 2117658681, 2117659193, 2117659705, 2117660217,
   2117660729, 2117661241, 2117661753, 2117662265, 2117662777, 2117663289, 2117663801, 2117664313, 2117664826,
   2117665338, 2117665850, 2117666362, 2117666874, 2117667386, 2117667898, 2117668410, 2117668922, 2117669434,
   2117669946, 2117670458, 2117670970, 2117671482, 2117671994, 2117672506, 2117673018, 2117673530, 2117674042,
   2117674554, 2117675066, 2117675578, 2117676090, 2117676602, 2117677114, 2117677626, 2117678138, 2117678650,
   2117679162, 2117679674, 2117680186, 2117680698, 2117681210, 2117681722, 2117682234, 2117682746, 2117683258,
   2117683770, 2117684282, 2117684794, 2117685306, 2117685818, 2117686330, 2117686842, 2117687354, 2117687866,
   2117688378, 2117688890, 2117689402, 2117689914, 2117690426, 2117690938, 2117691450, 2117691962, 2117692474,
   2117692986, 2117693498, 2117694010, 2117694522, 2117695034, 2117695546, 2117696058, 2117696570, 2117697082,
   2117697594, 2117698106, 2117698618, 2117699130, 2117699642, 2117700154, 2117700666, 2117701178, 2117701690,
   2117702202, 2117702714, 2117703226, 2117703738, 2117704250, 2117704762, 2117705274, 2117705786, 2117706298,
   2117706810, 2117707322, 2117707834, 2117708346, 2117708858, 2117709370, 2117709882, 2117710394, 2117710906,
   2117711418, 2117711930, 2117712442, 2117712954, 2117713466, 2117713978, 2117714490, 2117715002, 2117715514,
   2117716026, 2117716538, 2117717050, 2117717562, 2117718074, 2117718586, 2117719098, 2117719610, 2117720122,
   2117720634, 2117721146, 2117721658, 2117722170, 2117722682, 2117723194, 2117723706, 2117724218, 2117724730,
   2117725242, 2117725754, 2117726266, 2117726778, 2117727290, 2117727802, 2117728314, 2117728826, 2117729338,
   2117729850, 2117730363, 2117730875, 2117731387, 2117731899, 2117732411, 2117732923, 2117733435, 2117733947,
   2117734459, 2117734971, 2117735483, 2117735995, 2117736507, 2117737019, 2117737531, 2117738043, 2117738555,
   2117739067, 2117739579, 2117740091, 2117740603, 2117741115, 2117741627, 2117742139, 2117742651, 2117743163,
   2117743675, 2117744187, 2117744699, 2117745211, 2117745723, 2117746235, 2117746747, 2117747259, 2117747771,
   2117748283, 2117748795, 2117749307, 2117749819, 2117750331, 2117750843, 2117751355, 2117751867, 2117752379,
   2117752891, 2117753403, 2117753915, 2117754427, 2117754939, 2117755451, 2117755963, 2117756475, 2117756987,
   2117757499, 2117758011, 2117758523, 2117759035, 2117759547, 2117760059, 2117760571, 2117761083, 2117761595,
   2117762107, 2117762619, 2117763131, 2117763643, 2117764155, 2117764667, 2117765179, 2117765691, 2117766203,
   2117766715, 2117767227, 2117767739, 2117768251, 2117768763, 2117769275, 2117769787, 2117770299, 2117770811,
   2117771323, 2117771835, 2117772347, 2117772859, 2117773371, 2117773883, 2117774395, 2117774907, 2117775419,
   2117775931, 2117776443, 2117776955, 2117777467, 2117777979, 2117778491, 2117779003, 2117779515, 2117780027,
   2117780539, 2117781051, 2117781563, 2117782075, 2117782587, 2117783099, 2117783611, 2117784123, 2117784635,
   2117785147, 2117785659, 2117786171, 2117786683, 2117787195, 2117787707, 2117788219, 2117788731, 2117789243,
   2117789755, 2117790267, 2117790779, 2117791291, 2117791803, 2117792315, 2117792827, 2117793339, 2117793851,
   2117794363, 2117794875, 2117795387, 2117795900, 2117796412, 2117796924, 2117797436, 2117797948, 2117798460,
   2117798972, 2117799484, 2117799996, 2117800508, 2117801020, 2117801532, 2117802044, 2117802556, 2117803068,
   2117803580, 2117804092, 2117804604, 2117805116, 2117805628, 2117806140, 2117806652, 2117807164, 2117807676,
   2117808188, 2117808700, 2117809212, 2117809724, 2117810236, 2117810748, 2117811260, 2117811772, 2117812284,
   2117812796, 2117813308, 2117813820, 2117814332, 2117814844, 2117815356, 2117815868, 2117816380, 2117816892,
   2117817404, 2117817916, 2117818428, 2117818940, 2117819452, 2117819964, 2117820476, 2117820988, 2117821500,
   2117822012, 2117822524, 2117823036, 2117823548, 2117824060, 2117824572, 2117825084, 2117825596, 2117826108,
   2117826620, 2117827132, 2117827644, 2117828156, 2117828668, 2117829180, 2117829692, 2117830204, 2117830716,
   2117831228, 2117831740, 2117832252, 2117832764, 2117833276, 2117833788, 2117834300, 2117834812, 2117835324,
   2117835836, 2117836348, 2117836860, 2117837372, 2117837884, 2117838396, 2117838908, 2117839420, 2117839932,
   2117840444, 2117840956, 2117841468, 2117841980, 2117842492, 2117843004, 2117843516, 2117844028, 2117844540,
   2117845052, 2117845564, 2117846076, 2117846588, 2117847100, 2117847612, 2117848124, 2117848636, 2117849148,
   2117849660, 2117850172, 2117850684, 2117851196, 2117851708, 2117852220, 2117852732, 2117853244, 2117853756,
   2117854268, 2117854780, 2117855292, 2117855804, 2117856316, 2117856828, 2117857340, 2117857852, 2117858364,
   2117858876, 2117859388, 2117859900, 2117860412, 2117860924, 2117861437, 2117861949, 2117862461, 2117862973,
   2117863485, 2117863997, 2117864509, 2117865021, 2117865533, 2117866045, 2117866557, 2117867069, 2117867581,
   2117868093, 2117868605, 2117869117, 2117869629, 2117870141, 2117870653, 2117871165, 2117871677, 2117872189,
   2117872701, 2117873213, 2117873725, 2117874237, 2117874749, 2117875261, 2117875773, 2117876285, 2117876797,
   2117877309, 2117877821, 2117878333, 2117878845, 2117879357, 2117879869, 2117880381, 2117880893, 2117881405,
   2117881917, 2117882429, 2117882941, 2117883453, 2117883965, 2117884477, 2117884989, 2117885501, 2117886013,
   2117886525, 2117887037, 2117887549, 2117888061, 2117888573, 2117889085, 2117889597, 2117890109, 2117890621,
   2117891133, 2117891645, 2117892157, 2117892669, 2117893181, 2117893693, 2117894205, 2117894717, 2117895229,
   2117895741, 2117896253, 2117896765, 2117897277, 2117897789, 2117898301, 2117898813, 2117899325, 2117899837,
   2117900349, 2117900861, 2117901373, 2117901885, 2117902397, 2117902909, 2117903421, 2117903933, 2117904445,
   2117904957, 2117905469, 2117905981, 2117906493, 2117907005, 2117907517, 2117908029, 2117908541, 2117909053,
   2117909565, 2117910077, 2117910589, 2117911101, 2117911613, 2117912125, 2117912637, 2117913149, 2117913661,
   2117914173, 2117914685, 2117915197, 2117915709, 2117916221, 2117916733, 2117917245, 2117917757, 2117918269,
   2117918781, 2117919293, 2117919805, 2117920317, 2117920829, 2117921341, 2117921853, 2117922365, 2117922877,
   2117923389, 2117923901, 2117924413, 2117924925, 2117925437, 2117925949, 2117926461, 2117926974, 2117927486,
   2117927998, 2117928510, 2117929022, 2117929534, 2117930046, 2117930558, 2117931070, 2117931582, 2117932094,
   2117932606, 2117933118, 2117933630, 2117934142, 2117934654, 2117935166, 2117935678, 2117936190, 2117936702,
   2117937214, 2117937726, 2117938238, 2117938750, 2117939262, 2117939774, 2117940286, 2117940798, 2117941310,
   2117941822, 2117942334, 2117942846, 2117943358, 2117943870, 2117944382, 2117944894, 2117945406, 2117945918,
   2117946430, 2117946942, 2117947454, 2117947966, 2117948478, 2117948990, 2117949502, 2117950014, 2117950526,
   2117951038, 2117951550, 2117952062, 2117952574, 2117953086, 2117953598, 2117954110, 2117954622, 2117955134,
   2117955646, 2117956158, 2117956670, 2117957182, 2117957694, 2117958206, 2117958718, 2117959230, 2117959742,
   2117960254, 2117960766, 2117961278, 2117961790, 2117962302, 2117962814, 2117963326, 2117963838, 2117964350,
   2117964862, 2117965374, 2117965886, 2117966398, 2117966910, 2117967422, 2117967934, 2117968446, 2117968958,
   2117969470, 2117969982, 2117970494, 2117971006, 2117971518, 2117972030, 2117972542, 2117973054, 2117973566,
   2117974078, 2117974590, 2117975102, 2117975614, 2117976126, 2117976638, 2117977150, 2117977662, 2117978174,
   2117978686, 2117979198, 2117979710, 2117980222, 2117980734, 2117981246, 2117981758, 2117982270, 2117982782,
   2117983294, 2117983806, 2117984318, 2117984830, 2117985342, 2117985854, 2117986366, 2117986878, 2117987390,
   2117987902, 2117988414, 2117988926, 2117989438, 2117989950, 2117990462, 2117990974, 2117991486, 2117991998,
   2117992511, 2117993023, 2117993535, 2117994047, 2117994559, 2117995071, 2117995583, 2117996095, 2117996607,
   2117997119, 2117997631, 2117998143, 2117998655, 2117999167, 2117999679, 2118000191, 2118000703, 2118001215,
   2118001727, 2118002239, 2118002751, 2118003263, 2118003775, 2118004287, 2118004799, 2118005311, 2118005823,
   2118006335, 2118006847, 2118007359, 2118007871, 2118008383, 2118008895, 2118009407, 2118009919, 2118010431,
   2118010943, 2118011455, 2118011967, 2118012479, 2118012991, 2118013503, 2118014015, 2118014527, 2118015039,
   2118015551, 2118016063, 2118016575, 2118017087, 2118017599, 2118018111, 2118018623, 2118019135, 2118019647,
   2118020159, 2118020671, 2118021183, 2118021695, 2118022207, 2118022719, 2118023231, 2118023743, 2118024255,
   2118024767, 2118025279, 2118025791, 2118026303, 2118026815, 2118027327, 2118027839, 2118028351, 2118028863,
   2118029375, 2118029887, 2118030399, 2118030911, 2118031423, 2118031935, 2118032447, 2118032959, 2118033471,
   2118033983, 2118034495, 2118035007, 2118035519, 2118036031, 2118036543, 2118037055, 2118037567, 2118038079,
   2118038591, 2118039103, 2118039615, 2118040127, 2118040639, 2118041151, 2118041663, 2118042175, 2118042687,
   2118043199, 2118043711, 2118044223, 2118044735, 2118045247, 2118045759, 2118046271, 2118046783, 2118047295,
   2118047807, 2118048319, 2118048831, 2118049343, 2118049855, 2118050367, 2118050879, 2118051391, 2118051903,
   2118052415, 2118052927, 2118053439, 2118053951, 2118054463, 2118054975, 2118055487, 2118055999, 2118056511,
   2118057023, 2118057535, 2118058048, 2118058560, 2118059072, 2118059584, 2118060096, 2118060608, 2118061120,
   2118061632, 2118062144, 2118062656, 2118063168, 2118063680, 2118064192, 2118064704, 2118065216, 2118065728,
   2118066240, 2118066752, 2118067264, 2118067776, 2118068288, 2118068800, 2118069312, 2118069824, 2118070336,
   2118070848, 2118071360, 2118071872, 2118072384, 2118072896, 2118073408, 2118073920, 2118074432, 2118074944,
   2118075456, 2118075968, 2118076480, 2118076992, 2118077504, 2118078016, 2118078528, 2118079040, 2118079552,
   2118080064, 2118080576, 2118081088, 2118081600, 2118082112, 2118082624, 2118083136, 2118083648, 2118084160,
   2118084672, 2118085184, 2118085696, 2118086208, 2118086720, 2118087232, 2118087744, 2118088256, 2118088768,
   2118089280, 2118089792, 2118090304, 2118090816, 2118091328, 2118091840, 2118092352, 2118092864, 2118093376,
   2118093888, 2118094400, 2118094912, 2118095424, 2118095936, 2118096448, 2118096960, 2118097472, 2118097984,
   2118098496, 2118099008, 2118099520, 2118100032, 2118100544, 2118101056, 2118101568, 2118102080, 2118102592,
   2118103104, 2118103616, 2118104128, 2118104640, 2118105152, 2118105664, 2118106176, 2118106688, 2118107200,
   2118107712, 2118108224, 2118108736, 2118109248, 2118109760, 2118110272, 2118110784, 2118111296, 2118111808,
   2118112320, 2118112832, 2118113344, 2118113856, 2118114368, 2118114880, 2118115392, 2118115904, 2118116416,
   2118116928, 2118117440, 2118117952, 2118118464, 2118118976, 2118119488, 2118120000, 2118120512, 2118121024,
   2118121536, 2118122048, 2118122560, 2118123072, 2118123585]
theorem c19_ok :
    chkList (pipeF 1199570688 65535) 65535 2139095040 38913 1058537497 19457 c19
      40961 1059061793 20481 = true := by decide +kernel
theorem c19_len : 38913 + c19.length = 40961 := (chkList_end c19_ok).1
theorem c19_last : lastS 1058537497 c19 = 1059061793 := (chkList_end c19_ok).2.1

end Dds.F32Thr.FpN16
