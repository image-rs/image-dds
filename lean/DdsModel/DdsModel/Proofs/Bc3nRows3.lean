/-
BC3n `calc_b` = specification `z8`: rows `r = 192 … 255` (all 256 values of `g` each), by kernel evaluation
of the checker of `Proofs/Bc3nCalc.lean`.  The four files `Bc3nRows0…3` differ only in the range (the kernel's
memory grows by about 0.06 GB per row, so one sweep of all 256 rows is not wanted).
-/
import DdsModel.Range
import DdsModel.Proofs.Bc3nCalc
namespace Dds.Bc3n

theorem rows192 : allRange rowChk 0 192 64 = true := by decide +kernel

end Dds.Bc3n
