/-
No i32 operation of BC6H `unquantize` / interpolate / `finish_unquantize` overflows.

`Bc6.lean` models the release build: every `+`, `*`, `<<`, unary `-` is followed by `wrap32`.  Here the same
functions are mirrored with every `wrap32 e` (including the one inside `shl32 x s = wrap32 (x * 2^s)`) replaced by
the trapping check `ck32 e` of the overflow-checking build, in the same nesting / evaluation order.  The theorems
say: on the decode path the checked evaluation never traps and returns exactly what the wrapping model returns.
-/
import DdsModel.Proofs.Bc6GlueArith
namespace Dds.Bc6
open Dds.BcTables Dds.Bc6Spec

/-- an i32 operation of the overflow-checking build: `none` = the result does not fit i32 (trap) -/
def ck32 (x : Int) : Option Int := if -2147483648 ≤ x ∧ x < 2147483648 then some x else none

/-- checked mirror of `Bc6.shl32` (`i32 << s`): `shl32 x s = wrap32 (x * 2^s)` -/
def shlCk (x : Int) (s : Nat) : Option Int := ck32 (x * (2 ^ s : Nat))

/-- checked mirror of `Bc6.unquantize`: same branch structure and order of operations, one `ck32` per `wrap32`
(`shlCk` for `shl32`) -/
def unquantizeCk (component : Int) (bits : Nat) (signed : Bool) : Option Int :=
  if !signed then
    if bits ≥ 15 then some component
    else if component = 0 then some 0
    else do
      -- `component = wrap32 (shl32 1 bits - 1)`
      let one ← shlCk 1 bits
      let m ← ck32 (one - 1)
      if component = m then some 0xFFFF
      else do
        -- `sar32 (wrap32 (shl32 component 16 + 0x8000)) bits`
        let sh ← shlCk component 16
        let t ← ck32 (sh + 0x8000)
        some (sar32 t bits)
  else
    if bits ≥ 16 then some component
    else do
      -- `let s := component < 0; let component := if s then wrap32 (-component) else component`
      let comp ← if component < 0 then ck32 (-component) else some component
      let unq ←
        if comp = 0 then some 0
        else do
          -- `component ≥ wrap32 (shl32 1 (bits - 1) - 1)`
          let one ← shlCk 1 (bits - 1)
          let m ← ck32 (one - 1)
          if comp ≥ m then some 0x7FFF
          else do
            -- `sar32 (wrap32 (shl32 component 15 + 0x4000)) (bits - 1)`
            let sh ← shlCk comp 15
            let t ← ck32 (sh + 0x4000)
            some (sar32 t (bits - 1))
      -- `if s then wrap32 (-unq) else unq`
      if component < 0 then ck32 (-unq) else some unq

/-- checked mirror of `Bc6.finishUnquantize`: one `ck32` per `wrap32`, same nesting order -/
def finishUnquantizeCk (component : Int) (signed : Bool) : Option Nat :=
  if !signed then do
    -- `toU32 (sar32 (wrap32 (component * 31)) 6) % U16`
    let p ← ck32 (component * 31)
    some (toU32 (sar32 p 6) % U16)
  else do
    let c ←
      if component < 0 then do
        -- `wrap32 (-(sar32 (wrap32 (wrap32 (-component) * 31)) 5))`
        let n ← ck32 (-component)
        let p ← ck32 (n * 31)
        ck32 (-(sar32 p 5))
      else do
        -- `sar32 (wrap32 (component * 31)) 5`
        let p ← ck32 (component * 31)
        some (sar32 p 5)
    let s : Nat := if c < 0 then 0x8000 else 0
    -- `if c < 0 then wrap32 (-c) else c`
    let c' ← if c < 0 then ck32 (-c) else some c
    some ((s ||| toU32 c') % U16)

/-- checked mirror of `Bc6.paletteEntry`:
`finishUnquantize (sar32 (wrap32 (wrap32 (wrap32 (a * wrap32 (64 - w)) + wrap32 (b * w)) + 32)) 6) signed` -/
def paletteEntryCk (a b : Int) (w : Nat) (signed : Bool) : Option Nat := do
  let iw ← ck32 (64 - (w : Int))
  let aw ← ck32 (a * iw)
  let bw ← ck32 (b * (w : Int))
  let s ← ck32 (aw + bw)
  let t ← ck32 (s + 32)
  finishUnquantizeCk (sar32 t 6) signed

/-! ### the checks never fire on the decode path -/

theorem ck32_some (x : Int) (h1 : -2147483648 ≤ x) (h2 : x < 2147483648) : ck32 x = some x := by
  unfold ck32; rw [if_pos ⟨h1, h2⟩]

theorem ck32_eq_wrap (x : Int) (h1 : -2147483648 ≤ x) (h2 : x < 2147483648) : ck32 x = some (wrap32 x) := by
  rw [ck32_some x h1 h2, wrap32_id x h1 h2]

theorem ck32_none (x : Int) (h : x < -2147483648 ∨ 2147483648 ≤ x) : ck32 x = none := by
  unfold ck32; rw [if_neg (by omega)]

/-- `unquantize` in the overflow-checking build never traps and returns what the wrapping model returns: below the
pass-through widths `2^bits ≤ 2^14`, so `component << 16` fits -/
theorem unquantizeCk_some (signed : Bool) (bits : Nat) (c : Int) (hc : inRange signed bits c) :
    unquantizeCk c bits signed = some (Bc6.unquantize c bits signed) := by
  cases signed <;>
    simp only [inRange, unquantizeCk, Bc6.unquantize, shlCk, shl32, sar32, Int.one_mul, Bool.not_true, Bool.not_false,
      Bool.false_eq_true, if_false, if_true] at hc ⊢
  · by_cases h15 : bits ≥ 15
    · simp only [h15, if_true]
    · have hP : (2 ^ bits : Nat) ≤ 2 ^ 14 := Nat.pow_le_pow_right (by decide) (by omega)
      simp only [h15, if_false, Nat.reducePow, Int.cast_ofNat_Int]
      generalize (2 ^ bits : Nat) = P at *
      -- the checks pass and the wraps are identities; the test `component = (1 << bits) - 1` is left on both sides
      split <;> simp (disch := omega) only [ck32_some, wrap32_id, Option.bind_eq_bind, Option.bind_some] <;>
        split <;> rfl
  · by_cases h16 : bits ≥ 16
    · simp only [h16, if_true]
    · have hQ : (2 ^ (bits - 1) : Nat) ≤ 2 ^ 14 := Nat.pow_le_pow_right (by decide) (by omega)
      simp only [h16, if_false, Nat.reducePow, Int.cast_ofNat_Int]
      generalize (2 ^ (bits - 1) : Nat) = Q at *
      -- the magnitude of a negative component is negated once more after the shift
      have hD : c < 0 → 0 ≤ (-c * 32768 + 16384) / (Q : Int) ∧ (-c * 32768 + 16384) / (Q : Int) ≤ -c * 32768 + 16384 :=
        fun h => ⟨Int.ediv_nonneg (by omega) (by omega), Int.ediv_le_self _ (by omega)⟩
      split <;> simp (disch := omega) only [ck32_some, wrap32_id, Option.bind_eq_bind, Option.bind_some] <;>
        (repeat' split) <;> rfl

/-- `finish_unquantize` in the overflow-checking build never traps -/
theorem finishUnquantizeCk_some (signed : Bool) (e : Int)
    (he : if signed then -32768 ≤ e ∧ e ≤ 32767 else 0 ≤ e ∧ e ≤ 65535) :
    finishUnquantizeCk e signed = some (finishUnquantize e signed) := by
  cases signed <;>
    simp only [finishUnquantizeCk, finishUnquantize, sar32, Nat.reducePow, Int.cast_ofNat_Int, Bool.not_true,
      Bool.not_false, Bool.false_eq_true, if_false, if_true] at he ⊢
  · simp (disch := omega) only [ck32_some, wrap32_id, Option.bind_eq_bind, Option.bind_some]
  -- by the sign of the component, then by the sign of the scaled value
  · split <;> simp (disch := omega) only [ck32_some, wrap32_id, Option.bind_eq_bind, Option.bind_some] <;> split <;> rfl

/-- interpolate + `finish_unquantize` in the overflow-checking build never trap and return what the wrapping
model returns, for every weight 0..64 -/
theorem paletteEntryCk_some (signed : Bool) (a b : Int) (w : Nat) (hw : w ≤ 64)
    (ha : if signed then -32768 ≤ a ∧ a ≤ 32767 else 0 ≤ a ∧ a ≤ 65535)
    (hb : if signed then -32768 ≤ b ∧ b ≤ 32767 else 0 ≤ b ∧ b ≤ 65535) :
    paletteEntryCk a b w signed = some (paletteEntry a b w signed) := by
  obtain ⟨hA, hB, hS⟩ := lerp_range signed a b w hw ha hb
  have hs : sar32 (a * (64 - (w : Int)) + b * (w : Int) + 32) 6 = (a * (64 - (w : Int)) + b * (w : Int) + 32) / 64 := by
    simp only [sar32, Nat.reducePow, Int.cast_ofNat_Int]
  unfold paletteEntryCk paletteEntry
  simp (disch := omega) only [ck32_some, wrap32_id, Option.bind_eq_bind, Option.bind_some]
  rw [hs]
  exact finishUnquantizeCk_some signed _ hS

/-! ### instances, and the checks are not vacuous -/

example : unquantizeCk 2047 11 false = some (Bc6.unquantize 2047 11 false) :=
  unquantizeCk_some false 11 2047 (by unfold inRange; decide)

example : unquantizeCk (-1024) 11 true = some (Bc6.unquantize (-1024) 11 true) :=
  unquantizeCk_some true 11 (-1024) (by unfold inRange; decide)

example : paletteEntryCk (-32768) 32767 43 true = some (paletteEntry (-32768) 32767 43 true) :=
  paletteEntryCk_some true (-32768) 32767 43 (by omega) (by decide) (by decide)

example : paletteEntryCk 65535 65535 64 false = some (paletteEntry 65535 65535 64 false) :=
  paletteEntryCk_some false 65535 65535 64 (by omega) (by decide) (by decide)

example : unquantizeCk 2047 11 false = some 65535 ∧ unquantizeCk (-1024) 11 true = some (-32767) ∧
    paletteEntryCk (-32768) 32767 43 true = some 0x2A9F ∧ paletteEntryCk 65535 65535 64 false = some 0x7BFF := by
  decide

/-- outside the decode path's ranges the mirror DOES trap: `a * 64`, `component << 16`, `-(i32::MIN)` -/
example : paletteEntryCk 2147483647 1 0 false = none := by decide
example : unquantizeCk 70000 6 false = none := by decide
example : finishUnquantizeCk (-2147483648) true = none := by decide

end Dds.Bc6
