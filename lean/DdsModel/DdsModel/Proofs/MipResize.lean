/- Helper lemmas for C16: what one resize step does to a plane (plain and straight-alpha path). -/
import DdsModel.Proofs.MipArith
import DdsModel.Proofs.RatLemmas
namespace Dds.Mip

theorem Plane.at_mem (pl : Plane) (i : Nat) (h : i < pl.length) : pl.at i ∈ pl := by
  unfold Plane.at
  rw [List.getD_eq_getElem?_getD, List.getElem?_eq_getElem h]
  exact List.getElem_mem h

/-- the end points are values the precision can hold exactly (any value for `f32`) -/
def Prec.Grid (p : Prec) (lo hi : Rat) : Prop :=
  p = .f32 ∨ ∃ (l h : Nat), lo = (l : Rat) ∧ hi = (h : Rat) ∧ (h : Rat) ≤ p.maxVal

theorem quant_range' (p : Prec) (lo hi v : Rat) (hg : p.Grid lo hi) (h1 : lo ≤ v) (h2 : v ≤ hi) :
    lo ≤ p.quant v ∧ p.quant v ≤ hi := by
  rcases hg with rfl | ⟨l, h, rfl, rfl, hm⟩
  · exact ⟨h1, h2⟩
  · exact quant_range p l h v (Or.inr hm) h1 h2

theorem quant_fix (p : Prec) (c : Rat) (hg : p.Grid c c) : p.quant c = c := by
  obtain ⟨h1, h2⟩ := quant_range' p c c c hg Rat.le_refl Rat.le_refl
  exact Rat.le_antisymm h2 h1

/-- what is assumed of the taps of one resize call -/
structure TapsOK (ts : List Taps) (n m : Nat) : Prop where
  len : ts.length = m
  inRange : ∀ t ∈ ts, t.InRange n
  sum : ∀ t ∈ ts, t.sumW = 1

theorem Kernel.Normalised.ok {K : Kernel} {f : Filter} (h : K.Normalised f) (sw sh dw dh : Nat) :
    TapsOK (K.taps f sw sh dw dh) (sw * sh) (dw * dh) :=
  ⟨(h sw sh dw dh).1, fun t ht => ((h sw sh dw dh).2 t ht).1, fun t ht => ((h sw sh dw dh).2 t ht).2⟩

theorem TapsOK.at_mem {ts : List Taps} {n m : Nat} (ok : TapsOK ts n m) {t : Taps} (ht : t ∈ ts)
    {pl : Plane} (hlen : pl.length = n) {iw : Nat × Rat} (hiw : iw ∈ t) : pl.at iw.1 ∈ pl :=
  Plane.at_mem pl iw.1 (by rw [hlen]; exact ok.inRange t ht iw hiw)

/-- normalised taps (negative lobes allowed) reproduce a constant -/
theorem TapsOK.dot_const {ts : List Taps} {n m : Nat} (ok : TapsOK ts n m) {t : Taps} (ht : t ∈ ts)
    {pl : Plane} (hlen : pl.length = n) {c : Rat} (hv : ∀ v ∈ pl, v = c) : dot t pl.at = c := by
  rw [Mip.dot_const t pl.at c (fun _ hiw => hv _ (ok.at_mem ht hlen hiw)), ok.sum t ht, Rat.mul_one]

/-! ### plain path -/

/-- range clause, one step: convex taps keep every sample inside `[lo, hi]`, rounding included -/
theorem resizePlane_range (p : Prec) (lo hi : Rat) (hg : p.Grid lo hi) (ts : List Taps) (n m : Nat)
    (ok : TapsOK ts n m) (nn : ∀ t ∈ ts, t.NonNeg) (pl : Plane) (hlen : pl.length = n)
    (hv : ∀ v ∈ pl, lo ≤ v ∧ v ≤ hi) : ∀ v ∈ resizePlane p ts pl, lo ≤ v ∧ v ≤ hi := by
  intro v hm
  obtain ⟨t, ht, rfl⟩ := List.mem_map.mp hm
  have hb := dot_bounds t pl.at lo hi (nn t ht) (fun _ hiw _ => hv _ (ok.at_mem ht hlen hiw))
  rw [ok.sum t ht, Rat.mul_one, Rat.mul_one] at hb
  exact quant_range' p lo hi _ hg hb.1 hb.2

theorem resizePlane_const (p : Prec) (c : Rat) (hg : p.Grid c c) (ts : List Taps) (n m : Nat)
    (ok : TapsOK ts n m) (pl : Plane) (hlen : pl.length = n) (hv : ∀ v ∈ pl, v = c) :
    ∀ v ∈ resizePlane p ts pl, v = c := by
  intro v hm
  obtain ⟨t, ht, rfl⟩ := List.mem_map.mp hm
  rw [ok.dot_const ht hlen hv]
  exact quant_fix p c hg

/-! ### straight-alpha path -/

theorem castSat_pos (m : Nat) (v : Rat) (h : 0 < castSat m v) : 1 ≤ v := by
  unfold castSat at h
  have h0 : ((0 : Nat) : Rat) < ((min m v.floor.toNat : Nat) : Rat) := by simpa using h
  have h1 : 0 < min m v.floor.toNat := Rat.natCast_lt_natCast.mp h0
  have h2 : (1 : Int) ≤ v.floor := by omega
  have := Rat.le_floor_iff.mp h2
  simpa using this

theorem castSat_nonneg (m : Nat) (v : Rat) : 0 ≤ castSat m v := by
  unfold castSat
  have : ((0 : Nat) : Rat) ≤ ((min m v.floor.toNat : Nat) : Rat) := Rat.natCast_le_natCast.mpr (Nat.zero_le _)
  simpa using this

theorem saColour_u8 (accC accA : Rat) : saColour .u8 accC accA =
    Prec.u8.quant (accC * (if accA < 1 / 2 / 255 then 0 else 1 / accA)) := rfl

theorem saColour_u16 (accC accA : Rat) : saColour .u16 accC accA =
    if Prec.u16.quant accA = 0 then 0 else Prec.u16.quant (accC * (1 / accA)) := rfl

theorem saColour_f32 (accC accA : Rat) : saColour .f32 accC accA =
    if accA ≤ 0 then 0 else accC * (1 / accA) := rfl

/-- a visible output pixel (`alpha > 0`) has a positive accumulated alpha — for `u8` at least 1/2,
so the `a < 0.5/255` branch is not taken — and its colour is the rounded quotient -/
theorem saColour_visible (p : Prec) (accC accA : Rat) (h : 0 < saAlpha p accA) :
    0 < accA ∧ saColour p accC accA = p.quant (accC / accA) := by
  rw [← rat_mul_one_div]
  cases p with
  | u8 =>
    have := castSat_pos 255 (accA + 1 / 2) h
    exact ⟨by grind, by rw [saColour_u8, if_neg (by grind)]⟩
  | u16 =>
    have h' : 0 < Prec.u16.quant accA := h
    have := castSat_pos 65535 (accA + 1 / 2) h'
    exact ⟨by grind, by rw [saColour_u16, if_neg (Rat.ne_of_gt h')]⟩
  | f32 =>
    have hz : ¬ accA ≤ 0 := fun hz => by
      rw [show saAlpha .f32 accA = 0 from if_pos hz] at h; exact absurd h (by decide)
    exact ⟨Rat.not_le.mp hz, by rw [saColour_f32, if_neg hz]; rfl⟩

/-- accumulated premultiplied colour lies between `lo·accA` and `hi·accA`, where only source
pixels with positive alpha need to be inside `[lo, hi]` -/
theorem premul_bounds (t : Taps) (n : Nat) (hr : t.InRange n) (nn : t.NonNeg) (c a : Plane)
    (ha : a.length = n) (lo hi : Rat) (ha0 : ∀ v ∈ a, 0 ≤ v)
    (hv : ∀ i, i < n → 0 < a.at i → lo ≤ c.at i ∧ c.at i ≤ hi) :
    lo * dot t a.at ≤ dot t (fun i => c.at i * a.at i) ∧
      dot t (fun i => c.at i * a.at i) ≤ hi * dot t a.at := by
  have hai : ∀ jw ∈ t, 0 ≤ a.at jw.1 :=
    fun jw hj => ha0 _ (Plane.at_mem a jw.1 (by rw [ha]; exact hr jw hj))
  rw [dot_premul, ← sumW_premul t a.at]
  apply dot_bounds
  · intro iw hm
    obtain ⟨jw, hj, rfl⟩ := List.mem_map.mp hm
    exact Rat.mul_nonneg (nn jw hj) (hai jw hj)
  · intro iw hm hpos
    obtain ⟨jw, hj, rfl⟩ := List.mem_map.mp hm
    apply hv jw.1 (hr jw hj)
    have hw := nn jw hj
    have := hai jw hj
    by_cases hz : a.at jw.1 = 0
    · rw [hz] at hpos; simp at hpos
    · grind

theorem accA_nonneg (t : Taps) (n : Nat) (hr : t.InRange n) (nn : t.NonNeg) (a : Plane) (ha : a.length = n)
    (ha0 : ∀ v ∈ a, 0 ≤ v) : 0 ≤ dot t a.at :=
  dot_nonneg t a.at nn (fun iw hiw => ha0 _ (Plane.at_mem a iw.1 (by rw [ha]; exact hr iw hiw)))

end Dds.Mip
