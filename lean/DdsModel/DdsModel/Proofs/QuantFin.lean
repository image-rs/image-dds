/- finite facts of C12 about the float targets, evaluated over their whole domains -/
import DdsModel.Proofs.Quant
namespace Dds.Quant

theorem half_holds_u8 : ∀ v : Nat, v < 256 → q 8 (halfVal (half ((v : Rat) / 255))) = v :=
  forall_lt_of_allRange (d := 3) (by decide +kernel)

theorem qRatio_mono (L N : Nat) {v w : Nat} (h : v ≤ w) : qRatio L v N ≤ qRatio L w N :=
  Nat.div_le_div_right (Nat.add_le_add_right (Nat.mul_le_mul_right L (Nat.mul_le_mul_left 2 h)) N)

/-- the shared exponent chosen for the maximum channel `mx / 255` is at most 16, and the mantissa of `mx` itself
(the largest of the pixel, by `qRatio_mono`) fits 9 bits -/
theorem e9_max_all : ∀ mx : Nat, mx ≤ 255 →
    e9Exp ((mx : Rat) / 255) ≤ 16 ∧ qRatio (2 ^ (24 - e9Exp ((mx : Rat) / 255))) mx 255 ≤ 511 :=
  forall_le_of_allRange (d := 3) (by decide +kernel)

end Dds.Quant
