/-
C13, BC1–BC5 encoder core: whole blocks.  What `compress_bc1_block` / `compress_bc4_block` write and what bc.rs
concatenates decodes, under the proved decoders of C03 (`Bc.decodeBlock` = `BcSpec.decodeBlock`), to the palette entries
the index lists name.
-/
import DdsModel.Proofs.EncBc15Writer
namespace Dds.Enc15
open Dds Dds.Bc Dds.Enc13
open Dds.BcSpec (leWord rnd quant)

/-! ### mode of the written pair = mode of the palette the encoder built -/

theorem createEndpoints_spec (mode : PaletteMode) (e0 e1 : C565) (v0 : e0.Valid) (v1 : e1.Valid) :
    (createEndpoints mode e0 e1).1.Valid ∧ (createEndpoints mode e0 e1).2.Valid ∧
    decide ((createEndpoints mode e0 e1).1.toU16 > (createEndpoints mode e0 e1).2.toU16) = decide (mode = .p4) := by
  cases mode with
  | p4 =>
    have h := newP4_spec e0 e1 v0 v1
    exact ⟨h.1, h.2.1, by simp only [createEndpoints, decide_true]; exact decide_eq_true h.2.2⟩
  | p3 =>
    have h := newP3_spec e0 e1 v0 v1
    refine ⟨h.1, h.2.1, ?_⟩
    have hn : ¬ (createEndpoints .p3 e0 e1).1.toU16 > (createEndpoints .p3 e0 e1).2.toU16 := by
      show ¬ (newP3Default e0 e1).1.toU16 > (newP3Default e0 e1).2.toU16
      have := h.2.2; omega
    rw [decide_eq_false hn]; rfl

/-- colour pixel of the specification on a written colour block, as the encoder's intended entry.
`bc1 = true`: the mode follows the pair's order, which the constructors make the palette's mode;
`bc1 = false` (BC2 / BC3 colour): always four colours, so the palette must be P4 -/
theorem colorPx_intended (bc1 : Bool) (mode : PaletteMode) (hb : bc1 = false → mode = .p4) (pre post : List Nat)
    (e0 e1 : C565) (v0 : e0.Valid) (v1 : e1.Valid) (idx : Nat) (hi : idx < 2 ^ 32) (p : Nat) :
    let c := BcSpec.colorPx bc1 (blkOf (pre ++ withIndexes (createEndpoints mode e0 e1) idx ++ post)) pre.length p
    [c.1, c.2.1, c.2.2.1] = intendedRgb mode (createEndpoints mode e0 e1) (idxGet 2 idx p) ∧
    c.2.2.2 = (if bc1 then intendedA mode (idxGet 2 idx p) else 255) := by
  have hc := createEndpoints_spec mode e0 e1 v0 v1
  have h := colorPx_written bc1 pre post (createEndpoints mode e0 e1) idx hc.1 hc.2.1 hi p
  simp only [] at h ⊢
  rw [h, idxGet2_spec]
  have hf : BcSpec.fourMode bc1 (createEndpoints mode e0 e1).1.toU16 (createEndpoints mode e0 e1).2.toU16 =
      decide (mode = .p4) := by
    unfold BcSpec.fourMode
    rw [hc.2.2]
    cases bc1 with
    | true => rfl
    | false => rw [hb rfl]; rfl
  rw [hf]
  refine ⟨rfl, ?_⟩
  have hk : idx / 4 ^ p % 4 < 4 := Nat.mod_lt _ (by decide)
  cases bc1 <;> cases mode <;> simp only [intendedA, if_true, if_false, Bool.false_eq_true, decide_true, decide_false,
    Bool.not_true, Bool.not_false, Bool.false_and, Bool.true_and, reduceCtorEq, false_and, true_and, beq_iff_eq]
  · exact absurd (hb rfl) (by decide)

theorem colourBlock_lt (mode : PaletteMode) (e0 e1 : C565) (v0 : e0.Valid) (v1 : e1.Valid) (idx : Nat) :
    ∀ x ∈ withIndexes (createEndpoints mode e0 e1) idx, x < 256 :=
  have hc := createEndpoints_spec mode e0 e1 v0 v1
  withIndexes_lt _ idx (toU16_lt _ hc.1) (toU16_lt _ hc.2.1)

theorem decodeBlock_bytes (f : Fmt) (hf : f ≠ .bc3n) (pr : Prec) (l : List Nat) (hl : ∀ x ∈ l, x < 256)
    (g : Nat → List Nat) (h : ∀ p, p < 16 → BcSpec.px f pr (blkOf l) p = g p) :
    Bc.decodeBlock f pr (blkOf l) = (List.range 16).map g := by
  rw [Bc.decodeBlock_eq f hf pr _ (blkOf_lt l hl)]
  exact List.map_congr_left fun p hp => h p (List.mem_range.mp hp)


/-- BC1: for every mode, pair of valid 5:6:5 colours, alpha map and per-pixel choice of `closest`, no assertion
fires, the block has 8 bytes, decodes (every precision) to the intended palette entries, and is `Portable` -/
theorem bc1_block (mode : PaletteMode) (e0 e1 : C565) (v0 : e0.Valid) (v1 : e1.Valid) (alphaMap : Nat) (sel : Nat → Nat)
    (hs : ∀ i, i < 16 → isOpaque alphaMap i = true → sel i < (if mode = .p3 then 3 else 4))
    (hm : mode = .p4 → ∀ i, i < 16 → isOpaque alphaMap i = true) :
    ∃ idx, blockIndexes mode alphaMap sel = some idx ∧ idx < 2 ^ 32 ∧
      (∀ p, p < 16 → idxGet 2 idx p = indexAt alphaMap sel p) ∧
      emitColour mode e0 e1 alphaMap sel = some (withIndexes (createEndpoints mode e0 e1) idx) ∧
      (∀ x ∈ withIndexes (createEndpoints mode e0 e1) idx, x < 256) ∧
      (∀ pr, Bc.decodeBlock .bc1 pr (blkOf (withIndexes (createEndpoints mode e0 e1) idx)) = (List.range 16).map fun p =>
        (intendedColour mode (createEndpoints mode e0 e1) (indexAt alphaMap sel p)).map (BcSpec.widen pr)) ∧
      ∀ ok3, (∀ p, p < 16 → isOpaque alphaMap p = false → ok3.testBit p = true) →
        Portable (some .bc1) (blkOf (withIndexes (createEndpoints mode e0 e1) idx)) ok3 = true := by
  have hs4 : ∀ i, i < 16 → isOpaque alphaMap i = true → sel i < 4 := by
    intro i hi ho; have := hs i hi ho; split at this <;> omega
  obtain ⟨idx, hidx, hlt, hget⟩ := blockIndexes_spec mode alphaMap sel hs4 hm
  have hc := createEndpoints_spec mode e0 e1 v0 v1
  have hbytes := colourBlock_lt mode e0 e1 v0 v1 idx
  refine ⟨idx, hidx, hlt, hget, by unfold emitColour; rw [hidx]; rfl, hbytes, ?_, ?_⟩
  · intro pr
    refine decodeBlock_bytes .bc1 (by decide) pr _ hbytes _ fun p hp => ?_
    have h := colorPx_intended true mode (by intro h; cases h) [] [] e0 e1 v0 v1 idx hlt p
    simp only [List.nil_append, List.append_nil, List.length_nil] at h
    simp only [BcSpec.px, BcSpec.px8, intendedColour, ← hget p hp]
    have h1 := h.1; have h2 := h.2
    simp only [if_true] at h2
    rw [← h1, ← h2]; rfl
  · intro ok3 hok
    unfold Portable
    have hl := le16_written [] [] (createEndpoints mode e0 e1) idx
    simp only [List.nil_append, List.append_nil, List.length_nil, Nat.zero_add] at hl
    rw [hl.1, hl.2, hc.2.2]
    cases mode with
    | p4 => rfl
    | p3 =>
      simp only [reduceCtorEq, decide_false, Bool.false_or, List.all_eq_true, List.mem_range]
      intro p hp
      have hci := colourIndex_written [] [] (createEndpoints .p3 e0 e1) idx hlt p
      simp only [List.nil_append, List.append_nil, List.length_nil] at hci
      rw [hci, hget p hp]
      unfold indexAt
      by_cases ho : isOpaque alphaMap p = true
      · have := hs p hp ho
        simp only [if_true] at this
        rw [if_pos ho]
        have hne : sel p ≠ 3 := by omega
        simp [hne]
      · have ho' : isOpaque alphaMap p = false := by simpa using ho
        rw [hok p hp ho']; simp

/-! ### the colour half of BC2 / BC3 / RXGB / BC3n blocks (`no_p3_default`: always `compress_p4`) -/

theorem concat_lt {a b : List Nat} (ha : ∀ x ∈ a, x < 256) (hb : ∀ x ∈ b, x < 256) : ∀ x ∈ concatBlocks a b, x < 256 :=
  fun x hx => (List.mem_append.mp hx).elim (ha x) (hb x)

/-- colour pixel (always-four-colour decoder) of a 16-byte block whose upper half is a written P4 colour block -/
theorem colour_half (first : List Nat) (hl : first.length = 8) (e0 e1 : C565) (v0 : e0.Valid) (v1 : e1.Valid) (idx : Nat)
    (hi : idx < 2 ^ 32) (p : Nat) :
    let c := BcSpec.colorPx false (blkOf (concatBlocks first (withIndexes (createEndpoints .p4 e0 e1) idx))) 8 p
    [c.1, c.2.1, c.2.2.1] = intendedRgb .p4 (createEndpoints .p4 e0 e1) (idxGet 2 idx p) ∧ c.2.2.2 = 255 := by
  have h := colorPx_intended false .p4 (fun _ => rfl) first [] e0 e1 v0 v1 idx hi p
  simp only [List.append_nil, hl] at h
  exact h

theorem colour_half_portable (first : List Nat) (hl : first.length = 8) (e0 e1 : C565) (v0 : e0.Valid) (v1 : e1.Valid)
    (idx ok3 : Nat) (f : Fmt) (hf : f ∈ [Fmt.bc2, .bc2p, .bc3, .bc3p, .rxgb, .bc3n]) :
    Portable (some f) (blkOf (concatBlocks first (withIndexes (createEndpoints .p4 e0 e1) idx))) ok3 = true := by
  have hc := createEndpoints_spec .p4 e0 e1 v0 v1
  have h := le16_written first [] (createEndpoints .p4 e0 e1) idx
  simp only [List.append_nil, hl] at h
  have hp : decide (le16 (blkOf (concatBlocks first (withIndexes (createEndpoints .p4 e0 e1) idx))) 8 >
      le16 (blkOf (concatBlocks first (withIndexes (createEndpoints .p4 e0 e1) idx))) 10) = true := by
    unfold concatBlocks; rw [h.1, h.2, hc.2.2]; rfl
  simp only [List.mem_cons, List.not_mem_nil, or_false] at hf
  rcases hf with rfl | rfl | rfl | rfl | rfl | rfl <;> exact hp


/-- first half: a written BC4 block followed by anything -/
theorem bc4Val_first (snorm : Bool) (second : List Nat) (c0 c1 data : Nat) (hd : data < 2 ^ 48) (p : Nat) :
    (if snorm then BcSpec.bc4sVal else BcSpec.bc4uVal) (blkOf (concatBlocks (withIndexes4 c0 c1 data) second)) 0 p =
      intended4 (sixOfBytes snorm c0 c1) (levelOfByte snorm c0) (levelOfByte snorm c1) (if snorm then 254 else 255)
        (idxGet 3 data p) :=
  bc4Val_written snorm [] second c0 c1 data hd p

/-- … for the UNORM block in front of a colour block (BC3 alpha, RXGB / BC3n red) -/
theorem bc4uVal_first (second : List Nat) (c0 c1 data : Nat) (hd : data < 2 ^ 48) (p : Nat) :
    BcSpec.bc4uVal (blkOf (concatBlocks (withIndexes4 c0 c1 data) second)) 0 p =
      intended4 (decide (c0 > c1)) c0 c1 255 (idxGet 3 data p) :=
  bc4Val_first false second c0 c1 data hd p

/-- second half (BC5 green): anything of 8 bytes followed by a written BC4 block -/
theorem bc4Val_second (snorm : Bool) (first : List Nat) (hl : first.length = 8) (c0 c1 data : Nat) (hd : data < 2 ^ 48)
    (p : Nat) :
    (if snorm then BcSpec.bc4sVal else BcSpec.bc4uVal) (blkOf (concatBlocks first (withIndexes4 c0 c1 data))) 8 p =
      intended4 (sixOfBytes snorm c0 c1) (levelOfByte snorm c0) (levelOfByte snorm c1) (if snorm then 254 else 255)
        (idxGet 3 data p) := by
  have h := bc4Val_written snorm first [] c0 c1 data hd p
  rwa [List.append_nil, hl] at h

/-! ### BC4 / BC5 / BC3-type blocks as a whole -/

theorem px_bc4 (snorm : Bool) (pr : Prec) (blk : Nat → Nat) (p : Nat) :
    BcSpec.px (if snorm then .bc4s else .bc4u) pr blk p =
      [quant pr ((if snorm then BcSpec.bc4sVal else BcSpec.bc4uVal) blk 0 p)] := by
  cases snorm <;> rfl

theorem px_bc5 (snorm : Bool) (pr : Prec) (blk : Nat → Nat) (p : Nat) :
    BcSpec.px (if snorm then .bc5s else .bc5u) pr blk p =
      [quant pr ((if snorm then BcSpec.bc4sVal else BcSpec.bc4uVal) blk 0 p),
       quant pr ((if snorm then BcSpec.bc4sVal else BcSpec.bc4uVal) blk 8 p), quant pr (if snorm then 1 / 2 else 0)] := by
  cases snorm <;> rfl

/-- BC4 UNORM / SNORM: the written block decodes to the palette entries its index list names -/
theorem bc4_block_decodes (snorm : Bool) (c0 c1 data : Nat) (h0 : c0 < 256) (h1 : c1 < 256) (hd : data < 2 ^ 48)
    (pr : Prec) :
    Bc.decodeBlock (if snorm then .bc4s else .bc4u) pr (blkOf (withIndexes4 c0 c1 data)) =
      (List.range 16).map fun p => [quant pr (intended4 (sixOfBytes snorm c0 c1) (levelOfByte snorm c0)
        (levelOfByte snorm c1) (if snorm then 254 else 255) (idxGet 3 data p))] :=
  decodeBlock_bytes _ (by cases snorm <;> decide) pr _ (withIndexes4_lt c0 c1 data h0 h1) _ fun p _ => by
    rw [px_bc4, ← bc4Val_first snorm [] c0 c1 data hd p]
    rfl

/-- BC5 UNORM / SNORM: red block, then green block; the third channel is the constant of the format -/
theorem bc5_block_decodes (snorm : Bool) (r0 r1 rdata g0 g1 gdata : Nat) (hr0 : r0 < 256) (hr1 : r1 < 256)
    (hg0 : g0 < 256) (hg1 : g1 < 256) (hrd : rdata < 2 ^ 48) (hgd : gdata < 2 ^ 48) (pr : Prec) :
    Bc.decodeBlock (if snorm then .bc5s else .bc5u) pr
        (blkOf (concatBlocks (withIndexes4 r0 r1 rdata) (withIndexes4 g0 g1 gdata))) =
      (List.range 16).map fun p =>
        [quant pr (intended4 (sixOfBytes snorm r0 r1) (levelOfByte snorm r0) (levelOfByte snorm r1)
            (if snorm then 254 else 255) (idxGet 3 rdata p)),
         quant pr (intended4 (sixOfBytes snorm g0 g1) (levelOfByte snorm g0) (levelOfByte snorm g1)
            (if snorm then 254 else 255) (idxGet 3 gdata p)),
         quant pr (if snorm then 1 / 2 else 0)] :=
  decodeBlock_bytes _ (by cases snorm <;> decide) pr _
    (concat_lt (withIndexes4_lt r0 r1 rdata hr0 hr1) (withIndexes4_lt g0 g1 gdata hg0 hg1)) _ fun p _ => by
    rw [px_bc5, bc4Val_first snorm _ r0 r1 rdata hrd p, bc4Val_second snorm _ rfl g0 g1 gdata hgd p]

/-- a UNORM BC4 block in front of a P4 colour block: BC3 shows it as alpha, RXGB and BC3n as red -/
theorem bc3_block_decodes (a0 a1 adata : Nat) (e0 e1 : C565) (idx : Nat) (h0 : a0 < 256) (h1 : a1 < 256)
    (hd : adata < 2 ^ 48) (v0 : e0.Valid) (v1 : e1.Valid) (hi : idx < 2 ^ 32) :
    let blk := blkOf (concatBlocks (withIndexes4 a0 a1 adata) (withIndexes (createEndpoints .p4 e0 e1) idx))
    let a (p : Nat) := rnd (255 * intended4 (decide (a0 > a1)) a0 a1 255 (idxGet 3 adata p))
    let rgb (p : Nat) := intendedRgb .p4 (createEndpoints .p4 e0 e1) (idxGet 2 idx p)
    (∀ pr, Bc.decodeBlock .bc3 pr blk = (List.range 16).map fun p => (rgb p ++ [a p]).map (BcSpec.widen pr)) ∧
    (∀ pr, Bc.decodeBlock .rxgb pr blk = (List.range 16).map fun p => ([a p] ++ (rgb p).drop 1).map (BcSpec.widen pr)) ∧
    (∀ p, p < 16 → Bc.px8 .bc3n blk p = [a p, (rgb p).getD 1 0, Bc.calcB (a p) ((rgb p).getD 1 0)]) := by
  have hb := concat_lt (withIndexes4_lt a0 a1 adata h0 h1) (colourBlock_lt .p4 e0 e1 v0 v1 idx)
  have ha (p : Nat) := bc4uVal_first (withIndexes (createEndpoints .p4 e0 e1) idx) a0 a1 adata hd p
  have hc (p : Nat) := (colour_half (withIndexes4 a0 a1 adata) rfl e0 e1 v0 v1 idx hi p).1
  refine ⟨fun pr => decodeBlock_bytes .bc3 (by decide) pr _ hb _ fun p _ => ?_,
    fun pr => decodeBlock_bytes .rxgb (by decide) pr _ hb _ fun p _ => ?_, fun p hp => ?_⟩
  · simp only [BcSpec.px, BcSpec.px8, ha p]
    rw [← hc p]; rfl
  · simp only [BcSpec.px, BcSpec.px8, ha p]
    rw [← hc p]; rfl
  · rw [Bc.px8_bc3n _ (blkOf_lt _ hb) p hp]
    simp only [ha p]
    rw [← hc p]; rfl

/-! ### BC2: `concat_blocks(alpha block, colour block)` -/

/-- BC2: any 8 alpha bytes, then the P4 colour block -/
theorem bc2_block (alpha : List Nat) (hl : alpha.length = 8) (ha : ∀ x ∈ alpha, x < 256) (e0 e1 : C565) (v0 : e0.Valid)
    (v1 : e1.Valid) (idx : Nat) (hi : idx < 2 ^ 32) (pr : Prec) :
    Bc.decodeBlock .bc2 pr (blkOf (concatBlocks alpha (withIndexes (createEndpoints .p4 e0 e1) idx))) =
      (List.range 16).map fun p =>
        (intendedRgb .p4 (createEndpoints .p4 e0 e1) (idxGet 2 idx p) ++
          [BcSpec.bc2Alpha (blkOf (concatBlocks alpha (withIndexes (createEndpoints .p4 e0 e1) idx))) p]).map
          (BcSpec.widen pr) :=
  decodeBlock_bytes .bc2 (by decide) pr _ (concat_lt ha (colourBlock_lt .p4 e0 e1 v0 v1 idx)) _ fun p _ => by
    have h := colour_half alpha hl e0 e1 v0 v1 idx hi p
    simp only [BcSpec.px, BcSpec.px8]
    rw [← h.1]; rfl

/-! ### the endpoint constructors of bc4.rs: order ↔ palette, SNORM bytes -/

theorem fixDistinct_lt (minR maxR minF maxC : Nat) (h1 : minR ≤ maxR) (h2 : minF ≤ maxC) :
    (fixDistinct minR maxR minF maxC).1 < (fixDistinct minR maxR minF maxC).2 := by
  unfold fixDistinct
  (repeat' split) <;> dsimp only <;> omega

theorem fixDistinct_le (minR maxR minF maxC k : Nat) (h1 : maxR ≤ k) (h2 : maxC ≤ k) (hk : 1 ≤ k) :
    (fixDistinct minR maxR minF maxC).2 ≤ k := by
  unfold fixDistinct
  (repeat' split) <;> assumption

/-- `new_inter6`: `c0 > c1` in the decoder's order (six interpolants); under SNORM the swap never happens, the bytes are
`from_norm` of the two levels and never `0x80`.  `new_inter4` is the exchanged pair (four interpolants + 0, 1). -/
theorem newInter6_spec (snorm : Bool) (minR maxR minF maxC : Nat) (h1 : minR ≤ maxR) (h2 : minF ≤ maxC)
    (hR : maxR ≤ (if snorm then 254 else 255)) (hC : maxC ≤ (if snorm then 254 else 255)) :
    let mm := fixDistinct minR maxR minF maxC
    let e := newInter6 snorm minR maxR minF maxC
    e.c0 < 256 ∧ e.c1 < 256 ∧ sixOfBytes snorm e.c0 e.c1 = true ∧
    sixOfBytes snorm (inter6ToInter4 e).c0 (inter6ToInter4 e).c1 = false ∧
    levelOfByte snorm e.c0 = mm.2 ∧ levelOfByte snorm e.c1 = mm.1 ∧ mm.1 < mm.2 ∧
    (snorm = true → e.c0 = fromNorm mm.2 ∧ e.c1 = fromNorm mm.1 ∧ e.c0 ≠ 128 ∧ e.c1 ≠ 128) := by
  have hlt := fixDistinct_lt minR maxR minF maxC h1 h2
  cases snorm with
  | false =>
    have hle := fixDistinct_le minR maxR minF maxC 255 hR hC (by decide)
    simp only [newInter6, inter6ToInter4, sixOfBytes, levelOfByte, Bool.false_eq_true, if_false]
    generalize fixDistinct minR maxR minF maxC = mm at hlt hle ⊢
    refine ⟨by omega, by omega, decide_eq_true hlt, decide_eq_false (by omega), trivial, trivial, hlt, ?_⟩
    intro h; cases h
  | true =>
    have hle := fixDistinct_le minR maxR minF maxC 254 hR hC (by decide)
    simp only [newInter6, inter6ToInter4, sixOfBytes, levelOfByte, if_true]
    generalize fixDistinct minR maxR minF maxC = mm at hlt hle ⊢
    have f2 := fromNorm_facts mm.2 hle
    have f1 := fromNorm_facts mm.1 (by omega)
    have e1 : asI8 (fromNorm mm.2) = BcSpec.sraw (fromNorm mm.2) := rfl
    have e2 : asI8 (fromNorm mm.1) = BcSpec.sraw (fromNorm mm.1) := rfl
    have hns : i8le (fromNorm mm.2) (fromNorm mm.1) = false := by
      unfold i8le
      rw [e1, e2, f2.2.2.2, f1.2.2.2]
      exact decide_eq_false (by omega)
    simp only [hns, Bool.false_eq_true, if_false]
    refine ⟨f2.1, f1.1, ?_, ?_, f2.2.2.1, f1.2.2.1, hlt, fun _ => ⟨trivial, trivial, f2.2.1, f1.2.1⟩⟩
    · rw [e1, e2, f2.2.2.2, f1.2.2.2]; exact decide_eq_true (by omega)
    · rw [e1, e2, f2.2.2.2, f1.2.2.2]; exact decide_eq_false (by omega)

/-- `new_closest`: endpoint bytes in range, index 0 decodes to the level `n` in either mode, SNORM never `0x80` -/
theorem newClosest_spec (snorm : Bool) (n : Nat) (hn : n ≤ (if snorm then 254 else 255)) :
    (newClosest snorm n).c0 < 256 ∧ (newClosest snorm n).c1 < 256 ∧ levelOfByte snorm (newClosest snorm n).c0 = n ∧
    (snorm = true → (newClosest snorm n).c0 ≠ 128 ∧ (newClosest snorm n).c1 = 129) := by
  cases snorm with
  | false => simp only [newClosest, levelOfByte, Bool.false_eq_true, if_false] at hn ⊢; exact ⟨by omega, by decide, trivial, fun h => by cases h⟩
  | true =>
    simp only [if_true] at hn
    have f := fromNorm_facts n hn
    simp only [newClosest, levelOfByte, if_true]
    exact ⟨f.1, by decide, f.2.2.1, fun _ => ⟨f.2.1, rfl⟩⟩

end Dds.Enc15
