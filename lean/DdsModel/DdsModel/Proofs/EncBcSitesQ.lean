/-
C15, bc1.rs and bc7.rs sites (`EncBcSites.lean`): `R5G6B5Color::round/floor/ceil`, `optimal_channel`,
`channel_round/floor/ceil::<B>` stay within their fields for EVERY bit pattern: a `min` with the constant `MAX`
in front of the cast (glam SSE2 `_mm_min_ps` or `f32::min`: NaN ↦ MAX either way) bounds the cast by the cast
of `MAX`; without a `min` the operand is `f32::clamp(0.0, 1.0)`ed (NaN ↦ 0 through the cast, `-0.0` ↦ 0) and
`(x * MAX + 0.5) as u8` is monotone, `≤` its value at 1.0.
-/
import DdsModel.Proofs.EncBcSitesBc4
namespace Dds.EncBcSites
open Dds Dds.CF32 Dds.ConvFast Dds.F32Mono Dds.F32Thr
open Dds.EncTotal.QuantBits (pipe_of_negR)
open Dds.EncTotal.SharedExp (key_of_lt isNaN_of_le)

/-! ### a cast behind `min(·, K)` -/

theorem toNatSat_isNeg (y M : Nat) (h : isNeg y = true) : toNatSat y M = 0 := by
  unfold toNatSat
  simp only [force_eq, h, if_true]
  split <;> rfl

theorem toNatSat_le_of_key (y K M : Nat) (_hn : isNaN y = false) (hK : K ≤ 0x7F800000) (h : key y ≤ key K) :
    toNatSat y M ≤ toNatSat K M := by
  by_cases hneg : isNeg y = true
  · rw [toNatSat_isNeg y M hneg]; exact Nat.zero_le _
  · have hy : y < signBit := Nat.lt_of_not_le fun h => hneg (decide_eq_true h)
    rw [key_of_lt y hy, key_pos K hK] at h
    exact toNatSat_mono_nonneg M (by omega) hK

theorem cast_sseMin_le (s k : Nat) (hk : k ≤ 0x7F800000) : toNatSat (sseMin s k) 255 ≤ toNatSat k 255 := by
  rcases sseMin_cases s k with e | ⟨e, n1, _, hk'⟩
  · rw [e]; exact Nat.le_refl _
  · rw [e]; exact toNatSat_le_of_key s k 255 n1 hk (by omega)

theorem cast_fmin_le (s k : Nat) (hk : k ≤ 0x7F800000) : toNatSat (fmin s k) 255 ≤ toNatSat k 255 := by
  rcases fmin_cases s k (isNaN_of_le k hk) with e | ⟨e, n1, hk'⟩
  · rw [e]; exact Nat.le_refl _
  · rw [e]; exact toNatSat_le_of_key s k 255 n1 hk hk'

/-! ### bc1.rs -/

theorem q565Lane_le (sse : Bool) (k : Nat) (h : Option Nat) (v : Nat) (hk : k ≤ 0x7F800000) :
    q565Lane sse k h v ≤ toNatSat k 255 := by
  unfold q565Lane
  dsimp only
  cases sse
  · rw [if_neg Bool.false_ne_true]; exact cast_fmin_le _ k hk
  · rw [if_pos rfl]; exact cast_sseMin_le _ k hk

theorem cast_k31 : toNatSat k31 255 = 31 := by decide +kernel
theorem cast_k63 : toNatSat k63 255 = 63 := by decide +kernel
theorem cast_k15 : toNatSat k15 255 = 15 := by decide +kernel

theorem r5g6b5_lanes (sse : Bool) (h : Option Nat) (x y z : Nat) :
    ∃ r g b, r5g6b5New (q565Lane sse k31 h x) (q565Lane sse k63 h y) (q565Lane sse k31 h z) = some (r, g, b) ∧
      r ≤ 31 ∧ g ≤ 63 ∧ b ≤ 31 := by
  have a := q565Lane_le sse k31 h x (by decide)
  have b := q565Lane_le sse k63 h y (by decide)
  have c := q565Lane_le sse k31 h z (by decide)
  rw [cast_k31] at a c
  rw [cast_k63] at b
  unfold r5g6b5New
  rw [if_pos ⟨by omega, by omega, by omega⟩]
  exact ⟨_, _, _, rfl, a, b, c⟩

theorem optC0Max_le (color mx : Nat) : optC0Max color mx ≤ mx := Nat.min_le_left _ _

theorem optC1_some (color w0 w1 mx c0 : Nat) (hmx : mx ≤ 254) :
    ∃ f c, optC1 color w0 w1 mx c0 = some (f, c) ∧ f ≤ c ∧ c ≤ mx := by
  unfold optC1 U8
  dsimp only
  generalize toNatSat (fdiv (fsub color (fmul (ofNat c0) w0)) w1) 255 = t
  have h1 : min mx t ≤ mx := Nat.min_le_left _ _
  rw [if_pos (by omega)]
  refine ⟨_, _, rfl, ?_, Nat.min_le_left _ _⟩
  omega

/-! ### bc7.rs -/

/-- the `if`s behind `nearest`, `floor`, `ceil`, in either order of the two tests: a value `≤ max` is moved by at most
one step, never below 0 (guard `> 0`) and never above `max` (guard `< max`) -/
theorem adjust_le (mx n : Nat) (c1 c2 : Prop) [Decidable c1] [Decidable c2] (h : n ≤ mx) (hm : mx ≤ 254) :
    (∃ r, (if 0 < n ∧ c1 then some (n - 1)
           else if n < mx ∧ c2 then (if n + 1 < U8 then some (n + 1) else none) else some n) = some r ∧ r ≤ mx) ∧
    (∃ r, (if n < mx ∧ c1 then (if n + 1 < U8 then some (n + 1) else none)
           else if 0 < n ∧ c2 then some (n - 1) else some n) = some r ∧ r ≤ mx) := by
  have up : n < mx → ∃ r, (if n + 1 < U8 then some (n + 1) else none) = some r ∧ r ≤ mx :=
    fun lt => ⟨_, if_pos (by unfold U8; omega), lt⟩
  constructor
  · by_cases a : 0 < n ∧ c1
    · rw [if_pos a]; exact ⟨_, rfl, by omega⟩
    · rw [if_neg a]
      by_cases b : n < mx ∧ c2
      · rw [if_pos b]; exact up b.1
      · rw [if_neg b]; exact ⟨_, rfl, h⟩
  · by_cases a : n < mx ∧ c1
    · rw [if_pos a]; exact up a.1
    · rw [if_neg a]
      by_cases b : 0 < n ∧ c2
      · rw [if_pos b]; exact ⟨_, rfl, by omega⟩
      · rw [if_neg b]; exact ⟨_, rfl, h⟩

/-- a cast of `v.clamp(0.0, 1.0)` pushed through monotone steps is at most the cast of 1.0 pushed through them:
NaN and `-0.0` give 0 -/
theorem clamped_le (f : Nat → Nat) (v : Nat) (hv : v < 2 ^ 32) (hnan : ∀ x, isNaN x = true → f x = 0)
    (hneg : f signBit = 0) (hmono : ∀ x, x ≤ one → f x ≤ f one) : f (fclamp v 0 one) ≤ f one := by
  obtain ⟨_, n, u⟩ := fclamp01_spec v hv
  cases hn : isNaN v
  · rcases (u hn).1 with e | e
    · rw [e, hneg]; exact Nat.zero_le _
    · exact hmono _ e
  · rw [hnan _ (n.trans hn)]; exact Nat.zero_le _

/-- `(v.clamp(0.0, 1.0) * K + 0.5) as u8 ≤ (1.0 * K + 0.5) as u8` -/
theorem round_clamped_le (K v : Nat) (hv : v < 2 ^ 32) (hK : K < 0x7F800000) (hK0 : 0 < K) :
    toNatSat (fadd (fmul (fclamp v 0 one) K) half) 255 ≤ toNatSat (fadd (fmul one K) half) 255 :=
  clamped_le (pipe K half 255) v hv (pipe_nan K half 255)
    (pipe_of_negR K 255 signBit hK hK0 ⟨Nat.le_refl _, by decide⟩)
    (fun _ e => pipe_mono hK hK0 (by decide) e (by decide))

/-- `(v.clamp(0.0, 1.0) * K) as u8 ≤ (1.0 * K) as u8` -/
theorem floor_clamped_le (K v : Nat) (hv : v < 2 ^ 32) (hK : K < 0x7F800000) (hK0 : 0 < K) :
    toNatSat (fmul (fclamp v 0 one) K) 255 ≤ toNatSat (fmul one K) 255 := by
  rw [fmul_comm _ K, fmul_comm one K]
  exact clamped_le (floorK K) v hv (floorK_nan K) (floorK_neg K signBit hK hK0 ⟨Nat.le_refl _, by decide⟩)
    (fun x e => floorK_mono_nonneg K x one hK hK0 e (by decide))

/-- `MAX as f32` for `B` = 5, 6, 7 and what `MAX` and `1.0 * MAX (+ 0.5)` cast to -/
theorem chan_consts (B : Nat) (h : 5 ≤ B ∧ B ≤ 7) :
    0 < maxF B ∧ maxF B < 0x7F800000 ∧ 2 ^ B - 1 ≤ 254 ∧ toNatSat (maxF B) 255 = 2 ^ B - 1 ∧
    toNatSat (fadd (fmul one (maxF B)) half) 255 = 2 ^ B - 1 ∧ toNatSat (fmul one (maxF B)) 255 = 2 ^ B - 1 := by
  have : B = 5 ∨ B = 6 ∨ B = 7 := by omega
  rcases this with rfl | rfl | rfl <;> decide +kernel

/-- the three instantiations `B = 8` (plain cast), `B = 4` (`min` with 15.0), `B = 5, 6, 7` (`x`) of
`channel_round / floor / ceil` -/
theorem chan_dispatch (B a s : Nat) (x : Option Nat) (hB : 4 ≤ B ∧ B ≤ 8)
    (hx : 5 ≤ B ∧ B ≤ 7 → ∃ r, x = some r ∧ r ≤ 2 ^ B - 1) :
    ∃ r, (if B = 8 then some (toNatSat a 255) else if B = 4 then some (toNatSat (fmin s k15) 255)
          else if 5 ≤ B ∧ B ≤ 7 then x else none) = some r ∧ r ≤ 2 ^ B - 1 := by
  by_cases h8 : B = 8
  · subst h8; rw [if_pos rfl]; exact ⟨_, rfl, toNatSat_le_cap _ _⟩
  rw [if_neg h8]
  by_cases h4 : B = 4
  · subst h4; rw [if_pos rfl]
    have := cast_fmin_le s k15 (by decide)
    rw [cast_k15] at this
    exact ⟨_, rfl, this⟩
  rw [if_neg h4, if_pos (by omega)]
  exact hx (by omega)

theorem channelRound_some (B v : Nat) (hB : 4 ≤ B ∧ B ≤ 8) (hv : v < 2 ^ 32) :
    ∃ r, channelRound B v = some r ∧ r ≤ 2 ^ B - 1 := by
  refine chan_dispatch B _ _ _ hB fun h57 => ?_
  obtain ⟨k0, k1, m, _, r1, _⟩ := chan_consts B h57
  have := round_clamped_le (maxF B) v hv k1 k0
  rw [r1] at this
  exact (adjust_le (2 ^ B - 1) _ _ _ this m).1

theorem channelFloor_some (B v : Nat) (hB : 4 ≤ B ∧ B ≤ 8) (hv : v < 2 ^ 32) :
    ∃ r, channelFloor B v = some r ∧ r ≤ 2 ^ B - 1 := by
  refine chan_dispatch B _ _ _ hB fun h57 => ?_
  obtain ⟨k0, k1, m, _, _, f1⟩ := chan_consts B h57
  have := floor_clamped_le (maxF B) v hv k1 k0
  rw [f1] at this
  exact (adjust_le (2 ^ B - 1) _ _ _ this m).1

theorem channelCeil_some (B v : Nat) (hB : 4 ≤ B ∧ B ≤ 8) :
    ∃ r, channelCeil B v = some r ∧ r ≤ 2 ^ B - 1 := by
  refine chan_dispatch B _ _ _ hB fun h57 => ?_
  obtain ⟨_, k1, m, c1, _, _⟩ := chan_consts B h57
  have := cast_fmin_le (fadd (fmul (fclamp v 0 one) (maxF B)) ceil9999) (maxF B) (Nat.le_of_lt k1)
  rw [c1] at this
  exact (adjust_le (2 ^ B - 1) _ _ _ this m).2

end Dds.EncBcSites
