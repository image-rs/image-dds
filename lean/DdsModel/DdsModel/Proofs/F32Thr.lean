/-
Threshold tables: from two checked points per output code to ALL 2^32 inputs of `(x * K + 0.5) as uN`.

For every code `k = 1 … mx` a table entry `e = 2·t + d` gives the smallest non-negative pattern `t` whose pipeline
result is ≥ `k`, and `d ∈ {0, 1}` says whether the smallest pattern `s = t + d` whose VALUE is ≥ the exact
threshold `(2k − 1)/(2·mx)` is `t` itself or its successor.  The checker evaluates the pipeline at `t` and `t − 1`
and compares the values of `s` and `s − 1` with the threshold by cross-multiplication in `Nat`; it takes the state
it starts from and the state it has to end in, so that chunks of a table checked separately chain.
The tables are produced by an UNTRUSTED script (`tools/gen_f32thr.py`); nothing is assumed about them beyond what
`chkList` verifies in the kernel.

With the monotonicity of the pipeline (`Proofs/F32Mono.lean`) the patterns `t` with `d = 1` are EXACTLY the
non-negative finite inputs whose result is not the nearest code (it is one too high there: the largest float below
the tie `(2k−1)/(2 mx)`, for which the binary32 product/sum already reaches `k`).
NaN, negative values, `−0`, `±∞` are symbolic cases.
-/
import DdsModel.Proofs.F32ThrFast
import DdsModel.Proofs.ConvFastSpec
import DdsModel.Proofs.F32Value
import DdsModel.Proofs.QuantBits
namespace Dds.F32Thr
open Dds Dds.CF32 Dds.ConvFast Dds.F32Mono Dds.Spec
open Dds.F32.Raw (sel lz lz_eq nadd nsub nmul ndiv nmod npow sel_ble)

theorem codeR_def (mx N D : Nat) : codeR mx N D = if D ≤ N then mx else (2 * mx * N + D) / (2 * D) := by
  unfold codeR; rw [sel_ble, nadd, nmul, nmul, nmul, ndiv]

/-- `k ≤ code` iff the value is at or above the tie `(2k − 1)/(2 mx)` -/
theorem le_codeR_iff (mx N D k : Nat) (hD : 0 < D) (hk1 : 1 ≤ k) (hk : k ≤ mx) :
    k ≤ codeR mx N D ↔ (2 * k - 1) * D ≤ 2 * mx * N := by
  rw [codeR_def]
  have e : (2 * k - 1) * D = 2 * (k * D) - D := by
    rw [Nat.sub_mul, Nat.one_mul, Nat.mul_assoc]
  have hkD : D ≤ k * D := Nat.le_mul_of_pos_left _ (by omega)
  by_cases h : D ≤ N
  · rw [if_pos h]
    have h1 : k * D ≤ mx * D := Nat.mul_le_mul_right _ hk
    have h2 : mx * D ≤ mx * N := Nat.mul_le_mul_left _ h
    have e2 : 2 * mx * N = 2 * (mx * N) := Nat.mul_assoc _ _ _
    rw [e, e2]
    constructor
    · intro _; omega
    · intro _; exact hk
  · rw [if_neg h, Nat.le_div_iff_mul_le (by omega), e]
    have e3 : k * (2 * D) = 2 * (k * D) := by
      rw [Nat.mul_left_comm]
    rw [e3]
    generalize k * D = X at *
    generalize 2 * mx * N = Y
    omega

theorem codeR_le (mx N D : Nat) (hD : 0 < D) : codeR mx N D ≤ mx := by
  rw [codeR_def]
  split
  · exact Nat.le_refl _
  · rename_i h
    have h1 : N < D := by omega
    have : (2 * mx * N + D) / (2 * D) < mx + 1 := by
      rw [Nat.div_lt_iff_lt_mul (by omega)]
      have h2 : mx * N ≤ mx * D := Nat.mul_le_mul_left _ (by omega)
      have e2 : 2 * mx * N = 2 * (mx * N) := Nat.mul_assoc _ _ _
      have e3 : (mx + 1) * (2 * D) = 2 * (mx * D) + 2 * D := by
        rw [Nat.add_mul, Nat.one_mul, Nat.mul_left_comm]
      rw [e2, e3]
      omega
    omega

structure EntryOK (f : Nat → Nat) (mx top k t d : Nat) : Prop where
  t_pos : 1 ≤ t
  s_fin : t + d < top
  d_le : d ≤ 1
  p1 : k ≤ f t
  p2 : f (t - 1) < k
  s1 : (2 * k - 1) * 2 ^ 149 ≤ 2 * mx * pval (t + d)
  s2 : 2 * mx * pval (t + d - 1) < (2 * k - 1) * 2 ^ 149
  /-- an exceptional pattern is within the tie tolerance `2^-12/255` (normalised units) of the tie -/
  adm : d = 0 ∨ 1044480 * ((2 * k - 1) * 2 ^ 149 - 2 * mx * pval t) ≤ 2 * mx * 2 ^ 149

structure TableOK (f : Nat → Nat) (mx top : Nat) (T D : Nat → Nat) : Prop where
  entry : ∀ k, 1 ≤ k → k ≤ mx → EntryOK f mx top k (T k) (D k)
  ord : ∀ k, 1 ≤ k → k < mx → T k + D k ≤ T (k + 1)

def Exc (mx : Nat) (T D : Nat → Nat) (b : Nat) : Prop := ∃ k, 1 ≤ k ∧ k ≤ mx ∧ T k = b ∧ D k = 1

theorem thr_abstract (f : Nat → Nat) (mx top : Nat) (T D : Nat → Nat)
    (hmono : ∀ a b, a ≤ b → b < top → f a ≤ f b) (hle : ∀ b, b < top → f b ≤ mx)
    (htab : TableOK f mx top T D) (b : Nat) (hb : b < top) :
    (Exc mx T D b → f b = codeR mx (pval b) (2 ^ 149) + 1) ∧
    (¬ Exc mx T D b → f b = codeR mx (pval b) (2 ^ 149)) := by
  have hD := Nat.two_pow_pos 149
  generalize hc : codeR mx (pval b) (2 ^ 149) = c
  have hcle : c ≤ mx := by rw [← hc]; exact codeR_le _ _ _ hD
  have hfle := hle b hb
  have below : ∀ k, 1 ≤ k → k ≤ mx → c < k → b < T k + D k := by
    intro k k1 k2 hck
    have hn : ¬ (2 * k - 1) * 2 ^ 149 ≤ 2 * mx * pval b := by
      rw [← le_codeR_iff mx _ _ k hD k1 k2, hc]; omega
    apply Nat.lt_of_not_le
    intro hge
    have := Nat.mul_le_mul_left (2 * mx) (pval_mono hge)
    have := (htab.entry k k1 k2).s1
    omega
  have above : ∀ k, 1 ≤ k → k ≤ mx → k ≤ c → T k + D k ≤ b := by
    intro k k1 k2 hck
    have hy : (2 * k - 1) * 2 ^ 149 ≤ 2 * mx * pval b := by
      rw [← le_codeR_iff mx _ _ k hD k1 k2, hc]; exact hck
    apply Nat.le_of_not_lt
    intro hlt
    have hle' : b ≤ T k + D k - 1 := by omega
    have := Nat.mul_le_mul_left (2 * mx) (pval_mono hle')
    have := (htab.entry k k1 k2).s2
    omega
  -- c ≤ f b
  have lo : c ≤ f b := by
    by_cases hc0 : c = 0
    · omega
    · have hs := above c (by omega) hcle (Nat.le_refl _)
      have e := htab.entry c (by omega) hcle
      have := hmono (T c) b (by omega) (by omega)
      have := e.p1
      omega
  -- f b ≤ c + 1
  have hi : f b ≤ c + 1 := by
    by_cases h2 : c + 2 ≤ mx
    · have hs := below (c + 1) (by omega) (by omega) (by omega)
      have ho : T (c + 1) + D (c + 1) ≤ T (c + 2) := htab.ord (c + 1) (by omega) (by omega)
      have e := htab.entry (c + 2) (by omega) h2
      have h1 := e.t_pos
      have := hmono b (T (c + 2) - 1) (by omega) (by have := e.s_fin; omega)
      have := e.p2
      omega
    · omega
  constructor
  · rintro ⟨k, k1, k2, hT, hd⟩
    have e := htab.entry k k1 k2
    have hck : c < k := by
      apply Nat.lt_of_not_le
      intro hkc
      have := above k k1 k2 hkc
      omega
    have := e.p1
    rw [hT] at this
    omega
  · intro hne
    apply Nat.le_antisymm _ lo
    apply Nat.le_of_not_lt
    intro hlt
    have hfb : f b = c + 1 := by omega
    have hc1 : c + 1 ≤ mx := by omega
    have e := htab.entry (c + 1) (by omega) hc1
    have hs := below (c + 1) (by omega) hc1 (by omega)
    have hge : T (c + 1) ≤ b := by
      apply Nat.le_of_not_lt
      intro hlt'
      have h1 := e.t_pos
      have := hmono b (T (c + 1) - 1) (by omega) (by have := e.s_fin; omega)
      have := e.p2
      omega
    have := e.d_le
    exact hne ⟨c + 1, by omega, hc1, by omega, by omega⟩

/-! ### the checker

`f` is the function the table is about, in a form the kernel evaluates quickly; `L` the number of steps (codes
`0 … L`, ties at `(2k−1)/(2L)`), `top` (≤ `+∞`) the exclusive upper end of the pattern range the table speaks about. -/

/-- `pval` without the type-class layers of the notation, which the kernel would unfold at every call -/
def pvalR (p : Nat) : Nat := Nat.mul (mantR p) (Nat.pow 2 (Nat.sub (bexpR p) 851))

theorem pvalR_eq (p : Nat) : pvalR p = pval p := rfl

def chkEntry (f : Nat → Nat) (L top k t d : Nat) : Bool :=
  Nat.ble 1 t && Nat.blt (Nat.add t d) top && Nat.ble d 1 &&
  Nat.ble k (f t) && Nat.blt (f (Nat.sub t 1)) k &&
  (lz (Nat.mul (Nat.sub (Nat.mul 2 k) 1) (Nat.pow 2 149)) fun thr => lz (Nat.mul 2 L) fun m2 =>
    Nat.ble thr (Nat.mul m2 (pvalR (Nat.add t d))) && Nat.blt (Nat.mul m2 (pvalR (Nat.sub (Nat.add t d) 1))) thr &&
      (Nat.beq d 0 || Nat.ble (Nat.mul 1044480 (Nat.sub thr (Nat.mul m2 (pvalR t)))) (Nat.mul m2 (Nat.pow 2 149))))

theorem chkEntry_sound (f : Nat → Nat) (L top k t d : Nat) (hc : chkEntry f L top k t d = true) :
    EntryOK f L top k t d := by
  unfold chkEntry at hc
  simp only [lz_eq, Bool.and_eq_true, Bool.or_eq_true, Nat.ble_eq, Nat.blt_eq, Nat.beq_eq, nadd, nsub, nmul, npow,
    pvalR_eq] at hc
  obtain ⟨⟨⟨⟨⟨h1, h2⟩, h3⟩, h4⟩, h5⟩, ⟨h6, h7⟩, h8⟩ := hc
  exact ⟨h1, h2, h3, h4, h5, h6, h7, h8⟩

def devOf (tbl : List Nat) : List Nat := (tbl.filter (fun e => e % 2 == 1)).map (fun e => e / 2)

theorem mem_devOf (tbl : List Nat) (b : Nat) : b ∈ devOf tbl ↔ (2 * b + 1) ∈ tbl := by
  unfold devOf
  simp only [List.mem_map, List.mem_filter, beq_iff_eq]
  constructor
  · rintro ⟨e, ⟨he, ho⟩, hb⟩
    have : e = 2 * b + 1 := by omega
    rw [← this]; exact he
  · intro h
    exact ⟨2 * b + 1, ⟨h, by omega⟩, by omega⟩

theorem devOf_length_cons (e : Nat) (es : List Nat) : (devOf (e :: es)).length = e % 2 + (devOf es).length := by
  unfold devOf
  rw [List.filter_cons]
  by_cases h : e % 2 = 1
  · rw [if_pos (by simpa using h), List.map_cons, List.length_cons, h]; omega
  · rw [if_neg (by simpa using h)]; omega

/-- the entries of the codes `k … k' − 1`.  The state that runs along: the code `k`, the `s` of the code before
(`ps`), the number of exceptional entries so far (`n`); `k'`, `ps'`, `n'` are what it has to be at the end. -/
def chkList (f : Nat → Nat) (L top : Nat) : Nat → Nat → Nat → List Nat → Nat → Nat → Nat → Bool
  | k, ps, n, [], k', ps', n' => Nat.beq k k' && Nat.beq ps ps' && Nat.beq n n'
  | k, ps, n, e :: es, k', ps', n' =>
    chkEntry f L top k (Nat.div e 2) (Nat.mod e 2) && Nat.ble ps (Nat.div e 2) &&
      chkList f L top (Nat.succ k) (Nat.add (Nat.div e 2) (Nat.mod e 2)) (Nat.add n (Nat.mod e 2)) es k' ps' n'

def lastS : Nat → List Nat → Nat
  | ps, [] => ps
  | _, e :: es => lastS (e / 2 + e % 2) es

theorem chkList_nil {f : Nat → Nat} {L top k ps n k' ps' n' : Nat} :
    chkList f L top k ps n [] k' ps' n' = true ↔ k = k' ∧ ps = ps' ∧ n = n' := by
  simp only [chkList, Bool.and_eq_true, Nat.beq_eq, and_assoc]

theorem chkList_cons {f : Nat → Nat} {L top k ps n e k' ps' n' : Nat} {es : List Nat} :
    chkList f L top k ps n (e :: es) k' ps' n' = true ↔
      chkEntry f L top k (e / 2) (e % 2) = true ∧ ps ≤ e / 2 ∧
        chkList f L top (k + 1) (e / 2 + e % 2) (n + e % 2) es k' ps' n' = true := by
  simp only [chkList, Bool.and_eq_true, Nat.ble_eq, nadd, ndiv, nmod, Nat.succ_eq_add_one, and_assoc]

theorem chkList_append {f : Nat → Nat} {L top : Nat} {l1 l2 : List Nat} {k ps n k1 s1 n1 k2 s2 n2 : Nat}
    (h1 : chkList f L top k ps n l1 k1 s1 n1 = true) (h2 : chkList f L top k1 s1 n1 l2 k2 s2 n2 = true) :
    chkList f L top k ps n (l1 ++ l2) k2 s2 n2 = true := by
  induction l1 generalizing k ps n with
  | nil =>
    obtain ⟨rfl, rfl, rfl⟩ := chkList_nil.mp h1
    exact h2
  | cons e es ih =>
    rw [chkList_cons] at h1
    rw [List.cons_append, chkList_cons]
    exact ⟨h1.1, h1.2.1, ih h1.2.2⟩

theorem len_chunk (l1 rest : List Nat) (k k' n : Nat) (h1 : k + l1.length = k') (h2 : k' + rest.length = n) :
    k + (l1 ++ rest).length = n := by
  rw [List.length_append]; omega

theorem chkList_end {f : Nat → Nat} {L top : Nat} {l : List Nat} {k ps n k' ps' n' : Nat}
    (hc : chkList f L top k ps n l k' ps' n' = true) :
    k + l.length = k' ∧ lastS ps l = ps' ∧ n + (devOf l).length = n' := by
  induction l generalizing k ps n with
  | nil => exact chkList_nil.mp hc
  | cons e es ih =>
    obtain ⟨h1, h2, h3⟩ := ih (chkList_cons.mp hc).2.2
    exact ⟨by rw [List.length_cons]; omega, h2, by rw [devOf_length_cons]; omega⟩

theorem devOf_length {f : Nat → Nat} {L top k' ps' n' : Nat} {tbl : List Nat}
    (hc : chkList f L top 1 0 0 tbl k' ps' n' = true) : (devOf tbl).length = n' := by
  have := (chkList_end hc).2.2
  omega

theorem chkList_get {f : Nat → Nat} {L top : Nat} {l : List Nat} {k ps n k' ps' n' : Nat}
    (hc : chkList f L top k ps n l k' ps' n' = true) (i : Nat) (hi : i < l.length) :
    chkEntry f L top (k + i) (l.getD i 0 / 2) (l.getD i 0 % 2) = true ∧
      (i + 1 < l.length → l.getD i 0 / 2 + l.getD i 0 % 2 ≤ l.getD (i + 1) 0 / 2) := by
  induction l generalizing k ps n i with
  | nil => simp at hi
  | cons e es ih =>
    obtain ⟨h1, _, h3⟩ := chkList_cons.mp hc
    cases i with
    | zero =>
      refine ⟨by simpa using h1, ?_⟩
      intro h2len
      cases es with
      | nil => simp at h2len
      | cons e' es' => simpa using (chkList_cons.mp h3).2.1
    | succ j =>
      have hj : j < es.length := by simpa using hi
      have ih' := ih h3 j hj
      have e1 : k + 1 + j = k + (j + 1) := by omega
      rw [e1] at ih'
      refine ⟨by simpa using ih'.1, ?_⟩
      intro hlen
      have : j + 1 < es.length := by simpa using hlen
      simpa using ih'.2 this

theorem getD_eq (l : List Nat) (i : Nat) (hi : i < l.length) : l.getD i 0 = l[i] := by
  rw [List.getD_eq_getElem?_getD, List.getElem?_eq_getElem hi]; rfl

def tabT (tbl : List Nat) (k : Nat) : Nat := tbl.getD (k - 1) 0 / 2
def tabD (tbl : List Nat) (k : Nat) : Nat := tbl.getD (k - 1) 0 % 2

theorem table_ok {f : Nat → Nat} {L top se n : Nat} {tbl : List Nat}
    (hc : chkList f L top 1 0 0 tbl (L + 1) se n = true) :
    tbl.length = L ∧ TableOK f L top (tabT tbl) (tabD tbl) := by
  have hlen : tbl.length = L := by have := (chkList_end hc).1; omega
  refine ⟨hlen, ?_, ?_⟩
  · intro k k1 k2
    have := (chkList_get hc (k - 1) (by omega)).1
    have e : 1 + (k - 1) = k := by omega
    rw [e] at this
    exact chkEntry_sound _ _ _ _ _ _ this
  · intro k k1 k2
    have := (chkList_get hc (k - 1) (by omega)).2 (by omega)
    have e : k - 1 + 1 = k + 1 - 1 := by omega
    rw [e] at this
    exact this

theorem exc_iff_mem (mx : Nat) (tbl : List Nat) (hlen : tbl.length = mx) (b : Nat) :
    Exc mx (tabT tbl) (tabD tbl) b ↔ b ∈ devOf tbl := by
  rw [mem_devOf]
  constructor
  · rintro ⟨k, k1, k2, hT, hD⟩
    unfold tabT at hT
    unfold tabD at hD
    have hi : k - 1 < tbl.length := by omega
    have hg := getD_eq tbl (k - 1) hi
    have : tbl[k - 1] = 2 * b + 1 := by omega
    rw [← this]
    exact List.getElem_mem hi
  · intro hm
    obtain ⟨i, hi, he⟩ := List.getElem_of_mem hm
    have hg := getD_eq tbl i hi
    refine ⟨i + 1, by omega, by omega, ?_, ?_⟩
    · unfold tabT
      have : i + 1 - 1 = i := by omega
      rw [this, hg, he]; omega
    · unfold tabD
      have : i + 1 - 1 = i := by omega
      rw [this, hg, he]; omega

/-- what a checked table says about one of its entries `e = 2t + d` at index `i` (code `i + 1`) -/
theorem mem_entry {f : Nat → Nat} {L top k' ps' n' : Nat} {tbl : List Nat}
    (hc : chkList f L top 1 0 0 tbl k' ps' n' = true) {e : Nat} (he : e ∈ tbl) :
    ∃ k, 1 ≤ k ∧ k ≤ tbl.length ∧ EntryOK f L top k (e / 2) (e % 2) := by
  obtain ⟨i, hi, hg⟩ := List.getElem_of_mem he
  have := chkEntry_sound _ _ _ _ _ _ (chkList_get hc i hi).1
  rw [getD_eq tbl i hi, hg] at this
  exact ⟨1 + i, by omega, by omega, this⟩

/-- MAIN: a function that is monotone and at most `L` below `top ≤ +∞`, with a checked table: on every non-negative
finite pattern below `top` it gives the nearest code of the value, plus one exactly on the patterns `t` of the table
entries `2t + 1` -/
theorem thr_main {f : Nat → Nat} {L top se n : Nat} {tbl : List Nat} (htop : top ≤ 0x7F800000)
    (hmono : ∀ a b, a ≤ b → b < top → f a ≤ f b) (hle : ∀ b, b < top → f b ≤ L)
    (hc : chkList f L top 1 0 0 tbl (L + 1) se n = true) (b : Nat) (hb : b < top) :
    (f b : Int) = toCode L (toRat b) + (if b ∈ devOf tbl then 1 else 0) := by
  obtain ⟨hlen, htab⟩ := table_ok hc
  have hab := thr_abstract f L top (tabT tbl) (tabD tbl) hmono hle htab b hb
  have hD : (2 : Nat) ^ 149 ≠ 0 := Nat.pos_iff_ne_zero.mp (Nat.two_pow_pos 149)
  rw [toRat_pval b (by omega), toCode_mkRat L (pval b) (2 ^ 149) hD]
  rw [exc_iff_mem L tbl hlen b] at hab
  by_cases hm : b ∈ devOf tbl
  · rw [if_pos hm, hab.1 hm]
    omega
  · rw [if_neg hm, hab.2 hm]
    omega

/-! ### `x ↦ (x * K + 0.5) as uN` with a checked table -/

/-- what the theorems below need about `x ↦ (x * K + 0.5) as uN` (saturating at `cap`): `K` positive and finite, a
table for the codes `1 … L` checked on the patterns below `top ≤ +∞`, and the last of these patterns reaching the
code `L` -/
structure PipeQ (K cap L top : Nat) (tbl : List Nat) : Prop where
  hK : K < 0x7F800000
  hK0 : 0 < K
  htop : top ≤ 0x7F800000
  hfull : pipe K half cap (top - 1) = L
  hc : ∃ se n, chkList (pipe K half cap) L top 1 0 0 tbl (L + 1) se n = true

theorem PipeQ.mono {K cap L top : Nat} {tbl : List Nat} (h : PipeQ K cap L top tbl) {a b : Nat} (hab : a ≤ b)
    (hb : b < top) : pipe K half cap a ≤ pipe K half cap b :=
  pipe_mono h.hK h.hK0 (by decide) hab (by have := h.htop; omega)

theorem PipeQ.le {K cap L top : Nat} {tbl : List Nat} (h : PipeQ K cap L top tbl) {b : Nat} (hb : b < top) :
    pipe K half cap b ≤ L := by
  have := h.mono (show b ≤ top - 1 by omega) (by omega)
  rw [h.hfull] at this
  exact this

theorem PipeQ.of_fast {K cap L top se n : Nat} {tbl : List Nat} (hK : K < 0x7F800000) (hK0 : 0 < K)
    (htop : top ≤ 0x7F800000) (hfull : pipe K half cap (top - 1) = L)
    (hc : chkList (pipeF K cap) L top 1 0 0 tbl (L + 1) se n = true) : PipeQ K cap L top tbl := by
  rw [funext (pipeF_eq K cap)] at hc
  exact ⟨hK, hK0, htop, hfull, se, n, hc⟩

theorem PipeQ.entry {K cap L top : Nat} {tbl : List Nat} (h : PipeQ K cap L top tbl) {e : Nat} (he : e ∈ tbl) :
    ∃ k, 1 ≤ k ∧ k ≤ L ∧ EntryOK (pipe K half cap) L top k (e / 2) (e % 2) := by
  obtain ⟨se, n, hc⟩ := h.hc
  obtain ⟨k, k1, k2, e⟩ := mem_entry hc he
  exact ⟨k, k1, (table_ok hc).1 ▸ k2, e⟩

theorem PipeQ.dev_range {K cap L top : Nat} {tbl : List Nat} (h : PipeQ K cap L top tbl) {b : Nat}
    (hm : b ∈ devOf tbl) : 0 < b ∧ b + 1 < top := by
  obtain ⟨k, _, _, e⟩ := h.entry ((mem_devOf tbl b).mp hm)
  have := e.t_pos
  have := e.s_fin
  omega

theorem PipeQ.thr_main {K cap L top : Nat} {tbl : List Nat} (h : PipeQ K cap L top tbl) (b : Nat) (hb : b < top) :
    (pipe K half cap b : Int) = toCode L (toRat b) + (if b ∈ devOf tbl then 1 else 0) := by
  obtain ⟨se, n, hc⟩ := h.hc
  exact F32Thr.thr_main h.htop (fun _ _ => h.mono) (fun _ => h.le) hc b hb

theorem not_fin_of_nan (b : Nat) (h : isNaN b = true) : ¬ b < 0x7F800000 := by
  intro hlt
  rw [(posfin b hlt).1] at h
  exact Bool.false_ne_true h

theorem pipe_nan (K h mx b : Nat) (hn : isNaN b = true) : pipe K h mx b = 0 := by
  have h1 : fmul b K = nan := by
    unfold fmul; simp only [force_eq, hn, Bool.true_or, if_true]
  have hnn : isNaN nan = true := by decide
  have h2 : fadd nan h = nan := by
    unfold fadd; simp only [force_eq, hnn, Bool.true_or, if_true]
  unfold pipe
  rw [h1, h2]
  unfold toNatSat
  simp only [force_eq, hnn, if_true]

theorem isZero_false (K : Nat) (hK : K < 0x7F800000) (hK0 : 0 < K) : isZero K = false := by
  unfold isZero signBit
  have : K % 0x80000000 = K := Nat.mod_eq_of_lt (by omega)
  rw [this]
  simp only [beq_eq_false_iff_ne, ne_eq]; omega

open Dds.EncTotal.QuantBits in
theorem pipe_neg (K mx b : Nat) (hK : K < 0x7F800000) (hK0 : 0 < K) (hneg : NegR b) : pipe K half mx b = 0 :=
  pipe_of_negR K mx b hK hK0 hneg

theorem classify (b : Nat) (hb : b < 2 ^ 32) :
    b < 0x7F800000 ∨ b = 0x7F800000 ∨ isNaN b = true ∨ (Dds.EncTotal.QuantBits.NegR b ∧ b < 0xFF800000) ∨ b = 0xFF800000 := by
  by_cases h1 : b < 0x7F800000
  · exact Or.inl h1
  by_cases h2 : b = 0x7F800000
  · exact Or.inr (Or.inl h2)
  by_cases h3 : b < 0x80000000
  · refine Or.inr (Or.inr (Or.inl ?_))
    rw [Dds.EncTotal.SharedExp.isNaN_iff]; omega
  by_cases h4 : b < 0xFF800000
  · exact Or.inr (Or.inr (Or.inr (Or.inl ⟨⟨by simp only [signBit]; omega, by simp only [signBit, posInf]; omega⟩, h4⟩)))
  by_cases h5 : b = 0xFF800000
  · exact Or.inr (Or.inr (Or.inr (Or.inr h5)))
  · refine Or.inr (Or.inr (Or.inl ?_))
    rw [Dds.EncTotal.SharedExp.isNaN_iff]; omega

/-- the specification of `(x * MAX + 0.5) as uN` on a bit pattern: NaN ↦ 0, `+∞` ↦ `MAX`, `−∞` ↦ 0, a finite value
↦ the nearest code of the value clamped to [0, 1] (an exact tie going up) -/
def specCode (mx b : Nat) : Int :=
  if isNaN b then 0 else if isInf b then (if isNeg b then 0 else (mx : Int)) else toCode mx (toRat b)

theorem negfin_flags (b : Nat) (h1 : 0x80000000 ≤ b) (h2 : b < 0xFF800000) :
    isNaN b = false ∧ isInf b = false ∧ isNeg b = true := by
  have he : expField b ≠ 255 := by rw [ConvFast.expField_eq]; omega
  refine ⟨?_, ?_, ?_⟩
  · unfold isNaN; simp [he]
  · unfold isInf; simp [he]
  · unfold isNeg signBit; simpa using h1

open Dds.EncTotal.QuantBits in
theorem specCode_negR (mx b : Nat) (h : NegR b) : specCode mx b = 0 := by
  have hs : 0x80000000 ≤ b := by have := h.1; simpa only [signBit] using this
  unfold specCode
  by_cases hb : b < 0xFF800000
  · obtain ⟨n1, n2, n3⟩ := negfin_flags b hs hb
    rw [n1, n2]
    exact toCode_nonpos mx _ (toRat_nonpos_of_neg b n3)
  · have : b = 0xFF800000 := by have := h.2; simp only [signBit, posInf] at this; omega
    subst this
    have : isNaN 0xFF800000 = false ∧ isInf 0xFF800000 = true ∧ isNeg 0xFF800000 = true := by decide
    rw [this.1, this.2.1, this.2.2]; rfl

theorem PipeQ.not_dev {K cap L top : Nat} {tbl : List Nat} (h : PipeQ K cap L top tbl) (b : Nat) (hb : top ≤ b + 1) :
    ¬ b ∈ devOf tbl := fun hm => by have := (h.dev_range hm).2; omega

/-- `fp::n8`, `fp::n16`, `n8::from_f32`, `n16::from_f32` on ALL bit patterns -/
theorem pipe_half_all {K mx : Nat} {tbl : List Nat} (h : PipeQ K mx mx 0x7F800000 tbl) (b : Nat) (hb : b < 2 ^ 32) :
    (pipe K half mx b : Int) = specCode mx b + (if b ∈ devOf tbl then 1 else 0) := by
  have neg : Dds.EncTotal.QuantBits.NegR b →
      (pipe K half mx b : Int) = specCode mx b + (if b ∈ devOf tbl then 1 else 0) := by
    intro hN
    have hs : 0x80000000 ≤ b := by have := hN.1; simpa only [signBit] using this
    rw [pipe_neg K mx b h.hK h.hK0 hN, specCode_negR mx b hN, if_neg (h.not_dev b (by omega))]
    rfl
  rcases classify b hb with h1 | h1 | h1 | h1 | h1
  · obtain ⟨a1, a2, _, _, _⟩ := posfin b h1
    unfold specCode
    rw [a1, a2]
    exact h.thr_main b h1
  · rw [if_neg (h.not_dev b (by omega)), Int.add_zero]
    subst h1
    obtain ⟨i1, i2, i3, i4⟩ := posInf_flags
    unfold specCode pipe
    rw [i1, i2, i3, fmul_posInf K h.hK h.hK0, fadd_posInf half (by decide), toNatSat_posInf]
    rfl
  · have := not_fin_of_nan b h1
    unfold specCode
    rw [if_neg (h.not_dev b (by omega)), Int.add_zero, pipe_nan K half mx b h1, h1]; rfl
  · exact neg h1.1
  · exact neg (h1 ▸ ⟨by decide, by decide⟩)

end Dds.F32Thr
