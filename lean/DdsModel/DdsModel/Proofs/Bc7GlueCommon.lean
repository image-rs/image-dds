/-
C03x glue: lemmas shared by all BC7 modes — dispatch on the mode, spec endpoints are bytes, weight lookup +
interpolation, the spec's index rule (anchors counted over the pixels before `i`) against the code's index words.
-/
import DdsModel.Proofs.Bc7GlueIndex
import DdsModel.Proofs.ListLemmas
namespace Dds.Bc7
open Dds.BcTables Dds.Bc7Spec

theorem range2 : List.range 2 = [0, 1] := rfl
theorem range3 : List.range 3 = [0, 1, 2] := rfl
theorem range4 : List.range 4 = [0, 1, 2, 3] := rfl
theorem range6 : List.range 6 = [0, 1, 2, 3, 4, 5] := rfl

theorem px_rdN (k c b p i : Nat) (hi : i < k) : px (rdN k c b p) i = rd b (p + i * c) c := rdN_getD k c b p i hi


theorem modeOf_le (b : Nat) : modeOf b ≤ 8 := by
  unfold modeOf
  cases h : (List.range 8).find? (fun m => b % 2 ^ (m + 1) = 2 ^ m) with
  | none => exact Nat.le_refl 8
  | some m => exact Nat.le_of_lt (List.mem_range.mp (List.mem_of_find?_eq_some h))

theorem extractMode_eq (b : Nat) : extractMode b = (modeOf b, b >>> (modeOf b + 1)) := by
  have h := mode_by_trailing_zeros b
  simp only [extractMode] at h ⊢
  rw [h]

theorem spec_decodeBlock_mode (b m : Nat) (r : ModeRec) (h : modeOf b = m) (hr : modes[m]? = some r) :
    Bc7Spec.decodeBlock b = decodeMode m r b := by
  simp only [Bc7Spec.decodeBlock, h, hr]


theorem raw_p_lt (n raw p : Nat) (h : raw < 2 ^ n) (hp : p < 2 ^ 1) : raw * 2 + p < 2 ^ (n + 1) := by
  rw [Nat.pow_succ]; omega

theorem modes_widths : ∀ r ∈ modes, 4 ≤ r.colorBits ∧ (r.alphaBits = 0 ∨ 4 ≤ r.alphaBits) ∧
    r.colorBits + r.epPBits + r.spPBits ≤ 8 ∧ r.alphaBits + r.epPBits + r.spPBits ≤ 8 := by decide

theorem endpoint_lt (m : Nat) (r : ModeRec) (b e c : Nat) (hr : r ∈ modes) : endpoint m r b e c < 256 := by
  obtain ⟨h1, h2, h3, h4⟩ := modes_widths r hr
  have key : ∀ bits p, 4 ≤ bits → bits + r.epPBits + r.spPBits ≤ 8 →
      (if r.epPBits = 1 then expand (bits + 1) (rd b p bits * 2 + rd b (pStart m r + e) 1)
       else if r.spPBits = 1 then expand (bits + 1) (rd b p bits * 2 + rd b (pStart m r + e / 2) 1)
       else expand bits (rd b p bits)) < 256 := by
    intro bits p hb hb'
    split
    · exact expand_lt _ (by omega) (by omega) _ (raw_p_lt _ _ _ (rd_lt ..) (rd_lt ..))
    · split
      · exact expand_lt _ (by omega) (by omega) _ (raw_p_lt _ _ _ (rd_lt ..) (rd_lt ..))
      · exact expand_lt _ (by omega) (by omega) _ (rd_lt ..)
  unfold endpoint
  by_cases hc : c = 3
  · subst hc
    simp only [true_and, if_true]
    split
    · decide
    · exact key _ _ (by omega) h4
  · simp only [hc, false_and, if_false]
    exact key _ _ h1 h3


/-- the spec's endpoint table of a mode: `ne` endpoints × RGBA -/
def epTable (m : Nat) (r : ModeRec) (b ne : Nat) : List (List Nat) :=
  (List.range ne).map fun e => (List.range 4).map fun c => endpoint m r b e c

theorem ep_epTable (m : Nat) (r : ModeRec) (b ne e : Nat) (h : e < ne) :
    ep (epTable m r b ne) e = [endpoint m r b e 0, endpoint m r b e 1, endpoint m r b e 2, endpoint m r b e 3] := by
  simp [ep, epTable, List.getD_eq_getElem?_getD, h, range4]

theorem rd_zero (b p : Nat) : rd b p 0 = 0 := Nat.mod_one _

theorem px4 (a0 a1 a2 a3 : Nat) :
    px [a0, a1, a2, a3] 0 = a0 ∧ px [a0, a1, a2, a3] 1 = a1 ∧ px [a0, a1, a2, a3] 2 = a2 ∧ px [a0, a1, a2, a3] 3 = a3 :=
  ⟨rfl, rfl, rfl, rfl⟩

theorem px_cons0 (a : Nat) (l : List Nat) : px (a :: l) 0 = a := rfl
theorem px_cons1 (a c : Nat) (l : List Nat) : px (a :: c :: l) 1 = c := rfl

theorem withP_rd (b p q n : Nat) (hn : n ≤ 7) : withP (rd b p n) (rd b q 1) = rd b p n * 2 + rd b q 1 :=
  withP_eq _ (Nat.lt_of_lt_of_le (rd_lt b p n) (Nat.pow_le_pow_right (by decide) hn : 2 ^ n ≤ 2 ^ 7)) _ (rd_lt b q 1)

theorem promote_rd (b p n : Nat) (h4 : 4 ≤ n) (h8 : n < 8) : promote (rd b p n) n = expand n (rd b p n) :=
  promote_eq_replicate n h8 h4 _ (rd_lt b p n)

theorem promote_rdp (b p q n : Nat) (h4 : 3 ≤ n) (h8 : n < 7) :
    promote (rd b p n * 2 + rd b q 1) (n + 1) = expand (n + 1) (rd b p n * 2 + rd b q 1) :=
  promote_eq_replicate (n + 1) (by omega) (by omega) _ (raw_p_lt _ _ _ (rd_lt b p n) (rd_lt b q 1))

theorem expand8_rdp (b p q : Nat) : expand 8 (rd b p 7 * 2 + rd b q 1) = rd b p 7 * 2 + rd b q 1 :=
  expand8 _ (raw_p_lt 7 _ _ (rd_lt b p 7) (rd_lt b q 1))

theorem expand8_rd (b p : Nat) : expand 8 (rd b p 8) = rd b p 8 := expand8 _ (rd_lt b p 8)


def implWeights (k : Nat) : List Nat := if k = 2 then WEIGHTS_2 else if k = 3 then WEIGHTS_3 else WEIGHTS_4

theorem lerpW (k e0 e1 idx : Nat) (hk : k = 2 ∨ k = 3 ∨ k = 4) (h0 : e0 < 256) (h1 : e1 < 256) (hi : idx < 2 ^ k) :
    lerp e0 e1 ((implWeights k).getD idx 0) = interp e0 e1 ((specWeights k).getD idx 0) := by
  have h : (implWeights k).getD idx 0 = 4 * (specWeights k).getD idx 0 ∧ (specWeights k).getD idx 0 ≤ 64 := by
    rcases hk with h | h | h <;> subst h
    · exact weights_x4.1 idx hi
    · exact weights_x4.2.1 idx hi
    · exact weights_x4.2.2 idx hi
  rw [h.1]
  exact lerp_eq_interp e0 e1 _ h0 h1 h.2


theorem rd_lt_of_le (b p w n : Nat) (h : w ≤ n) : rd b p w < 2 ^ n :=
  Nat.lt_of_lt_of_le (rd_lt b p w) (Nat.pow_le_pow_right (by decide) h)

theorem filter_lt_succ (as : List Nat) (hd : as.Pairwise (· > ·)) (i : Nat) :
    (as.filter (· < i + 1)).length = (as.filter (· < i)).length + if i ∈ as then 1 else 0 := by
  induction as with
  | nil => rfl
  | cons a as ih =>
    obtain ⟨ha, hd⟩ := List.pairwise_cons.mp hd
    have ih := ih hd
    have hni : a = i → ¬ i ∈ as := fun e h => by have := ha i h; omega
    simp only [List.filter_cons, List.mem_cons, decide_eq_true_eq]
    rcases Nat.lt_trichotomy a i with h | h | h
    · simp only [show a < i + 1 by omega, h, if_true, List.length_cons, show ¬ i = a by omega, false_or]; omega
    · subst h
      simp only [Nat.lt_succ_self, Nat.lt_irrefl, if_true, if_false, true_or, List.length_cons]
      simp only [hni rfl, if_false] at ih; omega
    · simp only [show ¬ a < i + 1 by omega, show ¬ a < i by omega, if_false, show ¬ i = a by omega, false_or]
      exact ih

theorem count_range (f : Nat → Bool) (as : List Nat) (hd : as.Pairwise (· > ·)) (hf : ∀ j, f j = true ↔ j ∈ as)
    (i : Nat) : ((List.range i).filter f).length = (as.filter (· < i)).length := by
  induction i with
  | zero => exact (congrArg List.length (List.filter_eq_nil_iff.mpr fun a _ => by simp : as.filter (· < 0) = [])).symm
  | succ i ih =>
    rw [List.range_succ, List.filter_append, List.length_append, ih, filter_lt_succ as hd i]
    congr 1
    by_cases h : i ∈ as
    · simp [h, (hf i).mpr h]
    · have : f i = false := by
        cases hfi : f i
        · rfl
        · exact absurd ((hf i).mp hfi) h
      simp [h, this]

theorem index_newP (w b P n part i : Nat) (as : List Nat) (hb : w = 2 ∨ w = 3 ∨ w = 4) (hi : i < 16)
    (hd : as.Pairwise (· > ·)) (h16 : ∀ a ∈ as, a < 16) (h0 : 0 < as.length)
    (hs : ∀ j, specIsAnchor n part j = true ↔ j ∈ as) :
    getIndex (newP w (b >>> P) as).1 i =
      rd b (P + i * w - anchorsBefore n part i) (if specIsAnchor n part i then w - 1 else w) := by
  rw [getIndex_newP w b P i as hb hi hd h16 h0, anchorsBefore, count_range _ as hd hs]
  simp only [hs i]

theorem index_impl1 (bits b P n part i : Nat) (hb : bits = 2 ∨ bits = 3 ∨ bits = 4) (hi : i < 16)
    (hn : n ≠ 2) (hn' : n ≠ 3) :
    getIndex (newP1 bits (b >>> P)).1 i =
      rd b (P + i * bits - anchorsBefore n part i) (if specIsAnchor n part i then bits - 1 else bits) :=
  newP1_eq bits _ ▸
    index_newP bits b P n part i [0] hb hi (List.pairwise_singleton ..) (by simp) (by decide) (anchorList1 n part · hn hn')

/-- two subsets, fix-up from the code's partition table -/
theorem index_impl2 (bits b P part i : Nat) (hb : bits = 2 ∨ bits = 3 ∨ bits = 4) (hi : i < 16) (hp : part < 64) :
    getIndex (newP2 bits (b >>> P) (implP2 part).2).1 i =
      rd b (P + i * bits - anchorsBefore 2 part i) (if specIsAnchor 2 part i then bits - 1 else bits) := by
  obtain ⟨hd, h16, hs⟩ := anchorList2 part hp
  rw [newP2_eq]
  exact index_newP bits b P 2 part i _ hb hi hd h16 (Nat.succ_pos _) hs

theorem index_impl3 (bits b P part i : Nat) (hb : bits = 2 ∨ bits = 3) (hi : i < 16) (hp : part < 64) :
    getIndex (newP3 bits (b >>> P) (implP3 part).2.1 (implP3 part).2.2).1 i =
      rd b (P + i * bits - anchorsBefore 3 part i) (if specIsAnchor 3 part i then bits - 1 else bits) := by
  obtain ⟨hd, h16, hs⟩ := anchorList3 part hp
  rw [newP3_eq]
  exact index_newP bits b P 3 part i _ (by omega) hi hd h16 (Nat.succ_pos _) hs

theorem index1_lt (m : Nat) (r : ModeRec) (b part i : Nat) : index1 m r b part i < 2 ^ r.idxBits := by
  unfold index1
  apply rd_lt_of_le
  split <;> omega

/-- secondary index (modes 4 and 5): code = spec -/
theorem index_impl_sec (m : Nat) (r : ModeRec) (b i : Nat) (hb : r.idx2Bits = 2 ∨ r.idx2Bits = 3) (hi : i < 16) :
    getIndex (newP1 r.idx2Bits (b >>> idx2Start m r)).1 i = index2 m r b i := by
  rw [newP1_eq, getIndex_newP _ b _ i [0] (by omega) hi (List.pairwise_singleton ..) (by simp) (by decide)]
  unfold index2
  by_cases h0 : i = 0
  · subst h0; simp
  · simp [h0, Nat.pos_of_ne_zero h0]

theorem index2_lt (m : Nat) (r : ModeRec) (b i : Nat) : index2 m r b i < 2 ^ r.idx2Bits := by
  unfold index2
  split <;> apply rd_lt_of_le <;> omega

theorem specSubset1 (p i : Nat) : specSubset 1 p i = 0 := by simp [specSubset]

theorem rotate4 (rot a0 a1 a2 a3 : Nat) :
    rotate rot [a0, a1, a2, a3] = swapChannels [a0, a1, a2, a3] rot := by
  simp only [rotate, swapChannels, px4]

end Dds.Bc7
