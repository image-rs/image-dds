/-
C15 (encoder loops, part 3): `SplitView`, `ImageView::cropped`, `encode_parallel` and the dispatch from C19's
encoder table are trap-free (mirrors: `TrapEncSplit.lean`).
-/
import DdsModel.TrapEncSplit
import DdsModel.Proofs.TrapEncBlk
import DdsModel.Proofs.Split
namespace Dds.TrapEnc
open Dds Dds.Trap

/-! ## `get_fragment_height`, `SplitView::new` -/

/-- the `u64` division / multiplication chain of `get_fragment_height` neither divides by zero nor overflows, and
the trapping function agrees with the wrapping model of C14 -/
theorem getFragmentHeightT_eq (w h : Nat) (sup : Option Support) (dith : Dithering) (q : Quality)
    (hwf : ∀ s, sup = some s → s.WF) :
    getFragmentHeightT w h sup dith q = some (getFragmentHeight w h sup dith q) := by
  unfold getFragmentHeightT getFragmentHeight
  by_cases he : w = 0 ∨ h = 0
  · rw [if_pos he, if_pos he]
  rw [if_neg he, if_neg he]
  cases sup with
  | none => rfl
  | some s =>
    dsimp only
    cases hsh : s.splitHeight with
    | none => rfl
    | some sh =>
      dsimp only
      split
      · rfl
      split
      · rfl
      have hsh0 := (hwf s rfl sh hsh).1
      have hfp := getPreferred_lt s.fragmentSize q
      have hU : U64 = 18446744073709551616 := rfl
      have hlt : (max (s.fragmentSize.getPreferred q) 1 / w) / sh * sh < 18446744073709551616 :=
        Nat.lt_of_le_of_lt (Nat.le_trans (Nat.div_mul_le_self _ _) (Nat.div_le_self _ _)) (by omega)
      rw [div_bind (by omega), div_bind (by omega), mulU_bind hlt, wMul_eq hlt]
      cases tryU32 _ <;> rfl

theorem SplitView.newT_eq (w h : Nat) (sup : Option Support) (dith : Dithering) (q : Quality)
    (hwf : ∀ s, sup = some s → s.WF) :
    SplitView.newT w h sup dith q = some (SplitView.new w h sup dith q) := by
  unfold SplitView.newT
  rw [getFragmentHeightT_eq w h sup dith q hwf, bind_some']
  cases hg : getFragmentHeight w h sup dith q with
  | none => rw [SplitView.new_of_none hg]; rfl
  | some F =>
    dsimp only
    rw [SplitView.new_of_some hg, divCeilU_bind (Nat.ne_of_gt (getFragmentHeight_pos hwf hg).1), pure_some']

/-! ## `ImageView::cropped` -/

/-- a non-empty rectangle inside a view: no `usize` operation overflows, the slice is inside the data, and the crop
is again a view the encoders accept (same pitch, same colour) -/
theorem croppedT_eq {v : View} {c : Color} (hv : VOK v c) (ox oy w h : Nat) (hin : ox + w ≤ v.w ∧ oy + h ≤ v.h)
    (hne : ¬ (w = 0 ∨ h = 0)) :
    ∃ f, croppedT v ox oy w h = some f ∧ VOK f c ∧ f.w = w ∧ f.h = h ∧ f.pitch = v.pitch := by
  obtain ⟨hvw, hvh, hl, _⟩ := hv.bounds
  have hpg := hv.inv.pitch_ge
  -- the last row of the rectangle is a row of the view
  have hrow := hv.inv.row_bound (show oy + (h - 1) < v.h by omega)
  have h2 : (ox + w) * v.bpp ≤ v.w * v.bpp := Nat.mul_le_mul_right _ hin.1
  rw [Nat.add_mul] at hrow h2
  have hc : v.containsRect ox oy w h = true := by
    unfold View.containsRect; simp [hin.1, hin.2]
  have hsub : oy * v.pitch + ox * v.bpp + (h - 1) * v.pitch + w * v.bpp - (oy * v.pitch + ox * v.bpp) =
      v.pitch * (h - 1) + w * v.bpp := by rw [Nat.mul_comm v.pitch]; omega
  refine ⟨⟨v.base + (oy * v.pitch + ox * v.bpp), v.pitch * (h - 1) + w * v.bpp, w, h, v.bpp, v.pitch⟩, ?_,
    ⟨⟨hv.inv.bpp_pos, hv.inv.bpp_le, Nat.lt_of_le_of_lt (show w ≤ v.w by omega) hv.inv.w_lt,
        Nat.lt_of_le_of_lt (show h ≤ v.h by omega) hv.inv.h_lt, ?_, fun h' => absurd h' hne, ?_, fun _ => rfl⟩,
      hv.bpp, ?_, hv.pitch⟩, rfl, rfl, rfl⟩
  · unfold croppedT
    rw [dbgP_bind hc, if_neg hne, mulU_bind (by omega), mulU_bind (by omega), mulU_bind (by omega),
      addU_bind (by omega), subU_bind (by omega), mulU_bind (by omega), addU_bind (by omega), addU_bind (by omega),
      sliceRange_bind (by omega), hsub, pure_some']
  · show v.pitch * (h - 1) + w * v.bpp < U64
    rw [← hsub]; unfold U64; omega
  · show w * v.bpp ≤ v.pitch
    omega
  · show v.pitch * (h - 1) + w * v.bpp ≤ I64MAX
    rw [← hsub]; unfold I64MAX; omega

/-! ## `SplitView::get` -/

/-- fragment `i` of a view split at height `F`: the `u32` product `index * fragment_height` does not overflow,
`debug_assert!(start_y < height)` holds, `end_y - start_y` does not underflow, the crop is inside the image; the
fragment is the full-width view of rows `[i·F, min((i+1)·F, h))` with the parent's pitch -/
theorem SplitView.getT_split {v : View} {c : Color} (hv : VOK v c) {F i : Nat} (hw : 0 < v.w) (hF : 0 < F)
    (hi : i < divCeil v.h F) :
    ∃ f, SplitView.getT ⟨v.w, v.h, divCeil v.h F, some F⟩ v i = some (some f) ∧ VOK f c ∧ f.w = v.w ∧
      f.pitch = v.pitch ∧ f.h = min F (v.h - i * F) := by
  have hh := hv.bounds.2.1
  have hU : U32 = 4294967296 := rfl
  have hst := start_lt hF hi
  have hmin : min (satAdd32 (i * F) F) v.h = min (i * F + F) v.h := by
    unfold satAdd32
    split <;> omega
  obtain ⟨f, hf, hvf, hfw, hfh, hfp⟩ := croppedT_eq hv 0 (i * F) v.w (min (i * F + F) v.h - i * F)
    ⟨by omega, by omega⟩ (by omega)
  refine ⟨f, ?_, hvf, hfw, hfp, by omega⟩
  unfold SplitView.getT
  dsimp only
  rw [if_neg (by omega), mulU32_of_lt (by omega), bind_some', hmin, dbgP_bind hst, subU_bind (by omega), hf, bind_some',
    pure_some']

/-- `get(i)` is `Some` exactly for `i < len`, and then a non-empty (when a fragment height was chosen) full-width view
the loops accept, of the rows C14's (wrapping) model says -/
theorem SplitView.getT_eq {v : View} {c : Color} (hv : VOK v c) (sup : Option Support) (dith : Dithering) (q : Quality)
    (hwf : ∀ s, sup = some s → s.WF) (i : Nat) :
    let s := SplitView.new v.w v.h sup dith q
    (s.len ≤ i → SplitView.getT s v i = some none) ∧
    (i < s.len → ∃ f, SplitView.getT s v i = some (some f) ∧ VOK f c ∧ f.w = v.w ∧ f.pitch = v.pitch ∧
      ∃ y, s.get i = some (y, f.h) ∧ y + f.h ≤ v.h ∧ (s.fragmentHeight ≠ none → 0 < f.h) ∧
        ∀ fh, s.fragmentHeight = some fh → y = i * fh ∧ f.h ≤ fh) := by
  intro s
  refine ⟨fun hi => if_pos hi, fun hi => ?_⟩
  cases hg : getFragmentHeight v.w v.h sup dith q with
  | none =>
    rw [show s = _ from SplitView.new_of_none hg] at hi ⊢
    obtain rfl : i = 0 := Nat.lt_one_iff.mp hi
    exact ⟨v, rfl, hv, rfl, rfl, 0, rfl, by omega, fun h => absurd rfl h, nofun⟩
  | some F =>
    obtain ⟨hF, hw, _⟩ := getFragmentHeight_pos hwf hg
    rw [show s = _ from SplitView.new_of_some hg] at hi ⊢
    have hst := start_lt hF hi
    obtain ⟨f, hf, hvf, hfw, hfp, hfh⟩ := SplitView.getT_split hv hw hF hi
    refine ⟨f, hf, hvf, hfw, hfp, i * F, by rw [get_split hv.inv.h_lt hF hi rfl, hfh], by omega, fun _ => by omega,
      fun fh h => ?_⟩
    obtain rfl : F = fh := Option.some.inj h
    exact ⟨rfl, by omega⟩

/-! ## `encode_parallel` -/

theorem sum_map_le_of_bound {α} (l : List α) (g : α → Nat) (b : Nat) (h : ∀ x ∈ l, g x ≤ b) :
    (l.map g).sum ≤ l.length * b := by
  induction l with
  | nil => simp
  | cons a r ih =>
    rw [List.map_cons, List.sum_cons, List.length_cons, Nat.add_mul, Nat.one_mul]
    have := h a (List.mem_cons_self ..)
    have := ih (fun x hx => h x (List.mem_cons_of_mem _ hx))
    omega

/-- **`encode_parallel`** for a sequential encoder `bodyT` that is trap-free on every full-width view and writes
the `surface_bytes` of that view (what `encode_loops_trapfree` shows for every family), when the encoded size of a
fragment fits `isize` (`hsurf`): every `split.get(i)` is `Some`, `Vec::with_capacity(bytes)` does not overflow,
`debug_assert_eq!(buffer.len(), bytes)` holds for every fragment, the progress total `height + 1` is never exceeded
by the submitted heights, and the writes are the fragments' surface sizes in index order. -/
theorem encodeParallelT_eq {v : View} {c : Color} (hv : VOK v c) (bodyT : View → Option (List Nat)) (px : PixelInfo)
    (hpx : px.WF) (sup : Option Support) (dith : Dithering) (q : Quality) (hwf : ∀ s, sup = some s → s.WF)
    (hbody : ∀ f, VOK f c → f.w = v.w → ∃ ws, bodyT f = some ws ∧ ws.sum = px.surfIdeal f.w f.h)
    (hsurf : ∀ fh, (SplitView.new v.w v.h sup dith q).fragmentHeight = some fh →
      ∀ k, k ≤ fh → px.surfIdeal v.w k ≤ I64MAX) :
    ∃ ws, encodeParallelT bodyT px v sup dith q = some ws ∧
      ((SplitView.new v.w v.h sup dith q).len = 1 → ws.sum = px.surfIdeal v.w v.h) ∧
      ((SplitView.new v.w v.h sup dith q).len ≠ 1 →
        ∃ hs : List Nat, hs.length = (SplitView.new v.w v.h sup dith q).len ∧
          ws = hs.map (px.surfIdeal v.w) ∧
          ∀ i k, (SplitView.new v.w v.h sup dith q).get i = some k → hs[i]? = some k.2) := by
  have hh := hv.bounds.2.1
  unfold encodeParallelT
  rw [SplitView.newT_eq _ _ _ _ _ hwf, bind_some']
  by_cases h1 : (SplitView.new v.w v.h sup dith q).len = 1
  · obtain ⟨ws, e1, e2⟩ := hbody v hv rfl
    exact ⟨ws, by rw [if_pos h1, e1], fun _ => e2, fun h => absurd h1 h⟩
  -- more than one fragment: a fragment height was chosen
  cases hg : getFragmentHeight v.w v.h sup dith q with
  | none => exact absurd (by rw [SplitView.new_of_none hg]) h1
  | some F =>
    obtain ⟨hF, hw, _⟩ := getFragmentHeight_pos hwf hg
    have hsurf := hsurf F (by rw [SplitView.new_fragmentHeight, hg])
    rw [SplitView.new_of_some hg] at h1 ⊢
    -- fragment `i` is `min F (h - i·F)` rows high and encodes to the `surface_bytes` of that height
    have hmap : mapT (fragmentT bodyT px ⟨v.w, v.h, divCeil v.h F, some F⟩ v) (List.range (divCeil v.h F)) =
        some ((List.range (divCeil v.h F)).map fun i =>
          (px.surfIdeal v.w (min F (v.h - i * F)), min F (v.h - i * F))) := by
      apply mapT_eq_some
      intro i hi
      obtain ⟨f, hf, hvf, hfw, _, hfh⟩ := SplitView.getT_split hv hw hF (List.mem_range.mp hi)
      obtain ⟨ws, e1, e2⟩ := hbody f hvf hfw
      have hb : px.surfIdeal v.w f.h ≤ 9223372036854775807 := hsurf f.h (by omega)
      have hsb : px.surfaceBytes f.w f.h = some (px.surfIdeal v.w f.h) := by
        rw [surfaceBytes_eq px hpx, hfw, ckSome_lt (by unfold U64; omega)]
      unfold fragmentT
      rw [hf, bind_some']
      dsimp only
      rw [hsb, Option.getD_some, allocT_bind (by omega), e1, bind_some', dbgP_bind (by rw [e2, hfw]), pure_some', hfh]
    have hsum : ((List.range (divCeil v.h F)).map fun i => min F (v.h - i * F)).sum ≤ v.h :=
      sum_fragment_heights F v.h _ ▸ Nat.min_le_right _ _
    rw [if_neg h1, addU_bind (by omega), hmap, bind_some']
    dsimp only
    rw [List.map_map, dbgP_bind ⟨Nat.le_succ_of_le hsum, Nat.succ_ne_zero _⟩, pure_some', List.map_map]
    refine ⟨_, rfl, fun h => absurd h h1,
      fun _ => ⟨(List.range (divCeil v.h F)).map fun i => min F (v.h - i * F), ?_, ?_, fun i k hk => ?_⟩⟩
    · rw [List.length_map, List.length_range]
    · rw [List.map_map]; rfl
    · by_cases hi : i < divCeil v.h F
      · rw [get_split hh hF hi rfl] at hk
        cases hk
        rw [List.getElem?_map, List.getElem?_range hi]; rfl
      · rw [SplitView.get, if_pos (Nat.le_of_not_lt hi)] at hk
        cases hk

/-! ## fragments of block-compressed formats -/

/-- what `supportCheck` establishes for one support record -/
def SupOK (s : Support) : Prop :=
  s.WF ∧ (s.fragmentSize = .entireImage ∨ ∀ q, max (s.fragmentSize.getPreferred q) 1 ≤ 281474976710656)

theorem supOK_of_check {name : String} {s : Support} (hs : supportOf name = some (some s))
    (h : supportCheck name = true) : SupOK s := by
  unfold supportCheck at h
  rw [hs] at h
  simp only [Bool.and_eq_true, Bool.or_eq_true, beq_iff_eq, List.all_eq_true, decide_eq_true_eq] at h
  obtain ⟨h1, h2⟩ := h
  refine ⟨fun sh hsh => ?_, h2.imp_right fun h2 q => h2 q (by cases q <;> simp)⟩
  rw [hsh] at h1
  exact of_decide_eq_true h1

/-- the encoded size of a fragment of a 4×4 block format (at most 16 bytes per block) fits `isize`: a fragment has at
most `fragment_pixels ≤ 2^48` pixels, or is a single row group of the split height -/
theorem block_fragment_surface {w h : Nat} {sup : Option Support} {dith : Dithering} {q : Quality} {bb : Nat}
    (hw : w < U32) (hh : h < U32) (hbb : bb ≤ 16) (hok : ∀ s, sup = some s → SupOK s) :
    ∀ fh, (SplitView.new w h sup dith q).fragmentHeight = some fh →
      ∀ k, k ≤ fh → (PixelInfo.block bb 4 4).surfIdeal w k ≤ I64MAX := by
  intro fh hfh k hk
  have hU : U32 = 4294967296 := rfl
  have hI : I64MAX = 9223372036854775807 := rfl
  rw [SplitView.new_fragmentHeight] at hfh
  obtain ⟨s, sh, _, hs, hsh, _, _, _, _, _, hlt, hfw, _⟩ := getFragmentHeight_some (fun s hs => (hok s hs).1) hfh
  obtain ⟨hwf, hfrag⟩ := hok s hs
  have hsh8 : sh < 256 := (hwf sh hsh).2
  have hwh : w * h ≤ 4294967295 * 4294967295 := Nat.mul_le_mul (by omega) (by omega)
  -- a format that prefers the entire image is not split: `u64::MAX ≥ pixels`
  have hfp : max (s.fragmentSize.getPreferred q) 1 ≤ 281474976710656 := by
    rcases hfrag with he | hb
    · rw [he, show FragSize.entireImage.getPreferred q = 18446744073709551615 from rfl] at hlt
      omega
    · exact hb q
  generalize max (s.fragmentSize.getPreferred q) 1 = fp at *
  simp only [PixelInfo.surfIdeal]
  have hprod : (w + 4 - 1) / 4 * ((k + 4 - 1) / 4) ≤ w * k := Nat.mul_le_mul (by omega) (by omega)
  have hwk : w * k ≤ fh * w := by rw [Nat.mul_comm]; exact Nat.mul_le_mul_right _ hk
  have hall : (w + 4 - 1) / 4 * ((k + 4 - 1) / 4) * bb ≤ w * k * 16 := Nat.mul_le_mul hprod hbb
  rcases hfw with h1 | h1
  · omega
  · have : fh * w ≤ 255 * 4294967295 := by rw [h1]; exact Nat.mul_le_mul (by omega) (by omega)
    omega

/-! ## the constants of the source -/

/-- everything the loop theorems need of the tuning constants `tools/extract_consts.py` reads from the source; checked
by evaluation for the current values (`constsOK`), so a retuned buffer re-proves the theorems — or fails HERE if, say,
a staging buffer does not hold one pixel -/
def ConstsOK : Prop :=
  (16 ≤ SrcConsts.COPY_BUFFER_BYTES ∧ SrcConsts.COPY_BUFFER_BYTES ≤ 4294967296) ∧
  (16 ≤ SrcConsts.UNTYPED_BUFFER_BYTES ∧ SrcConsts.UNTYPED_BUFFER_BYTES ≤ 4294967296) ∧
  SrcConsts.UNC_REPORT_FREQUENCY ≠ 0 ∧
  (1 ≤ SrcConsts.UNIVERSAL_BUFFER_PIXELS ∧ SrcConsts.UNIVERSAL_BUFFER_PIXELS ≤ 4294967296) ∧
  (1 ≤ SrcConsts.DITHER_BUFFER_PIXELS ∧ SrcConsts.DITHER_BUFFER_PIXELS ≤ 65536 ∧
    SrcConsts.DITHER_ENCODED_ELEM_BYTES ≤ 65536 ∧ 1 ≤ SrcConsts.DITHER_ERROR_PADDING ∧
    SrcConsts.DITHER_ERROR_PADDING ≤ 65536) ∧
  16 ≤ SrcConsts.DITHER_BUFFER_PIXELS * SrcConsts.DITHER_ENCODED_ELEM_BYTES ∧
  8 ≤ SrcConsts.DITHER_ENCODED_ELEM_BYTES ∧
  (SrcConsts.SUBSAMPLE_BUFFER_PIXELS ≤ 65536 ∧
    SrcConsts.SUBSAMPLE_BUFFER_PIXELS / 2 ≤ SrcConsts.SUBSAMPLE_ENCODED_BLOCKS) ∧
  8 ≤ SrcConsts.SUBSAMPLE_BUFFER_PIXELS ∧
  SrcConsts.SUBSAMPLE_REPORT_FREQUENCY ≠ 0 ∧
  SrcConsts.BIPLANAR_REPORT_PIXELS ≠ 0 ∧
  (SrcConsts.BC_REPORT_FREQUENCY_FAST ≠ 0 ∧ SrcConsts.BC_REPORT_FREQUENCY_NORMAL ≠ 0 ∧
    SrcConsts.BC_REPORT_FREQUENCY_HIGH ≠ 0 ∧ SrcConsts.BC_REPORT_FREQUENCY_UNREASONABLE ≠ 0)

theorem constsOK : ConstsOK := by unfold ConstsOK; decide

/-! ## every body of the encoder table -/

theorem colorOf_ok (c : C19.ColorFormat) : (colorOf c).OK := by
  unfold Color.OK colorOf
  cases c.precision <;> simp [precSize]

theorem chunk_sum {v : View} {bp enc : Nat} (hbp : 1 ≤ bp) :
    (if v.pitch = v.w * v.bpp then chunksContig (v.w * v.h) bp enc else chunksRows v.w v.h bp enc).sum =
      v.w * v.h * enc := by
  split
  · exact chunksContig_sum _ _ _ hbp
  · exact chunksRows_sum _ _ _ _ hbp

theorem runT_of_some {m : Option (List Nat)} {ws : List Nat} {P : Prop} {S : List Nat → Prop} (h : m = some ws)
    (hP : ¬ P) (hs : S ws) : ∃ r, m.map some = some r ∧ (r = none ↔ P) ∧ ∀ ws, r = some ws → S ws :=
  ⟨some ws, by rw [h]; rfl, ⟨(fun h => nomatch h), fun h => absurd h hP⟩, fun _ h => Option.some.inj h ▸ hs⟩

/-- **every loop the table can dispatch to** is trap-free on every view and writes exactly `surface_bytes` — or, for
the bi-planar body on an odd size, refuses before the first write -/
theorem Body.runT_eq {ctor : C19.SetCtor} {px : PixelInfo} {e : C19.Enc} {b : Body} (hm : Body.Matches ctor px e b)
    (hpx : pxOKb px = true) {c : C19.ColorFormat} (hcol : e.colors.contains c = true) {v : View}
    (hv : VOK v (colorOf c)) (aligned : Bool) :
    ∃ r, b.runT v (colorOf c) aligned = some r ∧
      (r = none ↔ (∃ p1 p2 sx sy, px = .biPlanar p1 p2 sx sy) ∧ (v.w % 2 ≠ 0 ∨ v.h % 2 ≠ 0)) ∧
      ∀ ws, r = some ws → ws.sum = px.surfIdeal v.w v.h := by
  obtain ⟨k1, k2, k3, k4, k5, k6, k7, k8, k9, k10, k11, k12⟩ := constsOK
  have hc := colorOf_ok c
  have hcb := (colorOf c).bpp_pos hc
  have hvb := hv.bpp
  cases hm with
  | copy bpp c' fl hb =>
    obtain rfl : c' = c := eq_of_beq hcol
    refine runT_of_some (copyDirectlyT_eq hv hc k1) (by simp) ?_
    rw [← hb, ← hvb]
    split
    · exact List.sum_singleton
    · exact chunksRows_sum _ _ _ _ ((Nat.one_le_div_iff (by omega)).2 (by omega))
  | convert bpp p fl t snorm ht hb hs =>
    have hp : p = c.precision := eq_of_beq hcol
    have hfit : (UntypedLine.convert t snorm).Fits (colorOf c) := by
      refine ⟨by rw [ht, hp]; rfl, fun h => ?_⟩
      rw [ht]
      cases p with
      | u8 => exact Or.inl rfl
      | u16 => exact Or.inr rfl
      | f32 => exact absurd rfl (hs h)
    have hbpe := (UntypedLine.convert t snorm).bpe_pos hc hfit
    exact runT_of_some (uncompressedUntypedT_eq hv hc hfit k2 k3) (by simp)
      (hb ▸ chunk_sum ((Nat.one_le_div_iff (by omega)).2 (by omega)))
  | bgr bpp fl hb =>
    have hp : C19.Precision.u8 = c.precision := eq_of_beq hcol
    have hfit : (UntypedLine.bgr bpp).Fits (colorOf c) := ⟨by unfold colorOf; rw [← hp]; rfl, hb⟩
    have hbpe := (UntypedLine.bgr bpp).bpe_pos hc hfit
    exact runT_of_some (uncompressedUntypedT_eq hv hc hfit k2 k3) (by simp)
      (chunk_sum ((Nat.one_le_div_iff (by omega)).2 (by omega)))
  | universal bpp prim fl hp =>
    have hpx : 1 ≤ bpp ∧ bpp ≤ 16 := of_decide_eq_true hpx
    exact runT_of_some (uncompressedUniversalT_eq hv hc aligned (by omega) hp k4 k3) (by simp) (chunk_sum k4.1)
  | dither bpp align prim fl ha hp =>
    have hpx : 1 ≤ bpp ∧ bpp ≤ 16 := of_decide_eq_true hpx
    have hq : 1 ≤ SrcConsts.DITHER_BUFFER_PIXELS * SrcConsts.DITHER_ENCODED_ELEM_BYTES / bpp :=
      (Nat.one_le_div_iff (by omega)).2 (by omega)
    exact runT_of_some (ditherT_eq hv hc aligned (by omega) (by omega) hp k5 k3) (by simp)
      (chunksPerRow_sum _ _ _ _ (by rw [Nat.min_def]; split <;> omega))
  | subsample bytes bw prim cs fl kind hp =>
    have hpx : bytes ≤ 16 ∧ ((1 = 1 ∧ 2 ≤ bw ∧ bw ≤ 8) ∨ (bw = 4 ∧ 1 = 4)) := of_decide_eq_true hpx
    have hbw : 2 ≤ bw ∧ bw ≤ 8 := by omega
    have hq1 : 1 ≤ SrcConsts.SUBSAMPLE_BUFFER_PIXELS / bw := (Nat.one_le_div_iff (by omega)).2 (by omega)
    exact runT_of_some (subsampleT_eq hv hc aligned ⟨hbw.1, by omega⟩ (by omega) hp k8 k10) (by simp)
      (chunksSubsample_sum _ _ _ _ _ (by omega) (Nat.mul_le_mul hq1 (by omega) : 1 * 1 ≤ _) (Nat.mul_mod_left ..))
  | biPlanar p1 p2 prim1 prim2 e h1 h2 =>
    have hpx : p1 ≤ 2 ∧ p2 ≤ 4 ∧ 2 = 2 ∧ 2 = 2 := of_decide_eq_true hpx
    refine ⟨_, biPlanarT_eq hv hc (by omega) hpx.2.1 h1 h2 k11, ?_, fun ws hws => ?_⟩
    · split
      · next hodd => exact ⟨fun _ => ⟨⟨_, _, _, _, rfl⟩, hodd⟩, fun _ => rfl⟩
      · next hodd => exact ⟨(fun h => nomatch h), fun h => absurd h.2 hodd⟩
    · split at hws
      · cases hws
      · cases hws
        exact writesBiPlanar_sum _ _ _ _ (by omega) (by omega)
  | block bytes quality e =>
    have hpx : bytes ≤ 16 ∧ _ := of_decide_eq_true hpx
    exact runT_of_some (block4x4T_eq hv hc (by omega) quality k12) (by simp) (writesBlock_sum _ _ _ _ _ (by omega) (by omega))

/-! ## the table check -/

theorem defaultBody_matches {ctor : C19.SetCtor} {px : PixelInfo} {e : C19.Enc} {b : Body}
    (h : defaultBody ctor px e = some b) : Body.Matches ctor px e b := by
  obtain ⟨colors, fl, kind⟩ := e
  unfold defaultBody at h
  split at h
  · dsimp only at h
    split at h
    · split at h <;> cases h
      exact .copy _ _ _ ‹_›
    · split at h <;> cases h
      next ch hf =>
        exact .convert _ _ _ ⟨ch, _⟩ false rfl (by simpa [Color.bpp] using List.find?_some hf) (fun h => nomatch h)
    · cases h
      exact .universal _ 1 _ (Or.inl rfl)
    · cases h
      exact .dither _ 1 1 _ (by omega) (Or.inl rfl)
    · cases h
  · split at h <;> cases h
    next hb => subst hb; exact .subsample _ _ 1 _ _ _ (Or.inl rfl)
  · split at h <;> cases h
    next hb => obtain ⟨rfl, rfl⟩ := hb; exact .biPlanar _ _ 1 1 _ (Or.inl rfl) (Or.inl rfl)
  · split at h <;> cases h
    next hb => obtain ⟨rfl, rfl⟩ := hb; exact .block _ 0 _
  · cases h

theorem dbgP_some {p : Prop} [Decidable p] {u : Unit} (h : dbgP p = some u) : p :=
  Decidable.byContradiction fun hn => by unfold dbgP at h; rw [if_neg hn] at h; cases h

/-- what one evaluation of `dispatchCheck` means -/
theorem dispatch_of_check {f : C19.Format} {c : C19.ColorFormat} {d : C19.Dithering} {s : C19.EncSet}
    (hs : C19.encoderSet f = some s) (h : dispatchCheck f c d = true) :
    pxOKb f.row.px = true ∧ ∃ e, pickEncoderT s c d = some e ∧ e.colors.contains c = true ∧
      ∃ b, Body.Matches s.ctor f.row.px e b := by
  unfold dispatchCheck at h
  rw [hs] at h
  obtain ⟨h1, h2⟩ := Bool.and_eq_true_iff.mp h
  refine ⟨h1, ?_⟩
  cases hp : pickEncoderT s c d with
  | none => rw [hp] at h2; cases h2
  | some e =>
    rw [hp] at h2
    obtain ⟨b, hb⟩ := Option.isSome_iff_exists.mp h2
    refine ⟨e, rfl, ?_, b, defaultBody_matches hb⟩
    -- the `assert!` of `Encoder::encode` passed
    unfold pickEncoderT at hp
    simp only [bind, Option.bind_eq_some_iff] at hp
    obtain ⟨_, _, e', _, _, hu, he⟩ := hp
    cases he
    exact dbgP_some hu

end Dds.TrapEnc
