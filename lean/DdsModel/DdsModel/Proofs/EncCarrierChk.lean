/-
C12 carrier independence, the 16-bit domain.  For a 16-bit value `w` the F32 carrier holds `b = n16::f32(w)`; the
kernel evaluation of `chkW16` over all `w` (`Proofs/ConvF16W0.lean`, `ConvF16W1.lean`, shared with C04) also yields
  * `n16::from_f32(b) = w` (`(x * 65535.0 + 0.5) as u16`: what `Encoder::copy` stores),
  * the SNORM16 quantiser of the exact value of `b`: `⌊value(b)·65534 + ½⌋` in `Nat` (`Quant.qRatio` on
    `pval b / 2^149`) equals the `norm` of `s16::from_n16(w)` (`(w·65534 + 65534) >> 16`);
    `s16::from_uf32` computes in binary64 and is, for EVERY binary32 input, exactly that quantiser of the value
    (C15 `QuantBits.s16_eq_sencode`), so no binary64 evaluation is needed.
-/
import DdsModel.EncCarrier
import DdsModel.Proofs.ConvF16All
import DdsModel.Proofs.QuantBits64
import DdsModel.Proofs.Quant
namespace Dds.EncCarrier
open Dds Dds.CF32 Dds.Conv Dds.Quant Dds.EncTotal Dds.ConvFast Dds.F32Mono Dds.F32Thr
open Dds.F32.Raw (lz_eq nadd nsub nmul ndiv npow)

theorem chkS16Val_sound (b t : Nat) (h : chkS16Val b t = true) :
    b < 0x7F800000 ∧ QuantBits.s16 b = some (snormOfNorm 16 t) := by
  unfold chkS16Val at h
  have hp : mantR b * 2 ^ (bexpR b - 851) = pval b := rfl
  simp only [lz_eq, Bool.and_eq_true, Nat.blt_eq, Nat.ble_eq, nadd, nsub, nmul, ndiv, npow, hp] at h
  obtain ⟨⟨hb, hle⟩, heq⟩ := h
  have heq := Nat.eq_of_beq_eq_true heq
  rw [D149_eq] at hle heq
  obtain ⟨a1, a2, _, _, _⟩ := posfin b hb
  have hx : b < 2 ^ 32 := by omega
  refine ⟨hb, ?_⟩
  rw [QuantBits.s16_eq_sencode b hx]
  have hu : QuantBits.uvalue b = toRat b := by
    unfold QuantBits.uvalue; rw [a1, a2]; rfl
  rw [hu, Dds.F32Mono.toRat_natDiv b hb]
  unfold sencode sq
  have hL : snormLevels 16 = 65534 := by decide
  rw [hL, qL_ratio 65534 (pval b) (2 ^ 149) (Nat.pos_of_ne_zero (by decide)) hle]
  unfold qRatio
  rw [heq]

theorem fpn16_eq (x : Nat) : fpn16 x = QuantF32.n16 x := by
  unfold fpn16 QuantF32.n16
  rw [show ofNat 65535 = QuantF32.k65535 by decide +kernel]

/-- `n16::from_f32(n16::f32(w)) = w` for all 65 536 values -/
theorem n16_n16f32 (w : Nat) (hw : w < 65536) : QuantF32.n16 (n16f32 w) = w := by
  rw [← fpn16_eq]
  exact (chkW16_sound w (allRange_lt chkW16_all w hw)).2.1

/-- `s16::from_uf32(n16::f32(w)) = s16::from_n16(w)` for all 65 536 values -/
theorem s16_n16f32 (w : Nat) (hw : w < 65536) : QuantBits.s16 (n16f32 w) = some (s16_from_n16 w) :=
  (chkS16Val_sound _ _ (chkW16_sound w (allRange_lt chkW16_all w hw)).2.2).2

theorem n16f32_lt (w : Nat) (hw : w < 65536) : n16f32 w < 2 ^ 32 :=
  Nat.lt_trans (chkS16Val_sound _ _ (chkW16_sound w (allRange_lt chkW16_all w hw)).2.2).1 (by decide)

end Dds.EncCarrier
