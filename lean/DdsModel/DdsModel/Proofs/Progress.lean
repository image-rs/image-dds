/-
Helper lemmas for `Theorems/C17.lean` (model: `Progress.lean`).
-/
import DdsModel.Progress
import DdsModel.Proofs.RatLemmas
import DdsModel.Proofs.ListLemmas
namespace Dds

/-! ### rationals -/

theorem natDiv_lt_one {i n : Nat} (h : i < n) : ((i : Rat) / (n : Rat)) < 1 := by
  rw [Rat.div_lt_iff (Rat.natCast_pos.mpr (by omega)), Rat.one_mul]
  exact Rat.natCast_lt_natCast.mpr h

theorem natDiv_nonneg {i n : Nat} (h : i < n) : 0 ≤ ((i : Rat) / (n : Rat)) :=
  rat_div_nonneg Rat.natCast_nonneg (Rat.natCast_pos.mpr (by omega))

theorem natDiv_mono {i j n : Nat} (h : i ≤ j) (hn : 0 < n) :
    ((i : Rat) / (n : Rat)) ≤ ((j : Rat) / (n : Rat)) :=
  rat_div_le_div_right (Rat.natCast_le_natCast.mpr h) (Rat.natCast_pos.mpr hn)

theorem natDiv_mem {l : List Nat} {n : Nat} (hb : ∀ s ∈ l, s < n) {x : Rat}
    (hx : x ∈ l.map fun (s : Nat) => (s : Rat) / (n : Rat)) : 0 ≤ x ∧ x < 1 := by
  obtain ⟨s, hs, rfl⟩ := List.mem_map.mp hx
  exact ⟨natDiv_nonneg (hb s hs), natDiv_lt_one (hb s hs)⟩

theorem pow25_pos (l : Nat) : (0 : Rat) < (2 / 5 : Rat) ^ l := Rat.pow_pos (by grind)

theorem pow25_succ_le (l : Nat) : (2 / 5 : Rat) ^ (l + 1) ≤ (2 / 5 : Rat) ^ l :=
  rat_pow_succ_le (by grind) (by grind) l

theorem pow25_le_one (l : Nat) : (2 / 5 : Rat) ^ l ≤ 1 := by
  induction l with
  | zero => rw [Rat.pow_zero]; exact Rat.le_refl
  | succ l ih => exact Rat.le_trans (pow25_succ_le l) ih

/-! ### `ProgressRange` -/

namespace ProgressRange

theorem project_mono {r : ProgressRange} (hl : 0 ≤ r.length) {p q : Rat} (h : p ≤ q) :
    r.project p ≤ r.project q :=
  Rat.add_le_add_left.mpr (Rat.mul_le_mul_of_nonneg_left h hl)

theorem project_zero (r : ProgressRange) : r.project 0 = r.start := by
  unfold project; rw [Rat.mul_zero, Rat.add_zero]
theorem project_one (r : ProgressRange) : r.project 1 = r.stop := by
  unfold project stop; rw [Rat.mul_one]
theorem full_project (p : Rat) : full.project p = p := by
  unfold project full; rw [Rat.one_mul, Rat.zero_add]

theorem project_mem {r : ProgressRange} (hl : 0 ≤ r.length) {p : Rat} (h0 : 0 ≤ p) (h1 : p ≤ 1) :
    r.start ≤ r.project p ∧ r.project p ≤ r.stop := by
  rw [← project_zero, ← project_one]
  exact ⟨project_mono hl h0, project_mono hl h1⟩

theorem project_lt_stop {r : ProgressRange} (hl : 0 < r.length) {p : Rat} (h1 : p < 1) :
    r.project p < r.stop := by
  rw [← project_one]
  exact Rat.add_lt_add_left.mpr (Rat.mul_lt_mul_of_pos_left h1 hl)

theorem subRange_project (s o : ProgressRange) (p : Rat) :
    (s.subRange o).project p = s.project (o.project p) := by
  unfold subRange project; grind

theorem start_le_stop {r : ProgressRange} (hl : 0 ≤ r.length) : r.start ≤ r.stop := by
  rw [← project_zero, ← project_one]; exact project_mono hl (by decide)

end ProgressRange

theorem levelRange_zero (l : Nat) : levelRange 0 l = .full := rfl

theorem levelRange_pos {m : Nat} (hm : 0 < m) (l : Nat) :
    (levelRange m l).start = 1 - (2 / 5 : Rat) ^ l ∧
    (levelRange m l).stop = 1 - (2 / 5 : Rat) ^ (l + 1) := by
  unfold levelRange
  rw [if_neg (by omega)]
  unfold ProgressRange.fromTo ProgressRange.stop
  exact ⟨rfl, by simp only; grind⟩

theorem levelRange_bounds (m l : Nat) : 0 ≤ (levelRange m l).start ∧
    0 ≤ (levelRange m l).length ∧ (levelRange m l).stop ≤ 1 := by
  unfold levelRange ProgressRange.stop
  by_cases hm : m = 0
  · rw [if_pos hm]; unfold ProgressRange.full; simp only; grind
  · rw [if_neg hm]
    unfold ProgressRange.fromTo
    have := pow25_succ_le l
    have := pow25_le_one l
    have := pow25_pos (l + 1)
    simp only; grind

theorem levelRange_length_nonneg (m l : Nat) : 0 ≤ (levelRange m l).length :=
  (levelRange_bounds m l).2.1

theorem levelRange_start_nonneg (m l : Nat) : 0 ≤ (levelRange m l).start :=
  (levelRange_bounds m l).1

theorem levelRange_stop_le_one (m l : Nat) : (levelRange m l).stop ≤ 1 :=
  (levelRange_bounds m l).2.2

theorem levelRange_abut {m : Nat} (hm : 0 < m) (l : Nat) :
    (levelRange m l).stop = (levelRange m (l + 1)).start := by
  rw [(levelRange_pos hm l).2, (levelRange_pos hm (l + 1)).1]

/-! ### monotone bounded lists -/

structure Within (lo hi : Rat) (l : List Rat) : Prop where
  mono : l.Pairwise (· ≤ ·)
  bounds : ∀ x, x ∈ l → lo ≤ x ∧ x ≤ hi

theorem Within.nil (lo hi : Rat) : Within lo hi [] := ⟨List.Pairwise.nil, by simp⟩

theorem Within.single {lo hi x : Rat} (h1 : lo ≤ x) (h2 : x ≤ hi) : Within lo hi [x] :=
  ⟨List.pairwise_singleton _ _, by intro y hy; simp at hy; subst hy; exact ⟨h1, h2⟩⟩

theorem Within.append {a b c : Rat} {l1 l2 : List Rat} (h1 : Within a b l1) (h2 : Within b c l2)
    (hab : a ≤ b) (hbc : b ≤ c) : Within a c (l1 ++ l2) := by
  constructor
  · rw [List.pairwise_append]
    exact ⟨h1.mono, h2.mono, fun x hx y hy => Rat.le_trans (h1.bounds x hx).2 (h2.bounds y hy).1⟩
  · intro x hx
    cases List.mem_append.mp hx with
    | inl hx => exact ⟨(h1.bounds x hx).1, Rat.le_trans (h1.bounds x hx).2 hbc⟩
    | inr hx => exact ⟨Rat.le_trans hab (h2.bounds x hx).1, (h2.bounds x hx).2⟩

theorem Within.weaken {a b a' b' : Rat} {l : List Rat} (h : Within a b l) (ha : a' ≤ a)
    (hb : b ≤ b') : Within a' b' l :=
  ⟨h.mono, fun x hx => ⟨Rat.le_trans ha (h.bounds x hx).1, Rat.le_trans (h.bounds x hx).2 hb⟩⟩

theorem Within.concat_one {l : List Rat} (h : Within 0 1 l) : Within 0 1 (l ++ [1]) :=
  h.append (Within.single Rat.le_refl Rat.le_refl) (by decide) Rat.le_refl

theorem Within.map_project {l : List Rat} (h : Within 0 1 l) {r : ProgressRange}
    (hl : 0 ≤ r.length) : Within r.start r.stop (l.map r.project) := by
  constructor
  · rw [List.pairwise_map]
    exact h.mono.imp (fun hab => ProgressRange.project_mono hl hab)
  · intro x hx
    obtain ⟨p, hp, rfl⟩ := List.mem_map.mp hx
    exact ProgressRange.project_mem hl (h.bounds p hp).1 (h.bounds p hp).2

theorem within_natDiv {l : List Nat} {n : Nat} (hs : l.Pairwise (· ≤ ·)) (hb : ∀ s ∈ l, s < n) :
    Within 0 1 (l.map fun (s : Nat) => (s : Rat) / (n : Rat)) :=
  ⟨List.pairwise_map.mpr
      (hs.imp_of_mem fun ha _ hab => natDiv_mono hab (Nat.zero_lt_of_lt (hb _ ha))),
    fun _ hx => ⟨(natDiv_mem hb hx).1, Rat.le_of_lt (natDiv_mem hb hx).2⟩⟩

/-! ### reports of traces -/

theorem reports_append (a b : List Ev) : reports (a ++ b) = reports a ++ reports b := by
  induction a with
  | nil => rfl
  | cons e t ih =>
    cases e <;> simp [reports, ih]

theorem reports_replicate_write (n : Nat) : reports (List.replicate n .write) = [] := by
  induction n with
  | zero => rfl
  | succ n ih => simp [List.replicate_succ, reports, ih]

theorem reports_map_project (r : ProgressRange) (tr : List Ev) :
    reports (tr.map (Ev.project r)) = (reports tr).map r.project := by
  induction tr with
  | nil => rfl
  | cons e t ih => cases e <;> simp [reports, Ev.project, ih]

theorem reports_flatMap {α : Type} (l : List α) (g : α → List Ev) :
    reports (l.flatMap g) = l.flatMap (fun a => reports (g a)) := by
  induction l with
  | nil => rfl
  | cons a t ih => simp [List.flatMap_cons, reports_append, ih]

theorem reports_loopTrace (n f : Nat) (extra : Nat → Nat) :
    reports (loopTrace n f extra) =
      ((List.range n).filter (fun i => decide (i % f = 0))).map (fun (i : Nat) => (i : Rat) / (n : Rat)) := by
  unfold loopTrace
  rw [reports_flatMap, ← flatMap_if_singleton]
  congr 1
  funext i
  rw [reports_append, reports_replicate_write, List.append_nil]
  unfold reportIf
  by_cases h : i % f = 0 <;> simp [h, reports]

theorem loop_reports (n f : Nat) (extra : Nat → Nat) :
    Within 0 1 (reports (loopTrace n f extra)) ∧ ∀ x, x ∈ reports (loopTrace n f extra) → x < 1 := by
  rw [reports_loopTrace]
  have hb : ∀ s ∈ (List.range n).filter (fun i => decide (i % f = 0)), s < n :=
    fun s hs => List.mem_range.mp (List.mem_filter.mp hs).1
  exact ⟨within_natDiv ((List.pairwise_lt_range.imp Nat.le_of_lt).filter _) hb,
    fun x hx => (natDiv_mem hb hx).2⟩

theorem family_reports (fam : Family) :
    Within 0 1 (reports fam.trace) ∧ ∀ x, x ∈ reports fam.trace → x < 1 := by
  cases fam with
  | copy w =>
    have : reports (Family.copy w).trace = [0] := by
      simp [Family.trace, reports, reports_replicate_write]
    rw [this]
    exact ⟨Within.single Rat.le_refl (by decide), by intro x hx; simp at hx; subst hx; decide⟩
  | chunked n f => exact loop_reports n f _
  | biPlanar g f =>
    have : reports (Family.biPlanar g f).trace = reports (loopTrace g f (fun _ => 1)) := by
      simp [Family.trace, reports, reports_append]
    rw [this]
    exact loop_reports g f _
  | block bw rows f => exact loop_reports _ f _

/-! ### the parallel jobs -/

theorem reports_parJobs_false (incs : List Nat) (total done : Nat) :
    reports (parJobs false incs total done) = [] := by
  induction incs generalizing done with
  | nil => rfl
  | cons k ks ih => simp [parJobs, reports, ih]

/-- cumulative sums `done+k₁, done+k₁+k₂, …` -/
def cumul : List Nat → Nat → List Nat
  | [], _ => []
  | k :: ks, done => (done + k) :: cumul ks (done + k)

theorem reports_parJobs_true (incs : List Nat) (total done : Nat) :
    reports (parJobs true incs total done) =
      (cumul incs done).map (fun (s : Nat) => (s : Rat) / (total : Rat)) := by
  induction incs generalizing done with
  | nil => rfl
  | cons k ks ih => simp [parJobs, reports, ih, cumul]

theorem length_cumul (incs : List Nat) (done : Nat) : (cumul incs done).length = incs.length := by
  induction incs generalizing done with
  | nil => rfl
  | cons k ks ih => simp [cumul, ih]

theorem cumul_bounds (incs : List Nat) (done : Nat) :
    ∀ s, s ∈ cumul incs done → done ≤ s ∧ s ≤ done + incs.sum := by
  induction incs generalizing done with
  | nil => intro s hs; simp [cumul] at hs
  | cons k ks ih =>
    intro s hs
    simp only [cumul, List.mem_cons] at hs
    simp only [List.sum_cons]
    cases hs with
    | inl h => subst h; omega
    | inr h => have := ih (done + k) s h; omega

theorem cumul_pairwise_le (incs : List Nat) (done : Nat) :
    (cumul incs done).Pairwise (· ≤ ·) := by
  induction incs generalizing done with
  | nil => exact List.Pairwise.nil
  | cons k ks ih =>
    exact List.pairwise_cons.mpr ⟨fun s hs => (cumul_bounds ks (done + k) s hs).1, ih (done + k)⟩

theorem cumul_pairwise_lt (incs : List Nat) (done : Nat) (hpos : ∀ k, k ∈ incs → 0 < k) :
    (cumul incs done).Pairwise (· < ·) ∧ ∀ s, s ∈ cumul incs done → done < s := by
  induction incs generalizing done with
  | nil => exact ⟨List.Pairwise.nil, by intro s hs; simp [cumul] at hs⟩
  | cons k ks ih =>
    have hk : 0 < k := hpos k (by simp)
    have ih' := ih (done + k) (fun k' hk' => hpos k' (by simp [hk']))
    refine ⟨List.pairwise_cons.mpr ⟨ih'.2, ih'.1⟩, fun s hs => ?_⟩
    cases List.mem_cons.mp hs with
    | inl h => omega
    | inr h => have := ih'.2 s h; omega

/-- what makes a level run well-formed: for a parallel run the submitted heights sum to less than
`total` (`total = height + 1`) -/
def LevelRun.Valid : LevelRun → Prop
  | .par _ incs total => incs.sum < total
  | _ => True

theorem reports_par (mt : Bool) (incs : List Nat) (total : Nat) :
    reports (LevelRun.par mt incs total).trace = reports (parJobs mt incs total 0) ++ [1] := by
  have : reports (incs.flatMap fun _ => [Ev.check, Ev.write]) = [] := by
    rw [reports_flatMap]; simp [reports]
  simp [LevelRun.trace, reports_append, reports, this]

theorem reports_seq (fam : Family) : reports (LevelRun.seq fam).trace = reports fam.trace ∧
    reports (LevelRun.parSingle fam).trace = reports fam.trace := by
  simp [LevelRun.trace, reports_append, reports]

theorem parJobs_reports (mt : Bool) (incs : List Nat) (total : Nat) (h : incs.sum < total) :
    Within 0 1 (reports (parJobs mt incs total 0)) := by
  cases mt with
  | false => rw [reports_parJobs_false]; exact Within.nil _ _
  | true =>
    rw [reports_parJobs_true]
    exact within_natDiv (cumul_pairwise_le incs 0)
      (fun s hs => by have := cumul_bounds incs 0 s hs; omega)

theorem levelRun_reports (lv : LevelRun) (hv : lv.Valid) : Within 0 1 (reports lv.trace) := by
  cases lv with
  | seq fam => rw [(reports_seq fam).1]; exact (family_reports fam).1
  | parSingle fam => rw [(reports_seq fam).2]; exact (family_reports fam).1
  | par mt incs total => rw [reports_par]; exact (parJobs_reports mt incs total hv).concat_one

/-! ### levels and surfaces -/

theorem level_reports (m l : Nat) (x : LevelRun) (hv : x.Valid) :
    Within (levelRange m l).start (levelRange m l).stop
      (reports (x.trace.map (Ev.project (levelRange m l)))) := by
  rw [reports_map_project]
  exact (levelRun_reports x hv).map_project (levelRange_length_nonneg m l)

theorem levels_reports {m : Nat} (hm : 0 < m) (xs : List LevelRun) (l : Nat)
    (hv : ∀ x, x ∈ xs → x.Valid) :
    Within (levelRange m l).start 1 (reports (levelsTrace m l xs)) := by
  induction xs generalizing l with
  | nil =>
    exact Within.nil _ _
  | cons x xs ih =>
    simp only [levelsTrace]
    rw [reports_append]
    have h2 := ih (l + 1) (fun y hy => hv y (by simp [hy]))
    rw [← levelRange_abut hm l] at h2
    exact (level_reports m l x (hv x (by simp))).append h2
      (ProgressRange.start_le_stop (levelRange_length_nonneg m l)) (levelRange_stop_le_one m l)

theorem surface_reports (lv0 : LevelRun) (mips : List LevelRun)
    (hv : ∀ x, x ∈ lv0 :: mips → x.Valid) :
    Within 0 1 (reports (surfaceTrace lv0 mips)) ∧
      (reports (surfaceTrace lv0 mips)).getLast? = some 1 := by
  unfold surfaceTrace
  simp only
  rw [reports_append, reports_append]
  refine ⟨Within.concat_one ?_, by simp [reports]⟩
  have h0 := level_reports mips.length 0 lv0 (hv lv0 (by simp))
  by_cases hm : mips.length = 0
  · rw [if_pos hm]
    simp only [reports, List.append_nil]
    exact h0.weaken (levelRange_start_nonneg _ _) (levelRange_stop_le_one _ _)
  · rw [if_neg hm]
    simp only [reports]
    have h1 := levels_reports (m := mips.length) (by omega) mips 1
      (fun x hx => hv x (by simp [hx]))
    rw [← levelRange_abut (by omega) 0] at h1
    exact (h0.append h1 (ProgressRange.start_le_stop (levelRange_length_nonneg _ _))
      (levelRange_stop_le_one _ _)).weaken (levelRange_start_nonneg _ _) Rat.le_refl

/-! ### cancellation -/

/-- every report below 100 % is followed by a check -/
def Honours : List Ev → Prop
  | [] => True
  | .report p :: t => (p < 1 → Ev.check ∈ t) ∧ Honours t
  | _ :: t => Honours t

theorem honours_append_of_check (a b : List Ev) (hb : Honours b) (hc : Ev.check ∈ b) :
    Honours (a ++ b) := by
  induction a with
  | nil => exact hb
  | cons e t ih =>
    cases e with
    | check => exact ih
    | write => exact ih
    | report p => exact ⟨fun _ => List.mem_append_right _ hc, ih⟩

theorem honours_final (a : List Ev) : Honours (a ++ [Ev.check, Ev.report 1]) :=
  honours_append_of_check a _ ⟨fun h => absurd h (by decide), trivial⟩ (by simp)

theorem honours_split {tr : List Ev} (h : Honours tr) {pre post : List Ev} {p : Rat}
    (e : tr = pre ++ Ev.report p :: post) (hp : p < 1) : Ev.check ∈ post := by
  subst e
  induction pre with
  | nil => exact h.1 hp
  | cons x xs ih =>
    cases x with
    | check => exact ih h
    | write => exact ih h
    | report q => exact ih h.2

theorem levelRun_head (lv : LevelRun) : ∃ t, lv.trace = Ev.check :: t := by
  cases lv <;> exact ⟨_, rfl⟩

theorem levelRun_honours (lv : LevelRun) : Honours lv.trace := by
  cases lv with
  | seq fam => exact honours_append_of_check _ [Ev.check] trivial (by simp)
  | parSingle fam => exact honours_append_of_check _ [Ev.check] trivial (by simp)
  | par mt incs total => exact honours_final _

theorem surface_head (lv0 : LevelRun) (mips : List LevelRun) :
    ∃ t, surfaceTrace lv0 mips = Ev.check :: t := by
  obtain ⟨t, ht⟩ := levelRun_head lv0
  unfold surfaceTrace
  rw [ht]
  exact ⟨_, rfl⟩

theorem exec_none (tr : List Ev) (k : Nat) :
    exec none tr false k = ⟨true, reports tr, writes tr⟩ := by
  induction tr generalizing k with
  | nil => rfl
  | cons e t ih => cases e <;> simp [exec, reports, writes, ih]

theorem exec_precancelled (ca : Option Nat) (t : List Ev) (k : Nat) :
    exec ca (Ev.check :: t) true k = ⟨false, [], 0⟩ := by
  simp [exec]

/-! ### every report is guarded by a check (`checked_report`) -/

/-- every `report` is immediately preceded by a `check`; the flag says whether the previous event
was a check -/
def Guarded : Bool → List Ev → Prop
  | _, [] => True
  | _, .check :: t => Guarded true t
  | b, .report _ :: t => b = true ∧ Guarded false t
  | _, .write :: t => Guarded false t

theorem Guarded.weaken {t : List Ev} (h : Guarded false t) (b : Bool) : Guarded b t := by
  cases t with
  | nil => trivial
  | cons e t =>
    cases e with
    | check => exact h
    | write => exact h
    | report p => exact absurd h.1 (by simp)

theorem Guarded.append {a c : List Ev} {b : Bool} (ha : Guarded b a) (hc : Guarded false c) :
    Guarded b (a ++ c) := by
  induction a generalizing b with
  | nil => exact hc.weaken b
  | cons e t ih =>
    cases e with
    | check => exact ih (b := true) ha
    | write => exact ih (b := false) ha
    | report p => exact ⟨ha.1, ih (b := false) ha.2⟩

theorem guarded_replicate_write (k : Nat) : Guarded false (List.replicate k Ev.write) := by
  induction k with
  | zero => trivial
  | succ k ih => exact ih

theorem guarded_flatMap {α : Type} (l : List α) (g : α → List Ev) (hg : ∀ a, Guarded false (g a)) :
    Guarded false (l.flatMap g) := by
  induction l with
  | nil => trivial
  | cons a t ih => exact (hg a).append ih

theorem guarded_loopTrace (n f : Nat) (extra : Nat → Nat) : Guarded false (loopTrace n f extra) := by
  refine guarded_flatMap _ _ fun i => Guarded.append ?_ (guarded_replicate_write _)
  unfold reportIf
  split
  · exact ⟨rfl, trivial⟩
  · trivial

theorem guarded_family (fam : Family) : Guarded false fam.trace := by
  cases fam with
  | copy w => exact ⟨rfl, guarded_replicate_write w⟩
  | chunked n f => exact guarded_loopTrace n f _
  | biPlanar g f => exact (guarded_loopTrace g f _).append (c := [.check, .write]) trivial
  | block bw rows f => exact guarded_loopTrace _ f _

theorem guarded_parJobs (mt : Bool) (incs : List Nat) (total done : Nat) :
    Guarded false (parJobs mt incs total done) := by
  induction incs generalizing done with
  | nil => trivial
  | cons k ks ih =>
    cases mt with
    | true => exact ⟨rfl, ih (done + k)⟩
    | false => exact (ih (done + k)).weaken true

theorem guarded_levelRun (lv : LevelRun) : Guarded false lv.trace := by
  cases lv with
  | seq fam =>
    exact ((guarded_family fam).weaken true).append (a := .check :: fam.trace) (c := [.check]) trivial
  | parSingle fam =>
    exact ((guarded_family fam).weaken true).append (a := .check :: .check :: fam.trace)
      (c := [.check]) trivial
  | par mt incs total =>
    exact (((guarded_parJobs mt incs total 0).weaken true).append (a := .check :: _)
      (guarded_flatMap incs (fun _ => [.check, .write]) fun _ => trivial)).append (c := [.check, .report 1]) ⟨rfl, trivial⟩

theorem guarded_map_project (r : ProgressRange) (tr : List Ev) (b : Bool) (h : Guarded b tr) :
    Guarded b (tr.map (Ev.project r)) := by
  induction tr generalizing b with
  | nil => trivial
  | cons e t ih =>
    cases e with
    | check => exact ih true h
    | write => exact ih false h
    | report p => exact ⟨h.1, ih false h.2⟩

theorem guarded_levels (m : Nat) (xs : List LevelRun) (l : Nat) :
    Guarded false (levelsTrace m l xs) := by
  induction xs generalizing l with
  | nil => trivial
  | cons x xs ih => exact (guarded_map_project _ _ _ (guarded_levelRun x)).append (ih (l + 1))

theorem guarded_surface (lv0 : LevelRun) (mips : List LevelRun) :
    Guarded false (surfaceTrace lv0 mips) := by
  unfold surfaceTrace
  refine ((guarded_map_project _ _ _ (guarded_levelRun lv0)).append ?_).append
    (c := [.check, .report 1]) ⟨rfl, trivial⟩
  split
  · trivial
  · exact (guarded_levels _ mips 1).weaken true

/-! ### cancelled runs -/

/-- with the token cancelled a run fails at its next check and reports nothing before it -/
theorem exec_cancelled (ca : Option Nat) (tr : List Ev) (k : Nat) :
    (Ev.check ∈ tr → (exec ca tr true k).ok = false) ∧
    (Guarded false tr → (exec ca tr true k).reports = []) := by
  induction tr generalizing k with
  | nil => exact ⟨fun hc => by simp at hc, fun _ => rfl⟩
  | cons e t ih =>
    cases e with
    | check => simp [exec]
    | write => simpa [exec, Guarded] using ih k
    | report p => exact ⟨fun hc => by simpa [exec] using (ih (k + 1)).1 (by simpa using hc),
        fun h => absurd h.1 (by simp)⟩

/-- The token is cancelled by report number `j` of the run: if that report is below 100 % the run
fails (`Honours`), and it has made exactly the reports `0..j` (`Guarded`). -/
theorem exec_cancel (tr : List Ev) (k0 j c : Nat) (hc : c = k0 + j) (p : Rat)
    (hj : (reports tr)[j]? = some p) :
    (Honours tr → p < 1 → (exec (some c) tr false k0).ok = false) ∧
    (∀ b, Guarded b tr → (exec (some c) tr false k0).reports = (reports tr).take (j + 1)) := by
  induction tr generalizing k0 j with
  | nil => simp [reports] at hj
  | cons e t ih =>
    cases e with
    | check => exact ⟨(ih k0 j hc hj).1, fun _ h => (ih k0 j hc hj).2 true h⟩
    | write => exact ⟨(ih k0 j hc hj).1, fun _ h => (ih k0 j hc hj).2 false h⟩
    | report q =>
      simp only [exec, reports]
      cases j with
      | zero =>
        obtain rfl : q = p := by simpa [reports] using hj
        subst hc
        simp only [beq_self_eq_true, Bool.or_true]
        exact ⟨fun h hp => (exec_cancelled _ t _).1 (h.1 hp),
          fun _ h => by rw [(exec_cancelled _ t _).2 h.2]; rfl⟩
      | succ j' =>
        have hne : (some c == some k0) = false := by simp; omega
        rw [hne, Bool.or_false]
        have := ih (k0 + 1) j' (by omega) (by simpa [reports] using hj)
        exact ⟨fun h hp => this.1 h.2 hp, fun _ h => by rw [this.2 false h.2]; rfl⟩

theorem exec_cancel_at (tr : List Ev) (h : Honours tr) (k0 j : Nat) (p : Rat)
    (hj : (reports tr)[j]? = some p) (hp : p < 1) :
    (exec (some (k0 + j)) tr false k0).ok = false :=
  (exec_cancel tr k0 j _ rfl p hj).1 h hp

theorem exec_cancel_reports (tr : List Ev) (b : Bool) (h : Guarded b tr) (k0 j : Nat) (p : Rat)
    (hj : (reports tr)[j]? = some p) :
    (exec (some (k0 + j)) tr false k0).reports = (reports tr).take (j + 1) :=
  (exec_cancel tr k0 j _ rfl p hj).2 b h

theorem cancel_clauses {tr t : List Ev} (hh : Honours tr) (ht : tr = Ev.check :: t) :
    (∀ pre p post, tr = pre ++ Ev.report p :: post → p < 1 → Ev.check ∈ post) ∧
    (∀ k p, (reports tr)[k]? = some p → p < 1 → (exec (some k) tr false 0).ok = false) ∧
    (∀ ca, exec ca tr true 0 = ⟨false, [], 0⟩) ∧
    exec none tr false 0 = ⟨true, reports tr, writes tr⟩ :=
  ⟨fun _ _ _ e hp => honours_split hh e hp,
    fun k p hk hp => (exec_cancel tr 0 k k (by omega) p hk).1 hh hp,
    fun ca => by rw [ht]; exact exec_precancelled ca t 0, exec_none tr 0⟩

end Dds
