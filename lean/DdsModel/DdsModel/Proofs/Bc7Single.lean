/-
C13, BC7 single colours: `Enc13.bc7Single` (`compress_single_color` + `Compressed::mode5` + `BitStream::write_u64`,
src/encode/bc7.rs, written out by hand in the model) IS the general mode-5 writer `Enc7.write` on the endpoints
`optimize(c)`, alpha `a, a` and both index lists `constant(1)`: both are the sum `fv` of the same twelve fields.
So every field is read back positionally (`rd_fv`) and the block decodes by `writer_roundtrip`, for ALL 2³² colours.
-/
import DdsModel.Enc13
import DdsModel.Range
import DdsModel.Proofs.Enc7Writer
namespace Dds.Enc13
open Dds Dds.Bc Dds.BcTables Dds.Bc7Spec
open Dds.Enc7 (fv FieldsOK)

theorem compressP1_constant1 : compressP1 constant1 = (0x2AAAAAAB, false) := by decide

theorem compressP1_eq : Enc7.compressP1 2 constant1 = ((0x2AAAAAAB, 31), false) := by decide

theorem constant1_get : ∀ i, i < 16 → Enc7.get 2 constant1 i = 1 := by decide

theorem optimize_lt (c : Nat) (hc : c ≤ 255) : (optimize c).1 < 128 ∧ (optimize c).2 < 128 := by
  unfold optimize w8
  simp only [Nat.shiftRight_eq_div_pow]
  constructor
  · omega
  · split <;> omega

/-- Channel level, all 256 values: the 7-bit endpoints `optimize(c)`, widened by bit replication and interpolated with
the weight of index 1 (21/64, stored as 84/256), give back exactly `c` -/
theorem channel_exact : ∀ c, c ≤ 255 →
    Bc7.lerp (Bc7.promote (optimize c).1 7) (Bc7.promote (optimize c).2 7) (Bc7.WEIGHTS_2.getD 1 0) = c ∧
    (optimize c).1 < 128 ∧ (optimize c).2 < 128 :=
  forall_le_of_allRange (d := 4) (by decide +kernel)

theorem lerp_self (a k : Nat) (ha : a ≤ 255) (hk : k < 4) : Bc7.lerp a a (Bc7.WEIGHTS_2.getD k 0) = a := by
  have h64 : (specWeights 2).getD k 0 ≤ 64 := (Bc7.weights_x4.1 k hk).2
  refine (Bc7.lerpW 2 a a k (Or.inl rfl) (by omega) (by omega) hk).trans ?_
  unfold interp
  have : (64 - (specWeights 2).getD k 0) * a + (specWeights 2).getD k 0 * a = 64 * a := by
    rw [← Nat.add_mul]; congr 1; omega
  omega

def singleFields (r g b a : Nat) : List (Nat × Nat) :=
  [(32, 6), (0, 2), ((optimize r).1, 7), ((optimize r).2, 7), ((optimize g).1, 7), ((optimize g).2, 7),
    ((optimize b).1, 7), ((optimize b).2, 7), (a, 8), (a, 8), (0x2AAAAAAB, 31), (0x2AAAAAAB, 31)]

/-- the arguments of `Compressed::mode5` in `compress_single_color` -/
def singleArgs (r g b a : Nat) : Enc7.Fields :=
  ⟨5, 0, 0, 0, [[(optimize r).1, (optimize g).1, (optimize b).1], [(optimize r).2, (optimize g).2, (optimize b).2]],
    [a, a], [], constant1, constant1⟩

/-- `write_u64` without the wrap-arounds of the machine types, as `bc7Single` spells it: on fields that fit, the sum -/
theorem foldl_or_shl (pre fs : List (Nat × Nat)) (h : FieldsOK (pre ++ fs)) :
    fs.foldl (fun (st : Nat × Nat) f => (st.1 ||| (f.1 <<< st.2), st.2 + f.2)) (fv pre, Enc7.width pre) =
      (fv (pre ++ fs), Enc7.width (pre ++ fs)) := by
  induction fs generalizing pre with
  | nil => rw [List.append_nil]; rfl
  | cons f fs ih =>
    rw [List.append_cons] at h ⊢
    have hw : Enc7.width pre + f.2 = Enc7.width (pre ++ [f]) := by rw [Enc7.width_append]; simp [Enc7.width]
    rw [List.foldl_cons, Enc7.or_shl_fv _ _ f.2 (Enc7.fieldsOK_append.mp (Enc7.fieldsOK_append.mp h).1).1]
    exact hw ▸ ih _ h

section
variable (r g b a : Nat) (hr : r ≤ 255) (hg : g ≤ 255) (hb : b ≤ 255) (ha : a ≤ 255)
include hr hg hb ha

theorem fieldsOK_single : FieldsOK (singleFields r g b a) := by
  obtain ⟨hr0, hr1⟩ := optimize_lt r hr
  obtain ⟨hg0, hg1⟩ := optimize_lt g hg
  obtain ⟨hb0, hb1⟩ := optimize_lt b hb
  have ha' : a < 2 ^ 8 := by omega
  simp only [singleFields, FieldsOK, List.forall_mem_cons]
  exact ⟨by decide, by decide, ⟨hr0, by decide⟩, ⟨hr1, by decide⟩, ⟨hg0, by decide⟩, ⟨hg1, by decide⟩, ⟨hb0, by decide⟩,
    ⟨hb1, by decide⟩, ⟨ha', by decide⟩, ⟨ha', by decide⟩, by decide, by decide, fun _ h => nomatch h⟩

theorem bc7Single_eq_fv : bc7Single r g b a = fv (singleFields r g b a) := by
  have h := foldl_or_shl [] (singleFields r g b a) (fieldsOK_single r g b a hr hg hb ha)
  unfold bc7Single
  simp only [compressP1_constant1, Bool.false_eq_true, if_false]
  exact congrArg Prod.fst h

theorem wf_single : (singleArgs r g b a).WF := by
  obtain ⟨hr0, hr1⟩ := optimize_lt r hr
  obtain ⟨hg0, hg1⟩ := optimize_lt g hg
  obtain ⟨hb0, hb1⟩ := optimize_lt b hb
  refine ⟨(by decide : 5 < 8), (by decide : 0 < 64), (by decide : 0 < 4), (by decide : 0 < 2), fun e he c hc => ?_,
    fun e he => ?_, fun k hk => absurd hk (Nat.not_lt_zero k), (by decide : constant1 < 2 ^ 32),
    (by decide : constant1 < 2 ^ 32)⟩
  · have he' : e = 0 ∨ e = 1 := by have : e < 2 := he; omega
    have hc' : c = 0 ∨ c = 1 ∨ c = 2 := by have : c < 3 := hc; omega
    rcases he' with rfl | rfl <;> rcases hc' with rfl | rfl | rfl <;> assumption
  · have he' : e = 0 ∨ e = 1 := by have : e < 2 := he; omega
    rcases he' with rfl | rfl <;> exact (by omega : a < 2 ^ 8)

theorem bc7Single_eq_write : bc7Single r g b a = Enc7.write (singleArgs r g b a) := by
  rw [bc7Single_eq_fv r g b a hr hg hb ha]
  show _ = Enc7.mode5 0 _ constant1 [a, a] constant1
  unfold Enc7.mode5
  simp only [compressP1_eq]
  exact (Enc7.finish_writeAll _ (fieldsOK_single r g b a hr hg hb ha)
    (by simp [singleFields, Enc7.width])).symm

omit hr hg hb ha in
theorem single_indexes : ∀ i, i < 16 →
    Bc7.getIndex (Enc7.readIdx 1 2 0 (fv [(0x2AAAAAAB, 31), (0x2AAAAAAB, 31)])) i = 1 ∧
    Bc7.getIndex (Bc7.newP1 2 (fv [(0x2AAAAAAB, 31)])).1 i = 1 := by decide

/-- The mode-5 bit-field layout: the block fits 128 bits, its first byte selects mode 5, rotation 0, and every field
the decoder reads positionally is the value the encoder wrote; through the anchor rule, colour index 1 and alpha
index 1 at all 16 pixels. -/
theorem bc7Single_layout :
    bc7Single r g b a < 2 ^ 128 ∧ modeOf (bc7Single r g b a) = 5 ∧ rd (bc7Single r g b a) 6 2 = 0 ∧
    rd (bc7Single r g b a) 8 7 = (optimize r).1 ∧ rd (bc7Single r g b a) 15 7 = (optimize r).2 ∧
    rd (bc7Single r g b a) 22 7 = (optimize g).1 ∧ rd (bc7Single r g b a) 29 7 = (optimize g).2 ∧
    rd (bc7Single r g b a) 36 7 = (optimize b).1 ∧ rd (bc7Single r g b a) 43 7 = (optimize b).2 ∧
    rd (bc7Single r g b a) 50 8 = a ∧ rd (bc7Single r g b a) 58 8 = a ∧
    ∀ i, i < 16 → index1 5 Bc7.r5 (bc7Single r g b a) 0 i = 1 ∧ index2 5 Bc7.r5 (bc7Single r g b a) i = 1 := by
  have hok := fieldsOK_single r g b a hr hg hb ha
  rw [bc7Single_eq_fv r g b a hr hg hb ha]
  have hlt := Enc7.fv_lt _ hok
  rw [show Enc7.width (singleFields r g b a) = 128 by simp [singleFields, Enc7.width]] at hlt
  refine ⟨hlt, Enc7.modeOf_fv 5 _ (by decide), Enc7.rd_fv _ 1 _ _ hok rfl (by simp [singleFields, Enc7.width]),
    Enc7.rd_fv _ 2 _ _ hok rfl (by simp [singleFields, Enc7.width]), Enc7.rd_fv _ 3 _ _ hok rfl (by simp [singleFields, Enc7.width]),
    Enc7.rd_fv _ 4 _ _ hok rfl (by simp [singleFields, Enc7.width]), Enc7.rd_fv _ 5 _ _ hok rfl (by simp [singleFields, Enc7.width]),
    Enc7.rd_fv _ 6 _ _ hok rfl (by simp [singleFields, Enc7.width]), Enc7.rd_fv _ 7 _ _ hok rfl (by simp [singleFields, Enc7.width]),
    Enc7.rd_fv _ 8 _ _ hok rfl (by simp [singleFields, Enc7.width]), Enc7.rd_fv _ 9 _ _ hok rfl (by simp [singleFields, Enc7.width]),
    fun i hi => ?_⟩
  -- the index fields: bits 66.. and 97..
  have h10 := (Enc7.fieldsOK_append (a := (singleFields r g b a).take 10) (b := (singleFields r g b a).drop 10)).mp hok
  have h11 := (Enc7.fieldsOK_append (a := (singleFields r g b a).take 11) (b := (singleFields r g b a).drop 11)).mp hok
  have e1 : fv (singleFields r g b a) >>> idxStart 5 Bc7.r5 = fv [(0x2AAAAAAB, 31), (0x2AAAAAAB, 31)] :=
    Enc7.shr_fv_append _ _ h10.1 0 (by simp [singleFields, Enc7.width, idxStart, pStart, alphaStart, colorStart, pBitCount, Bc7.r5])
  have e2 : fv (singleFields r g b a) >>> idx2Start 5 Bc7.r5 = fv [(0x2AAAAAAB, 31)] :=
    Enc7.shr_fv_append _ _ h11.1 0 (by simp [singleFields, Enc7.width, idx2Start, idxStart, pStart, alphaStart, colorStart, pBitCount, Bc7.r5])
  rw [Enc7.index1_eq 5 Bc7.r5 _ 0 i (by decide) (by decide) hi, e1,
    ← Bc7.index_impl_sec 5 Bc7.r5 _ i (Or.inl rfl) hi, e2]
  exact single_indexes i hi

/-- `decode (compress_single_color (r, g, b, a)) = 16 × (r, g, b, a)` for ALL 2³² colours -/
theorem bc7Single_decodes : Bc7.decodeBlock (bc7Single r g b a) = List.replicate 16 [r, g, b, a] := by
  rw [bc7Single_eq_write r g b a hr hg hb ha, Enc7.writer_roundtrip _ (wf_single r g b a hr hg hb ha)]
  refine (List.map_congr_left (g := fun _ => [r, g, b, a]) fun i hi => ?_).trans (by rfl)
  show [Bc7.lerp (Bc7.promote (optimize r).1 7) (Bc7.promote (optimize r).2 7) (Bc7.WEIGHTS_2.getD (Enc7.get 2 constant1 i) 0),
    Bc7.lerp (Bc7.promote (optimize g).1 7) (Bc7.promote (optimize g).2 7) (Bc7.WEIGHTS_2.getD (Enc7.get 2 constant1 i) 0),
    Bc7.lerp (Bc7.promote (optimize b).1 7) (Bc7.promote (optimize b).2 7) (Bc7.WEIGHTS_2.getD (Enc7.get 2 constant1 i) 0),
    Bc7.lerp a a (Bc7.WEIGHTS_2.getD (Enc7.get 2 constant1 i) 0)] = _
  rw [constant1_get i (List.mem_range.mp hi), (channel_exact r hr).1, (channel_exact g hg).1, (channel_exact b hb).1,
    lerp_self a 1 ha (by decide)]

end
end Dds.Enc13
