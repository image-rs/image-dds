/-
Finite-domain lemmas of C03 (BC1–BC5): every multiply-add rounding constant of the decoders is compared
with the exact rational specification on its whole domain.  The specification's nearest integer of `M·n/d`
is the integer quotient `(2·M·n + d) / (2·d)` (`rnd_frac`), so the 8- and 16-bit comparisons are kernel
evaluations of natural-number arithmetic; the binary32 interpolants `i as f32 / D` are the nearest float of
`i/D` because both operands are exact.  Domains are the interpolation numerators (≤ 1786 points each), not
endpoint pairs.
-/
import DdsModel.BcSpec
import DdsModel.Range
import DdsModel.Proofs.RatLemmas
namespace Dds.Bc
open Dds.BcSpec (rnd quant)

def frac (n d : Nat) : Rat := (n : Rat) / (d : Rat)

theorem interp_eq (w0 w1 e0 e1 m : Nat) :
    BcSpec.interp w0 w1 e0 e1 m = frac (w0 * e0 + w1 * e1) ((w0 + w1) * m) := rfl


theorem rnd_frac (M n d : Nat) (hd : 0 < d) : rnd (M * frac n d) = (2 * M * n + d) / (2 * d) := by
  have e : (M : Rat) * frac n d = ((M * n : Nat) : Rat) / (d : Rat) := by
    rw [frac, Rat.natCast_mul, Rat.div_def, Rat.div_def, Rat.mul_assoc]
  rw [e, Nat.mul_assoc]
  exact congrArg Int.toNat (floor_add_half (M * n) d hd)

/-- `f n` is the nearest integer of `M·n/d` for all `n ≤ N`, by evaluating the integer quotient -/
theorem rnd_of_allRange {f : Nat → Nat} {M d N : Nat} (k : Nat) (hd : 0 < d)
    (h : allRange (fun n => decide (f n = (2 * M * n + d) / (2 * d))) k 0 (N + 1) = true) :
    ∀ n, n ≤ N → f n = rnd (M * frac n d) := by
  intro n hn
  rw [rnd_frac M n d hd]
  exact forall_le_of_allRange h n hn


theorem n5n8_fin : ∀ n, n ≤ 31 → n5n8 n = rnd (255 * frac n 31) :=
  rnd_of_allRange (M := 255) 0 (by decide) (by decide +kernel)
theorem n6n8_fin : ∀ n, n ≤ 63 → n6n8 n = rnd (255 * frac n 63) :=
  rnd_of_allRange (M := 255) 1 (by decide) (by decide +kernel)
theorem n4n8_fin : ∀ n, n ≤ 15 → n4n8 n = rnd (255 * frac n 15) :=
  rnd_of_allRange (M := 255) 0 (by decide) (by decide +kernel)

theorem third5_fin (a b : Nat) (ha : a ≤ 31) (hb : b ≤ 31) : third5 a b = rnd (255 * frac (2 * a + b) 93) := by
  have hr : w16 (w16 (a * 2) + b) = 2 * a + b := by unfold w16; omega
  unfold third5
  rw [hr]
  exact rnd_of_allRange (f := fun n => w8 (w16 (w16 (n * 351) + 61) >>> 7)) (M := 255) (N := 93) 2
    (by decide) (by decide +kernel) (2 * a + b) (by omega)
theorem third6_fin (a b : Nat) (ha : a ≤ 63) (hb : b ≤ 63) : third6 a b = rnd (255 * frac (2 * a + b) 189) := by
  have hr : w16 (w16 (a * 2) + b) = 2 * a + b := by unfold w16; omega
  unfold third6
  rw [hr]
  exact rnd_of_allRange (f := fun n => w8 (w32 (w32 (n * 2763) + 1039) >>> 11)) (M := 255) (N := 189) 3
    (by decide) (by decide +kernel) (2 * a + b) (by omega)
theorem mid5_fin (a b : Nat) (ha : a ≤ 31) (hb : b ≤ 31) : mid5 a b = rnd (255 * frac (a + b) 62) := by
  have hr : w16 (a + b) = a + b := by unfold w16; omega
  unfold mid5
  rw [hr]
  exact rnd_of_allRange (f := fun n => w8 (w16 (w16 (n * 1053) + 125) >>> 8)) (M := 255) (N := 62) 1
    (by decide) (by decide +kernel) (a + b) (by omega)
theorem mid6_fin (a b : Nat) (ha : a ≤ 63) (hb : b ≤ 63) : mid6 a b = rnd (255 * frac (a + b) 126) := by
  have hr : w16 (a + b) = a + b := by unfold w16; omega
  unfold mid6
  rw [hr]
  exact rnd_of_allRange (f := fun n => w8 (w32 (w32 (n * 4145) + 1019) >>> 11)) (M := 255) (N := 126) 2
    (by decide) (by decide +kernel) (a + b) (by omega)


theorem n8f32_fin : ∀ v, v ≤ 255 → n8f32 v = F32.roundF32 (frac v 255) :=
  forall_le_of_allRange (d := 3) (by decide +kernel)

/-- `i as f32` is exact on the interpolation numerators -/
theorem ofNat_exact : ∀ n, n ≤ 1785 → F32.toRat (F32.ofNat n) = (n : Rat) :=
  forall_le_of_allRange (d := 6) (by decide +kernel)

theorem div_ofNat (n d : Nat) (hn : n ≤ 1785) (hd : d ≤ 1785) :
    F32.div (F32.ofNat n) (F32.ofNat d) = F32.roundF32 (frac n d) := by
  unfold F32.div
  rw [ofNat_exact n hn, ofNat_exact d hd]
  rfl


theorem widen_fin (pr : Prec) (v : Nat) (hv : v ≤ 255) : widen pr v = BcSpec.widen pr v := by
  cases pr
  · rfl
  · show w16 (v * 257) = v * 257
    unfold w16; omega
  · exact n8f32_fin v hv


theorem u_byte_fin (pr : Prec) (n : Nat) (hn : n ≤ 255) : (bc4uOps pr).fromByte n = quant pr (frac n 255) := by
  cases pr
  · show n = rnd (255 * frac n 255)
    rw [show rnd (255 * frac n 255) = _ from rnd_frac 255 n 255 (by decide)]
    omega
  · show w16 (n * 257) = rnd (65535 * frac n 255)
    rw [show rnd (65535 * frac n 255) = _ from rnd_frac 65535 n 255 (by decide)]
    unfold w16; omega
  · exact n8f32_fin n hn
theorem u6_fin (pr : Prec) : ∀ n, n ≤ 1785 → (bc4uOps pr).interp6 n = quant pr (frac n 1785) := by
  cases pr
  · exact rnd_of_allRange (M := 255) 6 (by decide) (by decide +kernel)
  · exact rnd_of_allRange (M := 65535) 6 (by decide) (by decide +kernel)
  · exact fun n hn => div_ofNat n 1785 hn (by decide)
theorem u4_fin (pr : Prec) : ∀ n, n ≤ 1275 → (bc4uOps pr).interp4 n = quant pr (frac n 1275) := by
  cases pr
  · exact rnd_of_allRange (M := 255) 6 (by decide) (by decide +kernel)
  · exact rnd_of_allRange (M := 65535) 6 (by decide) (by decide +kernel)
  · exact fun n hn => div_ofNat n 1275 (by omega) (by decide)


theorem s_norm_fin : ∀ n, n ≤ 255 → s8norm n = BcSpec.snormU n ∧ s8norm n ≤ 254 :=
  forall_le_of_allRange (d := 3) (by decide +kernel)
theorem s_byte_fin (pr : Prec) : ∀ n, n ≤ 255 →
    (bc4sOps pr).fromByte n = quant pr (frac (BcSpec.snormU n) 254) := by
  cases pr
  · exact forall_le_of_allRange (d := 3) (by decide +kernel)
  · exact forall_le_of_allRange (d := 3) (by decide +kernel)
  · exact forall_le_of_allRange (d := 3) (by decide +kernel)
theorem s6_fin (pr : Prec) : ∀ n, n ≤ 1778 → (bc4sOps pr).interp6 n = quant pr (frac n 1778) := by
  cases pr
  · exact rnd_of_allRange (M := 255) 6 (by decide) (by decide +kernel)
  · exact rnd_of_allRange (M := 65535) 6 (by decide) (by decide +kernel)
  · exact fun n hn => div_ofNat n 1778 (by omega) (by decide)
theorem s4_fin (pr : Prec) : ∀ n, n ≤ 1270 → (bc4sOps pr).interp4 n = quant pr (frac n 1270) := by
  cases pr
  · exact rnd_of_allRange (M := 255) 6 (by decide) (by decide +kernel)
  · exact rnd_of_allRange (M := 65535) 6 (by decide) (by decide +kernel)
  · exact fun n hn => div_ofNat n 1270 (by omega) (by decide)

/-- the `Norm` constants are the quantised 0, 1/2, 1 -/
theorem consts_fin (pr : Prec) :
    (bc4uOps pr).zero = quant pr 0 ∧ (bc4uOps pr).one = quant pr 1 ∧
    (bc4sOps pr).zero = quant pr 0 ∧ (bc4sOps pr).one = quant pr 1 ∧
    (bc4sOps pr).half = quant pr (1 / 2) := by
  cases pr <;> decide +kernel

end Dds.Bc
