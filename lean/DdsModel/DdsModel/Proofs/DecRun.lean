/-
Whole histories of decoder calls (`run`) and the state a decoder starts in: a fresh iterator of an accepted layout
satisfies the iterator invariant and walks C02's ideal surface list.
-/
import DdsModel.Proofs.DecStep
import DdsModel.Proofs.ListLemmas
import DdsModel.Proofs.HeaderLayout
namespace Dds.C08
open Dds

def run (d : Dec) : List DecOp → Dec × List DecRes
  | [] => (d, [])
  | op :: rest =>
    let r := d.step op
    let (d', rs) := run r.1 rest
    (d', r.2.1 :: rs)

theorem run_layout (ops : List DecOp) (d : Dec) (v : DecInv d) : (run d ops).1.layout = d.layout := by
  have h := run_induction (step := fun d op => ((d.step op).1, (d.step op).2.1)) (run := run)
    (fun _ => rfl) (fun _ _ _ => rfl) (Inv := fun d' => DecInv d' ∧ d'.layout = d.layout)
    (Good := fun _ => True)
    (fun _ op h => ⟨⟨(step_kept h.1 op).inv, (step_kept h.1 op).layout.trans h.2⟩, trivial⟩)
    ops d ⟨v, rfl⟩
  exact h.1.2

/-- a fresh iterator of an accepted layout satisfies the iterator invariant (no bound on the size of
the data section is needed for that) -/
theorem fresh_iterInv (hd : LayoutHeader) (px : PixelInfo) (hp : px.WF) (hr : C02.HeaderInRange hd)
    (hm : 1 ≤ hd.mipmapCount) (L : DataLayout) (h : layoutOf hd px = some (.ok L)) :
    IterInv (SurfIter.new L) := by
  obtain ⟨hv, _, hmips, hml, hvol, harr⟩ := C02.layoutOf_valid hd px hp hr L h
  cases L with
  | texture t =>
    have hmips : t.mips = hd.mipmapCount := hmips
    exact TexIter.Inv.new hv.1 hv.2 (by omega) (by omega) (by decide)
      (by rw [Nat.one_mul]; exact hv.1.len_lt)
  | volume v =>
    have hmips : v.mips = hd.mipmapCount := hmips
    obtain ⟨hdep, hdpos⟩ := hvol v rfl
    exact VolIter.Inv.new hv (by omega) (by omega) (hr.d _ hdep) hdpos
  | textureArray a =>
    have hmips : a.mips = hd.mipmapCount := hmips
    show TexIter.Inv ⟨a.first, a.arrayLen % U32, 0, 0⟩
    rw [Nat.mod_eq_of_lt (harr a rfl)]
    exact TexIter.Inv.new hv.first rfl (by show 1 ≤ a.mips; omega) (by show a.mips < 256; omega)
      (harr a rfl) hv.fits

theorem total_new (L : DataLayout) (harr : ∀ a, L = .textureArray a → a.arrayLen < U32) :
    total (SurfIter.new L) = C02.specTotal L := by
  cases L with
  | texture t => exact Nat.one_mul _
  | volume v => rfl
  | textureArray a =>
    show (a.arrayLen % U32) * texIdeal a.px a.w a.h 0 a.mips = _
    rw [Nat.mod_eq_of_lt (harr a rfl)]; rfl

theorem flat_new (L : DataLayout) (harr : ∀ a, L = .textureArray a → a.arrayLen < U32) :
    flat (SurfIter.new L) = C02.specFlatten L := by
  cases L with
  | texture t =>
    show specArray t.px t.w t.h t.mips 1 = specMips t.px t.w t.h 0 t.mips 0
    simp [specArray, List.range_succ]
  | volume v => rfl
  | textureArray a =>
    show specArray a.px a.w a.h a.mips (a.arrayLen % U32) = _
    rw [Nat.mod_eq_of_lt (harr a rfl)]; rfl

/-- What is known of a layout `L` the constructor accepted, for `PixelInfo` `px`, and of the iterator that
starts on it: everything a theorem about a freshly opened or freshly created file begins with. -/
structure Fresh (L : DataLayout) (px : PixelInfo) : Prop where
  valid : C02.LayoutValid L
  px : L.px = px
  iter : IterInv (SurfIter.new L)
  total : total (SurfIter.new L) = C02.specTotal L
  flat : flat (SurfIter.new L) = C02.specFlatten L

theorem Fresh.ofLayout {hd : LayoutHeader} {px : PixelInfo} (hp : px.WF) (hr : C02.HeaderInRange hd)
    (hm : 1 ≤ hd.mipmapCount) {L : DataLayout} (h : layoutOf hd px = some (.ok L)) : Fresh L px :=
  have hv := C02.layoutOf_valid hd px hp hr L h
  ⟨hv.1, hv.2.1, fresh_iterInv hd px hp hr hm L h, total_new L hv.2.2.2.2.2, flat_new L hv.2.2.2.2.2⟩

/-- ... in particular for the layout of a well-formed header -/
theorem Fresh.ofHeader {h : Header} (hwf : h.WF) {px : PixelInfo} (hp : px.WF) {L : DataLayout}
    (hL : layoutOf h.toLayoutHeader px = some (.ok L)) : Fresh L px :=
  .ofLayout hp (Header.toLayoutHeader_inRange hwf) (Header.toLayoutHeader_mips hwf) hL

/-- a decoder created on it starts in a state satisfying the invariant, if the data section has at most
`i64::MAX` bytes -/
theorem Fresh.dec {L : DataLayout} {px : PixelInfo} (f : Fresh L px) (hsmall : C02.specTotal L ≤ I64MAX) :
    DecInv (Dec.new L) :=
  ⟨f.iter, by show (0 : Int) = (elapsed (SurfIter.new L) : Int); rw [(new_zero L).2]; rfl, f.iter, rfl, rfl, rfl,
    f.total.symm ▸ hsmall⟩

end Dds.C08
