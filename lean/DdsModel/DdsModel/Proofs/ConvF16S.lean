/- `s16::uf32`: `(n as f32 * 73.0) * K1` is the correctly rounded `n / 65534` for every `n = s16::norm(x) ≤ 65534`,
by kernel evaluation. -/
import DdsModel.Proofs.ConvF16Chk
namespace Dds.ConvFast
open Dds.Conv

theorem s16_0 : allRange (chkMulK 73 k1_s16 65534) 8 0 16383 = true := by decide +kernel
theorem s16_1 : allRange (chkMulK 73 k1_s16 65534) 8 16383 16384 = true := by decide +kernel
theorem s16_2 : allRange (chkMulK 73 k1_s16 65534) 8 32767 16384 = true := by decide +kernel
theorem s16_3 : allRange (chkMulK 73 k1_s16 65534) 8 49151 16384 = true := by decide +kernel

theorem chkS16_all : allRange (chkMulK 73 k1_s16 65534) 10 0 65535 = true :=
  allRange_join (allRange_join s16_0 s16_1) (allRange_join s16_2 s16_3)

end Dds.ConvFast
