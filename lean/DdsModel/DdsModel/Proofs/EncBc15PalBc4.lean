/-
C13: complete evaluation of the encoder's binary32 BC4 palettes against the decoder's 8-bit palette (checkers in
`Proofs/EncBc15Palette.lean`) over the sub-domain `subPair`, UNORM and SNORM.
-/
import DdsModel.Proofs.EncBc15Palette
namespace Dds.Enc15

theorem sub_unorm : chkSub false = true := by decide +kernel

theorem sub_snorm : chkSub true = true := by decide +kernel

end Dds.Enc15
