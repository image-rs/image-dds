/-
C13 / BC7 encoder: `closest_rgb / closest_rgba / closest_alpha` are EXHAUSTIVE searches over the whole palette with
a strict `<` update: per pixel the FIRST palette entry of least squared distance is chosen; the returned error is the sum
of the chosen distances and stays far below `u32::MAX`; the index list holds exactly the chosen indexes.
-/
import DdsModel.Proofs.Enc7Index
import DdsModel.Proofs.ListLemmas
namespace Dds.Enc7
open Dds Dds.BcTables


theorem closestLoop_spec {α : Type} (dist : α → Nat) (l : List α) (j : Nat) (best : Nat × Nat) :
    (closestLoop dist l j best).2 ≤ best.2 ∧
    (∀ (k : Nat) (c : α), l[k]? = some c → (closestLoop dist l j best).2 ≤ dist c) ∧
    ((closestLoop dist l j best = best ∧ ∀ (k : Nat) (c : α), l[k]? = some c → best.2 ≤ dist c) ∨
     (∃ (k : Nat) (c : α), l[k]? = some c ∧ closestLoop dist l j best = (j + k, dist c) ∧ dist c < best.2 ∧
        ∀ (k' : Nat) (c' : α), k' < k → l[k']? = some c' → dist c < dist c')) := by
  induction l generalizing j best with
  | nil =>
    refine ⟨Nat.le_refl _, ?_, Or.inl ⟨rfl, ?_⟩⟩ <;> intro k c h <;> simp at h
  | cons a l ih =>
    simp only [closestLoop]
    by_cases hlt : dist a < best.2
    · simp only [hlt, if_true]
      obtain ⟨h1, h2, h3⟩ := ih (j + 1) (j, dist a)
      simp only at h1
      refine ⟨by omega, ?_, ?_⟩
      · intro k c hk
        cases k with
        | zero => simp at hk; subst hk; exact h1
        | succ k => exact h2 k c (by simpa using hk)
      · right
        rcases h3 with ⟨he, hall⟩ | ⟨k, c, hk, he, hd, hfirst⟩
        · exact ⟨0, a, rfl, by rw [he, Nat.add_zero], hlt, fun k' c' hk' => by omega⟩
        · refine ⟨k + 1, c, by simpa using hk, by rw [he]; congr 1; omega, by simp only at hd; omega, ?_⟩
          intro k' c' hk' hc'
          cases k' with
          | zero => simp at hc'; subst hc'; exact hd
          | succ k' => exact hfirst k' c' (by omega) (by simpa using hc')
    · simp only [hlt, if_false]
      obtain ⟨h1, h2, h3⟩ := ih (j + 1) best
      refine ⟨h1, ?_, ?_⟩
      · intro k c hk
        cases k with
        | zero => simp at hk; subst hk; omega
        | succ k => exact h2 k c (by simpa using hk)
      · rcases h3 with ⟨he, hall⟩ | ⟨k, c, hk, he, hd, hfirst⟩
        · left
          refine ⟨he, ?_⟩
          intro k c hk
          cases k with
          | zero => simp at hk; subst hk; omega
          | succ k => exact hall k c (by simpa using hk)
        · right
          refine ⟨k + 1, c, by simpa using hk, by rw [he]; congr 1; omega, hd, ?_⟩
          intro k' c' hk' hc'
          cases k' with
          | zero => simp at hc'; subst hc'; omega
          | succ k' => exact hfirst k' c' (by omega) (by simpa using hc')

/-- one pixel: the chosen index is the first index of least distance over the WHOLE palette -/
theorem closestOne_spec {α : Type} (dist : α → Nat) (pal : List α) (hne : pal ≠ [])
    (hd : ∀ c ∈ pal, dist c < U32 - 1) :
    ∃ c, pal[(closestOne dist pal).1]? = some c ∧ (closestOne dist pal).2 = dist c ∧
      (∀ (j : Nat) (c' : α), pal[j]? = some c' → dist c ≤ dist c') ∧
      (∀ (j : Nat) (c' : α), j < (closestOne dist pal).1 → pal[j]? = some c' → dist c < dist c') := by
  obtain ⟨_, h2, h3⟩ := closestLoop_spec dist pal 0 (0, U32 - 1)
  rcases h3 with ⟨_, hall⟩ | ⟨k, c, hk, he, _, hfirst⟩
  · exfalso
    cases pal with
    | nil => exact hne rfl
    | cons a l =>
      have := hall 0 a rfl
      have := hd a (List.mem_cons_self ..)
      simp only at *
      omega
  · have he' : closestOne dist pal = (k, dist c) := by rw [closestOne, he, Nat.zero_add]
    refine ⟨c, by rw [he']; exact hk, by rw [he'], ?_, ?_⟩
    · intro j c' hj
      have := h2 j c' hj
      rw [he] at this; exact this
    · intro j c' hj hc'
      rw [he'] at hj
      exact hfirst j c' hj hc'


/-- the chosen `(index, distance)` per pixel -/
def choices {α : Type} (dist : α → α → Nat) (pal pixels : List α) : List (Nat × Nat) :=
  pixels.map fun p => closestOne (dist p) pal

/-- `set(i, v)` on a list holding `i` entries appends the entry -/
theorem set_fv (I : Nat) (fs : List (Nat × Nat)) (i v : Nat) (hok : FieldsOK fs) (hw : width fs = i * I) (hv : v < 2 ^ I)
    (hI : I < 64) (h64 : i * I + I ≤ 64) : set I (fv fs) i v = fv (fs ++ [(v, I)]) := by
  have hlt := hw ▸ shl_lt_of_snoc (fieldsOK_snoc hok hv hI)
  rw [set, Nat.mod_eq_of_lt (Nat.lt_of_lt_of_le hlt (by rw [Bc7.U64_eq]; exact Nat.pow_le_pow_right (by decide) h64)),
    ← hw, or_shl_fv _ _ _ hok]

theorem closestAll_fv {α : Type} (I : Nat) (dist : α → α → Nat) (pal pixels : List α) (i : Nat) (fs : List (Nat × Nat))
    (e B : Nat) (hI : I = 2 ∨ I = 3 ∨ I = 4) (hn : i + pixels.length ≤ 16) (hok : FieldsOK fs) (hw : width fs = i * I)
    (hch : ∀ ch ∈ choices dist pal pixels, ch.1 < 2 ^ I ∧ ch.2 ≤ B) (herr : e + pixels.length * B < U32) :
    closestAll I dist pal pixels i (fv fs, e) =
      (fv (fs ++ (choices dist pal pixels).map fun ch => (ch.1, I)), e + ((choices dist pal pixels).map (·.2)).sum) := by
  induction pixels generalizing i fs e with
  | nil => simp [closestAll, choices]
  | cons p ps ih =>
    have hc := hch (closestOne (dist p) pal) (List.mem_cons_self ..)
    simp only [List.length_cons, Nat.succ_mul] at hn herr
    have h8 : (closestOne (dist p) pal).1 % U8 = (closestOne (dist p) pal).1 :=
      Nat.mod_eq_of_lt (Nat.lt_of_lt_of_le hc.1 (by rcases hI with h | h | h <;> subst h <;> decide))
    have he : (e + (closestOne (dist p) pal).2) % U32 = e + (closestOne (dist p) pal).2 :=
      Nat.mod_eq_of_lt (by have := hc.2; omega)
    have hiI : i * I + I ≤ 64 := by rcases hI with h | h | h <;> subst h <;> omega
    simp only [closestAll, h8, he]
    rw [set_fv I fs i _ hok hw hc.1 (by omega) hiI, ih (i + 1) _ _ (by omega) (fieldsOK_snoc hok hc.1 (by omega))
      (by rw [width_append, hw, Nat.succ_mul]; rfl) (fun ch hm => hch ch (List.mem_cons_of_mem _ hm))
      (by have := hc.2; omega)]
    simp only [choices, List.map_cons, List.sum_cons, List.append_assoc, List.singleton_append, Nat.add_assoc]

theorem get_fv {α : Type} (I : Nat) (l : List α) (g : α → Nat) (k : Nat) (y : α) (hI : I = 2 ∨ I = 3 ∨ I = 4)
    (hv : ∀ w ∈ l, g w < 2 ^ I) (hk : l[k]? = some y) : get I (fv (l.map fun w => (g w, I))) k = g y := by
  have h := rd_fv_map l g I [] k y (by omega) hv hk
  rwa [List.append_nil, Bc7.rd_eq_shift, ← Bc7.fld, ← get_eq_fld I _ k hI] at h

/-! ### the exhaustive search in one statement (generic in the colour type; `d` is only the out-of-range default of `getD`) -/

theorem closest_argmin {α : Type} (I : Nat) (dist : α → α → Nat) (pal pixels : List α) (d : α) (B : Nat)
    (hI : I = 2 ∨ I = 3 ∨ I = 4) (hpal : pal.length = 2 ^ I) (hn : pixels.length ≤ 16)
    (hd : ∀ p ∈ pixels, ∀ c ∈ pal, dist p c ≤ B) (hB : 16 * B < U32 - 1) :
    (∀ i, i < pixels.length →
      get I (closestAll I dist pal pixels 0 (0, 0)).1 i < 2 ^ I ∧
      (∀ j, j < 2 ^ I → dist (pixels.getD i d) (pal.getD (get I (closestAll I dist pal pixels 0 (0, 0)).1 i) d) ≤
        dist (pixels.getD i d) (pal.getD j d)) ∧
      (∀ j, j < get I (closestAll I dist pal pixels 0 (0, 0)).1 i →
        dist (pixels.getD i d) (pal.getD (get I (closestAll I dist pal pixels 0 (0, 0)).1 i) d) <
          dist (pixels.getD i d) (pal.getD j d))) ∧
    (closestAll I dist pal pixels 0 (0, 0)).2 = ((List.range pixels.length).map fun i =>
      dist (pixels.getD i d) (pal.getD (get I (closestAll I dist pal pixels 0 (0, 0)).1 i) d)).sum ∧
    (closestAll I dist pal pixels 0 (0, 0)).2 ≤ pixels.length * B ∧
    (closestAll I dist pal pixels 0 (0, 0)).1 < 2 ^ (16 * I) := by
  have hne : pal ≠ [] := by
    intro h; rw [h] at hpal; simp at hpal
    have := Nat.two_pow_pos I; omega
  have hone : ∀ p ∈ pixels, ∃ c, pal[(closestOne (dist p) pal).1]? = some c ∧ (closestOne (dist p) pal).2 = dist p c ∧
      (∀ (j : Nat) (c' : α), pal[j]? = some c' → dist p c ≤ dist p c') ∧
      (∀ (j : Nat) (c' : α), j < (closestOne (dist p) pal).1 → pal[j]? = some c' → dist p c < dist p c') := by
    intro p hp
    exact closestOne_spec (dist p) pal hne (fun c hc => by have := hd p hp c hc; omega)
  have hch : ∀ ch ∈ choices dist pal pixels, ch.1 < 2 ^ I ∧ ch.2 ≤ B := by
    intro ch hm
    obtain ⟨p, hp, rfl⟩ := List.mem_map.mp hm
    obtain ⟨c, hc, he, _, _⟩ := hone p hp
    have hlt : (closestOne (dist p) pal).1 < pal.length := by
      rcases Nat.lt_or_ge (closestOne (dist p) pal).1 pal.length with h | h
      · exact h
      · rw [List.getElem?_eq_none h] at hc; cases hc
    refine ⟨by rw [← hpal]; exact hlt, ?_⟩
    rw [he]; exact hd p hp c (List.mem_of_getElem? hc)
  have hall := closestAll_fv I dist pal pixels 0 [] 0 B hI (by omega) fieldsOK_nil (Nat.zero_mul I).symm hch (by
    have : pixels.length * B ≤ 16 * B := Nat.mul_le_mul_right _ hn
    omega)
  simp only [List.nil_append, Nat.zero_add] at hall
  change closestAll I dist pal pixels 0 (0, 0) = _ at hall
  have hidx : ∀ i, i < pixels.length → get I (closestAll I dist pal pixels 0 (0, 0)).1 i =
      (closestOne (dist (pixels.getD i d)) pal).1 := by
    intro i hi
    rw [hall]
    exact get_fv I (choices dist pal pixels) (·.1) i _ hI (fun ch hm => (hch ch hm).1)
      (by rw [choices, List.getElem?_map, getElem?_of_lt pixels i d hi]; rfl)
  have hr2 : (closestAll I dist pal pixels 0 (0, 0)).2 = ((choices dist pal pixels).map (·.2)).sum := by rw [hall]
  refine ⟨?_, ?_, ?_, ?_⟩
  · intro i hi
    have hp : pixels.getD i d ∈ pixels := by
      have := getElem?_of_lt pixels i d hi
      exact List.mem_of_getElem? this
    obtain ⟨c, hc, _, hmin, hfirst⟩ := hone _ hp
    rw [hidx i hi]
    have hcD := getD_of_getElem? pal _ d c hc
    have hlt : (closestOne (dist (pixels.getD i d)) pal).1 < pal.length := by
      rcases Nat.lt_or_ge (closestOne (dist (pixels.getD i d)) pal).1 pal.length with h | h
      · exact h
      · rw [List.getElem?_eq_none h] at hc; cases hc
    refine ⟨by rw [← hpal]; exact hlt, ?_, ?_⟩
    · intro j hj
      rw [hcD]
      exact hmin j _ (getElem?_of_lt pal j d (by rw [hpal]; exact hj))
    · intro j hj
      rw [hcD]
      exact hfirst j _ hj (getElem?_of_lt pal j d (by omega))
  · rw [hr2]
    congr 1
    apply List.ext_getElem
    · simp [choices]
    · intro i h1 h2
      have hi : i < pixels.length := by simpa [choices] using h1
      have hp : pixels.getD i d ∈ pixels := List.mem_of_getElem? (getElem?_of_lt pixels i d hi)
      obtain ⟨c, hc, he, _, _⟩ := hone _ hp
      have e1 : pixels[i] = pixels.getD i d := by
        simp [List.getD_eq_getElem?_getD, List.getElem?_eq_getElem hi]
      simp only [choices, List.getElem_map, List.getElem_range, e1]
      rw [he, hidx i hi, getD_of_getElem? pal _ d c hc]
  · rw [hr2]
    have : ∀ (l : List (Nat × Nat)), (∀ ch ∈ l, ch.2 ≤ B) → (l.map (·.2)).sum ≤ l.length * B := by
      intro l
      induction l with
      | nil => simp
      | cons a l ih =>
        intro h
        simp only [List.map_cons, List.sum_cons, List.length_cons, Nat.succ_mul]
        have := h a (List.mem_cons_self ..)
        have := ih (fun ch hm => h ch (List.mem_cons_of_mem _ hm))
        omega
    have := this (choices dist pal pixels) (fun ch hm => (hch ch hm).2)
    simpa [choices] using this
  · rw [hall]
    have hok : FieldsOK ((choices dist pal pixels).map fun ch => (ch.1, I)) := by
      intro f hf
      obtain ⟨ch, hm, rfl⟩ := List.mem_map.mp hf
      exact ⟨(hch ch hm).1, (by omega : I < 64)⟩
    have := fv_lt _ hok
    rw [width_map] at this
    refine Nat.lt_of_lt_of_le this (Nat.pow_le_pow_right (by decide) ?_)
    have : (choices dist pal pixels).length = pixels.length := by simp [choices]
    rw [this]
    exact Nat.mul_le_mul_right _ hn

end Dds.Enc7
