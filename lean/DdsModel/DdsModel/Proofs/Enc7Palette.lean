/-
C13 / BC7 encoder: the encoder's own palette arithmetic (`promote`, `p_promote`, `interpolate<W>`, its copy of the
weight tables; src/encode/bc7.rs) equals the DECODER's (`Bc7.promote`, `Bc7.withP`, `Bc7.lerp`, src/decode/bc7.rs) and the
specification's (`Bc7Spec.expand`, `Bc7Spec.interp`), for all inputs; interpolation is symmetric under
(swap endpoints, invert index).
-/
import DdsModel.Enc7
import DdsModel.Proofs.Bc7GlueCommon
namespace Dds.Enc7
open Dds Dds.BcTables

theorem px4e (a0 a1 a2 a3 : Nat) :
    px [a0, a1, a2, a3] 0 = a0 ∧ px [a0, a1, a2, a3] 1 = a1 ∧ px [a0, a1, a2, a3] 2 = a2 ∧ px [a0, a1, a2, a3] 3 = a3 :=
  ⟨rfl, rfl, rfl, rfl⟩
theorem px3e (a0 a1 a2 : Nat) : px [a0, a1, a2] 0 = a0 ∧ px [a0, a1, a2] 1 = a1 ∧ px [a0, a1, a2] 2 = a2 := ⟨rfl, rfl, rfl⟩

theorem promote_eq_dec (v bits : Nat) : promote v bits = Bc7.promote v bits := rfl

theorem weights_eq_dec : WEIGHTS_2 = Bc7.WEIGHTS_2 ∧ WEIGHTS_3 = Bc7.WEIGHTS_3 ∧ WEIGHTS_4 = Bc7.WEIGHTS_4 :=
  ⟨rfl, rfl, rfl⟩

theorem interpolate_eq_lerp (W e0 e1 k : Nat) : interpolate W e0 e1 k = Bc7.lerp e0 e1 ((Bc7.implWeights W).getD k 0) := by
  unfold interpolate weight Bc7.lerp Bc7.implWeights
  by_cases h2 : W = 2
  · simp only [h2, if_true]; rfl
  · by_cases h3 : W = 3
    · simp only [h3, if_true]; rfl
    · simp only [h2, h3, if_false]; rfl

theorem pPromoteCh7 (v p : Nat) : pPromoteCh 7 v p = Bc7.withP v p := by
  simp [pPromoteCh, Bc7.withP]

theorem pPromoteCh_ne7 (B v p : Nat) (h : B ≠ 7) : pPromoteCh B v p = Bc7.promote (Bc7.withP v p) (B + 1) := by
  simp [pPromoteCh, Bc7.withP, h, promote_eq_dec]

theorem promoteCh8 (v : Nat) : promoteCh 8 v = v := by simp [promoteCh]
theorem promoteCh_ne8 (B v : Nat) (h : B ≠ 8) : promoteCh B v = Bc7.promote v B := by
  simp [promoteCh, h, promote_eq_dec]

theorem lerp_swap (e0 e1 w : Nat) (hw : w ≤ 256) : Bc7.lerp e1 e0 (256 - w) = Bc7.lerp e0 e1 w := by
  unfold Bc7.lerp
  have h1 : (256 + U16 - (256 - w)) % U16 = w := by unfold U16; omega
  have h2 : (256 + U16 - w) % U16 = 256 - w := by unfold U16; omega
  simp only [h1, h2]
  rw [Nat.add_comm ((w * e1) % U16)]

theorem weights_sym (W : Nat) (hW : W = 2 ∨ W = 3 ∨ W = 4) :
    ∀ k, k < 2 ^ W → (Bc7.implWeights W).getD (2 ^ W - 1 - k) 0 = 256 - (Bc7.implWeights W).getD k 0 ∧ (Bc7.implWeights W).getD k 0 ≤ 256 := by
  rcases hW with h | h | h <;> subst h <;> decide

theorem lerp_sym (W e0 e1 k : Nat) (hW : W = 2 ∨ W = 3 ∨ W = 4) (hk : k < 2 ^ W) :
    Bc7.lerp e1 e0 ((Bc7.implWeights W).getD (2 ^ W - 1 - k) 0) = Bc7.lerp e0 e1 ((Bc7.implWeights W).getD k 0) := by
  obtain ⟨h1, h2⟩ := weights_sym W hW k hk
  rw [h1, lerp_swap e0 e1 _ h2]

theorem interpolate_sym (W e0 e1 k : Nat) (hW : W = 2 ∨ W = 3 ∨ W = 4) (hk : k < 2 ^ W) :
    interpolate W e1 e0 (2 ^ W - 1 - k) = interpolate W e0 e1 k := by
  rw [interpolate_eq_lerp, interpolate_eq_lerp, lerp_sym W e0 e1 k hW hk]

theorem interpolate_255 (W k : Nat) (hW : W = 2 ∨ W = 3 ∨ W = 4) (hk : k < 2 ^ W) : interpolate W 255 255 k = 255 := by
  have : ∀ W, W = 2 ∨ W = 3 ∨ W = 4 → ∀ k, k < 2 ^ W → interpolate W 255 255 k = 255 := by
    intro W hW; rcases hW with rfl | rfl | rfl <;> decide
  exact this W hW k hk

theorem interpolate_eq_spec (W e0 e1 k : Nat) (hW : W = 2 ∨ W = 3 ∨ W = 4) (h0 : e0 < 256) (h1 : e1 < 256)
    (hk : k < 2 ^ W) : interpolate W e0 e1 k = Bc7Spec.interp e0 e1 ((specWeights W).getD k 0) := by
  rw [interpolate_eq_lerp]
  exact Bc7.lerpW W e0 e1 k hW h0 h1 hk

theorem promote_eq_spec (bits v : Nat) (h4 : 4 ≤ bits) (h8 : bits < 8) (hv : v < 2 ^ bits) :
    promote v bits = Bc7Spec.expand bits v := Bc7.promote_eq_replicate bits h8 h4 v hv

/-- `Rgb::promote` per channel, including the 8-bit alpha of mode 5 that is stored as it is -/
theorem promoteCh_eq_spec (B v : Nat) (h4 : 4 ≤ B) (h8 : B ≤ 8) (hv : v < 2 ^ B) : promoteCh B v = Bc7Spec.expand B v := by
  by_cases h : B = 8
  · subst h; rw [promoteCh8, Bc7.expand8 v hv]
  · rw [promoteCh_ne8 B v h]; exact Bc7.promote_eq_replicate B (by omega) h4 v hv

/-- `p_promote` is `(v << 1 | p)` widened by replication -/
theorem pPromoteCh_eq_spec (B v p : Nat) (h4 : 4 ≤ B) (h8 : B < 8) (hv : v < 2 ^ B) (hp : p < 2) :
    pPromoteCh B v p = Bc7Spec.expand (B + 1) (v * 2 + p) := by
  have hv128 : v < 128 := Nat.lt_of_lt_of_le hv (by
    have : 2 ^ B ≤ 2 ^ 7 := Nat.pow_le_pow_right (by decide) (by omega)
    exact this)
  have hlt : v * 2 + p < 2 ^ (B + 1) := by rw [Nat.pow_succ]; omega
  by_cases h7 : B = 7
  · subst h7
    rw [pPromoteCh7, Bc7.withP_eq v hv128 p hp, Bc7.expand8 _ (by omega)]
  · rw [pPromoteCh_ne7 B v p h7, Bc7.withP_eq v hv128 p hp]
    exact Bc7.promote_eq_replicate (B + 1) (by omega) (by omega) _ hlt

end Dds.Enc7
