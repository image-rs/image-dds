/- The invariant of image views (`View.lean`) and the closed form of `cropped` under it. -/
import DdsModel.View
import DdsModel.Proofs.Layout
namespace Dds

/-- a row of at most `2^32` pixels of at most 16 bytes does not wrap -/
theorem wMul_bpr {w bpp : Nat} (hw : w < U32) (hb : bpp ≤ 16) : wMul w bpp = w * bpp := by
  apply wMul_eq
  have : w * bpp ≤ w * 16 := Nat.mul_le_mul_left _ hb
  unfold U32 at hw; unfold U64; omega

theorem View.containsRect_iff {v : View} {ox oy w h : Nat} :
    v.containsRect ox oy w h = true ↔ ox + w ≤ v.w ∧ oy + h ≤ v.h := by
  simp only [View.containsRect, Bool.and_eq_true, decide_eq_true_eq]

namespace C20

/-- the invariant of every view the constructors and `cropped` produce -/
structure Inv (v : View) : Prop where
  bpp_pos : 1 ≤ v.bpp
  bpp_le : v.bpp ≤ 16
  w_lt : v.w < U32
  h_lt : v.h < U32
  len_lt : v.len < U64
  empty : (v.w = 0 ∨ v.h = 0) → v.w = 0 ∧ v.h = 0 ∧ v.pitch = 0 ∧ v.len = 0
  pitch_ge : v.w * v.bpp ≤ v.pitch
  len_eq : ¬ (v.w = 0 ∨ v.h = 0) → v.len = v.pitch * (v.h - 1) + v.w * v.bpp

theorem Inv.rect_end_le {v : View} (hv : Inv v) {ox oy w h : Nat} (hw : ox + w ≤ v.w)
    (hh : oy + h ≤ v.h) (hne : ¬ (w = 0 ∨ h = 0)) :
    oy * v.pitch + ox * v.bpp + (h - 1) * v.pitch + w * v.bpp ≤ v.len := by
  rw [hv.len_eq (by omega), Nat.mul_comm v.pitch]
  have h1 : (oy + (h - 1)) * v.pitch ≤ (v.h - 1) * v.pitch := Nat.mul_le_mul_right _ (by omega)
  have h2 : (ox + w) * v.bpp ≤ v.w * v.bpp := Nat.mul_le_mul_right _ hw
  rw [Nat.add_mul] at h1 h2
  omega

theorem Inv.row_bound {v : View} (hv : Inv v) {y : Nat} (hy : y < v.h) :
    y * v.pitch + v.w * v.bpp ≤ v.len := by
  have := hv.rect_end_le (ox := 0) (oy := y) (w := v.w) (h := 1) (by omega) (by omega)
    (fun h => by have := hv.empty; omega)
  omega

/-- The part of a non-empty view under a non-empty rectangle inside it is again a view: same
pitch, starting `oy` rows and `ox` pixels into the parent. -/
theorem Inv.crop {v : View} (hv : Inv v) {ox oy w h : Nat} (hw : ox + w ≤ v.w) (hh : oy + h ≤ v.h)
    (hne : ¬ (w = 0 ∨ h = 0)) (base : Nat) :
    Inv ⟨base, v.pitch * (h - 1) + w * v.bpp, w, h, v.bpp, v.pitch⟩ := by
  have hend := hv.rect_end_le hw hh hne
  have hb : w * v.bpp ≤ (ox + w) * v.bpp := Nat.mul_le_mul_right _ (by omega)
  have hp : (ox + w) * v.bpp ≤ v.w * v.bpp := Nat.mul_le_mul_right _ hw
  refine ⟨hv.bpp_pos, hv.bpp_le, ?_, ?_, ?_, fun h' => absurd h' hne, ?_, fun _ => rfl⟩
  · have := hv.w_lt; show w < U32; omega
  · have := hv.h_lt; show h < U32; omega
  · have := hv.len_lt; show v.pitch * (h - 1) + w * v.bpp < U64
    rw [Nat.mul_comm v.pitch]; omega
  · have := hv.pitch_ge; show w * v.bpp ≤ v.pitch; omega

/-- `cropped` in closed form: no slice panics and no index arithmetic wraps. -/
theorem croppedP_eq {v : View} (hv : Inv v) {ox oy w h : Nat} (hw : ox + w ≤ v.w)
    (hh : oy + h ≤ v.h) (hne : ¬ (w = 0 ∨ h = 0)) :
    v.croppedP ox oy w h = some
      ⟨v.base + oy * v.pitch + ox * v.bpp, v.pitch * (h - 1) + w * v.bpp, w, h, v.bpp, v.pitch⟩ := by
  have hend := hv.rect_end_le hw hh hne
  have hl := hv.len_lt
  have hwlt := hv.w_lt
  unfold View.croppedP
  rw [View.containsRect_iff.mpr ⟨hw, hh⟩]
  simp only [Bool.not_true, Bool.false_eq_true, if_false, hne]
  rw [wMul_bpr (w := w) (by omega) hv.bpp_le, wMul_bpr (w := ox) (by omega) hv.bpp_le,
    wMul_eq (a := oy) (by omega), wMul_eq (a := h - 1) (by omega),
    wAdd_eq (a := oy * v.pitch) (by omega), wAdd_eq (a := oy * v.pitch + ox * v.bpp) (by omega),
    wAdd_eq (by omega)]
  unfold sliceP
  rw [if_pos ⟨by omega, hend⟩]
  simp only [Option.some.injEq, View.mk.injEq, and_true]
  rw [Nat.mul_comm v.pitch]
  omega

end C20
end Dds
