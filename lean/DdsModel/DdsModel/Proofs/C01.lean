/- Helper lemmas of C01 (composition of the header / layout / iterator / stream models). -/
import DdsModel.Reader
import DdsModel.Theorems.C06
import DdsModel.Proofs.DecStep
import DdsModel.Proofs.HeaderTables
import DdsModel.Theorems.C18
import DdsModel.Proofs.FormatTables
namespace Dds.Reader
open Dds Dds.Stream Dds.C08

/-! ### every `Format` has a decoder family with the format's pixel info -/

/-- `get_decoders(format)` exists in the table, has admissible unit sizes and the unit sizes of
`PixelInfo::from(format)` -/
def famCheck (f : C19.Format) : Bool :=
  match lookupFormat f.name with
  | some fam => decide fam.WF && decide (fam.px = f.row.px)
  | none => false

theorem famCheck_all : ∀ f : C19.Format, famCheck f = true :=
  C19.forall_format (by decide +kernel)

theorem fam_of_format (f : C19.Format) :
    ∃ fam, lookupFormat f.name = some fam ∧ fam.WF ∧ fam.px = f.row.px := by
  have h := famCheck_all f
  unfold famCheck at h
  cases hl : lookupFormat f.name with
  | none => rw [hl] at h; cases h
  | some fam =>
    rw [hl] at h
    simp only [Bool.and_eq_true, decide_eq_true_eq] at h
    exact ⟨fam, rfl, h.1, h.2⟩

/-- `new_with_options` succeeds exactly when its four stages do -/
theorem openWords_eq_ok {opts : ParseOptions} {ws : List Nat} {o : Opened} :
    openWords opts ws = .ok o ↔
      Header.read pixelInfoOf opts ws = .ok (o.header, o.rest) ∧
      C19.formatOfHeader (hdrOf o.header) = .ok o.format ∧
      C19.formatPixelInfoP o.format = some o.px ∧ lookupFormat o.format.name = some o.fam ∧
      layoutOf o.header.toLayoutHeader o.px = some (.ok o.layout) := by
  constructor
  · intro ho
    unfold openWords at ho
    split at ho
    · cases ho
    · split at ho
      · cases ho
      · split at ho
        · split at ho
          · cases ho
          · cases ho
          · cases ho; exact ⟨‹_›, ‹_›, ‹_›, ‹_›, ‹_›⟩
        · cases ho
  · intro ⟨h1, h2, h3, h4, h5⟩
    unfold openWords
    simp only [h1, h2, h3, h4, h5]

/-- its panic value: header and format were accepted, and a table look-up or the layout code failed -/
theorem openWords_eq_panic {opts : ParseOptions} {ws : List Nat} (hp : openWords opts ws = .error .panic) :
    ∃ h rest f, Header.read pixelInfoOf opts ws = .ok (h, rest) ∧ C19.formatOfHeader (hdrOf h) = .ok f ∧
      ∀ px fam, C19.formatPixelInfoP f = some px → lookupFormat f.name = some fam →
        layoutOf h.toLayoutHeader px = none := by
  unfold openWords at hp
  split at hp
  · cases hp
  · split at hp
    · cases hp
    · refine ⟨_, _, _, ‹_›, ‹_›, fun px fam hpx hfam => ?_⟩
      simp only [hpx, hfam] at hp
      split at hp
      · assumption
      · cases hp
      · cases hp

theorem ofRes_ne_panic {r : Res} (h : r ∈ [Res.ok, .ioError, .memLimit, .rectOutOfBounds]) :
    ofRes r ≠ .panic := by
  simp only [List.mem_cons, List.not_mem_nil, or_false] at h
  rcases h with h | h | h | h <;> rw [h] <;> simp [ofRes]

theorem decodeCall_ne_panic (k : Cfg) (hf : k.fam.WF) (c : Colour) (call : Call) (s : RS) :
    (decodeCall k c call s).1 ≠ .panic :=
  ofRes_ne_panic (C06.result_kinds hf c call k.env [] s.pos s.limit)


/-- the common tail of `read_surface` / `read_surface_rect`: advance on success, keep the reader
position of the decode otherwise -/
def finish (s : RS) (r : R × Nat) : RS × R :=
  match r.1 with
  | .ok =>
    match s.iter.advanceP with
    | none => ({ s with pos := r.2 }, .panic)
    | some it => ({ s with iter := it, pos := r.2 }, .ok)
  | e => ({ s with pos := r.2 }, e)

theorem finish_ok {s : RS} {r : R × Nat} {it : SurfIter} (h : r.1 = .ok) (ha : s.iter.advanceP = some it) :
    finish s r = ({ s with iter := it, pos := r.2 }, .ok) := by
  unfold finish; rw [h]; simp only [ha]

theorem finish_err {s : RS} {r : R × Nat} (h : r.1 ≠ .ok) : finish s r = ({ s with pos := r.2 }, r.1) := by
  unfold finish
  split
  · next h' => exact absurd h' h
  · rfl

theorem readSurface_eq (k : Cfg) (s : RS) (w h : Nat) (c : Colour) :
    readSurface k s w h c =
      match s.iter.currentP with
      | none => (s, .panic)
      | some none => (s, .noMoreSurfaces)
      | some (some cur) =>
        if normSize w h ≠ (cur.w, cur.h) then (s, .unexpectedSurfaceSize)
        else finish s (decodeCall k c (.full (normSize w h).1 (normSize w h).2) s) := by
  unfold readSurface finish; rfl

theorem readRect_eq (k : Cfg) (s : RS) (ox oy w h : Nat) (c : Colour) :
    readRect k s ox oy w h c =
      match s.iter.currentP with
      | none => (s, .panic)
      | some none => (s, .noMoreSurfaces)
      | some (some cur) =>
        finish s (decodeCall k c (.rect cur.w cur.h ox oy (normSize w h).1 (normSize w h).2) s) := by
  unfold readRect finish; rfl

/-- sequencing with `?`: run `f` only after `ok` -/
def thenR (a : RS × R) (f : RS → RS × R) : RS × R := if a.2 = .ok then f a.1 else a

/-- the face loop of the reader, written with `?`-sequencing -/
def cubeR (k : Cfg) (faces fw fh : Nat) (c : Colour) : List (Nat × Nat × Nat) → RS → RS × R
  | [], s => (s, .ok)
  | (bit, _, _) :: rest, s =>
    if !hasFace faces bit then cubeR k faces fw fh c rest s else
    match s.iter.currentP with
    | none => (s, .panic)
    | some none => (s, .noMoreSurfaces)
    | some (some cur) =>
      if (cur.w, cur.h) ≠ (fw, fh) then (s, .unexpectedSurfaceSize) else
      thenR (thenR (readSurface k s fw fh c) (skipMipmaps k)) (cubeR k faces fw fh c rest)

theorem cubeLoop_eq (k : Cfg) (faces fw fh : Nat) (c : Colour) :
    ∀ (l : List (Nat × Nat × Nat)) (s : RS), cubeLoop k faces fw fh c l s = cubeR k faces fw fh c l s := by
  intro l
  induction l with
  | nil => intro s; rfl
  | cons x rest ih =>
    intro s
    obtain ⟨bit, cx, cy⟩ := x
    unfold cubeLoop cubeR
    split
    · exact ih s
    · cases s.iter.currentP with
      | none => rfl
      | some r =>
        cases r with
        | none => rfl
        | some cur =>
          simp only
          split
          · rfl
          · generalize readSurface k s fw fh c = a
            obtain ⟨s1, r1⟩ := a
            cases r1 <;> simp only [thenR, reduceCtorEq, if_false, if_true]
            generalize skipMipmaps k s1 = b
            obtain ⟨s2, r2⟩ := b
            cases r2 <;> simp only [reduceCtorEq, if_false, if_true, ih]


def Sound (b : RS × R) : Prop := IterInv b.1.iter ∧ b.2 ≠ .panic

theorem Sound.same {s : RS} (v : IterInv s.iter) {r : R} (hr : r ≠ .panic) : Sound (s, r) := ⟨v, hr⟩

theorem Sound.thenR {a : RS × R} {f : RS → RS × R} (h : Sound a) (hf : IterInv a.1.iter → Sound (f a.1)) :
    Sound (thenR a f) := by
  unfold Reader.thenR
  split
  · exact hf h.1
  · exact h

theorem finish_sound {s : RS} (v : IterInv s.iter) {r : R × Nat} (hr : r.1 ≠ .panic) :
    Sound (finish s r) := by
  by_cases hok : r.1 = .ok
  · obtain ⟨it', ha, hi, _⟩ := advance_spec v
    rw [finish_ok hok ha]; exact .same hi (by decide)
  · rw [finish_err hok]; exact ⟨v, hr⟩

theorem readSurface_inv (k : Cfg) (hf : k.fam.WF) (s : RS) (v : IterInv s.iter) (w h : Nat) (c : Colour) :
    Sound (readSurface k s w h c) := by
  rw [readSurface_eq]
  rcases current_cases v with ⟨hc, _⟩ | ⟨cur, hc, _⟩ <;> rw [hc]
  · exact .same v (by decide)
  · simp only
    split
    · exact .same v (by decide)
    · exact finish_sound v (decodeCall_ne_panic k hf c _ s)

theorem readRect_inv (k : Cfg) (hf : k.fam.WF) (s : RS) (v : IterInv s.iter) (ox oy w h : Nat) (c : Colour) :
    Sound (readRect k s ox oy w h c) := by
  rw [readRect_eq]
  rcases current_cases v with ⟨hc, _⟩ | ⟨cur, hc, _⟩ <;> rw [hc]
  · exact .same v (by decide)
  · exact finish_sound v (decodeCall_ne_panic k hf c _ s)

theorem skipSurface_inv (k : Cfg) (s : RS) (v : IterInv s.iter) : Sound (skipSurface k s) := by
  unfold skipSurface
  rcases current_cases v with ⟨hc, _⟩ | ⟨cur, hc, _⟩ <;> rw [hc]
  · exact .same v (by decide)
  · obtain ⟨it', ha, hi, _⟩ := advance_spec v
    simp only [ha]
    split
    · exact .same hi (by decide)
    · exact .same v (by decide)

theorem skipMipmaps_inv (k : Cfg) (s : RS) (v : IterInv s.iter) : Sound (skipMipmaps k s) := by
  unfold skipMipmaps
  rcases skip_spec v with h | ⟨it', n, h, m⟩ <;> rw [h]
  · exact .same v (by decide)
  · refine ⟨m.inv, ?_⟩
    simp only
    split <;> decide

theorem cubeR_inv (k : Cfg) (hf : k.fam.WF) (faces fw fh : Nat) (c : Colour) :
    ∀ (l : List (Nat × Nat × Nat)) (s : RS), IterInv s.iter → Sound (cubeR k faces fw fh c l s) := by
  intro l
  induction l with
  | nil => intro s v; exact .same v (by decide)
  | cons x rest ih =>
    intro s v
    obtain ⟨bit, cx, cy⟩ := x
    unfold cubeR
    split
    · exact ih s v
    · rcases current_cases v with ⟨hc, _⟩ | ⟨cur, hc, _⟩ <;> rw [hc]
      · exact .same v (by decide)
      · simp only
        split
        · exact .same v (by decide)
        · exact ((readSurface_inv k hf s v fw fh c).thenR (skipMipmaps_inv k _)).thenR (ih _)

theorem readCubeMap_inv (k : Cfg) (hf : k.fam.WF) (s : RS) (v : IterInv s.iter) (w h : Nat) (c : Colour) :
    Sound (readCubeMap k s w h c) := by
  unfold readCubeMap
  cases k.layout with
  | texture t => exact .same v (by decide)
  | volume t => exact .same v (by decide)
  | textureArray a =>
    simp only
    cases a.kind with
    | textures => exact .same v (by decide)
    | cubeMaps =>
      simp only
      split
      · exact .same v (by decide)
      · rw [cubeLoop_eq]; exact cubeR_inv k hf _ _ _ c _ s v
    | partialCubeMap f =>
      simp only
      split
      · exact .same v (by decide)
      · rw [cubeLoop_eq]; exact cubeR_inv k hf _ _ _ c _ s v

theorem step_inv (k : Cfg) (hf : k.fam.WF) (s : RS) (v : IterInv s.iter) (op : Op)
    (hop : op.inC01 = true) : IterInv (step k s op).1.iter ∧ (step k s op).2 ≠ .panic := by
  cases op with
  | read w h c => exact readSurface_inv k hf s v w h c
  | rect ox oy w h c => exact readRect_inv k hf s v ox oy w h c
  | skipSurface => exact skipSurface_inv k s v
  | skipMipmaps => exact skipMipmaps_inv k s v
  | cube w h c => exact readCubeMap_inv k hf s v w h c
  | setLimit l => exact ⟨v, by simp [step]⟩
  | rewindPrev => cases hop
  | rewindStart => cases hop


def noSkip : List Stream.Op → Prop
  | [] => True
  | .skip _ :: _ => False
  | _ :: t => noSkip t

theorem noSkip_append : ∀ {a b : List Stream.Op}, noSkip a → noSkip b → noSkip (a ++ b)
  | [], _, _, hb => hb
  | .skip _ :: _, _, ha, _ => ha.elim
  | .read _ :: t, _, ha, hb => noSkip_append (a := t) ha hb
  | .alloc _ :: t, _, ha, hb => noSkip_append (a := t) ha hb
  | .panic :: t, _, ha, hb => noSkip_append (a := t) ha hb

theorem noSkip_replicate_read (k m : Nat) : noSkip (List.replicate k (.read m)) := by
  induction k with
  | zero => trivial
  | succ k ih => simpa [List.replicate_succ, noSkip] using ih

theorem noSkip_refills (bpl lines : Nat) : noSkip (refills bpl lines) := by
  unfold refills
  exact noSkip_append (noSkip_replicate_read _ _) (by split <;> trivial)

theorem noSkip_lineBufNew (bpl lines : Nat) : noSkip (lineBufNew bpl lines) := by
  unfold lineBufNew; split <;> trivial

theorem noSkip_fullOps (f : Fam) (c : Colour) (w h : Nat) : noSkip (fullOps f c w h) := by
  cases f with
  | pixel bpp fast =>
    unfold fullOps
    simp only
    split
    · trivial
    · exact noSkip_append (noSkip_lineBufNew _ _) (noSkip_refills _ _)
  | block bw bh bpb =>
    unfold fullOps blockFull
    simp only
    exact noSkip_append (noSkip_append (by split <;> trivial) (noSkip_lineBufNew _ _)) (noSkip_refills _ _)
  | biPlanar e1 e2 sx sy =>
    unfold fullOps biPlanarFull
    simp only
    exact noSkip_append (noSkip_append (noSkip_lineBufNew _ _) trivial) (noSkip_refills _ _)

theorem noSkip_mem {n : Nat} : ∀ {ops : List Stream.Op}, noSkip ops → .skip n ∉ ops
  | [], _ => List.not_mem_nil
  | .skip _ :: _, hns => hns.elim
  | .read _ :: t, hns => fun h => noSkip_mem (ops := t) hns (by simpa using h)
  | .alloc _ :: t, hns => fun h => noSkip_mem (ops := t) hns (by simpa using h)
  | .panic :: t, hns => fun h => noSkip_mem (ops := t) hns (by simpa using h)

/-- reads only, and the first unreadable offset (end of the stream, hard error or early end of file)
lies inside the bytes the reads add up to: I/O error (every read stops there, `Env.Stops`) -/
theorem interp_short (e : Env) (hok : ∀ n, e.allocOk n = true) :
    ∀ (ops : List Stream.Op) (ps : List (List Nat)) (st : St), noPanic ops → noSkip ops →
      need ops ≤ st.budget → st.pos ≤ e.lim → e.lim < st.pos + span ops →
      (interp e ps ops st).1 = .ioError := by
  intro ops ps st hnp hns hneed hpos hshort
  cases interp_outcome e ops ps st hnp (fun n hn => (noSkip_mem hns hn).elim) with
  | io hr _ => exact hr
  | mem _ hbud => exact absurd (hbud hok) (by omega)
  | ok _ _ hstop =>
    refine absurd (hstop e.lim (fun o ho => ?_) hpos) (by omega)
    cases o with
    | read n => exact Nat.le_refl _
    | skip n => exact (noSkip_mem hns ho).elim
    | alloc n => trivial
    | panic => trivial


theorem leWords_lt : ∀ (n : Nat) (bs : List Nat), bs.length ≤ n → (∀ b ∈ bs, b < 256) →
    ∀ w ∈ leWords bs, w < U32 := by
  intro n
  induction n with
  | zero =>
    intro bs hl _ w hw
    have : bs = [] := List.eq_nil_of_length_eq_zero (by omega)
    subst this; simp [leWords] at hw
  | succ n ih =>
    intro bs hl hb w hw
    match bs, hl, hb, hw with
    | [], _, _, hw => simp [leWords] at hw
    | [_], _, _, hw => simp [leWords] at hw
    | [_, _], _, _, hw => simp [leWords] at hw
    | [_, _, _], _, _, hw => simp [leWords] at hw
    | b0 :: b1 :: b2 :: b3 :: rest, hl, hb, hw =>
      simp only [leWords, List.mem_cons] at hw
      rcases hw with hw | hw
      · have h0 := hb b0 (by simp)
        have h1 := hb b1 (by simp)
        have h2 := hb b2 (by simp)
        have h3 := hb b3 (by simp)
        subst hw; unfold U32; omega
      · exact ih rest (by simp only [List.length_cons] at hl; omega)
          (fun b hm => hb b (by simp [hm])) w hw

/-- every pixel info `PixelInfo::from_header` can return is well-formed -/
theorem pixelInfoOf_wf (h : Header) (px : PixelInfo) (hp : pixelInfoOf h = some px) : px.WF := by
  cases h with
  | dx9 x =>
    simp only [pixelInfoOf] at hp
    cases hpf : x.pixelFormat with
    | fourCC c =>
      rw [hpf] at hp
      simp only at hp
      cases hf : fourCCToSupported c with
      | none => rw [hf] at hp; cases hp
      | some f =>
        rw [hf] at hp
        exact C18.pinned_pixel_infos_wf.2 f (Format.mem_all f) px hp
    | mask m =>
      rw [hpf] at hp
      simp only [Option.some.injEq] at hp
      subst hp
      cases m.rgbBitCount <;> decide
  | dx10 x =>
    simp only [pixelInfoOf, dxgiPixelInfo] at hp
    cases hr : dxgiRow? x.dxgiFormat with
    | none => rw [hr] at hp; cases hp
    | some row =>
      rw [hr] at hp
      have hmem : row ∈ dxgiRows := List.mem_of_find?_eq_some hr
      exact C18.pinned_pixel_infos_wf.1 row hmem px hp

end Dds.Reader
