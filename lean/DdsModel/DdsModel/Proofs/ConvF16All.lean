/-
C04: `n16::f32`, `s16::uf32`, `fp16::{f32,n8,n16}` against the rational specification on their whole 16-bit
domains, from the kernel evaluations of `Proofs/ConvF16W0/W1/S/H.lean`.
-/
import DdsModel.Proofs.ConvF16W0
import DdsModel.Proofs.ConvF16W1
import DdsModel.Proofs.ConvF16S
import DdsModel.Proofs.ConvF16H
import DdsModel.Proofs.ConvF16Lift
namespace Dds.ConvFast
open Dds Dds.CF32 Dds.Spec Dds.Conv

theorem chkW16_all : allRange chkW16 10 0 65536 = true := allRange_join w16_lo w16_hi

theorem n16f32_all (v : Nat) (hv : v < 65536) : n16f32 v = roundF32 (unorm 16 v) :=
  (chkW16_sound v (allRange_lt chkW16_all v hv)).1

theorem s16f32_all : ∀ v, v < 65536 → s16f32 v = roundF32 (snorm 16 v) :=
  mulK_snorm 16 32768 73 k1_s16 10 rfl rfl (by decide) chkS16_all

theorem half_f32_all (x : Nat) (hx : x < 65536) :
    match smallFloat 10 true x with
    | some v => smallF32 10 true x = if v = 0 then (if x < 32768 then 0 else signBit) else roundF32 v
    | none => if x % 1024 = 0 then smallF32 10 true x = (if x < 32768 then posInf else negInf)
        else isNaN (smallF32 10 true x) = true :=
  half_f32_of (allRange_lt chkHalf_all) x hx

theorem half_n8_all (x : Nat) (hx : x < 65536) :
    ((smallN8 10 true x : Nat) : Int) = match smallFloat 10 true x with
      | some v => toCode 255 v
      | none => if x % 1024 = 0 ∧ x < 32768 then 255 else 0 :=
  half_n8_of (allRange_lt chkHalf_all) x hx

theorem half_n16_all (x : Nat) (hx : x < 65536) :
    ((smallN16 10 true x : Nat) : Int) = match smallFloat 10 true x with
      | some v => toCode 65535 v + (if 14337 ≤ x ∧ x ≤ 14340 then 1 else 0)
      | none => if x % 1024 = 0 ∧ x < 32768 then 65535 else 0 :=
  half_n16_of (allRange_lt chkHalf_all) x hx

end Dds.ConvFast
