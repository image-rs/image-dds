/-
The surface iterator of either kind (`SurfIter`) against the cursor of the flattened surface list.

`abs` maps an iterator state to its index in C02's flattened list and `elapsed` to the ideal byte
offset of that surface; `IterInv` is the invariant of whichever iterator it is. `consume_spec` bundles
what decoder, encoder and reader need when they move past the current surface.
-/
import DdsModel.Proofs.Iter
namespace Dds.C08
open Dds

def IterInv : SurfIter → Prop
  | .tex it => it.Inv
  | .vol it => it.Inv

def abs : SurfIter → Nat
  | .tex it => it.abs
  | .vol it => it.abs

def count : SurfIter → Nat
  | .tex it => it.N
  | .vol it => it.N

def elapsed : SurfIter → Nat
  | .tex it => it.elapsed
  | .vol it => it.elapsed

/-- the flattened list the iterator walks (C02's specification list) -/
def flat : SurfIter → List Surface
  | .tex it => specArray it.first.px it.first.w it.first.h it.first.mips it.len
  | .vol it => specVolFlat it.volume.px it.volume.w it.volume.h it.volume.d 0 it.volume.mips 0

def total : SurfIter → Nat
  | .tex it => it.len * it.T
  | .vol it => volIdeal it.volume.px it.volume.w it.volume.h it.volume.d 0 it.volume.mips

/-- the part of the state no operation changes: the texture and the number of array elements, or
the volume -/
def _root_.Dds.SurfIter.base : SurfIter → Texture × Nat ⊕ Volume
  | .tex it => .inl (it.first, it.len)
  | .vol it => .inr it.volume

theorem of_base_eq {it it' : SurfIter} (h : it'.base = it.base) :
    count it' = count it ∧ total it' = total it ∧ flat it' = flat it := by
  cases it with
  | tex t =>
    cases it' with
    | tex t' =>
      obtain ⟨h1, h2⟩ : t'.first = t.first ∧ t'.len = t.len := by simpa [SurfIter.base] using h
      simp only [count, total, flat, TexIter.N, TexIter.T, h1, h2, and_self]
    | vol t' => cases h
  | vol t =>
    cases it' with
    | tex t' => cases h
    | vol t' =>
      obtain h1 : t'.volume = t.volume := by simpa [SurfIter.base] using h
      simp only [count, total, flat, VolIter.N, h1, and_self]

/-- `advance` moves the cursor only, whatever the state -/
theorem advanceP_base {it it' : SurfIter} (h : it.advanceP = some it') : it'.base = it.base := by
  cases it with
  | tex t =>
    obtain rfl : SurfIter.tex t.advance = it' := Option.some.inj h
    show Sum.inl (t.advance.first, t.advance.len) = _
    unfold TexIter.advance
    split
    · dsimp only; split <;> rfl
    · rfl
  | vol t =>
    obtain ⟨t', ht, rfl⟩ := Option.map_eq_some_iff.1 h
    unfold VolIter.advanceP at ht
    split at ht
    · cases ht
    · cases ht; rfl
    · dsimp only at ht; split at ht <;> cases ht <;> rfl

theorem new_zero (L : DataLayout) : abs (SurfIter.new L) = 0 ∧ elapsed (SurfIter.new L) = 0 := by
  cases L <;> simp [SurfIter.new, abs, elapsed, TexIter.abs, TexIter.elapsed, VolIter.abs,
    VolIter.elapsed, depthSum, texIdeal, volIdeal]

theorem abs_le_count {it : SurfIter} (v : IterInv it) : abs it ≤ count it := by
  cases it with
  | tex t => exact TexIter.Inv.abs_le v
  | vol t => exact VolIter.Inv.abs_le v

theorem elapsedP_eq {it : SurfIter} (v : IterInv it) : it.elapsedP = some (elapsed it) := by
  cases it with
  | tex t => exact TexIter.Inv.elapsedP v
  | vol t => exact VolIter.Inv.elapsedP v

theorem elapsed_le_total {it : SurfIter} (v : IterInv it) : elapsed it ≤ total it := by
  cases it with
  | tex t => exact TexIter.Inv.elapsed_le v
  | vol t => exact VolIter.Inv.elapsed_le v

theorem current_cases {it : SurfIter} (v : IterInv it) :
    (it.currentP = some none ∧ abs it = count it) ∨
    ∃ cur, it.currentP = some (some cur) ∧ abs it < count it := by
  have hle := abs_le_count v
  cases it with
  | tex t =>
    have hc : (SurfIter.tex t).currentP = _ := TexIter.Inv.currentP v
    have hiff : abs (.tex t) < count (.tex t) ↔ _ := TexIter.Inv.abs_lt_iff v
    by_cases h : t.idx < t.len
    · rw [if_pos h] at hc; exact Or.inr ⟨_, hc, hiff.2 h⟩
    · rw [if_neg h] at hc; exact Or.inl ⟨hc, by omega⟩
  | vol t =>
    have hc : (SurfIter.vol t).currentP = _ := VolIter.Inv.currentP v
    have hiff : abs (.vol t) < count (.vol t) ↔ _ := VolIter.Inv.abs_lt_iff v
    by_cases h : t.level < t.volume.mips
    · rw [if_pos h] at hc; exact Or.inr ⟨_, hc, hiff.2 h⟩
    · rw [if_neg h] at hc; exact Or.inl ⟨hc, by omega⟩

/-- a current surface read off the iterator state: the cursor is not at the end, and size, length and
level are those of the cursor -/
theorem current_eq {it : SurfIter} (v : IterInv it) {cur : SurfInfo} (hc : it.currentP = some (some cur)) :
    match (generalizing := false) it with
    | .tex t => t.idx < t.len ∧ cur = ⟨mipSize t.first.w t.level, mipSize t.first.h t.level,
        t.first.px.surfIdeal (mipSize t.first.w t.level) (mipSize t.first.h t.level), t.level⟩
    | .vol t => t.level < t.volume.mips ∧ cur = ⟨mipSize t.volume.w t.level, mipSize t.volume.h t.level,
        t.volume.sliceLen t.level, t.level⟩ := by
  cases it with
  | tex t =>
    rw [show (SurfIter.tex t).currentP = t.currentP from rfl, TexIter.Inv.currentP v] at hc
    by_cases hi : t.idx < t.len
    · rw [if_pos hi] at hc; cases hc; exact ⟨hi, rfl⟩
    · rw [if_neg hi] at hc; cases hc
  | vol t =>
    rw [show (SurfIter.vol t).currentP = t.currentP from rfl, VolIter.Inv.currentP v] at hc
    by_cases hl : t.level < t.volume.mips
    · rw [if_pos hl] at hc; cases hc; exact ⟨hl, rfl⟩
    · rw [if_neg hl] at hc; cases hc

theorem advance_spec {it : SurfIter} (v : IterInv it) :
    ∃ it', it.advanceP = some it' ∧ IterInv it' ∧ it'.base = it.base ∧
      abs it' = min (abs it + 1) (count it) ∧
      ∀ cur, it.currentP = some (some cur) → elapsed it' = elapsed it + cur.len := by
  cases it with
  | tex t =>
    obtain ⟨h1, h2, h3, h4, h5⟩ := TexIter.Inv.advance_spec v
    exact ⟨.tex t.advance, rfl, h1, by rw [SurfIter.base, h3, h4]; rfl, h2, fun cur hc => by
      obtain ⟨hi, rfl⟩ := current_eq v hc; exact h5 hi⟩
  | vol t =>
    obtain ⟨it', h0, h1, h2, h3, h5⟩ := VolIter.Inv.advanceP_spec v
    exact ⟨.vol it', by rw [SurfIter.advanceP, h0]; rfl, h1, by rw [SurfIter.base, h3]; rfl, h2, fun cur hc => by
      obtain ⟨hl, rfl⟩ := current_eq v hc; exact h5 hl⟩

theorem rewind_spec {it : SurfIter} (v : IterInv it) :
    ∃ it', it.rewindP = some it' ∧ IterInv it' ∧ it'.base = it.base ∧ abs it' = abs it - 1 ∧
      elapsed it' ≤ elapsed it := by
  cases it with
  | tex t =>
    obtain ⟨h1, h2, h3, h4, h5⟩ := TexIter.Inv.rewind_spec v
    exact ⟨.tex t.rewind, rfl, h1, by rw [SurfIter.base, h3, h4]; rfl, h2, h5⟩
  | vol t =>
    obtain ⟨it', h0, h1, h2, h3, h5⟩ := VolIter.Inv.rewindP_spec v
    exact ⟨.vol it', by rw [SurfIter.rewindP, h0]; rfl, h1, by rw [SurfIter.base, h3]; rfl, h2, h5⟩

/-- `it'` is a state of the same texture array or volume as `it`, `n` bytes further on -/
structure Moved (it it' : SurfIter) (n : Nat) : Prop where
  inv : IterInv it'
  base : it'.base = it.base
  elapsed : C08.elapsed it' = C08.elapsed it + n

theorem Moved.le {it it' : SurfIter} {n : Nat} (m : Moved it it' n) : C08.elapsed it + n ≤ total it := by
  have := elapsed_le_total m.inv
  rwa [m.elapsed, (of_base_eq m.base).2.1] at this

/-- the error case of `skip_mipmaps` is a cursor inside a volume level -/
theorem skip_spec {it : SurfIter} (v : IterInv it) :
    it.skipMipmapsP = some (.error ()) ∨
    ∃ it' n, it.skipMipmapsP = some (.ok (it', n)) ∧ Moved it it' n := by
  cases it with
  | tex t =>
    obtain ⟨it', n, h0, h1, h2, h3, h4, _⟩ := TexIter.Inv.skipMipmapsP v
    exact Or.inr ⟨.tex it', n, by rw [SurfIter.skipMipmapsP, h0]; rfl, h1, by rw [SurfIter.base, h2, h3]; rfl,
      h4⟩
  | vol t =>
    obtain ⟨herr, hok⟩ := VolIter.Inv.skipMipmapsP v
    by_cases hd : t.depth = 0
    · obtain ⟨it', n, h0, h1, h2, h3, _⟩ := hok hd
      exact Or.inr ⟨.vol it', n, by rw [SurfIter.skipMipmapsP, h0]; rfl, h1, by rw [SurfIter.base, h2]; rfl,
        h3⟩
    · exact Or.inl (by rw [SurfIter.skipMipmapsP, herr hd]; rfl)

/-- `it'` is `it` moved past its current surface `cur` -/
structure Consumed (it : SurfIter) (cur : SurfInfo) (it' : SurfIter) : Prop extends Moved it it' cur.len where
  adv : it.advanceP = some it'
  abs : C08.abs it' = C08.abs it + 1
  lt : C08.abs it < count it

theorem consume_spec {it : SurfIter} (v : IterInv it) {cur : SurfInfo}
    (hc : it.currentP = some (some cur)) : ∃ it', Consumed it cur it' := by
  obtain ⟨it', ha, hi, hb, habs, hel⟩ := advance_spec v
  have hlt : abs it < count it := by
    rcases current_cases v with ⟨h, _⟩ | ⟨_, _, h⟩
    · rw [h] at hc; cases hc
    · exact h
  exact ⟨it', ⟨hi, hb, hel cur hc⟩, ha, habs.trans (Nat.min_eq_left hlt), hlt⟩

theorem Consumed.of_advance {it it' it2 : SurfIter} {cur : SurfInfo} (h : Consumed it cur it2)
    (ha : it.advanceP = some it') : Consumed it cur it' := by
  obtain rfl : it2 = it' := Option.some.inj (h.adv.symm.trans ha)
  exact h

theorem elapsed_eq_total_of_end {it : SurfIter} (v : IterInv it) (hend : abs it = count it) :
    elapsed it = total it := by
  cases it with
  | tex t =>
    have h : ¬ t.idx < t.len := fun h => by
      have : t.abs < t.N := (TexIter.Inv.abs_lt_iff v).2 h
      have : t.abs = t.N := hend
      omega
    obtain ⟨h1, h2⟩ := TexIter.Inv.at_end v h
    show t.idx * t.T + texIdeal _ _ _ 0 t.level = t.len * t.T
    rw [h1, h2]; rfl
  | vol t =>
    have h : ¬ t.level < t.volume.mips := fun h => by
      have : t.abs < t.N := (VolIter.Inv.abs_lt_iff v).2 h
      have : t.abs = t.N := hend
      omega
    obtain ⟨h1, h2⟩ := VolIter.Inv.at_end v h
    show volIdeal _ _ _ _ 0 t.level + t.depth * _ = volIdeal _ _ _ _ 0 t.volume.mips
    rw [h1, h2, Nat.zero_mul]; rfl

end Dds.C08
