/-
Arithmetic glue between the implementation-shaped BC6H model (`Bc6.lean`: wrapping i32 arithmetic, shifts,
masks) and the specification (`Bc6Spec.lean`: exact integer arithmetic): endpoint decompression,
unquantize, interpolate + finish_unquantize.  Every `wrap32` on these paths is the identity.
-/
import DdsModel.Bc6
import DdsModel.Bc6Spec
import DdsModel.Proofs.Bc6
namespace Dds.Bc6
open Dds.BcTables Dds.Bc6Spec


theorem wrap32_id (x : Int) (h1 : -2147483648 ≤ x) (h2 : x < 2147483648) : wrap32 x = x := by
  unfold wrap32; omega

theorem or_sign (x : Nat) (h : x < 32768) : 32768 ||| x = 32768 + x := by
  have := Nat.shiftLeft_add_eq_or_of_lt (i := 15) (b := x) (by simpa using h) 1
  simpa using this.symm

theorem two_pow_le_65536 (k : Nat) (hk : k ≤ 16) : (2 ^ k : Nat) ≤ 65536 :=
  Nat.pow_le_pow_right (by decide) hk

/-- `(1 << k) - 1` -/
theorem maskOf_eq (k : Nat) (hk : k ≤ 30) : maskOf k = 2 ^ k - 1 := by
  have h1 : (2 ^ k : Nat) ≤ 2 ^ 30 := Nat.pow_le_pow_right (by decide) hk
  have h2 : 0 < (2 ^ k : Nat) := Nat.two_pow_pos k
  simp only [maskOf, shl32, wrap32, toU32]
  generalize (2 ^ k : Nat) = p at *
  omega

theorem ofU32_small (n : Nat) (h : n < 2147483648) : ofU32 n = n := by
  unfold ofU32; rw [if_pos h]

/-- `v & ((1 << k) - 1)` is `v mod 2^k` (floor) for any i32 `v` -/
theorem and32_maskOf (v : Int) (k : Nat) (hk : k ≤ 30) :
    and32 v (maskOf k) = v % ((2 ^ k : Nat) : Int) := by
  have h1 : (2 ^ k : Nat) ≤ 2 ^ 30 := Nat.pow_le_pow_right (by decide) hk
  have h2 : toU32 v % 2 ^ k < 2 ^ k := Nat.mod_lt _ (Nat.two_pow_pos k)
  have hd : ((2 ^ k : Nat) : Int) ∣ 4294967296 :=
    Int.natCast_dvd_natCast.mpr (Nat.pow_dvd_pow 2 (show k ≤ 32 by omega))
  rw [maskOf_eq k hk, and32, Nat.and_two_pow_sub_one_eq_mod, ofU32_small _ (by omega), toU32, Int.natCast_emod,
    Int.toNat_of_nonneg (Int.emod_nonneg _ (by decide)), Int.emod_emod_of_dvd _ hd]

/-- `wrapping_add` then mask -/
theorem addMask_eq (a b : Int) (k : Nat) (hk : k ≤ 16)
    (ha : -1073741824 ≤ a ∧ a < 1073741824) (hb : -1073741824 ≤ b ∧ b < 1073741824) :
    addMask a b (maskOf k) = (a + b) % ((2 ^ k : Nat) : Int) := by
  unfold addMask
  rw [wrap32_id _ (by omega) (by omega), and32_maskOf _ _ (by omega)]

theorem signExtend_int (v : Int) (k : Nat) (hk : 1 ≤ k) (hk' : k ≤ 16) (h0 : 0 ≤ v)
    (h1 : v < ((2 ^ k : Nat) : Int)) : signExtend v k = sext k v.toNat := by
  have := signExtend_eq k v.toNat hk (by omega) (by omega)
  rwa [Int.toNat_of_nonneg h0] at this

theorem sext_range (k v : Nat) (hk : 1 ≤ k) (hv : v < 2 ^ k) :
    -((2 ^ (k - 1) : Nat) : Int) ≤ sext k v ∧ sext k v < ((2 ^ (k - 1) : Nat) : Int) := by
  have : 2 ^ k = 2 * 2 ^ (k - 1) := by
    rw [← Nat.pow_succ']; congr 1; omega
  unfold sext; split <;> omega

theorem sext_bound (k v : Nat) (hk : k ≤ 16) (hv : v < 2 ^ k) : -65536 ≤ sext k v ∧ sext k v < 65536 := by
  have := two_pow_le_65536 k hk
  unfold sext; split <;> omega


/-- value-level form of `Bc6Spec.endpoint` (raw field values instead of a block) -/
def endpointV (prec d : Nat) (transformed signed : Bool) (base raw e : Nat) : Int :=
  let base' : Int := if signed then sext prec base else base
  if e = 0 then base'
  else
    if transformed then
      let sum : Int := base' + sext d raw
      let wrapped : Nat := (sum % ((2 ^ prec : Nat) : Int)).toNat
      if signed then sext prec wrapped else wrapped
    else if signed then sext d raw else raw

theorem endpoint_eq_V (r : ModeRec) (signed : Bool) (b c e : Nat) :
    Bc6Spec.endpoint r signed b c e =
      endpointV r.prec (deltaW r c) r.transformed signed (rawField r b c 0) (rawField r b c e) e := rfl

theorem endpointV_zero (prec d : Nat) (tr signed : Bool) (base raw : Nat) :
    endpointV prec d tr signed base raw 0 = endpointV prec d tr signed base 0 0 := rfl

def inRange (signed : Bool) (p : Nat) (v : Int) : Prop :=
  if signed then -((2 ^ (p - 1) : Nat) : Int) ≤ v ∧ v < ((2 ^ (p - 1) : Nat) : Int) else 0 ≤ v ∧ v < ((2 ^ p : Nat) : Int)

theorem wrapped_lt (s : Int) (p : Nat) : (s % ((2 ^ p : Nat) : Int)).toNat < 2 ^ p := by
  have h2 : 0 < (2 ^ p : Nat) := Nat.two_pow_pos p
  have h3 : s % ((2 ^ p : Nat) : Int) < ((2 ^ p : Nat) : Int) := Int.emod_lt_of_pos _ (by omega)
  have h4 : 0 ≤ s % ((2 ^ p : Nat) : Int) := Int.emod_nonneg _ (by omega)
  omega

theorem endpointV_inRange (prec d : Nat) (tr signed : Bool) (base raw e : Nat)
    (hp : 6 ≤ prec) (hp' : prec ≤ 16) (hd : 1 ≤ d) (hd' : d ≤ prec) (hnt : tr = false → d = prec)
    (hb : base < 2 ^ prec) (hr : raw < 2 ^ d) : inRange signed prec (endpointV prec d tr signed base raw e) := by
  have hs := sext_range prec base (by omega) hb
  have hw := fun s => wrapped_lt s prec
  cases signed <;> cases tr <;> simp only [inRange, endpointV, Bool.false_eq_true, if_false, if_true]
  · obtain rfl := hnt rfl
    split <;> omega
  · split
    · omega
    · have := hw ((base : Int) + sext d raw)
      omega
  · obtain rfl := hnt rfl
    have := sext_range d raw hd hr
    split <;> omega
  · split
    · omega
    · exact sext_range prec _ (by omega) (hw _)

/-- the code's per-endpoint computation in a transformed mode, unsigned -/
theorem ep_tr_unsigned (p d w x : Nat) (hp : p ≤ 16) (hd : d ≤ 16) (hw : w < 2 ^ p) (hx : x < 2 ^ d) :
    addMask (sext d x) (w : Int) (maskOf p) =
      ((((w : Int) + sext d x) % ((2 ^ p : Nat) : Int)).toNat : Int) := by
  have h1 := sext_bound d x hd hx
  have h2 := two_pow_le_65536 p hp
  have h3 : 0 < (2 ^ p : Nat) := Nat.two_pow_pos p
  rw [addMask_eq _ _ _ hp (by omega) (by omega), Int.add_comm,
    Int.toNat_of_nonneg (Int.emod_nonneg _ (by omega))]

/-- the code's per-endpoint computation in a transformed mode, signed -/
theorem ep_tr_signed (p d w x : Nat) (hp0 : 1 ≤ p) (hp : p ≤ 16) (hd : d ≤ 16) (hw : w < 2 ^ p) (hx : x < 2 ^ d) :
    signExtend (addMask (sext d x) (sext p w) (maskOf p)) p =
      sext p ((sext p w + sext d x) % ((2 ^ p : Nat) : Int)).toNat := by
  have h1 := sext_bound d x hd hx
  have h2 := sext_bound p w hp hw
  have h3 : 0 < (2 ^ p : Nat) := Nat.two_pow_pos p
  rw [addMask_eq _ _ _ hp (by omega) (by omega), Int.add_comm]
  exact signExtend_int _ _ hp0 hp (Int.emod_nonneg _ (by omega)) (Int.emod_lt_of_pos _ (by omega))

theorem addMask_comm (a b : Int) (m : Nat) : addMask a b m = addMask b a m := by
  unfold addMask; rw [Int.add_comm]

/-- two-region endpoint decompression of one channel = the spec's endpoint formula.  `d` is the delta width of
that channel: one of the three components of `m.deltaBitCount`. -/
theorem decompressTwoChan_eq (m : ModeTwo) (signed : Bool) (d w x y z : Nat)
    (hd : d = m.deltaBitCount.1 ∨ d = m.deltaBitCount.2.1 ∨ d = m.deltaBitCount.2.2)
    (hw : w < 2 ^ m.a0BitCount) (hx : x < 2 ^ d) (hy : y < 2 ^ d) (hz : z < 2 ^ d) :
    decompressTwoChan m signed d (w : Int) (x : Int) (y : Int) (z : Int) =
      [endpointV m.a0BitCount d m.transformed signed w w 0, endpointV m.a0BitCount d m.transformed signed w x 1,
       endpointV m.a0BitCount d m.transformed signed w y 2, endpointV m.a0BitCount d m.transformed signed w z 3] := by
  have hp : 1 ≤ m.a0BitCount ∧ m.a0BitCount ≤ 16 := by cases m <;> decide
  have hd' : 1 ≤ d ∧ d ≤ 16 := by
    cases m <;> simp only [ModeTwo.deltaBitCount] at hd <;> omega
  have n1 : ¬ (1 : Nat) = 0 := by decide
  have n2 : ¬ (2 : Nat) = 0 := by decide
  have n3 : ¬ (3 : Nat) = 0 := by decide
  cases signed <;> cases htr : m.transformed <;>
    simp only [decompressTwoChan, endpointV, htr, Bool.false_eq_true, if_false, if_true, Bool.or_false,
      Bool.or_true, Bool.or_self, n1, n2, n3,
      signExtend_eq _ _ hp.1 (Nat.le_trans hp.2 (by decide)) hw, signExtend_eq _ _ hd'.1 (Nat.le_trans hd'.2 (by decide)) hx, signExtend_eq _ _ hd'.1 (Nat.le_trans hd'.2 (by decide)) hy,
      signExtend_eq _ _ hd'.1 (Nat.le_trans hd'.2 (by decide)) hz,
      ep_tr_unsigned _ _ _ _ hp.2 hd'.2 hw hx, ep_tr_unsigned _ _ _ _ hp.2 hd'.2 hw hy,
      ep_tr_unsigned _ _ _ _ hp.2 hd'.2 hw hz,
      ep_tr_signed _ _ _ _ hp.1 hp.2 hd'.2 hw hx, ep_tr_signed _ _ _ _ hp.1 hp.2 hd'.2 hw hy,
      ep_tr_signed _ _ _ _ hp.1 hp.2 hd'.2 hw hz]

theorem decompressOneChan_eq (m : ModeOne) (signed : Bool) (a b : Nat)
    (ha : a < 2 ^ m.a0BitCount) (hb : b < 2 ^ m.b0BitCount) :
    decompressOneChan m signed (a : Int) (b : Int) =
      [endpointV m.a0BitCount m.b0BitCount m.transformed signed a a 0,
       endpointV m.a0BitCount m.b0BitCount m.transformed signed a b 1] := by
  have hp : 1 ≤ m.a0BitCount ∧ m.a0BitCount ≤ 16 := by cases m <;> decide
  have hd' : 1 ≤ m.b0BitCount ∧ m.b0BitCount ≤ 16 := by cases m <;> decide
  have n1 : ¬ (1 : Nat) = 0 := by decide
  cases signed <;> cases htr : m.transformed <;>
    simp only [decompressOneChan, endpointV, htr, Bool.false_eq_true, if_false, if_true, Bool.or_false,
      Bool.or_true, Bool.or_self, n1,
      signExtend_eq _ _ hp.1 (Nat.le_trans hp.2 (by decide)) ha, signExtend_eq _ _ hd'.1 (Nat.le_trans hd'.2 (by decide)) hb, addMask_comm _ (sext m.b0BitCount b),
      ep_tr_unsigned _ _ _ _ hp.2 hd'.2 ha hb,
      ep_tr_signed _ _ _ _ hp.1 hp.2 hd'.2 ha hb]


/-- `unquantize`: every wrap32 is the identity; equals the spec; result range.  Only `P = 2^bits ≤ 2^14` (below the
pass-through widths 15 / 16) enters: `c·2^16 + 2^15 < 2^31`, and the quotient by `P` stays below `2^16` because
`c ≤ P - 2` in that branch; the signed case is the same on `|c|` with `2^(bits-1)`. -/
theorem unquantize_eq (signed : Bool) (bits : Nat) (c : Int) (hbits : bits ≤ 16) (hc : inRange signed bits c) :
    Bc6.unquantize c bits signed = Bc6Spec.unquantize signed bits c ∧
    (if signed then -32768 ≤ Bc6Spec.unquantize signed bits c ∧ Bc6Spec.unquantize signed bits c ≤ 32767
     else 0 ≤ Bc6Spec.unquantize signed bits c ∧ Bc6Spec.unquantize signed bits c ≤ 65535) := by
  cases signed <;>
    simp only [inRange, Bc6.unquantize, Bc6Spec.unquantize, shl32, sar32, Int.one_mul, Bool.not_true, Bool.not_false,
      Bool.false_eq_true, if_false, if_true] at hc ⊢
  · by_cases h15 : bits ≥ 15
    · have := two_pow_le_65536 bits hbits
      simp only [h15, if_true, true_and]
      omega
    · have hP : (2 ^ bits : Nat) ≤ 2 ^ 14 := Nat.pow_le_pow_right (by decide) (by omega)
      have hP0 := Nat.two_pow_pos bits
      simp only [h15, if_false, Nat.reducePow, Int.cast_ofNat_Int]
      generalize (2 ^ bits : Nat) = P at *
      simp (disch := omega) only [wrap32_id]
      refine ⟨trivial, ?_⟩
      split
      · omega
      · split
        · omega
        · exact ⟨Int.ediv_nonneg (by omega) (by omega),
            Int.le_of_lt_add_one (Int.ediv_lt_of_lt_mul (by omega) (by omega))⟩
  · by_cases h16 : bits ≥ 16
    · obtain rfl : bits = 16 := by omega
      simp only [h16, if_true, true_and]
      omega
    · have hQ : (2 ^ (bits - 1) : Nat) ≤ 2 ^ 14 := Nat.pow_le_pow_right (by decide) (by omega)
      have hQ0 := Nat.two_pow_pos (bits - 1)
      simp only [h16, if_false, Nat.reducePow, Int.cast_ofNat_Int]
      generalize (2 ^ (bits - 1) : Nat) = Q at *
      have habs : (if c < 0 then wrap32 (-c) else c) = (c.natAbs : Int) := by
        split
        · rw [wrap32_id _ (by omega) (by omega)]; omega
        · omega
      have hm : c.natAbs ≤ Q := by omega
      rw [habs]
      generalize c.natAbs = m at *
      have hD : m + 1 < Q → (m * 32768 + 16384) / Q ≤ 32767 := fun h =>
        Nat.le_of_lt_succ ((Nat.div_lt_iff_lt_mul hQ0).mpr (by omega))
      have hcast : ((m : Int) * 32768 + 16384) / (Q : Int) = (((m * 32768 + 16384) / Q : Nat) : Int) := rfl
      simp (disch := omega) only [wrap32_id]
      rw [hcast]
      generalize (m * 32768 + 16384) / Q = D at *
      by_cases hneg : c < 0 <;> simp only [hneg, if_true, if_false]
      · rw [wrap32_id _ (by (repeat' split) <;> omega) (by (repeat' split) <;> omega)]
        (repeat' split) <;> omega
      · (repeat' split) <;> omega


theorem finishUnquantize_unsigned (e : Int) (he : 0 ≤ e ∧ e ≤ 65535) :
    finishUnquantize e false = Bc6Spec.finish false e := by
  simp only [finishUnquantize, Bc6Spec.finish, sar32, Nat.reducePow, Int.cast_ofNat_Int, Bool.not_false, if_true]
  simp (disch := omega) only [wrap32_id]
  simp only [toU32, U16]
  have hd : 0 ≤ e * 31 / 64 ∧ e * 31 / 64 ≤ 65535 := by omega
  generalize e * 31 / 64 = d at *
  omega

theorem finishUnquantize_signed (e : Int) (he : -32768 ≤ e ∧ e ≤ 32767) :
    finishUnquantize e true = Bc6Spec.finish true e := by
  have hm : e.natAbs * 31 / 32 < 32768 := by omega
  -- the shifted magnitude with the sign of `e`; then sign bit and magnitude are put together
  have hC : (if e < 0 then wrap32 (-(sar32 (wrap32 (wrap32 (-e) * 31)) 5)) else sar32 (wrap32 (e * 31)) 5)
      = if e < 0 then -((e.natAbs * 31 / 32 : Nat) : Int) else ((e.natAbs * 31 / 32 : Nat) : Int) := by
    simp only [sar32, Nat.reducePow, Int.cast_ofNat_Int]
    simp (disch := omega) only [wrap32_id]
    split <;> omega
  simp only [finishUnquantize, Bc6Spec.finish, Bool.not_true, Bool.false_eq_true, if_false, hC]
  generalize e.natAbs * 31 / 32 = m at *
  have hU : toU32 (m : Int) = m := by unfold toU32; omega
  by_cases hs : e < 0 ∧ m ≠ 0
  · rw [if_pos hs.1, if_pos hs, if_pos (by omega), if_pos (by omega), wrap32_id _ (by omega) (by omega),
      Int.neg_neg, hU, or_sign m hm]
    exact Nat.mod_eq_of_lt (by show _ < 65536; omega)
  · have h1 : (if e < 0 then -(m : Int) else m) = m := by split <;> omega
    rw [h1, if_neg hs, if_neg (by omega), if_neg (by omega), hU, Nat.zero_or]
    exact Nat.mod_eq_of_lt (by show _ < 65536; omega)
theorem lerp_terms_bound (lo hi a b : Int) (w : Nat) (hlo : lo ≤ 0) (hhi : 0 ≤ hi) (hw : w ≤ 64)
    (ha : lo ≤ a ∧ a ≤ hi) (hb : lo ≤ b ∧ b ≤ hi) :
    (lo * 64 ≤ a * (64 - (w : Int)) ∧ a * (64 - (w : Int)) ≤ hi * 64) ∧
    (lo * 64 ≤ b * (w : Int) ∧ b * (w : Int) ≤ hi * 64) ∧
    lo * 64 ≤ a * (64 - (w : Int)) + b * (w : Int) ∧ a * (64 - (w : Int)) + b * (w : Int) ≤ hi * 64 := by
  have hw0 : (0 : Int) ≤ 64 - (w : Int) := by omega
  have hw1 : (0 : Int) ≤ (w : Int) := by omega
  have h1 := Int.mul_le_mul_of_nonneg_right ha.2 hw0
  have h2 := Int.mul_le_mul_of_nonneg_right ha.1 hw0
  have h3 := Int.mul_le_mul_of_nonneg_right hb.2 hw1
  have h4 := Int.mul_le_mul_of_nonneg_right hb.1 hw1
  have h5 := Int.mul_le_mul_of_nonneg_left (show (w : Int) ≤ 64 by omega) hhi
  have h6 := Int.mul_le_mul_of_nonpos_left hlo (show (w : Int) ≤ 64 by omega)
  have h7 := Int.mul_nonneg hhi hw1
  have h8 := Int.mul_nonpos_of_nonpos_of_nonneg hlo hw1
  rw [Int.mul_sub hi] at h1
  rw [Int.mul_sub lo] at h2
  generalize hi * (w : Int) = X at *
  generalize lo * (w : Int) = Y at *
  omega

theorem lerp_range (signed : Bool) (a b : Int) (w : Nat) (hw : w ≤ 64)
    (ha : if signed then -32768 ≤ a ∧ a ≤ 32767 else 0 ≤ a ∧ a ≤ 65535)
    (hb : if signed then -32768 ≤ b ∧ b ≤ 32767 else 0 ≤ b ∧ b ≤ 65535) :
    (-4194304 ≤ a * (64 - (w : Int)) ∧ a * (64 - (w : Int)) ≤ 4194304) ∧
    (-4194304 ≤ b * (w : Int) ∧ b * (w : Int) ≤ 4194304) ∧
    (if signed then -32768 ≤ (a * (64 - (w : Int)) + b * (w : Int) + 32) / 64 ∧
        (a * (64 - (w : Int)) + b * (w : Int) + 32) / 64 ≤ 32767
      else 0 ≤ (a * (64 - (w : Int)) + b * (w : Int) + 32) / 64 ∧
        (a * (64 - (w : Int)) + b * (w : Int) + 32) / 64 ≤ 65535) := by
  cases signed <;> simp only [Bool.false_eq_true, if_false, if_true] at ha hb ⊢
  · have := lerp_terms_bound 0 65535 a b w (by decide) (by decide) hw ha hb
    omega
  · have := lerp_terms_bound (-32768) 32767 a b w (by decide) (by decide) hw ha hb
    omega

/-- the interpolation sum and shift without wraps (`A = a * (64 - w)`, `B = b * w`) -/
theorem lerp_core (A B : Int) (hA : -4194304 ≤ A ∧ A ≤ 4194304) (hB : -4194304 ≤ B ∧ B ≤ 4194304) :
    sar32 (wrap32 (wrap32 (wrap32 A + wrap32 B) + 32)) 6 = (A + B + 32) / 64 := by
  simp only [sar32, Nat.reducePow, Int.cast_ofNat_Int]
  simp (disch := omega) only [wrap32_id]

/-- interpolate + finish_unquantize: every wrap32 is the identity; equals the spec.  For every weight 0..64. -/
theorem paletteEntry_eq (signed : Bool) (a b : Int) (w : Nat) (hw : w ≤ 64)
    (ha : if signed then -32768 ≤ a ∧ a ≤ 32767 else 0 ≤ a ∧ a ≤ 65535)
    (hb : if signed then -32768 ≤ b ∧ b ≤ 32767 else 0 ≤ b ∧ b ≤ 65535) :
    paletteEntry a b w signed = Bc6Spec.finish signed (Bc6Spec.lerp a b w) := by
  obtain ⟨hA, hB, hS⟩ := lerp_range signed a b w hw ha hb
  unfold paletteEntry Bc6Spec.lerp
  rw [wrap32_id (64 - (w : Int)) (by omega) (by omega), lerp_core _ _ hA hB]
  cases signed <;> simp only [Bool.false_eq_true, if_false, if_true] at hS
  · exact finishUnquantize_unsigned _ hS
  · exact finishUnquantize_signed _ hS

end Dds.Bc6
