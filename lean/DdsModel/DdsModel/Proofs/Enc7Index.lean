/-
C13 / BC7 writer: the index lists.

* `compress_single_index` removes one bit (`remZ`), the exact inverse of the decoder's zero-bit insertion (`Bc7.insZ`,
  C03x) whenever the removed bit is 0;
* `ensure_msb_zero` with the mask of a subset inverts exactly the indexes of that subset (`v ↦ MAX - v`) and leaves the
  anchor's top bit 0;
* `compress_single_index` for all anchors of a partition followed by the decoder's `Indexes::new_p1 / p2 / p3` (same
  fix-up tables) is the identity on a word whose anchor entries have top bit 0 (`newP_compress`; the anchors are a
  descending list, `Bc7.insTops` / `remTops`).
-/
import DdsModel.Proofs.Enc7Stream
namespace Dds.Enc7
open Dds Dds.BcTables Dds.Bc7


/-- `x` without bit `k` -/
def remZ (x k : Nat) : Nat := x % 2 ^ k + 2 ^ k * (x / 2 ^ (k + 1))

theorem remZ_testBit (x k j : Nat) : (remZ x k).testBit j = if j < k then x.testBit j else x.testBit (j + 1) := by
  unfold remZ
  have hlt : x % 2 ^ k < 2 ^ k := Nat.mod_lt _ (Nat.two_pow_pos k)
  rw [Nat.add_comm, Nat.testBit_two_pow_mul_add _ hlt, Nat.testBit_mod_two_pow, Nat.testBit_div_two_pow]
  by_cases h : j < k
  · simp [h]
  · have e : j - k + (k + 1) = j + 1 := by omega
    simp [h, e]

theorem insZ_remZ (x k : Nat) (h : x.testBit k = false) : insZ (remZ x k) k = x := by
  apply Nat.eq_of_testBit_eq; intro j
  rw [insZ_testBit, remZ_testBit, remZ_testBit]
  by_cases h1 : j < k
  · simp [h1]
  · by_cases h2 : j = k
    · subst h2; simp [h]
    · have h3 : ¬ j - 1 < k := by omega
      have e : j - 1 + 1 = j := by omega
      simp [h1, h2, h3, e]

theorem remZ_lt (x k n : Nat) (hx : x < 2 ^ (n + 1)) (hk : k ≤ n) : remZ x k < 2 ^ n := by
  apply Nat.lt_pow_two_of_testBit
  intro j hj
  rw [remZ_testBit]
  have : ¬ j < k := by omega
  simp only [this, if_false]
  exact Nat.testBit_lt_two_pow (Nat.lt_of_lt_of_le hx (Nat.pow_le_pow_right (by decide) (by omega)))

theorem and_two_pow_ne_zero (x k : Nat) : ((x &&& 2 ^ k) != 0) = x.testBit k := by
  cases h : x.testBit k
  · have : x &&& 2 ^ k = 0 := by
      apply Nat.eq_of_testBit_eq; intro j
      rw [Nat.testBit_and, Nat.testBit_two_pow, Nat.zero_testBit]
      by_cases hj : k = j
      · subst hj; simp [h]
      · simp [hj]
    simp [this]
  · have : (x &&& 2 ^ k).testBit k = true := by
      rw [Nat.testBit_and, Nat.testBit_two_pow_self, h]; rfl
    have hne : x &&& 2 ^ k ≠ 0 := by
      intro h0; rw [h0, Nat.zero_testBit] at this; cases this
    simp [hne]

theorem msbMask_eq (I index : Nat) (hI : I = 2 ∨ I = 3 ∨ I = 4) (hi : index < 16) :
    (1 <<< ((I - 1 + index * I) % U8)) % U64 = 2 ^ (index * I + I - 1) := by
  have h1 : (I - 1 + index * I) % U8 = index * I + I - 1 := by
    rcases hI with h | h | h <;> subst h <;> rw [U8_eq] <;> omega
  rw [h1, Nat.one_shiftLeft]
  apply Nat.mod_eq_of_lt
  rw [U64_eq]
  exact Nat.pow_lt_pow_right (by decide) (by rcases hI with h | h | h <;> subst h <;> omega)

/-- `compress_single_index` drops the top bit of entry `index` -/
theorem compressSingleIndex_eq (I x index : Nat) (hI : I = 2 ∨ I = 3 ∨ I = 4) (hi : index < 16) (hx : x < 2 ^ 64) :
    compressSingleIndex I x index = remZ x (index * I + I - 1) := by
  have hk : index * I + I - 1 < 64 := by rcases hI with h | h | h <;> subst h <;> omega
  have hpow : 2 ^ (index * I + I - 1) < 2 ^ 64 := Nat.pow_lt_pow_right (by decide) hk
  have hpos : 0 < 2 ^ (index * I + I - 1) := Nat.two_pow_pos _
  have hxbit : ∀ j, 64 ≤ j → x.testBit j = false := by
    intro j hj
    exact Nat.testBit_lt_two_pow (Nat.lt_of_lt_of_le hx (Nat.pow_le_pow_right (by decide) hj))
  have hbefore : (2 ^ (index * I + I - 1) + U64 - 1) % U64 = 2 ^ (index * I + I - 1) - 1 := by
    rw [U64_eq]
    generalize 2 ^ (index * I + I - 1) = t at *
    omega
  have hc := compl_testBit (index * I + I - 1)
  simp only [U64_eq] at hc
  apply Nat.eq_of_testBit_eq; intro j
  simp only [compressSingleIndex, msbMask_eq I index hI hi]
  rw [hbefore]
  simp only [U64_eq, Nat.and_two_pow_sub_one_eq_mod,
    Nat.testBit_or, Nat.testBit_and, hc, Nat.testBit_shiftLeft, Nat.testBit_shiftRight, Nat.testBit_mod_two_pow,
    remZ_testBit]
  generalize index * I + I - 1 = K at *
  clear hpow hpos hbefore hc hx hI
  by_cases h1 : j < K
  · bsimp
  · by_cases h4 : 1 + j < 64
    · bsimp
      have e : j + 1 = 1 + j := by omega
      rw [e]
    · have := hxbit (1 + j) (by omega)
      have e : j + 1 = 1 + j := by omega
      bsimp
      rw [e, this]


theorem maxIndex_eq (I : Nat) (hI : I = 2 ∨ I = 3 ∨ I = 4) : MAX_INDEX I = 2 ^ I - 1 := by
  rcases hI with h | h | h <;> subst h <;> decide

theorem indexesMask_eq (I : Nat) (hI : I = 2 ∨ I = 3 ∨ I = 4) : INDEXES_MASK I = 2 ^ (16 * I) - 1 := by
  rcases hI with h | h | h <;> subst h <;> decide

theorem get_eq_fld (I x i : Nat) (hI : I = 2 ∨ I = 3 ∨ I = 4) : get I x i = fld x (i * I) I := by
  have hle : 2 ^ I ≤ U8 := by rcases hI with h | h | h <;> subst h <;> decide
  have hlt : x >>> (i * I) % 2 ^ I < U8 := Nat.lt_of_lt_of_le (Nat.mod_lt _ (Nat.two_pow_pos I)) hle
  simp only [get, fld, maxIndex_eq I hI, Nat.and_two_pow_sub_one_eq_mod, Nat.mod_eq_of_lt hlt]

theorem get_lt (I x i : Nat) (hI : I = 2 ∨ I = 3 ∨ I = 4) : get I x i < 2 ^ I := by
  rw [get_eq_fld I x i hI]; exact Nat.mod_lt _ (Nat.two_pow_pos I)

/-- the decoder's `get_index` on an uncompressed word = the encoder's `get` -/
theorem getIndex_eq_get (I x i : Nat) (hI : I = 2 ∨ I = 3 ∨ I = 4) :
    getIndex ⟨x, I, getMask I⟩ i = get I x i := by
  rw [getIndex_eq x I i (by omega), get_eq_fld I x i hI]

theorem msb_get (I x i : Nat) (hI : I = 2 ∨ I = 3 ∨ I = 4) :
    (get I x i).testBit (I - 1) = x.testBit (i * I + I - 1) := by
  rw [get_eq_fld I x i hI, fld_testBit]
  have : I - 1 < I := by omega
  have e : i * I + (I - 1) = i * I + I - 1 := by omega
  simp [this, e]

theorem fld_xor (x m q n : Nat) : fld (x ^^^ m) q n = fld x q n ^^^ fld m q n := by
  apply Nat.eq_of_testBit_eq; intro j
  simp only [fld_testBit, Nat.testBit_xor]
  by_cases hj : j < n <;> simp [hj]

theorem xor_max (I : Nat) (hI : I = 2 ∨ I = 3 ∨ I = 4) : ∀ v, v < 2 ^ I → v ^^^ (2 ^ I - 1) = 2 ^ I - 1 - v := by
  rcases hI with h | h | h <;> subst h <;> decide

theorem inv_msb (I : Nat) (hI : I = 2 ∨ I = 3 ∨ I = 4) :
    ∀ v, v < 2 ^ I → v.testBit (I - 1) = true → (2 ^ I - 1 - v).testBit (I - 1) = false := by
  rcases hI with h | h | h <;> subst h <;> decide

/-- `m` is exactly the union of the `I`-bit groups of the pixels selected by `S` -/
def IsMask (I m : Nat) (S : Nat → Bool) : Prop :=
  m < 2 ^ (16 * I) ∧ ∀ i, i < 16 → fld m (i * I) I = if S i then 2 ^ I - 1 else 0

theorem get_xor_mask (I x m : Nat) (S : Nat → Bool) (hI : I = 2 ∨ I = 3 ∨ I = 4) (hm : IsMask I m S) (i : Nat)
    (hi : i < 16) : get I (x ^^^ m) i = if S i then 2 ^ I - 1 - get I x i else get I x i := by
  rw [get_eq_fld _ _ _ hI, get_eq_fld _ _ _ hI, fld_xor, hm.2 i hi]
  cases S i
  · simp
  · simp only [if_true]
    exact xor_max I hI _ (Nat.mod_lt _ (Nat.two_pow_pos I))

/-- one `ensure_msb_zero(a, mask)` with the mask of a subset that contains pixel `a` -/
theorem ensure_step (I x a m : Nat) (S : Nat → Bool) (hI : I = 2 ∨ I = 3 ∨ I = 4) (ha : a < 16)
    (hx : x < 2 ^ (16 * I)) (hm : IsMask I m S) (hSa : S a = true) :
    (ensureMsbZero I x a m).1 < 2 ^ (16 * I) ∧
    (ensureMsbZero I x a m).1.testBit (a * I + I - 1) = false ∧
    ∀ i, i < 16 → get I (ensureMsbZero I x a m).1 i =
      if (ensureMsbZero I x a m).2 && S i then 2 ^ I - 1 - get I x i else get I x i := by
  have hsw : (ensureMsbZero I x a m).2 = x.testBit (a * I + I - 1) := by
    simp only [ensureMsbZero, msbMask_eq I a hI ha, and_two_pow_ne_zero]
  have hval : (ensureMsbZero I x a m).1 = if x.testBit (a * I + I - 1) then x ^^^ m else x := by
    simp only [ensureMsbZero, msbMask_eq I a hI ha, and_two_pow_ne_zero]
  rw [hsw, hval]
  cases hb : x.testBit (a * I + I - 1)
  · simp only [Bool.false_eq_true, if_false, Bool.false_and]
    exact ⟨hx, hb, fun _ _ => trivial⟩
  · simp only [if_true, Bool.true_and]
    refine ⟨Nat.xor_lt_two_pow hx hm.1, ?_, fun i hi => get_xor_mask I x m S hI hm i hi⟩
    rw [← msb_get I _ a hI, get_xor_mask I x m S hI hm a ha, hSa]
    simp only [if_true]
    apply inv_msb I hI _ (get_lt I x a hI)
    rw [msb_get I x a hI, hb]

theorem testBit_of_get_eq (I x y i : Nat) (hI : I = 2 ∨ I = 3 ∨ I = 4) (h : get I x i = get I y i) :
    x.testBit (i * I + I - 1) = y.testBit (i * I + I - 1) := by
  rw [← msb_get I x i hI, ← msb_get I y i hI, h]


/-- `x` without the top bits of the entries `as` (descending: every position is a position in `x`) -/
def remTops (w x : Nat) (as : List Nat) : Nat := as.foldl (fun y a => remZ y (a * w + w - 1)) x

theorem remTops_cons (w x a : Nat) (as : List Nat) : remTops w x (a :: as) = remTops w (remZ x (a * w + w - 1)) as := rfl

theorem insTops_remTops (w x : Nat) (as : List Nat) (hw : 0 < w) (hd : as.Pairwise (· > ·))
    (hz : ∀ a ∈ as, x.testBit (a * w + w - 1) = false) : insTops w (remTops w x as) as = x := by
  induction as generalizing x with
  | nil => rfl
  | cons a as ih =>
    obtain ⟨ha, hd⟩ := List.pairwise_cons.mp hd
    rw [remTops_cons, insTops_cons, ih _ hd, insZ_remZ x _ (hz a (List.mem_cons_self ..))]
    intro a' h'
    have := top_lt w a' a hw (ha a' h')
    rw [remZ_testBit, if_pos (by omega)]
    exact hz a' (List.mem_cons_of_mem _ h')

theorem remTops_lt (w x n : Nat) (as : List Nat) (hw : 0 < w) (hd : as.Pairwise (· > ·))
    (hx : x < 2 ^ (n + as.length)) (hT : ∀ a ∈ as, a * w + w - 1 < n + as.length) : remTops w x as < 2 ^ n := by
  induction as generalizing x with
  | nil => exact hx
  | cons a as ih =>
    obtain ⟨ha, hd⟩ := List.pairwise_cons.mp hd
    have haT := hT a (List.mem_cons_self ..)
    simp only [List.length_cons] at hx haT
    refine ih _ hd (remZ_lt x _ _ hx (by omega)) fun a' h' => ?_
    have := top_lt w a' a hw (ha a' h')
    omega

theorem remZ_le (x k : Nat) : remZ x k ≤ x := by
  unfold remZ
  have h1 : x / 2 ^ (k + 1) ≤ x / 2 ^ k := Nat.div_le_div_left (Nat.pow_le_pow_right (by decide) (by omega)) (Nat.two_pow_pos k)
  have h2 := Nat.mul_le_mul_left (2 ^ k) h1
  have h3 := Nat.div_add_mod x (2 ^ k)
  omega

theorem compress_all (w x : Nat) (as : List Nat) (hb : w = 2 ∨ w = 3 ∨ w = 4) (h16 : ∀ a ∈ as, a < 16)
    (hx : x < 2 ^ 64) : as.foldl (compressSingleIndex w) x = remTops w x as := by
  induction as generalizing x with
  | nil => rfl
  | cons a as ih =>
    rw [List.foldl_cons, compressSingleIndex_eq w x a hb (h16 a (List.mem_cons_self ..)) hx, remTops_cons]
    exact ih _ (fun a' h' => h16 a' (List.mem_cons_of_mem _ h')) (Nat.lt_of_le_of_lt (remZ_le x _) hx)

/-- `compress_single_index` for all anchors (highest first), written as one field: `Indexes::new_p1 / p2 / p3` with the
same anchors reads the word back -/
theorem newP_compress (w x : Nat) (as : List Nat) (rest : List (Nat × Nat)) (hb : w = 2 ∨ w = 3 ∨ w = 4)
    (hd : as.Pairwise (· > ·)) (h16 : ∀ a ∈ as, a < 16) (h0 : 0 < as.length) (hx : x < 2 ^ (16 * w))
    (hz : ∀ a ∈ as, x.testBit (a * w + w - 1) = false) :
    as.foldl (compressSingleIndex w) x < 2 ^ (16 * w - as.length) ∧
    newP w (fv ((as.foldl (compressSingleIndex w) x, 16 * w - as.length) :: rest)) as = (⟨x, w, getMask w⟩, fv rest) := by
  have hw : 0 < w := by omega
  have hlen := length_le_of_desc 16 as hd h16
  have hc : remTops w x as < 2 ^ (16 * w - as.length) :=
    remTops_lt w x _ as hw hd (by rw [Nat.sub_add_cancel (by omega)]; exact hx) fun a h => by
      have := top_lt w a 16 hw (h16 a h); omega
  rw [compress_all w x as hb h16 (Nat.lt_of_lt_of_le hx (Nat.pow_le_pow_right (by decide) (by omega)))]
  refine ⟨hc, ?_⟩
  rw [newP_of_read w _ _ _ as hb h16 hlen (consumeBits64_fv _ _ rest (by omega) hc) hc,
    insTops_remTops w x as hw hd hz]

end Dds.Enc7
