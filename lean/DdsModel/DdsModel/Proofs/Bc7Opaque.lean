/-
C13, opacity of BC7 blocks — decoder side, for EVERY block.

Over the specification-shaped decoder `Bc7Spec.decodeMode` (equal to the code-shaped `Bc7.decodeBlock` for every
block by `Bc7.decodeBlock_eq`, `Proofs/Bc7Glue.lean`): the alpha of a decoded pixel is the interpolation of the two endpoints (of the
pixel's subset) of the channel that the rotation field routes to alpha; if both are 255 the pixel is opaque.
Modes 0–3 store no alpha (both endpoints are the constant 255) and have no rotation field.
-/
import DdsModel.Proofs.Bc7Glue
namespace Dds.Bc7Spec
open Dds Dds.BcTables

/-- the channel of the interpolated colour that `rotate rot` moves into the alpha position -/
def alphaSrc (rot : Nat) : Nat := if rot = 1 then 0 else if rot = 2 then 1 else if rot = 3 then 2 else 3

def rotOf (m : Nat) (r : ModeRec) (b : Nat) : Nat := rd b (m + 1 + r.partBits) r.rotBits

theorem specWeights_le (bits idx : Nat) : (specWeights bits).getD idx 0 ≤ 64 := by
  have key : ∀ l : List Nat, (∀ x ∈ l, x ≤ 64) → l.getD idx 0 ≤ 64 := by
    intro l hl
    rw [List.getD_eq_getElem?_getD]
    cases h : l[idx]? with
    | none => simp
    | some v => exact hl v (List.mem_of_getElem? h)
  unfold specWeights
  split
  · exact key _ (by decide)
  · split
    · exact key _ (by decide)
    · exact key _ (by decide)

theorem interp_255 (w : Nat) (hw : w ≤ 64) : interp 255 255 w = 255 := by
  unfold interp
  have : (64 - w) * 255 + w * 255 = 64 * 255 := by rw [← Nat.add_mul]; congr 1; omega
  omega

theorem rotate_alpha (rot x0 x1 x2 x3 : Nat) :
    (rotate rot [x0, x1, x2, x3]).getD 3 0 = [x0, x1, x2, x3].getD (alphaSrc rot) 0 := by
  unfold rotate alphaSrc
  by_cases h1 : rot = 1
  · simp [h1]
  · by_cases h2 : rot = 2
    · simp [h2]
    · by_cases h3 : rot = 3
      · simp [h3]
      · simp [h1, h2, h3]

theorem alphaSrc_le (rot : Nat) : alphaSrc rot ≤ 3 := by
  unfold alphaSrc
  split
  · omega
  · split
    · omega
    · split <;> omega

theorem ite_le (c : Prop) [Decidable c] (x y n : Nat) (hx : x ≤ n) (hy : y ≤ n) : (if c then x else y) ≤ n := by
  split <;> assumption

/-- pixel `i` of `decodeMode`: if the two endpoints of its subset are 255 in the channel routed to alpha, the
decoded alpha is 255 -/
theorem decodeMode_alpha (m : Nat) (r : ModeRec) (b i : Nat) (hi : i < 16)
    (h0 : endpoint m r b (2 * specSubset r.subsets (rd b (m + 1) r.partBits) i) (alphaSrc (rotOf m r b)) = 255)
    (h1 : endpoint m r b (2 * specSubset r.subsets (rd b (m + 1) r.partBits) i + 1) (alphaSrc (rotOf m r b)) = 255) :
    ((decodeMode m r b).getD i []).getD 3 0 = 255 := by
  unfold decodeMode
  simp only [List.getD_eq_getElem?_getD, List.getElem?_map, List.getElem?_range hi, Option.map_some, Option.getD_some]
  simp only [← List.getD_eq_getElem?_getD]
  rw [rotate_alpha]
  unfold rotOf at h0 h1
  have hk := alphaSrc_le (rd b (m + 1 + r.partBits) r.rotBits)
  generalize alphaSrc (rd b (m + 1 + r.partBits) r.rotBits) = k at h0 h1 hk ⊢
  have hw := specWeights_le
  rcases (by omega : k = 0 ∨ k = 1 ∨ k = 2 ∨ k = 3) with h | h | h | h <;> subst h <;>
    simp only [List.getD_cons_zero, List.getD_cons_succ, h0, h1] <;>
    exact interp_255 _ (ite_le _ _ _ _ (hw _ _) (ite_le _ _ _ _ (hw _ _) (hw _ _)))

/-- modes without alpha bits: the alpha endpoint is the constant 255 -/
theorem noalpha_endpoint (m : Nat) (r : ModeRec) (b e : Nat) (ha : r.alphaBits = 0) : endpoint m r b e 3 = 255 := by
  simp [endpoint, ha]

theorem rotOf_zero (m : Nat) (r : ModeRec) (b : Nat) (h : r.rotBits = 0) : rotOf m r b = 0 := by
  unfold rotOf; rw [h]; exact Nat.mod_one _

/-- without a rotation field alpha comes from the alpha channel -/
theorem alphaSrc_of_no_rot (m : Nat) (r : ModeRec) (b : Nat) (h : r.rotBits = 0) : alphaSrc (rotOf m r b) = 3 := by
  rw [rotOf_zero m r b h]; rfl

/-- a mode that stores no alpha and has no rotation field decodes every pixel opaque -/
theorem decodeMode_opaque (m : Nat) (r : ModeRec) (b i : Nat) (hi : i < 16) (ha : r.alphaBits = 0) (h0 : r.rotBits = 0) :
    ((decodeMode m r b).getD i []).getD 3 0 = 255 := by
  have hs := alphaSrc_of_no_rot m r b h0
  refine decodeMode_alpha m r b i hi ?_ ?_ <;> rw [hs] <;> exact noalpha_endpoint m r b _ ha

/-- modes 0–3 store no alpha and have no rotation field -/
theorem modes_le3 (m : Nat) (h : m ≤ 3) : ∃ r, modes[m]? = some r ∧ r.alphaBits = 0 ∧ r.rotBits = 0 := by
  rcases (by omega : m = 0 ∨ m = 1 ∨ m = 2 ∨ m = 3) with rfl | rfl | rfl | rfl <;> exact ⟨_, rfl, rfl, rfl⟩

/-- the decoder of the code on a block whose mode has record `r` -/
theorem decodeBlock_mode (b : Nat) (r : ModeRec) (hr : modes[modeOf b]? = some r) :
    Bc7.decodeBlock b = decodeMode (modeOf b) r b := by
  rw [Bc7.decodeBlock_eq, Bc7.spec_decodeBlock_mode b _ r rfl hr]


/-! ### when is a stored alpha endpoint 255?  (modes 4–7, in terms of the raw fields) -/

theorem expand6_255 : ∀ v, v < 2 ^ 6 → (expand 6 v = 255 ↔ v = 63) := by decide
theorem expand6p_255 : ∀ v, v < 2 ^ 5 → ∀ p, p < 2 ^ 1 → (expand 6 (v * 2 + p) = 255 ↔ v = 31 ∧ p = 1) := by decide
theorem expand8p_255 : ∀ v, v < 2 ^ 7 → ∀ p, p < 2 ^ 1 → (expand 8 (v * 2 + p) = 255 ↔ v = 127 ∧ p = 1) := by decide

open Dds.Bc7 in
/-- The fully decoded alpha endpoint `e` is 255 exactly when the raw alpha field is all ones and (modes 6, 7) the
endpoint's p-bit is 1: mode 4 — 6-bit field 63; mode 5 — 8-bit field 255; mode 6 — 7-bit field 127 and p = 1;
mode 7 — 5-bit field 31 and p = 1. -/
theorem alpha_endpoint_255_iff (b e : Nat) :
    (endpoint 4 r4 b e 3 = 255 ↔ rd b (alphaStart 4 r4 + e * 6) 6 = 63) ∧
    (endpoint 5 r5 b e 3 = 255 ↔ rd b (alphaStart 5 r5 + e * 8) 8 = 255) ∧
    (endpoint 6 r6 b e 3 = 255 ↔ rd b (alphaStart 6 r6 + e * 7) 7 = 127 ∧ rd b (pStart 6 r6 + e) 1 = 1) ∧
    (endpoint 7 r7 b e 3 = 255 ↔ rd b (alphaStart 7 r7 + e * 5) 5 = 31 ∧ rd b (pStart 7 r7 + e) 1 = 1) := by
  refine ⟨?_, ?_, ?_, ?_⟩
  · simp only [endpoint, r4, Nat.reduceEqDiff, and_false, if_false, if_true, Nat.zero_ne_one]
    exact expand6_255 _ (rd_lt _ _ _)
  · simp only [endpoint, r5, Nat.reduceEqDiff, and_false, if_false, if_true, Nat.zero_ne_one, expand8_rd]
  · simp only [endpoint, r6, Nat.reduceEqDiff, and_false, if_false, if_true, Nat.reduceAdd]
    exact expand8p_255 _ (rd_lt _ _ _) _ (rd_lt _ _ _)
  · simp only [endpoint, r7, Nat.reduceEqDiff, and_false, if_false, if_true, Nat.reduceAdd]
    exact expand6p_255 _ (rd_lt _ _ _) _ (rd_lt _ _ _)

end Dds.Bc7Spec
