/-
`fp::n16` / `n16::from_f32`: `(x * 65535.0 + 0.5) as u16`: threshold table, codes 16385 … 24576,
checked by kernel evaluation of `chkList` (`Proofs/F32Thr.lean`).  GENERATED by tools/gen_f32thr.py (the
script is not trusted: every entry is validated here).  Entry `2t + d`: `t` = first pattern whose result is ≥ k,
`d = 1` iff `t` is still below the exact tie `(2k−1)/(2·65535)` (its result is one code too high).
-/
import DdsModel.Proofs.F32Thr
namespace Dds.F32Thr.FpN16
-- the elaborator's default recursion depth does not suffice for a list literal of 2048 numerals
set_option maxRecDepth 100000

@[irreducible] def c8 : List Nat :=
  [2097152769, 2097153793, 2097154817, 2097155841, 2097156865, 2097157889, 2097158913, 2097159937, 2097160961,
   2097161985, 2097163009, 2097164033, 2097165057, 2097166081, 2097167105, 2097168129, 2097169153, 2097170177,
   2097171201, 2097172225, 2097173249, 2097174273, 2097175297, 2097176321, 2097177345, 2097178369, 2097179393,
   2097180417, 2097181441, 2097182465, 2097183489, 2097184513, 2097185537, 2097186561, 2097187585, 2097188609,
   2097189633, 2097190657, 2097191681, 2097192705, 2097193729, 2097194753, 2097195777, 2097196801, 2097197825,
   2097198849, 2097199873, 2097200897, 2097201921, 2097202945, 2097203969, 2097204993, 2097206017, 2097207041,
   2097208065, 2097209089, 2097210113, 2097211137, 2097212161, 2097213185, 2097214209, 2097215233, 2097216257,
   2097217281, 2097218306, 2097219330, 2097220354, 2097221378, 2097222402, 2097223426, 2097224450, 2097225474,
   2097226498, 2097227522, 2097228546, 2097229570, 2097230594, 2097231618, 2097232642, 2097233666, 2097234690,
   2097235714, 2097236738, 2097237762, 2097238786, 2097239810, 2097240834, 2097241858, 2097242882, 2097243906,
   2097244930, 2097245954, 2097246978, 2097248002, 2097249026, 2097250050, 2097251074, 2097252098, 2097253122,
   2097254146, 2097255170, 2097256194, 2097257218, 2097258242, 2097259266, 2097260290, 2097261314, 2097262338,
   2097263362, 2097264386, 2097265410, 2097266434, 2097267458, 2097268482, 2097269506, 2097270530, 2097271554,
   2097272578, 2097273602, 2097274626, 2097275650, 2097276674, 2097277698, 2097278722, 2097279746, 2097280770,
   2097281794, 2097282818, 2097283843, 2097284867, 2097285891, 2097286915, 2097287939, 2097288963, 2097289987,
   2097291011, 2097292035, 2097293059, 2097294083, 2097295107, 2097296131, 2097297155, 2097298179, 2097299203,
   2097300227, 2097301251, 2097302275, 2097303299, 2097304323, 2097305347, 2097306371, 2097307395, 2097308419,
   2097309443, 2097310467, 2097311491, 2097312515, 2097313539, 2097314563, 2097315587, 2097316611, 2097317635,
   2097318659, 2097319683, 2097320707, 2097321731, 2097322755, 2097323779, 2097324803, 2097325827, 2097326851,
   2097327875, 2097328899, 2097329923, 2097330947, 2097331971, 2097332995, 2097334019, 2097335043, 2097336067,
   2097337091, 2097338115, 2097339139, 2097340163, 2097341187, 2097342211, 2097343235, 2097344259, 2097345283,
   2097346307, 2097347331, 2097348355, 2097349380, 2097350404, 2097351428, 2097352452, 2097353476, 2097354500,
   2097355524, 2097356548, 2097357572, 2097358596, 2097359620, 2097360644, 2097361668, 2097362692, 2097363716,
   2097364740, 2097365764, 2097366788, 2097367812, 2097368836, 2097369860, 2097370884, 2097371908, 2097372932,
   2097373956, 2097374980, 2097376004, 2097377028, 2097378052, 2097379076, 2097380100, 2097381124, 2097382148,
   2097383172, 2097384196, 2097385220, 2097386244, 2097387268, 2097388292, 2097389316, 2097390340, 2097391364,
   2097392388, 2097393412, 2097394436, 2097395460, 2097396484, 2097397508, 2097398532, 2097399556, 2097400580,
   2097401604, 2097402628, 2097403652, 2097404676, 2097405700, 2097406724, 2097407748, 2097408772, 2097409796,
   2097410820, 2097411844, 2097412868, 2097413892, 2097414917, 2097415941, 2097416965, 2097417989, 2097419013,
   2097420037, 2097421061, 2097422085, 2097423109, 2097424133, 2097425157, 2097426181, 2097427205, 2097428229,
   2097429253, 2097430277, 2097431301, 2097432325, 2097433349, 2097434373, 2097435397, 2097436421, 2097437445,
   2097438469, 2097439493, 2097440517, 2097441541, 2097442565, 2097443589, 2097444613, 2097445637, 2097446661,
   2097447685, 2097448709, 2097449733, 2097450757, 2097451781, 2097452805, 2097453829, 2097454853, 2097455877,
   2097456901, 2097457925, 2097458949, 2097459973, 2097460997, 2097462021, 2097463045, 2097464069, 2097465093,
   2097466117, 2097467141, 2097468165, 2097469189, 2097470213, 2097471237, 2097472261, 2097473285, 2097474309,
   2097475333, 2097476357, 2097477381, 2097478405, 2097479429, 2097480454, 2097481478, 2097482502, 2097483526,
   2097484550, 2097485574, 2097486598, 2097487622, 2097488646, 2097489670, 2097490694, 2097491718, 2097492742,
   2097493766, 2097494790, 2097495814, 2097496838, 2097497862, 2097498886, 2097499910, 2097500934, 2097501958,
   2097502982, 2097504006, 2097505030, 2097506054, 2097507078, 2097508102, 2097509126, 2097510150, 2097511174,
   2097512198, 2097513222, 2097514246, 2097515270, 2097516294, 2097517318, 2097518342, 2097519366, 2097520390,
   2097521414, 2097522438, 2097523462, 2097524486, 2097525510, 2097526534, 2097527558, 2097528582, 2097529606,
   2097530630, 2097531654, 2097532678, 2097533702, 2097534726, 2097535750, 2097536774, 2097537798, 2097538822,
   2097539846, 2097540870, 2097541894, 2097542918, 2097543942, 2097544966, 2097545991, 2097547015, 2097548039,
   2097549063, 2097550087, 2097551111, 2097552135, 2097553159, 2097554183, 2097555207, 2097556231, 2097557255,
   2097558279, 2097559303, 2097560327, 2097561351, 2097562375, 2097563399, 2097564423, 2097565447, 2097566471,
   2097567495, 2097568519, 2097569543, 2097570567, 2097571591, 2097572615, 2097573639, 2097574663, 2097575687,
   2097576711, 2097577735, 2097578759, 2097579783, 2097580807, 2097581831, 2097582855, 2097583879, 2097584903,
   2097585927, 2097586951, 2097587975, 2097588999, 2097590023, 2097591047, 2097592071, 2097593095, 2097594119,
   2097595143, 2097596167, 2097597191, 2097598215, 2097599239, 2097600263, 2097601287, 2097602311, 2097603335,
   2097604359, 2097605383, 2097606407, 2097607431, 2097608455, 2097609479, 2097610503, 2097611528, 2097612552,
   2097613576, 2097614600, 2097615624, 2097616648, 2097617672, 2097618696, 2097619720, 2097620744, 2097621768,
   2097622792, 2097623816, 2097624840, 2097625864, 2097626888, 2097627912, 2097628936, 2097629960, 2097630984,
   2097632008, 2097633032, 2097634056, 2097635080, 2097636104, 2097637128, 2097638152, 2097639176, 2097640200,
   2097641224, 2097642248, 2097643272, 2097644296, 2097645320, 2097646344, 2097647368, 2097648392, 2097649416,
   2097650440, 2097651464, 2097652488, 2097653512, 2097654536, 2097655560, 2097656584, 2097657608, 2097658632,
   2097659656, 2097660680, 2097661704, 2097662728, 2097663752, 2097664776, 2097665800, 2097666824, 2097667848,
   2097668872, 2097669896, 2097670920, 2097671944, 2097672968, 2097673992, 2097675016, 2097676040, 2097677065,
   2097678089, 2097679113, 2097680137, 2097681161, 2097682185, 2097683209, 2097684233, 2097685257, 2097686281,
   2097687305, 2097688329, 2097689353, 2097690377, 2097691401, 2097692425, 2097693449, 2097694473, 2097695497,
   2097696521, 2097697545, 2097698569, 2097699593, 2097700617, 2097701641, 2097702665, 2097703689, 2097704713,
   2097705737, 2097706761, 2097707785, 2097708809, 2097709833, 2097710857, 2097711881, 2097712905, 2097713929,
   2097714953, 2097715977, 2097717001, 2097718025, 2097719049, 2097720073, 2097721097, 2097722121, 2097723145,
   2097724169, 2097725193, 2097726217, 2097727241, 2097728265, 2097729289, 2097730313, 2097731337, 2097732361,
   2097733385, 2097734409, 2097735433, 2097736457, 2097737481, 2097738505, 2097739529, 2097740553, 2097741577,
   2097742602, 2097743626, 2097744650, 2097745674, 2097746698, 2097747722, 2097748746, 2097749770, 2097750794,
   2097751818, 2097752842, 2097753866, 2097754890, 2097755914, 2097756938, 2097757962, 2097758986, 2097760010,
   2097761034, 2097762058, 2097763082, 2097764106, 2097765130, 2097766154, 2097767178, 2097768202, 2097769226,
   2097770250, 2097771274, 2097772298, 2097773322, 2097774346, 2097775370, 2097776394, 2097777418, 2097778442,
   2097779466, 2097780490, 2097781514, 2097782538, 2097783562, 2097784586, 2097785610, 2097786634, 2097787658,
   2097788682, 2097789706, 2097790730, 2097791754, 2097792778, 2097793802, 2097794826, 2097795850, 2097796874,
   2097797898, 2097798922, 2097799946, 2097800970, 2097801994, 2097803018, 2097804042, 2097805066, 2097806090,
   2097807114, 2097808139, 2097809163, 2097810187, 2097811211, 2097812235, 2097813259, 2097814283, 2097815307,
   2097816331, 2097817355, 2097818379, 2097819403, 2097820427, 2097821451, 2097822475, 2097823499, 2097824523,
   2097825547, 2097826571, 2097827595, 2097828619, 2097829643, 2097830667, 2097831691, 2097832715, 2097833739,
   2097834763, 2097835787, 2097836811, 2097837835, 2097838859, 2097839883, 2097840907, 2097841931, 2097842955,
   2097843979, 2097845003, 2097846027, 2097847051, 2097848075, 2097849099, 2097850123, 2097851147, 2097852171,
   2097853195, 2097854219, 2097855243, 2097856267, 2097857291, 2097858315, 2097859339, 2097860363, 2097861387,
   2097862411, 2097863435, 2097864459, 2097865483, 2097866507, 2097867531, 2097868555, 2097869579, 2097870603,
   2097871627, 2097872651, 2097873676, 2097874700, 2097875724, 2097876748, 2097877772, 2097878796, 2097879820,
   2097880844, 2097881868, 2097882892, 2097883916, 2097884940, 2097885964, 2097886988, 2097888012, 2097889036,
   2097890060, 2097891084, 2097892108, 2097893132, 2097894156, 2097895180, 2097896204, 2097897228, 2097898252,
   2097899276, 2097900300, 2097901324, 2097902348, 2097903372, 2097904396, 2097905420, 2097906444, 2097907468,
   2097908492, 2097909516, 2097910540, 2097911564, 2097912588, 2097913612, 2097914636, 2097915660, 2097916684,
   2097917708, 2097918732, 2097919756, 2097920780, 2097921804, 2097922828, 2097923852, 2097924876, 2097925900,
   2097926924, 2097927948, 2097928972, 2097929996, 2097931020, 2097932044, 2097933068, 2097934092, 2097935116,
   2097936140, 2097937164, 2097938188, 2097939213, 2097940237, 2097941261, 2097942285, 2097943309, 2097944333,
   2097945357, 2097946381, 2097947405, 2097948429, 2097949453, 2097950477, 2097951501, 2097952525, 2097953549,
   2097954573, 2097955597, 2097956621, 2097957645, 2097958669, 2097959693, 2097960717, 2097961741, 2097962765,
   2097963789, 2097964813, 2097965837, 2097966861, 2097967885, 2097968909, 2097969933, 2097970957, 2097971981,
   2097973005, 2097974029, 2097975053, 2097976077, 2097977101, 2097978125, 2097979149, 2097980173, 2097981197,
   2097982221, 2097983245, 2097984269, 2097985293, 2097986317, 2097987341, 2097988365, 2097989389, 2097990413,
   2097991437, 2097992461, 2097993485, 2097994509, 2097995533, 2097996557, 2097997581, 2097998605, 2097999629,
   2098000653, 2098001677, 2098002701, 2098003725, 2098004750, 2098005774, 2098006798, 2098007822, 2098008846,
   2098009870, 2098010894, 2098011918, 2098012942, 2098013966, 2098014990, 2098016014, 2098017038, 2098018062,
   2098019086, 2098020110, 2098021134, 2098022158, 2098023182, 2098024206, 2098025230, 2098026254, 2098027278,
   2098028302, 2098029326, 2098030350, 2098031374, 2098032398, 2098033422, 2098034446, 2098035470, 2098036494,
   2098037518, 2098038542, 2098039566, 2098040590, 2098041614, 2098042638, 2098043662, 2098044686, 2098045710,
   2098046734, 2098047758, 2098048782, 2098049806, 2098050830, 2098051854, 2098052878, 2098053902, 2098054926,
   2098055950, 2098056974, 2098057998, 2098059022, 2098060046, 2098061070, 2098062094, 2098063118, 2098064142,
   2098065166, 2098066190, 2098067214, 2098068238, 2098069262, 2098070287, 2098071311, 2098072335, 2098073359,
   2098074383, 2098075407, 2098076431, 2098077455, 2098078479, 2098079503, 2098080527, 2098081551, 2098082575,
   2098083599, 2098084623, 2098085647, 2098086671, 2098087695, 2098088719, 2098089743, 2098090767, 2098091791,
   2098092815, 2098093839, 2098094863, 2098095887, 2098096911, 2098097935, 2098098959, 2098099983, 2098101007,
   2098102031, 2098103055, 2098104079, 2098105103, 2098106127, 2098107151, 2098108175, 2098109199, 2098110223,
   2098111247, 2098112271, 2098113295, 2098114319, 2098115343, 2098116367, 2098117391, 2098118415, 2098119439,
   2098120463, 2098121487, 2098122511, 2098123535, 2098124559, 2098125583, 2098126607, 2098127631, 2098128655,
   2098129679, 2098130703, 2098131727, 2098132751, 2098133775, 2098134799, 2098135824, 2098136848, 2098137872,
   2098138896, 2098139920, 2098140944, 2098141968, 2098142992, 2098144016, 2098145040, 2098146064, 2098147088,
   2098148112, 2098149136, 2098150160, 2098151184, 2098152208, 2098153232, 2098154256, 2098155280, 2098156304,
   2098157328, 2098158352, 2098159376, 2098160400, 2098161424, 2098162448, 2098163472, 2098164496, 2098165520,
   2098166544, 2098167568, 2098168592, 2098169616, 2098170640, 2098171664, 2098172688, 2098173712, 2098174736,
   2098175760, 2098176784, 2098177808, 2098178832, 2098179856, 2098180880, 2098181904, 2098182928, 2098183952,
   2098184976, 2098186000, 2098187024, 2098188048, 2098189072, 2098190096, 2098191120, 2098192144, 2098193168,
   2098194192, 2098195216, 2098196240, 2098197264, 2098198288, 2098199312, 2098200336, 2098201361, 2098202385,
   2098203409, 2098204433, 2098205457, 2098206481, 2098207505, 2098208529, 2098209553, 2098210577, 2098211601,
   2098212625, 2098213649, 2098214673, 2098215697, 2098216721, 2098217745, 2098218769, 2098219793, 2098220817,
   2098221841, 2098222865, 2098223889, 2098224913, 2098225937, 2098226961, 2098227985, 2098229009, 2098230033,
   2098231057, 2098232081, 2098233105, 2098234129, 2098235153, 2098236177, 2098237201, 2098238225, 2098239249,
   2098240273, 2098241297, 2098242321, 2098243345, 2098244369, 2098245393, 2098246417, 2098247441, 2098248465,
   2098249489, 2098250513, 2098251537, 2098252561, 2098253585, 2098254609, 2098255633, 2098256657, 2098257681,
   2098258705, 2098259729, 2098260753, 2098261777, 2098262801, 2098263825, 2098264849, 2098265873, 2098266898,
   2098267922, 2098268946, 2098269970, 2098270994, 2098272018, 2098273042, 2098274066, 2098275090, 2098276114,
   2098277138, 2098278162, 2098279186, 2098280210, 2098281234, 2098282258, 2098283282, 2098284306, 2098285330,
   2098286354, 2098287378, 2098288402, 2098289426, 2098290450, 2098291474, 2098292498, 2098293522, 2098294546,
   2098295570, 2098296594, 2098297618, 2098298642, 2098299666, 2098300690, 2098301714, 2098302738, 2098303762,
   2098304786, 2098305810, 2098306834, 2098307858, 2098308882, 2098309906, 2098310930, 2098311954, 2098312978,
   2098314002, 2098315026, 2098316050, 2098317074, 2098318098, 2098319122, 2098320146, 2098321170, 2098322194,
   2098323218, 2098324242, 2098325266, 2098326290, 2098327314, 2098328338, 2098329362, 2098330386, 2098331410,
   2098332435, 2098333459, 2098334483, 2098335507, 2098336531, 2098337555, 2098338579, 2098339603, 2098340627,
   2098341651, 2098342675, 2098343699, 2098344723, 2098345747, 2098346771, 2098347795, 2098348819, 2098349843,
   2098350867, 2098351891, 2098352915, 2098353939, 2098354963, 2098355987, 2098357011, 2098358035, 2098359059,
   2098360083, 2098361107, 2098362131, 2098363155, 2098364179, 2098365203, 2098366227, 2098367251, 2098368275,
   2098369299, 2098370323, 2098371347, 2098372371, 2098373395, 2098374419, 2098375443, 2098376467, 2098377491,
   2098378515, 2098379539, 2098380563, 2098381587, 2098382611, 2098383635, 2098384659, 2098385683, 2098386707,
   2098387731, 2098388755, 2098389779, 2098390803, 2098391827, 2098392851, 2098393875, 2098394899, 2098395923,
   2098396947, 2098397972, 2098398996, 2098400020, 2098401044, 2098402068, 2098403092, 2098404116, 2098405140,
   2098406164, 2098407188, 2098408212, 2098409236, 2098410260, 2098411284, 2098412308, 2098413332, 2098414356,
   2098415380, 2098416404, 2098417428, 2098418452, 2098419476, 2098420500, 2098421524, 2098422548, 2098423572,
   2098424596, 2098425620, 2098426644, 2098427668, 2098428692, 2098429716, 2098430740, 2098431764, 2098432788,
   2098433812, 2098434836, 2098435860, 2098436884, 2098437908, 2098438932, 2098439956, 2098440980, 2098442004,
   2098443028, 2098444052, 2098445076, 2098446100, 2098447124, 2098448148, 2098449172, 2098450196, 2098451220,
   2098452244, 2098453268, 2098454292, 2098455316, 2098456340, 2098457364, 2098458388, 2098459412, 2098460436,
   2098461460, 2098462484, 2098463509, 2098464533, 2098465557, 2098466581, 2098467605, 2098468629, 2098469653,
   2098470677, 2098471701, 2098472725, 2098473749, 2098474773, 2098475797, 2098476821, 2098477845, 2098478869,
   2098479893, 2098480917, 2098481941, 2098482965, 2098483989, 2098485013, 2098486037, 2098487061, 2098488085,
   2098489109, 2098490133, 2098491157, 2098492181, 2098493205, 2098494229, 2098495253, 2098496277, 2098497301,
   2098498325, 2098499349, 2098500373, 2098501397, 2098502421, 2098503445, 2098504469, 2098505493, 2098506517,
   2098507541, 2098508565, 2098509589, 2098510613, 2098511637, 2098512661, 2098513685, 2098514709, 2098515733,
   2098516757, 2098517781, 2098518805, 2098519829, 2098520853, 2098521877, 2098522901, 2098523925, 2098524949,
   2098525973, 2098526997, 2098528021, 2098529046, 2098530070, 2098531094, 2098532118, 2098533142, 2098534166,
   2098535190, 2098536214, 2098537238, 2098538262, 2098539286, 2098540310, 2098541334, 2098542358, 2098543382,
   2098544406, 2098545430, 2098546454, 2098547478, 2098548502, 2098549526, 2098550550, 2098551574, 2098552598,
   2098553622, 2098554646, 2098555670, 2098556694, 2098557718, 2098558742, 2098559766, 2098560790, 2098561814,
   2098562838, 2098563862, 2098564886, 2098565910, 2098566934, 2098567958, 2098568982, 2098570006, 2098571030,
   2098572054, 2098573078, 2098574102, 2098575126, 2098576150, 2098577174, 2098578198, 2098579222, 2098580246,
   2098581270, 2098582294, 2098583318, 2098584342, 2098585366, 2098586390, 2098587414, 2098588438, 2098589462,
   2098590486, 2098591510, 2098592534, 2098593558, 2098594583, 2098595607, 2098596631, 2098597655, 2098598679,
   2098599703, 2098600727, 2098601751, 2098602775, 2098603799, 2098604823, 2098605847, 2098606871, 2098607895,
   2098608919, 2098609943, 2098610967, 2098611991, 2098613015, 2098614039, 2098615063, 2098616087, 2098617111,
   2098618135, 2098619159, 2098620183, 2098621207, 2098622231, 2098623255, 2098624279, 2098625303, 2098626327,
   2098627351, 2098628375, 2098629399, 2098630423, 2098631447, 2098632471, 2098633495, 2098634519, 2098635543,
   2098636567, 2098637591, 2098638615, 2098639639, 2098640663, 2098641687, 2098642711, 2098643735, 2098644759,
   2098645783, 2098646807, 2098647831, 2098648855, 2098649879, 2098650903, 2098651927, 2098652951, 2098653975,
   2098654999, 2098656023, 2098657047, 2098658071, 2098659095, 2098660120, 2098661144, 2098662168, 2098663192,
   2098664216, 2098665240, 2098666264, 2098667288, 2098668312, 2098669336, 2098670360, 2098671384, 2098672408,
   2098673432, 2098674456, 2098675480, 2098676504, 2098677528, 2098678552, 2098679576, 2098680600, 2098681624,
   2098682648, 2098683672, 2098684696, 2098685720, 2098686744, 2098687768, 2098688792, 2098689816, 2098690840,
   2098691864, 2098692888, 2098693912, 2098694936, 2098695960, 2098696984, 2098698008, 2098699032, 2098700056,
   2098701080, 2098702104, 2098703128, 2098704152, 2098705176, 2098706200, 2098707224, 2098708248, 2098709272,
   2098710296, 2098711320, 2098712344, 2098713368, 2098714392, 2098715416, 2098716440, 2098717464, 2098718488,
   2098719512, 2098720536, 2098721560, 2098722584, 2098723608, 2098724632, 2098725657, 2098726681, 2098727705,
   2098728729, 2098729753, 2098730777, 2098731801, 2098732825, 2098733849, 2098734873, 2098735897, 2098736921,
   2098737945, 2098738969, 2098739993, 2098741017, 2098742041, 2098743065, 2098744089, 2098745113, 2098746137,
   2098747161, 2098748185, 2098749209, 2098750233, 2098751257, 2098752281, 2098753305, 2098754329, 2098755353,
   2098756377, 2098757401, 2098758425, 2098759449, 2098760473, 2098761497, 2098762521, 2098763545, 2098764569,
   2098765593, 2098766617, 2098767641, 2098768665, 2098769689, 2098770713, 2098771737, 2098772761, 2098773785,
   2098774809, 2098775833, 2098776857, 2098777881, 2098778905, 2098779929, 2098780953, 2098781977, 2098783001,
   2098784025, 2098785049, 2098786073, 2098787097, 2098788121, 2098789145, 2098790169, 2098791194, 2098792218,
   2098793242, 2098794266, 2098795290, 2098796314, 2098797338, 2098798362, 2098799386, 2098800410, 2098801434,
   2098802458, 2098803482, 2098804506, 2098805530, 2098806554, 2098807578, 2098808602, 2098809626, 2098810650,
   2098811674, 2098812698, 2098813722, 2098814746, 2098815770, 2098816794, 2098817818, 2098818842, 2098819866,
   2098820890, 2098821914, 2098822938, 2098823962, 2098824986, 2098826010, 2098827034, 2098828058, 2098829082,
   2098830106, 2098831130, 2098832154, 2098833178, 2098834202, 2098835226, 2098836250, 2098837274, 2098838298,
   2098839322, 2098840346, 2098841370, 2098842394, 2098843418, 2098844442, 2098845466, 2098846490, 2098847514,
   2098848538, 2098849562, 2098850586, 2098851610, 2098852634, 2098853658, 2098854682, 2098855706, 2098856731,
   2098857755, 2098858779, 2098859803, 2098860827, 2098861851, 2098862875, 2098863899, 2098864923, 2098865947,
   2098866971, 2098867995, 2098869019, 2098870043, 2098871067, 2098872091, 2098873115, 2098874139, 2098875163,
   2098876187, 2098877211, 2098878235, 2098879259, 2098880283, 2098881307, 2098882331, 2098883355, 2098884379,
   2098885403, 2098886427, 2098887451, 2098888475, 2098889499, 2098890523, 2098891547, 2098892571, 2098893595,
   2098894619, 2098895643, 2098896667, 2098897691, 2098898715, 2098899739, 2098900763, 2098901787, 2098902811,
   2098903835, 2098904859, 2098905883, 2098906907, 2098907931, 2098908955, 2098909979, 2098911003, 2098912027,
   2098913051, 2098914075, 2098915099, 2098916123, 2098917147, 2098918171, 2098919195, 2098920219, 2098921243,
   2098922268, 2098923292, 2098924316, 2098925340, 2098926364, 2098927388, 2098928412, 2098929436, 2098930460,
   2098931484, 2098932508, 2098933532, 2098934556, 2098935580, 2098936604, 2098937628, 2098938652, 2098939676,
   2098940700, 2098941724, 2098942748, 2098943772, 2098944796, 2098945820, 2098946844, 2098947868, 2098948892,
   2098949916, 2098950940, 2098951964, 2098952988, 2098954012, 2098955036, 2098956060, 2098957084, 2098958108,
   2098959132, 2098960156, 2098961180, 2098962204, 2098963228, 2098964252, 2098965276, 2098966300, 2098967324,
   2098968348, 2098969372, 2098970396, 2098971420, 2098972444, 2098973468, 2098974492, 2098975516, 2098976540,
   2098977564, 2098978588, 2098979612, 2098980636, 2098981660, 2098982684, 2098983708, 2098984732, 2098985756,
   2098986780, 2098987805, 2098988829, 2098989853, 2098990877, 2098991901, 2098992925, 2098993949, 2098994973,
   2098995997, 2098997021, 2098998045, 2098999069, 2099000093, 2099001117, 2099002141, 2099003165, 2099004189,
   2099005213, 2099006237, 2099007261, 2099008285, 2099009309, 2099010333, 2099011357, 2099012381, 2099013405,
   2099014429, 2099015453, 2099016477, 2099017501, 2099018525, 2099019549, 2099020573, 2099021597, 2099022621,
   2099023645, 2099024669, 2099025693, 2099026717, 2099027741, 2099028765, 2099029789, 2099030813, 2099031837,
   2099032861, 2099033885, 2099034909, 2099035933, 2099036957, 2099037981, 2099039005, 2099040029, 2099041053,
   2099042077, 2099043101, 2099044125, 2099045149, 2099046173, 2099047197, 2099048221, 2099049245, 2099050269,
   2099051293, 2099052317, 2099053342, 2099054366, 2099055390, 2099056414, 2099057438, 2099058462, 2099059486,
   2099060510, 2099061534, 2099062558, 2099063582, 2099064606, 2099065630, 2099066654, 2099067678, 2099068702,
   2099069726, 2099070750, 2099071774, 2099072798, 2099073822, 2099074846, 2099075870, 2099076894, 2099077918,
   2099078942, 2099079966, 2099080990, 2099082014, 2099083038, 2099084062, 2099085086, 2099086110, 2099087134,
   2099088158, 2099089182, 2099090206, 2099091230, 2099092254, 2099093278, 2099094302, 2099095326, 2099096350,
   2099097374, 2099098398, 2099099422, 2099100446, 2099101470, 2099102494, 2099103518, 2099104542, 2099105566,
   2099106590, 2099107614, 2099108638, 2099109662, 2099110686, 2099111710, 2099112734, 2099113758, 2099114782,
   2099115806, 2099116830, 2099117854, 2099118879, 2099119903, 2099120927, 2099121951, 2099122975, 2099123999,
   2099125023, 2099126047, 2099127071, 2099128095, 2099129119, 2099130143, 2099131167, 2099132191, 2099133215,
   2099134239, 2099135263, 2099136287, 2099137311, 2099138335, 2099139359, 2099140383, 2099141407, 2099142431,
   2099143455, 2099144479, 2099145503, 2099146527, 2099147551, 2099148575, 2099149599, 2099150623, 2099151647,
   2099152671, 2099153695, 2099154719, 2099155743, 2099156767, 2099157791, 2099158815, 2099159839, 2099160863,
   2099161887, 2099162911, 2099163935, 2099164959, 2099165983, 2099167007, 2099168031, 2099169055, 2099170079,
   2099171103, 2099172127, 2099173151, 2099174175, 2099175199, 2099176223, 2099177247, 2099178271, 2099179295,
   2099180319, 2099181343, 2099182367, 2099183391, 2099184416, 2099185440, 2099186464, 2099187488, 2099188512,
   2099189536, 2099190560, 2099191584, 2099192608, 2099193632, 2099194656, 2099195680, 2099196704, 2099197728,
   2099198752, 2099199776, 2099200800, 2099201824, 2099202848, 2099203872, 2099204896, 2099205920, 2099206944,
   2099207968, 2099208992, 2099210016, 2099211040, 2099212064, 2099213088, 2099214112, 2099215136, 2099216160,
   2099217184, 2099218208, 2099219232, 2099220256, 2099221280, 2099222304, 2099223328, 2099224352, 2099225376,
   2099226400, 2099227424, 2099228448, 2099229472, 2099230496, 2099231520, 2099232544, 2099233568, 2099234592,
   2099235616, 2099236640, 2099237664, 2099238688, 2099239712, 2099240736, 2099241760, 2099242784, 2099243808,
   2099244832, 2099245856, 2099246880, 2099247904, 2099248928]
theorem c8_ok :
    chkList (pipeF 1199570688 65535) 65535 2139095040 16385 1048575744 8192 c8
      18433 1049624464 9216 = true := by decide +kernel
theorem c8_len : 16385 + c8.length = 18433 := (chkList_end c8_ok).1
theorem c8_last : lastS 1048575744 c8 = 1049624464 := (chkList_end c8_ok).2.1

@[irreducible] def c9 : List Nat :=
  [2099249953, 2099250977, 2099252001, 2099253025, 2099254049, 2099255073, 2099256097, 2099257121, 2099258145,
   2099259169, 2099260193, 2099261217, 2099262241, 2099263265, 2099264289, 2099265313, 2099266337, 2099267361,
   2099268385, 2099269409, 2099270433, 2099271457, 2099272481, 2099273505, 2099274529, 2099275553, 2099276577,
   2099277601, 2099278625, 2099279649, 2099280673, 2099281697, 2099282721, 2099283745, 2099284769, 2099285793,
   2099286817, 2099287841, 2099288865, 2099289889, 2099290913, 2099291937, 2099292961, 2099293985, 2099295009,
   2099296033, 2099297057, 2099298081, 2099299105, 2099300129, 2099301153, 2099302177, 2099303201, 2099304225,
   2099305249, 2099306273, 2099307297, 2099308321, 2099309345, 2099310369, 2099311393, 2099312417, 2099313441,
   2099314465, 2099315490, 2099316514, 2099317538, 2099318562, 2099319586, 2099320610, 2099321634, 2099322658,
   2099323682, 2099324706, 2099325730, 2099326754, 2099327778, 2099328802, 2099329826, 2099330850, 2099331874,
   2099332898, 2099333922, 2099334946, 2099335970, 2099336994, 2099338018, 2099339042, 2099340066, 2099341090,
   2099342114, 2099343138, 2099344162, 2099345186, 2099346210, 2099347234, 2099348258, 2099349282, 2099350306,
   2099351330, 2099352354, 2099353378, 2099354402, 2099355426, 2099356450, 2099357474, 2099358498, 2099359522,
   2099360546, 2099361570, 2099362594, 2099363618, 2099364642, 2099365666, 2099366690, 2099367714, 2099368738,
   2099369762, 2099370786, 2099371810, 2099372834, 2099373858, 2099374882, 2099375906, 2099376930, 2099377954,
   2099378978, 2099380002, 2099381027, 2099382051, 2099383075, 2099384099, 2099385123, 2099386147, 2099387171,
   2099388195, 2099389219, 2099390243, 2099391267, 2099392291, 2099393315, 2099394339, 2099395363, 2099396387,
   2099397411, 2099398435, 2099399459, 2099400483, 2099401507, 2099402531, 2099403555, 2099404579, 2099405603,
   2099406627, 2099407651, 2099408675, 2099409699, 2099410723, 2099411747, 2099412771, 2099413795, 2099414819,
   2099415843, 2099416867, 2099417891, 2099418915, 2099419939, 2099420963, 2099421987, 2099423011, 2099424035,
   2099425059, 2099426083, 2099427107, 2099428131, 2099429155, 2099430179, 2099431203, 2099432227, 2099433251,
   2099434275, 2099435299, 2099436323, 2099437347, 2099438371, 2099439395, 2099440419, 2099441443, 2099442467,
   2099443491, 2099444515, 2099445539, 2099446564, 2099447588, 2099448612, 2099449636, 2099450660, 2099451684,
   2099452708, 2099453732, 2099454756, 2099455780, 2099456804, 2099457828, 2099458852, 2099459876, 2099460900,
   2099461924, 2099462948, 2099463972, 2099464996, 2099466020, 2099467044, 2099468068, 2099469092, 2099470116,
   2099471140, 2099472164, 2099473188, 2099474212, 2099475236, 2099476260, 2099477284, 2099478308, 2099479332,
   2099480356, 2099481380, 2099482404, 2099483428, 2099484452, 2099485476, 2099486500, 2099487524, 2099488548,
   2099489572, 2099490596, 2099491620, 2099492644, 2099493668, 2099494692, 2099495716, 2099496740, 2099497764,
   2099498788, 2099499812, 2099500836, 2099501860, 2099502884, 2099503908, 2099504932, 2099505956, 2099506980,
   2099508004, 2099509028, 2099510052, 2099511076, 2099512101, 2099513125, 2099514149, 2099515173, 2099516197,
   2099517221, 2099518245, 2099519269, 2099520293, 2099521317, 2099522341, 2099523365, 2099524389, 2099525413,
   2099526437, 2099527461, 2099528485, 2099529509, 2099530533, 2099531557, 2099532581, 2099533605, 2099534629,
   2099535653, 2099536677, 2099537701, 2099538725, 2099539749, 2099540773, 2099541797, 2099542821, 2099543845,
   2099544869, 2099545893, 2099546917, 2099547941, 2099548965, 2099549989, 2099551013, 2099552037, 2099553061,
   2099554085, 2099555109, 2099556133, 2099557157, 2099558181, 2099559205, 2099560229, 2099561253, 2099562277,
   2099563301, 2099564325, 2099565349, 2099566373, 2099567397, 2099568421, 2099569445, 2099570469, 2099571493,
   2099572517, 2099573541, 2099574565, 2099575589, 2099576613, 2099577638, 2099578662, 2099579686, 2099580710,
   2099581734, 2099582758, 2099583782, 2099584806, 2099585830, 2099586854, 2099587878, 2099588902, 2099589926,
   2099590950, 2099591974, 2099592998, 2099594022, 2099595046, 2099596070, 2099597094, 2099598118, 2099599142,
   2099600166, 2099601190, 2099602214, 2099603238, 2099604262, 2099605286, 2099606310, 2099607334, 2099608358,
   2099609382, 2099610406, 2099611430, 2099612454, 2099613478, 2099614502, 2099615526, 2099616550, 2099617574,
   2099618598, 2099619622, 2099620646, 2099621670, 2099622694, 2099623718, 2099624742, 2099625766, 2099626790,
   2099627814, 2099628838, 2099629862, 2099630886, 2099631910, 2099632934, 2099633958, 2099634982, 2099636006,
   2099637030, 2099638054, 2099639078, 2099640102, 2099641126, 2099642150, 2099643175, 2099644199, 2099645223,
   2099646247, 2099647271, 2099648295, 2099649319, 2099650343, 2099651367, 2099652391, 2099653415, 2099654439,
   2099655463, 2099656487, 2099657511, 2099658535, 2099659559, 2099660583, 2099661607, 2099662631, 2099663655,
   2099664679, 2099665703, 2099666727, 2099667751, 2099668775, 2099669799, 2099670823, 2099671847, 2099672871,
   2099673895, 2099674919, 2099675943, 2099676967, 2099677991, 2099679015, 2099680039, 2099681063, 2099682087,
   2099683111, 2099684135, 2099685159, 2099686183, 2099687207, 2099688231, 2099689255, 2099690279, 2099691303,
   2099692327, 2099693351, 2099694375, 2099695399, 2099696423, 2099697447, 2099698471, 2099699495, 2099700519,
   2099701543, 2099702567, 2099703591, 2099704615, 2099705639, 2099706663, 2099707687, 2099708712, 2099709736,
   2099710760, 2099711784, 2099712808, 2099713832, 2099714856, 2099715880, 2099716904, 2099717928, 2099718952,
   2099719976, 2099721000, 2099722024, 2099723048, 2099724072, 2099725096, 2099726120, 2099727144, 2099728168,
   2099729192, 2099730216, 2099731240, 2099732264, 2099733288, 2099734312, 2099735336, 2099736360, 2099737384,
   2099738408, 2099739432, 2099740456, 2099741480, 2099742504, 2099743528, 2099744552, 2099745576, 2099746600,
   2099747624, 2099748648, 2099749672, 2099750696, 2099751720, 2099752744, 2099753768, 2099754792, 2099755816,
   2099756840, 2099757864, 2099758888, 2099759912, 2099760936, 2099761960, 2099762984, 2099764008, 2099765032,
   2099766056, 2099767080, 2099768104, 2099769128, 2099770152, 2099771176, 2099772200, 2099773224, 2099774249,
   2099775273, 2099776297, 2099777321, 2099778345, 2099779369, 2099780393, 2099781417, 2099782441, 2099783465,
   2099784489, 2099785513, 2099786537, 2099787561, 2099788585, 2099789609, 2099790633, 2099791657, 2099792681,
   2099793705, 2099794729, 2099795753, 2099796777, 2099797801, 2099798825, 2099799849, 2099800873, 2099801897,
   2099802921, 2099803945, 2099804969, 2099805993, 2099807017, 2099808041, 2099809065, 2099810089, 2099811113,
   2099812137, 2099813161, 2099814185, 2099815209, 2099816233, 2099817257, 2099818281, 2099819305, 2099820329,
   2099821353, 2099822377, 2099823401, 2099824425, 2099825449, 2099826473, 2099827497, 2099828521, 2099829545,
   2099830569, 2099831593, 2099832617, 2099833641, 2099834665, 2099835689, 2099836713, 2099837737, 2099838761,
   2099839786, 2099840810, 2099841834, 2099842858, 2099843882, 2099844906, 2099845930, 2099846954, 2099847978,
   2099849002, 2099850026, 2099851050, 2099852074, 2099853098, 2099854122, 2099855146, 2099856170, 2099857194,
   2099858218, 2099859242, 2099860266, 2099861290, 2099862314, 2099863338, 2099864362, 2099865386, 2099866410,
   2099867434, 2099868458, 2099869482, 2099870506, 2099871530, 2099872554, 2099873578, 2099874602, 2099875626,
   2099876650, 2099877674, 2099878698, 2099879722, 2099880746, 2099881770, 2099882794, 2099883818, 2099884842,
   2099885866, 2099886890, 2099887914, 2099888938, 2099889962, 2099890986, 2099892010, 2099893034, 2099894058,
   2099895082, 2099896106, 2099897130, 2099898154, 2099899178, 2099900202, 2099901226, 2099902250, 2099903274,
   2099904298, 2099905323, 2099906347, 2099907371, 2099908395, 2099909419, 2099910443, 2099911467, 2099912491,
   2099913515, 2099914539, 2099915563, 2099916587, 2099917611, 2099918635, 2099919659, 2099920683, 2099921707,
   2099922731, 2099923755, 2099924779, 2099925803, 2099926827, 2099927851, 2099928875, 2099929899, 2099930923,
   2099931947, 2099932971, 2099933995, 2099935019, 2099936043, 2099937067, 2099938091, 2099939115, 2099940139,
   2099941163, 2099942187, 2099943211, 2099944235, 2099945259, 2099946283, 2099947307, 2099948331, 2099949355,
   2099950379, 2099951403, 2099952427, 2099953451, 2099954475, 2099955499, 2099956523, 2099957547, 2099958571,
   2099959595, 2099960619, 2099961643, 2099962667, 2099963691, 2099964715, 2099965739, 2099966763, 2099967787,
   2099968811, 2099969835, 2099970860, 2099971884, 2099972908, 2099973932, 2099974956, 2099975980, 2099977004,
   2099978028, 2099979052, 2099980076, 2099981100, 2099982124, 2099983148, 2099984172, 2099985196, 2099986220,
   2099987244, 2099988268, 2099989292, 2099990316, 2099991340, 2099992364, 2099993388, 2099994412, 2099995436,
   2099996460, 2099997484, 2099998508, 2099999532, 2100000556, 2100001580, 2100002604, 2100003628, 2100004652,
   2100005676, 2100006700, 2100007724, 2100008748, 2100009772, 2100010796, 2100011820, 2100012844, 2100013868,
   2100014892, 2100015916, 2100016940, 2100017964, 2100018988, 2100020012, 2100021036, 2100022060, 2100023084,
   2100024108, 2100025132, 2100026156, 2100027180, 2100028204, 2100029228, 2100030252, 2100031276, 2100032300,
   2100033324, 2100034348, 2100035372, 2100036397, 2100037421, 2100038445, 2100039469, 2100040493, 2100041517,
   2100042541, 2100043565, 2100044589, 2100045613, 2100046637, 2100047661, 2100048685, 2100049709, 2100050733,
   2100051757, 2100052781, 2100053805, 2100054829, 2100055853, 2100056877, 2100057901, 2100058925, 2100059949,
   2100060973, 2100061997, 2100063021, 2100064045, 2100065069, 2100066093, 2100067117, 2100068141, 2100069165,
   2100070189, 2100071213, 2100072237, 2100073261, 2100074285, 2100075309, 2100076333, 2100077357, 2100078381,
   2100079405, 2100080429, 2100081453, 2100082477, 2100083501, 2100084525, 2100085549, 2100086573, 2100087597,
   2100088621, 2100089645, 2100090669, 2100091693, 2100092717, 2100093741, 2100094765, 2100095789, 2100096813,
   2100097837, 2100098861, 2100099885, 2100100909, 2100101934, 2100102958, 2100103982, 2100105006, 2100106030,
   2100107054, 2100108078, 2100109102, 2100110126, 2100111150, 2100112174, 2100113198, 2100114222, 2100115246,
   2100116270, 2100117294, 2100118318, 2100119342, 2100120366, 2100121390, 2100122414, 2100123438, 2100124462,
   2100125486, 2100126510, 2100127534, 2100128558, 2100129582, 2100130606, 2100131630, 2100132654, 2100133678,
   2100134702, 2100135726, 2100136750, 2100137774, 2100138798, 2100139822, 2100140846, 2100141870, 2100142894,
   2100143918, 2100144942, 2100145966, 2100146990, 2100148014, 2100149038, 2100150062, 2100151086, 2100152110,
   2100153134, 2100154158, 2100155182, 2100156206, 2100157230, 2100158254, 2100159278, 2100160302, 2100161326,
   2100162350, 2100163374, 2100164398, 2100165422, 2100166446, 2100167471, 2100168495, 2100169519, 2100170543,
   2100171567, 2100172591, 2100173615, 2100174639, 2100175663, 2100176687, 2100177711, 2100178735, 2100179759,
   2100180783, 2100181807, 2100182831, 2100183855, 2100184879, 2100185903, 2100186927, 2100187951, 2100188975,
   2100189999, 2100191023, 2100192047, 2100193071, 2100194095, 2100195119, 2100196143, 2100197167, 2100198191,
   2100199215, 2100200239, 2100201263, 2100202287, 2100203311, 2100204335, 2100205359, 2100206383, 2100207407,
   2100208431, 2100209455, 2100210479, 2100211503, 2100212527, 2100213551, 2100214575, 2100215599, 2100216623,
   2100217647, 2100218671, 2100219695, 2100220719, 2100221743, 2100222767, 2100223791, 2100224815, 2100225839,
   2100226863, 2100227887, 2100228911, 2100229935, 2100230959, 2100231983, 2100233008, 2100234032, 2100235056,
   2100236080, 2100237104, 2100238128, 2100239152, 2100240176, 2100241200, 2100242224, 2100243248, 2100244272,
   2100245296, 2100246320, 2100247344, 2100248368, 2100249392, 2100250416, 2100251440, 2100252464, 2100253488,
   2100254512, 2100255536, 2100256560, 2100257584, 2100258608, 2100259632, 2100260656, 2100261680, 2100262704,
   2100263728, 2100264752, 2100265776, 2100266800, 2100267824, 2100268848, 2100269872, 2100270896, 2100271920,
   2100272944, 2100273968, 2100274992, 2100276016, 2100277040, 2100278064, 2100279088, 2100280112, 2100281136,
   2100282160, 2100283184, 2100284208, 2100285232, 2100286256, 2100287280, 2100288304, 2100289328, 2100290352,
   2100291376, 2100292400, 2100293424, 2100294448, 2100295472, 2100296496, 2100297520, 2100298545, 2100299569,
   2100300593, 2100301617, 2100302641, 2100303665, 2100304689, 2100305713, 2100306737, 2100307761, 2100308785,
   2100309809, 2100310833, 2100311857, 2100312881, 2100313905, 2100314929, 2100315953, 2100316977, 2100318001,
   2100319025, 2100320049, 2100321073, 2100322097, 2100323121, 2100324145, 2100325169, 2100326193, 2100327217,
   2100328241, 2100329265, 2100330289, 2100331313, 2100332337, 2100333361, 2100334385, 2100335409, 2100336433,
   2100337457, 2100338481, 2100339505, 2100340529, 2100341553, 2100342577, 2100343601, 2100344625, 2100345649,
   2100346673, 2100347697, 2100348721, 2100349745, 2100350769, 2100351793, 2100352817, 2100353841, 2100354865,
   2100355889, 2100356913, 2100357937, 2100358961, 2100359985, 2100361009, 2100362033, 2100363057, 2100364082,
   2100365106, 2100366130, 2100367154, 2100368178, 2100369202, 2100370226, 2100371250, 2100372274, 2100373298,
   2100374322, 2100375346, 2100376370, 2100377394, 2100378418, 2100379442, 2100380466, 2100381490, 2100382514,
   2100383538, 2100384562, 2100385586, 2100386610, 2100387634, 2100388658, 2100389682, 2100390706, 2100391730,
   2100392754, 2100393778, 2100394802, 2100395826, 2100396850, 2100397874, 2100398898, 2100399922, 2100400946,
   2100401970, 2100402994, 2100404018, 2100405042, 2100406066, 2100407090, 2100408114, 2100409138, 2100410162,
   2100411186, 2100412210, 2100413234, 2100414258, 2100415282, 2100416306, 2100417330, 2100418354, 2100419378,
   2100420402, 2100421426, 2100422450, 2100423474, 2100424498, 2100425522, 2100426546, 2100427570, 2100428594,
   2100429619, 2100430643, 2100431667, 2100432691, 2100433715, 2100434739, 2100435763, 2100436787, 2100437811,
   2100438835, 2100439859, 2100440883, 2100441907, 2100442931, 2100443955, 2100444979, 2100446003, 2100447027,
   2100448051, 2100449075, 2100450099, 2100451123, 2100452147, 2100453171, 2100454195, 2100455219, 2100456243,
   2100457267, 2100458291, 2100459315, 2100460339, 2100461363, 2100462387, 2100463411, 2100464435, 2100465459,
   2100466483, 2100467507, 2100468531, 2100469555, 2100470579, 2100471603, 2100472627, 2100473651, 2100474675,
   2100475699, 2100476723, 2100477747, 2100478771, 2100479795, 2100480819, 2100481843, 2100482867, 2100483891,
   2100484915, 2100485939, 2100486963, 2100487987, 2100489011, 2100490035, 2100491059, 2100492083, 2100493107,
   2100494131, 2100495156, 2100496180, 2100497204, 2100498228, 2100499252, 2100500276, 2100501300, 2100502324,
   2100503348, 2100504372, 2100505396, 2100506420, 2100507444, 2100508468, 2100509492, 2100510516, 2100511540,
   2100512564, 2100513588, 2100514612, 2100515636, 2100516660, 2100517684, 2100518708, 2100519732, 2100520756,
   2100521780, 2100522804, 2100523828, 2100524852, 2100525876, 2100526900, 2100527924, 2100528948, 2100529972,
   2100530996, 2100532020, 2100533044, 2100534068, 2100535092, 2100536116, 2100537140, 2100538164, 2100539188,
   2100540212, 2100541236, 2100542260, 2100543284, 2100544308, 2100545332, 2100546356, 2100547380, 2100548404,
   2100549428, 2100550452, 2100551476, 2100552500, 2100553524, 2100554548, 2100555572, 2100556596, 2100557620,
   2100558644, 2100559668, 2100560693, 2100561717, 2100562741, 2100563765, 2100564789, 2100565813, 2100566837,
   2100567861, 2100568885, 2100569909, 2100570933, 2100571957, 2100572981, 2100574005, 2100575029, 2100576053,
   2100577077, 2100578101, 2100579125, 2100580149, 2100581173, 2100582197, 2100583221, 2100584245, 2100585269,
   2100586293, 2100587317, 2100588341, 2100589365, 2100590389, 2100591413, 2100592437, 2100593461, 2100594485,
   2100595509, 2100596533, 2100597557, 2100598581, 2100599605, 2100600629, 2100601653, 2100602677, 2100603701,
   2100604725, 2100605749, 2100606773, 2100607797, 2100608821, 2100609845, 2100610869, 2100611893, 2100612917,
   2100613941, 2100614965, 2100615989, 2100617013, 2100618037, 2100619061, 2100620085, 2100621109, 2100622133,
   2100623157, 2100624181, 2100625205, 2100626230, 2100627254, 2100628278, 2100629302, 2100630326, 2100631350,
   2100632374, 2100633398, 2100634422, 2100635446, 2100636470, 2100637494, 2100638518, 2100639542, 2100640566,
   2100641590, 2100642614, 2100643638, 2100644662, 2100645686, 2100646710, 2100647734, 2100648758, 2100649782,
   2100650806, 2100651830, 2100652854, 2100653878, 2100654902, 2100655926, 2100656950, 2100657974, 2100658998,
   2100660022, 2100661046, 2100662070, 2100663094, 2100664118, 2100665142, 2100666166, 2100667190, 2100668214,
   2100669238, 2100670262, 2100671286, 2100672310, 2100673334, 2100674358, 2100675382, 2100676406, 2100677430,
   2100678454, 2100679478, 2100680502, 2100681526, 2100682550, 2100683574, 2100684598, 2100685622, 2100686646,
   2100687670, 2100688694, 2100689718, 2100690742, 2100691767, 2100692791, 2100693815, 2100694839, 2100695863,
   2100696887, 2100697911, 2100698935, 2100699959, 2100700983, 2100702007, 2100703031, 2100704055, 2100705079,
   2100706103, 2100707127, 2100708151, 2100709175, 2100710199, 2100711223, 2100712247, 2100713271, 2100714295,
   2100715319, 2100716343, 2100717367, 2100718391, 2100719415, 2100720439, 2100721463, 2100722487, 2100723511,
   2100724535, 2100725559, 2100726583, 2100727607, 2100728631, 2100729655, 2100730679, 2100731703, 2100732727,
   2100733751, 2100734775, 2100735799, 2100736823, 2100737847, 2100738871, 2100739895, 2100740919, 2100741943,
   2100742967, 2100743991, 2100745015, 2100746039, 2100747063, 2100748087, 2100749111, 2100750135, 2100751159,
   2100752183, 2100753207, 2100754231, 2100755255, 2100756279, 2100757304, 2100758328, 2100759352, 2100760376,
   2100761400, 2100762424, 2100763448, 2100764472, 2100765496, 2100766520, 2100767544, 2100768568, 2100769592,
   2100770616, 2100771640, 2100772664, 2100773688, 2100774712, 2100775736, 2100776760, 2100777784, 2100778808,
   2100779832, 2100780856, 2100781880, 2100782904, 2100783928, 2100784952, 2100785976, 2100787000, 2100788024,
   2100789048, 2100790072, 2100791096, 2100792120, 2100793144, 2100794168, 2100795192, 2100796216, 2100797240,
   2100798264, 2100799288, 2100800312, 2100801336, 2100802360, 2100803384, 2100804408, 2100805432, 2100806456,
   2100807480, 2100808504, 2100809528, 2100810552, 2100811576, 2100812600, 2100813624, 2100814648, 2100815672,
   2100816696, 2100817720, 2100818744, 2100819768, 2100820792, 2100821816, 2100822841, 2100823865, 2100824889,
   2100825913, 2100826937, 2100827961, 2100828985, 2100830009, 2100831033, 2100832057, 2100833081, 2100834105,
   2100835129, 2100836153, 2100837177, 2100838201, 2100839225, 2100840249, 2100841273, 2100842297, 2100843321,
   2100844345, 2100845369, 2100846393, 2100847417, 2100848441, 2100849465, 2100850489, 2100851513, 2100852537,
   2100853561, 2100854585, 2100855609, 2100856633, 2100857657, 2100858681, 2100859705, 2100860729, 2100861753,
   2100862777, 2100863801, 2100864825, 2100865849, 2100866873, 2100867897, 2100868921, 2100869945, 2100870969,
   2100871993, 2100873017, 2100874041, 2100875065, 2100876089, 2100877113, 2100878137, 2100879161, 2100880185,
   2100881209, 2100882233, 2100883257, 2100884281, 2100885305, 2100886329, 2100887353, 2100888378, 2100889402,
   2100890426, 2100891450, 2100892474, 2100893498, 2100894522, 2100895546, 2100896570, 2100897594, 2100898618,
   2100899642, 2100900666, 2100901690, 2100902714, 2100903738, 2100904762, 2100905786, 2100906810, 2100907834,
   2100908858, 2100909882, 2100910906, 2100911930, 2100912954, 2100913978, 2100915002, 2100916026, 2100917050,
   2100918074, 2100919098, 2100920122, 2100921146, 2100922170, 2100923194, 2100924218, 2100925242, 2100926266,
   2100927290, 2100928314, 2100929338, 2100930362, 2100931386, 2100932410, 2100933434, 2100934458, 2100935482,
   2100936506, 2100937530, 2100938554, 2100939578, 2100940602, 2100941626, 2100942650, 2100943674, 2100944698,
   2100945722, 2100946746, 2100947770, 2100948794, 2100949818, 2100950842, 2100951866, 2100952890, 2100953915,
   2100954939, 2100955963, 2100956987, 2100958011, 2100959035, 2100960059, 2100961083, 2100962107, 2100963131,
   2100964155, 2100965179, 2100966203, 2100967227, 2100968251, 2100969275, 2100970299, 2100971323, 2100972347,
   2100973371, 2100974395, 2100975419, 2100976443, 2100977467, 2100978491, 2100979515, 2100980539, 2100981563,
   2100982587, 2100983611, 2100984635, 2100985659, 2100986683, 2100987707, 2100988731, 2100989755, 2100990779,
   2100991803, 2100992827, 2100993851, 2100994875, 2100995899, 2100996923, 2100997947, 2100998971, 2100999995,
   2101001019, 2101002043, 2101003067, 2101004091, 2101005115, 2101006139, 2101007163, 2101008187, 2101009211,
   2101010235, 2101011259, 2101012283, 2101013307, 2101014331, 2101015355, 2101016379, 2101017403, 2101018427,
   2101019452, 2101020476, 2101021500, 2101022524, 2101023548, 2101024572, 2101025596, 2101026620, 2101027644,
   2101028668, 2101029692, 2101030716, 2101031740, 2101032764, 2101033788, 2101034812, 2101035836, 2101036860,
   2101037884, 2101038908, 2101039932, 2101040956, 2101041980, 2101043004, 2101044028, 2101045052, 2101046076,
   2101047100, 2101048124, 2101049148, 2101050172, 2101051196, 2101052220, 2101053244, 2101054268, 2101055292,
   2101056316, 2101057340, 2101058364, 2101059388, 2101060412, 2101061436, 2101062460, 2101063484, 2101064508,
   2101065532, 2101066556, 2101067580, 2101068604, 2101069628, 2101070652, 2101071676, 2101072700, 2101073724,
   2101074748, 2101075772, 2101076796, 2101077820, 2101078844, 2101079868, 2101080892, 2101081916, 2101082940,
   2101083964, 2101084989, 2101086013, 2101087037, 2101088061, 2101089085, 2101090109, 2101091133, 2101092157,
   2101093181, 2101094205, 2101095229, 2101096253, 2101097277, 2101098301, 2101099325, 2101100349, 2101101373,
   2101102397, 2101103421, 2101104445, 2101105469, 2101106493, 2101107517, 2101108541, 2101109565, 2101110589,
   2101111613, 2101112637, 2101113661, 2101114685, 2101115709, 2101116733, 2101117757, 2101118781, 2101119805,
   2101120829, 2101121853, 2101122877, 2101123901, 2101124925, 2101125949, 2101126973, 2101127997, 2101129021,
   2101130045, 2101131069, 2101132093, 2101133117, 2101134141, 2101135165, 2101136189, 2101137213, 2101138237,
   2101139261, 2101140285, 2101141309, 2101142333, 2101143357, 2101144381, 2101145405, 2101146429, 2101147453,
   2101148477, 2101149501, 2101150526, 2101151550, 2101152574, 2101153598, 2101154622, 2101155646, 2101156670,
   2101157694, 2101158718, 2101159742, 2101160766, 2101161790, 2101162814, 2101163838, 2101164862, 2101165886,
   2101166910, 2101167934, 2101168958, 2101169982, 2101171006, 2101172030, 2101173054, 2101174078, 2101175102,
   2101176126, 2101177150, 2101178174, 2101179198, 2101180222, 2101181246, 2101182270, 2101183294, 2101184318,
   2101185342, 2101186366, 2101187390, 2101188414, 2101189438, 2101190462, 2101191486, 2101192510, 2101193534,
   2101194558, 2101195582, 2101196606, 2101197630, 2101198654, 2101199678, 2101200702, 2101201726, 2101202750,
   2101203774, 2101204798, 2101205822, 2101206846, 2101207870, 2101208894, 2101209918, 2101210942, 2101211966,
   2101212990, 2101214014, 2101215038, 2101216063, 2101217087, 2101218111, 2101219135, 2101220159, 2101221183,
   2101222207, 2101223231, 2101224255, 2101225279, 2101226303, 2101227327, 2101228351, 2101229375, 2101230399,
   2101231423, 2101232447, 2101233471, 2101234495, 2101235519, 2101236543, 2101237567, 2101238591, 2101239615,
   2101240639, 2101241663, 2101242687, 2101243711, 2101244735, 2101245759, 2101246783, 2101247807, 2101248831,
   2101249855, 2101250879, 2101251903, 2101252927, 2101253951, 2101254975, 2101255999, 2101257023, 2101258047,
   2101259071, 2101260095, 2101261119, 2101262143, 2101263167, 2101264191, 2101265215, 2101266239, 2101267263,
   2101268287, 2101269311, 2101270335, 2101271359, 2101272383, 2101273407, 2101274431, 2101275455, 2101276479,
   2101277503, 2101278527, 2101279551, 2101280575, 2101281600, 2101282624, 2101283648, 2101284672, 2101285696,
   2101286720, 2101287744, 2101288768, 2101289792, 2101290816, 2101291840, 2101292864, 2101293888, 2101294912,
   2101295936, 2101296960, 2101297984, 2101299008, 2101300032, 2101301056, 2101302080, 2101303104, 2101304128,
   2101305152, 2101306176, 2101307200, 2101308224, 2101309248, 2101310272, 2101311296, 2101312320, 2101313344,
   2101314368, 2101315392, 2101316416, 2101317440, 2101318464, 2101319488, 2101320512, 2101321536, 2101322560,
   2101323584, 2101324608, 2101325632, 2101326656, 2101327680, 2101328704, 2101329728, 2101330752, 2101331776,
   2101332800, 2101333824, 2101334848, 2101335872, 2101336896, 2101337920, 2101338944, 2101339968, 2101340992,
   2101342016, 2101343040, 2101344064, 2101345088, 2101346112]
theorem c9_ok :
    chkList (pipeF 1199570688 65535) 65535 2139095040 18433 1049624464 9216 c9
      20481 1050673056 10240 = true := by decide +kernel
theorem c9_len : 18433 + c9.length = 20481 := (chkList_end c9_ok).1
theorem c9_last : lastS 1049624464 c9 = 1050673056 := (chkList_end c9_ok).2.1

@[irreducible] def c10 : List Nat :=
  [2101347137, 2101348161, 2101349185, 2101350209, 2101351233, 2101352257, 2101353281, 2101354305, 2101355329,
   2101356353, 2101357377, 2101358401, 2101359425, 2101360449, 2101361473, 2101362497, 2101363521, 2101364545,
   2101365569, 2101366593, 2101367617, 2101368641, 2101369665, 2101370689, 2101371713, 2101372737, 2101373761,
   2101374785, 2101375809, 2101376833, 2101377857, 2101378881, 2101379905, 2101380929, 2101381953, 2101382977,
   2101384001, 2101385025, 2101386049, 2101387073, 2101388097, 2101389121, 2101390145, 2101391169, 2101392193,
   2101393217, 2101394241, 2101395265, 2101396289, 2101397313, 2101398337, 2101399361, 2101400385, 2101401409,
   2101402433, 2101403457, 2101404481, 2101405505, 2101406529, 2101407553, 2101408577, 2101409601, 2101410625,
   2101411649, 2101412674, 2101413698, 2101414722, 2101415746, 2101416770, 2101417794, 2101418818, 2101419842,
   2101420866, 2101421890, 2101422914, 2101423938, 2101424962, 2101425986, 2101427010, 2101428034, 2101429058,
   2101430082, 2101431106, 2101432130, 2101433154, 2101434178, 2101435202, 2101436226, 2101437250, 2101438274,
   2101439298, 2101440322, 2101441346, 2101442370, 2101443394, 2101444418, 2101445442, 2101446466, 2101447490,
   2101448514, 2101449538, 2101450562, 2101451586, 2101452610, 2101453634, 2101454658, 2101455682, 2101456706,
   2101457730, 2101458754, 2101459778, 2101460802, 2101461826, 2101462850, 2101463874, 2101464898, 2101465922,
   2101466946, 2101467970, 2101468994, 2101470018, 2101471042, 2101472066, 2101473090, 2101474114, 2101475138,
   2101476162, 2101477186, 2101478211, 2101479235, 2101480259, 2101481283, 2101482307, 2101483331, 2101484355,
   2101485379, 2101486403, 2101487427, 2101488451, 2101489475, 2101490499, 2101491523, 2101492547, 2101493571,
   2101494595, 2101495619, 2101496643, 2101497667, 2101498691, 2101499715, 2101500739, 2101501763, 2101502787,
   2101503811, 2101504835, 2101505859, 2101506883, 2101507907, 2101508931, 2101509955, 2101510979, 2101512003,
   2101513027, 2101514051, 2101515075, 2101516099, 2101517123, 2101518147, 2101519171, 2101520195, 2101521219,
   2101522243, 2101523267, 2101524291, 2101525315, 2101526339, 2101527363, 2101528387, 2101529411, 2101530435,
   2101531459, 2101532483, 2101533507, 2101534531, 2101535555, 2101536579, 2101537603, 2101538627, 2101539651,
   2101540675, 2101541699, 2101542723, 2101543748, 2101544772, 2101545796, 2101546820, 2101547844, 2101548868,
   2101549892, 2101550916, 2101551940, 2101552964, 2101553988, 2101555012, 2101556036, 2101557060, 2101558084,
   2101559108, 2101560132, 2101561156, 2101562180, 2101563204, 2101564228, 2101565252, 2101566276, 2101567300,
   2101568324, 2101569348, 2101570372, 2101571396, 2101572420, 2101573444, 2101574468, 2101575492, 2101576516,
   2101577540, 2101578564, 2101579588, 2101580612, 2101581636, 2101582660, 2101583684, 2101584708, 2101585732,
   2101586756, 2101587780, 2101588804, 2101589828, 2101590852, 2101591876, 2101592900, 2101593924, 2101594948,
   2101595972, 2101596996, 2101598020, 2101599044, 2101600068, 2101601092, 2101602116, 2101603140, 2101604164,
   2101605188, 2101606212, 2101607236, 2101608260, 2101609285, 2101610309, 2101611333, 2101612357, 2101613381,
   2101614405, 2101615429, 2101616453, 2101617477, 2101618501, 2101619525, 2101620549, 2101621573, 2101622597,
   2101623621, 2101624645, 2101625669, 2101626693, 2101627717, 2101628741, 2101629765, 2101630789, 2101631813,
   2101632837, 2101633861, 2101634885, 2101635909, 2101636933, 2101637957, 2101638981, 2101640005, 2101641029,
   2101642053, 2101643077, 2101644101, 2101645125, 2101646149, 2101647173, 2101648197, 2101649221, 2101650245,
   2101651269, 2101652293, 2101653317, 2101654341, 2101655365, 2101656389, 2101657413, 2101658437, 2101659461,
   2101660485, 2101661509, 2101662533, 2101663557, 2101664581, 2101665605, 2101666629, 2101667653, 2101668677,
   2101669701, 2101670725, 2101671749, 2101672773, 2101673797, 2101674822, 2101675846, 2101676870, 2101677894,
   2101678918, 2101679942, 2101680966, 2101681990, 2101683014, 2101684038, 2101685062, 2101686086, 2101687110,
   2101688134, 2101689158, 2101690182, 2101691206, 2101692230, 2101693254, 2101694278, 2101695302, 2101696326,
   2101697350, 2101698374, 2101699398, 2101700422, 2101701446, 2101702470, 2101703494, 2101704518, 2101705542,
   2101706566, 2101707590, 2101708614, 2101709638, 2101710662, 2101711686, 2101712710, 2101713734, 2101714758,
   2101715782, 2101716806, 2101717830, 2101718854, 2101719878, 2101720902, 2101721926, 2101722950, 2101723974,
   2101724998, 2101726022, 2101727046, 2101728070, 2101729094, 2101730118, 2101731142, 2101732166, 2101733190,
   2101734214, 2101735238, 2101736262, 2101737286, 2101738310, 2101739334, 2101740359, 2101741383, 2101742407,
   2101743431, 2101744455, 2101745479, 2101746503, 2101747527, 2101748551, 2101749575, 2101750599, 2101751623,
   2101752647, 2101753671, 2101754695, 2101755719, 2101756743, 2101757767, 2101758791, 2101759815, 2101760839,
   2101761863, 2101762887, 2101763911, 2101764935, 2101765959, 2101766983, 2101768007, 2101769031, 2101770055,
   2101771079, 2101772103, 2101773127, 2101774151, 2101775175, 2101776199, 2101777223, 2101778247, 2101779271,
   2101780295, 2101781319, 2101782343, 2101783367, 2101784391, 2101785415, 2101786439, 2101787463, 2101788487,
   2101789511, 2101790535, 2101791559, 2101792583, 2101793607, 2101794631, 2101795655, 2101796679, 2101797703,
   2101798727, 2101799751, 2101800775, 2101801799, 2101802823, 2101803847, 2101804871, 2101805896, 2101806920,
   2101807944, 2101808968, 2101809992, 2101811016, 2101812040, 2101813064, 2101814088, 2101815112, 2101816136,
   2101817160, 2101818184, 2101819208, 2101820232, 2101821256, 2101822280, 2101823304, 2101824328, 2101825352,
   2101826376, 2101827400, 2101828424, 2101829448, 2101830472, 2101831496, 2101832520, 2101833544, 2101834568,
   2101835592, 2101836616, 2101837640, 2101838664, 2101839688, 2101840712, 2101841736, 2101842760, 2101843784,
   2101844808, 2101845832, 2101846856, 2101847880, 2101848904, 2101849928, 2101850952, 2101851976, 2101853000,
   2101854024, 2101855048, 2101856072, 2101857096, 2101858120, 2101859144, 2101860168, 2101861192, 2101862216,
   2101863240, 2101864264, 2101865288, 2101866312, 2101867336, 2101868360, 2101869384, 2101870408, 2101871433,
   2101872457, 2101873481, 2101874505, 2101875529, 2101876553, 2101877577, 2101878601, 2101879625, 2101880649,
   2101881673, 2101882697, 2101883721, 2101884745, 2101885769, 2101886793, 2101887817, 2101888841, 2101889865,
   2101890889, 2101891913, 2101892937, 2101893961, 2101894985, 2101896009, 2101897033, 2101898057, 2101899081,
   2101900105, 2101901129, 2101902153, 2101903177, 2101904201, 2101905225, 2101906249, 2101907273, 2101908297,
   2101909321, 2101910345, 2101911369, 2101912393, 2101913417, 2101914441, 2101915465, 2101916489, 2101917513,
   2101918537, 2101919561, 2101920585, 2101921609, 2101922633, 2101923657, 2101924681, 2101925705, 2101926729,
   2101927753, 2101928777, 2101929801, 2101930825, 2101931849, 2101932873, 2101933897, 2101934921, 2101935945,
   2101936970, 2101937994, 2101939018, 2101940042, 2101941066, 2101942090, 2101943114, 2101944138, 2101945162,
   2101946186, 2101947210, 2101948234, 2101949258, 2101950282, 2101951306, 2101952330, 2101953354, 2101954378,
   2101955402, 2101956426, 2101957450, 2101958474, 2101959498, 2101960522, 2101961546, 2101962570, 2101963594,
   2101964618, 2101965642, 2101966666, 2101967690, 2101968714, 2101969738, 2101970762, 2101971786, 2101972810,
   2101973834, 2101974858, 2101975882, 2101976906, 2101977930, 2101978954, 2101979978, 2101981002, 2101982026,
   2101983050, 2101984074, 2101985098, 2101986122, 2101987146, 2101988170, 2101989194, 2101990218, 2101991242,
   2101992266, 2101993290, 2101994314, 2101995338, 2101996362, 2101997386, 2101998410, 2101999434, 2102000458,
   2102001482, 2102002507, 2102003531, 2102004555, 2102005579, 2102006603, 2102007627, 2102008651, 2102009675,
   2102010699, 2102011723, 2102012747, 2102013771, 2102014795, 2102015819, 2102016843, 2102017867, 2102018891,
   2102019915, 2102020939, 2102021963, 2102022987, 2102024011, 2102025035, 2102026059, 2102027083, 2102028107,
   2102029131, 2102030155, 2102031179, 2102032203, 2102033227, 2102034251, 2102035275, 2102036299, 2102037323,
   2102038347, 2102039371, 2102040395, 2102041419, 2102042443, 2102043467, 2102044491, 2102045515, 2102046539,
   2102047563, 2102048587, 2102049611, 2102050635, 2102051659, 2102052683, 2102053707, 2102054731, 2102055755,
   2102056779, 2102057803, 2102058827, 2102059851, 2102060875, 2102061899, 2102062923, 2102063947, 2102064971,
   2102065995, 2102067019, 2102068044, 2102069068, 2102070092, 2102071116, 2102072140, 2102073164, 2102074188,
   2102075212, 2102076236, 2102077260, 2102078284, 2102079308, 2102080332, 2102081356, 2102082380, 2102083404,
   2102084428, 2102085452, 2102086476, 2102087500, 2102088524, 2102089548, 2102090572, 2102091596, 2102092620,
   2102093644, 2102094668, 2102095692, 2102096716, 2102097740, 2102098764, 2102099788, 2102100812, 2102101836,
   2102102860, 2102103884, 2102104908, 2102105932, 2102106956, 2102107980, 2102109004, 2102110028, 2102111052,
   2102112076, 2102113100, 2102114124, 2102115148, 2102116172, 2102117196, 2102118220, 2102119244, 2102120268,
   2102121292, 2102122316, 2102123340, 2102124364, 2102125388, 2102126412, 2102127436, 2102128460, 2102129484,
   2102130508, 2102131532, 2102132556, 2102133581, 2102134605, 2102135629, 2102136653, 2102137677, 2102138701,
   2102139725, 2102140749, 2102141773, 2102142797, 2102143821, 2102144845, 2102145869, 2102146893, 2102147917,
   2102148941, 2102149965, 2102150989, 2102152013, 2102153037, 2102154061, 2102155085, 2102156109, 2102157133,
   2102158157, 2102159181, 2102160205, 2102161229, 2102162253, 2102163277, 2102164301, 2102165325, 2102166349,
   2102167373, 2102168397, 2102169421, 2102170445, 2102171469, 2102172493, 2102173517, 2102174541, 2102175565,
   2102176589, 2102177613, 2102178637, 2102179661, 2102180685, 2102181709, 2102182733, 2102183757, 2102184781,
   2102185805, 2102186829, 2102187853, 2102188877, 2102189901, 2102190925, 2102191949, 2102192973, 2102193997,
   2102195021, 2102196045, 2102197069, 2102198093, 2102199118, 2102200142, 2102201166, 2102202190, 2102203214,
   2102204238, 2102205262, 2102206286, 2102207310, 2102208334, 2102209358, 2102210382, 2102211406, 2102212430,
   2102213454, 2102214478, 2102215502, 2102216526, 2102217550, 2102218574, 2102219598, 2102220622, 2102221646,
   2102222670, 2102223694, 2102224718, 2102225742, 2102226766, 2102227790, 2102228814, 2102229838, 2102230862,
   2102231886, 2102232910, 2102233934, 2102234958, 2102235982, 2102237006, 2102238030, 2102239054, 2102240078,
   2102241102, 2102242126, 2102243150, 2102244174, 2102245198, 2102246222, 2102247246, 2102248270, 2102249294,
   2102250318, 2102251342, 2102252366, 2102253390, 2102254414, 2102255438, 2102256462, 2102257486, 2102258510,
   2102259534, 2102260558, 2102261582, 2102262606, 2102263630, 2102264655, 2102265679, 2102266703, 2102267727,
   2102268751, 2102269775, 2102270799, 2102271823, 2102272847, 2102273871, 2102274895, 2102275919, 2102276943,
   2102277967, 2102278991, 2102280015, 2102281039, 2102282063, 2102283087, 2102284111, 2102285135, 2102286159,
   2102287183, 2102288207, 2102289231, 2102290255, 2102291279, 2102292303, 2102293327, 2102294351, 2102295375,
   2102296399, 2102297423, 2102298447, 2102299471, 2102300495, 2102301519, 2102302543, 2102303567, 2102304591,
   2102305615, 2102306639, 2102307663, 2102308687, 2102309711, 2102310735, 2102311759, 2102312783, 2102313807,
   2102314831, 2102315855, 2102316879, 2102317903, 2102318927, 2102319951, 2102320975, 2102321999, 2102323023,
   2102324047, 2102325071, 2102326095, 2102327119, 2102328143, 2102329167, 2102330192, 2102331216, 2102332240,
   2102333264, 2102334288, 2102335312, 2102336336, 2102337360, 2102338384, 2102339408, 2102340432, 2102341456,
   2102342480, 2102343504, 2102344528, 2102345552, 2102346576, 2102347600, 2102348624, 2102349648, 2102350672,
   2102351696, 2102352720, 2102353744, 2102354768, 2102355792, 2102356816, 2102357840, 2102358864, 2102359888,
   2102360912, 2102361936, 2102362960, 2102363984, 2102365008, 2102366032, 2102367056, 2102368080, 2102369104,
   2102370128, 2102371152, 2102372176, 2102373200, 2102374224, 2102375248, 2102376272, 2102377296, 2102378320,
   2102379344, 2102380368, 2102381392, 2102382416, 2102383440, 2102384464, 2102385488, 2102386512, 2102387536,
   2102388560, 2102389584, 2102390608, 2102391632, 2102392656, 2102393680, 2102394704, 2102395729, 2102396753,
   2102397777, 2102398801, 2102399825, 2102400849, 2102401873, 2102402897, 2102403921, 2102404945, 2102405969,
   2102406993, 2102408017, 2102409041, 2102410065, 2102411089, 2102412113, 2102413137, 2102414161, 2102415185,
   2102416209, 2102417233, 2102418257, 2102419281, 2102420305, 2102421329, 2102422353, 2102423377, 2102424401,
   2102425425, 2102426449, 2102427473, 2102428497, 2102429521, 2102430545, 2102431569, 2102432593, 2102433617,
   2102434641, 2102435665, 2102436689, 2102437713, 2102438737, 2102439761, 2102440785, 2102441809, 2102442833,
   2102443857, 2102444881, 2102445905, 2102446929, 2102447953, 2102448977, 2102450001, 2102451025, 2102452049,
   2102453073, 2102454097, 2102455121, 2102456145, 2102457169, 2102458193, 2102459217, 2102460241, 2102461266,
   2102462290, 2102463314, 2102464338, 2102465362, 2102466386, 2102467410, 2102468434, 2102469458, 2102470482,
   2102471506, 2102472530, 2102473554, 2102474578, 2102475602, 2102476626, 2102477650, 2102478674, 2102479698,
   2102480722, 2102481746, 2102482770, 2102483794, 2102484818, 2102485842, 2102486866, 2102487890, 2102488914,
   2102489938, 2102490962, 2102491986, 2102493010, 2102494034, 2102495058, 2102496082, 2102497106, 2102498130,
   2102499154, 2102500178, 2102501202, 2102502226, 2102503250, 2102504274, 2102505298, 2102506322, 2102507346,
   2102508370, 2102509394, 2102510418, 2102511442, 2102512466, 2102513490, 2102514514, 2102515538, 2102516562,
   2102517586, 2102518610, 2102519634, 2102520658, 2102521682, 2102522706, 2102523730, 2102524754, 2102525778,
   2102526803, 2102527827, 2102528851, 2102529875, 2102530899, 2102531923, 2102532947, 2102533971, 2102534995,
   2102536019, 2102537043, 2102538067, 2102539091, 2102540115, 2102541139, 2102542163, 2102543187, 2102544211,
   2102545235, 2102546259, 2102547283, 2102548307, 2102549331, 2102550355, 2102551379, 2102552403, 2102553427,
   2102554451, 2102555475, 2102556499, 2102557523, 2102558547, 2102559571, 2102560595, 2102561619, 2102562643,
   2102563667, 2102564691, 2102565715, 2102566739, 2102567763, 2102568787, 2102569811, 2102570835, 2102571859,
   2102572883, 2102573907, 2102574931, 2102575955, 2102576979, 2102578003, 2102579027, 2102580051, 2102581075,
   2102582099, 2102583123, 2102584147, 2102585171, 2102586195, 2102587219, 2102588243, 2102589267, 2102590291,
   2102591315, 2102592340, 2102593364, 2102594388, 2102595412, 2102596436, 2102597460, 2102598484, 2102599508,
   2102600532, 2102601556, 2102602580, 2102603604, 2102604628, 2102605652, 2102606676, 2102607700, 2102608724,
   2102609748, 2102610772, 2102611796, 2102612820, 2102613844, 2102614868, 2102615892, 2102616916, 2102617940,
   2102618964, 2102619988, 2102621012, 2102622036, 2102623060, 2102624084, 2102625108, 2102626132, 2102627156,
   2102628180, 2102629204, 2102630228, 2102631252, 2102632276, 2102633300, 2102634324, 2102635348, 2102636372,
   2102637396, 2102638420, 2102639444, 2102640468, 2102641492, 2102642516, 2102643540, 2102644564, 2102645588,
   2102646612, 2102647636, 2102648660, 2102649684, 2102650708, 2102651732, 2102652756, 2102653780, 2102654804,
   2102655828, 2102656852, 2102657877, 2102658901, 2102659925, 2102660949, 2102661973, 2102662997, 2102664021,
   2102665045, 2102666069, 2102667093, 2102668117, 2102669141, 2102670165, 2102671189, 2102672213, 2102673237,
   2102674261, 2102675285, 2102676309, 2102677333, 2102678357, 2102679381, 2102680405, 2102681429, 2102682453,
   2102683477, 2102684501, 2102685525, 2102686549, 2102687573, 2102688597, 2102689621, 2102690645, 2102691669,
   2102692693, 2102693717, 2102694741, 2102695765, 2102696789, 2102697813, 2102698837, 2102699861, 2102700885,
   2102701909, 2102702933, 2102703957, 2102704981, 2102706005, 2102707029, 2102708053, 2102709077, 2102710101,
   2102711125, 2102712149, 2102713173, 2102714197, 2102715221, 2102716245, 2102717269, 2102718293, 2102719317,
   2102720341, 2102721365, 2102722389, 2102723414, 2102724438, 2102725462, 2102726486, 2102727510, 2102728534,
   2102729558, 2102730582, 2102731606, 2102732630, 2102733654, 2102734678, 2102735702, 2102736726, 2102737750,
   2102738774, 2102739798, 2102740822, 2102741846, 2102742870, 2102743894, 2102744918, 2102745942, 2102746966,
   2102747990, 2102749014, 2102750038, 2102751062, 2102752086, 2102753110, 2102754134, 2102755158, 2102756182,
   2102757206, 2102758230, 2102759254, 2102760278, 2102761302, 2102762326, 2102763350, 2102764374, 2102765398,
   2102766422, 2102767446, 2102768470, 2102769494, 2102770518, 2102771542, 2102772566, 2102773590, 2102774614,
   2102775638, 2102776662, 2102777686, 2102778710, 2102779734, 2102780758, 2102781782, 2102782806, 2102783830,
   2102784854, 2102785878, 2102786902, 2102787926, 2102788951, 2102789975, 2102790999, 2102792023, 2102793047,
   2102794071, 2102795095, 2102796119, 2102797143, 2102798167, 2102799191, 2102800215, 2102801239, 2102802263,
   2102803287, 2102804311, 2102805335, 2102806359, 2102807383, 2102808407, 2102809431, 2102810455, 2102811479,
   2102812503, 2102813527, 2102814551, 2102815575, 2102816599, 2102817623, 2102818647, 2102819671, 2102820695,
   2102821719, 2102822743, 2102823767, 2102824791, 2102825815, 2102826839, 2102827863, 2102828887, 2102829911,
   2102830935, 2102831959, 2102832983, 2102834007, 2102835031, 2102836055, 2102837079, 2102838103, 2102839127,
   2102840151, 2102841175, 2102842199, 2102843223, 2102844247, 2102845271, 2102846295, 2102847319, 2102848343,
   2102849367, 2102850391, 2102851415, 2102852439, 2102853463, 2102854488, 2102855512, 2102856536, 2102857560,
   2102858584, 2102859608, 2102860632, 2102861656, 2102862680, 2102863704, 2102864728, 2102865752, 2102866776,
   2102867800, 2102868824, 2102869848, 2102870872, 2102871896, 2102872920, 2102873944, 2102874968, 2102875992,
   2102877016, 2102878040, 2102879064, 2102880088, 2102881112, 2102882136, 2102883160, 2102884184, 2102885208,
   2102886232, 2102887256, 2102888280, 2102889304, 2102890328, 2102891352, 2102892376, 2102893400, 2102894424,
   2102895448, 2102896472, 2102897496, 2102898520, 2102899544, 2102900568, 2102901592, 2102902616, 2102903640,
   2102904664, 2102905688, 2102906712, 2102907736, 2102908760, 2102909784, 2102910808, 2102911832, 2102912856,
   2102913880, 2102914904, 2102915928, 2102916952, 2102917976, 2102919000, 2102920025, 2102921049, 2102922073,
   2102923097, 2102924121, 2102925145, 2102926169, 2102927193, 2102928217, 2102929241, 2102930265, 2102931289,
   2102932313, 2102933337, 2102934361, 2102935385, 2102936409, 2102937433, 2102938457, 2102939481, 2102940505,
   2102941529, 2102942553, 2102943577, 2102944601, 2102945625, 2102946649, 2102947673, 2102948697, 2102949721,
   2102950745, 2102951769, 2102952793, 2102953817, 2102954841, 2102955865, 2102956889, 2102957913, 2102958937,
   2102959961, 2102960985, 2102962009, 2102963033, 2102964057, 2102965081, 2102966105, 2102967129, 2102968153,
   2102969177, 2102970201, 2102971225, 2102972249, 2102973273, 2102974297, 2102975321, 2102976345, 2102977369,
   2102978393, 2102979417, 2102980441, 2102981465, 2102982489, 2102983513, 2102984537, 2102985562, 2102986586,
   2102987610, 2102988634, 2102989658, 2102990682, 2102991706, 2102992730, 2102993754, 2102994778, 2102995802,
   2102996826, 2102997850, 2102998874, 2102999898, 2103000922, 2103001946, 2103002970, 2103003994, 2103005018,
   2103006042, 2103007066, 2103008090, 2103009114, 2103010138, 2103011162, 2103012186, 2103013210, 2103014234,
   2103015258, 2103016282, 2103017306, 2103018330, 2103019354, 2103020378, 2103021402, 2103022426, 2103023450,
   2103024474, 2103025498, 2103026522, 2103027546, 2103028570, 2103029594, 2103030618, 2103031642, 2103032666,
   2103033690, 2103034714, 2103035738, 2103036762, 2103037786, 2103038810, 2103039834, 2103040858, 2103041882,
   2103042906, 2103043930, 2103044954, 2103045978, 2103047002, 2103048026, 2103049050, 2103050074, 2103051099,
   2103052123, 2103053147, 2103054171, 2103055195, 2103056219, 2103057243, 2103058267, 2103059291, 2103060315,
   2103061339, 2103062363, 2103063387, 2103064411, 2103065435, 2103066459, 2103067483, 2103068507, 2103069531,
   2103070555, 2103071579, 2103072603, 2103073627, 2103074651, 2103075675, 2103076699, 2103077723, 2103078747,
   2103079771, 2103080795, 2103081819, 2103082843, 2103083867, 2103084891, 2103085915, 2103086939, 2103087963,
   2103088987, 2103090011, 2103091035, 2103092059, 2103093083, 2103094107, 2103095131, 2103096155, 2103097179,
   2103098203, 2103099227, 2103100251, 2103101275, 2103102299, 2103103323, 2103104347, 2103105371, 2103106395,
   2103107419, 2103108443, 2103109467, 2103110491, 2103111515, 2103112539, 2103113563, 2103114587, 2103115611,
   2103116636, 2103117660, 2103118684, 2103119708, 2103120732, 2103121756, 2103122780, 2103123804, 2103124828,
   2103125852, 2103126876, 2103127900, 2103128924, 2103129948, 2103130972, 2103131996, 2103133020, 2103134044,
   2103135068, 2103136092, 2103137116, 2103138140, 2103139164, 2103140188, 2103141212, 2103142236, 2103143260,
   2103144284, 2103145308, 2103146332, 2103147356, 2103148380, 2103149404, 2103150428, 2103151452, 2103152476,
   2103153500, 2103154524, 2103155548, 2103156572, 2103157596, 2103158620, 2103159644, 2103160668, 2103161692,
   2103162716, 2103163740, 2103164764, 2103165788, 2103166812, 2103167836, 2103168860, 2103169884, 2103170908,
   2103171932, 2103172956, 2103173980, 2103175004, 2103176028, 2103177052, 2103178076, 2103179100, 2103180124,
   2103181148, 2103182173, 2103183197, 2103184221, 2103185245, 2103186269, 2103187293, 2103188317, 2103189341,
   2103190365, 2103191389, 2103192413, 2103193437, 2103194461, 2103195485, 2103196509, 2103197533, 2103198557,
   2103199581, 2103200605, 2103201629, 2103202653, 2103203677, 2103204701, 2103205725, 2103206749, 2103207773,
   2103208797, 2103209821, 2103210845, 2103211869, 2103212893, 2103213917, 2103214941, 2103215965, 2103216989,
   2103218013, 2103219037, 2103220061, 2103221085, 2103222109, 2103223133, 2103224157, 2103225181, 2103226205,
   2103227229, 2103228253, 2103229277, 2103230301, 2103231325, 2103232349, 2103233373, 2103234397, 2103235421,
   2103236445, 2103237469, 2103238493, 2103239517, 2103240541, 2103241565, 2103242589, 2103243613, 2103244637,
   2103245661, 2103246685, 2103247710, 2103248734, 2103249758, 2103250782, 2103251806, 2103252830, 2103253854,
   2103254878, 2103255902, 2103256926, 2103257950, 2103258974, 2103259998, 2103261022, 2103262046, 2103263070,
   2103264094, 2103265118, 2103266142, 2103267166, 2103268190, 2103269214, 2103270238, 2103271262, 2103272286,
   2103273310, 2103274334, 2103275358, 2103276382, 2103277406, 2103278430, 2103279454, 2103280478, 2103281502,
   2103282526, 2103283550, 2103284574, 2103285598, 2103286622, 2103287646, 2103288670, 2103289694, 2103290718,
   2103291742, 2103292766, 2103293790, 2103294814, 2103295838, 2103296862, 2103297886, 2103298910, 2103299934,
   2103300958, 2103301982, 2103303006, 2103304030, 2103305054, 2103306078, 2103307102, 2103308126, 2103309150,
   2103310174, 2103311198, 2103312222, 2103313247, 2103314271, 2103315295, 2103316319, 2103317343, 2103318367,
   2103319391, 2103320415, 2103321439, 2103322463, 2103323487, 2103324511, 2103325535, 2103326559, 2103327583,
   2103328607, 2103329631, 2103330655, 2103331679, 2103332703, 2103333727, 2103334751, 2103335775, 2103336799,
   2103337823, 2103338847, 2103339871, 2103340895, 2103341919, 2103342943, 2103343967, 2103344991, 2103346015,
   2103347039, 2103348063, 2103349087, 2103350111, 2103351135, 2103352159, 2103353183, 2103354207, 2103355231,
   2103356255, 2103357279, 2103358303, 2103359327, 2103360351, 2103361375, 2103362399, 2103363423, 2103364447,
   2103365471, 2103366495, 2103367519, 2103368543, 2103369567, 2103370591, 2103371615, 2103372639, 2103373663,
   2103374687, 2103375711, 2103376735, 2103377759, 2103378784, 2103379808, 2103380832, 2103381856, 2103382880,
   2103383904, 2103384928, 2103385952, 2103386976, 2103388000, 2103389024, 2103390048, 2103391072, 2103392096,
   2103393120, 2103394144, 2103395168, 2103396192, 2103397216, 2103398240, 2103399264, 2103400288, 2103401312,
   2103402336, 2103403360, 2103404384, 2103405408, 2103406432, 2103407456, 2103408480, 2103409504, 2103410528,
   2103411552, 2103412576, 2103413600, 2103414624, 2103415648, 2103416672, 2103417696, 2103418720, 2103419744,
   2103420768, 2103421792, 2103422816, 2103423840, 2103424864, 2103425888, 2103426912, 2103427936, 2103428960,
   2103429984, 2103431008, 2103432032, 2103433056, 2103434080, 2103435104, 2103436128, 2103437152, 2103438176,
   2103439200, 2103440224, 2103441248, 2103442272, 2103443296]
theorem c10_ok :
    chkList (pipeF 1199570688 65535) 65535 2139095040 20481 1050673056 10240 c10
      22529 1051721648 11264 = true := by decide +kernel
theorem c10_len : 20481 + c10.length = 22529 := (chkList_end c10_ok).1
theorem c10_last : lastS 1050673056 c10 = 1051721648 := (chkList_end c10_ok).2.1

@[irreducible] def c11 : List Nat :=
  [2103444321, 2103445345, 2103446369, 2103447393, 2103448417, 2103449441, 2103450465, 2103451489, 2103452513,
   2103453537, 2103454561, 2103455585, 2103456609, 2103457633, 2103458657, 2103459681, 2103460705, 2103461729,
   2103462753, 2103463777, 2103464801, 2103465825, 2103466849, 2103467873, 2103468897, 2103469921, 2103470945,
   2103471969, 2103472993, 2103474017, 2103475041, 2103476065, 2103477089, 2103478113, 2103479137, 2103480161,
   2103481185, 2103482209, 2103483233, 2103484257, 2103485281, 2103486305, 2103487329, 2103488353, 2103489377,
   2103490401, 2103491425, 2103492449, 2103493473, 2103494497, 2103495521, 2103496545, 2103497569, 2103498593,
   2103499617, 2103500641, 2103501665, 2103502689, 2103503713, 2103504737, 2103505761, 2103506785, 2103507809,
   2103508833, 2103509858, 2103510882, 2103511906, 2103512930, 2103513954, 2103514978, 2103516002, 2103517026,
   2103518050, 2103519074, 2103520098, 2103521122, 2103522146, 2103523170, 2103524194, 2103525218, 2103526242,
   2103527266, 2103528290, 2103529314, 2103530338, 2103531362, 2103532386, 2103533410, 2103534434, 2103535458,
   2103536482, 2103537506, 2103538530, 2103539554, 2103540578, 2103541602, 2103542626, 2103543650, 2103544674,
   2103545698, 2103546722, 2103547746, 2103548770, 2103549794, 2103550818, 2103551842, 2103552866, 2103553890,
   2103554914, 2103555938, 2103556962, 2103557986, 2103559010, 2103560034, 2103561058, 2103562082, 2103563106,
   2103564130, 2103565154, 2103566178, 2103567202, 2103568226, 2103569250, 2103570274, 2103571298, 2103572322,
   2103573346, 2103574370, 2103575395, 2103576419, 2103577443, 2103578467, 2103579491, 2103580515, 2103581539,
   2103582563, 2103583587, 2103584611, 2103585635, 2103586659, 2103587683, 2103588707, 2103589731, 2103590755,
   2103591779, 2103592803, 2103593827, 2103594851, 2103595875, 2103596899, 2103597923, 2103598947, 2103599971,
   2103600995, 2103602019, 2103603043, 2103604067, 2103605091, 2103606115, 2103607139, 2103608163, 2103609187,
   2103610211, 2103611235, 2103612259, 2103613283, 2103614307, 2103615331, 2103616355, 2103617379, 2103618403,
   2103619427, 2103620451, 2103621475, 2103622499, 2103623523, 2103624547, 2103625571, 2103626595, 2103627619,
   2103628643, 2103629667, 2103630691, 2103631715, 2103632739, 2103633763, 2103634787, 2103635811, 2103636835,
   2103637859, 2103638883, 2103639907, 2103640932, 2103641956, 2103642980, 2103644004, 2103645028, 2103646052,
   2103647076, 2103648100, 2103649124, 2103650148, 2103651172, 2103652196, 2103653220, 2103654244, 2103655268,
   2103656292, 2103657316, 2103658340, 2103659364, 2103660388, 2103661412, 2103662436, 2103663460, 2103664484,
   2103665508, 2103666532, 2103667556, 2103668580, 2103669604, 2103670628, 2103671652, 2103672676, 2103673700,
   2103674724, 2103675748, 2103676772, 2103677796, 2103678820, 2103679844, 2103680868, 2103681892, 2103682916,
   2103683940, 2103684964, 2103685988, 2103687012, 2103688036, 2103689060, 2103690084, 2103691108, 2103692132,
   2103693156, 2103694180, 2103695204, 2103696228, 2103697252, 2103698276, 2103699300, 2103700324, 2103701348,
   2103702372, 2103703396, 2103704420, 2103705444, 2103706469, 2103707493, 2103708517, 2103709541, 2103710565,
   2103711589, 2103712613, 2103713637, 2103714661, 2103715685, 2103716709, 2103717733, 2103718757, 2103719781,
   2103720805, 2103721829, 2103722853, 2103723877, 2103724901, 2103725925, 2103726949, 2103727973, 2103728997,
   2103730021, 2103731045, 2103732069, 2103733093, 2103734117, 2103735141, 2103736165, 2103737189, 2103738213,
   2103739237, 2103740261, 2103741285, 2103742309, 2103743333, 2103744357, 2103745381, 2103746405, 2103747429,
   2103748453, 2103749477, 2103750501, 2103751525, 2103752549, 2103753573, 2103754597, 2103755621, 2103756645,
   2103757669, 2103758693, 2103759717, 2103760741, 2103761765, 2103762789, 2103763813, 2103764837, 2103765861,
   2103766885, 2103767909, 2103768933, 2103769957, 2103770981, 2103772006, 2103773030, 2103774054, 2103775078,
   2103776102, 2103777126, 2103778150, 2103779174, 2103780198, 2103781222, 2103782246, 2103783270, 2103784294,
   2103785318, 2103786342, 2103787366, 2103788390, 2103789414, 2103790438, 2103791462, 2103792486, 2103793510,
   2103794534, 2103795558, 2103796582, 2103797606, 2103798630, 2103799654, 2103800678, 2103801702, 2103802726,
   2103803750, 2103804774, 2103805798, 2103806822, 2103807846, 2103808870, 2103809894, 2103810918, 2103811942,
   2103812966, 2103813990, 2103815014, 2103816038, 2103817062, 2103818086, 2103819110, 2103820134, 2103821158,
   2103822182, 2103823206, 2103824230, 2103825254, 2103826278, 2103827302, 2103828326, 2103829350, 2103830374,
   2103831398, 2103832422, 2103833446, 2103834470, 2103835494, 2103836518, 2103837543, 2103838567, 2103839591,
   2103840615, 2103841639, 2103842663, 2103843687, 2103844711, 2103845735, 2103846759, 2103847783, 2103848807,
   2103849831, 2103850855, 2103851879, 2103852903, 2103853927, 2103854951, 2103855975, 2103856999, 2103858023,
   2103859047, 2103860071, 2103861095, 2103862119, 2103863143, 2103864167, 2103865191, 2103866215, 2103867239,
   2103868263, 2103869287, 2103870311, 2103871335, 2103872359, 2103873383, 2103874407, 2103875431, 2103876455,
   2103877479, 2103878503, 2103879527, 2103880551, 2103881575, 2103882599, 2103883623, 2103884647, 2103885671,
   2103886695, 2103887719, 2103888743, 2103889767, 2103890791, 2103891815, 2103892839, 2103893863, 2103894887,
   2103895911, 2103896935, 2103897959, 2103898983, 2103900007, 2103901031, 2103902055, 2103903080, 2103904104,
   2103905128, 2103906152, 2103907176, 2103908200, 2103909224, 2103910248, 2103911272, 2103912296, 2103913320,
   2103914344, 2103915368, 2103916392, 2103917416, 2103918440, 2103919464, 2103920488, 2103921512, 2103922536,
   2103923560, 2103924584, 2103925608, 2103926632, 2103927656, 2103928680, 2103929704, 2103930728, 2103931752,
   2103932776, 2103933800, 2103934824, 2103935848, 2103936872, 2103937896, 2103938920, 2103939944, 2103940968,
   2103941992, 2103943016, 2103944040, 2103945064, 2103946088, 2103947112, 2103948136, 2103949160, 2103950184,
   2103951208, 2103952232, 2103953256, 2103954280, 2103955304, 2103956328, 2103957352, 2103958376, 2103959400,
   2103960424, 2103961448, 2103962472, 2103963496, 2103964520, 2103965544, 2103966568, 2103967592, 2103968617,
   2103969641, 2103970665, 2103971689, 2103972713, 2103973737, 2103974761, 2103975785, 2103976809, 2103977833,
   2103978857, 2103979881, 2103980905, 2103981929, 2103982953, 2103983977, 2103985001, 2103986025, 2103987049,
   2103988073, 2103989097, 2103990121, 2103991145, 2103992169, 2103993193, 2103994217, 2103995241, 2103996265,
   2103997289, 2103998313, 2103999337, 2104000361, 2104001385, 2104002409, 2104003433, 2104004457, 2104005481,
   2104006505, 2104007529, 2104008553, 2104009577, 2104010601, 2104011625, 2104012649, 2104013673, 2104014697,
   2104015721, 2104016745, 2104017769, 2104018793, 2104019817, 2104020841, 2104021865, 2104022889, 2104023913,
   2104024937, 2104025961, 2104026985, 2104028009, 2104029033, 2104030057, 2104031081, 2104032105, 2104033129,
   2104034154, 2104035178, 2104036202, 2104037226, 2104038250, 2104039274, 2104040298, 2104041322, 2104042346,
   2104043370, 2104044394, 2104045418, 2104046442, 2104047466, 2104048490, 2104049514, 2104050538, 2104051562,
   2104052586, 2104053610, 2104054634, 2104055658, 2104056682, 2104057706, 2104058730, 2104059754, 2104060778,
   2104061802, 2104062826, 2104063850, 2104064874, 2104065898, 2104066922, 2104067946, 2104068970, 2104069994,
   2104071018, 2104072042, 2104073066, 2104074090, 2104075114, 2104076138, 2104077162, 2104078186, 2104079210,
   2104080234, 2104081258, 2104082282, 2104083306, 2104084330, 2104085354, 2104086378, 2104087402, 2104088426,
   2104089450, 2104090474, 2104091498, 2104092522, 2104093546, 2104094570, 2104095594, 2104096618, 2104097642,
   2104098666, 2104099691, 2104100715, 2104101739, 2104102763, 2104103787, 2104104811, 2104105835, 2104106859,
   2104107883, 2104108907, 2104109931, 2104110955, 2104111979, 2104113003, 2104114027, 2104115051, 2104116075,
   2104117099, 2104118123, 2104119147, 2104120171, 2104121195, 2104122219, 2104123243, 2104124267, 2104125291,
   2104126315, 2104127339, 2104128363, 2104129387, 2104130411, 2104131435, 2104132459, 2104133483, 2104134507,
   2104135531, 2104136555, 2104137579, 2104138603, 2104139627, 2104140651, 2104141675, 2104142699, 2104143723,
   2104144747, 2104145771, 2104146795, 2104147819, 2104148843, 2104149867, 2104150891, 2104151915, 2104152939,
   2104153963, 2104154987, 2104156011, 2104157035, 2104158059, 2104159083, 2104160107, 2104161131, 2104162155,
   2104163179, 2104164203, 2104165228, 2104166252, 2104167276, 2104168300, 2104169324, 2104170348, 2104171372,
   2104172396, 2104173420, 2104174444, 2104175468, 2104176492, 2104177516, 2104178540, 2104179564, 2104180588,
   2104181612, 2104182636, 2104183660, 2104184684, 2104185708, 2104186732, 2104187756, 2104188780, 2104189804,
   2104190828, 2104191852, 2104192876, 2104193900, 2104194924, 2104195948, 2104196972, 2104197996, 2104199020,
   2104200044, 2104201068, 2104202092, 2104203116, 2104204140, 2104205164, 2104206188, 2104207212, 2104208236,
   2104209260, 2104210284, 2104211308, 2104212332, 2104213356, 2104214380, 2104215404, 2104216428, 2104217452,
   2104218476, 2104219500, 2104220524, 2104221548, 2104222572, 2104223596, 2104224620, 2104225644, 2104226668,
   2104227692, 2104228716, 2104229740, 2104230765, 2104231789, 2104232813, 2104233837, 2104234861, 2104235885,
   2104236909, 2104237933, 2104238957, 2104239981, 2104241005, 2104242029, 2104243053, 2104244077, 2104245101,
   2104246125, 2104247149, 2104248173, 2104249197, 2104250221, 2104251245, 2104252269, 2104253293, 2104254317,
   2104255341, 2104256365, 2104257389, 2104258413, 2104259437, 2104260461, 2104261485, 2104262509, 2104263533,
   2104264557, 2104265581, 2104266605, 2104267629, 2104268653, 2104269677, 2104270701, 2104271725, 2104272749,
   2104273773, 2104274797, 2104275821, 2104276845, 2104277869, 2104278893, 2104279917, 2104280941, 2104281965,
   2104282989, 2104284013, 2104285037, 2104286061, 2104287085, 2104288109, 2104289133, 2104290157, 2104291181,
   2104292205, 2104293229, 2104294253, 2104295277, 2104296302, 2104297326, 2104298350, 2104299374, 2104300398,
   2104301422, 2104302446, 2104303470, 2104304494, 2104305518, 2104306542, 2104307566, 2104308590, 2104309614,
   2104310638, 2104311662, 2104312686, 2104313710, 2104314734, 2104315758, 2104316782, 2104317806, 2104318830,
   2104319854, 2104320878, 2104321902, 2104322926, 2104323950, 2104324974, 2104325998, 2104327022, 2104328046,
   2104329070, 2104330094, 2104331118, 2104332142, 2104333166, 2104334190, 2104335214, 2104336238, 2104337262,
   2104338286, 2104339310, 2104340334, 2104341358, 2104342382, 2104343406, 2104344430, 2104345454, 2104346478,
   2104347502, 2104348526, 2104349550, 2104350574, 2104351598, 2104352622, 2104353646, 2104354670, 2104355694,
   2104356718, 2104357742, 2104358766, 2104359790, 2104360814, 2104361839, 2104362863, 2104363887, 2104364911,
   2104365935, 2104366959, 2104367983, 2104369007, 2104370031, 2104371055, 2104372079, 2104373103, 2104374127,
   2104375151, 2104376175, 2104377199, 2104378223, 2104379247, 2104380271, 2104381295, 2104382319, 2104383343,
   2104384367, 2104385391, 2104386415, 2104387439, 2104388463, 2104389487, 2104390511, 2104391535, 2104392559,
   2104393583, 2104394607, 2104395631, 2104396655, 2104397679, 2104398703, 2104399727, 2104400751, 2104401775,
   2104402799, 2104403823, 2104404847, 2104405871, 2104406895, 2104407919, 2104408943, 2104409967, 2104410991,
   2104412015, 2104413039, 2104414063, 2104415087, 2104416111, 2104417135, 2104418159, 2104419183, 2104420207,
   2104421231, 2104422255, 2104423279, 2104424303, 2104425327, 2104426351, 2104427376, 2104428400, 2104429424,
   2104430448, 2104431472, 2104432496, 2104433520, 2104434544, 2104435568, 2104436592, 2104437616, 2104438640,
   2104439664, 2104440688, 2104441712, 2104442736, 2104443760, 2104444784, 2104445808, 2104446832, 2104447856,
   2104448880, 2104449904, 2104450928, 2104451952, 2104452976, 2104454000, 2104455024, 2104456048, 2104457072,
   2104458096, 2104459120, 2104460144, 2104461168, 2104462192, 2104463216, 2104464240, 2104465264, 2104466288,
   2104467312, 2104468336, 2104469360, 2104470384, 2104471408, 2104472432, 2104473456, 2104474480, 2104475504,
   2104476528, 2104477552, 2104478576, 2104479600, 2104480624, 2104481648, 2104482672, 2104483696, 2104484720,
   2104485744, 2104486768, 2104487792, 2104488816, 2104489840, 2104490864, 2104491888, 2104492913, 2104493937,
   2104494961, 2104495985, 2104497009, 2104498033, 2104499057, 2104500081, 2104501105, 2104502129, 2104503153,
   2104504177, 2104505201, 2104506225, 2104507249, 2104508273, 2104509297, 2104510321, 2104511345, 2104512369,
   2104513393, 2104514417, 2104515441, 2104516465, 2104517489, 2104518513, 2104519537, 2104520561, 2104521585,
   2104522609, 2104523633, 2104524657, 2104525681, 2104526705, 2104527729, 2104528753, 2104529777, 2104530801,
   2104531825, 2104532849, 2104533873, 2104534897, 2104535921, 2104536945, 2104537969, 2104538993, 2104540017,
   2104541041, 2104542065, 2104543089, 2104544113, 2104545137, 2104546161, 2104547185, 2104548209, 2104549233,
   2104550257, 2104551281, 2104552305, 2104553329, 2104554353, 2104555377, 2104556401, 2104557425, 2104558450,
   2104559474, 2104560498, 2104561522, 2104562546, 2104563570, 2104564594, 2104565618, 2104566642, 2104567666,
   2104568690, 2104569714, 2104570738, 2104571762, 2104572786, 2104573810, 2104574834, 2104575858, 2104576882,
   2104577906, 2104578930, 2104579954, 2104580978, 2104582002, 2104583026, 2104584050, 2104585074, 2104586098,
   2104587122, 2104588146, 2104589170, 2104590194, 2104591218, 2104592242, 2104593266, 2104594290, 2104595314,
   2104596338, 2104597362, 2104598386, 2104599410, 2104600434, 2104601458, 2104602482, 2104603506, 2104604530,
   2104605554, 2104606578, 2104607602, 2104608626, 2104609650, 2104610674, 2104611698, 2104612722, 2104613746,
   2104614770, 2104615794, 2104616818, 2104617842, 2104618866, 2104619890, 2104620914, 2104621938, 2104622962,
   2104623987, 2104625011, 2104626035, 2104627059, 2104628083, 2104629107, 2104630131, 2104631155, 2104632179,
   2104633203, 2104634227, 2104635251, 2104636275, 2104637299, 2104638323, 2104639347, 2104640371, 2104641395,
   2104642419, 2104643443, 2104644467, 2104645491, 2104646515, 2104647539, 2104648563, 2104649587, 2104650611,
   2104651635, 2104652659, 2104653683, 2104654707, 2104655731, 2104656755, 2104657779, 2104658803, 2104659827,
   2104660851, 2104661875, 2104662899, 2104663923, 2104664947, 2104665971, 2104666995, 2104668019, 2104669043,
   2104670067, 2104671091, 2104672115, 2104673139, 2104674163, 2104675187, 2104676211, 2104677235, 2104678259,
   2104679283, 2104680307, 2104681331, 2104682355, 2104683379, 2104684403, 2104685427, 2104686451, 2104687475,
   2104688499, 2104689524, 2104690548, 2104691572, 2104692596, 2104693620, 2104694644, 2104695668, 2104696692,
   2104697716, 2104698740, 2104699764, 2104700788, 2104701812, 2104702836, 2104703860, 2104704884, 2104705908,
   2104706932, 2104707956, 2104708980, 2104710004, 2104711028, 2104712052, 2104713076, 2104714100, 2104715124,
   2104716148, 2104717172, 2104718196, 2104719220, 2104720244, 2104721268, 2104722292, 2104723316, 2104724340,
   2104725364, 2104726388, 2104727412, 2104728436, 2104729460, 2104730484, 2104731508, 2104732532, 2104733556,
   2104734580, 2104735604, 2104736628, 2104737652, 2104738676, 2104739700, 2104740724, 2104741748, 2104742772,
   2104743796, 2104744820, 2104745844, 2104746868, 2104747892, 2104748916, 2104749940, 2104750964, 2104751988,
   2104753012, 2104754036, 2104755061, 2104756085, 2104757109, 2104758133, 2104759157, 2104760181, 2104761205,
   2104762229, 2104763253, 2104764277, 2104765301, 2104766325, 2104767349, 2104768373, 2104769397, 2104770421,
   2104771445, 2104772469, 2104773493, 2104774517, 2104775541, 2104776565, 2104777589, 2104778613, 2104779637,
   2104780661, 2104781685, 2104782709, 2104783733, 2104784757, 2104785781, 2104786805, 2104787829, 2104788853,
   2104789877, 2104790901, 2104791925, 2104792949, 2104793973, 2104794997, 2104796021, 2104797045, 2104798069,
   2104799093, 2104800117, 2104801141, 2104802165, 2104803189, 2104804213, 2104805237, 2104806261, 2104807285,
   2104808309, 2104809333, 2104810357, 2104811381, 2104812405, 2104813429, 2104814453, 2104815477, 2104816501,
   2104817525, 2104818549, 2104819573, 2104820598, 2104821622, 2104822646, 2104823670, 2104824694, 2104825718,
   2104826742, 2104827766, 2104828790, 2104829814, 2104830838, 2104831862, 2104832886, 2104833910, 2104834934,
   2104835958, 2104836982, 2104838006, 2104839030, 2104840054, 2104841078, 2104842102, 2104843126, 2104844150,
   2104845174, 2104846198, 2104847222, 2104848246, 2104849270, 2104850294, 2104851318, 2104852342, 2104853366,
   2104854390, 2104855414, 2104856438, 2104857462, 2104858486, 2104859510, 2104860534, 2104861558, 2104862582,
   2104863606, 2104864630, 2104865654, 2104866678, 2104867702, 2104868726, 2104869750, 2104870774, 2104871798,
   2104872822, 2104873846, 2104874870, 2104875894, 2104876918, 2104877942, 2104878966, 2104879990, 2104881014,
   2104882038, 2104883062, 2104884086, 2104885110, 2104886135, 2104887159, 2104888183, 2104889207, 2104890231,
   2104891255, 2104892279, 2104893303, 2104894327, 2104895351, 2104896375, 2104897399, 2104898423, 2104899447,
   2104900471, 2104901495, 2104902519, 2104903543, 2104904567, 2104905591, 2104906615, 2104907639, 2104908663,
   2104909687, 2104910711, 2104911735, 2104912759, 2104913783, 2104914807, 2104915831, 2104916855, 2104917879,
   2104918903, 2104919927, 2104920951, 2104921975, 2104922999, 2104924023, 2104925047, 2104926071, 2104927095,
   2104928119, 2104929143, 2104930167, 2104931191, 2104932215, 2104933239, 2104934263, 2104935287, 2104936311,
   2104937335, 2104938359, 2104939383, 2104940407, 2104941431, 2104942455, 2104943479, 2104944503, 2104945527,
   2104946551, 2104947575, 2104948599, 2104949623, 2104950647, 2104951672, 2104952696, 2104953720, 2104954744,
   2104955768, 2104956792, 2104957816, 2104958840, 2104959864, 2104960888, 2104961912, 2104962936, 2104963960,
   2104964984, 2104966008, 2104967032, 2104968056, 2104969080, 2104970104, 2104971128, 2104972152, 2104973176,
   2104974200, 2104975224, 2104976248, 2104977272, 2104978296, 2104979320, 2104980344, 2104981368, 2104982392,
   2104983416, 2104984440, 2104985464, 2104986488, 2104987512, 2104988536, 2104989560, 2104990584, 2104991608,
   2104992632, 2104993656, 2104994680, 2104995704, 2104996728, 2104997752, 2104998776, 2104999800, 2105000824,
   2105001848, 2105002872, 2105003896, 2105004920, 2105005944, 2105006968, 2105007992, 2105009016, 2105010040,
   2105011064, 2105012088, 2105013112, 2105014136, 2105015160, 2105016184, 2105017209, 2105018233, 2105019257,
   2105020281, 2105021305, 2105022329, 2105023353, 2105024377, 2105025401, 2105026425, 2105027449, 2105028473,
   2105029497, 2105030521, 2105031545, 2105032569, 2105033593, 2105034617, 2105035641, 2105036665, 2105037689,
   2105038713, 2105039737, 2105040761, 2105041785, 2105042809, 2105043833, 2105044857, 2105045881, 2105046905,
   2105047929, 2105048953, 2105049977, 2105051001, 2105052025, 2105053049, 2105054073, 2105055097, 2105056121,
   2105057145, 2105058169, 2105059193, 2105060217, 2105061241, 2105062265, 2105063289, 2105064313, 2105065337,
   2105066361, 2105067385, 2105068409, 2105069433, 2105070457, 2105071481, 2105072505, 2105073529, 2105074553,
   2105075577, 2105076601, 2105077625, 2105078649, 2105079673, 2105080697, 2105081721, 2105082746, 2105083770,
   2105084794, 2105085818, 2105086842, 2105087866, 2105088890, 2105089914, 2105090938, 2105091962, 2105092986,
   2105094010, 2105095034, 2105096058, 2105097082, 2105098106, 2105099130, 2105100154, 2105101178, 2105102202,
   2105103226, 2105104250, 2105105274, 2105106298, 2105107322, 2105108346, 2105109370, 2105110394, 2105111418,
   2105112442, 2105113466, 2105114490, 2105115514, 2105116538, 2105117562, 2105118586, 2105119610, 2105120634,
   2105121658, 2105122682, 2105123706, 2105124730, 2105125754, 2105126778, 2105127802, 2105128826, 2105129850,
   2105130874, 2105131898, 2105132922, 2105133946, 2105134970, 2105135994, 2105137018, 2105138042, 2105139066,
   2105140090, 2105141114, 2105142138, 2105143162, 2105144186, 2105145210, 2105146234, 2105147258, 2105148283,
   2105149307, 2105150331, 2105151355, 2105152379, 2105153403, 2105154427, 2105155451, 2105156475, 2105157499,
   2105158523, 2105159547, 2105160571, 2105161595, 2105162619, 2105163643, 2105164667, 2105165691, 2105166715,
   2105167739, 2105168763, 2105169787, 2105170811, 2105171835, 2105172859, 2105173883, 2105174907, 2105175931,
   2105176955, 2105177979, 2105179003, 2105180027, 2105181051, 2105182075, 2105183099, 2105184123, 2105185147,
   2105186171, 2105187195, 2105188219, 2105189243, 2105190267, 2105191291, 2105192315, 2105193339, 2105194363,
   2105195387, 2105196411, 2105197435, 2105198459, 2105199483, 2105200507, 2105201531, 2105202555, 2105203579,
   2105204603, 2105205627, 2105206651, 2105207675, 2105208699, 2105209723, 2105210747, 2105211771, 2105212795,
   2105213820, 2105214844, 2105215868, 2105216892, 2105217916, 2105218940, 2105219964, 2105220988, 2105222012,
   2105223036, 2105224060, 2105225084, 2105226108, 2105227132, 2105228156, 2105229180, 2105230204, 2105231228,
   2105232252, 2105233276, 2105234300, 2105235324, 2105236348, 2105237372, 2105238396, 2105239420, 2105240444,
   2105241468, 2105242492, 2105243516, 2105244540, 2105245564, 2105246588, 2105247612, 2105248636, 2105249660,
   2105250684, 2105251708, 2105252732, 2105253756, 2105254780, 2105255804, 2105256828, 2105257852, 2105258876,
   2105259900, 2105260924, 2105261948, 2105262972, 2105263996, 2105265020, 2105266044, 2105267068, 2105268092,
   2105269116, 2105270140, 2105271164, 2105272188, 2105273212, 2105274236, 2105275260, 2105276284, 2105277308,
   2105278332, 2105279357, 2105280381, 2105281405, 2105282429, 2105283453, 2105284477, 2105285501, 2105286525,
   2105287549, 2105288573, 2105289597, 2105290621, 2105291645, 2105292669, 2105293693, 2105294717, 2105295741,
   2105296765, 2105297789, 2105298813, 2105299837, 2105300861, 2105301885, 2105302909, 2105303933, 2105304957,
   2105305981, 2105307005, 2105308029, 2105309053, 2105310077, 2105311101, 2105312125, 2105313149, 2105314173,
   2105315197, 2105316221, 2105317245, 2105318269, 2105319293, 2105320317, 2105321341, 2105322365, 2105323389,
   2105324413, 2105325437, 2105326461, 2105327485, 2105328509, 2105329533, 2105330557, 2105331581, 2105332605,
   2105333629, 2105334653, 2105335677, 2105336701, 2105337725, 2105338749, 2105339773, 2105340797, 2105341821,
   2105342845, 2105343869, 2105344894, 2105345918, 2105346942, 2105347966, 2105348990, 2105350014, 2105351038,
   2105352062, 2105353086, 2105354110, 2105355134, 2105356158, 2105357182, 2105358206, 2105359230, 2105360254,
   2105361278, 2105362302, 2105363326, 2105364350, 2105365374, 2105366398, 2105367422, 2105368446, 2105369470,
   2105370494, 2105371518, 2105372542, 2105373566, 2105374590, 2105375614, 2105376638, 2105377662, 2105378686,
   2105379710, 2105380734, 2105381758, 2105382782, 2105383806, 2105384830, 2105385854, 2105386878, 2105387902,
   2105388926, 2105389950, 2105390974, 2105391998, 2105393022, 2105394046, 2105395070, 2105396094, 2105397118,
   2105398142, 2105399166, 2105400190, 2105401214, 2105402238, 2105403262, 2105404286, 2105405310, 2105406334,
   2105407358, 2105408382, 2105409406, 2105410431, 2105411455, 2105412479, 2105413503, 2105414527, 2105415551,
   2105416575, 2105417599, 2105418623, 2105419647, 2105420671, 2105421695, 2105422719, 2105423743, 2105424767,
   2105425791, 2105426815, 2105427839, 2105428863, 2105429887, 2105430911, 2105431935, 2105432959, 2105433983,
   2105435007, 2105436031, 2105437055, 2105438079, 2105439103, 2105440127, 2105441151, 2105442175, 2105443199,
   2105444223, 2105445247, 2105446271, 2105447295, 2105448319, 2105449343, 2105450367, 2105451391, 2105452415,
   2105453439, 2105454463, 2105455487, 2105456511, 2105457535, 2105458559, 2105459583, 2105460607, 2105461631,
   2105462655, 2105463679, 2105464703, 2105465727, 2105466751, 2105467775, 2105468799, 2105469823, 2105470847,
   2105471871, 2105472895, 2105473919, 2105474943, 2105475968, 2105476992, 2105478016, 2105479040, 2105480064,
   2105481088, 2105482112, 2105483136, 2105484160, 2105485184, 2105486208, 2105487232, 2105488256, 2105489280,
   2105490304, 2105491328, 2105492352, 2105493376, 2105494400, 2105495424, 2105496448, 2105497472, 2105498496,
   2105499520, 2105500544, 2105501568, 2105502592, 2105503616, 2105504640, 2105505664, 2105506688, 2105507712,
   2105508736, 2105509760, 2105510784, 2105511808, 2105512832, 2105513856, 2105514880, 2105515904, 2105516928,
   2105517952, 2105518976, 2105520000, 2105521024, 2105522048, 2105523072, 2105524096, 2105525120, 2105526144,
   2105527168, 2105528192, 2105529216, 2105530240, 2105531264, 2105532288, 2105533312, 2105534336, 2105535360,
   2105536384, 2105537408, 2105538432, 2105539456, 2105540480]
theorem c11_ok :
    chkList (pipeF 1199570688 65535) 65535 2139095040 22529 1051721648 11264 c11
      24577 1052770240 12288 = true := by decide +kernel
theorem c11_len : 22529 + c11.length = 24577 := (chkList_end c11_ok).1
theorem c11_last : lastS 1051721648 c11 = 1052770240 := (chkList_end c11_ok).2.1

end Dds.F32Thr.FpN16
