/-
C13 / BC7 writer: the field order of the specification (mode, partition, rotation, index selector, all R, all G,
all B, alpha, p-bits, index lists — `Bc7Spec`) written with the encoder's writers, for every mode record at once, and
what the specification's decoder makes of such a block, expressed in the encoder's own arithmetic (`pixelOf`).
The eight block writers are instances: their field lists are `layout` of their mode record by unfolding, which
`Proofs/Enc7Writer.lean` checks where it applies `roundtrip_one_list` and its siblings (`show`).
-/
import DdsModel.Proofs.Enc7Stream
import DdsModel.Proofs.Enc7Palette
import DdsModel.Proofs.Bc7Glue
namespace Dds.Enc7
open Dds Dds.BcTables Dds.Bc7Spec


/-- a header field that a mode may lack -/
def optField (v n : Nat) : List (Nat × Nat) := if n = 0 then [] else [(v, n)]

theorem width_optField (v n : Nat) : width (optField v n) = n := by
  unfold optField; split <;> simp [width, *]

theorem fieldsOK_optField (v n : Nat) (hv : v < 2 ^ n) (hn : n < 64) : FieldsOK (optField v n) := by
  unfold optField; split
  · exact fieldsOK_nil
  · exact fieldsOK_one v n hv hn

theorem rd_fv_optField (v n : Nat) (fs : List (Nat × Nat)) (hv : v < 2 ^ n) : rd (fv (optField v n ++ fs)) 0 n = v := by
  unfold optField; split
  · subst n; rw [Bc7.rd_zero]; omega
  · exact rd_fv_cons v n fs hv

/-- the fields of a block of mode `m` in the order of the specification, from the p-bits / the alpha / the colour
fields / the mode field onwards.  `col c e`, `al e`, `pb k` are the values the writer puts into channel `c` of endpoint
`e`, the alpha of endpoint `e`, p-bit `k`; `ix` are the index lists. -/
def fromP (r : ModeRec) (pb : Nat → Nat) (ix : List (Nat × Nat)) : List (Nat × Nat) := run (pBitCount r) 1 pb ++ ix
def fromAlpha (r : ModeRec) (al pb : Nat → Nat) (ix : List (Nat × Nat)) : List (Nat × Nat) :=
  run (if r.alphaBits = 0 then 0 else 2 * r.subsets) r.alphaBits al ++ fromP r pb ix
def fromColour (r : ModeRec) (col : Nat → Nat → Nat) (al pb : Nat → Nat) (ix : List (Nat × Nat)) : List (Nat × Nat) :=
  run (2 * r.subsets) r.colorBits (col 0) ++ (run (2 * r.subsets) r.colorBits (col 1) ++
    (run (2 * r.subsets) r.colorBits (col 2) ++ fromAlpha r al pb ix))
def layout (m : Nat) (r : ModeRec) (part rot sel : Nat) (col : Nat → Nat → Nat) (al pb : Nat → Nat)
    (ix : List (Nat × Nat)) : List (Nat × Nat) :=
  writeMode m ++ (optField part r.partBits ++ (optField rot r.rotBits ++ (optField sel r.selBits ++
    fromColour r col al pb ix)))

structure Fits (m : Nat) (r : ModeRec) (part rot sel : Nat) (col : Nat → Nat → Nat) (al pb : Nat → Nat) : Prop where
  mode : m < 8
  part : part < 2 ^ r.partBits
  rot : rot < 2 ^ r.rotBits
  sel : sel < 2 ^ r.selBits
  col : ∀ c, c < 3 → ∀ e, col c e < 2 ^ r.colorBits
  al : ∀ e, al e < 2 ^ r.alphaBits
  pb : ∀ k, k < pBitCount r → pb k < 2

theorem modes_facts : ∀ r ∈ modes,
    (r.partBits ≤ 6 ∧ r.rotBits < 64 ∧ r.selBits < 64 ∧ 4 ≤ r.colorBits ∧ r.colorBits < 8) ∧
    ((r.alphaBits = 0 ∨ 4 ≤ r.alphaBits) ∧ r.alphaBits ≤ 8 ∧ ((r.epPBits = 1 ∨ r.spPBits = 1) → r.alphaBits < 8) ∧
      (r.idx2Bits = 0 → r.alphaBits = 0 ∨ r.alphaBits = r.colorBits)) ∧
    ((r.subsets = 1 ∨ r.subsets = 2 ∨ r.subsets = 3) ∧ (r.idxBits = 2 ∨ r.idxBits = 3 ∨ r.idxBits = 4) ∧
      (r.subsets = 3 → r.idxBits ≠ 4) ∧ (r.idx2Bits = 0 ∨ r.idx2Bits = 2 ∨ r.idx2Bits = 3) ∧
      r.subsets ≤ 16 * r.idxBits ∧ 16 * r.idxBits - r.subsets < 64) := by decide

theorem shr_run (N B : Nat) (g : Nat → Nat) (fs : List (Nat × Nat)) (q : Nat) (hB : B < 64)
    (hg : ∀ e, e < N → g e < 2 ^ B) :
    fv (run N B g ++ fs) >>> (N * B + q) = fv fs >>> q :=
  shr_fv_append _ fs (fieldsOK_run N B g hB hg) q (by rw [width_run])

theorem shr_optField (v n : Nat) (fs : List (Nat × Nat)) (q : Nat) (hv : v < 2 ^ n) (hn : n < 64) :
    fv (optField v n ++ fs) >>> (n + q) = fv fs >>> q :=
  shr_fv_append _ fs (fieldsOK_optField v n hv hn) q (by rw [width_optField])

theorem shr_mode (m : Nat) (fs : List (Nat × Nat)) (q : Nat) (hm : m < 8) :
    fv (writeMode m ++ fs) >>> (m + 1 + q) = fv fs >>> q :=
  shr_fv_append _ fs (fieldsOK_mode m hm) q rfl

section reads
variable {m : Nat} {r : ModeRec} {part rot sel : Nat} {col : Nat → Nat → Nat} {al pb : Nat → Nat}
  (h : Fits m r part rot sel col al pb) (hr : r ∈ modes) (ix : List (Nat × Nat))
include h hr

theorem fieldsOK_layout (hix : FieldsOK ix) : FieldsOK (layout m r part rot sel col al pb ix) := by
  obtain ⟨⟨w1, w2, w3, _, w4⟩, ⟨_, w5, _⟩, _⟩ := modes_facts r hr
  simp only [layout, fromColour, fromAlpha, fromP, fieldsOK_append]
  exact ⟨fieldsOK_mode m h.mode, fieldsOK_optField _ _ h.part (by omega), fieldsOK_optField _ _ h.rot w2,
    fieldsOK_optField _ _ h.sel w3, fieldsOK_run _ _ _ (by omega) (fun e _ => h.col 0 (by decide) e),
    fieldsOK_run _ _ _ (by omega) (fun e _ => h.col 1 (by decide) e), fieldsOK_run _ _ _ (by omega) (fun e _ => h.col 2 (by decide) e),
    fieldsOK_run _ _ _ (by omega) (fun e _ => h.al e), fieldsOK_run _ _ _ (by decide) h.pb, hix⟩

omit h hr in
theorem width_layout : width (layout m r part rot sel col al pb ix) = idxStart m r + width ix := by
  have ea : (if r.alphaBits = 0 then 0 else 2 * r.subsets) * r.alphaBits = 2 * r.subsets * r.alphaBits := by
    split <;> simp [*]
  simp only [layout, fromColour, fromAlpha, fromP, width_append, width_optField, width_run, ea, idxStart, pStart,
    alphaStart, colorStart]
  rw [Nat.mul_assoc 3, show width (writeMode m) = m + 1 from rfl]; omega

theorem finish_layout (hix : FieldsOK ix) (hw : idxStart m r + width ix ≤ 128) :
    finish (writeAll (layout m r part rot sel col al pb ix)) = fv (layout m r part rot sel col al pb ix) :=
  finish_writeAll _ (fieldsOK_layout h hr ix hix) (by rw [width_layout]; exact hw)

/-! the four stretches: shifting out the header / the colour / the alpha / the p-bit fields -/

theorem shr_header (q : Nat) :
    fv (layout m r part rot sel col al pb ix) >>> (colorStart m r + q) = fv (fromColour r col al pb ix) >>> q := by
  obtain ⟨⟨w1, w2, w3, _⟩, _⟩ := modes_facts r hr
  rw [show colorStart m r + q = m + 1 + (r.partBits + (r.rotBits + (r.selBits + q))) by rw [colorStart]; omega, layout,
    shr_mode _ _ _ h.mode, shr_optField _ _ _ _ h.part (by omega), shr_optField _ _ _ _ h.rot w2,
    shr_optField _ _ _ _ h.sel w3]

theorem shr_colour (q : Nat) :
    fv (layout m r part rot sel col al pb ix) >>> (alphaStart m r + q) = fv (fromAlpha r al pb ix) >>> q := by
  obtain ⟨⟨_, _, _, _, w4⟩, _⟩ := modes_facts r hr
  have e : alphaStart m r + q = colorStart m r + (2 * r.subsets * r.colorBits +
      (2 * r.subsets * r.colorBits + (2 * r.subsets * r.colorBits + q))) := by
    rw [alphaStart, Nat.mul_assoc 3]; omega
  rw [e, shr_header h hr, fromColour, shr_run _ _ _ _ _ (by omega) (fun e _ => h.col 0 (by decide) e),
    shr_run _ _ _ _ _ (by omega) (fun e _ => h.col 1 (by decide) e), shr_run _ _ _ _ _ (by omega) (fun e _ => h.col 2 (by decide) e)]

theorem shr_alpha (q : Nat) :
    fv (layout m r part rot sel col al pb ix) >>> (pStart m r + q) = fv (fromP r pb ix) >>> q := by
  obtain ⟨_, ⟨_, w5, _⟩, _⟩ := modes_facts r hr
  have e : pStart m r + q = alphaStart m r + ((if r.alphaBits = 0 then 0 else 2 * r.subsets) * r.alphaBits + q) := by
    rw [pStart]; split <;> simp [*, Nat.add_assoc]
  rw [e, shr_colour h hr, fromAlpha, shr_run _ _ _ _ _ (by omega) (fun e _ => h.al e)]

theorem shr_p (q : Nat) : fv (layout m r part rot sel col al pb ix) >>> (idxStart m r + q) = fv ix >>> q := by
  rw [show idxStart m r + q = pStart m r + (pBitCount r * 1 + q) by rw [idxStart]; omega, shr_alpha h hr, fromP,
    shr_run _ _ _ _ _ (by decide) h.pb]

theorem layout_reads :
    let b := fv (layout m r part rot sel col al pb ix)
    modeOf b = m ∧ rd b (m + 1) r.partBits = part ∧ rd b (m + 1 + r.partBits) r.rotBits = rot ∧
    rd b (m + 1 + r.partBits + r.rotBits) r.selBits = sel ∧
    (∀ c, c < 3 → ∀ e, e < 2 * r.subsets →
      rd b (colorStart m r + (c * (2 * r.subsets) + e) * r.colorBits) r.colorBits = col c e) ∧
    (r.alphaBits ≠ 0 → ∀ e, e < 2 * r.subsets → rd b (alphaStart m r + e * r.alphaBits) r.alphaBits = al e) ∧
    (∀ k, k < pBitCount r → rd b (pStart m r + k) 1 = pb k) ∧
    b >>> idxStart m r = fv ix := by
  obtain ⟨⟨w1, w2, w3, _, w4⟩, ⟨_, w5, _⟩, _⟩ := modes_facts r hr
  have hp : r.partBits < 64 := by omega
  refine ⟨modeOf_fv m _ h.mode, ?_, ?_, ?_, ?_, ?_, ?_, shr_p h hr ix 0⟩
  · rw [Bc7.rd_eq_shift, layout, shr_mode m _ 0 h.mode, ← Bc7.rd_eq_shift]
    exact rd_fv_optField _ _ _ h.part
  · rw [Bc7.rd_eq_shift, layout, show m + 1 + r.partBits = m + 1 + (r.partBits + 0) from rfl, shr_mode m _ _ h.mode,
      shr_optField _ _ _ 0 h.part hp, ← Bc7.rd_eq_shift]
    exact rd_fv_optField _ _ _ h.rot
  · rw [Bc7.rd_eq_shift, layout, show m + 1 + r.partBits + r.rotBits = m + 1 + (r.partBits + (r.rotBits + 0)) by omega,
      shr_mode m _ _ h.mode, shr_optField _ _ _ _ h.part hp, shr_optField _ _ _ 0 h.rot w2, ← Bc7.rd_eq_shift]
    exact rd_fv_optField _ _ _ h.sel
  · intro c hc e he
    have hc' : c = 0 ∨ c = 1 ∨ c = 2 := by omega
    rw [Bc7.rd_eq_shift, shr_header h hr, fromColour]
    rcases hc' with rfl | rfl | rfl
    · rw [Nat.zero_mul, Nat.zero_add, ← Bc7.rd_eq_shift]
      exact rd_run _ _ _ _ e (by omega) (fun e _ => h.col 0 hc e) he
    · rw [Nat.one_mul, Nat.add_mul, shr_run _ _ _ _ _ (by omega) (fun e _ => h.col 0 (by decide) e), ← Bc7.rd_eq_shift]
      exact rd_run _ _ _ _ e (by omega) (fun e _ => h.col 1 hc e) he
    · rw [show (2 * (2 * r.subsets) + e) * r.colorBits =
          2 * r.subsets * r.colorBits + (2 * r.subsets * r.colorBits + e * r.colorBits) by
        rw [Nat.add_mul, Nat.mul_assoc 2]; omega, shr_run _ _ _ _ _ (by omega) (fun e _ => h.col 0 (by decide) e),
        shr_run _ _ _ _ _ (by omega) (fun e _ => h.col 1 (by decide) e), ← Bc7.rd_eq_shift]
      exact rd_run _ _ _ _ e (by omega) (fun e _ => h.col 2 hc e) he
  · intro ha e he
    rw [Bc7.rd_eq_shift, shr_colour h hr, fromAlpha, ← Bc7.rd_eq_shift]
    exact rd_run _ _ _ _ e (by omega) (fun e _ => h.al e) (by rw [if_neg ha]; exact he)
  · intro k hk
    have := rd_run (pBitCount r) 1 pb ix k (by decide) h.pb hk
    rwa [Nat.mul_one, Bc7.rd_eq_shift, ← fromP, ← shr_alpha h hr, ← Bc7.rd_eq_shift] at this

end reads


/-- endpoint `w` (0 or 1) of subset `s`, channel `c`, as the encoder widens it: `promote` / `p_promote` of the written
values; a p-bit shared by the subset (mode 1) is p-bit `s` -/
def endpointOf (r : ModeRec) (col : Nat → Nat → Nat) (al pb : Nat → Nat) (s w c : Nat) : Nat :=
  if c = 3 ∧ r.alphaBits = 0 then 255 else
  let bits := if c = 3 then r.alphaBits else r.colorBits
  let raw := if c = 3 then al (2 * s + w) else col c (2 * s + w)
  if r.epPBits = 1 then pPromoteCh bits raw (pb (2 * s + w))
  else if r.spPBits = 1 then pPromoteCh bits raw (pb s)
  else promoteCh bits raw

theorem endpoint_layout {m : Nat} {r : ModeRec} {part rot sel : Nat} {col : Nat → Nat → Nat} {al pb : Nat → Nat}
    (h : Fits m r part rot sel col al pb) (hr : r ∈ modes) (ix : List (Nat × Nat)) (s w c : Nat)
    (hs : s < r.subsets) (hw : w < 2) (hc : c < 4) :
    endpoint m r (fv (layout m r part rot sel col al pb ix)) (2 * s + w) c = endpointOf r col al pb s w c := by
  obtain ⟨_, _, _, _, hcol, hal, hpb, _⟩ := layout_reads h hr ix
  obtain ⟨⟨_, _, _, c4, c8⟩, ⟨ha, ha8, hpa, _⟩, _⟩ := modes_facts r hr
  have he : 2 * s + w < 2 * r.subsets := by omega
  have hd : (2 * s + w) / 2 = s := by omega
  -- the three ways of widening, for a field of `bits` bits holding `raw`
  have key : ∀ bits raw, 4 ≤ bits → bits ≤ 8 → ((r.epPBits = 1 ∨ r.spPBits = 1) → bits < 8) → raw < 2 ^ bits →
      (if r.epPBits = 1 then
        expand (bits + 1) (raw * 2 + rd (fv (layout m r part rot sel col al pb ix)) (pStart m r + (2 * s + w)) 1)
       else if r.spPBits = 1 then
        expand (bits + 1) (raw * 2 + rd (fv (layout m r part rot sel col al pb ix)) (pStart m r + (2 * s + w) / 2) 1)
       else expand bits raw) =
      (if r.epPBits = 1 then pPromoteCh bits raw (pb (2 * s + w)) else if r.spPBits = 1 then pPromoteCh bits raw (pb s)
       else promoteCh bits raw) := by
    intro bits raw b4 b8 bp hraw
    by_cases h1 : r.epPBits = 1
    · have hk : 2 * s + w < pBitCount r := by rw [pBitCount, if_pos h1]; exact he
      rw [if_pos h1, if_pos h1, hpb _ hk, pPromoteCh_eq_spec bits raw _ b4 (bp (Or.inl h1)) hraw (h.pb _ hk)]
    · by_cases h2 : r.spPBits = 1
      · have hk : s < pBitCount r := by rw [pBitCount, if_neg h1, if_pos h2]; exact hs
        rw [if_neg h1, if_neg h1, if_pos h2, if_pos h2, hd, hpb _ hk,
          pPromoteCh_eq_spec bits raw _ b4 (bp (Or.inr h2)) hraw (h.pb _ hk)]
      · rw [if_neg h1, if_neg h1, if_neg h2, if_neg h2, promoteCh_eq_spec bits raw b4 b8 hraw]
  unfold endpoint endpointOf
  by_cases h3 : c = 3
  · subst h3
    by_cases ha0 : r.alphaBits = 0
    · simp only [ha0, and_self, if_true]
    · simp only [ha0, and_false, if_false, if_true, hal ha0 _ he]
      exact key _ _ (by omega) ha8 hpa (h.al _)
  · simp only [h3, false_and, if_false, hcol c (by omega) _ he]
    exact key _ _ c4 (by omega) (fun _ => c8) (h.col c (by omega) _)

/-- the specification's anchor rule is what `Indexes::new_p1 / p2 / p3` undo -/
theorem index1_eq (m : Nat) (r : ModeRec) (b part i : Nat) (hr : r ∈ modes) (hp : part < 64) (hi : i < 16) :
    index1 m r b part i = Bc7.getIndex (readIdx r.subsets r.idxBits part (b >>> idxStart m r)) i := by
  obtain ⟨_, _, hs, hI, h34, _⟩ := modes_facts r hr
  unfold index1 readIdx
  rcases hs with hs | hs | hs <;> rw [hs] at h34 ⊢
  · exact (Bc7.index_impl1 _ b _ 1 part i hI hi (by decide) (by decide)).symm
  · exact (Bc7.index_impl2 _ b _ part i hI hi hp).symm
  · exact (Bc7.index_impl3 _ b _ part i (by have := h34 rfl; omega) hi hp).symm

theorem subsetIndex_eq (part i : Nat) (hp : part < 64) (hi : i < 16) :
    specSubset 2 part i = subset2Index (implP2 part) i ∧ specSubset 3 part i = subset3Index (implP3 part) i :=
  ⟨(subset2Index_eq part i hp hi).symm, (subset3Index_eq part i hp hi).symm⟩

theorem specSubset_lt (ns part i : Nat) (hs : ns = 1 ∨ ns = 2 ∨ ns = 3) (hp : part < 64) (hi : i < 16) :
    specSubset ns part i < ns := by
  rcases hs with rfl | rfl | rfl
  · rw [Bc7.specSubset1]; decide
  · exact Nat.lt_succ_of_le (specSubset2_le part i hp hi)
  · exact Nat.lt_succ_of_le (specSubset3_le part i hp hi)

/-- one pixel in the encoder's arithmetic: colour and alpha interpolated between the endpoints `ept` of subset `s`, at
the index `k1` of the primary list or `k2` of the secondary one (the selector bit exchanges their roles), then
`Rotation::apply`; alpha 255 in the modes without alpha -/
def pixelOf (r : ModeRec) (rot sel : Nat) (ept : Nat → Nat → Nat → Nat) (s k1 k2 : Nat) : List Nat :=
  let ic := if r.idx2Bits = 0 then (r.idxBits, k1) else if sel = 1 then (r.idx2Bits, k2) else (r.idxBits, k1)
  let ia := if r.idx2Bits = 0 then (r.idxBits, k1) else if sel = 1 then (r.idxBits, k1) else (r.idx2Bits, k2)
  rotApply rot [interpolate ic.1 (ept s 0 0) (ept s 1 0) ic.2, interpolate ic.1 (ept s 0 1) (ept s 1 1) ic.2,
    interpolate ic.1 (ept s 0 2) (ept s 1 2) ic.2,
    if r.alphaBits = 0 then 255 else interpolate ia.1 (ept s 0 3) (ept s 1 3) ia.2]

theorem rotate_eq (rot a0 a1 a2 a3 : Nat) : rotate rot [a0, a1, a2, a3] = rotApply rot [a0, a1, a2, a3] := rfl

theorem decodeMode_enc (m : Nat) (r : ModeRec) (b : Nat) (hr : r ∈ modes) :
    decodeMode m r b = (List.range 16).map fun i =>
      pixelOf r (rd b (m + 1 + r.partBits) r.rotBits) (rd b (m + 1 + r.partBits + r.rotBits) r.selBits)
        (fun s w => endpoint m r b (2 * s + w)) (specSubset r.subsets (rd b (m + 1) r.partBits) i) (index1 m r b (rd b (m + 1) r.partBits) i) (index2 m r b i) := by
  obtain ⟨_, _, _, hI, _, hI2, _⟩ := modes_facts r hr
  have hw : ∀ W k e0 c0 e1 c1, (W = 2 ∨ W = 3 ∨ W = 4) → k < 2 ^ W →
      interp (endpoint m r b e0 c0) (endpoint m r b e1 c1) ((specWeights W).getD k 0) =
        interpolate W (endpoint m r b e0 c0) (endpoint m r b e1 c1) k :=
    fun W k e0 c0 e1 c1 hW hk => (interpolate_eq_spec W _ _ k hW (Bc7.endpoint_lt _ _ _ _ _ hr)
      (Bc7.endpoint_lt _ _ _ _ _ hr) hk).symm
  -- without alpha fields both alpha endpoints are 255, and so is everything between them
  have h255 : ∀ W k e0 e1, (W = 2 ∨ W = 3 ∨ W = 4) → k < 2 ^ W →
      (if r.alphaBits = 0 then 255 else interpolate W (endpoint m r b e0 3) (endpoint m r b e1 3) k) =
        interpolate W (endpoint m r b e0 3) (endpoint m r b e1 3) k := by
    intro W k e0 e1 hW hk
    split
    · next ha => simp only [endpoint, ha, and_self, if_true, interpolate_255 W k hW hk]
    · rfl
  have h1 := fun part i e0 c0 e1 c1 => hw r.idxBits _ e0 c0 e1 c1 hI (Bc7.index1_lt m r b part i)
  have a1 := fun part i e0 e1 => h255 r.idxBits _ e0 e1 hI (Bc7.index1_lt m r b part i)
  unfold decodeMode pixelOf
  apply map_range_congr
  intro i _
  simp only [rotate_eq, Nat.add_zero]
  by_cases h0 : r.idx2Bits = 0
  · simp only [h0, if_true, h1, a1]
  · have h2 := fun i e0 c0 e1 c1 => hw r.idx2Bits _ e0 c0 e1 c1 (by omega) (Bc7.index2_lt m r b i)
    have a2 := fun i e0 e1 => h255 r.idx2Bits _ e0 e1 (by omega) (Bc7.index2_lt m r b i)
    by_cases hs : rd b (m + 1 + r.partBits + r.rotBits) r.selBits = 1
    · simp only [h0, hs, if_true, if_false, h1, h2, a1]
    · simp only [h0, hs, if_false, h1, h2, a2]

/-- The decoder on a block whose fields are written in the layout of its mode: per pixel, the encoder's
interpolation between the promoted written endpoints of the pixel's subset, at the indices that `Indexes::new_p*` read
back from the index fields `c1` (primary) and `ix2` (secondary, modes 4 and 5). -/
theorem decodeBlock_layout {m : Nat} {r : ModeRec} {part rot sel : Nat} {col : Nat → Nat → Nat} {al pb : Nat → Nat}
    (h : Fits m r part rot sel col al pb) (hr : modes[m]? = some r) (c1 : Nat × Nat) (ix2 : List (Nat × Nat))
    (hc : c1.1 < 2 ^ c1.2) (hw : c1.2 = 16 * r.idxBits - r.subsets) (hix2 : FieldsOK ix2)
    (h128 : idxStart m r + (c1.2 + width ix2) ≤ 128) :
    Bc7.decodeBlock (finish (writeAll (layout m r part rot sel col al pb (c1 :: ix2)))) = (List.range 16).map fun i =>
      pixelOf r rot sel (endpointOf r col al pb) (specSubset r.subsets part i)
        (Bc7.getIndex (readIdx r.subsets r.idxBits part (fv (c1 :: ix2))) i)
        (Bc7.getIndex (Bc7.newP1 r.idx2Bits (fv ix2)).1 i) := by
  have hm : r ∈ modes := List.mem_of_getElem? hr
  obtain ⟨⟨hp6, _⟩, _, hs, hI, _, hI2, hle, h64⟩ := modes_facts r hm
  have e2 : idx2Start m r = idxStart m r + c1.2 := by rw [idx2Start, hw, Nat.add_sub_assoc hle]
  have hc1 : FieldsOK [c1] := fieldsOK_one _ _ hc (hw ▸ h64)
  have hp64 : part < 64 := Nat.lt_of_lt_of_le h.part (Nat.pow_le_pow_right (by decide) hp6 : 2 ^ r.partBits ≤ 2 ^ 6)
  obtain ⟨hmode, hpart, hrot, hsel, _, _, _, hidx⟩ := layout_reads h hm (c1 :: ix2)
  rw [finish_layout h hm _ (fieldsOK_cons.mpr ⟨⟨hc, hw ▸ h64⟩, hix2⟩) h128, Bc7.decodeBlock_eq,
    Bc7.spec_decodeBlock_mode _ m r hmode hr, decodeMode_enc m r _ hm]
  apply map_range_congr
  intro i hi
  have hlt := specSubset_lt r.subsets part i hs hp64 hi
  have e0 := fun c hc => endpoint_layout h hm (c1 :: ix2) (specSubset r.subsets part i) 0 c hlt (by decide) hc
  have e1 := fun c hc => endpoint_layout h hm (c1 :: ix2) (specSubset r.subsets part i) 1 c hlt (by decide) hc
  rw [hpart, hrot, hsel, index1_eq m r _ part i hm hp64 hi, hidx]
  simp only [pixelOf, e0 0 (by decide), e0 1 (by decide), e0 2 (by decide), e0 3 (by decide), e1 0 (by decide),
    e1 1 (by decide), e1 2 (by decide), e1 3 (by decide)]
  by_cases h0 : r.idx2Bits = 0
  · simp only [h0, if_true]
  · have h2 : fv (layout m r part rot sel col al pb (c1 :: ix2)) >>> idx2Start m r = fv ix2 := by
      rw [e2, Nat.shiftRight_add, hidx]
      exact shr_fv_append [c1] ix2 hc1 0 rfl
    rw [← Bc7.index_impl_sec m r _ i (hI2.resolve_left h0) hi, h2]

end Dds.Enc7
