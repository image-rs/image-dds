/-
C03x glue: `Bc7.decodeBlock = Bc7Spec.decodeBlock` for EVERY block (all eight modes + the reserved "mode 8");
no bound on the block is needed: both models only look at bits 0..127.

Per mode only the endpoint reader differs (`getEndPoints2/4/6_eq`); the pixels are `pixel_subset` / `pixel_one`, the
index words `index_impl1/2/3`.  The modes that share a decoder function share one proof, with the mode and its record
as variables.
-/
import DdsModel.Proofs.Bc7GlueCommon
namespace Dds.Bc7
open Dds.BcTables Dds.Bc7Spec

/-- the records of `Bc7Spec.modes`, by mode number -/
def r0 : ModeRec := ⟨3, 4, 0, 0, 4, 0, 1, 0, 3, 0⟩
def r1 : ModeRec := ⟨2, 6, 0, 0, 6, 0, 0, 1, 3, 0⟩
def r2 : ModeRec := ⟨3, 6, 0, 0, 5, 0, 0, 0, 2, 0⟩
def r3 : ModeRec := ⟨2, 6, 0, 0, 7, 0, 1, 0, 2, 0⟩
def r4 : ModeRec := ⟨1, 0, 2, 1, 5, 6, 0, 0, 2, 3⟩
def r5 : ModeRec := ⟨1, 0, 2, 0, 7, 8, 0, 0, 2, 2⟩
def r6 : ModeRec := ⟨1, 0, 0, 0, 7, 7, 1, 0, 4, 0⟩
def r7 : ModeRec := ⟨2, 6, 0, 0, 5, 5, 1, 0, 2, 0⟩

/-! ### endpoint readers

`get_end_points_2/4/6` at the mode's first colour bit return the spec's endpoint table and leave the stream at the index
data.  Each mode is its own branch of the code; in each, the first `simp` turns the stream reads into positional reads
and the widening into `expand`, the second unfolds the spec's `endpoint` for the record. -/

theorem getEndPoints6_eq (m : Nat) (r : ModeRec) (b : Nat) (h : (m, r) ∈ [(0, r0), (2, r2)]) :
    getEndPoints6 m (b >>> colorStart m r) = (epTable m r b 6, b >>> idxStart m r) := by
  simp only [List.mem_cons, Prod.mk.injEq, List.not_mem_nil, or_false] at h
  rcases h with ⟨rfl, rfl⟩ | ⟨rfl, rfl⟩ <;>
  simp (disch := decide) only [getEndPoints6, Nat.reduceEqDiff, if_false, if_true, consumeN_at, consumeBitsEach_at,
    range6, List.map, px_rdN, withP_rd, promote_rd, promote_rdp] <;>
  simp only [epTable, range4, range6, List.map, endpoint, r0, r2, colorStart, alphaStart, pStart, idxStart, pBitCount,
    Nat.reduceAdd, Nat.reduceMul, Nat.reduceEqDiff, and_true, if_true, if_false]

theorem getEndPoints4_eq (m : Nat) (r : ModeRec) (b : Nat) (h : (m, r) ∈ [(1, r1), (3, r3), (7, r7)]) :
    getEndPoints4 m (b >>> colorStart m r) = (epTable m r b 4, b >>> idxStart m r) := by
  simp only [List.mem_cons, Prod.mk.injEq, List.not_mem_nil, or_false] at h
  rcases h with ⟨rfl, rfl⟩ | ⟨rfl, rfl⟩ | ⟨rfl, rfl⟩ <;>
  simp (disch := decide) only [getEndPoints4, Nat.reduceEqDiff, if_false, if_true, consumeN_at, consumeBitsEach_at,
    range4, List.map, Nat.reduceDiv, px_rdN, withP_rd, promote_rdp] <;>
  simp only [epTable, range4, List.map, endpoint, r1, r3, r7, colorStart, alphaStart, pStart, idxStart, pBitCount,
    Nat.reduceAdd, Nat.reduceMul, Nat.reduceEqDiff, Nat.reduceDiv, true_and, and_true, and_self, if_true, if_false,
    expand8_rdp]

theorem getEndPoints2_eq (m : Nat) (r : ModeRec) (b : Nat) (h : (m, r) ∈ [(4, r4), (5, r5), (6, r6)]) :
    getEndPoints2 m (b >>> colorStart m r) = (epTable m r b 2, b >>> idxStart m r) := by
  simp only [List.mem_cons, Prod.mk.injEq, List.not_mem_nil, or_false] at h
  rcases h with ⟨rfl, rfl⟩ | ⟨rfl, rfl⟩ | ⟨rfl, rfl⟩ <;>
  simp (disch := decide) only [getEndPoints2, Nat.reduceEqDiff, if_false, if_true, consumeN_at, consumeBit_at,
    range2, List.map, px_rdN, px_cons0, px_cons1, withP_rd, promote_rd] <;>
  simp only [epTable, range2, range4, List.map, endpoint, r4, r5, r6, colorStart, alphaStart, pStart, idxStart,
    pBitCount, Nat.reduceAdd, Nat.reduceMul, Nat.reduceEqDiff, true_and, and_self, if_true, if_false, expand8_rdp,
    expand8_rd]


/-- `interpolate_2_or_3` on two spec endpoints -/
theorem interpolate23_eq (m : Nat) (r : ModeRec) (b e0 e1 c idx ib : Nat) (hr : r ∈ modes) (hib : ib = 2 ∨ ib = 3)
    (hidx : idx < 2 ^ ib) :
    interpolate23 (endpoint m r b e0 c) (endpoint m r b e1 c) idx ib =
      interp (endpoint m r b e0 c) (endpoint m r b e1 c) ((specWeights ib).getD idx 0) := by
  rw [← lerpW ib _ _ idx (by omega) (endpoint_lt _ _ _ _ _ hr) (endpoint_lt _ _ _ _ _ hr) hidx]
  rcases hib with h | h <;> subst h <;> rfl

/-- one pixel of a mode with partitions: subset `s`, index `idx` of `ib` bits -/
theorem pixel_subset (m : Nat) (r : ModeRec) (b ne s idx ib : Nat) (hr : r ∈ modes) (hs : 2 * s + 1 < ne)
    (hib : ib = 2 ∨ ib = 3) (hidx : idx < 2 ^ ib) :
    ((List.range 4).map fun c =>
      interpolate23 (px (ep (epTable m r b ne) (2 * s)) c) (px (ep (epTable m r b ne) (2 * s + 1)) c) idx ib) =
    (List.range 4).map fun c =>
      interp (endpoint m r b (2 * s) c) (endpoint m r b (2 * s + 1) c) ((specWeights ib).getD idx 0) := by
  simp only [ep_epTable m r b ne _ (by omega : 2 * s < ne), ep_epTable m r b ne _ hs, px4,
    interpolate23_eq m r b _ _ _ idx ib hr hib hidx, range4, List.map]

/-- one pixel of a mode without partitions: colour index `ic` of `kc` bits, alpha index `ia` of `ka` bits -/
theorem pixel_one (m : Nat) (r : ModeRec) (b rot kc ka ic ia : Nat) (hr : r ∈ modes) (hkc : kc = 2 ∨ kc = 3 ∨ kc = 4)
    (hka : ka = 2 ∨ ka = 3 ∨ ka = 4) (hic : ic < 2 ^ kc) (hia : ia < 2 ^ ka) :
    swapChannels (interpolateColorsAlpha (ep (epTable m r b 2) 0) (ep (epTable m r b 2) 1)
      ((implWeights kc).getD ic 0) ((implWeights ka).getD ia 0)) rot =
    rotate rot [interp (endpoint m r b 0 0) (endpoint m r b 1 0) ((specWeights kc).getD ic 0),
      interp (endpoint m r b 0 1) (endpoint m r b 1 1) ((specWeights kc).getD ic 0),
      interp (endpoint m r b 0 2) (endpoint m r b 1 2) ((specWeights kc).getD ic 0),
      interp (endpoint m r b 0 3) (endpoint m r b 1 3) ((specWeights ka).getD ia 0)] := by
  simp only [interpolateColorsAlpha, ep_epTable m r b 2 0 (by decide), ep_epTable m r b 2 1 (by decide), px4,
    lerpW kc _ _ ic hkc (endpoint_lt _ _ _ _ _ hr) (endpoint_lt _ _ _ _ _ hr) hic,
    lerpW ka _ _ ia hka (endpoint_lt _ _ _ _ _ hr) (endpoint_lt _ _ _ _ _ hr) hia, rotate4]


theorem decodeMode_plain (m : Nat) (r : ModeRec) (b : Nat) (hrot : r.rotBits = 0) (hi2 : r.idx2Bits = 0) :
    decodeMode m r b = (List.range 16).map fun i =>
      (List.range 4).map fun c =>
        interp (endpoint m r b (2 * specSubset r.subsets (rd b (m + 1) r.partBits) i) c)
          (endpoint m r b (2 * specSubset r.subsets (rd b (m + 1) r.partBits) i + 1) c)
          ((specWeights r.idxBits).getD (index1 m r b (rd b (m + 1) r.partBits) i) 0) := by
  simp only [decodeMode, hrot, hi2, rd_zero, if_true, rotate, Nat.reduceEqDiff, if_false, range4, List.map]

theorem modeSubset2_eq (m : Nat) (r : ModeRec) (b : Nat) (h : (m, r) ∈ [(1, r1), (3, r3), (7, r7)]) :
    modeSubset2 m (b >>> (m + 1)) = decodeMode m r b := by
  have heps := getEndPoints4_eq m r b h
  obtain ⟨hr, hsub, hcs, hpb, hrot, hi2, hib⟩ : r ∈ modes ∧ r.subsets = 2 ∧ colorStart m r = m + 1 + 6 ∧
      r.partBits = 6 ∧ r.rotBits = 0 ∧ r.idx2Bits = 0 ∧ r.idxBits = if m = 1 then 3 else 2 := by
    simp only [List.mem_cons, Prod.mk.injEq, List.not_mem_nil, or_false] at h
    rcases h with ⟨rfl, rfl⟩ | ⟨rfl, rfl⟩ | ⟨rfl, rfl⟩ <;> decide
  rw [hcs] at heps
  rw [decodeMode_plain m r b hrot hi2, hpb]
  simp only [modeSubset2, consumeBits_at 6 b (m + 1) (by decide) (by decide), heps]
  apply map_range_congr
  intro i hi
  have hp := rd_lt b (m + 1) 6
  have hib' : r.idxBits = 2 ∨ r.idxBits = 3 := by rw [hib]; split <;> simp
  have hidx : getIndex (newP2 (if m = 1 then 3 else 2) (b >>> idxStart m r) (implP2 (rd b (m + 1) 6)).2).1 i =
      index1 m r b (rd b (m + 1) 6) i := by
    rw [index1, hsub, ← hib]
    exact index_impl2 _ b _ _ i (by omega) hi hp
  have hs := specSubset2_le _ i hp hi
  rw [hidx, subset2Index_eq _ i hp hi, ← hib, hsub]
  have hk := index1_lt m r b (rd b (m + 1) 6) i
  generalize index1 m r b (rd b (m + 1) 6) i = k at hk ⊢
  generalize specSubset 2 (rd b (m + 1) 6) i = s at hs ⊢
  rcases (by omega : s = 0 ∨ s = 1) with h | h <;> subst h
  · exact pixel_subset m r b 4 0 k _ hr (by decide) hib' hk
  · exact pixel_subset m r b 4 1 k _ hr (by decide) hib' hk

theorem modeSubset3_eq (m : Nat) (r : ModeRec) (b : Nat) (h : (m, r) ∈ [(0, r0), (2, r2)]) :
    modeSubset3 m (b >>> (m + 1)) = decodeMode m r b := by
  have heps := getEndPoints6_eq m r b h
  obtain ⟨hr, hsub, hcs, hpb, hrot, hi2, hib⟩ : r ∈ modes ∧ r.subsets = 3 ∧ colorStart m r = m + 1 + r.partBits ∧
      r.partBits = (if m = 0 then 4 else 6) ∧ r.rotBits = 0 ∧ r.idx2Bits = 0 ∧ r.idxBits = if m = 0 then 3 else 2 := by
    simp only [List.mem_cons, Prod.mk.injEq, List.not_mem_nil, or_false] at h
    rcases h with ⟨rfl, rfl⟩ | ⟨rfl, rfl⟩ <;> decide
  have hpb' : 0 < r.partBits ∧ r.partBits ≤ 6 := by rw [hpb]; split <;> simp
  rw [hcs] at heps
  rw [decodeMode_plain m r b hrot hi2]
  simp only [modeSubset3, ← hpb, consumeBits_at r.partBits b (m + 1) hpb'.1 (by omega), heps]
  apply map_range_congr
  intro i hi
  have hp : rd b (m + 1) r.partBits < 64 := rd_lt_of_le b _ _ 6 hpb'.2
  have hib' : r.idxBits = 2 ∨ r.idxBits = 3 := by rw [hib]; split <;> simp
  generalize rd b (m + 1) r.partBits = part at hp ⊢
  have hidx : getIndex (newP3 (if m = 0 then 3 else 2) (b >>> idxStart m r) (implP3 part).2.1 (implP3 part).2.2).1 i =
      index1 m r b part i := by
    rw [index1, hsub, ← hib]
    exact index_impl3 _ b _ _ i hib' hi hp
  have hs := specSubset3_le _ i hp hi
  rw [hidx, subset3Index_eq _ i hp hi, ← hib, hsub, Nat.min_eq_left hs]
  exact pixel_subset m r b 6 _ _ _ hr (by omega) hib' (index1_lt m r b part i)


theorem mode6_eq (b : Nat) : mode6 (b >>> 7) = decodeMode 6 r6 b := by
  have heps : getEndPoints2 6 (b >>> 7) = (epTable 6 r6 b 2, b >>> 65) := getEndPoints2_eq 6 r6 b (by decide)
  simp only [mode6, heps, decodeMode]
  apply map_range_congr
  intro i hi
  have hidx : getIndex (newP1 4 (b >>> 65)).1 i = index1 6 r6 b (rd b 7 r6.partBits) i :=
    index_impl1 4 b 65 1 _ i (by omega) hi (by decide) (by decide)
  rw [hidx, show rd b (6 + 1 + r6.partBits) r6.rotBits = 0 from rd_zero _ _]
  exact pixel_one 6 r6 b 0 4 4 _ _ (by decide) (by omega) (by omega) (index1_lt 6 r6 b _ i) (index1_lt 6 r6 b _ i)

theorem mode5_eq (b : Nat) : mode5 (b >>> 6) = decodeMode 5 r5 b := by
  have heps : getEndPoints2 5 (b >>> (6 + 2)) = (epTable 5 r5 b 2, b >>> 66) := getEndPoints2_eq 5 r5 b (by decide)
  simp only [mode5, consumeBits_at 2 b 6 (by decide) (by decide), heps, decodeMode]
  apply map_range_congr
  intro i hi
  have hidx : getIndex (newP1 2 (b >>> 66)).1 i = index1 5 r5 b (rd b 6 r5.partBits) i :=
    index_impl1 2 b 66 1 _ i (by omega) hi (by decide) (by decide)
  have hs2 : (newP1 2 (b >>> 66)).2 = b >>> idx2Start 5 r5 := (Nat.shiftRight_add b 66 31).symm
  have hidx2 : getIndex (newP1 2 (b >>> idx2Start 5 r5)).1 i = index2 5 r5 b i := index_impl_sec 5 r5 b i (by decide) hi
  rw [hs2, hidx, hidx2, show rd b (6 + r5.partBits + r5.rotBits) r5.selBits = 0 from rd_zero _ _]
  exact pixel_one 5 r5 b _ 2 2 _ _ (by decide) (by omega) (by omega) (index1_lt 5 r5 b _ i) (index2_lt 5 r5 b i)

theorem rot_sel (b : Nat) : rd b 5 3 &&& 3 = rd b 5 2 ∧ ((rd b 5 3 &&& 4 ≠ 0) ↔ rd b 7 1 = 1) := by
  have h1 : rd b 5 2 = rd b 5 3 % 4 := by simp only [rd, Nat.reducePow]; omega
  have h2 : rd b 7 1 = rd b 5 3 / 4 := by simp only [rd, Nat.reducePow]; omega
  have hv := rd_lt b 5 3
  rw [h1, h2]
  generalize rd b 5 3 = v at hv
  have : ∀ v, v < 2 ^ 3 → (v &&& 3 = v % 4 ∧ ((v &&& 4 ≠ 0) ↔ v / 4 = 1)) := by decide
  exact this v hv



theorem mode4_eq (b : Nat) : mode4 (b >>> 5) = decodeMode 4 r4 b := by
  have heps : getEndPoints2 4 (b >>> (5 + 3)) = (epTable 4 r4 b 2, b >>> 50) := getEndPoints2_eq 4 r4 b (by decide)
  simp only [mode4, consumeBits_at 3 b 5 (by decide) (by decide), heps, decodeMode]
  apply map_range_congr
  intro i hi
  have hidx : getIndex (newP1 2 (b >>> 50)).1 i = index1 4 r4 b (rd b 5 r4.partBits) i :=
    index_impl1 2 b 50 1 _ i (by omega) hi (by decide) (by decide)
  have hs2 : (newP1 2 (b >>> 50)).2 = b >>> idx2Start 4 r4 := (Nat.shiftRight_add b 50 31).symm
  have hidx2 : getIndex (newP1 3 (b >>> idx2Start 4 r4)).1 i = index2 4 r4 b i := index_impl_sec 4 r4 b i (by decide) hi
  obtain ⟨hrot, hsel⟩ := rot_sel b
  rw [hs2, hidx, hidx2, hrot]
  have h1 := index1_lt 4 r4 b (rd b 5 r4.partBits) i
  have h2 := index2_lt 4 r4 b i
  obtain hs | hs : rd b 7 1 = 0 ∨ rd b 7 1 = 1 := by have := rd_lt b 7 1; omega
  · have hn : ¬ rd b 5 3 &&& 4 ≠ 0 := fun h => by have := hsel.mp h; omega
    rw [if_neg hn, if_neg hn, show rd b (5 + r4.partBits + r4.rotBits) r4.selBits = 0 from hs]
    exact pixel_one 4 r4 b _ 2 3 _ _ (by decide) (by omega) (by omega) h1 h2
  · rw [if_pos (hsel.mpr hs), if_pos (hsel.mpr hs), show rd b (5 + r4.partBits + r4.rotBits) r4.selBits = 1 from hs]
    exact pixel_one 4 r4 b _ 3 2 _ _ (by decide) (by omega) (by omega) h2 h1


theorem decodeBlock_eq (b : Nat) : Bc7.decodeBlock b = Bc7Spec.decodeBlock b := by
  have h := modeOf_le b
  simp only [Bc7.decodeBlock, extractMode_eq, Bc7Spec.decodeBlock]
  generalize modeOf b = m at h ⊢
  rcases (by omega : m = 0 ∨ m = 1 ∨ m = 2 ∨ m = 3 ∨ m = 4 ∨ m = 5 ∨ m = 6 ∨ m = 7 ∨ m = 8) with
    h | h | h | h | h | h | h | h | h <;> subst h
  · exact modeSubset3_eq 0 r0 b (by decide)
  · exact modeSubset2_eq 1 r1 b (by decide)
  · exact modeSubset3_eq 2 r2 b (by decide)
  · exact modeSubset2_eq 3 r3 b (by decide)
  · exact mode4_eq b
  · exact mode5_eq b
  · exact mode6_eq b
  · exact modeSubset2_eq 7 r7 b (by decide)
  · rfl

end Dds.Bc7
