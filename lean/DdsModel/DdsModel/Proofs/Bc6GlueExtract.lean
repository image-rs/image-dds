/-
C03x glue (BC6H): `bc6_extract_eq_fields` — the code's header extraction (`consume!` sequences of
`extract_compressed_endpoints_two`, the straight-line `extract_compressed_endpoints_one` with `consume_bits_rev`)
yields exactly the specification's raw field values `Bc6Spec.rawField` for all 14 modes.

Method: every accumulator bit is characterised as an OR over block positions (`opSrc` / `oneSrc`); the position
tables are compared with the spec's `srcPos` as data (`decide +kernel`), and a generic lemma turns the `stepOp` fold
into the position table.
-/
import DdsModel.Proofs.Bc6
import DdsModel.Proofs.Bc7GlueCommon
namespace Dds.Bc6
open Dds.BcTables Dds.Bc6Spec Dds.Bc7

theorem U32_eq : U32 = 2 ^ 32 := by decide


theorem consumeBits32_at (n b p : Nat) (h : n < 32) :
    consumeBits32 n (b >>> p) = (Bc7Spec.rd b p n, b >>> (p + n)) := by
  have h1 : 2 ^ n < 2 ^ 32 := Nat.pow_lt_pow_right (by decide) h
  have h2 : 0 < 2 ^ n := Nat.two_pow_pos n
  have hm : ((1 <<< n) % U32 + U32 - 1) % U32 = 2 ^ n - 1 := by
    rw [Nat.one_shiftLeft, U32_eq]
    generalize 2 ^ n = t at *
    omega
  have hd : 2 ^ n ∣ U32 := by rw [U32_eq]; exact Nat.pow_dvd_pow 2 (by omega)
  simp only [consumeBits32, hm, Nat.and_two_pow_sub_one_eq_mod, Nat.mod_mod_of_dvd _ hd, rd_eq_shift,
    Nat.shiftRight_add]

theorem rd_testBit (b p n j : Nat) : (Bc7Spec.rd b p n).testBit j = (decide (j < n) && b.testBit (p + j)) := by
  simp only [Bc7Spec.rd, Nat.testBit_mod_two_pow, Nat.testBit_div_two_pow, Nat.add_comm]


/-! ### lemmas of the spec's `Field` / `srcPos` -/

def _root_.Dds.Bc6Spec.Field.lo (x : Field) : Nat := min x.first x.last
def _root_.Dds.Bc6Spec.Field.hi (x : Field) : Nat := max x.first x.last

/-- block position of component bit `j` inside a field that starts at block bit `pos` -/
def _root_.Dds.Bc6Spec.Field.src (x : Field) (pos j : Nat) : Option Nat :=
  ((List.range x.width).find? (fun k => x.bitAt k = j)).map (fun k => pos + k)

theorem srcPos_cons (x : Field) (l : List Field) (pos c e j : Nat) :
    srcPos (x :: l) pos c e j =
      (if x.chan = c ∧ x.ep = e then x.src pos j else none).or (srcPos l (pos + x.width) c e j) := by
  rw [srcPos]
  simp only [Field.src]
  split <;> rename_i h <;> rw [h] <;> rfl

/-- a field covers the component bits `lo .. hi`; stored from `last` upwards, or downwards if written `[lo:hi]` -/
theorem Field.src_eq (x : Field) (pos j : Nat) :
    x.src pos j = if x.lo ≤ j ∧ j ≤ x.hi then some (pos + (if x.first ≥ x.last then j - x.last else x.last - j))
      else none := by
  unfold Field.src Field.lo Field.hi
  by_cases hr : x.first ≥ x.last
  · by_cases h : x.last ≤ j ∧ j ≤ x.first
    · have : (List.range x.width).find? (fun k => x.bitAt k = j) = some (j - x.last) := by
        simp only [List.find?_range_eq_some, Field.bitAt, Field.width, hr, if_true, List.mem_range,
          decide_eq_true_eq, Bool.not_eq_true', decide_eq_false_iff_not]
        exact ⟨by omega, by omega, fun k hk => by omega⟩
      simp only [this, Option.map_some, hr, if_true]
      rw [if_pos (by omega)]
    · have : (List.range x.width).find? (fun k => x.bitAt k = j) = none := by
        simp only [List.find?_range_eq_none, Field.bitAt, Field.width, hr, if_true, Bool.not_eq_true',
          decide_eq_false_iff_not]
        exact fun k hk => by omega
      simp only [this, Option.map_none]
      rw [if_neg (by omega)]
  · by_cases h : x.first ≤ j ∧ j ≤ x.last
    · have : (List.range x.width).find? (fun k => x.bitAt k = j) = some (x.last - j) := by
        simp only [List.find?_range_eq_some, Field.bitAt, Field.width, hr, if_false, List.mem_range,
          decide_eq_true_eq, Bool.not_eq_true', decide_eq_false_iff_not]
        exact ⟨by omega, by omega, fun k hk => by omega⟩
      simp only [this, Option.map_some, hr, if_false]
      rw [if_pos (by omega)]
    · have : (List.range x.width).find? (fun k => x.bitAt k = j) = none := by
        simp only [List.find?_range_eq_none, Field.bitAt, Field.width, hr, if_false, Bool.not_eq_true',
          decide_eq_false_iff_not]
        exact fun k hk => by omega
      simp only [this, Option.map_none]
      rw [if_neg (by omega)]

/-- two fields name a common bit of the same component -/
def _root_.Dds.Bc6Spec.Field.Meets (x y : Field) : Prop :=
  x.chan = y.chan ∧ x.ep = y.ep ∧ x.lo ≤ y.hi ∧ y.lo ≤ x.hi

instance : DecidableRel Field.Meets := fun x y => by unfold Field.Meets; exact inferInstance

/-- no component bit is named twice -/
def NoOverlap (l : List Field) : Prop := l.Pairwise fun x y => ¬ x.Meets y

instance (l : List Field) : Decidable (NoOverlap l) := by unfold NoOverlap; exact inferInstance

theorem srcPos_none (l : List Field) (pos c e j : Nat)
    (h : ∀ y ∈ l, ¬ (y.chan = c ∧ y.ep = e ∧ y.lo ≤ j ∧ j ≤ y.hi)) : srcPos l pos c e j = none := by
  induction l generalizing pos with
  | nil => rfl
  | cons y l ih =>
    have hy := h y (List.mem_cons_self ..)
    rw [srcPos_cons, ih _ fun z hz => h z (List.mem_cons_of_mem _ hz), Field.src_eq]
    by_cases hce : y.chan = c ∧ y.ep = e
    · rw [if_pos hce, if_neg (fun hh => hy ⟨hce.1, hce.2, hh.1, hh.2⟩)]; rfl
    · rw [if_neg hce]; rfl

/-! ### the code's `consume!` as a field -/

/-- `consume!(c, e, hi..0)` is the spec's `ce[hi:0]`, `consume!(c, e, k)` its `ce[k]` -/
def Op.field (op : Op) : Field := ⟨op.chan, op.ep, op.bit, if op.range then 0 else op.bit⟩

theorem Op.field_width (op : Op) : op.field.width = if op.range then op.bit + 1 else 1 := by
  unfold Op.field Field.width
  cases op.range <;> simp

theorem accGet_accOr (acc : List Nat) (hl : acc.length = 12) (e' c' v e c : Nat) (hc : c < 3) (hc' : c' < 3)
    (he : e < 4) :
    accGet (accOr acc e' c' v) e c = if e' = e ∧ c' = c then accGet acc e c ||| v else accGet acc e c := by
  simp only [accGet, accOr, List.getD_eq_getElem?_getD, List.getElem?_set]
  by_cases h : e' = e ∧ c' = c
  · obtain ⟨h1, h2⟩ := h
    subst h1; subst h2
    have : e' * 3 + c' < acc.length := by omega
    simp only [this, if_true, and_self, Option.getD_some]
  · have : ¬ e' * 3 + c' = e * 3 + c := by omega
    simp only [this, h, if_false]

theorem length_accOr (acc : List Nat) (e c v : Nat) : (accOr acc e c v).length = acc.length := by
  simp only [accOr, List.length_set]

/-- one `consume!` ORs into its accumulator a value `v` whose bit `j` is the block bit the field names for `j` -/
theorem stepOp_field (b pos : Nat) (acc : List Nat) (op : Op) (h : op.bit < 31) :
    ∃ v, stepOp (acc, b >>> pos) op = (accOr acc op.ep op.chan v, b >>> (pos + op.field.width)) ∧
      ∀ j, v.testBit j = (op.field.src pos j).any b.testBit := by
  obtain ⟨c, e, k, r⟩ := op
  have h : k < 31 := h
  cases r
  · refine ⟨(Bc7Spec.rd b pos 1 <<< k) % U32, ?_, fun j => ?_⟩
    · simp only [stepOp, Bool.false_eq_true, if_false, consumeBits32_at 1 b pos (by decide), Op.field_width]
    · simp only [Field.src_eq, Op.field, Field.lo, Field.hi, Bool.false_eq_true, if_false, Nat.min_self, Nat.max_self,
        ge_iff_le, Nat.le_refl, if_true, U32_eq, Nat.testBit_mod_two_pow, Nat.testBit_shiftLeft, rd_testBit]
      by_cases hj : j = k
      · subst hj; simp; omega
      · have : ¬ (k ≤ j ∧ j ≤ k) := by omega
        by_cases h2 : j < k <;> simp [this] <;> omega
  · refine ⟨Bc7Spec.rd b pos (k + 1), ?_, fun j => ?_⟩
    · simp only [stepOp, if_true, consumeBits32_at _ b pos (by omega : k + 1 < 32), Op.field_width]
    · simp only [Field.src_eq, Op.field, Field.lo, Field.hi, if_true, Nat.min_zero, Nat.max_zero, Nat.zero_le, true_and,
        ge_iff_le, Nat.sub_zero, rd_testBit, Nat.lt_succ_iff]
      by_cases hj : j ≤ k <;> simp [hj]

/-- A `consume!` sequence over fields that do not overlap fills every accumulator bit from the block bit the spec's
`srcPos` names for the same layout. -/
theorem fold_stepOp_srcPos (b : Nat) (ops : List Op) :
    ∀ (acc : List Nat) (pos : Nat), acc.length = 12 → (∀ op ∈ ops, op.chan < 3 ∧ op.bit < 31) →
      NoOverlap (ops.map Op.field) →
      (ops.foldl stepOp (acc, b >>> pos)).2 = b >>> (pos + layoutBits (ops.map Op.field)) ∧
      ∀ c e j, c < 3 → e < 4 →
        (accGet (ops.foldl stepOp (acc, b >>> pos)).1 e c).testBit j =
          ((accGet acc e c).testBit j || (srcPos (ops.map Op.field) pos c e j).any b.testBit) := by
  induction ops with
  | nil => intro acc pos _ _ _; simp [layoutBits, srcPos]
  | cons op rest ih =>
    intro acc pos hl hops hno
    have hop := hops op (List.mem_cons_self ..)
    obtain ⟨hfirst, hno'⟩ := List.pairwise_cons.mp hno
    obtain ⟨v, hstep, hv⟩ := stepOp_field b pos acc op hop.2
    obtain ⟨ih1, ih2⟩ := ih (accOr acc op.ep op.chan v) (pos + op.field.width)
      (by rw [length_accOr]; exact hl) (fun o ho => hops o (List.mem_cons_of_mem _ ho)) hno'
    rw [List.foldl_cons, hstep]
    refine ⟨by rw [ih1]; simp only [layoutBits, List.map_cons, List.sum_cons, Nat.add_assoc], fun c e j hc he => ?_⟩
    rw [ih2 c e j hc he, accGet_accOr acc hl _ _ _ e c hc hop.1 he, List.map_cons, srcPos_cons]
    by_cases hce : op.ep = e ∧ op.chan = c
    · have hce' : op.field.chan = c ∧ op.field.ep = e := ⟨hce.2, hce.1⟩
      rw [if_pos hce, if_pos hce', Nat.testBit_or, hv]
      cases hs : op.field.src pos j with
      | none => simp
      | some p =>
        -- the bit comes from this field: no later field names it
        have hcov : op.field.lo ≤ j ∧ j ≤ op.field.hi := by
          rw [Field.src_eq] at hs
          exact Classical.byContradiction fun hn => by rw [if_neg hn] at hs; cases hs
        rw [srcPos_none _ _ c e j fun y hy hh => hfirst y hy
          ⟨hce'.1.trans hh.1.symm, hce'.2.trans hh.2.1.symm, Nat.le_trans hcov.1 hh.2.2.2,
            Nat.le_trans hh.2.2.1 hcov.2⟩]
        simp
    · have hce' : ¬ (op.field.chan = c ∧ op.field.ep = e) := fun hh => hce ⟨hh.2, hh.1⟩
      rw [if_neg hce, if_neg hce']
      rfl

theorem sum_bits (g : Nat → Bool) (n : Nat) :
    ∀ i, (((List.range n).map fun j => if g j then 2 ^ j else 0).sum).testBit i = (decide (i < n) && g i) := by
  induction n with
  | zero => intro i; simp
  | succ n ih =>
    intro i
    have hlt : ((List.range n).map fun j => if g j then 2 ^ j else 0).sum < 2 ^ n :=
      Nat.lt_pow_two_of_testBit _ fun k hk => by rw [ih k, decide_eq_false (by omega)]; rfl
    rw [List.range_succ, List.map_append, List.sum_append, List.map_cons, List.map_nil, List.sum_cons, List.sum_nil,
      Nat.add_zero]
    generalize ((List.range n).map fun j => if g j then 2 ^ j else 0).sum = S at *
    -- the new summand lies above `S`, so adding it sets bit `n` and leaves the others
    have e : S + (if g n then 2 ^ n else 0) = S ||| (if g n then 2 ^ n else 0) := by
      split
      · have := Nat.two_pow_add_eq_or_of_lt hlt 1
        rwa [Nat.mul_one, Nat.add_comm, Nat.or_comm] at this
      · rw [Nat.or_zero, Nat.add_zero]
    rw [e, Nat.testBit_or, ih i]
    by_cases hi : i = n
    · subst hi; cases g i <;> simp
    · have : (if g n then 2 ^ n else 0).testBit i = false := by
        split
        · rw [Nat.testBit_two_pow]; exact decide_eq_false (Ne.symm hi)
        · exact Nat.zero_testBit i
      rw [this, Bool.or_false, show decide (i < n + 1) = decide (i < n) from decide_eq_decide.mpr (by omega)]

theorem blockBit_eq (b p : Nat) : blockBit b p = if b.testBit p then 1 else 0 := by
  simp only [blockBit, Nat.testBit_eq_decide_div_mod_eq, decide_eq_true_eq]
  split <;> omega

theorem rawField_testBit (r : ModeRec) (b c e j : Nat) :
    (rawField r b c e).testBit j =
      (decide (j < 16) && (srcPos r.layout r.modeBits c e j).toList.any (fun p => b.testBit p)) := by
  have : rawField r b c e = ((List.range 16).map fun j =>
      if (srcPos r.layout r.modeBits c e j).toList.any (fun p => b.testBit p) then 2 ^ j else 0).sum := by
    unfold rawField
    congr 1
    apply List.map_congr_left
    intro j _
    cases h : srcPos r.layout r.modeBits c e j with
    | none => simp
    | some p =>
      simp only [blockBit_eq, Option.toList, List.any_cons, List.any_nil, Bool.or_false]
      split <;> simp
  rw [this]
  exact sum_bits _ 16 j

theorem eq_rawField (r : ModeRec) (b c e x : Nat) (src : Nat → List Nat)
    (hx : ∀ j, x.testBit j = (src j).any (fun p => b.testBit p)) (h16 : ∀ j, 16 ≤ j → src j = [])
    (htab : ∀ j, j < 16 → src j = (srcPos r.layout r.modeBits c e j).toList) : x = rawField r b c e := by
  apply Nat.eq_of_testBit_eq
  intro j
  rw [hx j, rawField_testBit]
  by_cases hj : j < 16
  · rw [htab j hj, decide_eq_true hj, Bool.true_and]
  · rw [h16 j (by omega), decide_eq_false hj]; rfl

theorem rawField_lt (r : ModeRec) (b c e w : Nat)
    (h : ∀ j, j < 16 → (srcPos r.layout r.modeBits c e j).isSome = false ∨ j < w) : rawField r b c e < 2 ^ w := by
  apply Nat.lt_pow_two_of_testBit
  intro j hj
  rw [rawField_testBit]
  by_cases hj16 : j < 16
  · rcases h j hj16 with h | h
    · rw [Option.isSome_eq_false_iff, Option.isNone_iff_eq_none] at h
      rw [h, Bool.and_comm]; rfl
    · omega
  · rw [decide_eq_false hj16, Bool.false_and]

/-! ### two-region modes: the ten `consume!` sequences against the spec layouts -/

def recTwo : ModeTwo → ModeRec
  | .M10_555 => modes[0]'(by decide) | .M7_666 => modes[1]'(by decide) | .M11_544 => modes[2]'(by decide)
  | .M11_454 => modes[3]'(by decide) | .M11_445 => modes[4]'(by decide) | .M9_555 => modes[5]'(by decide)
  | .M8_655 => modes[6]'(by decide) | .M8_565 => modes[7]'(by decide) | .M8_556 => modes[8]'(by decide)
  | .M6_666 => modes[9]'(by decide)

def fieldWidth (r : ModeRec) (c e : Nat) : Nat := if e = 0 then r.prec else deltaW r c

theorem accGet_zero (e c : Nat) : accGet (List.replicate 12 0) e c = 0 := by
  simp only [accGet, List.getD_eq_getElem?_getD, List.getElem?_replicate]
  split <;> rfl

theorem rawField_testBit' (r : ModeRec) (b c e j : Nat) :
    (rawField r b c e).testBit j = (decide (j < 16) && (srcPos r.layout r.modeBits c e j).any b.testBit) := by
  rw [rawField_testBit]
  cases srcPos r.layout r.modeBits c e j <;> simp

theorem ops_layout (m : ModeTwo) : (modeTwoOps m).map Op.field = (recTwo m).layout := by cases m <;> rfl

theorem layouts_noOverlap : ∀ r ∈ modes, NoOverlap r.layout := by decide +kernel

theorem recTwo_mem (m : ModeTwo) : recTwo m ∈ modes := by cases m <;> exact List.getElem_mem _

/-- what the code's mode constants say about the spec's record -/
theorem recTwo_facts (m : ModeTwo) :
    (recTwo m).regions = 2 ∧ (recTwo m).prec = m.a0BitCount ∧ (recTwo m).delta = m.deltaBitCount ∧
    (recTwo m).transformed = m.transformed ∧ (recTwo m).modeBits + layoutBits (recTwo m).layout = 77 ∧
    ∀ op ∈ modeTwoOps m, op.chan < 3 ∧ op.bit < 16 := by cases m <;> decide

/-- every component of a spec record has sources for exactly its declared low bits (`layouts_ok`, first clause) -/
theorem srcPos_isSome (r : ModeRec) (hr : r ∈ modes) (c e j : Nat) (hc : c < 3) (he : e < 4) (hj : j < 16) :
    (srcPos r.layout r.modeBits c e j).isSome = decide (j < declaredWidth r c e) := by
  have h := List.all_eq_true.mp layouts_ok.2 r hr
  simp only [layoutOk, Bool.and_eq_true, List.all_eq_true, decide_eq_true_eq] at h
  have hm : (c, e) ∈ comps := by
    simp only [comps, List.mem_flatMap, List.mem_map, List.mem_range, Prod.mk.injEq]
    exact ⟨c, hc, e, he, rfl, rfl⟩
  exact h.1.1.1.1 (c, e) hm j (List.mem_range.mpr hj)

/-- `bc6_extract_eq_fields`, two-region modes: after `extract_compressed_endpoints_two` the twelve accumulators are
the spec's raw fields, each below `2 ^ width`, and the stream stands at block bit 77 -/
theorem extractTwo_eq (m : ModeTwo) (b : Nat) :
    (extractTwo m (b >>> (recTwo m).modeBits)).2 = b >>> 77 ∧
    ∀ c e, c < 3 → e < 4 →
      accGet (extractTwo m (b >>> (recTwo m).modeBits)).1 e c = rawField (recTwo m) b c e ∧
      rawField (recTwo m) b c e < 2 ^ fieldWidth (recTwo m) c e := by
  obtain ⟨hreg, _, _, _, hw, hops⟩ := recTwo_facts m
  have hno : NoOverlap ((modeTwoOps m).map Op.field) := by
    rw [ops_layout]; exact layouts_noOverlap _ (recTwo_mem m)
  obtain ⟨h2, hbits⟩ := fold_stepOp_srcPos b (modeTwoOps m) (List.replicate 12 0) (recTwo m).modeBits (by simp)
    (fun op ho => by have := hops op ho; omega) hno
  rw [ops_layout] at h2 hbits
  refine ⟨h2.trans (by rw [hw]), fun c e hc he => ⟨?_, ?_⟩⟩
  · apply Nat.eq_of_testBit_eq
    intro j
    show (accGet ((modeTwoOps m).foldl stepOp (List.replicate 12 0, b >>> (recTwo m).modeBits)).1 e c).testBit j = _
    rw [hbits c e j hc he, accGet_zero, Nat.zero_testBit, Bool.false_or, rawField_testBit']
    by_cases hj : j < 16
    · rw [decide_eq_true hj, Bool.true_and]
    · -- no `consume!` reaches bit 16
      rw [← ops_layout, srcPos_none _ _ c e j fun y hy hh => by
        obtain ⟨op, ho, rfl⟩ := List.mem_map.mp hy
        have := (hops op ho).2
        have h3 : j ≤ op.field.hi := hh.2.2.2
        unfold Op.field Field.hi at h3
        dsimp only at h3
        split at h3 <;> omega]
      simp [hj]
  · refine rawField_lt _ _ _ _ _ fun j hj => ?_
    have hs := srcPos_isSome _ (recTwo_mem m) c e j hc he hj
    have hd : declaredWidth (recTwo m) c e = fieldWidth (recTwo m) c e := by
      unfold declaredWidth fieldWidth
      rw [hreg, if_pos (show e < 2 * 2 from he)]
    rw [hd] at hs
    by_cases hjw : j < fieldWidth (recTwo m) c e
    · exact Or.inr hjw
    · rw [decide_eq_false hjw] at hs; exact Or.inl hs


/-! ### one-region modes: `extract_compressed_endpoints_one` with `consume_bits_rev` -/

def recOne : ModeOne → ModeRec
  | .M10_10 => modes[10]'(by decide) | .M11_9 => modes[11]'(by decide) | .M12_8 => modes[12]'(by decide)
  | .M16_4 => modes[13]'(by decide)

/-- the value `consume_bits_rev(n)` makes of the `n` stream bits `v` -/
def revBits (n v : Nat) : Nat := if n ≥ 2 then reverseBits8 v >>> (8 - n) else v

theorem revBits_ok : ∀ n, n < 7 → ∀ v, v < 2 ^ n →
    revBits n v < 2 ^ n ∧ ∀ j, j < n → (revBits n v).testBit j = v.testBit (n - 1 - j) := by decide +kernel

theorem revBits_testBit (n v j : Nat) (hn : n < 7) (hv : v < 2 ^ n) :
    (revBits n v).testBit j = (decide (j < n) && v.testBit (n - 1 - j)) := by
  obtain ⟨h1, h2⟩ := revBits_ok n hn v hv
  by_cases hj : j < n
  · simp [hj, h2 j hj]
  · have : (revBits n v).testBit j = false :=
      Nat.testBit_lt_two_pow (Nat.lt_of_lt_of_le h1 (Nat.pow_le_pow_right (by decide) (by omega)))
    simp [hj, this]

theorem consumeBitsRev_at (n b p : Nat) (hn : n < 7) :
    consumeBitsRev n (b >>> p) = (revBits n (Bc7Spec.rd b p n), b >>> (p + n)) := by
  by_cases h0 : n = 0
  · subst h0
    have : mask8 0 = 0 := by decide
    simp [consumeBitsRev, revBits, this, Bc7.rd_zero]
  · have hb : (b >>> p % U8) &&& mask8 n = Bc7Spec.rd b p n := by
      have := consumeBits_at n b p (by omega) (by omega)
      simp only [consumeBits, Prod.mk.injEq] at this
      exact this.1
    simp only [consumeBitsRev, hb, revBits, Nat.shiftRight_add]

/-- source positions of bit `j` of component (`c`, `e`) as `extract_compressed_endpoints_one` reads them -/
def oneSrcG (bc ext c e j : Nat) : List Nat :=
  if e = 0 then
    (if j < 10 then [5 + 10 * c + j] else []) ++
    (if 10 ≤ j ∧ j < 10 + ext then [35 + 10 * c + bc + (ext - 1 - (j - 10))] else [])
  else (if j < bc then [35 + 10 * c + j] else [])

def oneSrc (m : ModeOne) (c e j : Nat) : List Nat := oneSrcG (20 - m.a0BitCount) (m.a0BitCount - 10) c e j

def oneOk (m : ModeOne) : Bool :=
  let r := recOne m
  r.regions == 1 && r.prec == m.a0BitCount && r.delta == (m.b0BitCount, m.b0BitCount, m.b0BitCount) &&
  r.transformed == m.transformed && r.modeBits == 5 && r.modeBits + layoutBits r.layout == 65 &&
  (List.range 3).all fun c => (List.range 2).all fun e => (List.range 16).all fun j =>
    oneSrc m c e j == (srcPos r.layout r.modeBits c e j).toList &&
    (!(srcPos r.layout r.modeBits c e j).isSome || decide (j < fieldWidth r c e))

theorem oneOk_true (m : ModeOne) : oneOk m = true := by cases m <;> decide +kernel

theorem oneSrc_nil (m : ModeOne) (c e j : Nat) (hj : 16 ≤ j) : oneSrc m c e j = [] := by
  have ha : 10 ≤ m.a0BitCount ∧ m.a0BitCount ≤ 16 := by cases m <;> decide
  have h1 : ¬ j < 10 := by omega
  have h2 : ¬ (10 ≤ j ∧ j < 10 + (m.a0BitCount - 10)) := by omega
  have h3 : ¬ j < 20 - m.a0BitCount := by omega
  simp only [oneSrc, oneSrcG, h1, h2, h3, if_false, List.append_nil, ite_self]

/-- accumulator `a` of channel `c`: ten direct bits, then the bit-reversed extension bits; accumulator `b` -/
def aVal (m : ModeOne) (b c : Nat) : Nat :=
  Bc7Spec.rd b (5 + 10 * c) 10 |||
    (revBits (m.a0BitCount - 10) (Bc7Spec.rd b (35 + 10 * c + (20 - m.a0BitCount)) (m.a0BitCount - 10)) <<< 10) % U32
def bVal (m : ModeOne) (b c : Nat) : Nat := Bc7Spec.rd b (35 + 10 * c) (20 - m.a0BitCount)

theorem ext_lt (m : ModeOne) : m.a0BitCount - 10 < 7 := by cases m <;> decide

theorem aVal_testBit (m : ModeOne) (b c j : Nat) :
    (aVal m b c).testBit j = (oneSrc m c 0 j).any (fun x => b.testBit x) := by
  have hext := ext_lt m
  simp only [aVal, oneSrc, oneSrcG, if_true, Nat.testBit_or, U32_eq, Nat.testBit_mod_two_pow, Nat.testBit_shiftLeft,
    rd_testBit, revBits_testBit _ _ _ hext (rd_lt b _ _), List.any_append]
  by_cases h1 : j < 10
  · bsimp; simp
  · by_cases h2 : j < 10 + (m.a0BitCount - 10)
    · have : m.a0BitCount - 10 - 1 - (j - 10) < m.a0BitCount - 10 := by omega
      bsimp; simp
    · bsimp; simp

theorem bVal_testBit (m : ModeOne) (b c j : Nat) :
    (bVal m b c).testBit j = (oneSrc m c 1 j).any (fun x => b.testBit x) := by
  simp only [bVal, oneSrc, oneSrcG, Nat.one_ne_zero, if_false, rd_testBit]
  by_cases h : j < 20 - m.a0BitCount <;> simp [h]

/-- `extract_compressed_endpoints_one` in closed form -/
theorem extractOne_at (m : ModeOne) (b : Nat) :
    extractOne m (b >>> 5) = ((List.range 3).map (aVal m b) ++ (List.range 3).map (bVal m b), b >>> 65) := by
  cases m <;>
    simp (disch := omega) only [extractOne, aVal, bVal, ModeOne.a0BitCount, Nat.reduceSub, consumeBits32_at,
      consumeBitsRev_at, Nat.reduceAdd, Nat.reduceMul, Bc7.range3, List.map, List.cons_append, List.nil_append,
      Nat.add_zero]

theorem getD_two_maps3 (f g : Nat → Nat) (c : Nat) (hc : c < 3) :
    ((List.range 3).map f ++ (List.range 3).map g).getD c 0 = f c ∧
    ((List.range 3).map f ++ (List.range 3).map g).getD (3 + c) 0 = g c := by
  have : c = 0 ∨ c = 1 ∨ c = 2 := by omega
  rcases this with h | h | h <;> subst h <;> exact ⟨rfl, rfl⟩

/-- `bc6_extract_eq_fields`, one-region modes -/
theorem extractOne_eq (m : ModeOne) (b : Nat) :
    (extractOne m (b >>> 5)).2 = b >>> 65 ∧
    ∀ c, c < 3 →
      (extractOne m (b >>> 5)).1.getD c 0 = rawField (recOne m) b c 0 ∧
      (extractOne m (b >>> 5)).1.getD (3 + c) 0 = rawField (recOne m) b c 1 ∧
      rawField (recOne m) b c 0 < 2 ^ fieldWidth (recOne m) c 0 ∧
      rawField (recOne m) b c 1 < 2 ^ fieldWidth (recOne m) c 1 := by
  have hok := oneOk_true m
  simp only [oneOk, Bool.and_eq_true, beq_iff_eq, List.all_eq_true, List.mem_range, decide_eq_true_eq,
    Bool.or_eq_true, Bool.not_eq_true'] at hok
  obtain ⟨_, htab⟩ := hok
  rw [extractOne_at]
  refine ⟨rfl, fun c hc => ?_⟩
  obtain ⟨gA, gB⟩ := getD_two_maps3 (aVal m b) (bVal m b) c hc
  have hlt (e : Nat) (he : e < 2) := rawField_lt (recOne m) b c e _ fun j hj => (htab c hc e he j hj).2
  refine ⟨?_, ?_, hlt 0 (by decide), hlt 1 (by decide)⟩
  · exact gA.trans (eq_rawField _ b c 0 _ (oneSrc m c 0) (aVal_testBit m b c) (oneSrc_nil m c 0)
      fun j hj => (htab c hc 0 (by decide) j hj).1)
  · exact gB.trans (eq_rawField _ b c 1 _ (oneSrc m c 1) (bVal_testBit m b c) (oneSrc_nil m c 1)
      fun j hj => (htab c hc 1 (by decide) j hj).1)

end Dds.Bc6
