/-
C16 / C15 (mipmap-generating encoder), part 2: `MipmapCache::generate` and its three strategies return `some` of
`Mip.lean`'s plan, for every sequence of calls through one cache; the alignment copy's bytes; the straight-alpha
reciprocals.
-/
import DdsModel.Proofs.TrapMip
import DdsModel.Proofs.MipPlan
import DdsModel.Proofs.NatLemmas
namespace Dds.TrapMip
open Dds Dds.Trap Dds.TrapEnc

/-! ## sizes -/

/-- `sizes` is non-increasing starting from `last` (what the `debug_assert!` of `generate` demands) -/
def Decr : Mip.Sz → List Mip.Sz → Prop
  | _, [] => True
  | last, s :: rest => (s.1 ≤ last.1 ∧ s.2 ≤ last.2) ∧ Decr s rest

theorem decreasingT_ok : ∀ (sizes : List Mip.Sz) (last : Mip.Sz), Decr last sizes → decreasingT last sizes = some ()
  | [], _, _ => rfl
  | s :: rest, last, h => by
    unfold decreasingT
    rw [dbgP_of h.1, bind_some']
    exact decreasingT_ok rest s h.2

theorem Decr.le : ∀ {sizes : List Mip.Sz} {last : Mip.Sz}, Decr last sizes → ∀ s ∈ sizes, s.1 ≤ last.1 ∧ s.2 ≤ last.2
  | [], _, _, s, hs => by cases hs
  | a :: rest, last, h, s, hs => by
    cases List.mem_cons.mp hs with
    | inl e => rw [e]; exact h.1
    | inr e =>
      have := Decr.le h.2 s e
      exact ⟨Nat.le_trans this.1 h.1.1, Nat.le_trans this.2 h.1.2⟩

/-- a size the resizer may be asked for with colour `c` -/
def SzOK (c : Color) (s : Mip.Sz) : Prop := 1 ≤ s.1 ∧ 1 ≤ s.2 ∧ s.1 * s.2 * c.bpp ≤ BMAX

theorem szOK_of_le {c : Color} {w h : Nat} (hb : w * h * c.bpp ≤ BMAX) {s : Mip.Sz} (h1 : 1 ≤ s.1) (h2 : 1 ≤ s.2)
    (hl : s.1 ≤ w ∧ s.2 ≤ h) : SzOK c s :=
  ⟨h1, h2, Nat.le_trans (Nat.mul_le_mul_right _ (Nat.mul_le_mul hl.1 hl.2)) hb⟩

/-! ## the loops -/

/-- one `resize` into a fresh buffer and the `emit` of the result: the callback sees the requested size -/
theorem freshEmit_ok {al : Alloc} (ha : AlOK al) {src : AView} (hs : AViewOK src) (sa : Bool) {s : Mip.Sz}
    (h : SzOK src.c s) :
    ∃ b, resizeFreshT al src s.1 s.2 sa = some b ∧ ABufOK b ∧ b.c = src.c ∧ emitBufT b = some s := by
  obtain ⟨b, f1, f2, f3, f4, f5⟩ := resizeFreshT_ok ha hs sa h.1 h.2.1 h.2.2
  exact ⟨b, f1, f2, f5, by rw [emitBufT_ok f2, f3, f4]⟩

theorem rayonLoop_ok {al : Alloc} (ha : AlOK al) {src : AView} (hs : AViewOK src) (sa : Bool) :
    ∀ sizes : List Mip.Sz, (∀ s ∈ sizes, SzOK src.c s) →
      ∃ bufs, mapT (fun s => resizeFreshT al src s.1 s.2 sa) sizes = some bufs ∧ mapT emitBufT bufs = some sizes
  | [], _ => ⟨[], rfl, rfl⟩
  | s :: rest, h => by
    obtain ⟨h0, hr⟩ := List.forall_mem_cons.mp h
    obtain ⟨bufs, e1, e2⟩ := rayonLoop_ok ha hs sa rest hr
    obtain ⟨b, f1, _, _, f4⟩ := freshEmit_ok ha hs sa h0
    exact ⟨b :: bufs, mapT_cons f1 e1, mapT_cons f4 e2⟩

theorem seqLoopT_ok {al : Alloc} (ha : AlOK al) {src : AView} (hs : AViewOK src) (sa : Bool) :
    ∀ (sizes : List Mip.Sz) (d : VecBuf), VecOK d → (∀ s ∈ sizes, SzOK src.c s) →
      ∃ d', seqLoopT al src sa d sizes = some (d', Mip.planSource sizes) ∧ VecOK d'
  | [], d, hd, _ => ⟨d, rfl, hd⟩
  | s :: rest, d, hd, h => by
    obtain ⟨⟨o1, o2, o3⟩, hr⟩ := List.forall_mem_cons.mp h
    obtain ⟨d1, a, f1, f2, f3, f4, f5⟩ := resizeStateT_ok ha hd hs sa o1 o2 o3
    obtain ⟨d2, e1, e2⟩ := seqLoopT_ok ha hs sa rest d1 f2 hr
    refine ⟨d2, ?_, e2⟩
    unfold seqLoopT
    rw [f1, bind_some']
    dsimp only
    rw [asImageViewT_ok f3, bind_some', e1, bind_some']
    dsimp only
    rw [pure_some', f4, f5]
    rfl

/-- one round of the `for` loops of `generate_from_previous` / `_two`: view of an earlier buffer, resize, emit -/
theorem prevStep_ok {al : Alloc} (ha : AlOK al) (sa : Bool) {prev : ABuf} (hp : ABufOK prev) {s : Mip.Sz}
    (h : SzOK prev.c s) :
    ∃ pv b, asViewT prev = some pv ∧ resizeFreshT al pv s.1 s.2 sa = some b ∧ ABufOK b ∧ b.c = prev.c ∧
      emitBufT b = some s := by
  obtain ⟨pv, e1, e2, _, _, e5⟩ := asViewT_ok hp
  obtain ⟨b, f1, f2, f3, f4⟩ := freshEmit_ok ha e2 sa (e5 ▸ h)
  exact ⟨pv, b, e1, f1, f2, f3.trans e5, f4⟩

theorem prevLoopT_eq {al : Alloc} (ha : AlOK al) (sa : Bool) :
    ∀ (sizes : List Mip.Sz) (prev : ABuf) (k : Nat), ABufOK prev → (∀ s ∈ sizes, SzOK prev.c s) →
      prevLoopT al sa prev sizes k = some (Mip.planLoop sizes k)
  | [], _, _, _, _ => rfl
  | s :: rest, prev, k, hp, h => by
    obtain ⟨h0, hr⟩ := List.forall_mem_cons.mp h
    obtain ⟨pv, b, e1, f1, f2, f3, f4⟩ := prevStep_ok ha sa hp h0
    have ih := prevLoopT_eq ha sa rest b (k + 1) f2 (f3 ▸ hr)
    unfold prevLoopT
    rw [e1, bind_some', f1, bind_some', f4, bind_some', ih, bind_some', pure_some']
    rfl

theorem prevTwoLoopT_eq {al : Alloc} (ha : AlOK al) (sa : Bool) :
    ∀ (sizes : List Mip.Sz) (pp p : ABuf) (k : Nat), ABufOK pp → ABufOK p → p.c = pp.c →
      (∀ s ∈ sizes, SzOK pp.c s) → prevTwoLoopT al sa pp p sizes k = some (Mip.planLoop sizes k)
  | [], _, _, _, _, _, _, _ => rfl
  | s :: rest, pp, p, k, hpp, hp, hc, h => by
    obtain ⟨h0, hr⟩ := List.forall_mem_cons.mp h
    obtain ⟨pv, b, e1, f1, f2, f3, f4⟩ := prevStep_ok ha sa hpp h0
    have ih := prevTwoLoopT_eq ha sa rest p b (k + 1) hp f2 (f3.trans hc.symm) (hc ▸ hr)
    unfold prevTwoLoopT
    rw [e1, bind_some', f1, bind_some', f4, bind_some', ih, bind_some', pure_some']
    rfl

/-! ## the three strategies and `generate` -/

structure CacheOK (k : Cache) : Prop where
  aligner : VecOK k.aligner
  resizer : VecOK k.resizer

theorem CacheOK.new : CacheOK Cache.new := ⟨VecOK.empty, VecOK.empty⟩

/-- a generating call the public API admits: a view with C20's invariant and a non-empty size at any address, one of
the 12 colours, pixel bytes at most `BMAX`, a non-empty non-increasing list of non-empty sizes -/
structure CallOK (q : Call) : Prop where
  view : VOK q.v q.c
  col : q.c.OK
  w1 : 1 ≤ q.v.w
  h1 : 1 ≤ q.v.h
  bytes : q.v.w * q.v.h * q.c.bpp ≤ BMAX
  ne : q.sizes ≠ []
  decr : Decr (q.v.w, q.v.h) q.sizes
  pos : ∀ s ∈ q.sizes, 1 ≤ s.1 ∧ 1 ≤ s.2

theorem CallOK.szOK {q : Call} (h : CallOK q) : ∀ s ∈ q.sizes, SzOK q.c s := fun s hs =>
  szOK_of_le h.bytes (h.pos s hs).1 (h.pos s hs).2 (Decr.le h.decr s hs)

/-- the first step of all three strategies: `Aligner::align` of the call's image; every requested size is admissible
for the aligned view -/
theorem CallOK.align {al : Alloc} (ha : AlOK al) {b : VecBuf} (hb : VecOK b) {q : Call} (hq : CallOK q) :
    ∃ ab src, alignT al b q.addr q.v q.c = some (ab, src) ∧ VecOK ab ∧ AViewOK src ∧
      ∀ s ∈ q.sizes, SzOK src.c s := by
  obtain ⟨ab, src, e1, e2, e3, _, _, e6⟩ := alignT_ok ha hb q.addr hq.view hq.col hq.w1 hq.h1 hq.bytes
  exact ⟨ab, src, e1, e2, e3, e6 ▸ hq.szOK⟩

theorem genFromSourceT_ok {al : Alloc} (ha : AlOK al) (rayon : Bool) {k : Cache} (hk : CacheOK k) {q : Call}
    (hq : CallOK q) :
    ∃ k', genFromSourceT al rayon k q.addr q.v q.c q.sizes q.sa = some (k', Mip.planSource q.sizes) ∧ CacheOK k' := by
  obtain ⟨ab, src, e1, e2, e3, hsz⟩ := hq.align ha hk.aligner
  unfold genFromSourceT
  rw [e1, bind_some']
  dsimp only
  cases rayon with
  | true =>
    obtain ⟨bufs, f1, f2⟩ := rayonLoop_ok ha e3 q.sa q.sizes hsz
    rw [if_pos rfl, f1, bind_some', f2, bind_some', pure_some']
    exact ⟨_, rfl, ⟨e2, hk.resizer⟩⟩
  | false =>
    obtain ⟨d', f1, f2⟩ := seqLoopT_ok ha e3 q.sa q.sizes k.resizer hk.resizer hsz
    rw [if_neg Bool.false_ne_true, f1, bind_some']
    dsimp only
    rw [pure_some']
    exact ⟨_, rfl, ⟨e2, f2⟩⟩

theorem genFromPreviousT_ok {al : Alloc} (ha : AlOK al) {k : Cache} (hk : CacheOK k) {q : Call} (hq : CallOK q) :
    ∃ k' pl, genFromPreviousT al k q.addr q.v q.c q.sizes q.sa = some (k', pl) ∧
      Mip.planPrevious q.sizes = some pl ∧ CacheOK k' := by
  obtain ⟨ab, src, e1, e2, e3, hsz⟩ := hq.align ha hk.aligner
  unfold genFromPreviousT
  rw [e1, bind_some']
  dsimp only
  cases hs : q.sizes with
  | nil => exact absurd hs hq.ne
  | cons s0 rest =>
    obtain ⟨h0, hr⟩ := List.forall_mem_cons.mp (hs ▸ hsz)
    obtain ⟨b, f1, f2, f3, f4⟩ := freshEmit_ok ha e3 q.sa h0
    have hl := prevLoopT_eq ha q.sa rest b 1 f2 (f3 ▸ hr)
    have hi : idx (s0 :: rest) 0 = some s0 := rfl
    have hlen : 1 ≤ (s0 :: rest).length := Nat.le_add_left 1 _
    rw [hi, bind_some', f1, bind_some', f4, bind_some', sliceFrom_of_le hlen, bind_some', List.drop_one,
      List.tail_cons, hl, bind_some', pure_some']
    exact ⟨_, _, rfl, rfl, ⟨e2, hk.resizer⟩⟩

theorem genFromPreviousTwoT_ok {al : Alloc} (ha : AlOK al) {k : Cache} (hk : CacheOK k) {q : Call} (hq : CallOK q) :
    ∃ k' pl, genFromPreviousTwoT al k q.addr q.v q.c q.sizes q.sa = some (k', pl) ∧
      Mip.planPreviousTwo q.sizes = some pl ∧ CacheOK k' := by
  obtain ⟨ab, src, e1, e2, e3, hsz⟩ := hq.align ha hk.aligner
  unfold genFromPreviousTwoT
  rw [e1, bind_some']
  dsimp only
  cases hs : q.sizes with
  | nil => exact absurd hs hq.ne
  | cons s0 rest =>
    obtain ⟨h0, hr⟩ := List.forall_mem_cons.mp (hs ▸ hsz)
    obtain ⟨b, f1, f2, f3, f4⟩ := freshEmit_ok ha e3 q.sa h0
    have hi : idx (s0 :: rest) 0 = some s0 := rfl
    rw [hi, bind_some', f1, bind_some', f4, bind_some']
    cases rest with
    | nil =>
      rw [if_pos (show [s0].length = 1 from rfl), pure_some']
      exact ⟨_, _, rfl, rfl, ⟨e2, hk.resizer⟩⟩
    | cons s1 rest2 =>
      obtain ⟨h1, hr2⟩ := List.forall_mem_cons.mp hr
      obtain ⟨b2, g1, g2, g3, g4⟩ := freshEmit_ok ha e3 q.sa h1
      have hl := prevTwoLoopT_eq ha q.sa rest2 b b2 1 f2 g2 (g3.trans f3.symm) (f3 ▸ hr2)
      have hi1 : idx (s0 :: s1 :: rest2) 1 = some s1 := rfl
      have hd : List.drop 2 (s0 :: s1 :: rest2) = rest2 := rfl
      have hlen : 2 ≤ (s0 :: s1 :: rest2).length := Nat.le_add_left 2 _
      rw [if_neg (by omega), hi1, bind_some', g1, bind_some', g4, bind_some', sliceFrom_of_le hlen, bind_some', hd, hl,
        bind_some', pure_some']
      exact ⟨_, _, rfl, rfl, ⟨e2, hk.resizer⟩⟩

/-- `MipmapCache::generate` does not panic and emits exactly `Mip.plan` -/
theorem generateT_ok {al : Alloc} (ha : AlOK al) (rayon : Bool) {k : Cache} (hk : CacheOK k) {q : Call}
    (hq : CallOK q) :
    ∃ k' pl, generateT al rayon k q = some (k', pl) ∧ Mip.plan q.f (q.v.w, q.v.h) q.sizes = some pl ∧ CacheOK k' := by
  unfold generateT Mip.plan
  rw [decreasingT_ok _ _ hq.decr, bind_some']
  cases Mip.selectStrategy q.f (q.v.w, q.v.h) q.sizes with
  | fromSource =>
    obtain ⟨k', e1, e2⟩ := genFromSourceT_ok ha rayon hk hq
    exact ⟨k', _, e1, rfl, e2⟩
  | fromPrevious => exact genFromPreviousT_ok ha hk hq
  | fromPreviousTwo => exact genFromPreviousTwoT_ok ha hk hq

/-- ... for every SEQUENCE of calls through one cache -/
theorem generateSeqT_ok {al : Alloc} (ha : AlOK al) (rayon : Bool) :
    ∀ (calls : List Call) (k : Cache), CacheOK k → (∀ q ∈ calls, CallOK q) →
      ∃ k' outs, generateSeqT al rayon k calls = some (k', outs) ∧ CacheOK k' ∧
        calls.map (fun q => Mip.plan q.f (q.v.w, q.v.h) q.sizes) = outs.map some
  | [], k, hk, _ => ⟨k, [], rfl, hk, rfl⟩
  | q :: rest, k, hk, h => by
    obtain ⟨h0, hr⟩ := List.forall_mem_cons.mp h
    obtain ⟨k1, pl, e1, e2, e3⟩ := generateT_ok ha rayon hk h0
    obtain ⟨k2, outs, f1, f2, f3⟩ := generateSeqT_ok ha rayon rest k1 e3 hr
    refine ⟨k2, pl :: outs, ?_, f2, ?_⟩
    · unfold generateSeqT
      rw [e1, bind_some']
      dsimp only
      rw [f1, bind_some']
      rfl
    · rw [List.map_cons, List.map_cons, e2, f3]

/-! ## mip chains are admissible size lists -/

theorem mipSize_pos (d k : Nat) : 1 ≤ mipSize d k := Dds.mipSize_pos d k

theorem mipSize_succ_le (d k : Nat) : mipSize d (k + 1) ≤ mipSize d k := by
  have h : d >>> (k + 1) ≤ d >>> k := by
    rw [Nat.shiftRight_succ]; exact Nat.div_le_self _ _
  have hp := mipSize_pos d k
  unfold mipSize at hp ⊢
  generalize d >>> (k + 1) = a at h ⊢
  generalize d >>> k = b at h hp ⊢
  by_cases h1 : k + 1 ≥ 31
  · rw [if_pos h1]; exact hp
  · rw [if_neg h1, if_neg (show ¬ k ≥ 31 by omega)]
    split <;> split <;> omega

theorem declared_decr (w h : Nat) : ∀ (n l : Nat), Decr (mipSize w l, mipSize h l) (Mip.declared w h (l + 1) n)
  | 0, _ => trivial
  | n + 1, l => by
    rw [Mip.declared_succ]
    exact ⟨⟨mipSize_succ_le w l, mipSize_succ_le h l⟩, declared_decr w h n (l + 1)⟩

theorem declared_pos (w h l n : Nat) : ∀ s ∈ Mip.declared w h l n, 1 ≤ s.1 ∧ 1 ≤ s.2 := by
  intro s hs
  obtain ⟨k, rfl⟩ := Mip.mem_declared hs
  exact ⟨mipSize_pos w k, mipSize_pos h k⟩

theorem callOK_declared {w0 h0 l n addr : Nat} {v : View} {c : Color} {f : Mip.Filter} {sa : Bool} (hv : VOK v c)
    (hc : c.OK) (hw : v.w = mipSize w0 l) (hh : v.h = mipSize h0 l) (hb : v.w * v.h * c.bpp ≤ BMAX) :
    CallOK ⟨addr, v, c, Mip.declared w0 h0 (l + 1) (n + 1), f, sa⟩ :=
  ⟨hv, hc, hw ▸ mipSize_pos _ _, hh ▸ mipSize_pos _ _, hb, by
    rw [Mip.declared_succ]; exact List.cons_ne_nil _ _,
    by show Decr (v.w, v.h) _; rw [hw, hh]; exact declared_decr _ _ _ _, declared_pos _ _ _ _⟩

/-! ## the bytes the resizer sees do not depend on address, pitch or the buffer's previous contents -/

theorem foldl_copyRow (bpr : Nat) (row : Nat → Nat → Nat) (old : Nat → Nat) :
    ∀ (n : Nat) (i : Nat), i < n * bpr →
      (List.range n).foldl (fun out y => copyRow bpr (row y) y out) old i = row (i / bpr) (i % bpr)
  | 0, i, hi => by omega
  | n + 1, i, hi => by
    rw [List.range_succ, List.foldl_append, List.foldl_cons, List.foldl_nil]
    unfold copyRow
    rw [Nat.succ_mul] at hi
    by_cases h1 : n * bpr ≤ i
    · -- the last row copied is the one that holds `i`
      have hb : 0 < bpr := Nat.pos_of_ne_zero fun h => by rw [h] at hi h1; omega
      obtain ⟨hd, hm⟩ := (Nat.div_mod_unique (a := i) (c := i - n * bpr) (d := n) hb).2
        ⟨by rw [Nat.mul_comm bpr n]; omega, by omega⟩
      rw [if_pos ⟨h1, hi⟩, hd, hm]
    · rw [if_neg (fun h => h1 h.1)]
      exact foldl_copyRow bpr row old n i (by omega)

/-- `Aligner::align`'s output bytes: byte `i` (`i < w·h·bpp`) of the aligned view is byte `i % bpr` of row `i / bpr`
of the image (`bpr = w·bpp`) — whatever the address, the pitch, the branch taken, and whatever was in the
aligner's buffer before -/
theorem alignBytes_spec (mem old : Nat → Nat) (addr : Nat) {v : View} {c : Color} (hvo : VOK v c) (hw : 1 ≤ v.w)
    (hh : 1 ≤ v.h) (i : Nat) (hi : i < v.w * v.h * c.bpp) :
    alignBytes mem old addr v c i = mem (addr + (i / (v.w * c.bpp)) * v.pitch + i % (v.w * c.bpp)) := by
  have hbpp := hvo.bpp
  have hct := geom_contig_iff (hvo.inv.len_eq (by omega)) hh
  unfold alignBytes
  by_cases hcg : v.pitch = v.w * v.bpp
  · rw [if_neg (not_not_intro (hct.2 hcg))]
    have : mem (addr + i) = mem (addr + i / (v.w * c.bpp) * v.pitch + i % (v.w * c.bpp)) := by
      rw [hcg, hbpp, Nat.mul_comm (i / (v.w * c.bpp)), Nat.add_assoc, Nat.div_add_mod]
    split <;> exact this
  · rw [if_pos (fun e => hcg (hct.1 e))]
    rw [Nat.mul_comm v.w v.h, Nat.mul_assoc] at hi
    exact foldl_copyRow (v.w * c.bpp) (fun y j => mem (addr + y * v.pitch + j)) old v.h i hi

/-! ## straight alpha: no reciprocal of zero -/

/-- past a guard that holds of 0 the alpha is not 0 -/
theorem recipT_past {g : Rat → Prop} (h0 : g 0) {a : Rat} (h : ¬ g a) : recipT a = some (1 / a) :=
  if_neg fun e => h (by rw [e]; exact h0)

theorem saColourT_eq (p : Mip.Prec) (accC accA : Rat) : saColourT p accC accA = some (Mip.saColour p accC accA) := by
  unfold saColourT Mip.saColour
  cases p <;> dsimp only
  · by_cases h : accA < 1 / 2 / 255
    · rw [if_pos h, if_pos h]; rfl
    · rw [if_neg h, if_neg h, recipT_past (g := (· < 1 / 2 / 255)) (by decide +kernel) h]; rfl
  · by_cases h : Mip.Prec.quant .u16 accA = 0
    · rw [if_pos h, if_pos h]; rfl
    · rw [if_neg h, if_neg h, recipT_past (g := (Mip.Prec.quant .u16 · = 0)) (by decide +kernel) h]; rfl
  · by_cases h : accA ≤ 0
    · rw [if_pos h, if_pos h]; rfl
    · rw [if_neg h, if_neg h, recipT_past (g := (· ≤ 0)) (by decide +kernel) h]; rfl

end Dds.TrapMip
