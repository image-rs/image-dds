/-
The complete threshold tables, assembled from their checked chunks.  GENERATED by tools/gen_f32thr.py.
-/
import DdsModel.Proofs.F32ThrRowsFpN160
import DdsModel.Proofs.F32ThrRowsFpN161
import DdsModel.Proofs.F32ThrRowsFpN162
import DdsModel.Proofs.F32ThrRowsFpN163
import DdsModel.Proofs.F32ThrRowsFpN164
import DdsModel.Proofs.F32ThrRowsFpN165
import DdsModel.Proofs.F32ThrRowsFpN166
import DdsModel.Proofs.F32ThrRowsFpN167
import DdsModel.Proofs.F32ThrRowsSmall

namespace Dds.F32Thr.FpN8

/-- `fp::n8` / `n8::from_f32`: `(x * 255.0 + 0.5) as u8`: entries `2t + d` of the codes 1 … 255 -/
def tbl : List Nat := c0

theorem tbl_ok : chkList (pipeF 1132396544 255) 255 2139095040 1 0 0 tbl 256 1065320320 128 = true := c0_ok

theorem tbl_len : tbl.length = 255 := (table_ok tbl_ok).1

end Dds.F32Thr.FpN8

namespace Dds.F32Thr.FpN16

/-- `fp::n16` / `n16::from_f32`: `(x * 65535.0 + 0.5) as u16`: entries `2t + d` of the codes 1 … 65535 -/
def tbl : List Nat := c0 ++ (c1 ++ (c2 ++ (c3 ++ (c4 ++ (c5 ++ (c6 ++ (c7 ++ (c8 ++ (c9 ++ (c10 ++ (c11 ++ (c12 ++ (c13 ++ (c14 ++ (c15 ++ (c16 ++ (c17 ++ (c18 ++ (c19 ++ (c20 ++ (c21 ++ (c22 ++ (c23 ++ (c24 ++ (c25 ++ (c26 ++ (c27 ++ (c28 ++ (c29 ++ (c30 ++ (c31)))))))))))))))))))))))))))))))

theorem tbl_ok : chkList (pipeF 1199570688 65535) 65535 2139095040 1 0 0 tbl 65536 1065353088 32768 = true :=
  chkList_append c0_ok <| chkList_append c1_ok <| chkList_append c2_ok <| chkList_append c3_ok <|
    chkList_append c4_ok <| chkList_append c5_ok <| chkList_append c6_ok <| chkList_append c7_ok <|
    chkList_append c8_ok <| chkList_append c9_ok <| chkList_append c10_ok <| chkList_append c11_ok <|
    chkList_append c12_ok <| chkList_append c13_ok <| chkList_append c14_ok <| chkList_append c15_ok <|
    chkList_append c16_ok <| chkList_append c17_ok <| chkList_append c18_ok <| chkList_append c19_ok <|
    chkList_append c20_ok <| chkList_append c21_ok <| chkList_append c22_ok <| chkList_append c23_ok <|
    chkList_append c24_ok <| chkList_append c25_ok <| chkList_append c26_ok <| chkList_append c27_ok <|
    chkList_append c28_ok <| chkList_append c29_ok <| chkList_append c30_ok <| c31_ok

theorem tbl_len : tbl.length = 65535 := (table_ok tbl_ok).1

end Dds.F32Thr.FpN16

namespace Dds.F32Thr.N2

/-- `n2::from_f32`: `(x.min(1.0) * 3.0 + 0.5) as u8`: entries `2t + d` of the codes 1 … 3 -/
def tbl : List Nat := c0

theorem tbl_ok : chkList (pipeF 1077936128 255) 3 1065353217 1 0 0 tbl 4 1062557014 2 = true := c0_ok

theorem tbl_len : tbl.length = 3 := (table_ok tbl_ok).1

end Dds.F32Thr.N2

namespace Dds.F32Thr.N4

/-- `n4::from_f32`: `(x.min(1.0) * 15.0 + 0.5) as u8`: entries `2t + d` of the codes 1 … 15 -/
def tbl : List Nat := c0

theorem tbl_ok : chkList (pipeF 1097859072 255) 15 1065353217 1 0 0 tbl 16 1064793976 8 = true := c0_ok

theorem tbl_len : tbl.length = 15 := (table_ok tbl_ok).1

end Dds.F32Thr.N4

namespace Dds.F32Thr.N5

/-- `n5::from_f32`: `(x.min(1.0) * 31.0 + 0.5) as u8`: entries `2t + d` of the codes 1 … 31 -/
def tbl : List Nat := c0

theorem tbl_ok : chkList (pipeF 1106771968 255) 31 1065353217 1 0 0 tbl 32 1065082616 16 = true := c0_ok

theorem tbl_len : tbl.length = 31 := (table_ok tbl_ok).1

end Dds.F32Thr.N5

namespace Dds.F32Thr.N6

/-- `n6::from_f32`: `(x.min(1.0) * 63.0 + 0.5) as u8`: entries `2t + d` of the codes 1 … 63 -/
def tbl : List Nat := c0

theorem tbl_ok : chkList (pipeF 1115422720 255) 63 1065353217 1 0 0 tbl 64 1065220064 32 = true := c0_ok

theorem tbl_len : tbl.length = 63 := (table_ok tbl_ok).1

end Dds.F32Thr.N6

namespace Dds.F32Thr.N10

/-- `n10::from_f32`: `(x.min(1.0) * 1023.0 + 0.5) as u16`: entries `2t + d` of the codes 1 … 1023 -/
def tbl : List Nat := c0

theorem tbl_ok : chkList (pipeF 1149222912 65535) 1023 1065353217 1 0 0 tbl 1024 1065345016 512 = true := c0_ok

theorem tbl_len : tbl.length = 1023 := (table_ok tbl_ok).1

end Dds.F32Thr.N10

namespace Dds.F32Thr.S8

/-- `s8::from_uf32` norm: `(x.min(1.0) * 254.0 + 0.5) as u8`: entries `2t + d` of the codes 1 … 254 -/
def tbl : List Nat := c0

theorem tbl_ok : chkList (pipeF 1132331008 255) 254 1065353217 1 0 0 tbl 255 1065320190 128 = true := c0_ok

theorem tbl_len : tbl.length = 254 := (table_ok tbl_ok).1

end Dds.F32Thr.S8
