/- The simp set of the trapping logic (`Proofs/TrapWp.lean`). -/
import Lean.Meta.Tactic.Simp.RegisterCommand

/-- weakest-precondition rules of the trapping operators: `Ret (op …) Q ↔ side condition ∧ Q value` -/
register_simp_attr wp
