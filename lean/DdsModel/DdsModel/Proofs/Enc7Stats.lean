/-
C13 / BC7 encoder: `BlockStats` holds the per-channel minima and maxima (`stats_chan`); `opaque` says that every
pixel has alpha 255 (`isOpaque_iff`), for byte pixels.
-/
import DdsModel.Enc7
import DdsModel.Proofs.ListLemmas
namespace Dds.Enc7
open Dds

def statsStep (st : List Nat × List Nat) (p : List Nat) : List Nat × List Nat :=
  ([min (px st.1 0) (px p 0), min (px st.1 1) (px p 1), min (px st.1 2) (px p 2), min (px st.1 3) (px p 3)],
   [max (px st.2 0) (px p 0), max (px st.2 1) (px p 1), max (px st.2 2) (px p 2), max (px st.2 3) (px p 3)])

theorem blockStats_eq (block : List (List Nat)) :
    blockStats block = block.foldl statsStep ([255, 255, 255, 255], [0, 0, 0, 0]) := rfl

/-- channel `c` of the running minimum / maximum -/
theorem stats_chan (block : List (List Nat)) (st : List Nat × List Nat) (c : Nat) (hc : c < 4) :
    px (block.foldl statsStep st).1 c = block.foldl (fun m p => min m (px p c)) (px st.1 c) ∧
    px (block.foldl statsStep st).2 c = block.foldl (fun m p => max m (px p c)) (px st.2 c) := by
  induction block generalizing st with
  | nil => exact ⟨rfl, rfl⟩
  | cons p ps ih =>
    simp only [List.foldl_cons]
    have h := ih (statsStep st p)
    have : c = 0 ∨ c = 1 ∨ c = 2 ∨ c = 3 := by omega
    rcases this with h' | h' | h' | h' <;> subst h' <;> exact h

/-- `BlockStats::opaque()` ⇔ every pixel has alpha 255 (byte alphas) -/
theorem isOpaque_iff (block : List (List Nat)) (hb : ∀ p ∈ block, px p 3 ≤ 255) :
    isOpaque (blockStats block) = true ↔ ∀ p ∈ block, px p 3 = 255 := by
  rw [blockStats_eq]
  unfold isOpaque
  rw [(stats_chan block _ 3 (by decide)).1]
  obtain ⟨h1, h2, h3⟩ := foldl_min_le (px · 3) block (px [255, 255, 255, 255] 3)
  have e : px [255, 255, 255, 255] 3 = 255 := rfl
  rw [e] at h1 h2 h3 ⊢
  constructor
  · intro h p hp
    have := h2 p hp
    have := hb p hp
    have : List.foldl (fun m p => min m (px p 3)) 255 block = 255 := by simpa using h
    omega
  · intro h
    have := h3 (fun p hp => by rw [h p hp]; exact Nat.le_refl _)
    simp [this]

end Dds.Enc7
