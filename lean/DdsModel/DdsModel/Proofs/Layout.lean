/- Helper lemmas about the layout model. Property theorems are in `Theorems/C02.lean`. -/
import DdsModel.Layout
import DdsModel.Proofs.ListLemmas
namespace Dds

theorem ckMul_eq (a b : Nat) : ckMul a b = if a * b < U64 then some (a * b) else none := rfl
theorem ckAdd_eq (a b : Nat) : ckAdd a b = if a + b < U64 then some (a + b) else none := rfl

theorem mipSize_pos (d l : Nat) : 0 < mipSize d l := by
  unfold mipSize
  generalize d >>> l = x
  split
  · omega
  · split <;> omega

theorem mipSize_le (d l : Nat) (hd : 0 < d) : mipSize d l ≤ d := by
  unfold mipSize
  split
  · omega
  · split
    · omega
    · rw [Nat.shiftRight_eq_div_pow]; exact Nat.div_le_self _ _

theorem mipSize_lt_U32 (d l : Nat) (hd : d < U32) : mipSize d l < U32 := by
  by_cases h0 : d = 0
  · subst h0; unfold mipSize; split
    · unfold U32; omega
    · simp [U32]
  · have := mipSize_le d l (by omega); omega

/-- the property's formula: `max(1, dim >> level)` -/
theorem mipSize_eq_max (d l : Nat) (hd : d < U32) : mipSize d l = max 1 (d / 2 ^ l) := by
  unfold mipSize
  by_cases h31 : l ≥ 31
  · simp only [h31, if_true]
    have hp : 2 ^ 31 ≤ 2 ^ l := Nat.pow_le_pow_right (by omega) h31
    have h1 : d / 2 ^ l ≤ 1 := by
      have hlt : d < 2 * 2 ^ l := by unfold U32 at hd; omega
      have : d / 2 ^ l < 2 := by
        apply (Nat.div_lt_iff_lt_mul (by omega : 0 < 2 ^ l)).2; omega
      omega
    omega
  · simp only [h31, if_false, Nat.shiftRight_eq_div_pow]
    generalize d / 2 ^ l = x
    split <;> omega

def ckSome (x : Nat) : Option Nat := if x < U64 then some x else none

theorem ckSome_lt {x : Nat} (h : x < U64) : ckSome x = some x := by simp [ckSome, h]
theorem ckSome_ge {x : Nat} (h : ¬ x < U64) : ckSome x = none := by simp [ckSome, h]
theorem ckMul_ckSome (a b : Nat) : ckMul a b = ckSome (a * b) := rfl
theorem ckAdd_ckSome (a b : Nat) : ckAdd a b = ckSome (a + b) := rfl
theorem ckSome_eq_some {x y : Nat} (h : ckSome x = some y) : x = y ∧ x < U64 := by
  unfold ckSome at h; split at h
  · exact ⟨by injection h, by assumption⟩
  · cases h

theorem ckSome_add_ge_left {a b : Nat} (h : ¬ a < U64) : ckSome (a + b) = none :=
  ckSome_ge (by omega)
theorem ckSome_add_ge_right {a b : Nat} (h : ¬ b < U64) : ckSome (a + b) = none :=
  ckSome_ge (by omega)

/-! ### counters that do not wrap -/

theorem wrap_succ {x M : Nat} (h : x + 1 < M) : (x + 1) % M = x + 1 := Nat.mod_eq_of_lt h

theorem wrap_pred {m M : Nat} (h1 : 1 ≤ m) (h2 : m < M) : (m + M - 1) % M = m - 1 := by
  rw [show m + M - 1 = m - 1 + M by omega, Nat.add_mod_right]
  exact Nat.mod_eq_of_lt (by omega)

theorem I64MAX_lt_U64 : I64MAX < U64 := by decide

/-! ### sums over mip levels, and lists of consecutive regions

Every length of the layout is a sum `f level + … + f (level + n - 1)` of a per-level quantity, and
every list of the layout (mip surfaces, volume levels) puts entry `level + j` at the offset
`off + levelSum len level j`. The facts about splitting such sums and indexing such lists are proved
here once; `texIdeal`, `volIdeal`, `depthSum`, `specMips` and `specVol` are instances. -/

def levelSum (f : Nat → Nat) : (level n : Nat) → Nat
  | _, 0 => 0
  | level, n + 1 => f level + levelSum f (level + 1) n

theorem levelSum_split (f : Nat → Nat) : ∀ (a level b : Nat),
    levelSum f level (a + b) = levelSum f level a + levelSum f (level + a) b := by
  intro a
  induction a with
  | zero => intro level b; simp [levelSum]
  | succ a ih =>
    intro level b
    rw [Nat.add_right_comm, levelSum, levelSum, ih, Nat.add_assoc level 1 a, Nat.add_comm 1 a]
    exact (Nat.add_assoc _ _ _).symm

theorem levelSum_succ_right (f : Nat → Nat) (level a : Nat) :
    levelSum f level (a + 1) = levelSum f level a + f (level + a) := by
  rw [levelSum_split f a level 1]; simp [levelSum]

theorem levelSum_mono (f : Nat → Nat) (level : Nat) {a b : Nat} (h : a ≤ b) :
    levelSum f level a ≤ levelSum f level b := by
  obtain ⟨c, rfl⟩ := Nat.exists_eq_add_of_le h
  rw [levelSum_split]; exact Nat.le_add_right _ _

theorem levelSum_const (c level n : Nat) : levelSum (fun _ => c) level n = n * c := by
  induction n generalizing level with
  | zero => rw [Nat.zero_mul]; rfl
  | succ n ih => rw [levelSum, ih, Nat.succ_mul, Nat.add_comm]

theorem flatten_range_length {α : Type} (f : Nat → List α) (b : Nat → Nat) (hb : ∀ o, (f o).length = b o) :
    ∀ n, ((List.range n).map f).flatten.length = levelSum b 0 n
  | 0 => rfl
  | n + 1 => by
    rw [List.range_succ, List.map_append, List.flatten_append, List.length_append,
      flatten_range_length f b hb n, levelSum_succ_right]
    simp [hb]

/-- rows `f 0, f 1, …` of lengths `b 0, b 1, …` laid end to end: entry `i` of row `o` is entry
`b 0 + … + b (o - 1) + i` of the whole -/
theorem flatten_range_getElem {α : Type} (f : Nat → List α) (b : Nat → Nat) (hb : ∀ o, (f o).length = b o) :
    ∀ (n o i : Nat), o < n → i < b o → ((List.range n).map f).flatten[levelSum b 0 o + i]? = (f o)[i]? := by
  intro n
  induction n with
  | zero => intro o i ho; omega
  | succ n ih =>
    intro o i ho hi
    have hlen := flatten_range_length f b hb n
    rw [List.range_succ, List.map_append, List.flatten_append]
    by_cases hon : o < n
    · have := levelSum_mono b 0 (Nat.succ_le_of_lt hon)
      rw [levelSum_succ_right, Nat.zero_add] at this
      rw [List.getElem?_append_left (by omega)]
      exact ih o i hon hi
    · obtain rfl : o = n := by omega
      rw [List.getElem?_append_right (by omega), hlen, Nat.add_sub_cancel_left]
      simp

/-- `mk level off, mk (level + 1) (off + len level), …`: `n` entries, each starting where the
previous one ends -/
def specList {α : Type} (mk : Nat → Nat → α) (len : Nat → Nat) : (level n off : Nat) → List α
  | _, 0, _ => []
  | level, n + 1, off => mk level off :: specList mk len (level + 1) n (off + len level)

theorem specList_length {α : Type} (mk : Nat → Nat → α) (len : Nat → Nat) :
    ∀ (n level off : Nat), (specList mk len level n off).length = n := by
  intro n
  induction n with
  | zero => intro _ _; rfl
  | succ n ih => intro level off; simp [specList, ih]

theorem specList_drop {α : Type} (mk : Nat → Nat → α) (len : Nat → Nat) :
    ∀ (k n level off : Nat), k ≤ n →
      (specList mk len level n off).drop k =
        specList mk len (level + k) (n - k) (off + levelSum len level k) := by
  intro k
  induction k with
  | zero => intro n level off _; rfl
  | succ k ih =>
    intro n level off hk
    obtain ⟨n, rfl⟩ : ∃ m, n = m + 1 := ⟨n - 1, by omega⟩
    rw [specList, List.drop_succ_cons, ih n _ _ (by omega), levelSum, Nat.add_assoc level,
      Nat.add_comm 1, Nat.add_assoc off, Nat.add_sub_add_right]

theorem specList_getElem {α : Type} (mk : Nat → Nat → α) (len : Nat → Nat) (level n off j : Nat) :
    (specList mk len level n off)[j]? =
      if j < n then some (mk (level + j) (off + levelSum len level j)) else none := by
  by_cases hj : j < n
  · rw [if_pos hj, ← List.head?_drop, specList_drop mk len j n level off (by omega)]
    obtain ⟨m, hm⟩ : ∃ m, n - j = m + 1 := ⟨n - j - 1, by omega⟩
    rw [hm]; rfl
  · rw [if_neg hj]
    exact List.getElem?_eq_none (by rw [specList_length]; omega)

/-- adding up (with the wrapping `+`) a quantity that is `len level` whenever that is a `u64` -/
theorem specList_foldl {α : Type} (mk : Nat → Nat → α) (len : Nat → Nat) (g : α → Nat)
    (hg : ∀ l o, len l < U64 → g (mk l o) = len l) :
    ∀ (n level off acc : Nat), acc + levelSum len level n < U64 →
      (specList mk len level n off).foldl (fun a x => wAdd a (g x)) acc =
        acc + levelSum len level n := by
  intro n
  induction n with
  | zero => intro _ _ _ _; rfl
  | succ n ih =>
    intro level off acc hlt
    rw [levelSum] at hlt ⊢
    rw [specList, List.foldl_cons, hg _ _ (by omega), wAdd_eq (by omega), ih _ _ _ (by omega),
      Nat.add_assoc]

/-! ### `surface_bytes` against the ideal length -/

theorem surfaceBytes_eq (p : PixelInfo) (hp : p.WF) (w h : Nat) :
    p.surfaceBytes w h = ckSome (p.surfIdeal w h) := by
  cases p with
  | fixed bpp => simp [PixelInfo.surfaceBytes, PixelInfo.surfIdeal, ckMul_ckSome]
  | block bytes bw bh =>
    obtain ⟨_, hbw, _, hbh, _⟩ := hp
    simp [PixelInfo.surfaceBytes, PixelInfo.surfIdeal, ckMul_ckSome, divCeil_eq _ _ hbw,
      divCeil_eq _ _ hbh]
  | biPlanar p1 p2 sx sy =>
    obtain ⟨_, _, hsx, _, hsy, _⟩ := hp
    simp only [PixelInfo.surfaceBytes, PixelInfo.surfIdeal, ckMul_ckSome, ckAdd_ckSome,
      divCeil_eq _ _ hsx, divCeil_eq _ _ hsy]
    by_cases h1 : w * h * p1 < U64
    · rw [ckSome_lt h1]
      by_cases h2 : (w + sx - 1) / sx * ((h + sy - 1) / sy) * p2 < U64
      · rw [ckSome_lt h2]
      · rw [ckSome_ge h2, ckSome_add_ge_right h2]
    · rw [ckSome_ge h1, ckSome_add_ge_left h1]

/-! ### texture lengths -/

/-- ideal length of `n` mip levels starting at `level` -/
def texIdeal (px : PixelInfo) (w h : Nat) : (level n : Nat) → Nat
  | _, 0 => 0
  | level, n + 1 =>
    px.surfIdeal (mipSize w level) (mipSize h level) + texIdeal px w h (level + 1) n

theorem textureLenAux_eq (px : PixelInfo) (hp : px.WF) (w h : Nat) :
    ∀ (n level acc : Nat), acc < U64 →
      textureLenAux px w h level n acc = ckSome (acc + texIdeal px w h level n) := by
  intro n
  induction n with
  | zero => intro level acc hacc; simp [textureLenAux, texIdeal, ckSome_lt hacc]
  | succ n ih =>
    intro level acc hacc
    simp only [textureLenAux, texIdeal, surfaceBytes_eq px hp]
    by_cases h1 : px.surfIdeal (mipSize w level) (mipSize h level) < U64
    · rw [ckSome_lt h1]
      simp only [ckAdd_ckSome]
      by_cases h2 : acc + px.surfIdeal (mipSize w level) (mipSize h level) < U64
      · rw [ckSome_lt h2]
        simp only [ih _ _ h2, Nat.add_assoc]
      · rw [ckSome_ge h2, ← Nat.add_assoc, ckSome_add_ge_left h2]
    · rw [ckSome_ge h1, ← Nat.add_assoc, Nat.add_comm acc, Nat.add_assoc, ckSome_add_ge_left h1]

theorem textureLen_eq (px : PixelInfo) (hp : px.WF) (w h mips : Nat) :
    textureLen px w h mips = ckSome (texIdeal px w h 0 mips) := by
  unfold textureLen
  rw [textureLenAux_eq px hp _ _ _ _ _ (by unfold U64; omega)]
  simp

theorem texIdeal_eq_levelSum (px : PixelInfo) (w h : Nat) : ∀ (n level : Nat),
    texIdeal px w h level n =
      levelSum (fun l => px.surfIdeal (mipSize w l) (mipSize h l)) level n := by
  intro n
  induction n with
  | zero => intro _; rfl
  | succ n ih => intro level; simp only [texIdeal, levelSum, ih]

theorem texIdeal_split (px : PixelInfo) (w h a level b : Nat) :
    texIdeal px w h level (a + b) = texIdeal px w h level a + texIdeal px w h (level + a) b := by
  simp only [texIdeal_eq_levelSum]; exact levelSum_split _ a level b

theorem texIdeal_succ_right (px : PixelInfo) (w h level a : Nat) :
    texIdeal px w h level (a + 1) =
      texIdeal px w h level a + px.surfIdeal (mipSize w (level + a)) (mipSize h (level + a)) := by
  simp only [texIdeal_eq_levelSum]; exact levelSum_succ_right _ level a

theorem texIdeal_mono (px : PixelInfo) (w h level : Nat) {a b : Nat} (hab : a ≤ b) :
    texIdeal px w h level a ≤ texIdeal px w h level b := by
  simp only [texIdeal_eq_levelSum]; exact levelSum_mono _ level hab

/-! ### the specification list of mip surfaces (ideal arithmetic) -/

def specMips (px : PixelInfo) (w h : Nat) : (level n off : Nat) → List Surface
  | _, 0, _ => []
  | level, n + 1, off =>
    ⟨mipSize w level, mipSize h level, off, px.surfIdeal (mipSize w level) (mipSize h level)⟩ ::
      specMips px w h (level + 1) n (off + px.surfIdeal (mipSize w level) (mipSize h level))

theorem iterMipsAux_eq (px : PixelInfo) (hp : px.WF) (w h : Nat) :
    ∀ (n level off : Nat), off + texIdeal px w h level n < U64 →
      iterMipsAux px w h level n off = some (specMips px w h level n off) := by
  intro n
  induction n with
  | zero => intro level off _; simp [iterMipsAux, specMips]
  | succ n ih =>
    intro level off hlt
    simp only [texIdeal] at hlt
    have h1 : px.surfIdeal (mipSize w level) (mipSize h level) < U64 := by omega
    have h2 : off + px.surfIdeal (mipSize w level) (mipSize h level) < U64 := by omega
    simp only [iterMipsAux, specMips, surfaceBytes_eq px hp, ckSome_lt h1, wAdd_eq h2]
    rw [ih (level + 1) _ (by omega)]

/-- `Contig s l e`: the surfaces of `l` start at `s`, each starts where the previous one ends,
and the last one ends at `e` (no gap, no overlap). -/
def Contig : Nat → List Surface → Nat → Prop
  | s, [], e => s = e
  | s, x :: r, e => x.offset = s ∧ Contig (s + x.len) r e

theorem Contig_append {l1 l2 : List Surface} : ∀ {a b c : Nat},
    Contig a l1 b → Contig b l2 c → Contig a (l1 ++ l2) c := by
  induction l1 with
  | nil => intro a b c h1 h2; simp only [Contig] at h1; subst h1; simpa using h2
  | cons x r ih =>
    intro a b c h1 h2
    simp only [Contig, List.cons_append] at h1 ⊢
    exact ⟨h1.1, ih h1.2 h2⟩

theorem specMips_contig (px : PixelInfo) (w h : Nat) : ∀ (n level off : Nat),
    Contig off (specMips px w h level n off) (off + texIdeal px w h level n) := by
  intro n
  induction n with
  | zero => intro level off; simp [specMips, Contig, texIdeal]
  | succ n ih =>
    intro level off
    simp only [specMips, Contig, texIdeal, true_and]
    rw [← Nat.add_assoc]
    exact ih _ _

theorem specMips_eq_specList (px : PixelInfo) (w h : Nat) : ∀ (n level off : Nat),
    specMips px w h level n off =
      specList (fun l o => ⟨mipSize w l, mipSize h l, o, px.surfIdeal (mipSize w l) (mipSize h l)⟩)
        (fun l => px.surfIdeal (mipSize w l) (mipSize h l)) level n off := by
  intro n
  induction n with
  | zero => intro _ _; rfl
  | succ n ih => intro level off; simp only [specMips, specList, ih]

theorem specMips_length (px : PixelInfo) (w h n level off : Nat) :
    (specMips px w h level n off).length = n := by
  rw [specMips_eq_specList]; exact specList_length _ _ n level off

theorem specMips_getElem (px : PixelInfo) (w h level n off j : Nat) :
    (specMips px w h level n off)[j]? =
      if j < n then
        some ⟨mipSize w (level + j), mipSize h (level + j), off + texIdeal px w h level j,
              px.surfIdeal (mipSize w (level + j)) (mipSize h (level + j))⟩
      else none := by
  rw [specMips_eq_specList, specList_getElem, texIdeal_eq_levelSum]

theorem specMips_getElem_eq (px : PixelInfo) (w h : Nat) : ∀ (n level off j : Nat), j < n →
    (specMips px w h level n off)[j]? =
      some ⟨mipSize w (level + j), mipSize h (level + j), off + texIdeal px w h level j,
            px.surfIdeal (mipSize w (level + j)) (mipSize h (level + j))⟩ :=
  fun n level off j hj => by rw [specMips_getElem, if_pos hj]

/-! ### textures -/

/-- the invariant `Texture::create_at_offset_0` / `TextureArray::get` establish -/
structure Texture.Valid (t : Texture) : Prop where
  wf : t.px.WF
  fits : (t.offsetIndex + 1) * texIdeal t.px t.w t.h 0 t.mips < U64
  idx : t.offsetIndex < U32
  short : t.shortLen = toShortLen (texIdeal t.px t.w t.h 0 t.mips)

def Texture.len (t : Texture) : Nat := texIdeal t.px t.w t.h 0 t.mips

theorem Texture.Valid.len_lt {t : Texture} (v : t.Valid) : t.len < U64 := by
  have := v.fits
  unfold Texture.len
  have : texIdeal t.px t.w t.h 0 t.mips ≤ (t.offsetIndex + 1) * texIdeal t.px t.w t.h 0 t.mips :=
    Nat.le_mul_of_pos_left _ (by omega)
  omega

theorem Texture.Valid.dataLenP {t : Texture} (v : t.Valid) : t.dataLenP = some t.len := by
  unfold Texture.dataLenP
  rw [v.short]
  unfold toShortLen
  by_cases hc : texIdeal t.px t.w t.h 0 t.mips < U32 ∧ texIdeal t.px t.w t.h 0 t.mips ≠ 0
  · rw [if_pos hc]; rfl
  · rw [if_neg hc]
    show textureLen t.px t.w t.h t.mips = some t.len
    rw [textureLen_eq _ v.wf]; exact ckSome_lt v.len_lt

theorem Texture.Valid.dataOffsetP {t : Texture} (v : t.Valid) :
    t.dataOffsetP = some (t.offsetIndex * t.len) := by
  unfold Texture.dataOffsetP
  rw [v.dataLenP]
  have := v.fits
  have h : t.offsetIndex * t.len < U64 := by
    unfold Texture.len; rw [Nat.add_mul] at this; omega
  simp [wMul_eq h]

theorem Texture.Valid.dataEndP {t : Texture} (v : t.Valid) :
    t.dataEndP = some ((t.offsetIndex + 1) * t.len) := by
  unfold Texture.dataEndP
  rw [v.dataLenP]
  have h1 : t.offsetIndex + 1 < U64 := by have := v.idx; unfold U32 at this; unfold U64; omega
  simp [wAdd_eq h1, wMul_eq v.fits, Texture.len]

theorem Texture.Valid.iterMipsP {t : Texture} (v : t.Valid) :
    t.iterMipsP = some (specMips t.px t.w t.h 0 t.mips (t.offsetIndex * t.len)) := by
  unfold Texture.iterMipsP
  rw [v.dataOffsetP]
  simp only
  apply iterMipsAux_eq _ v.wf
  have := v.fits
  unfold Texture.len
  rw [Nat.add_mul] at this; omega

theorem Texture.create_eq {w h mips : Nat} {px : PixelInfo} (hp : px.WF) :
    Texture.create w h mips px =
      if texIdeal px w h 0 mips < U64 then
        .ok { w, h, mips, px, offsetIndex := 0, shortLen := toShortLen (texIdeal px w h 0 mips) }
      else .error .dataLayoutTooBig := by
  unfold Texture.create
  rw [textureLen_eq _ hp]
  by_cases hl : texIdeal px w h 0 mips < U64
  · rw [ckSome_lt hl, if_pos hl]
  · rw [ckSome_ge hl, if_neg hl]

theorem Texture.create_ok {w h mips : Nat} {px : PixelInfo} (hp : px.WF) {t : Texture}
    (hc : Texture.create w h mips px = .ok t) :
    t.Valid ∧ t.w = w ∧ t.h = h ∧ t.mips = mips ∧ t.px = px ∧ t.offsetIndex = 0 := by
  rw [Texture.create_eq hp] at hc
  split at hc
  · next hl =>
    cases hc
    exact ⟨⟨hp, by simpa using hl, by show 0 < U32; decide, rfl⟩, rfl, rfl, rfl, rfl, rfl⟩
  · cases hc

/-! ### arrays -/

theorem sequenceOpt_map_some {α β : Type} (f : α → Option β) (g : α → β) :
    ∀ (l : List α), (∀ x ∈ l, f x = some (g x)) → sequenceOpt (l.map f) = some (l.map g) := by
  intro l
  induction l with
  | nil => intro _; rfl
  | cons a r ih =>
    intro h
    have ha := h a (by simp)
    have hr := ih (fun x hx => h x (by simp [hx]))
    simp [sequenceOpt, ha, hr]

def specArray (px : PixelInfo) (w h mips n : Nat) : List Surface :=
  ((List.range n).map fun i => specMips px w h 0 mips (i * texIdeal px w h 0 mips)).flatten

theorem specArray_contig (px : PixelInfo) (w h mips : Nat) : ∀ n,
    Contig 0 (specArray px w h mips n) (n * texIdeal px w h 0 mips) := by
  intro n
  induction n with
  | zero => simp [specArray, Contig]
  | succ n ih =>
    unfold specArray at ih ⊢
    rw [List.range_succ, List.map_append, List.flatten_append]
    apply Contig_append ih
    simp only [List.map_cons, List.map_nil, List.flatten_cons, List.flatten_nil, List.append_nil]
    have := specMips_contig px w h mips 0 (n * texIdeal px w h 0 mips)
    rw [Nat.add_mul, Nat.one_mul]
    exact this

/-- the invariant `TextureArray::new` establishes -/
structure TextureArray.Valid (a : TextureArray) : Prop where
  wf : a.px.WF
  fits : a.arrayLen * texIdeal a.px a.w a.h 0 a.mips < U64
  len : a.arrayLen < U32
  tex : texIdeal a.px a.w a.h 0 a.mips < U64
  short : a.shortLen = toShortLen (texIdeal a.px a.w a.h 0 a.mips)

theorem TextureArray.Valid.elem {a : TextureArray} (v : a.Valid) {i : Nat} (hi : i < a.arrayLen) :
    ({ a.first with offsetIndex := i } : Texture).Valid := by
  refine ⟨v.wf, ?_, ?_, v.short⟩
  · show (i + 1) * texIdeal a.px a.w a.h 0 a.mips < U64
    have h1 : (i + 1) * texIdeal a.px a.w a.h 0 a.mips ≤ a.arrayLen * texIdeal a.px a.w a.h 0 a.mips :=
      Nat.mul_le_mul_right _ (by omega)
    have := v.fits
    omega
  · show i < U32
    have := v.len; omega

theorem TextureArray.Valid.first {a : TextureArray} (v : a.Valid) : a.first.Valid := by
  refine ⟨v.wf, ?_, ?_, v.short⟩
  · show (0 + 1) * texIdeal a.px a.w a.h 0 a.mips < U64
    have := v.tex; omega
  · show 0 < U32
    simp [U32]

theorem TextureArray.Valid.dataLenP {a : TextureArray} (v : a.Valid) :
    a.dataLenP = some (a.arrayLen * texIdeal a.px a.w a.h 0 a.mips) := by
  unfold TextureArray.dataLenP
  rw [v.first.dataLenP]
  have h : a.first.len * a.arrayLen < U64 := by
    show texIdeal a.px a.w a.h 0 a.mips * a.arrayLen < U64
    rw [Nat.mul_comm]; exact v.fits
  simp only [Option.map_some, wMul_eq h]
  show some (texIdeal a.px a.w a.h 0 a.mips * a.arrayLen) = _
  rw [Nat.mul_comm]

theorem TextureArray.Valid.flattenP {a : TextureArray} (v : a.Valid) :
    (DataLayout.textureArray a).flattenP = some (specArray a.px a.w a.h a.mips a.arrayLen) := by
  simp only [DataLayout.flattenP, TextureArray.iter, List.map_map]
  rw [sequenceOpt_map_some _
    (fun i => specMips a.px a.w a.h 0 a.mips (i * texIdeal a.px a.w a.h 0 a.mips))]
  · rfl
  · intro i hi
    have hi' : i < a.arrayLen := by simpa using hi
    simp only [Function.comp]
    exact (v.elem hi').iterMipsP

theorem TextureArray.new_eq {kind : ArrayKind} {n : Nat} {first : Texture} (v : first.Valid) :
    TextureArray.new kind n first =
      some (if first.len * n < U64 then
        .ok { kind, arrayLen := n, w := first.w, h := first.h, mips := first.mips,
              px := first.px, shortLen := first.shortLen }
      else .error .dataLayoutTooBig) := by
  unfold TextureArray.new
  rw [v.dataLenP]
  simp only [ckMul_ckSome]
  by_cases hl : first.len * n < U64
  · rw [ckSome_lt hl, if_pos hl]
  · rw [ckSome_ge hl, if_neg hl]

theorem TextureArray.new_ok {kind : ArrayKind} {n : Nat} {t : Texture} {a : TextureArray}
    (v : t.Valid) (hn : n < U32)
    (h : TextureArray.new kind n t = some (.ok a)) : a.Valid ∧ a.arrayLen = n ∧ a.w = t.w ∧
      a.h = t.h ∧ a.mips = t.mips ∧ a.px = t.px ∧ a.kind = kind := by
  rw [TextureArray.new_eq v] at h
  split at h
  · next hl =>
    cases h
    exact ⟨⟨v.wf, by rw [Nat.mul_comm]; exact hl, hn, v.len_lt, v.short⟩, rfl, rfl, rfl, rfl, rfl, rfl⟩
  · cases h

/-! ### volumes -/

def volIdeal (px : PixelInfo) (w h d : Nat) : (level n : Nat) → Nat
  | _, 0 => 0
  | level, n + 1 =>
    px.surfIdeal (mipSize w level) (mipSize h level) * mipSize d level
      + volIdeal px w h d (level + 1) n

theorem volumeLenAux_eq (px : PixelInfo) (hp : px.WF) (w h d : Nat) :
    ∀ (n level acc : Nat), acc < U64 →
      volumeLenAux px w h d level n acc = ckSome (acc + volIdeal px w h d level n) := by
  intro n
  induction n with
  | zero => intro level acc hacc; simp [volumeLenAux, volIdeal, ckSome_lt hacc]
  | succ n ih =>
    intro level acc hacc
    simp only [volumeLenAux, volIdeal, surfaceBytes_eq px hp]
    have hd := mipSize_pos d level
    by_cases h1 : px.surfIdeal (mipSize w level) (mipSize h level) < U64
    · rw [ckSome_lt h1]
      simp only [ckMul_ckSome, ckAdd_ckSome]
      by_cases h2 : px.surfIdeal (mipSize w level) (mipSize h level) * mipSize d level < U64
      · rw [ckSome_lt h2]
        simp only
        by_cases h3 : acc + px.surfIdeal (mipSize w level) (mipSize h level) * mipSize d level < U64
        · rw [ckSome_lt h3]
          simp only [ih _ _ h3, Nat.add_assoc]
        · rw [ckSome_ge h3, ← Nat.add_assoc, ckSome_add_ge_left h3]
      · rw [ckSome_ge h2, ← Nat.add_assoc, Nat.add_comm acc, Nat.add_assoc, ckSome_add_ge_left h2]
    · rw [ckSome_ge h1]
      have h2 : ¬ px.surfIdeal (mipSize w level) (mipSize h level) * mipSize d level < U64 := by
        have := Nat.le_mul_of_pos_right (px.surfIdeal (mipSize w level) (mipSize h level)) hd
        omega
      rw [← Nat.add_assoc, Nat.add_comm acc, Nat.add_assoc, ckSome_add_ge_left h2]

theorem volumeLen_eq (px : PixelInfo) (hp : px.WF) (w h d mips : Nat) :
    volumeLen px w h d mips = ckSome (volIdeal px w h d 0 mips) := by
  unfold volumeLen
  rw [volumeLenAux_eq px hp _ _ _ _ _ _ (by unfold U64; omega)]
  simp

theorem volIdeal_eq_levelSum (px : PixelInfo) (w h d : Nat) : ∀ (n level : Nat),
    volIdeal px w h d level n =
      levelSum (fun l => px.surfIdeal (mipSize w l) (mipSize h l) * mipSize d l) level n := by
  intro n
  induction n with
  | zero => intro _; rfl
  | succ n ih => intro level; simp only [volIdeal, levelSum, ih]

theorem volIdeal_split (px : PixelInfo) (w h d a level b : Nat) :
    volIdeal px w h d level (a + b) =
      volIdeal px w h d level a + volIdeal px w h d (level + a) b := by
  simp only [volIdeal_eq_levelSum]; exact levelSum_split _ a level b

theorem volIdeal_succ_right (px : PixelInfo) (w h d level a : Nat) :
    volIdeal px w h d level (a + 1) = volIdeal px w h d level a +
      px.surfIdeal (mipSize w (level + a)) (mipSize h (level + a)) * mipSize d (level + a) := by
  simp only [volIdeal_eq_levelSum]; exact levelSum_succ_right _ level a

theorem volIdeal_mono (px : PixelInfo) (w h d level : Nat) {a b : Nat} (hab : a ≤ b) :
    volIdeal px w h d level a ≤ volIdeal px w h d level b := by
  simp only [volIdeal_eq_levelSum]; exact levelSum_mono _ level hab

def specVol (px : PixelInfo) (w h d : Nat) : (level n off : Nat) → List VolumeDesc
  | _, 0, _ => []
  | level, n + 1, off =>
    ⟨mipSize w level, mipSize h level, mipSize d level, off,
      px.surfIdeal (mipSize w level) (mipSize h level)⟩ ::
      specVol px w h d (level + 1) n
        (off + px.surfIdeal (mipSize w level) (mipSize h level) * mipSize d level)

theorem volIterMipsAux_eq (px : PixelInfo) (hp : px.WF) (w h d : Nat) :
    ∀ (n level off : Nat), off + volIdeal px w h d level n < U64 →
      volIterMipsAux px w h d level n off = some (specVol px w h d level n off) := by
  intro n
  induction n with
  | zero => intro level off _; simp [volIterMipsAux, specVol]
  | succ n ih =>
    intro level off hlt
    simp only [volIdeal] at hlt
    have hd := mipSize_pos d level
    have h0 : px.surfIdeal (mipSize w level) (mipSize h level) * mipSize d level < U64 := by omega
    have h1 : px.surfIdeal (mipSize w level) (mipSize h level) < U64 := by
      have := Nat.le_mul_of_pos_right (px.surfIdeal (mipSize w level) (mipSize h level)) hd
      omega
    have h0' : mipSize d level * px.surfIdeal (mipSize w level) (mipSize h level) < U64 := by
      rw [Nat.mul_comm]; exact h0
    have h2 : off + mipSize d level * px.surfIdeal (mipSize w level) (mipSize h level) < U64 := by
      rw [Nat.mul_comm]; omega
    simp only [volIterMipsAux, specVol, surfaceBytes_eq px hp, ckSome_lt h1, wMul_eq h0',
      wAdd_eq h2]
    rw [Nat.mul_comm (mipSize d level)]
    rw [ih (level + 1) _ (by omega)]

theorem specVol_eq_specList (px : PixelInfo) (w h d : Nat) : ∀ (n level off : Nat),
    specVol px w h d level n off =
      specList (fun l o => ⟨mipSize w l, mipSize h l, mipSize d l, o,
          px.surfIdeal (mipSize w l) (mipSize h l)⟩)
        (fun l => px.surfIdeal (mipSize w l) (mipSize h l) * mipSize d l) level n off := by
  intro n
  induction n with
  | zero => intro _ _; rfl
  | succ n ih => intro level off; simp only [specVol, specList, ih]

theorem specVol_getElem (px : PixelInfo) (w h d level n off j : Nat) :
    (specVol px w h d level n off)[j]? =
      if j < n then
        some ⟨mipSize w (level + j), mipSize h (level + j), mipSize d (level + j),
              off + volIdeal px w h d level j,
              px.surfIdeal (mipSize w (level + j)) (mipSize h (level + j))⟩
      else none := by
  rw [specVol_eq_specList, specList_getElem, volIdeal_eq_levelSum]

theorem specVol_eq_map (px : PixelInfo) (w h d mips : Nat) :
    specVol px w h d 0 mips 0 = (List.range mips).map fun l =>
      ⟨mipSize w l, mipSize h l, mipSize d l, volIdeal px w h d 0 l, px.surfIdeal (mipSize w l) (mipSize h l)⟩ := by
  apply List.ext_getElem?
  intro j
  rw [specVol_getElem, List.getElem?_map]
  by_cases hj : j < mips
  · rw [if_pos hj, List.getElem?_range hj]; simp
  · rw [if_neg hj, List.getElem?_eq_none (by simpa using hj)]; rfl

/-- ideal depth slices of one mip level -/
def specSlices (v : VolumeDesc) : List Surface :=
  (List.range v.d).map fun k => ⟨v.w, v.h, v.offset + k * v.sliceLen, v.sliceLen⟩

theorem slices_contig (w h off sl : Nat) : ∀ d,
    Contig off ((List.range d).map fun k => (⟨w, h, off + k * sl, sl⟩ : Surface)) (off + d * sl) := by
  intro d
  induction d with
  | zero => simp [Contig]
  | succ d ih =>
    rw [List.range_succ, List.map_append]
    apply Contig_append ih
    simp only [List.map_cons, List.map_nil, Contig, true_and]
    rw [Nat.add_mul]; omega

theorem iterDepthSlices_eq (v : VolumeDesc) (h : v.offset + v.d * v.sliceLen < U64) :
    v.iterDepthSlices = specSlices v := by
  unfold VolumeDesc.iterDepthSlices specSlices
  apply List.map_congr_left
  intro k hk
  have hk' : k < v.d := by simpa using hk
  have h1 : k * v.sliceLen ≤ v.d * v.sliceLen := Nat.mul_le_mul_right _ (by omega)
  rw [wMul_eq (by omega), wAdd_eq (by omega)]

def specVolFlat (px : PixelInfo) (w h d level n off : Nat) : List Surface :=
  ((specVol px w h d level n off).map specSlices).flatten

theorem specVolFlat_contig (px : PixelInfo) (w h d : Nat) : ∀ (n level off : Nat),
    Contig off (specVolFlat px w h d level n off) (off + volIdeal px w h d level n) := by
  intro n
  induction n with
  | zero => intro level off; simp [specVolFlat, specVol, Contig, volIdeal]
  | succ n ih =>
    intro level off
    unfold specVolFlat
    simp only [specVol, List.map_cons, List.flatten_cons, volIdeal]
    apply Contig_append
    · unfold specSlices
      simp only
      exact slices_contig _ _ off _ (mipSize d level)
    · rw [← Nat.add_assoc, Nat.mul_comm (mipSize d level)]
      exact ih _ _

theorem specVol_bound (px : PixelInfo) (w h d : Nat) : ∀ (n level off : Nat) (v : VolumeDesc),
    v ∈ specVol px w h d level n off →
      v.offset + v.d * v.sliceLen ≤ off + volIdeal px w h d level n := by
  intro n
  induction n with
  | zero => intro level off v hv; simp [specVol] at hv
  | succ n ih =>
    intro level off v hv
    simp only [specVol, List.mem_cons] at hv
    simp only [volIdeal]
    cases hv with
    | inl h => subst h; simp only; rw [Nat.mul_comm]; omega
    | inr h => have := ih _ _ _ h; omega

structure Volume.Valid (v : Volume) : Prop where
  wf : v.px.WF
  fits : volIdeal v.px v.w v.h v.d 0 v.mips < U64

theorem Volume.Valid.dataLenP {v : Volume} (hv : v.Valid) :
    v.dataLenP = some (volIdeal v.px v.w v.h v.d 0 v.mips) := by
  unfold Volume.dataLenP
  rw [volumeLen_eq _ hv.wf, ckSome_lt hv.fits]

theorem Volume.Valid.iterMipsP {v : Volume} (hv : v.Valid) :
    v.iterMipsP = some (specVol v.px v.w v.h v.d 0 v.mips 0) := by
  unfold Volume.iterMipsP
  apply volIterMipsAux_eq _ hv.wf
  have := hv.fits; omega

theorem Volume.Valid.flattenP {v : Volume} (hv : v.Valid) :
    (DataLayout.volume v).flattenP = some (specVolFlat v.px v.w v.h v.d 0 v.mips 0) := by
  simp only [DataLayout.flattenP]
  rw [hv.iterMipsP]
  simp only [Option.map_some, specVolFlat]
  congr 2
  apply List.map_congr_left
  intro x hx
  apply iterDepthSlices_eq
  have := specVol_bound _ _ _ _ _ _ _ _ hx
  have := hv.fits
  omega

theorem Volume.create_eq {w h d mips : Nat} {px : PixelInfo} (hp : px.WF) :
    Volume.create w h d mips px =
      if volIdeal px w h d 0 mips < U64 then .ok { w, h, d, mips, px }
      else .error .dataLayoutTooBig := by
  unfold Volume.create
  rw [volumeLen_eq _ hp]
  by_cases hl : volIdeal px w h d 0 mips < U64
  · rw [ckSome_lt hl, if_pos hl]
  · rw [ckSome_ge hl, if_neg hl]

/-! ### `DataLayout::from_header_with` -/

theorem SurfaceLayoutInfo.fromHeader_ok {hd : LayoutHeader} {px : PixelInfo} {i : SurfaceLayoutInfo}
    (h : SurfaceLayoutInfo.fromHeader hd px = .ok i) :
    i.px = px ∧ i.w = hd.width ∧ i.h = hd.height ∧ i.mips = hd.mipmapCount ∧
      0 < hd.width ∧ 0 < hd.height ∧ hd.mipmapCount < 256 := by
  unfold SurfaceLayoutInfo.fromHeader parseDimension parseMipmapCount at h
  by_cases hw : hd.width = 0
  · simp [hw] at h
  · by_cases hh : hd.height = 0
    · simp [hw, hh] at h
    · by_cases hm : hd.mipmapCount < 256
      · simp only [hw, hh, hm, if_true, if_false, Except.ok.injEq] at h
        subst h
        exact ⟨rfl, rfl, rfl, rfl, by omega, by omega, hm⟩
      · simp [hw, hh, hm] at h

theorem popCount6_lt (f : Nat) : popCount6 f < U32 := by
  unfold popCount6 U32; omega

/-- The case tree of `layoutOf`, walked once: an early error, a volume, or a texture / texture array
made from a `SurfaceLayoutInfo` that has the header's mip count and the given pixel info. The array
length is a checked product, a bit count, or the header's `array_size` itself. -/
theorem layoutOf_cases (hd : LayoutHeader) (px : PixelInfo) :
    (∃ e, layoutOf hd px = some (.error e)) ∨
    layoutOf hd px = some ((volumeFromHeader hd px).map .volume) ∨
    ∃ info : SurfaceLayoutInfo, info.px = px ∧ info.mips = hd.mipmapCount ∧ hd.mipmapCount < 256 ∧
      (layoutOf hd px = some (info.create.map .texture) ∨
       ∃ kind n, (n < U32 ∨ ∃ c dim, hd.kind = .dx10 c dim n) ∧
         layoutOf hd px = liftArr (info.createArray kind n)) := by
  unfold layoutOf
  cases hi : SurfaceLayoutInfo.fromHeader hd px with
  | error e =>
    cases hd.kind with
    | dx10 isCube dim arraySize =>
      cases isCube
      · cases dim
        · exact Or.inl ⟨e, rfl⟩
        · exact Or.inl ⟨e, rfl⟩
        · exact Or.inr (Or.inl rfl)
      · simp only [if_true]; split
        · exact Or.inl ⟨_, rfl⟩
        · exact Or.inl ⟨e, rfl⟩
    | dx9 caps2 =>
      simp only
      split
      · split
        · exact Or.inl ⟨_, rfl⟩
        · exact Or.inl ⟨e, rfl⟩
      · split
        · exact Or.inr (Or.inl rfl)
        · exact Or.inl ⟨e, rfl⟩
  | ok info =>
    obtain ⟨hpx, _, _, hmi, _, _, hml⟩ := SurfaceLayoutInfo.fromHeader_ok hi
    cases hk : hd.kind with
    | dx10 isCube dim arraySize =>
      cases isCube
      · cases dim
        · simp only [Bool.false_eq_true, if_false, if_true]
          refine Or.inr (Or.inr ⟨{ info with h := 1 }, hpx, hmi, hml, ?_⟩)
          split
          · exact Or.inl rfl
          · exact Or.inr ⟨_, _, Or.inr ⟨_, _, rfl⟩, rfl⟩
        · simp only [Bool.false_eq_true, if_false, reduceCtorEq]
          refine Or.inr (Or.inr ⟨info, hpx, hmi, hml, ?_⟩)
          split
          · exact Or.inl rfl
          · exact Or.inr ⟨_, _, Or.inr ⟨_, _, rfl⟩, rfl⟩
        · exact Or.inr (Or.inl rfl)
      · simp only [if_true]
        split
        · exact Or.inl ⟨_, rfl⟩
        · by_cases h6 : arraySize * 6 < U32
          · rw [ckMul32, if_pos h6]
            exact Or.inr (Or.inr ⟨info, hpx, hmi, hml, Or.inr ⟨_, _, Or.inl h6, rfl⟩⟩)
          · rw [ckMul32, if_neg h6]
            exact Or.inl ⟨_, rfl⟩
    | dx9 caps2 =>
      simp only
      split
      · split
        · exact Or.inl ⟨_, rfl⟩
        · exact Or.inr (Or.inr ⟨info, hpx, hmi, hml, Or.inr ⟨_, _, Or.inl (popCount6_lt _), rfl⟩⟩)
      · split
        · exact Or.inr (Or.inl rfl)
        · exact Or.inr (Or.inr ⟨info, hpx, hmi, hml, Or.inl rfl⟩)

theorem SurfaceLayoutInfo.createArray_ne_none (i : SurfaceLayoutInfo) (hp : i.px.WF)
    (kind : ArrayKind) (n : Nat) : i.createArray kind n ≠ none := by
  unfold SurfaceLayoutInfo.createArray
  cases hc : i.create with
  | error e => simp
  | ok t =>
    simp [TextureArray.new_eq (Texture.create_ok hp hc).1]

theorem SurfaceLayoutInfo.createArray_ok {i : SurfaceLayoutInfo} {kind : ArrayKind} {n : Nat}
    {a : TextureArray} (hp : i.px.WF) (hn : n < U32) (h : i.createArray kind n = some (.ok a)) :
    a.Valid ∧ a.mips = i.mips ∧ a.px = i.px := by
  unfold SurfaceLayoutInfo.createArray at h
  cases hc : i.create with
  | error e => rw [hc] at h; simp at h
  | ok t =>
    rw [hc] at h
    obtain ⟨v, _, _, hm, hpx, _⟩ := Texture.create_ok hp hc
    obtain ⟨va, _, _, _, h4, h5, _⟩ := TextureArray.new_ok v hn h
    exact ⟨va, h4.trans hm, h5.trans hpx⟩

theorem volumeFromHeader_ok {hd : LayoutHeader} {px : PixelInfo} {v : Volume} (hp : px.WF)
    (h : volumeFromHeader hd px = .ok v) :
    v.Valid ∧ v.px = px ∧ v.mips = hd.mipmapCount ∧ hd.mipmapCount < 256 ∧
      hd.depth = some v.d ∧ 0 < v.d := by
  unfold volumeFromHeader parseDimension parseMipmapCount at h
  by_cases hw : hd.width = 0
  · simp [hw] at h
  · by_cases hh : hd.height = 0
    · simp [hw, hh] at h
    · cases hd' : hd.depth with
      | none => simp [hw, hh, hd'] at h
      | some d0 =>
        by_cases hd0 : d0 = 0
        · simp [hw, hh, hd', hd0] at h
        · by_cases hm : hd.mipmapCount < 256
          · simp only [hw, hh, hd', hd0, hm, if_true, if_false] at h
            rw [Volume.create_eq hp] at h
            by_cases hl : volIdeal px hd.width hd.height d0 0 hd.mipmapCount < U64
            · rw [if_pos hl] at h
              simp only [Except.ok.injEq] at h
              subst h
              exact ⟨⟨hp, hl⟩, rfl, rfl, hm, rfl, Nat.pos_of_ne_zero hd0⟩
            · rw [if_neg hl] at h; cases h
          · simp [hw, hh, hd', hd0, hm] at h

theorem liftArr_eq_ok {r : Option (Except LayoutErr TextureArray)} {L : DataLayout}
    (h : liftArr r = some (.ok L)) : ∃ a, r = some (.ok a) ∧ L = .textureArray a := by
  cases r with
  | none => cases h
  | some e =>
    cases e with
    | error _ => cases h
    | ok a => exact ⟨a, rfl, by cases h; rfl⟩

theorem layoutOf_ne_none (hd : LayoutHeader) (px : PixelInfo) (hp : px.WF) : layoutOf hd px ≠ none := by
  rcases layoutOf_cases hd px with ⟨e, h⟩ | h | ⟨info, hpx, _, _, h | ⟨kind, n, _, h⟩⟩
  · rw [h]; simp
  · rw [h]; simp
  · rw [h]; simp
  · rw [h]
    have := info.createArray_ne_none (hpx ▸ hp) kind n
    cases hc : info.createArray kind n with
    | none => exact absurd hc this
    | some x => simp [liftArr]

end Dds
