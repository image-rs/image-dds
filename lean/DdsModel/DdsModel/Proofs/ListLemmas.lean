/-
Facts about `if`, `Except` and lists (`getD`, `find?`, `lookup`, `flatMap`, `range`, `foldl`, `foldlM`, `Pairwise`,
runs of a state machine) that are not about the model.
-/
namespace Dds

theorem ite_of {α} (P : α → Prop) {c : Prop} [Decidable c] {a b : α} (ha : P a) (hb : P b) :
    P (if c then a else b) := by
  split <;> assumption

theorem ite_eq_of {α} {c : Prop} [Decidable c] {a b v : α} (ha : a = v) (hb : b = v) : (if c then a else b) = v := by
  split <;> assumption

/-- a mirror and its model branch on the same condition -/
theorem ite_eq_some {α} {c : Prop} [Decidable c] {a b : Option α} {a' b' : α}
    (ha : c → a = some a') (hb : ¬ c → b = some b') : (if c then a else b) = some (if c then a' else b') := by
  by_cases h : c
  · rw [if_pos h, if_pos h]; exact ha h
  · rw [if_neg h, if_neg h]; exact hb h

theorem ite_or {α : Sort _} {a b : Prop} [Decidable a] [Decidable b] (x y : α) :
    (if a ∨ b then x else y) = if a then x else if b then x else y := by
  by_cases a <;> by_cases b <;> simp [*]

theorem Except.map_eq_ok {ε α β : Type} {f : α → β} {x : Except ε α} {y : β} (h : x.map f = .ok y) :
    ∃ a, x = .ok a ∧ f a = y := by
  cases x with
  | error _ => cases h
  | ok a => exact ⟨a, rfl, by cases h; rfl⟩

theorem getD_of_forall {α} {p : α → Prop} {l : List α} {d : α} (h : ∀ x ∈ l, p x) (hd : p d) (i : Nat) :
    p (l.getD i d) := by
  rw [List.getD_eq_getElem?_getD]
  cases hi : l[i]? with
  | none => exact hd
  | some v => exact h v (List.mem_of_getElem? hi)

theorem getD_lt {l : List Nat} {B : Nat} (hB : 0 < B) (h : ∀ w ∈ l, w < B) (i : Nat) : l.getD i 0 < B :=
  getD_of_forall h hB i

theorem getD_getD_lt {t : List (List Nat)} {B : Nat} (hB : 0 < B) (h : ∀ l ∈ t, ∀ w ∈ l, w < B) (i j : Nat) :
    (t.getD i []).getD j 0 < B :=
  getD_lt hB (getD_of_forall (p := fun l => ∀ w ∈ l, w < B) h (fun _ hw => (List.not_mem_nil hw).elim) i) j

theorem getD_of_getElem? {α} (l : List α) (i : Nat) (d c : α) (h : l[i]? = some c) : l.getD i d = c := by
  rw [List.getD_eq_getElem?_getD, h]; rfl

theorem getElem?_of_lt {α} (l : List α) (i : Nat) (d : α) (h : i < l.length) : l[i]? = some (l.getD i d) := by
  rw [List.getD_eq_getElem?_getD, List.getElem?_eq_getElem h]; rfl

theorem getD_mem {α} {l : List α} {i : Nat} (h : i < l.length) (d : α) : l.getD i d ∈ l := by
  exact List.mem_of_getElem? (getElem?_of_lt l i d h)

theorem getD_map_range {α} (f : Nat → α) (d : α) {n k : Nat} (hk : k < n) : ((List.range n).map f).getD k d = f k := by
  rw [List.getD_eq_getElem?_getD, List.getElem?_map, List.getElem?_range hk]
  rfl

theorem getD_replicate_of_lt {α : Type} (n : Nat) (a d : α) (i : Nat) (h : i < n) : (List.replicate n a).getD i d = a := by
  rw [List.getD_eq_getElem?_getD, List.getElem?_replicate, if_pos h]; rfl

theorem forall_mem3 {α} {p : α → Prop} {a b c : α} (ha : p a) (hb : p b) (hc : p c) : ∀ v ∈ [a, b, c], p v := by
  simp only [List.forall_mem_cons, List.not_mem_nil, false_imp_iff, implies_true, and_true]
  exact ⟨ha, hb, hc⟩

theorem forall_mem4 {α} {p : α → Prop} {a b c d : α} (ha : p a) (hb : p b) (hc : p c) (hd : p d) :
    ∀ v ∈ [a, b, c, d], p v := by
  simp only [List.forall_mem_cons, List.not_mem_nil, false_imp_iff, implies_true, and_true]
  exact ⟨ha, hb, hc, hd⟩

theorem map_range_congr {α : Type} {n : Nat} {f g : Nat → α} (h : ∀ i, i < n → f i = g i) :
    (List.range n).map f = (List.range n).map g :=
  List.map_congr_left fun i hi => h i (List.mem_range.mp hi)

theorem map_range_const {α : Type} (n : Nat) (f : Nat → α) (c : α) (h : ∀ p, p < n → f p = c) :
    (List.range n).map f = List.replicate n c := by
  rw [List.map_congr_left (g := fun _ => c) (fun p hp => h p (List.mem_range.mp hp)), List.map_const',
    List.length_range]

theorem flatMap_congr' {ρ γ : Type} {l : List ρ} {f g : ρ → List γ} (h : ∀ x ∈ l, f x = g x) :
    l.flatMap f = l.flatMap g := by
  rw [List.flatMap_def, List.flatMap_def, List.map_congr_left h]

theorem map_flatMap_flatten {ρ β : Type} (r : ρ → List β) (frags : List (List ρ)) :
    (frags.map (fun f => f.flatMap r)).flatten = frags.flatten.flatMap r := by
  rw [← List.flatMap_def, List.flatten_eq_flatMap, List.flatMap_assoc]
  rfl

theorem flatMap_if_singleton {α β : Type} (l : List α) (p : α → Bool) (g : α → β) :
    l.flatMap (fun a => if p a = true then [g a] else []) = (l.filter p).map g := by
  induction l with
  | nil => rfl
  | cons a t ih =>
    rw [List.flatMap_cons, ih]
    by_cases h : p a = true <;> simp [h]

/-! ### `find?` read through membership; the last hit of a list is `reverse.find?` -/

theorem exists_find?_of_mem {α : Type} {p : α → Bool} {l : List α} {a : α} (ha : a ∈ l) (hp : p a = true) :
    ∃ b, l.find? p = some b ∧ b ∈ l ∧ p b = true := by
  cases h : l.find? p with
  | none => exact absurd hp (List.find?_eq_none.1 h a ha)
  | some b => exact ⟨b, rfl, List.mem_of_find?_eq_some h, List.find?_some h⟩

theorem find_last_map {α β : Type} {p : α → Bool} {f : α → β} {l : List α} {b : β}
    (hs : ∀ a ∈ l, p a = true → f a = b) (hc : ∃ a ∈ l, p a = true) :
    (l.reverse.find? p).map f = some b := by
  obtain ⟨a, ha, hp⟩ := hc
  obtain ⟨a', e, hm, hp'⟩ := exists_find?_of_mem (List.mem_reverse.2 ha) hp
  rw [e, Option.map_some, hs a' (List.mem_reverse.1 hm) hp']

theorem find_last_none {α β : Type} {p : α → Bool} {f : α → β} {l : List α}
    (h : ∀ a ∈ l, p a = false) : (l.reverse.find? p).map f = none := by
  rw [List.find?_eq_none.2 fun a ha hp => by rw [h a (List.mem_reverse.1 ha)] at hp; cases hp]
  rfl

theorem find?_isSome_eq_any {α : Type} (p : α → Bool) (l : List α) : (l.find? p).isSome = l.any p := by
  induction l with
  | nil => rfl
  | cons a l ih =>
    rw [List.find?_cons, List.any_cons]
    cases p a
    · exact ih
    · rfl

theorem lookup_mem {α β : Type} [BEq α] [LawfulBEq α] {l : List (α × β)} {c : α} {d : β}
    (h : l.lookup c = some d) : (c, d) ∈ l := by
  obtain ⟨l₁, l₂, rfl, _⟩ := List.lookup_eq_some_iff.mp h
  exact List.mem_append_right _ (List.mem_cons_self ..)

theorem rel_of_mem_take {α : Type} {R : α → α → Prop} {l : List α} (h : l.Pairwise R) {k : Nat}
    {p x : α} (hk : l[k]? = some p) (hx : x ∈ l.take k) : R x p := by
  induction l generalizing k with
  | nil => simp at hk
  | cons a t ih =>
    cases k with
    | zero => simp at hx
    | succ k =>
      rw [List.getElem?_cons_succ] at hk
      rw [List.take_succ_cons, List.mem_cons] at hx
      rcases hx with rfl | hx
      · exact (List.pairwise_cons.mp h).1 p (List.mem_of_getElem? hk)
      · exact ih (List.pairwise_cons.mp h).2 hk hx

theorem foldl_min_le {α} (f : α → Nat) (l : List α) : ∀ init,
    l.foldl (fun m x => min m (f x)) init ≤ init ∧ (∀ x ∈ l, l.foldl (fun m x => min m (f x)) init ≤ f x) ∧
    ((∀ x ∈ l, init ≤ f x) → l.foldl (fun m x => min m (f x)) init = init) := by
  induction l with
  | nil => intro init; exact ⟨Nat.le_refl _, fun _ hx => (List.not_mem_nil hx).elim, fun _ => rfl⟩
  | cons a l ih =>
    intro init
    obtain ⟨h1, h2, h3⟩ := ih (min init (f a))
    refine ⟨Nat.le_trans h1 (Nat.min_le_left _ _), fun x hx => ?_, fun hall => ?_⟩
    · rcases List.mem_cons.mp hx with rfl | hx
      · exact Nat.le_trans h1 (Nat.min_le_right _ _)
      · exact h2 x hx
    · obtain ⟨ha, hl⟩ := List.forall_mem_cons.mp hall
      rw [Nat.min_eq_left ha] at h3
      rw [List.foldl_cons, Nat.min_eq_left ha]
      exact h3 hl

theorem foldlM_some_inv {σ α : Type} {step : σ → α → Option σ} {P : σ → Prop} {Q : α → Prop}
    (hstep : ∀ s a s', P s → Q a → step s a = some s' → P s') :
    ∀ (l : List α) {s s' : σ}, P s → (∀ a ∈ l, Q a) → l.foldlM step s = some s' → P s'
  | [], _, _, hs, _, h => by cases h; exact hs
  | a :: l, s, _, hs, hq, h => by
    rw [List.foldlM_cons] at h
    cases h1 : step s a with
    | none => rw [h1] at h; cases h
    | some s1 =>
      rw [h1] at h
      exact foldlM_some_inv hstep l (hstep s a s1 hs (hq a (List.mem_cons_self ..)) h1)
        (fun b hb => hq b (List.mem_cons_of_mem _ hb)) h

theorem foldlM_none {σ α : Type} {step : σ → α → Option σ} :
    ∀ (l : List α) {s : σ}, l.foldlM step s = none → ∃ a ∈ l, ∃ s', step s' a = none
  | [], _, h => by cases h
  | a :: l, s, h => by
    rw [List.foldlM_cons] at h
    cases h1 : step s a with
    | none => exact ⟨a, List.mem_cons_self .., s, h1⟩
    | some s1 =>
      rw [h1] at h
      obtain ⟨b, hb, hs⟩ := foldlM_none l h
      exact ⟨b, List.mem_cons_of_mem _ hb, hs⟩

/-- A run of a state machine, given by its two equations: what every step keeps, the run keeps, and
what the result of every step satisfies, every result of the run satisfies. -/
theorem run_induction {σ ω ρ : Type} {step : σ → ω → σ × ρ} {run : σ → List ω → σ × List ρ}
    (hnil : ∀ s, run s [] = (s, []))
    (hcons : ∀ s o os,
      run s (o :: os) = ((run (step s o).1 os).1, (step s o).2 :: (run (step s o).1 os).2))
    {Inv : σ → Prop} {Good : ρ → Prop} (hstep : ∀ s o, Inv s → Inv (step s o).1 ∧ Good (step s o).2) :
    ∀ (os : List ω) (s : σ), Inv s → Inv (run s os).1 ∧ ∀ r ∈ (run s os).2, Good r := by
  intro os
  induction os with
  | nil => intro s v; rw [hnil]; exact ⟨v, fun _ h => nomatch h⟩
  | cons o os ih =>
    intro s v
    obtain ⟨h1, h2⟩ := hstep s o v
    obtain ⟨h3, h4⟩ := ih _ h1
    rw [hcons]
    exact ⟨h3, fun r hr => (List.mem_cons.1 hr).elim (fun h => h ▸ h2) (h4 r)⟩

end Dds
