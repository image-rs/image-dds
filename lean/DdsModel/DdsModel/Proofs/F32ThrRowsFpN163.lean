/-
`fp::n16` / `n16::from_f32`: `(x * 65535.0 + 0.5) as u16`: threshold table, codes 24577 … 32768,
checked by kernel evaluation of `chkList` (`Proofs/F32Thr.lean`).  GENERATED by tools/gen_f32thr.py (the
script is not trusted: every entry is validated here).  Entry `2t + d`: `t` = first pattern whose result is ≥ k,
`d = 1` iff `t` is still below the exact tie `(2k−1)/(2·65535)` (its result is one code too high).
-/
import DdsModel.Proofs.F32Thr
namespace Dds.F32Thr.FpN16
-- the elaborator's default recursion depth does not suffice for a list literal of 2048 numerals
set_option maxRecDepth 100000

@[irreducible] def c12 : List Nat :=
  [2105541505, 2105542529, 2105543553, 2105544577, 2105545601, 2105546625, 2105547649, 2105548673, 2105549697,
   2105550721, 2105551745, 2105552769, 2105553793, 2105554817, 2105555841, 2105556865, 2105557889, 2105558913,
   2105559937, 2105560961, 2105561985, 2105563009, 2105564033, 2105565057, 2105566081, 2105567105, 2105568129,
   2105569153, 2105570177, 2105571201, 2105572225, 2105573249, 2105574273, 2105575297, 2105576321, 2105577345,
   2105578369, 2105579393, 2105580417, 2105581441, 2105582465, 2105583489, 2105584513, 2105585537, 2105586561,
   2105587585, 2105588609, 2105589633, 2105590657, 2105591681, 2105592705, 2105593729, 2105594753, 2105595777,
   2105596801, 2105597825, 2105598849, 2105599873, 2105600897, 2105601921, 2105602945, 2105603969, 2105604993,
   2105606017, 2105607042, 2105608066, 2105609090, 2105610114, 2105611138, 2105612162, 2105613186, 2105614210,
   2105615234, 2105616258, 2105617282, 2105618306, 2105619330, 2105620354, 2105621378, 2105622402, 2105623426,
   2105624450, 2105625474, 2105626498, 2105627522, 2105628546, 2105629570, 2105630594, 2105631618, 2105632642,
   2105633666, 2105634690, 2105635714, 2105636738, 2105637762, 2105638786, 2105639810, 2105640834, 2105641858,
   2105642882, 2105643906, 2105644930, 2105645954, 2105646978, 2105648002, 2105649026, 2105650050, 2105651074,
   2105652098, 2105653122, 2105654146, 2105655170, 2105656194, 2105657218, 2105658242, 2105659266, 2105660290,
   2105661314, 2105662338, 2105663362, 2105664386, 2105665410, 2105666434, 2105667458, 2105668482, 2105669506,
   2105670530, 2105671554, 2105672579, 2105673603, 2105674627, 2105675651, 2105676675, 2105677699, 2105678723,
   2105679747, 2105680771, 2105681795, 2105682819, 2105683843, 2105684867, 2105685891, 2105686915, 2105687939,
   2105688963, 2105689987, 2105691011, 2105692035, 2105693059, 2105694083, 2105695107, 2105696131, 2105697155,
   2105698179, 2105699203, 2105700227, 2105701251, 2105702275, 2105703299, 2105704323, 2105705347, 2105706371,
   2105707395, 2105708419, 2105709443, 2105710467, 2105711491, 2105712515, 2105713539, 2105714563, 2105715587,
   2105716611, 2105717635, 2105718659, 2105719683, 2105720707, 2105721731, 2105722755, 2105723779, 2105724803,
   2105725827, 2105726851, 2105727875, 2105728899, 2105729923, 2105730947, 2105731971, 2105732995, 2105734019,
   2105735043, 2105736067, 2105737091, 2105738116, 2105739140, 2105740164, 2105741188, 2105742212, 2105743236,
   2105744260, 2105745284, 2105746308, 2105747332, 2105748356, 2105749380, 2105750404, 2105751428, 2105752452,
   2105753476, 2105754500, 2105755524, 2105756548, 2105757572, 2105758596, 2105759620, 2105760644, 2105761668,
   2105762692, 2105763716, 2105764740, 2105765764, 2105766788, 2105767812, 2105768836, 2105769860, 2105770884,
   2105771908, 2105772932, 2105773956, 2105774980, 2105776004, 2105777028, 2105778052, 2105779076, 2105780100,
   2105781124, 2105782148, 2105783172, 2105784196, 2105785220, 2105786244, 2105787268, 2105788292, 2105789316,
   2105790340, 2105791364, 2105792388, 2105793412, 2105794436, 2105795460, 2105796484, 2105797508, 2105798532,
   2105799556, 2105800580, 2105801604, 2105802628, 2105803653, 2105804677, 2105805701, 2105806725, 2105807749,
   2105808773, 2105809797, 2105810821, 2105811845, 2105812869, 2105813893, 2105814917, 2105815941, 2105816965,
   2105817989, 2105819013, 2105820037, 2105821061, 2105822085, 2105823109, 2105824133, 2105825157, 2105826181,
   2105827205, 2105828229, 2105829253, 2105830277, 2105831301, 2105832325, 2105833349, 2105834373, 2105835397,
   2105836421, 2105837445, 2105838469, 2105839493, 2105840517, 2105841541, 2105842565, 2105843589, 2105844613,
   2105845637, 2105846661, 2105847685, 2105848709, 2105849733, 2105850757, 2105851781, 2105852805, 2105853829,
   2105854853, 2105855877, 2105856901, 2105857925, 2105858949, 2105859973, 2105860997, 2105862021, 2105863045,
   2105864069, 2105865093, 2105866117, 2105867141, 2105868165, 2105869190, 2105870214, 2105871238, 2105872262,
   2105873286, 2105874310, 2105875334, 2105876358, 2105877382, 2105878406, 2105879430, 2105880454, 2105881478,
   2105882502, 2105883526, 2105884550, 2105885574, 2105886598, 2105887622, 2105888646, 2105889670, 2105890694,
   2105891718, 2105892742, 2105893766, 2105894790, 2105895814, 2105896838, 2105897862, 2105898886, 2105899910,
   2105900934, 2105901958, 2105902982, 2105904006, 2105905030, 2105906054, 2105907078, 2105908102, 2105909126,
   2105910150, 2105911174, 2105912198, 2105913222, 2105914246, 2105915270, 2105916294, 2105917318, 2105918342,
   2105919366, 2105920390, 2105921414, 2105922438, 2105923462, 2105924486, 2105925510, 2105926534, 2105927558,
   2105928582, 2105929606, 2105930630, 2105931654, 2105932678, 2105933702, 2105934727, 2105935751, 2105936775,
   2105937799, 2105938823, 2105939847, 2105940871, 2105941895, 2105942919, 2105943943, 2105944967, 2105945991,
   2105947015, 2105948039, 2105949063, 2105950087, 2105951111, 2105952135, 2105953159, 2105954183, 2105955207,
   2105956231, 2105957255, 2105958279, 2105959303, 2105960327, 2105961351, 2105962375, 2105963399, 2105964423,
   2105965447, 2105966471, 2105967495, 2105968519, 2105969543, 2105970567, 2105971591, 2105972615, 2105973639,
   2105974663, 2105975687, 2105976711, 2105977735, 2105978759, 2105979783, 2105980807, 2105981831, 2105982855,
   2105983879, 2105984903, 2105985927, 2105986951, 2105987975, 2105988999, 2105990023, 2105991047, 2105992071,
   2105993095, 2105994119, 2105995143, 2105996167, 2105997191, 2105998215, 2105999239, 2106000264, 2106001288,
   2106002312, 2106003336, 2106004360, 2106005384, 2106006408, 2106007432, 2106008456, 2106009480, 2106010504,
   2106011528, 2106012552, 2106013576, 2106014600, 2106015624, 2106016648, 2106017672, 2106018696, 2106019720,
   2106020744, 2106021768, 2106022792, 2106023816, 2106024840, 2106025864, 2106026888, 2106027912, 2106028936,
   2106029960, 2106030984, 2106032008, 2106033032, 2106034056, 2106035080, 2106036104, 2106037128, 2106038152,
   2106039176, 2106040200, 2106041224, 2106042248, 2106043272, 2106044296, 2106045320, 2106046344, 2106047368,
   2106048392, 2106049416, 2106050440, 2106051464, 2106052488, 2106053512, 2106054536, 2106055560, 2106056584,
   2106057608, 2106058632, 2106059656, 2106060680, 2106061704, 2106062728, 2106063752, 2106064776, 2106065801,
   2106066825, 2106067849, 2106068873, 2106069897, 2106070921, 2106071945, 2106072969, 2106073993, 2106075017,
   2106076041, 2106077065, 2106078089, 2106079113, 2106080137, 2106081161, 2106082185, 2106083209, 2106084233,
   2106085257, 2106086281, 2106087305, 2106088329, 2106089353, 2106090377, 2106091401, 2106092425, 2106093449,
   2106094473, 2106095497, 2106096521, 2106097545, 2106098569, 2106099593, 2106100617, 2106101641, 2106102665,
   2106103689, 2106104713, 2106105737, 2106106761, 2106107785, 2106108809, 2106109833, 2106110857, 2106111881,
   2106112905, 2106113929, 2106114953, 2106115977, 2106117001, 2106118025, 2106119049, 2106120073, 2106121097,
   2106122121, 2106123145, 2106124169, 2106125193, 2106126217, 2106127241, 2106128265, 2106129289, 2106130313,
   2106131338, 2106132362, 2106133386, 2106134410, 2106135434, 2106136458, 2106137482, 2106138506, 2106139530,
   2106140554, 2106141578, 2106142602, 2106143626, 2106144650, 2106145674, 2106146698, 2106147722, 2106148746,
   2106149770, 2106150794, 2106151818, 2106152842, 2106153866, 2106154890, 2106155914, 2106156938, 2106157962,
   2106158986, 2106160010, 2106161034, 2106162058, 2106163082, 2106164106, 2106165130, 2106166154, 2106167178,
   2106168202, 2106169226, 2106170250, 2106171274, 2106172298, 2106173322, 2106174346, 2106175370, 2106176394,
   2106177418, 2106178442, 2106179466, 2106180490, 2106181514, 2106182538, 2106183562, 2106184586, 2106185610,
   2106186634, 2106187658, 2106188682, 2106189706, 2106190730, 2106191754, 2106192778, 2106193802, 2106194826,
   2106195850, 2106196875, 2106197899, 2106198923, 2106199947, 2106200971, 2106201995, 2106203019, 2106204043,
   2106205067, 2106206091, 2106207115, 2106208139, 2106209163, 2106210187, 2106211211, 2106212235, 2106213259,
   2106214283, 2106215307, 2106216331, 2106217355, 2106218379, 2106219403, 2106220427, 2106221451, 2106222475,
   2106223499, 2106224523, 2106225547, 2106226571, 2106227595, 2106228619, 2106229643, 2106230667, 2106231691,
   2106232715, 2106233739, 2106234763, 2106235787, 2106236811, 2106237835, 2106238859, 2106239883, 2106240907,
   2106241931, 2106242955, 2106243979, 2106245003, 2106246027, 2106247051, 2106248075, 2106249099, 2106250123,
   2106251147, 2106252171, 2106253195, 2106254219, 2106255243, 2106256267, 2106257291, 2106258315, 2106259339,
   2106260363, 2106261387, 2106262412, 2106263436, 2106264460, 2106265484, 2106266508, 2106267532, 2106268556,
   2106269580, 2106270604, 2106271628, 2106272652, 2106273676, 2106274700, 2106275724, 2106276748, 2106277772,
   2106278796, 2106279820, 2106280844, 2106281868, 2106282892, 2106283916, 2106284940, 2106285964, 2106286988,
   2106288012, 2106289036, 2106290060, 2106291084, 2106292108, 2106293132, 2106294156, 2106295180, 2106296204,
   2106297228, 2106298252, 2106299276, 2106300300, 2106301324, 2106302348, 2106303372, 2106304396, 2106305420,
   2106306444, 2106307468, 2106308492, 2106309516, 2106310540, 2106311564, 2106312588, 2106313612, 2106314636,
   2106315660, 2106316684, 2106317708, 2106318732, 2106319756, 2106320780, 2106321804, 2106322828, 2106323852,
   2106324876, 2106325900, 2106326924, 2106327949, 2106328973, 2106329997, 2106331021, 2106332045, 2106333069,
   2106334093, 2106335117, 2106336141, 2106337165, 2106338189, 2106339213, 2106340237, 2106341261, 2106342285,
   2106343309, 2106344333, 2106345357, 2106346381, 2106347405, 2106348429, 2106349453, 2106350477, 2106351501,
   2106352525, 2106353549, 2106354573, 2106355597, 2106356621, 2106357645, 2106358669, 2106359693, 2106360717,
   2106361741, 2106362765, 2106363789, 2106364813, 2106365837, 2106366861, 2106367885, 2106368909, 2106369933,
   2106370957, 2106371981, 2106373005, 2106374029, 2106375053, 2106376077, 2106377101, 2106378125, 2106379149,
   2106380173, 2106381197, 2106382221, 2106383245, 2106384269, 2106385293, 2106386317, 2106387341, 2106388365,
   2106389389, 2106390413, 2106391437, 2106392461, 2106393486, 2106394510, 2106395534, 2106396558, 2106397582,
   2106398606, 2106399630, 2106400654, 2106401678, 2106402702, 2106403726, 2106404750, 2106405774, 2106406798,
   2106407822, 2106408846, 2106409870, 2106410894, 2106411918, 2106412942, 2106413966, 2106414990, 2106416014,
   2106417038, 2106418062, 2106419086, 2106420110, 2106421134, 2106422158, 2106423182, 2106424206, 2106425230,
   2106426254, 2106427278, 2106428302, 2106429326, 2106430350, 2106431374, 2106432398, 2106433422, 2106434446,
   2106435470, 2106436494, 2106437518, 2106438542, 2106439566, 2106440590, 2106441614, 2106442638, 2106443662,
   2106444686, 2106445710, 2106446734, 2106447758, 2106448782, 2106449806, 2106450830, 2106451854, 2106452878,
   2106453902, 2106454926, 2106455950, 2106456974, 2106457998, 2106459023, 2106460047, 2106461071, 2106462095,
   2106463119, 2106464143, 2106465167, 2106466191, 2106467215, 2106468239, 2106469263, 2106470287, 2106471311,
   2106472335, 2106473359, 2106474383, 2106475407, 2106476431, 2106477455, 2106478479, 2106479503, 2106480527,
   2106481551, 2106482575, 2106483599, 2106484623, 2106485647, 2106486671, 2106487695, 2106488719, 2106489743,
   2106490767, 2106491791, 2106492815, 2106493839, 2106494863, 2106495887, 2106496911, 2106497935, 2106498959,
   2106499983, 2106501007, 2106502031, 2106503055, 2106504079, 2106505103, 2106506127, 2106507151, 2106508175,
   2106509199, 2106510223, 2106511247, 2106512271, 2106513295, 2106514319, 2106515343, 2106516367, 2106517391,
   2106518415, 2106519439, 2106520463, 2106521487, 2106522511, 2106523535, 2106524560, 2106525584, 2106526608,
   2106527632, 2106528656, 2106529680, 2106530704, 2106531728, 2106532752, 2106533776, 2106534800, 2106535824,
   2106536848, 2106537872, 2106538896, 2106539920, 2106540944, 2106541968, 2106542992, 2106544016, 2106545040,
   2106546064, 2106547088, 2106548112, 2106549136, 2106550160, 2106551184, 2106552208, 2106553232, 2106554256,
   2106555280, 2106556304, 2106557328, 2106558352, 2106559376, 2106560400, 2106561424, 2106562448, 2106563472,
   2106564496, 2106565520, 2106566544, 2106567568, 2106568592, 2106569616, 2106570640, 2106571664, 2106572688,
   2106573712, 2106574736, 2106575760, 2106576784, 2106577808, 2106578832, 2106579856, 2106580880, 2106581904,
   2106582928, 2106583952, 2106584976, 2106586000, 2106587024, 2106588048, 2106589072, 2106590097, 2106591121,
   2106592145, 2106593169, 2106594193, 2106595217, 2106596241, 2106597265, 2106598289, 2106599313, 2106600337,
   2106601361, 2106602385, 2106603409, 2106604433, 2106605457, 2106606481, 2106607505, 2106608529, 2106609553,
   2106610577, 2106611601, 2106612625, 2106613649, 2106614673, 2106615697, 2106616721, 2106617745, 2106618769,
   2106619793, 2106620817, 2106621841, 2106622865, 2106623889, 2106624913, 2106625937, 2106626961, 2106627985,
   2106629009, 2106630033, 2106631057, 2106632081, 2106633105, 2106634129, 2106635153, 2106636177, 2106637201,
   2106638225, 2106639249, 2106640273, 2106641297, 2106642321, 2106643345, 2106644369, 2106645393, 2106646417,
   2106647441, 2106648465, 2106649489, 2106650513, 2106651537, 2106652561, 2106653585, 2106654609, 2106655634,
   2106656658, 2106657682, 2106658706, 2106659730, 2106660754, 2106661778, 2106662802, 2106663826, 2106664850,
   2106665874, 2106666898, 2106667922, 2106668946, 2106669970, 2106670994, 2106672018, 2106673042, 2106674066,
   2106675090, 2106676114, 2106677138, 2106678162, 2106679186, 2106680210, 2106681234, 2106682258, 2106683282,
   2106684306, 2106685330, 2106686354, 2106687378, 2106688402, 2106689426, 2106690450, 2106691474, 2106692498,
   2106693522, 2106694546, 2106695570, 2106696594, 2106697618, 2106698642, 2106699666, 2106700690, 2106701714,
   2106702738, 2106703762, 2106704786, 2106705810, 2106706834, 2106707858, 2106708882, 2106709906, 2106710930,
   2106711954, 2106712978, 2106714002, 2106715026, 2106716050, 2106717074, 2106718098, 2106719122, 2106720146,
   2106721171, 2106722195, 2106723219, 2106724243, 2106725267, 2106726291, 2106727315, 2106728339, 2106729363,
   2106730387, 2106731411, 2106732435, 2106733459, 2106734483, 2106735507, 2106736531, 2106737555, 2106738579,
   2106739603, 2106740627, 2106741651, 2106742675, 2106743699, 2106744723, 2106745747, 2106746771, 2106747795,
   2106748819, 2106749843, 2106750867, 2106751891, 2106752915, 2106753939, 2106754963, 2106755987, 2106757011,
   2106758035, 2106759059, 2106760083, 2106761107, 2106762131, 2106763155, 2106764179, 2106765203, 2106766227,
   2106767251, 2106768275, 2106769299, 2106770323, 2106771347, 2106772371, 2106773395, 2106774419, 2106775443,
   2106776467, 2106777491, 2106778515, 2106779539, 2106780563, 2106781587, 2106782611, 2106783635, 2106784659,
   2106785683, 2106786708, 2106787732, 2106788756, 2106789780, 2106790804, 2106791828, 2106792852, 2106793876,
   2106794900, 2106795924, 2106796948, 2106797972, 2106798996, 2106800020, 2106801044, 2106802068, 2106803092,
   2106804116, 2106805140, 2106806164, 2106807188, 2106808212, 2106809236, 2106810260, 2106811284, 2106812308,
   2106813332, 2106814356, 2106815380, 2106816404, 2106817428, 2106818452, 2106819476, 2106820500, 2106821524,
   2106822548, 2106823572, 2106824596, 2106825620, 2106826644, 2106827668, 2106828692, 2106829716, 2106830740,
   2106831764, 2106832788, 2106833812, 2106834836, 2106835860, 2106836884, 2106837908, 2106838932, 2106839956,
   2106840980, 2106842004, 2106843028, 2106844052, 2106845076, 2106846100, 2106847124, 2106848148, 2106849172,
   2106850196, 2106851220, 2106852245, 2106853269, 2106854293, 2106855317, 2106856341, 2106857365, 2106858389,
   2106859413, 2106860437, 2106861461, 2106862485, 2106863509, 2106864533, 2106865557, 2106866581, 2106867605,
   2106868629, 2106869653, 2106870677, 2106871701, 2106872725, 2106873749, 2106874773, 2106875797, 2106876821,
   2106877845, 2106878869, 2106879893, 2106880917, 2106881941, 2106882965, 2106883989, 2106885013, 2106886037,
   2106887061, 2106888085, 2106889109, 2106890133, 2106891157, 2106892181, 2106893205, 2106894229, 2106895253,
   2106896277, 2106897301, 2106898325, 2106899349, 2106900373, 2106901397, 2106902421, 2106903445, 2106904469,
   2106905493, 2106906517, 2106907541, 2106908565, 2106909589, 2106910613, 2106911637, 2106912661, 2106913685,
   2106914709, 2106915733, 2106916757, 2106917782, 2106918806, 2106919830, 2106920854, 2106921878, 2106922902,
   2106923926, 2106924950, 2106925974, 2106926998, 2106928022, 2106929046, 2106930070, 2106931094, 2106932118,
   2106933142, 2106934166, 2106935190, 2106936214, 2106937238, 2106938262, 2106939286, 2106940310, 2106941334,
   2106942358, 2106943382, 2106944406, 2106945430, 2106946454, 2106947478, 2106948502, 2106949526, 2106950550,
   2106951574, 2106952598, 2106953622, 2106954646, 2106955670, 2106956694, 2106957718, 2106958742, 2106959766,
   2106960790, 2106961814, 2106962838, 2106963862, 2106964886, 2106965910, 2106966934, 2106967958, 2106968982,
   2106970006, 2106971030, 2106972054, 2106973078, 2106974102, 2106975126, 2106976150, 2106977174, 2106978198,
   2106979222, 2106980246, 2106981270, 2106982294, 2106983319, 2106984343, 2106985367, 2106986391, 2106987415,
   2106988439, 2106989463, 2106990487, 2106991511, 2106992535, 2106993559, 2106994583, 2106995607, 2106996631,
   2106997655, 2106998679, 2106999703, 2107000727, 2107001751, 2107002775, 2107003799, 2107004823, 2107005847,
   2107006871, 2107007895, 2107008919, 2107009943, 2107010967, 2107011991, 2107013015, 2107014039, 2107015063,
   2107016087, 2107017111, 2107018135, 2107019159, 2107020183, 2107021207, 2107022231, 2107023255, 2107024279,
   2107025303, 2107026327, 2107027351, 2107028375, 2107029399, 2107030423, 2107031447, 2107032471, 2107033495,
   2107034519, 2107035543, 2107036567, 2107037591, 2107038615, 2107039639, 2107040663, 2107041687, 2107042711,
   2107043735, 2107044759, 2107045783, 2107046807, 2107047831, 2107048856, 2107049880, 2107050904, 2107051928,
   2107052952, 2107053976, 2107055000, 2107056024, 2107057048, 2107058072, 2107059096, 2107060120, 2107061144,
   2107062168, 2107063192, 2107064216, 2107065240, 2107066264, 2107067288, 2107068312, 2107069336, 2107070360,
   2107071384, 2107072408, 2107073432, 2107074456, 2107075480, 2107076504, 2107077528, 2107078552, 2107079576,
   2107080600, 2107081624, 2107082648, 2107083672, 2107084696, 2107085720, 2107086744, 2107087768, 2107088792,
   2107089816, 2107090840, 2107091864, 2107092888, 2107093912, 2107094936, 2107095960, 2107096984, 2107098008,
   2107099032, 2107100056, 2107101080, 2107102104, 2107103128, 2107104152, 2107105176, 2107106200, 2107107224,
   2107108248, 2107109272, 2107110296, 2107111320, 2107112344, 2107113368, 2107114393, 2107115417, 2107116441,
   2107117465, 2107118489, 2107119513, 2107120537, 2107121561, 2107122585, 2107123609, 2107124633, 2107125657,
   2107126681, 2107127705, 2107128729, 2107129753, 2107130777, 2107131801, 2107132825, 2107133849, 2107134873,
   2107135897, 2107136921, 2107137945, 2107138969, 2107139993, 2107141017, 2107142041, 2107143065, 2107144089,
   2107145113, 2107146137, 2107147161, 2107148185, 2107149209, 2107150233, 2107151257, 2107152281, 2107153305,
   2107154329, 2107155353, 2107156377, 2107157401, 2107158425, 2107159449, 2107160473, 2107161497, 2107162521,
   2107163545, 2107164569, 2107165593, 2107166617, 2107167641, 2107168665, 2107169689, 2107170713, 2107171737,
   2107172761, 2107173785, 2107174809, 2107175833, 2107176857, 2107177881, 2107178905, 2107179930, 2107180954,
   2107181978, 2107183002, 2107184026, 2107185050, 2107186074, 2107187098, 2107188122, 2107189146, 2107190170,
   2107191194, 2107192218, 2107193242, 2107194266, 2107195290, 2107196314, 2107197338, 2107198362, 2107199386,
   2107200410, 2107201434, 2107202458, 2107203482, 2107204506, 2107205530, 2107206554, 2107207578, 2107208602,
   2107209626, 2107210650, 2107211674, 2107212698, 2107213722, 2107214746, 2107215770, 2107216794, 2107217818,
   2107218842, 2107219866, 2107220890, 2107221914, 2107222938, 2107223962, 2107224986, 2107226010, 2107227034,
   2107228058, 2107229082, 2107230106, 2107231130, 2107232154, 2107233178, 2107234202, 2107235226, 2107236250,
   2107237274, 2107238298, 2107239322, 2107240346, 2107241370, 2107242394, 2107243418, 2107244442, 2107245467,
   2107246491, 2107247515, 2107248539, 2107249563, 2107250587, 2107251611, 2107252635, 2107253659, 2107254683,
   2107255707, 2107256731, 2107257755, 2107258779, 2107259803, 2107260827, 2107261851, 2107262875, 2107263899,
   2107264923, 2107265947, 2107266971, 2107267995, 2107269019, 2107270043, 2107271067, 2107272091, 2107273115,
   2107274139, 2107275163, 2107276187, 2107277211, 2107278235, 2107279259, 2107280283, 2107281307, 2107282331,
   2107283355, 2107284379, 2107285403, 2107286427, 2107287451, 2107288475, 2107289499, 2107290523, 2107291547,
   2107292571, 2107293595, 2107294619, 2107295643, 2107296667, 2107297691, 2107298715, 2107299739, 2107300763,
   2107301787, 2107302811, 2107303835, 2107304859, 2107305883, 2107306907, 2107307931, 2107308955, 2107309979,
   2107311004, 2107312028, 2107313052, 2107314076, 2107315100, 2107316124, 2107317148, 2107318172, 2107319196,
   2107320220, 2107321244, 2107322268, 2107323292, 2107324316, 2107325340, 2107326364, 2107327388, 2107328412,
   2107329436, 2107330460, 2107331484, 2107332508, 2107333532, 2107334556, 2107335580, 2107336604, 2107337628,
   2107338652, 2107339676, 2107340700, 2107341724, 2107342748, 2107343772, 2107344796, 2107345820, 2107346844,
   2107347868, 2107348892, 2107349916, 2107350940, 2107351964, 2107352988, 2107354012, 2107355036, 2107356060,
   2107357084, 2107358108, 2107359132, 2107360156, 2107361180, 2107362204, 2107363228, 2107364252, 2107365276,
   2107366300, 2107367324, 2107368348, 2107369372, 2107370396, 2107371420, 2107372444, 2107373468, 2107374492,
   2107375516, 2107376541, 2107377565, 2107378589, 2107379613, 2107380637, 2107381661, 2107382685, 2107383709,
   2107384733, 2107385757, 2107386781, 2107387805, 2107388829, 2107389853, 2107390877, 2107391901, 2107392925,
   2107393949, 2107394973, 2107395997, 2107397021, 2107398045, 2107399069, 2107400093, 2107401117, 2107402141,
   2107403165, 2107404189, 2107405213, 2107406237, 2107407261, 2107408285, 2107409309, 2107410333, 2107411357,
   2107412381, 2107413405, 2107414429, 2107415453, 2107416477, 2107417501, 2107418525, 2107419549, 2107420573,
   2107421597, 2107422621, 2107423645, 2107424669, 2107425693, 2107426717, 2107427741, 2107428765, 2107429789,
   2107430813, 2107431837, 2107432861, 2107433885, 2107434909, 2107435933, 2107436957, 2107437981, 2107439005,
   2107440029, 2107441053, 2107442078, 2107443102, 2107444126, 2107445150, 2107446174, 2107447198, 2107448222,
   2107449246, 2107450270, 2107451294, 2107452318, 2107453342, 2107454366, 2107455390, 2107456414, 2107457438,
   2107458462, 2107459486, 2107460510, 2107461534, 2107462558, 2107463582, 2107464606, 2107465630, 2107466654,
   2107467678, 2107468702, 2107469726, 2107470750, 2107471774, 2107472798, 2107473822, 2107474846, 2107475870,
   2107476894, 2107477918, 2107478942, 2107479966, 2107480990, 2107482014, 2107483038, 2107484062, 2107485086,
   2107486110, 2107487134, 2107488158, 2107489182, 2107490206, 2107491230, 2107492254, 2107493278, 2107494302,
   2107495326, 2107496350, 2107497374, 2107498398, 2107499422, 2107500446, 2107501470, 2107502494, 2107503518,
   2107504542, 2107505566, 2107506590, 2107507615, 2107508639, 2107509663, 2107510687, 2107511711, 2107512735,
   2107513759, 2107514783, 2107515807, 2107516831, 2107517855, 2107518879, 2107519903, 2107520927, 2107521951,
   2107522975, 2107523999, 2107525023, 2107526047, 2107527071, 2107528095, 2107529119, 2107530143, 2107531167,
   2107532191, 2107533215, 2107534239, 2107535263, 2107536287, 2107537311, 2107538335, 2107539359, 2107540383,
   2107541407, 2107542431, 2107543455, 2107544479, 2107545503, 2107546527, 2107547551, 2107548575, 2107549599,
   2107550623, 2107551647, 2107552671, 2107553695, 2107554719, 2107555743, 2107556767, 2107557791, 2107558815,
   2107559839, 2107560863, 2107561887, 2107562911, 2107563935, 2107564959, 2107565983, 2107567007, 2107568031,
   2107569055, 2107570079, 2107571103, 2107572127, 2107573152, 2107574176, 2107575200, 2107576224, 2107577248,
   2107578272, 2107579296, 2107580320, 2107581344, 2107582368, 2107583392, 2107584416, 2107585440, 2107586464,
   2107587488, 2107588512, 2107589536, 2107590560, 2107591584, 2107592608, 2107593632, 2107594656, 2107595680,
   2107596704, 2107597728, 2107598752, 2107599776, 2107600800, 2107601824, 2107602848, 2107603872, 2107604896,
   2107605920, 2107606944, 2107607968, 2107608992, 2107610016, 2107611040, 2107612064, 2107613088, 2107614112,
   2107615136, 2107616160, 2107617184, 2107618208, 2107619232, 2107620256, 2107621280, 2107622304, 2107623328,
   2107624352, 2107625376, 2107626400, 2107627424, 2107628448, 2107629472, 2107630496, 2107631520, 2107632544,
   2107633568, 2107634592, 2107635616, 2107636640, 2107637664]
theorem c12_ok :
    chkList (pipeF 1199570688 65535) 65535 2139095040 24577 1052770240 12288 c12
      26625 1053818832 13312 = true := by decide +kernel
theorem c12_len : 24577 + c12.length = 26625 := (chkList_end c12_ok).1
theorem c12_last : lastS 1052770240 c12 = 1053818832 := (chkList_end c12_ok).2.1

@[irreducible] def c13 : List Nat :=
  [2107638689, 2107639713, 2107640737, 2107641761, 2107642785, 2107643809, 2107644833, 2107645857, 2107646881,
   2107647905, 2107648929, 2107649953, 2107650977, 2107652001, 2107653025, 2107654049, 2107655073, 2107656097,
   2107657121, 2107658145, 2107659169, 2107660193, 2107661217, 2107662241, 2107663265, 2107664289, 2107665313,
   2107666337, 2107667361, 2107668385, 2107669409, 2107670433, 2107671457, 2107672481, 2107673505, 2107674529,
   2107675553, 2107676577, 2107677601, 2107678625, 2107679649, 2107680673, 2107681697, 2107682721, 2107683745,
   2107684769, 2107685793, 2107686817, 2107687841, 2107688865, 2107689889, 2107690913, 2107691937, 2107692961,
   2107693985, 2107695009, 2107696033, 2107697057, 2107698081, 2107699105, 2107700129, 2107701153, 2107702177,
   2107703201, 2107704226, 2107705250, 2107706274, 2107707298, 2107708322, 2107709346, 2107710370, 2107711394,
   2107712418, 2107713442, 2107714466, 2107715490, 2107716514, 2107717538, 2107718562, 2107719586, 2107720610,
   2107721634, 2107722658, 2107723682, 2107724706, 2107725730, 2107726754, 2107727778, 2107728802, 2107729826,
   2107730850, 2107731874, 2107732898, 2107733922, 2107734946, 2107735970, 2107736994, 2107738018, 2107739042,
   2107740066, 2107741090, 2107742114, 2107743138, 2107744162, 2107745186, 2107746210, 2107747234, 2107748258,
   2107749282, 2107750306, 2107751330, 2107752354, 2107753378, 2107754402, 2107755426, 2107756450, 2107757474,
   2107758498, 2107759522, 2107760546, 2107761570, 2107762594, 2107763618, 2107764642, 2107765666, 2107766690,
   2107767714, 2107768738, 2107769763, 2107770787, 2107771811, 2107772835, 2107773859, 2107774883, 2107775907,
   2107776931, 2107777955, 2107778979, 2107780003, 2107781027, 2107782051, 2107783075, 2107784099, 2107785123,
   2107786147, 2107787171, 2107788195, 2107789219, 2107790243, 2107791267, 2107792291, 2107793315, 2107794339,
   2107795363, 2107796387, 2107797411, 2107798435, 2107799459, 2107800483, 2107801507, 2107802531, 2107803555,
   2107804579, 2107805603, 2107806627, 2107807651, 2107808675, 2107809699, 2107810723, 2107811747, 2107812771,
   2107813795, 2107814819, 2107815843, 2107816867, 2107817891, 2107818915, 2107819939, 2107820963, 2107821987,
   2107823011, 2107824035, 2107825059, 2107826083, 2107827107, 2107828131, 2107829155, 2107830179, 2107831203,
   2107832227, 2107833251, 2107834275, 2107835300, 2107836324, 2107837348, 2107838372, 2107839396, 2107840420,
   2107841444, 2107842468, 2107843492, 2107844516, 2107845540, 2107846564, 2107847588, 2107848612, 2107849636,
   2107850660, 2107851684, 2107852708, 2107853732, 2107854756, 2107855780, 2107856804, 2107857828, 2107858852,
   2107859876, 2107860900, 2107861924, 2107862948, 2107863972, 2107864996, 2107866020, 2107867044, 2107868068,
   2107869092, 2107870116, 2107871140, 2107872164, 2107873188, 2107874212, 2107875236, 2107876260, 2107877284,
   2107878308, 2107879332, 2107880356, 2107881380, 2107882404, 2107883428, 2107884452, 2107885476, 2107886500,
   2107887524, 2107888548, 2107889572, 2107890596, 2107891620, 2107892644, 2107893668, 2107894692, 2107895716,
   2107896740, 2107897764, 2107898788, 2107899812, 2107900837, 2107901861, 2107902885, 2107903909, 2107904933,
   2107905957, 2107906981, 2107908005, 2107909029, 2107910053, 2107911077, 2107912101, 2107913125, 2107914149,
   2107915173, 2107916197, 2107917221, 2107918245, 2107919269, 2107920293, 2107921317, 2107922341, 2107923365,
   2107924389, 2107925413, 2107926437, 2107927461, 2107928485, 2107929509, 2107930533, 2107931557, 2107932581,
   2107933605, 2107934629, 2107935653, 2107936677, 2107937701, 2107938725, 2107939749, 2107940773, 2107941797,
   2107942821, 2107943845, 2107944869, 2107945893, 2107946917, 2107947941, 2107948965, 2107949989, 2107951013,
   2107952037, 2107953061, 2107954085, 2107955109, 2107956133, 2107957157, 2107958181, 2107959205, 2107960229,
   2107961253, 2107962277, 2107963301, 2107964325, 2107965349, 2107966374, 2107967398, 2107968422, 2107969446,
   2107970470, 2107971494, 2107972518, 2107973542, 2107974566, 2107975590, 2107976614, 2107977638, 2107978662,
   2107979686, 2107980710, 2107981734, 2107982758, 2107983782, 2107984806, 2107985830, 2107986854, 2107987878,
   2107988902, 2107989926, 2107990950, 2107991974, 2107992998, 2107994022, 2107995046, 2107996070, 2107997094,
   2107998118, 2107999142, 2108000166, 2108001190, 2108002214, 2108003238, 2108004262, 2108005286, 2108006310,
   2108007334, 2108008358, 2108009382, 2108010406, 2108011430, 2108012454, 2108013478, 2108014502, 2108015526,
   2108016550, 2108017574, 2108018598, 2108019622, 2108020646, 2108021670, 2108022694, 2108023718, 2108024742,
   2108025766, 2108026790, 2108027814, 2108028838, 2108029862, 2108030886, 2108031911, 2108032935, 2108033959,
   2108034983, 2108036007, 2108037031, 2108038055, 2108039079, 2108040103, 2108041127, 2108042151, 2108043175,
   2108044199, 2108045223, 2108046247, 2108047271, 2108048295, 2108049319, 2108050343, 2108051367, 2108052391,
   2108053415, 2108054439, 2108055463, 2108056487, 2108057511, 2108058535, 2108059559, 2108060583, 2108061607,
   2108062631, 2108063655, 2108064679, 2108065703, 2108066727, 2108067751, 2108068775, 2108069799, 2108070823,
   2108071847, 2108072871, 2108073895, 2108074919, 2108075943, 2108076967, 2108077991, 2108079015, 2108080039,
   2108081063, 2108082087, 2108083111, 2108084135, 2108085159, 2108086183, 2108087207, 2108088231, 2108089255,
   2108090279, 2108091303, 2108092327, 2108093351, 2108094375, 2108095399, 2108096423, 2108097448, 2108098472,
   2108099496, 2108100520, 2108101544, 2108102568, 2108103592, 2108104616, 2108105640, 2108106664, 2108107688,
   2108108712, 2108109736, 2108110760, 2108111784, 2108112808, 2108113832, 2108114856, 2108115880, 2108116904,
   2108117928, 2108118952, 2108119976, 2108121000, 2108122024, 2108123048, 2108124072, 2108125096, 2108126120,
   2108127144, 2108128168, 2108129192, 2108130216, 2108131240, 2108132264, 2108133288, 2108134312, 2108135336,
   2108136360, 2108137384, 2108138408, 2108139432, 2108140456, 2108141480, 2108142504, 2108143528, 2108144552,
   2108145576, 2108146600, 2108147624, 2108148648, 2108149672, 2108150696, 2108151720, 2108152744, 2108153768,
   2108154792, 2108155816, 2108156840, 2108157864, 2108158888, 2108159912, 2108160936, 2108161960, 2108162985,
   2108164009, 2108165033, 2108166057, 2108167081, 2108168105, 2108169129, 2108170153, 2108171177, 2108172201,
   2108173225, 2108174249, 2108175273, 2108176297, 2108177321, 2108178345, 2108179369, 2108180393, 2108181417,
   2108182441, 2108183465, 2108184489, 2108185513, 2108186537, 2108187561, 2108188585, 2108189609, 2108190633,
   2108191657, 2108192681, 2108193705, 2108194729, 2108195753, 2108196777, 2108197801, 2108198825, 2108199849,
   2108200873, 2108201897, 2108202921, 2108203945, 2108204969, 2108205993, 2108207017, 2108208041, 2108209065,
   2108210089, 2108211113, 2108212137, 2108213161, 2108214185, 2108215209, 2108216233, 2108217257, 2108218281,
   2108219305, 2108220329, 2108221353, 2108222377, 2108223401, 2108224425, 2108225449, 2108226473, 2108227497,
   2108228522, 2108229546, 2108230570, 2108231594, 2108232618, 2108233642, 2108234666, 2108235690, 2108236714,
   2108237738, 2108238762, 2108239786, 2108240810, 2108241834, 2108242858, 2108243882, 2108244906, 2108245930,
   2108246954, 2108247978, 2108249002, 2108250026, 2108251050, 2108252074, 2108253098, 2108254122, 2108255146,
   2108256170, 2108257194, 2108258218, 2108259242, 2108260266, 2108261290, 2108262314, 2108263338, 2108264362,
   2108265386, 2108266410, 2108267434, 2108268458, 2108269482, 2108270506, 2108271530, 2108272554, 2108273578,
   2108274602, 2108275626, 2108276650, 2108277674, 2108278698, 2108279722, 2108280746, 2108281770, 2108282794,
   2108283818, 2108284842, 2108285866, 2108286890, 2108287914, 2108288938, 2108289962, 2108290986, 2108292010,
   2108293034, 2108294059, 2108295083, 2108296107, 2108297131, 2108298155, 2108299179, 2108300203, 2108301227,
   2108302251, 2108303275, 2108304299, 2108305323, 2108306347, 2108307371, 2108308395, 2108309419, 2108310443,
   2108311467, 2108312491, 2108313515, 2108314539, 2108315563, 2108316587, 2108317611, 2108318635, 2108319659,
   2108320683, 2108321707, 2108322731, 2108323755, 2108324779, 2108325803, 2108326827, 2108327851, 2108328875,
   2108329899, 2108330923, 2108331947, 2108332971, 2108333995, 2108335019, 2108336043, 2108337067, 2108338091,
   2108339115, 2108340139, 2108341163, 2108342187, 2108343211, 2108344235, 2108345259, 2108346283, 2108347307,
   2108348331, 2108349355, 2108350379, 2108351403, 2108352427, 2108353451, 2108354475, 2108355499, 2108356523,
   2108357547, 2108358571, 2108359596, 2108360620, 2108361644, 2108362668, 2108363692, 2108364716, 2108365740,
   2108366764, 2108367788, 2108368812, 2108369836, 2108370860, 2108371884, 2108372908, 2108373932, 2108374956,
   2108375980, 2108377004, 2108378028, 2108379052, 2108380076, 2108381100, 2108382124, 2108383148, 2108384172,
   2108385196, 2108386220, 2108387244, 2108388268, 2108389292, 2108390316, 2108391340, 2108392364, 2108393388,
   2108394412, 2108395436, 2108396460, 2108397484, 2108398508, 2108399532, 2108400556, 2108401580, 2108402604,
   2108403628, 2108404652, 2108405676, 2108406700, 2108407724, 2108408748, 2108409772, 2108410796, 2108411820,
   2108412844, 2108413868, 2108414892, 2108415916, 2108416940, 2108417964, 2108418988, 2108420012, 2108421036,
   2108422060, 2108423084, 2108424108, 2108425133, 2108426157, 2108427181, 2108428205, 2108429229, 2108430253,
   2108431277, 2108432301, 2108433325, 2108434349, 2108435373, 2108436397, 2108437421, 2108438445, 2108439469,
   2108440493, 2108441517, 2108442541, 2108443565, 2108444589, 2108445613, 2108446637, 2108447661, 2108448685,
   2108449709, 2108450733, 2108451757, 2108452781, 2108453805, 2108454829, 2108455853, 2108456877, 2108457901,
   2108458925, 2108459949, 2108460973, 2108461997, 2108463021, 2108464045, 2108465069, 2108466093, 2108467117,
   2108468141, 2108469165, 2108470189, 2108471213, 2108472237, 2108473261, 2108474285, 2108475309, 2108476333,
   2108477357, 2108478381, 2108479405, 2108480429, 2108481453, 2108482477, 2108483501, 2108484525, 2108485549,
   2108486573, 2108487597, 2108488621, 2108489645, 2108490670, 2108491694, 2108492718, 2108493742, 2108494766,
   2108495790, 2108496814, 2108497838, 2108498862, 2108499886, 2108500910, 2108501934, 2108502958, 2108503982,
   2108505006, 2108506030, 2108507054, 2108508078, 2108509102, 2108510126, 2108511150, 2108512174, 2108513198,
   2108514222, 2108515246, 2108516270, 2108517294, 2108518318, 2108519342, 2108520366, 2108521390, 2108522414,
   2108523438, 2108524462, 2108525486, 2108526510, 2108527534, 2108528558, 2108529582, 2108530606, 2108531630,
   2108532654, 2108533678, 2108534702, 2108535726, 2108536750, 2108537774, 2108538798, 2108539822, 2108540846,
   2108541870, 2108542894, 2108543918, 2108544942, 2108545966, 2108546990, 2108548014, 2108549038, 2108550062,
   2108551086, 2108552110, 2108553134, 2108554158, 2108555182, 2108556207, 2108557231, 2108558255, 2108559279,
   2108560303, 2108561327, 2108562351, 2108563375, 2108564399, 2108565423, 2108566447, 2108567471, 2108568495,
   2108569519, 2108570543, 2108571567, 2108572591, 2108573615, 2108574639, 2108575663, 2108576687, 2108577711,
   2108578735, 2108579759, 2108580783, 2108581807, 2108582831, 2108583855, 2108584879, 2108585903, 2108586927,
   2108587951, 2108588975, 2108589999, 2108591023, 2108592047, 2108593071, 2108594095, 2108595119, 2108596143,
   2108597167, 2108598191, 2108599215, 2108600239, 2108601263, 2108602287, 2108603311, 2108604335, 2108605359,
   2108606383, 2108607407, 2108608431, 2108609455, 2108610479, 2108611503, 2108612527, 2108613551, 2108614575,
   2108615599, 2108616623, 2108617647, 2108618671, 2108619695, 2108620719, 2108621744, 2108622768, 2108623792,
   2108624816, 2108625840, 2108626864, 2108627888, 2108628912, 2108629936, 2108630960, 2108631984, 2108633008,
   2108634032, 2108635056, 2108636080, 2108637104, 2108638128, 2108639152, 2108640176, 2108641200, 2108642224,
   2108643248, 2108644272, 2108645296, 2108646320, 2108647344, 2108648368, 2108649392, 2108650416, 2108651440,
   2108652464, 2108653488, 2108654512, 2108655536, 2108656560, 2108657584, 2108658608, 2108659632, 2108660656,
   2108661680, 2108662704, 2108663728, 2108664752, 2108665776, 2108666800, 2108667824, 2108668848, 2108669872,
   2108670896, 2108671920, 2108672944, 2108673968, 2108674992, 2108676016, 2108677040, 2108678064, 2108679088,
   2108680112, 2108681136, 2108682160, 2108683184, 2108684208, 2108685232, 2108686256, 2108687281, 2108688305,
   2108689329, 2108690353, 2108691377, 2108692401, 2108693425, 2108694449, 2108695473, 2108696497, 2108697521,
   2108698545, 2108699569, 2108700593, 2108701617, 2108702641, 2108703665, 2108704689, 2108705713, 2108706737,
   2108707761, 2108708785, 2108709809, 2108710833, 2108711857, 2108712881, 2108713905, 2108714929, 2108715953,
   2108716977, 2108718001, 2108719025, 2108720049, 2108721073, 2108722097, 2108723121, 2108724145, 2108725169,
   2108726193, 2108727217, 2108728241, 2108729265, 2108730289, 2108731313, 2108732337, 2108733361, 2108734385,
   2108735409, 2108736433, 2108737457, 2108738481, 2108739505, 2108740529, 2108741553, 2108742577, 2108743601,
   2108744625, 2108745649, 2108746673, 2108747697, 2108748721, 2108749745, 2108750769, 2108751793, 2108752818,
   2108753842, 2108754866, 2108755890, 2108756914, 2108757938, 2108758962, 2108759986, 2108761010, 2108762034,
   2108763058, 2108764082, 2108765106, 2108766130, 2108767154, 2108768178, 2108769202, 2108770226, 2108771250,
   2108772274, 2108773298, 2108774322, 2108775346, 2108776370, 2108777394, 2108778418, 2108779442, 2108780466,
   2108781490, 2108782514, 2108783538, 2108784562, 2108785586, 2108786610, 2108787634, 2108788658, 2108789682,
   2108790706, 2108791730, 2108792754, 2108793778, 2108794802, 2108795826, 2108796850, 2108797874, 2108798898,
   2108799922, 2108800946, 2108801970, 2108802994, 2108804018, 2108805042, 2108806066, 2108807090, 2108808114,
   2108809138, 2108810162, 2108811186, 2108812210, 2108813234, 2108814258, 2108815282, 2108816306, 2108817330,
   2108818355, 2108819379, 2108820403, 2108821427, 2108822451, 2108823475, 2108824499, 2108825523, 2108826547,
   2108827571, 2108828595, 2108829619, 2108830643, 2108831667, 2108832691, 2108833715, 2108834739, 2108835763,
   2108836787, 2108837811, 2108838835, 2108839859, 2108840883, 2108841907, 2108842931, 2108843955, 2108844979,
   2108846003, 2108847027, 2108848051, 2108849075, 2108850099, 2108851123, 2108852147, 2108853171, 2108854195,
   2108855219, 2108856243, 2108857267, 2108858291, 2108859315, 2108860339, 2108861363, 2108862387, 2108863411,
   2108864435, 2108865459, 2108866483, 2108867507, 2108868531, 2108869555, 2108870579, 2108871603, 2108872627,
   2108873651, 2108874675, 2108875699, 2108876723, 2108877747, 2108878771, 2108879795, 2108880819, 2108881843,
   2108882867, 2108883892, 2108884916, 2108885940, 2108886964, 2108887988, 2108889012, 2108890036, 2108891060,
   2108892084, 2108893108, 2108894132, 2108895156, 2108896180, 2108897204, 2108898228, 2108899252, 2108900276,
   2108901300, 2108902324, 2108903348, 2108904372, 2108905396, 2108906420, 2108907444, 2108908468, 2108909492,
   2108910516, 2108911540, 2108912564, 2108913588, 2108914612, 2108915636, 2108916660, 2108917684, 2108918708,
   2108919732, 2108920756, 2108921780, 2108922804, 2108923828, 2108924852, 2108925876, 2108926900, 2108927924,
   2108928948, 2108929972, 2108930996, 2108932020, 2108933044, 2108934068, 2108935092, 2108936116, 2108937140,
   2108938164, 2108939188, 2108940212, 2108941236, 2108942260, 2108943284, 2108944308, 2108945332, 2108946356,
   2108947380, 2108948404, 2108949429, 2108950453, 2108951477, 2108952501, 2108953525, 2108954549, 2108955573,
   2108956597, 2108957621, 2108958645, 2108959669, 2108960693, 2108961717, 2108962741, 2108963765, 2108964789,
   2108965813, 2108966837, 2108967861, 2108968885, 2108969909, 2108970933, 2108971957, 2108972981, 2108974005,
   2108975029, 2108976053, 2108977077, 2108978101, 2108979125, 2108980149, 2108981173, 2108982197, 2108983221,
   2108984245, 2108985269, 2108986293, 2108987317, 2108988341, 2108989365, 2108990389, 2108991413, 2108992437,
   2108993461, 2108994485, 2108995509, 2108996533, 2108997557, 2108998581, 2108999605, 2109000629, 2109001653,
   2109002677, 2109003701, 2109004725, 2109005749, 2109006773, 2109007797, 2109008821, 2109009845, 2109010869,
   2109011893, 2109012917, 2109013941, 2109014966, 2109015990, 2109017014, 2109018038, 2109019062, 2109020086,
   2109021110, 2109022134, 2109023158, 2109024182, 2109025206, 2109026230, 2109027254, 2109028278, 2109029302,
   2109030326, 2109031350, 2109032374, 2109033398, 2109034422, 2109035446, 2109036470, 2109037494, 2109038518,
   2109039542, 2109040566, 2109041590, 2109042614, 2109043638, 2109044662, 2109045686, 2109046710, 2109047734,
   2109048758, 2109049782, 2109050806, 2109051830, 2109052854, 2109053878, 2109054902, 2109055926, 2109056950,
   2109057974, 2109058998, 2109060022, 2109061046, 2109062070, 2109063094, 2109064118, 2109065142, 2109066166,
   2109067190, 2109068214, 2109069238, 2109070262, 2109071286, 2109072310, 2109073334, 2109074358, 2109075382,
   2109076406, 2109077430, 2109078454, 2109079478, 2109080503, 2109081527, 2109082551, 2109083575, 2109084599,
   2109085623, 2109086647, 2109087671, 2109088695, 2109089719, 2109090743, 2109091767, 2109092791, 2109093815,
   2109094839, 2109095863, 2109096887, 2109097911, 2109098935, 2109099959, 2109100983, 2109102007, 2109103031,
   2109104055, 2109105079, 2109106103, 2109107127, 2109108151, 2109109175, 2109110199, 2109111223, 2109112247,
   2109113271, 2109114295, 2109115319, 2109116343, 2109117367, 2109118391, 2109119415, 2109120439, 2109121463,
   2109122487, 2109123511, 2109124535, 2109125559, 2109126583, 2109127607, 2109128631, 2109129655, 2109130679,
   2109131703, 2109132727, 2109133751, 2109134775, 2109135799, 2109136823, 2109137847, 2109138871, 2109139895,
   2109140919, 2109141943, 2109142967, 2109143991, 2109145015, 2109146040, 2109147064, 2109148088, 2109149112,
   2109150136, 2109151160, 2109152184, 2109153208, 2109154232, 2109155256, 2109156280, 2109157304, 2109158328,
   2109159352, 2109160376, 2109161400, 2109162424, 2109163448, 2109164472, 2109165496, 2109166520, 2109167544,
   2109168568, 2109169592, 2109170616, 2109171640, 2109172664, 2109173688, 2109174712, 2109175736, 2109176760,
   2109177784, 2109178808, 2109179832, 2109180856, 2109181880, 2109182904, 2109183928, 2109184952, 2109185976,
   2109187000, 2109188024, 2109189048, 2109190072, 2109191096, 2109192120, 2109193144, 2109194168, 2109195192,
   2109196216, 2109197240, 2109198264, 2109199288, 2109200312, 2109201336, 2109202360, 2109203384, 2109204408,
   2109205432, 2109206456, 2109207480, 2109208504, 2109209528, 2109210552, 2109211577, 2109212601, 2109213625,
   2109214649, 2109215673, 2109216697, 2109217721, 2109218745, 2109219769, 2109220793, 2109221817, 2109222841,
   2109223865, 2109224889, 2109225913, 2109226937, 2109227961, 2109228985, 2109230009, 2109231033, 2109232057,
   2109233081, 2109234105, 2109235129, 2109236153, 2109237177, 2109238201, 2109239225, 2109240249, 2109241273,
   2109242297, 2109243321, 2109244345, 2109245369, 2109246393, 2109247417, 2109248441, 2109249465, 2109250489,
   2109251513, 2109252537, 2109253561, 2109254585, 2109255609, 2109256633, 2109257657, 2109258681, 2109259705,
   2109260729, 2109261753, 2109262777, 2109263801, 2109264825, 2109265849, 2109266873, 2109267897, 2109268921,
   2109269945, 2109270969, 2109271993, 2109273017, 2109274041, 2109275065, 2109276089, 2109277114, 2109278138,
   2109279162, 2109280186, 2109281210, 2109282234, 2109283258, 2109284282, 2109285306, 2109286330, 2109287354,
   2109288378, 2109289402, 2109290426, 2109291450, 2109292474, 2109293498, 2109294522, 2109295546, 2109296570,
   2109297594, 2109298618, 2109299642, 2109300666, 2109301690, 2109302714, 2109303738, 2109304762, 2109305786,
   2109306810, 2109307834, 2109308858, 2109309882, 2109310906, 2109311930, 2109312954, 2109313978, 2109315002,
   2109316026, 2109317050, 2109318074, 2109319098, 2109320122, 2109321146, 2109322170, 2109323194, 2109324218,
   2109325242, 2109326266, 2109327290, 2109328314, 2109329338, 2109330362, 2109331386, 2109332410, 2109333434,
   2109334458, 2109335482, 2109336506, 2109337530, 2109338554, 2109339578, 2109340602, 2109341626, 2109342651,
   2109343675, 2109344699, 2109345723, 2109346747, 2109347771, 2109348795, 2109349819, 2109350843, 2109351867,
   2109352891, 2109353915, 2109354939, 2109355963, 2109356987, 2109358011, 2109359035, 2109360059, 2109361083,
   2109362107, 2109363131, 2109364155, 2109365179, 2109366203, 2109367227, 2109368251, 2109369275, 2109370299,
   2109371323, 2109372347, 2109373371, 2109374395, 2109375419, 2109376443, 2109377467, 2109378491, 2109379515,
   2109380539, 2109381563, 2109382587, 2109383611, 2109384635, 2109385659, 2109386683, 2109387707, 2109388731,
   2109389755, 2109390779, 2109391803, 2109392827, 2109393851, 2109394875, 2109395899, 2109396923, 2109397947,
   2109398971, 2109399995, 2109401019, 2109402043, 2109403067, 2109404091, 2109405115, 2109406139, 2109407163,
   2109408188, 2109409212, 2109410236, 2109411260, 2109412284, 2109413308, 2109414332, 2109415356, 2109416380,
   2109417404, 2109418428, 2109419452, 2109420476, 2109421500, 2109422524, 2109423548, 2109424572, 2109425596,
   2109426620, 2109427644, 2109428668, 2109429692, 2109430716, 2109431740, 2109432764, 2109433788, 2109434812,
   2109435836, 2109436860, 2109437884, 2109438908, 2109439932, 2109440956, 2109441980, 2109443004, 2109444028,
   2109445052, 2109446076, 2109447100, 2109448124, 2109449148, 2109450172, 2109451196, 2109452220, 2109453244,
   2109454268, 2109455292, 2109456316, 2109457340, 2109458364, 2109459388, 2109460412, 2109461436, 2109462460,
   2109463484, 2109464508, 2109465532, 2109466556, 2109467580, 2109468604, 2109469628, 2109470652, 2109471676,
   2109472700, 2109473725, 2109474749, 2109475773, 2109476797, 2109477821, 2109478845, 2109479869, 2109480893,
   2109481917, 2109482941, 2109483965, 2109484989, 2109486013, 2109487037, 2109488061, 2109489085, 2109490109,
   2109491133, 2109492157, 2109493181, 2109494205, 2109495229, 2109496253, 2109497277, 2109498301, 2109499325,
   2109500349, 2109501373, 2109502397, 2109503421, 2109504445, 2109505469, 2109506493, 2109507517, 2109508541,
   2109509565, 2109510589, 2109511613, 2109512637, 2109513661, 2109514685, 2109515709, 2109516733, 2109517757,
   2109518781, 2109519805, 2109520829, 2109521853, 2109522877, 2109523901, 2109524925, 2109525949, 2109526973,
   2109527997, 2109529021, 2109530045, 2109531069, 2109532093, 2109533117, 2109534141, 2109535165, 2109536189,
   2109537213, 2109538237, 2109539262, 2109540286, 2109541310, 2109542334, 2109543358, 2109544382, 2109545406,
   2109546430, 2109547454, 2109548478, 2109549502, 2109550526, 2109551550, 2109552574, 2109553598, 2109554622,
   2109555646, 2109556670, 2109557694, 2109558718, 2109559742, 2109560766, 2109561790, 2109562814, 2109563838,
   2109564862, 2109565886, 2109566910, 2109567934, 2109568958, 2109569982, 2109571006, 2109572030, 2109573054,
   2109574078, 2109575102, 2109576126, 2109577150, 2109578174, 2109579198, 2109580222, 2109581246, 2109582270,
   2109583294, 2109584318, 2109585342, 2109586366, 2109587390, 2109588414, 2109589438, 2109590462, 2109591486,
   2109592510, 2109593534, 2109594558, 2109595582, 2109596606, 2109597630, 2109598654, 2109599678, 2109600702,
   2109601726, 2109602750, 2109603774, 2109604799, 2109605823, 2109606847, 2109607871, 2109608895, 2109609919,
   2109610943, 2109611967, 2109612991, 2109614015, 2109615039, 2109616063, 2109617087, 2109618111, 2109619135,
   2109620159, 2109621183, 2109622207, 2109623231, 2109624255, 2109625279, 2109626303, 2109627327, 2109628351,
   2109629375, 2109630399, 2109631423, 2109632447, 2109633471, 2109634495, 2109635519, 2109636543, 2109637567,
   2109638591, 2109639615, 2109640639, 2109641663, 2109642687, 2109643711, 2109644735, 2109645759, 2109646783,
   2109647807, 2109648831, 2109649855, 2109650879, 2109651903, 2109652927, 2109653951, 2109654975, 2109655999,
   2109657023, 2109658047, 2109659071, 2109660095, 2109661119, 2109662143, 2109663167, 2109664191, 2109665215,
   2109666239, 2109667263, 2109668287, 2109669311, 2109670336, 2109671360, 2109672384, 2109673408, 2109674432,
   2109675456, 2109676480, 2109677504, 2109678528, 2109679552, 2109680576, 2109681600, 2109682624, 2109683648,
   2109684672, 2109685696, 2109686720, 2109687744, 2109688768, 2109689792, 2109690816, 2109691840, 2109692864,
   2109693888, 2109694912, 2109695936, 2109696960, 2109697984, 2109699008, 2109700032, 2109701056, 2109702080,
   2109703104, 2109704128, 2109705152, 2109706176, 2109707200, 2109708224, 2109709248, 2109710272, 2109711296,
   2109712320, 2109713344, 2109714368, 2109715392, 2109716416, 2109717440, 2109718464, 2109719488, 2109720512,
   2109721536, 2109722560, 2109723584, 2109724608, 2109725632, 2109726656, 2109727680, 2109728704, 2109729728,
   2109730752, 2109731776, 2109732800, 2109733824, 2109734848]
theorem c13_ok :
    chkList (pipeF 1199570688 65535) 65535 2139095040 26625 1053818832 13312 c13
      28673 1054867424 14336 = true := by decide +kernel
theorem c13_len : 26625 + c13.length = 28673 := (chkList_end c13_ok).1
theorem c13_last : lastS 1053818832 c13 = 1054867424 := (chkList_end c13_ok).2.1

@[irreducible] def c14 : List Nat :=
  [2109735873, 2109736897, 2109737921, 2109738945, 2109739969, 2109740993, 2109742017, 2109743041, 2109744065,
   2109745089, 2109746113, 2109747137, 2109748161, 2109749185, 2109750209, 2109751233, 2109752257, 2109753281,
   2109754305, 2109755329, 2109756353, 2109757377, 2109758401, 2109759425, 2109760449, 2109761473, 2109762497,
   2109763521, 2109764545, 2109765569, 2109766593, 2109767617, 2109768641, 2109769665, 2109770689, 2109771713,
   2109772737, 2109773761, 2109774785, 2109775809, 2109776833, 2109777857, 2109778881, 2109779905, 2109780929,
   2109781953, 2109782977, 2109784001, 2109785025, 2109786049, 2109787073, 2109788097, 2109789121, 2109790145,
   2109791169, 2109792193, 2109793217, 2109794241, 2109795265, 2109796289, 2109797313, 2109798337, 2109799361,
   2109800385, 2109801410, 2109802434, 2109803458, 2109804482, 2109805506, 2109806530, 2109807554, 2109808578,
   2109809602, 2109810626, 2109811650, 2109812674, 2109813698, 2109814722, 2109815746, 2109816770, 2109817794,
   2109818818, 2109819842, 2109820866, 2109821890, 2109822914, 2109823938, 2109824962, 2109825986, 2109827010,
   2109828034, 2109829058, 2109830082, 2109831106, 2109832130, 2109833154, 2109834178, 2109835202, 2109836226,
   2109837250, 2109838274, 2109839298, 2109840322, 2109841346, 2109842370, 2109843394, 2109844418, 2109845442,
   2109846466, 2109847490, 2109848514, 2109849538, 2109850562, 2109851586, 2109852610, 2109853634, 2109854658,
   2109855682, 2109856706, 2109857730, 2109858754, 2109859778, 2109860802, 2109861826, 2109862850, 2109863874,
   2109864898, 2109865922, 2109866947, 2109867971, 2109868995, 2109870019, 2109871043, 2109872067, 2109873091,
   2109874115, 2109875139, 2109876163, 2109877187, 2109878211, 2109879235, 2109880259, 2109881283, 2109882307,
   2109883331, 2109884355, 2109885379, 2109886403, 2109887427, 2109888451, 2109889475, 2109890499, 2109891523,
   2109892547, 2109893571, 2109894595, 2109895619, 2109896643, 2109897667, 2109898691, 2109899715, 2109900739,
   2109901763, 2109902787, 2109903811, 2109904835, 2109905859, 2109906883, 2109907907, 2109908931, 2109909955,
   2109910979, 2109912003, 2109913027, 2109914051, 2109915075, 2109916099, 2109917123, 2109918147, 2109919171,
   2109920195, 2109921219, 2109922243, 2109923267, 2109924291, 2109925315, 2109926339, 2109927363, 2109928387,
   2109929411, 2109930435, 2109931459, 2109932484, 2109933508, 2109934532, 2109935556, 2109936580, 2109937604,
   2109938628, 2109939652, 2109940676, 2109941700, 2109942724, 2109943748, 2109944772, 2109945796, 2109946820,
   2109947844, 2109948868, 2109949892, 2109950916, 2109951940, 2109952964, 2109953988, 2109955012, 2109956036,
   2109957060, 2109958084, 2109959108, 2109960132, 2109961156, 2109962180, 2109963204, 2109964228, 2109965252,
   2109966276, 2109967300, 2109968324, 2109969348, 2109970372, 2109971396, 2109972420, 2109973444, 2109974468,
   2109975492, 2109976516, 2109977540, 2109978564, 2109979588, 2109980612, 2109981636, 2109982660, 2109983684,
   2109984708, 2109985732, 2109986756, 2109987780, 2109988804, 2109989828, 2109990852, 2109991876, 2109992900,
   2109993924, 2109994948, 2109995972, 2109996996, 2109998021, 2109999045, 2110000069, 2110001093, 2110002117,
   2110003141, 2110004165, 2110005189, 2110006213, 2110007237, 2110008261, 2110009285, 2110010309, 2110011333,
   2110012357, 2110013381, 2110014405, 2110015429, 2110016453, 2110017477, 2110018501, 2110019525, 2110020549,
   2110021573, 2110022597, 2110023621, 2110024645, 2110025669, 2110026693, 2110027717, 2110028741, 2110029765,
   2110030789, 2110031813, 2110032837, 2110033861, 2110034885, 2110035909, 2110036933, 2110037957, 2110038981,
   2110040005, 2110041029, 2110042053, 2110043077, 2110044101, 2110045125, 2110046149, 2110047173, 2110048197,
   2110049221, 2110050245, 2110051269, 2110052293, 2110053317, 2110054341, 2110055365, 2110056389, 2110057413,
   2110058437, 2110059461, 2110060485, 2110061509, 2110062533, 2110063558, 2110064582, 2110065606, 2110066630,
   2110067654, 2110068678, 2110069702, 2110070726, 2110071750, 2110072774, 2110073798, 2110074822, 2110075846,
   2110076870, 2110077894, 2110078918, 2110079942, 2110080966, 2110081990, 2110083014, 2110084038, 2110085062,
   2110086086, 2110087110, 2110088134, 2110089158, 2110090182, 2110091206, 2110092230, 2110093254, 2110094278,
   2110095302, 2110096326, 2110097350, 2110098374, 2110099398, 2110100422, 2110101446, 2110102470, 2110103494,
   2110104518, 2110105542, 2110106566, 2110107590, 2110108614, 2110109638, 2110110662, 2110111686, 2110112710,
   2110113734, 2110114758, 2110115782, 2110116806, 2110117830, 2110118854, 2110119878, 2110120902, 2110121926,
   2110122950, 2110123974, 2110124998, 2110126022, 2110127046, 2110128070, 2110129095, 2110130119, 2110131143,
   2110132167, 2110133191, 2110134215, 2110135239, 2110136263, 2110137287, 2110138311, 2110139335, 2110140359,
   2110141383, 2110142407, 2110143431, 2110144455, 2110145479, 2110146503, 2110147527, 2110148551, 2110149575,
   2110150599, 2110151623, 2110152647, 2110153671, 2110154695, 2110155719, 2110156743, 2110157767, 2110158791,
   2110159815, 2110160839, 2110161863, 2110162887, 2110163911, 2110164935, 2110165959, 2110166983, 2110168007,
   2110169031, 2110170055, 2110171079, 2110172103, 2110173127, 2110174151, 2110175175, 2110176199, 2110177223,
   2110178247, 2110179271, 2110180295, 2110181319, 2110182343, 2110183367, 2110184391, 2110185415, 2110186439,
   2110187463, 2110188487, 2110189511, 2110190535, 2110191559, 2110192583, 2110193607, 2110194632, 2110195656,
   2110196680, 2110197704, 2110198728, 2110199752, 2110200776, 2110201800, 2110202824, 2110203848, 2110204872,
   2110205896, 2110206920, 2110207944, 2110208968, 2110209992, 2110211016, 2110212040, 2110213064, 2110214088,
   2110215112, 2110216136, 2110217160, 2110218184, 2110219208, 2110220232, 2110221256, 2110222280, 2110223304,
   2110224328, 2110225352, 2110226376, 2110227400, 2110228424, 2110229448, 2110230472, 2110231496, 2110232520,
   2110233544, 2110234568, 2110235592, 2110236616, 2110237640, 2110238664, 2110239688, 2110240712, 2110241736,
   2110242760, 2110243784, 2110244808, 2110245832, 2110246856, 2110247880, 2110248904, 2110249928, 2110250952,
   2110251976, 2110253000, 2110254024, 2110255048, 2110256072, 2110257096, 2110258120, 2110259144, 2110260169,
   2110261193, 2110262217, 2110263241, 2110264265, 2110265289, 2110266313, 2110267337, 2110268361, 2110269385,
   2110270409, 2110271433, 2110272457, 2110273481, 2110274505, 2110275529, 2110276553, 2110277577, 2110278601,
   2110279625, 2110280649, 2110281673, 2110282697, 2110283721, 2110284745, 2110285769, 2110286793, 2110287817,
   2110288841, 2110289865, 2110290889, 2110291913, 2110292937, 2110293961, 2110294985, 2110296009, 2110297033,
   2110298057, 2110299081, 2110300105, 2110301129, 2110302153, 2110303177, 2110304201, 2110305225, 2110306249,
   2110307273, 2110308297, 2110309321, 2110310345, 2110311369, 2110312393, 2110313417, 2110314441, 2110315465,
   2110316489, 2110317513, 2110318537, 2110319561, 2110320585, 2110321609, 2110322633, 2110323657, 2110324681,
   2110325706, 2110326730, 2110327754, 2110328778, 2110329802, 2110330826, 2110331850, 2110332874, 2110333898,
   2110334922, 2110335946, 2110336970, 2110337994, 2110339018, 2110340042, 2110341066, 2110342090, 2110343114,
   2110344138, 2110345162, 2110346186, 2110347210, 2110348234, 2110349258, 2110350282, 2110351306, 2110352330,
   2110353354, 2110354378, 2110355402, 2110356426, 2110357450, 2110358474, 2110359498, 2110360522, 2110361546,
   2110362570, 2110363594, 2110364618, 2110365642, 2110366666, 2110367690, 2110368714, 2110369738, 2110370762,
   2110371786, 2110372810, 2110373834, 2110374858, 2110375882, 2110376906, 2110377930, 2110378954, 2110379978,
   2110381002, 2110382026, 2110383050, 2110384074, 2110385098, 2110386122, 2110387146, 2110388170, 2110389194,
   2110390218, 2110391243, 2110392267, 2110393291, 2110394315, 2110395339, 2110396363, 2110397387, 2110398411,
   2110399435, 2110400459, 2110401483, 2110402507, 2110403531, 2110404555, 2110405579, 2110406603, 2110407627,
   2110408651, 2110409675, 2110410699, 2110411723, 2110412747, 2110413771, 2110414795, 2110415819, 2110416843,
   2110417867, 2110418891, 2110419915, 2110420939, 2110421963, 2110422987, 2110424011, 2110425035, 2110426059,
   2110427083, 2110428107, 2110429131, 2110430155, 2110431179, 2110432203, 2110433227, 2110434251, 2110435275,
   2110436299, 2110437323, 2110438347, 2110439371, 2110440395, 2110441419, 2110442443, 2110443467, 2110444491,
   2110445515, 2110446539, 2110447563, 2110448587, 2110449611, 2110450635, 2110451659, 2110452683, 2110453707,
   2110454731, 2110455755, 2110456780, 2110457804, 2110458828, 2110459852, 2110460876, 2110461900, 2110462924,
   2110463948, 2110464972, 2110465996, 2110467020, 2110468044, 2110469068, 2110470092, 2110471116, 2110472140,
   2110473164, 2110474188, 2110475212, 2110476236, 2110477260, 2110478284, 2110479308, 2110480332, 2110481356,
   2110482380, 2110483404, 2110484428, 2110485452, 2110486476, 2110487500, 2110488524, 2110489548, 2110490572,
   2110491596, 2110492620, 2110493644, 2110494668, 2110495692, 2110496716, 2110497740, 2110498764, 2110499788,
   2110500812, 2110501836, 2110502860, 2110503884, 2110504908, 2110505932, 2110506956, 2110507980, 2110509004,
   2110510028, 2110511052, 2110512076, 2110513100, 2110514124, 2110515148, 2110516172, 2110517196, 2110518220,
   2110519244, 2110520268, 2110521292, 2110522317, 2110523341, 2110524365, 2110525389, 2110526413, 2110527437,
   2110528461, 2110529485, 2110530509, 2110531533, 2110532557, 2110533581, 2110534605, 2110535629, 2110536653,
   2110537677, 2110538701, 2110539725, 2110540749, 2110541773, 2110542797, 2110543821, 2110544845, 2110545869,
   2110546893, 2110547917, 2110548941, 2110549965, 2110550989, 2110552013, 2110553037, 2110554061, 2110555085,
   2110556109, 2110557133, 2110558157, 2110559181, 2110560205, 2110561229, 2110562253, 2110563277, 2110564301,
   2110565325, 2110566349, 2110567373, 2110568397, 2110569421, 2110570445, 2110571469, 2110572493, 2110573517,
   2110574541, 2110575565, 2110576589, 2110577613, 2110578637, 2110579661, 2110580685, 2110581709, 2110582733,
   2110583757, 2110584781, 2110585805, 2110586829, 2110587854, 2110588878, 2110589902, 2110590926, 2110591950,
   2110592974, 2110593998, 2110595022, 2110596046, 2110597070, 2110598094, 2110599118, 2110600142, 2110601166,
   2110602190, 2110603214, 2110604238, 2110605262, 2110606286, 2110607310, 2110608334, 2110609358, 2110610382,
   2110611406, 2110612430, 2110613454, 2110614478, 2110615502, 2110616526, 2110617550, 2110618574, 2110619598,
   2110620622, 2110621646, 2110622670, 2110623694, 2110624718, 2110625742, 2110626766, 2110627790, 2110628814,
   2110629838, 2110630862, 2110631886, 2110632910, 2110633934, 2110634958, 2110635982, 2110637006, 2110638030,
   2110639054, 2110640078, 2110641102, 2110642126, 2110643150, 2110644174, 2110645198, 2110646222, 2110647246,
   2110648270, 2110649294, 2110650318, 2110651342, 2110652366, 2110653391, 2110654415, 2110655439, 2110656463,
   2110657487, 2110658511, 2110659535, 2110660559, 2110661583, 2110662607, 2110663631, 2110664655, 2110665679,
   2110666703, 2110667727, 2110668751, 2110669775, 2110670799, 2110671823, 2110672847, 2110673871, 2110674895,
   2110675919, 2110676943, 2110677967, 2110678991, 2110680015, 2110681039, 2110682063, 2110683087, 2110684111,
   2110685135, 2110686159, 2110687183, 2110688207, 2110689231, 2110690255, 2110691279, 2110692303, 2110693327,
   2110694351, 2110695375, 2110696399, 2110697423, 2110698447, 2110699471, 2110700495, 2110701519, 2110702543,
   2110703567, 2110704591, 2110705615, 2110706639, 2110707663, 2110708687, 2110709711, 2110710735, 2110711759,
   2110712783, 2110713807, 2110714831, 2110715855, 2110716879, 2110717903, 2110718928, 2110719952, 2110720976,
   2110722000, 2110723024, 2110724048, 2110725072, 2110726096, 2110727120, 2110728144, 2110729168, 2110730192,
   2110731216, 2110732240, 2110733264, 2110734288, 2110735312, 2110736336, 2110737360, 2110738384, 2110739408,
   2110740432, 2110741456, 2110742480, 2110743504, 2110744528, 2110745552, 2110746576, 2110747600, 2110748624,
   2110749648, 2110750672, 2110751696, 2110752720, 2110753744, 2110754768, 2110755792, 2110756816, 2110757840,
   2110758864, 2110759888, 2110760912, 2110761936, 2110762960, 2110763984, 2110765008, 2110766032, 2110767056,
   2110768080, 2110769104, 2110770128, 2110771152, 2110772176, 2110773200, 2110774224, 2110775248, 2110776272,
   2110777296, 2110778320, 2110779344, 2110780368, 2110781392, 2110782416, 2110783440, 2110784465, 2110785489,
   2110786513, 2110787537, 2110788561, 2110789585, 2110790609, 2110791633, 2110792657, 2110793681, 2110794705,
   2110795729, 2110796753, 2110797777, 2110798801, 2110799825, 2110800849, 2110801873, 2110802897, 2110803921,
   2110804945, 2110805969, 2110806993, 2110808017, 2110809041, 2110810065, 2110811089, 2110812113, 2110813137,
   2110814161, 2110815185, 2110816209, 2110817233, 2110818257, 2110819281, 2110820305, 2110821329, 2110822353,
   2110823377, 2110824401, 2110825425, 2110826449, 2110827473, 2110828497, 2110829521, 2110830545, 2110831569,
   2110832593, 2110833617, 2110834641, 2110835665, 2110836689, 2110837713, 2110838737, 2110839761, 2110840785,
   2110841809, 2110842833, 2110843857, 2110844881, 2110845905, 2110846929, 2110847953, 2110848977, 2110850002,
   2110851026, 2110852050, 2110853074, 2110854098, 2110855122, 2110856146, 2110857170, 2110858194, 2110859218,
   2110860242, 2110861266, 2110862290, 2110863314, 2110864338, 2110865362, 2110866386, 2110867410, 2110868434,
   2110869458, 2110870482, 2110871506, 2110872530, 2110873554, 2110874578, 2110875602, 2110876626, 2110877650,
   2110878674, 2110879698, 2110880722, 2110881746, 2110882770, 2110883794, 2110884818, 2110885842, 2110886866,
   2110887890, 2110888914, 2110889938, 2110890962, 2110891986, 2110893010, 2110894034, 2110895058, 2110896082,
   2110897106, 2110898130, 2110899154, 2110900178, 2110901202, 2110902226, 2110903250, 2110904274, 2110905298,
   2110906322, 2110907346, 2110908370, 2110909394, 2110910418, 2110911442, 2110912466, 2110913490, 2110914514,
   2110915539, 2110916563, 2110917587, 2110918611, 2110919635, 2110920659, 2110921683, 2110922707, 2110923731,
   2110924755, 2110925779, 2110926803, 2110927827, 2110928851, 2110929875, 2110930899, 2110931923, 2110932947,
   2110933971, 2110934995, 2110936019, 2110937043, 2110938067, 2110939091, 2110940115, 2110941139, 2110942163,
   2110943187, 2110944211, 2110945235, 2110946259, 2110947283, 2110948307, 2110949331, 2110950355, 2110951379,
   2110952403, 2110953427, 2110954451, 2110955475, 2110956499, 2110957523, 2110958547, 2110959571, 2110960595,
   2110961619, 2110962643, 2110963667, 2110964691, 2110965715, 2110966739, 2110967763, 2110968787, 2110969811,
   2110970835, 2110971859, 2110972883, 2110973907, 2110974931, 2110975955, 2110976979, 2110978003, 2110979027,
   2110980051, 2110981076, 2110982100, 2110983124, 2110984148, 2110985172, 2110986196, 2110987220, 2110988244,
   2110989268, 2110990292, 2110991316, 2110992340, 2110993364, 2110994388, 2110995412, 2110996436, 2110997460,
   2110998484, 2110999508, 2111000532, 2111001556, 2111002580, 2111003604, 2111004628, 2111005652, 2111006676,
   2111007700, 2111008724, 2111009748, 2111010772, 2111011796, 2111012820, 2111013844, 2111014868, 2111015892,
   2111016916, 2111017940, 2111018964, 2111019988, 2111021012, 2111022036, 2111023060, 2111024084, 2111025108,
   2111026132, 2111027156, 2111028180, 2111029204, 2111030228, 2111031252, 2111032276, 2111033300, 2111034324,
   2111035348, 2111036372, 2111037396, 2111038420, 2111039444, 2111040468, 2111041492, 2111042516, 2111043540,
   2111044564, 2111045588, 2111046613, 2111047637, 2111048661, 2111049685, 2111050709, 2111051733, 2111052757,
   2111053781, 2111054805, 2111055829, 2111056853, 2111057877, 2111058901, 2111059925, 2111060949, 2111061973,
   2111062997, 2111064021, 2111065045, 2111066069, 2111067093, 2111068117, 2111069141, 2111070165, 2111071189,
   2111072213, 2111073237, 2111074261, 2111075285, 2111076309, 2111077333, 2111078357, 2111079381, 2111080405,
   2111081429, 2111082453, 2111083477, 2111084501, 2111085525, 2111086549, 2111087573, 2111088597, 2111089621,
   2111090645, 2111091669, 2111092693, 2111093717, 2111094741, 2111095765, 2111096789, 2111097813, 2111098837,
   2111099861, 2111100885, 2111101909, 2111102933, 2111103957, 2111104981, 2111106005, 2111107029, 2111108053,
   2111109077, 2111110101, 2111111125, 2111112150, 2111113174, 2111114198, 2111115222, 2111116246, 2111117270,
   2111118294, 2111119318, 2111120342, 2111121366, 2111122390, 2111123414, 2111124438, 2111125462, 2111126486,
   2111127510, 2111128534, 2111129558, 2111130582, 2111131606, 2111132630, 2111133654, 2111134678, 2111135702,
   2111136726, 2111137750, 2111138774, 2111139798, 2111140822, 2111141846, 2111142870, 2111143894, 2111144918,
   2111145942, 2111146966, 2111147990, 2111149014, 2111150038, 2111151062, 2111152086, 2111153110, 2111154134,
   2111155158, 2111156182, 2111157206, 2111158230, 2111159254, 2111160278, 2111161302, 2111162326, 2111163350,
   2111164374, 2111165398, 2111166422, 2111167446, 2111168470, 2111169494, 2111170518, 2111171542, 2111172566,
   2111173590, 2111174614, 2111175638, 2111176662, 2111177687, 2111178711, 2111179735, 2111180759, 2111181783,
   2111182807, 2111183831, 2111184855, 2111185879, 2111186903, 2111187927, 2111188951, 2111189975, 2111190999,
   2111192023, 2111193047, 2111194071, 2111195095, 2111196119, 2111197143, 2111198167, 2111199191, 2111200215,
   2111201239, 2111202263, 2111203287, 2111204311, 2111205335, 2111206359, 2111207383, 2111208407, 2111209431,
   2111210455, 2111211479, 2111212503, 2111213527, 2111214551, 2111215575, 2111216599, 2111217623, 2111218647,
   2111219671, 2111220695, 2111221719, 2111222743, 2111223767, 2111224791, 2111225815, 2111226839, 2111227863,
   2111228887, 2111229911, 2111230935, 2111231959, 2111232983, 2111234007, 2111235031, 2111236055, 2111237079,
   2111238103, 2111239127, 2111240151, 2111241175, 2111242199, 2111243224, 2111244248, 2111245272, 2111246296,
   2111247320, 2111248344, 2111249368, 2111250392, 2111251416, 2111252440, 2111253464, 2111254488, 2111255512,
   2111256536, 2111257560, 2111258584, 2111259608, 2111260632, 2111261656, 2111262680, 2111263704, 2111264728,
   2111265752, 2111266776, 2111267800, 2111268824, 2111269848, 2111270872, 2111271896, 2111272920, 2111273944,
   2111274968, 2111275992, 2111277016, 2111278040, 2111279064, 2111280088, 2111281112, 2111282136, 2111283160,
   2111284184, 2111285208, 2111286232, 2111287256, 2111288280, 2111289304, 2111290328, 2111291352, 2111292376,
   2111293400, 2111294424, 2111295448, 2111296472, 2111297496, 2111298520, 2111299544, 2111300568, 2111301592,
   2111302616, 2111303640, 2111304664, 2111305688, 2111306712, 2111307736, 2111308761, 2111309785, 2111310809,
   2111311833, 2111312857, 2111313881, 2111314905, 2111315929, 2111316953, 2111317977, 2111319001, 2111320025,
   2111321049, 2111322073, 2111323097, 2111324121, 2111325145, 2111326169, 2111327193, 2111328217, 2111329241,
   2111330265, 2111331289, 2111332313, 2111333337, 2111334361, 2111335385, 2111336409, 2111337433, 2111338457,
   2111339481, 2111340505, 2111341529, 2111342553, 2111343577, 2111344601, 2111345625, 2111346649, 2111347673,
   2111348697, 2111349721, 2111350745, 2111351769, 2111352793, 2111353817, 2111354841, 2111355865, 2111356889,
   2111357913, 2111358937, 2111359961, 2111360985, 2111362009, 2111363033, 2111364057, 2111365081, 2111366105,
   2111367129, 2111368153, 2111369177, 2111370201, 2111371225, 2111372249, 2111373273, 2111374298, 2111375322,
   2111376346, 2111377370, 2111378394, 2111379418, 2111380442, 2111381466, 2111382490, 2111383514, 2111384538,
   2111385562, 2111386586, 2111387610, 2111388634, 2111389658, 2111390682, 2111391706, 2111392730, 2111393754,
   2111394778, 2111395802, 2111396826, 2111397850, 2111398874, 2111399898, 2111400922, 2111401946, 2111402970,
   2111403994, 2111405018, 2111406042, 2111407066, 2111408090, 2111409114, 2111410138, 2111411162, 2111412186,
   2111413210, 2111414234, 2111415258, 2111416282, 2111417306, 2111418330, 2111419354, 2111420378, 2111421402,
   2111422426, 2111423450, 2111424474, 2111425498, 2111426522, 2111427546, 2111428570, 2111429594, 2111430618,
   2111431642, 2111432666, 2111433690, 2111434714, 2111435738, 2111436762, 2111437786, 2111438810, 2111439835,
   2111440859, 2111441883, 2111442907, 2111443931, 2111444955, 2111445979, 2111447003, 2111448027, 2111449051,
   2111450075, 2111451099, 2111452123, 2111453147, 2111454171, 2111455195, 2111456219, 2111457243, 2111458267,
   2111459291, 2111460315, 2111461339, 2111462363, 2111463387, 2111464411, 2111465435, 2111466459, 2111467483,
   2111468507, 2111469531, 2111470555, 2111471579, 2111472603, 2111473627, 2111474651, 2111475675, 2111476699,
   2111477723, 2111478747, 2111479771, 2111480795, 2111481819, 2111482843, 2111483867, 2111484891, 2111485915,
   2111486939, 2111487963, 2111488987, 2111490011, 2111491035, 2111492059, 2111493083, 2111494107, 2111495131,
   2111496155, 2111497179, 2111498203, 2111499227, 2111500251, 2111501275, 2111502299, 2111503323, 2111504347,
   2111505372, 2111506396, 2111507420, 2111508444, 2111509468, 2111510492, 2111511516, 2111512540, 2111513564,
   2111514588, 2111515612, 2111516636, 2111517660, 2111518684, 2111519708, 2111520732, 2111521756, 2111522780,
   2111523804, 2111524828, 2111525852, 2111526876, 2111527900, 2111528924, 2111529948, 2111530972, 2111531996,
   2111533020, 2111534044, 2111535068, 2111536092, 2111537116, 2111538140, 2111539164, 2111540188, 2111541212,
   2111542236, 2111543260, 2111544284, 2111545308, 2111546332, 2111547356, 2111548380, 2111549404, 2111550428,
   2111551452, 2111552476, 2111553500, 2111554524, 2111555548, 2111556572, 2111557596, 2111558620, 2111559644,
   2111560668, 2111561692, 2111562716, 2111563740, 2111564764, 2111565788, 2111566812, 2111567836, 2111568860,
   2111569884, 2111570909, 2111571933, 2111572957, 2111573981, 2111575005, 2111576029, 2111577053, 2111578077,
   2111579101, 2111580125, 2111581149, 2111582173, 2111583197, 2111584221, 2111585245, 2111586269, 2111587293,
   2111588317, 2111589341, 2111590365, 2111591389, 2111592413, 2111593437, 2111594461, 2111595485, 2111596509,
   2111597533, 2111598557, 2111599581, 2111600605, 2111601629, 2111602653, 2111603677, 2111604701, 2111605725,
   2111606749, 2111607773, 2111608797, 2111609821, 2111610845, 2111611869, 2111612893, 2111613917, 2111614941,
   2111615965, 2111616989, 2111618013, 2111619037, 2111620061, 2111621085, 2111622109, 2111623133, 2111624157,
   2111625181, 2111626205, 2111627229, 2111628253, 2111629277, 2111630301, 2111631325, 2111632349, 2111633373,
   2111634397, 2111635421, 2111636446, 2111637470, 2111638494, 2111639518, 2111640542, 2111641566, 2111642590,
   2111643614, 2111644638, 2111645662, 2111646686, 2111647710, 2111648734, 2111649758, 2111650782, 2111651806,
   2111652830, 2111653854, 2111654878, 2111655902, 2111656926, 2111657950, 2111658974, 2111659998, 2111661022,
   2111662046, 2111663070, 2111664094, 2111665118, 2111666142, 2111667166, 2111668190, 2111669214, 2111670238,
   2111671262, 2111672286, 2111673310, 2111674334, 2111675358, 2111676382, 2111677406, 2111678430, 2111679454,
   2111680478, 2111681502, 2111682526, 2111683550, 2111684574, 2111685598, 2111686622, 2111687646, 2111688670,
   2111689694, 2111690718, 2111691742, 2111692766, 2111693790, 2111694814, 2111695838, 2111696862, 2111697886,
   2111698910, 2111699934, 2111700958, 2111701983, 2111703007, 2111704031, 2111705055, 2111706079, 2111707103,
   2111708127, 2111709151, 2111710175, 2111711199, 2111712223, 2111713247, 2111714271, 2111715295, 2111716319,
   2111717343, 2111718367, 2111719391, 2111720415, 2111721439, 2111722463, 2111723487, 2111724511, 2111725535,
   2111726559, 2111727583, 2111728607, 2111729631, 2111730655, 2111731679, 2111732703, 2111733727, 2111734751,
   2111735775, 2111736799, 2111737823, 2111738847, 2111739871, 2111740895, 2111741919, 2111742943, 2111743967,
   2111744991, 2111746015, 2111747039, 2111748063, 2111749087, 2111750111, 2111751135, 2111752159, 2111753183,
   2111754207, 2111755231, 2111756255, 2111757279, 2111758303, 2111759327, 2111760351, 2111761375, 2111762399,
   2111763423, 2111764447, 2111765471, 2111766495, 2111767520, 2111768544, 2111769568, 2111770592, 2111771616,
   2111772640, 2111773664, 2111774688, 2111775712, 2111776736, 2111777760, 2111778784, 2111779808, 2111780832,
   2111781856, 2111782880, 2111783904, 2111784928, 2111785952, 2111786976, 2111788000, 2111789024, 2111790048,
   2111791072, 2111792096, 2111793120, 2111794144, 2111795168, 2111796192, 2111797216, 2111798240, 2111799264,
   2111800288, 2111801312, 2111802336, 2111803360, 2111804384, 2111805408, 2111806432, 2111807456, 2111808480,
   2111809504, 2111810528, 2111811552, 2111812576, 2111813600, 2111814624, 2111815648, 2111816672, 2111817696,
   2111818720, 2111819744, 2111820768, 2111821792, 2111822816, 2111823840, 2111824864, 2111825888, 2111826912,
   2111827936, 2111828960, 2111829984, 2111831008, 2111832032]
theorem c14_ok :
    chkList (pipeF 1199570688 65535) 65535 2139095040 28673 1054867424 14336 c14
      30721 1055916016 15360 = true := by decide +kernel
theorem c14_len : 28673 + c14.length = 30721 := (chkList_end c14_ok).1
theorem c14_last : lastS 1054867424 c14 = 1055916016 := (chkList_end c14_ok).2.1

@[irreducible] def c15 : List Nat :=
  [2111833057, 2111834081, 2111835105, 2111836129, 2111837153, 2111838177, 2111839201, 2111840225, 2111841249,
   2111842273, 2111843297, 2111844321, 2111845345, 2111846369, 2111847393, 2111848417, 2111849441, 2111850465,
   2111851489, 2111852513, 2111853537, 2111854561, 2111855585, 2111856609, 2111857633, 2111858657, 2111859681,
   2111860705, 2111861729, 2111862753, 2111863777, 2111864801, 2111865825, 2111866849, 2111867873, 2111868897,
   2111869921, 2111870945, 2111871969, 2111872993, 2111874017, 2111875041, 2111876065, 2111877089, 2111878113,
   2111879137, 2111880161, 2111881185, 2111882209, 2111883233, 2111884257, 2111885281, 2111886305, 2111887329,
   2111888353, 2111889377, 2111890401, 2111891425, 2111892449, 2111893473, 2111894497, 2111895521, 2111896545,
   2111897569, 2111898594, 2111899618, 2111900642, 2111901666, 2111902690, 2111903714, 2111904738, 2111905762,
   2111906786, 2111907810, 2111908834, 2111909858, 2111910882, 2111911906, 2111912930, 2111913954, 2111914978,
   2111916002, 2111917026, 2111918050, 2111919074, 2111920098, 2111921122, 2111922146, 2111923170, 2111924194,
   2111925218, 2111926242, 2111927266, 2111928290, 2111929314, 2111930338, 2111931362, 2111932386, 2111933410,
   2111934434, 2111935458, 2111936482, 2111937506, 2111938530, 2111939554, 2111940578, 2111941602, 2111942626,
   2111943650, 2111944674, 2111945698, 2111946722, 2111947746, 2111948770, 2111949794, 2111950818, 2111951842,
   2111952866, 2111953890, 2111954914, 2111955938, 2111956962, 2111957986, 2111959010, 2111960034, 2111961058,
   2111962082, 2111963106, 2111964131, 2111965155, 2111966179, 2111967203, 2111968227, 2111969251, 2111970275,
   2111971299, 2111972323, 2111973347, 2111974371, 2111975395, 2111976419, 2111977443, 2111978467, 2111979491,
   2111980515, 2111981539, 2111982563, 2111983587, 2111984611, 2111985635, 2111986659, 2111987683, 2111988707,
   2111989731, 2111990755, 2111991779, 2111992803, 2111993827, 2111994851, 2111995875, 2111996899, 2111997923,
   2111998947, 2111999971, 2112000995, 2112002019, 2112003043, 2112004067, 2112005091, 2112006115, 2112007139,
   2112008163, 2112009187, 2112010211, 2112011235, 2112012259, 2112013283, 2112014307, 2112015331, 2112016355,
   2112017379, 2112018403, 2112019427, 2112020451, 2112021475, 2112022499, 2112023523, 2112024547, 2112025571,
   2112026595, 2112027619, 2112028643, 2112029668, 2112030692, 2112031716, 2112032740, 2112033764, 2112034788,
   2112035812, 2112036836, 2112037860, 2112038884, 2112039908, 2112040932, 2112041956, 2112042980, 2112044004,
   2112045028, 2112046052, 2112047076, 2112048100, 2112049124, 2112050148, 2112051172, 2112052196, 2112053220,
   2112054244, 2112055268, 2112056292, 2112057316, 2112058340, 2112059364, 2112060388, 2112061412, 2112062436,
   2112063460, 2112064484, 2112065508, 2112066532, 2112067556, 2112068580, 2112069604, 2112070628, 2112071652,
   2112072676, 2112073700, 2112074724, 2112075748, 2112076772, 2112077796, 2112078820, 2112079844, 2112080868,
   2112081892, 2112082916, 2112083940, 2112084964, 2112085988, 2112087012, 2112088036, 2112089060, 2112090084,
   2112091108, 2112092132, 2112093156, 2112094180, 2112095205, 2112096229, 2112097253, 2112098277, 2112099301,
   2112100325, 2112101349, 2112102373, 2112103397, 2112104421, 2112105445, 2112106469, 2112107493, 2112108517,
   2112109541, 2112110565, 2112111589, 2112112613, 2112113637, 2112114661, 2112115685, 2112116709, 2112117733,
   2112118757, 2112119781, 2112120805, 2112121829, 2112122853, 2112123877, 2112124901, 2112125925, 2112126949,
   2112127973, 2112128997, 2112130021, 2112131045, 2112132069, 2112133093, 2112134117, 2112135141, 2112136165,
   2112137189, 2112138213, 2112139237, 2112140261, 2112141285, 2112142309, 2112143333, 2112144357, 2112145381,
   2112146405, 2112147429, 2112148453, 2112149477, 2112150501, 2112151525, 2112152549, 2112153573, 2112154597,
   2112155621, 2112156645, 2112157669, 2112158693, 2112159717, 2112160742, 2112161766, 2112162790, 2112163814,
   2112164838, 2112165862, 2112166886, 2112167910, 2112168934, 2112169958, 2112170982, 2112172006, 2112173030,
   2112174054, 2112175078, 2112176102, 2112177126, 2112178150, 2112179174, 2112180198, 2112181222, 2112182246,
   2112183270, 2112184294, 2112185318, 2112186342, 2112187366, 2112188390, 2112189414, 2112190438, 2112191462,
   2112192486, 2112193510, 2112194534, 2112195558, 2112196582, 2112197606, 2112198630, 2112199654, 2112200678,
   2112201702, 2112202726, 2112203750, 2112204774, 2112205798, 2112206822, 2112207846, 2112208870, 2112209894,
   2112210918, 2112211942, 2112212966, 2112213990, 2112215014, 2112216038, 2112217062, 2112218086, 2112219110,
   2112220134, 2112221158, 2112222182, 2112223206, 2112224230, 2112225254, 2112226279, 2112227303, 2112228327,
   2112229351, 2112230375, 2112231399, 2112232423, 2112233447, 2112234471, 2112235495, 2112236519, 2112237543,
   2112238567, 2112239591, 2112240615, 2112241639, 2112242663, 2112243687, 2112244711, 2112245735, 2112246759,
   2112247783, 2112248807, 2112249831, 2112250855, 2112251879, 2112252903, 2112253927, 2112254951, 2112255975,
   2112256999, 2112258023, 2112259047, 2112260071, 2112261095, 2112262119, 2112263143, 2112264167, 2112265191,
   2112266215, 2112267239, 2112268263, 2112269287, 2112270311, 2112271335, 2112272359, 2112273383, 2112274407,
   2112275431, 2112276455, 2112277479, 2112278503, 2112279527, 2112280551, 2112281575, 2112282599, 2112283623,
   2112284647, 2112285671, 2112286695, 2112287719, 2112288743, 2112289767, 2112290791, 2112291816, 2112292840,
   2112293864, 2112294888, 2112295912, 2112296936, 2112297960, 2112298984, 2112300008, 2112301032, 2112302056,
   2112303080, 2112304104, 2112305128, 2112306152, 2112307176, 2112308200, 2112309224, 2112310248, 2112311272,
   2112312296, 2112313320, 2112314344, 2112315368, 2112316392, 2112317416, 2112318440, 2112319464, 2112320488,
   2112321512, 2112322536, 2112323560, 2112324584, 2112325608, 2112326632, 2112327656, 2112328680, 2112329704,
   2112330728, 2112331752, 2112332776, 2112333800, 2112334824, 2112335848, 2112336872, 2112337896, 2112338920,
   2112339944, 2112340968, 2112341992, 2112343016, 2112344040, 2112345064, 2112346088, 2112347112, 2112348136,
   2112349160, 2112350184, 2112351208, 2112352232, 2112353256, 2112354280, 2112355304, 2112356328, 2112357353,
   2112358377, 2112359401, 2112360425, 2112361449, 2112362473, 2112363497, 2112364521, 2112365545, 2112366569,
   2112367593, 2112368617, 2112369641, 2112370665, 2112371689, 2112372713, 2112373737, 2112374761, 2112375785,
   2112376809, 2112377833, 2112378857, 2112379881, 2112380905, 2112381929, 2112382953, 2112383977, 2112385001,
   2112386025, 2112387049, 2112388073, 2112389097, 2112390121, 2112391145, 2112392169, 2112393193, 2112394217,
   2112395241, 2112396265, 2112397289, 2112398313, 2112399337, 2112400361, 2112401385, 2112402409, 2112403433,
   2112404457, 2112405481, 2112406505, 2112407529, 2112408553, 2112409577, 2112410601, 2112411625, 2112412649,
   2112413673, 2112414697, 2112415721, 2112416745, 2112417769, 2112418793, 2112419817, 2112420841, 2112421865,
   2112422890, 2112423914, 2112424938, 2112425962, 2112426986, 2112428010, 2112429034, 2112430058, 2112431082,
   2112432106, 2112433130, 2112434154, 2112435178, 2112436202, 2112437226, 2112438250, 2112439274, 2112440298,
   2112441322, 2112442346, 2112443370, 2112444394, 2112445418, 2112446442, 2112447466, 2112448490, 2112449514,
   2112450538, 2112451562, 2112452586, 2112453610, 2112454634, 2112455658, 2112456682, 2112457706, 2112458730,
   2112459754, 2112460778, 2112461802, 2112462826, 2112463850, 2112464874, 2112465898, 2112466922, 2112467946,
   2112468970, 2112469994, 2112471018, 2112472042, 2112473066, 2112474090, 2112475114, 2112476138, 2112477162,
   2112478186, 2112479210, 2112480234, 2112481258, 2112482282, 2112483306, 2112484330, 2112485354, 2112486378,
   2112487402, 2112488427, 2112489451, 2112490475, 2112491499, 2112492523, 2112493547, 2112494571, 2112495595,
   2112496619, 2112497643, 2112498667, 2112499691, 2112500715, 2112501739, 2112502763, 2112503787, 2112504811,
   2112505835, 2112506859, 2112507883, 2112508907, 2112509931, 2112510955, 2112511979, 2112513003, 2112514027,
   2112515051, 2112516075, 2112517099, 2112518123, 2112519147, 2112520171, 2112521195, 2112522219, 2112523243,
   2112524267, 2112525291, 2112526315, 2112527339, 2112528363, 2112529387, 2112530411, 2112531435, 2112532459,
   2112533483, 2112534507, 2112535531, 2112536555, 2112537579, 2112538603, 2112539627, 2112540651, 2112541675,
   2112542699, 2112543723, 2112544747, 2112545771, 2112546795, 2112547819, 2112548843, 2112549867, 2112550891,
   2112551915, 2112552939, 2112553964, 2112554988, 2112556012, 2112557036, 2112558060, 2112559084, 2112560108,
   2112561132, 2112562156, 2112563180, 2112564204, 2112565228, 2112566252, 2112567276, 2112568300, 2112569324,
   2112570348, 2112571372, 2112572396, 2112573420, 2112574444, 2112575468, 2112576492, 2112577516, 2112578540,
   2112579564, 2112580588, 2112581612, 2112582636, 2112583660, 2112584684, 2112585708, 2112586732, 2112587756,
   2112588780, 2112589804, 2112590828, 2112591852, 2112592876, 2112593900, 2112594924, 2112595948, 2112596972,
   2112597996, 2112599020, 2112600044, 2112601068, 2112602092, 2112603116, 2112604140, 2112605164, 2112606188,
   2112607212, 2112608236, 2112609260, 2112610284, 2112611308, 2112612332, 2112613356, 2112614380, 2112615404,
   2112616428, 2112617452, 2112618476, 2112619501, 2112620525, 2112621549, 2112622573, 2112623597, 2112624621,
   2112625645, 2112626669, 2112627693, 2112628717, 2112629741, 2112630765, 2112631789, 2112632813, 2112633837,
   2112634861, 2112635885, 2112636909, 2112637933, 2112638957, 2112639981, 2112641005, 2112642029, 2112643053,
   2112644077, 2112645101, 2112646125, 2112647149, 2112648173, 2112649197, 2112650221, 2112651245, 2112652269,
   2112653293, 2112654317, 2112655341, 2112656365, 2112657389, 2112658413, 2112659437, 2112660461, 2112661485,
   2112662509, 2112663533, 2112664557, 2112665581, 2112666605, 2112667629, 2112668653, 2112669677, 2112670701,
   2112671725, 2112672749, 2112673773, 2112674797, 2112675821, 2112676845, 2112677869, 2112678893, 2112679917,
   2112680941, 2112681965, 2112682989, 2112684013, 2112685038, 2112686062, 2112687086, 2112688110, 2112689134,
   2112690158, 2112691182, 2112692206, 2112693230, 2112694254, 2112695278, 2112696302, 2112697326, 2112698350,
   2112699374, 2112700398, 2112701422, 2112702446, 2112703470, 2112704494, 2112705518, 2112706542, 2112707566,
   2112708590, 2112709614, 2112710638, 2112711662, 2112712686, 2112713710, 2112714734, 2112715758, 2112716782,
   2112717806, 2112718830, 2112719854, 2112720878, 2112721902, 2112722926, 2112723950, 2112724974, 2112725998,
   2112727022, 2112728046, 2112729070, 2112730094, 2112731118, 2112732142, 2112733166, 2112734190, 2112735214,
   2112736238, 2112737262, 2112738286, 2112739310, 2112740334, 2112741358, 2112742382, 2112743406, 2112744430,
   2112745454, 2112746478, 2112747502, 2112748526, 2112749550, 2112750575, 2112751599, 2112752623, 2112753647,
   2112754671, 2112755695, 2112756719, 2112757743, 2112758767, 2112759791, 2112760815, 2112761839, 2112762863,
   2112763887, 2112764911, 2112765935, 2112766959, 2112767983, 2112769007, 2112770031, 2112771055, 2112772079,
   2112773103, 2112774127, 2112775151, 2112776175, 2112777199, 2112778223, 2112779247, 2112780271, 2112781295,
   2112782319, 2112783343, 2112784367, 2112785391, 2112786415, 2112787439, 2112788463, 2112789487, 2112790511,
   2112791535, 2112792559, 2112793583, 2112794607, 2112795631, 2112796655, 2112797679, 2112798703, 2112799727,
   2112800751, 2112801775, 2112802799, 2112803823, 2112804847, 2112805871, 2112806895, 2112807919, 2112808943,
   2112809967, 2112810991, 2112812015, 2112813039, 2112814063, 2112815087, 2112816112, 2112817136, 2112818160,
   2112819184, 2112820208, 2112821232, 2112822256, 2112823280, 2112824304, 2112825328, 2112826352, 2112827376,
   2112828400, 2112829424, 2112830448, 2112831472, 2112832496, 2112833520, 2112834544, 2112835568, 2112836592,
   2112837616, 2112838640, 2112839664, 2112840688, 2112841712, 2112842736, 2112843760, 2112844784, 2112845808,
   2112846832, 2112847856, 2112848880, 2112849904, 2112850928, 2112851952, 2112852976, 2112854000, 2112855024,
   2112856048, 2112857072, 2112858096, 2112859120, 2112860144, 2112861168, 2112862192, 2112863216, 2112864240,
   2112865264, 2112866288, 2112867312, 2112868336, 2112869360, 2112870384, 2112871408, 2112872432, 2112873456,
   2112874480, 2112875504, 2112876528, 2112877552, 2112878576, 2112879600, 2112880624, 2112881649, 2112882673,
   2112883697, 2112884721, 2112885745, 2112886769, 2112887793, 2112888817, 2112889841, 2112890865, 2112891889,
   2112892913, 2112893937, 2112894961, 2112895985, 2112897009, 2112898033, 2112899057, 2112900081, 2112901105,
   2112902129, 2112903153, 2112904177, 2112905201, 2112906225, 2112907249, 2112908273, 2112909297, 2112910321,
   2112911345, 2112912369, 2112913393, 2112914417, 2112915441, 2112916465, 2112917489, 2112918513, 2112919537,
   2112920561, 2112921585, 2112922609, 2112923633, 2112924657, 2112925681, 2112926705, 2112927729, 2112928753,
   2112929777, 2112930801, 2112931825, 2112932849, 2112933873, 2112934897, 2112935921, 2112936945, 2112937969,
   2112938993, 2112940017, 2112941041, 2112942065, 2112943089, 2112944113, 2112945137, 2112946161, 2112947186,
   2112948210, 2112949234, 2112950258, 2112951282, 2112952306, 2112953330, 2112954354, 2112955378, 2112956402,
   2112957426, 2112958450, 2112959474, 2112960498, 2112961522, 2112962546, 2112963570, 2112964594, 2112965618,
   2112966642, 2112967666, 2112968690, 2112969714, 2112970738, 2112971762, 2112972786, 2112973810, 2112974834,
   2112975858, 2112976882, 2112977906, 2112978930, 2112979954, 2112980978, 2112982002, 2112983026, 2112984050,
   2112985074, 2112986098, 2112987122, 2112988146, 2112989170, 2112990194, 2112991218, 2112992242, 2112993266,
   2112994290, 2112995314, 2112996338, 2112997362, 2112998386, 2112999410, 2113000434, 2113001458, 2113002482,
   2113003506, 2113004530, 2113005554, 2113006578, 2113007602, 2113008626, 2113009650, 2113010674, 2113011698,
   2113012723, 2113013747, 2113014771, 2113015795, 2113016819, 2113017843, 2113018867, 2113019891, 2113020915,
   2113021939, 2113022963, 2113023987, 2113025011, 2113026035, 2113027059, 2113028083, 2113029107, 2113030131,
   2113031155, 2113032179, 2113033203, 2113034227, 2113035251, 2113036275, 2113037299, 2113038323, 2113039347,
   2113040371, 2113041395, 2113042419, 2113043443, 2113044467, 2113045491, 2113046515, 2113047539, 2113048563,
   2113049587, 2113050611, 2113051635, 2113052659, 2113053683, 2113054707, 2113055731, 2113056755, 2113057779,
   2113058803, 2113059827, 2113060851, 2113061875, 2113062899, 2113063923, 2113064947, 2113065971, 2113066995,
   2113068019, 2113069043, 2113070067, 2113071091, 2113072115, 2113073139, 2113074163, 2113075187, 2113076211,
   2113077235, 2113078260, 2113079284, 2113080308, 2113081332, 2113082356, 2113083380, 2113084404, 2113085428,
   2113086452, 2113087476, 2113088500, 2113089524, 2113090548, 2113091572, 2113092596, 2113093620, 2113094644,
   2113095668, 2113096692, 2113097716, 2113098740, 2113099764, 2113100788, 2113101812, 2113102836, 2113103860,
   2113104884, 2113105908, 2113106932, 2113107956, 2113108980, 2113110004, 2113111028, 2113112052, 2113113076,
   2113114100, 2113115124, 2113116148, 2113117172, 2113118196, 2113119220, 2113120244, 2113121268, 2113122292,
   2113123316, 2113124340, 2113125364, 2113126388, 2113127412, 2113128436, 2113129460, 2113130484, 2113131508,
   2113132532, 2113133556, 2113134580, 2113135604, 2113136628, 2113137652, 2113138676, 2113139700, 2113140724,
   2113141748, 2113142772, 2113143797, 2113144821, 2113145845, 2113146869, 2113147893, 2113148917, 2113149941,
   2113150965, 2113151989, 2113153013, 2113154037, 2113155061, 2113156085, 2113157109, 2113158133, 2113159157,
   2113160181, 2113161205, 2113162229, 2113163253, 2113164277, 2113165301, 2113166325, 2113167349, 2113168373,
   2113169397, 2113170421, 2113171445, 2113172469, 2113173493, 2113174517, 2113175541, 2113176565, 2113177589,
   2113178613, 2113179637, 2113180661, 2113181685, 2113182709, 2113183733, 2113184757, 2113185781, 2113186805,
   2113187829, 2113188853, 2113189877, 2113190901, 2113191925, 2113192949, 2113193973, 2113194997, 2113196021,
   2113197045, 2113198069, 2113199093, 2113200117, 2113201141, 2113202165, 2113203189, 2113204213, 2113205237,
   2113206261, 2113207285, 2113208309, 2113209334, 2113210358, 2113211382, 2113212406, 2113213430, 2113214454,
   2113215478, 2113216502, 2113217526, 2113218550, 2113219574, 2113220598, 2113221622, 2113222646, 2113223670,
   2113224694, 2113225718, 2113226742, 2113227766, 2113228790, 2113229814, 2113230838, 2113231862, 2113232886,
   2113233910, 2113234934, 2113235958, 2113236982, 2113238006, 2113239030, 2113240054, 2113241078, 2113242102,
   2113243126, 2113244150, 2113245174, 2113246198, 2113247222, 2113248246, 2113249270, 2113250294, 2113251318,
   2113252342, 2113253366, 2113254390, 2113255414, 2113256438, 2113257462, 2113258486, 2113259510, 2113260534,
   2113261558, 2113262582, 2113263606, 2113264630, 2113265654, 2113266678, 2113267702, 2113268726, 2113269750,
   2113270774, 2113271798, 2113272822, 2113273846, 2113274871, 2113275895, 2113276919, 2113277943, 2113278967,
   2113279991, 2113281015, 2113282039, 2113283063, 2113284087, 2113285111, 2113286135, 2113287159, 2113288183,
   2113289207, 2113290231, 2113291255, 2113292279, 2113293303, 2113294327, 2113295351, 2113296375, 2113297399,
   2113298423, 2113299447, 2113300471, 2113301495, 2113302519, 2113303543, 2113304567, 2113305591, 2113306615,
   2113307639, 2113308663, 2113309687, 2113310711, 2113311735, 2113312759, 2113313783, 2113314807, 2113315831,
   2113316855, 2113317879, 2113318903, 2113319927, 2113320951, 2113321975, 2113322999, 2113324023, 2113325047,
   2113326071, 2113327095, 2113328119, 2113329143, 2113330167, 2113331191, 2113332215, 2113333239, 2113334263,
   2113335287, 2113336311, 2113337335, 2113338359, 2113339383, 2113340408, 2113341432, 2113342456, 2113343480,
   2113344504, 2113345528, 2113346552, 2113347576, 2113348600, 2113349624, 2113350648, 2113351672, 2113352696,
   2113353720, 2113354744, 2113355768, 2113356792, 2113357816, 2113358840, 2113359864, 2113360888, 2113361912,
   2113362936, 2113363960, 2113364984, 2113366008, 2113367032, 2113368056, 2113369080, 2113370104, 2113371128,
   2113372152, 2113373176, 2113374200, 2113375224, 2113376248, 2113377272, 2113378296, 2113379320, 2113380344,
   2113381368, 2113382392, 2113383416, 2113384440, 2113385464, 2113386488, 2113387512, 2113388536, 2113389560,
   2113390584, 2113391608, 2113392632, 2113393656, 2113394680, 2113395704, 2113396728, 2113397752, 2113398776,
   2113399800, 2113400824, 2113401848, 2113402872, 2113403896, 2113404920, 2113405945, 2113406969, 2113407993,
   2113409017, 2113410041, 2113411065, 2113412089, 2113413113, 2113414137, 2113415161, 2113416185, 2113417209,
   2113418233, 2113419257, 2113420281, 2113421305, 2113422329, 2113423353, 2113424377, 2113425401, 2113426425,
   2113427449, 2113428473, 2113429497, 2113430521, 2113431545, 2113432569, 2113433593, 2113434617, 2113435641,
   2113436665, 2113437689, 2113438713, 2113439737, 2113440761, 2113441785, 2113442809, 2113443833, 2113444857,
   2113445881, 2113446905, 2113447929, 2113448953, 2113449977, 2113451001, 2113452025, 2113453049, 2113454073,
   2113455097, 2113456121, 2113457145, 2113458169, 2113459193, 2113460217, 2113461241, 2113462265, 2113463289,
   2113464313, 2113465337, 2113466361, 2113467385, 2113468409, 2113469433, 2113470457, 2113471482, 2113472506,
   2113473530, 2113474554, 2113475578, 2113476602, 2113477626, 2113478650, 2113479674, 2113480698, 2113481722,
   2113482746, 2113483770, 2113484794, 2113485818, 2113486842, 2113487866, 2113488890, 2113489914, 2113490938,
   2113491962, 2113492986, 2113494010, 2113495034, 2113496058, 2113497082, 2113498106, 2113499130, 2113500154,
   2113501178, 2113502202, 2113503226, 2113504250, 2113505274, 2113506298, 2113507322, 2113508346, 2113509370,
   2113510394, 2113511418, 2113512442, 2113513466, 2113514490, 2113515514, 2113516538, 2113517562, 2113518586,
   2113519610, 2113520634, 2113521658, 2113522682, 2113523706, 2113524730, 2113525754, 2113526778, 2113527802,
   2113528826, 2113529850, 2113530874, 2113531898, 2113532922, 2113533946, 2113534970, 2113535994, 2113537019,
   2113538043, 2113539067, 2113540091, 2113541115, 2113542139, 2113543163, 2113544187, 2113545211, 2113546235,
   2113547259, 2113548283, 2113549307, 2113550331, 2113551355, 2113552379, 2113553403, 2113554427, 2113555451,
   2113556475, 2113557499, 2113558523, 2113559547, 2113560571, 2113561595, 2113562619, 2113563643, 2113564667,
   2113565691, 2113566715, 2113567739, 2113568763, 2113569787, 2113570811, 2113571835, 2113572859, 2113573883,
   2113574907, 2113575931, 2113576955, 2113577979, 2113579003, 2113580027, 2113581051, 2113582075, 2113583099,
   2113584123, 2113585147, 2113586171, 2113587195, 2113588219, 2113589243, 2113590267, 2113591291, 2113592315,
   2113593339, 2113594363, 2113595387, 2113596411, 2113597435, 2113598459, 2113599483, 2113600507, 2113601531,
   2113602556, 2113603580, 2113604604, 2113605628, 2113606652, 2113607676, 2113608700, 2113609724, 2113610748,
   2113611772, 2113612796, 2113613820, 2113614844, 2113615868, 2113616892, 2113617916, 2113618940, 2113619964,
   2113620988, 2113622012, 2113623036, 2113624060, 2113625084, 2113626108, 2113627132, 2113628156, 2113629180,
   2113630204, 2113631228, 2113632252, 2113633276, 2113634300, 2113635324, 2113636348, 2113637372, 2113638396,
   2113639420, 2113640444, 2113641468, 2113642492, 2113643516, 2113644540, 2113645564, 2113646588, 2113647612,
   2113648636, 2113649660, 2113650684, 2113651708, 2113652732, 2113653756, 2113654780, 2113655804, 2113656828,
   2113657852, 2113658876, 2113659900, 2113660924, 2113661948, 2113662972, 2113663996, 2113665020, 2113666044,
   2113667068, 2113668093, 2113669117, 2113670141, 2113671165, 2113672189, 2113673213, 2113674237, 2113675261,
   2113676285, 2113677309, 2113678333, 2113679357, 2113680381, 2113681405, 2113682429, 2113683453, 2113684477,
   2113685501, 2113686525, 2113687549, 2113688573, 2113689597, 2113690621, 2113691645, 2113692669, 2113693693,
   2113694717, 2113695741, 2113696765, 2113697789, 2113698813, 2113699837, 2113700861, 2113701885, 2113702909,
   2113703933, 2113704957, 2113705981, 2113707005, 2113708029, 2113709053, 2113710077, 2113711101, 2113712125,
   2113713149, 2113714173, 2113715197, 2113716221, 2113717245, 2113718269, 2113719293, 2113720317, 2113721341,
   2113722365, 2113723389, 2113724413, 2113725437, 2113726461, 2113727485, 2113728509, 2113729533, 2113730557,
   2113731581, 2113732605, 2113733630, 2113734654, 2113735678, 2113736702, 2113737726, 2113738750, 2113739774,
   2113740798, 2113741822, 2113742846, 2113743870, 2113744894, 2113745918, 2113746942, 2113747966, 2113748990,
   2113750014, 2113751038, 2113752062, 2113753086, 2113754110, 2113755134, 2113756158, 2113757182, 2113758206,
   2113759230, 2113760254, 2113761278, 2113762302, 2113763326, 2113764350, 2113765374, 2113766398, 2113767422,
   2113768446, 2113769470, 2113770494, 2113771518, 2113772542, 2113773566, 2113774590, 2113775614, 2113776638,
   2113777662, 2113778686, 2113779710, 2113780734, 2113781758, 2113782782, 2113783806, 2113784830, 2113785854,
   2113786878, 2113787902, 2113788926, 2113789950, 2113790974, 2113791998, 2113793022, 2113794046, 2113795070,
   2113796094, 2113797118, 2113798142, 2113799167, 2113800191, 2113801215, 2113802239, 2113803263, 2113804287,
   2113805311, 2113806335, 2113807359, 2113808383, 2113809407, 2113810431, 2113811455, 2113812479, 2113813503,
   2113814527, 2113815551, 2113816575, 2113817599, 2113818623, 2113819647, 2113820671, 2113821695, 2113822719,
   2113823743, 2113824767, 2113825791, 2113826815, 2113827839, 2113828863, 2113829887, 2113830911, 2113831935,
   2113832959, 2113833983, 2113835007, 2113836031, 2113837055, 2113838079, 2113839103, 2113840127, 2113841151,
   2113842175, 2113843199, 2113844223, 2113845247, 2113846271, 2113847295, 2113848319, 2113849343, 2113850367,
   2113851391, 2113852415, 2113853439, 2113854463, 2113855487, 2113856511, 2113857535, 2113858559, 2113859583,
   2113860607, 2113861631, 2113862655, 2113863679, 2113864704, 2113865728, 2113866752, 2113867776, 2113868800,
   2113869824, 2113870848, 2113871872, 2113872896, 2113873920, 2113874944, 2113875968, 2113876992, 2113878016,
   2113879040, 2113880064, 2113881088, 2113882112, 2113883136, 2113884160, 2113885184, 2113886208, 2113887232,
   2113888256, 2113889280, 2113890304, 2113891328, 2113892352, 2113893376, 2113894400, 2113895424, 2113896448,
   2113897472, 2113898496, 2113899520, 2113900544, 2113901568, 2113902592, 2113903616, 2113904640, 2113905664,
   2113906688, 2113907712, 2113908736, 2113909760, 2113910784, 2113911808, 2113912832, 2113913856, 2113914880,
   2113915904, 2113916928, 2113917952, 2113918976, 2113920000, 2113921024, 2113922048, 2113923072, 2113924096,
   2113925120, 2113926144, 2113927168, 2113928192, 2113929216]
theorem c15_ok :
    chkList (pipeF 1199570688 65535) 65535 2139095040 30721 1055916016 15360 c15
      32769 1056964608 16384 = true := by decide +kernel
theorem c15_len : 30721 + c15.length = 32769 := (chkList_end c15_ok).1
theorem c15_last : lastS 1055916016 c15 = 1056964608 := (chkList_end c15_ok).2.1

end Dds.F32Thr.FpN16
