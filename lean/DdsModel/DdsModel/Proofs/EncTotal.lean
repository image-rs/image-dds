/-
Helper lemmas of C15: the failing-writer interpreter, the event traces, the format table.
-/
import DdsModel.EncTotal
import DdsModel.Proofs.EncLen
namespace Dds.EncTotal
open Dds

/-! ### `write_all` against a writer that fails after `k` bytes -/

theorem runWrites_none (l : List Nat) : runWrites none l = (.ok, l.sum) := by
  induction l with
  | nil => rfl
  | cons s rest ih => simp [runWrites, ih]

theorem runWrites_ok (l : List Nat) : ∀ k, l.sum ≤ k → runWrites (some k) l = (.ok, l.sum) := by
  induction l with
  | nil => intro k _; rfl
  | cons s rest ih =>
    intro k hk
    simp only [List.sum_cons] at hk
    have h : s ≤ k := by omega
    simp only [runWrites, if_pos h, ih (k - s) (by omega), List.sum_cons]

theorem runWrites_fail (l : List Nat) : ∀ k, k < l.sum → runWrites (some k) l = (.ioError, k) := by
  induction l with
  | nil => intro k hk; simp at hk
  | cons s rest ih =>
    intro k hk
    simp only [List.sum_cons] at hk
    by_cases h : s ≤ k
    · simp only [runWrites, if_pos h, ih (k - s) (by omega)]
      congr 1; omega
    · simp only [runWrites, if_neg h]

theorem performed_no_check (l : List Nat) : ∀ f : Option Nat,
    (performed f l).all (· ≠ .check) = true := by
  induction l with
  | nil => intro f; cases f <;> rfl
  | cons s rest ih =>
    intro f
    cases f with
    | none =>
      simp only [performed, List.all_cons, ih, ne_eq, reduceCtorEq, not_false_eq_true, decide_true,
        Bool.and_self]
    | some k =>
      simp only [performed]
      split <;>
        simp only [List.all_cons, List.all_nil, ih, ne_eq, reduceCtorEq, not_false_eq_true,
          decide_true, Bool.and_self]

theorem checkFirst_of_no_check (t : List Ev) (h : t.all (· ≠ .check) = true) : checkFirst t = true := by
  cases t with
  | nil => rfl
  | cons e rest =>
    cases e with
    | check => simp at h
    | write n =>
      simp only [checkFirst]
      simp only [List.all_cons, Bool.and_eq_true] at h
      exact h.2

theorem sum_zero_all_zero (l : List Nat) (h : l.sum = 0) : ∀ s ∈ l, s = 0 := by
  induction l with
  | nil => intro s hs; cases hs
  | cons a rest ih =>
    intro s hs
    simp only [List.sum_cons] at h
    cases hs with
    | head => omega
    | tail _ hm => exact ih (by omega) s hm


/-- what the theorems need of a row: the shapes `PixelInfo::from(Format)` produces, and the
size multiple is 2x2 exactly for the bi-planar family -/
def Row.good (r : Row) : Bool :=
  match r.px with
  | .fixed _ => r.mulW = 1 && r.mulH = 1
  | .block _ bw bh => 1 ≤ bw && bw ≤ 512 && 1 ≤ bh && r.mulW = 1 && r.mulH = 1
  | .biPlanar _ _ sx sy => sx = 2 && sy = 2 && r.mulW = 2 && r.mulH = 2

theorem table_good : table.all Row.good = true := by decide

theorem good_of_mem {r : Row} (h : r ∈ table) : r.good = true :=
  List.all_eq_true.mp table_good r h

/-- the writer loops write exactly the layout length (C10) -/
theorem writes_sum (r : Row) (hg : r.good = true) (lp : Loop) (hl : lp.ok = true) (w h : Nat)
    (hs : r.supportsSize w h = true) : (writes r.px lp w h).sum = r.px.surfIdeal w h := by
  unfold Row.good at hg
  unfold Row.supportsSize at hs
  cases hpx : r.px with
  | fixed bpp =>
    cases lp with
    | copyAll => simp [writes, PixelInfo.surfIdeal]
    | contig n =>
      have : 1 ≤ n := by simpa [Loop.ok] using hl
      simp only [writes, PixelInfo.surfIdeal]
      exact chunksContig_sum _ _ _ this
    | rows n =>
      have : 1 ≤ n := by simpa [Loop.ok] using hl
      simp only [writes, PixelInfo.surfIdeal]
      exact chunksRows_sum _ _ _ _ this
    | perRow n =>
      have : 1 ≤ n := by simpa [Loop.ok] using hl
      simp only [writes, PixelInfo.surfIdeal]
      exact chunksPerRow_sum _ _ _ _ this
  | block bytes bw bh =>
    rw [hpx] at hg
    simp only [Bool.and_eq_true, decide_eq_true_eq] at hg
    obtain ⟨⟨⟨⟨h1, h2⟩, h3⟩, _⟩, _⟩ := hg
    simp only [writes]
    by_cases hb : bh = 1
    · rw [if_pos hb]
      subst hb
      obtain ⟨c1, c2⟩ := subsample_chunk_ok bw h1 h2
      exact chunksSubsample_sum _ _ _ _ _ h1 c1 c2
    · rw [if_neg hb]
      exact writesBlock_sum _ _ _ _ _ h1 h3
  | biPlanar p1 p2 sx sy =>
    rw [hpx] at hg
    simp only [Bool.and_eq_true, decide_eq_true_eq] at hg hs
    obtain ⟨⟨⟨hx, hy⟩, hmw⟩, hmh⟩ := hg
    subst hx; subst hy
    rw [hmw, hmh] at hs
    simp only [writes]
    exact writesBiPlanar_sum _ _ _ _ hs.1 hs.2

theorem normSize_fst_snd (w h : Nat) :
    normView w h = if w = 0 ∨ h = 0 then (0, 0) else (w, h) := rfl

theorem runWrites_res (f : Option Nat) (l : List Nat) :
    (runWrites f l).1 = .ok ∨ (runWrites f l).1 = .ioError := by
  cases f with
  | none => rw [runWrites_none]; exact Or.inl rfl
  | some k =>
    by_cases h : l.sum ≤ k
    · rw [runWrites_ok l k h]; exact Or.inl rfl
    · rw [runWrites_fail l k (by omega)]; exact Or.inr rfl


/-- `encode` for an encodable row of the table: refused exactly when `supports_size` refuses the
normalised size, having done nothing but the check; otherwise result and byte count are those of
the writes and the trace is their events, after the check for the bi-planar family -/
theorem encode_table (r : Row) (hr : r ∈ table) (he : r.encodable = true) (lp : Loop) (w h : Nat)
    (fault : Option Nat) :
    (r.supportsSize (normView w h).1 (normView w h).2 = false ∧
      encode r lp w h fault = ⟨.invalidSize, 0, [.check]⟩) ∨
    (r.supportsSize (normView w h).1 (normView w h).2 = true ∧
      ∃ pre, (pre = [] ∨ pre = [.check]) ∧ encode r lp w h fault =
        ⟨(runWrites fault (writes r.px lp (normView w h).1 (normView w h).2)).1,
         (runWrites fault (writes r.px lp (normView w h).1 (normView w h).2)).2,
         pre ++ performed fault (writes r.px lp (normView w h).1 (normView w h).2)⟩) := by
  have hg := good_of_mem hr
  unfold Row.good at hg
  unfold encode Row.supportsSize
  simp only [he, Bool.not_true, Bool.false_eq_true, if_false]
  generalize normView w h = s
  obtain ⟨w', h'⟩ := s
  cases hpx : r.px with
  | fixed bpp =>
    rw [hpx] at hg
    simp only [Bool.and_eq_true, decide_eq_true_eq] at hg
    exact Or.inr ⟨by simp [hg.1, hg.2, Nat.mod_one], [], Or.inl rfl, rfl⟩
  | block bytes bw bh =>
    rw [hpx] at hg
    simp only [Bool.and_eq_true, decide_eq_true_eq] at hg
    exact Or.inr ⟨by simp [hg.1.2, hg.2, Nat.mod_one], [], Or.inl rfl, rfl⟩
  | biPlanar p1 p2 sx sy =>
    rw [hpx] at hg
    simp only [Bool.and_eq_true, decide_eq_true_eq] at hg
    rw [hg.1.2, hg.2]
    unfold biPlanarRefuses
    by_cases hc : w' % 2 = 0 ∧ h' % 2 = 0
    · exact Or.inr ⟨by simp [hc.1, hc.2], [.check], Or.inr rfl, by simp [hc.1, hc.2]⟩
    · refine Or.inl ⟨by simpa using hc, ?_⟩
      rw [if_pos (by simp only [Bool.or_eq_true, decide_eq_true_eq]; omega)]

theorem encode_eq_runWrites (r : Row) (hr : r ∈ table) (he : r.encodable = true) (lp : Loop)
    (w h : Nat) (fault : Option Nat)
    (hs : r.supportsSize (normView w h).1 (normView w h).2 = true) :
    (encode r lp w h fault).res = (runWrites fault (writes r.px lp (normView w h).1 (normView w h).2)).1 ∧
    (encode r lp w h fault).bytes = (runWrites fault (writes r.px lp (normView w h).1 (normView w h).2)).2 := by
  rcases encode_table r hr he lp w h fault with ⟨hs', _⟩ | ⟨_, _, _, e⟩
  · rw [hs] at hs'; cases hs'
  · rw [e]; exact ⟨rfl, rfl⟩

end Dds.EncTotal
