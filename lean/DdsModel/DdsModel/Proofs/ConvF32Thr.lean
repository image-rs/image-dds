/-
C04: `fp::n8` and `fp::n16` (`(x * 255.0 + 0.5) as u8`, `(x * 65535.0 + 0.5) as u16`) on ALL 2^32 binary32 bit
patterns, from the kernel-checked threshold tables (`Proofs/F32ThrTab.lean`) and the monotonicity of the software
float (`Proofs/F32Mono.lean`).
-/
import DdsModel.Proofs.F32ThrTab
import DdsModel.Proofs.F32ThrDev
import DdsModel.Conv
namespace Dds.F32Thr
open Dds Dds.CF32 Dds.Conv Dds.Spec Dds.F32Mono

theorem ofNat_255 : ofNat 255 = 0x437F0000 := by decide +kernel
theorem ofNat_65535 : ofNat 65535 = 0x477FFF00 := by decide +kernel

theorem fpn8_eq_pipe (b : Nat) : fpn8 b = pipe 0x437F0000 half 255 b := by
  unfold fpn8 pipe; rw [ofNat_255]

theorem fpn16_eq_pipe (b : Nat) : fpn16 b = pipe 0x477FFF00 half 65535 b := by
  unfold fpn16 pipe; rw [ofNat_65535]

theorem pipeQ_n8 : PipeQ 0x437F0000 255 255 0x7F800000 FpN8.tbl :=
  PipeQ.of_fast (by decide) (by decide) (by decide) (by decide +kernel) FpN8.tbl_ok
theorem pipeQ_n16 : PipeQ 0x477FFF00 65535 65535 0x7F800000 FpN16.tbl :=
  PipeQ.of_fast (by decide) (by decide) (by decide) (by decide +kernel) FpN16.tbl_ok

/-- the binary32 patterns for which `fp::n8` is one code above the nearest (128 patterns) -/
def fpN8Dev : List Nat := devOf FpN8.tbl
/-- the binary32 patterns for which `fp::n16` is one code above the nearest (32 768 patterns) -/
def fpN16Dev : List Nat := devOf FpN16.tbl

theorem fpn8_all (b : Nat) (hb : b < 2 ^ 32) :
    (fpn8 b : Int) = specCode 255 b + (if b ∈ fpN8Dev then 1 else 0) := by
  rw [fpn8_eq_pipe]
  exact pipe_half_all pipeQ_n8 b hb

theorem fpn16_all (b : Nat) (hb : b < 2 ^ 32) :
    (fpn16 b : Int) = specCode 65535 b + (if b ∈ fpN16Dev then 1 else 0) := by
  rw [fpn16_eq_pipe]
  exact pipe_half_all pipeQ_n16 b hb

theorem fpn8_dev (b : Nat) (hm : b ∈ fpN8Dev) :
    b + 1 < 0x7F800000 ∧ (fpn8 b : Int) = toCode 255 (toRat b) + 1 ∧ 1 ≤ fpn8 b ∧
    toRat b < ((2 * fpn8 b - 1 : Nat) : Rat) / ((2 * 255 : Nat) : Rat) ∧
    ((2 * fpn8 b - 1 : Nat) : Rat) / ((2 * 255 : Nat) : Rat) ≤ toRat (b + 1) ∧
    admissible 255 (toRat b) (fpn8 b) = true := by
  rw [fpn8_eq_pipe]
  exact pipeQ_n8.dev_facts b hm

theorem fpn16_dev (b : Nat) (hm : b ∈ fpN16Dev) :
    b + 1 < 0x7F800000 ∧ (fpn16 b : Int) = toCode 65535 (toRat b) + 1 ∧ 1 ≤ fpn16 b ∧
    toRat b < ((2 * fpn16 b - 1 : Nat) : Rat) / ((2 * 65535 : Nat) : Rat) ∧
    ((2 * fpn16 b - 1 : Nat) : Rat) / ((2 * 65535 : Nat) : Rat) ≤ toRat (b + 1) ∧
    admissible 65535 (toRat b) (fpn16 b) = true := by
  rw [fpn16_eq_pipe]
  exact pipeQ_n16.dev_facts b hm


theorem fpN8Dev_eq : fpN8Dev = 0x3B008080 :: (List.range 127).map (fun j => 0x3F000000 + (j + 1) * 0x010101) := by
  decide +kernel

/-- closed form of the 128 exceptions of `fp::n8`: the largest float below 1/510 and the largest floats below
`1/2 + j/255`, `j = 1 … 127` (patterns `0x3F000000 + j·0x010101`) -/
theorem fpN8Dev_closed (b : Nat) :
    b ∈ fpN8Dev ↔ (b = 0x3B008080 ∨ (0x3F000000 < b ∧ b < 0x3F800000 ∧ (b - 0x3F000000) % 0x010101 = 0)) := by
  rw [fpN8Dev_eq]
  simp only [List.mem_cons, List.mem_map, List.mem_range]
  constructor
  · rintro (h | ⟨j, hj, rfl⟩)
    · exact Or.inl h
    · right; omega
  · rintro (h | ⟨h1, h2, h3⟩)
    · exact Or.inl h
    · right
      exact ⟨(b - 0x3F000000) / 0x010101 - 1, by omega, by omega⟩

theorem fpN16Dev_length : fpN16Dev.length = 32768 := devOf_length FpN16.tbl_ok

end Dds.F32Thr
