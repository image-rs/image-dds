/-
The rational value of a non-negative finite binary32 pattern of `ConvF32.lean` is `pval / 2^149`
(`Proofs/F32Mono.lean`); comparing two fractions of naturals.
-/
import DdsModel.Proofs.F32Mono
import DdsModel.Proofs.ConvFastSpec
namespace Dds.F32Mono
open Dds Dds.CF32 Dds.ConvFast

theorem natCast_mul_pow2_pval (m B : Nat) (hB : 851 ≤ B) :
    (m : Rat) * CF32.pow2 ((B : Int) - 1000) = mkRat ((m * 2 ^ (B - 851) : Nat) : Int) (2 ^ 149) := by
  rw [pow2_eq, F32.Fast.natCast_mul_pow2]
  by_cases h : 1000 ≤ B
  · have h' : (0 : Int) ≤ (B : Int) - 1000 := by omega
    have e : ((B : Int) - 1000).toNat = B - 1000 := by omega
    have e2 : B - 851 = B - 1000 + 149 := by omega
    rw [if_pos h', e, e2, Nat.pow_add, ← Nat.mul_assoc]
    have := Rat.mkRat_mul_right (n := ((m * 2 ^ (B - 1000) : Nat) : Int)) (d := 1) (a := 2 ^ 149)
      (Nat.pos_iff_ne_zero.mp (Nat.two_pow_pos 149))
    rw [Nat.one_mul] at this
    rw [← this]
    congr 1
  · have h' : ¬ (0 : Int) ≤ (B : Int) - 1000 := by omega
    have e : (-((B : Int) - 1000)).toNat = 1000 - B := by omega
    have e2 : 2 ^ 149 = 2 ^ (1000 - B) * 2 ^ (B - 851) := by
      have e3 : 149 = 1000 - B + (B - 851) := by omega
      rw [← Nat.pow_add, ← e3]
    rw [if_neg h', e, e2]
    have := Rat.mkRat_mul_right (n := (m : Int)) (d := 2 ^ (1000 - B)) (a := 2 ^ (B - 851))
      (Nat.pos_iff_ne_zero.mp (Nat.two_pow_pos _))
    rw [← this]
    congr 1

theorem toRat_pval (b : Nat) (hb : b < 0x7F800000) : toRat b = mkRat (pval b : Int) (2 ^ 149) := by
  obtain ⟨a1, a2, a3, a4, a5⟩ := posfin b hb
  have he : ¬ (expField b == 255) = true := by
    have : expField b ≠ 255 := by rw [ConvFast.expField_eq]; omega
    exact fun h => this (beq_iff_eq.mp h)
  unfold toRat
  rw [if_neg he]
  simp only [a3, Bool.false_eq_true, if_false, a4, a5]
  unfold pval
  exact natCast_mul_pow2_pval _ _ (bexpR_ge b)

theorem toRat_natDiv (b : Nat) (hb : b < 0x7F800000) : toRat b = (pval b : Rat) / ((2 ^ 149 : Nat) : Rat) := by
  rw [toRat_pval b hb]
  exact mkRat_eq_natDiv _ _

theorem natCast_mul_pow2_nonneg (a : Nat) (e : Int) : 0 ≤ (a : Rat) * CF32.pow2 e := by
  rw [pow2_eq, F32.Fast.natCast_mul_pow2]
  split
  · exact mkRat_nonneg _ _
  · exact mkRat_nonneg _ _

theorem toRat_nonpos_of_neg (b : Nat) (hn : isNeg b = true) : toRat b ≤ 0 := by
  unfold toRat
  by_cases he : (expField b == 255) = true
  · rw [if_pos he]; exact Rat.le_refl
  · rw [if_neg he]
    show (if isNeg b = true then -((mant b : Rat) * CF32.pow2 (expo b)) else (mant b : Rat) * CF32.pow2 (expo b)) ≤ 0
    rw [if_pos hn]
    have := natCast_mul_pow2_nonneg (mant b) (expo b)
    rw [← Rat.neg_le_neg_iff, Rat.neg_neg]
    exact this

theorem natDiv_lt_natDiv (N D A B : Nat) (hD : 0 < D) (hB : 0 < B) :
    (N : Rat) / (D : Rat) < (A : Rat) / (B : Rat) ↔ N * B < A * D := by
  have e : (A : Rat) / (B : Rat) * (D : Rat) = ((A * D : Nat) : Rat) / (B : Rat) := by
    rw [Rat.div_def, Rat.div_def, Rat.natCast_mul, Rat.mul_assoc, Rat.mul_comm (B : Rat)⁻¹, ← Rat.mul_assoc]
  rw [Rat.div_lt_iff (Rat.natCast_pos.mpr hD), e, Rat.lt_div_iff (Rat.natCast_pos.mpr hB), ← Rat.natCast_mul,
    Rat.natCast_lt_natCast]

theorem natDiv_le_natDiv (N D A B : Nat) (hD : 0 < D) (hB : 0 < B) :
    (N : Rat) / (D : Rat) ≤ (A : Rat) / (B : Rat) ↔ N * B ≤ A * D := by
  rw [← Rat.not_lt, natDiv_lt_natDiv A B N D hB hD]
  omega

end Dds.F32Mono
