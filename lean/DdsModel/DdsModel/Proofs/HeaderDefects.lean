/- Lemmas for C18.defect_recovered: how a defective raw header parses and why the file-length
repair then finds a header of the right length. -/
import DdsModel.Proofs.Header
namespace Dds

/-- the format part of a header: all a pixel-info detection may depend on -/
def Header.fmtKey : Header → Dx9PixelFormat × Nat
  | .dx9 x => (x.pixelFormat, 0)
  | .dx10 x => (.fourCC FOURCC_DX10, x.dxgiFormat)

/-- the pixel info depends on the pixel format / DXGI format only -/
def PiStable (pi : Header → Option PixelInfo) : Prop :=
  ∀ a b : Header, a.fmtKey = b.fmtKey → pi a = pi b

/-- `r` is a raw header that permissive parsing (before the file-length repair) reads as `h` -/
structure RawOf (r : RawHeader) (h : Header) : Prop where
  size : r.size = RAW_HEADER_SIZE ∨ r.size = 24
  pf : Dx9PixelFormat.fromRaw true r.pixelFormat = .ok h.pf
  height : r.height = h.height
  width : r.width = h.width
  depth : r.parsedDepth = h.depth
  mips : parsedMips r.mipmapCount = h.mipmapCount
  flags : toRawFlagForm r.flags
  caps : r.caps = 0x1000 ∨ r.caps = 0x401008
  dx9 : ∀ x, h = .dx9 x → r.caps2 = x.caps2 ∧ r.dx10 = none
  dx10 : ∀ x, h = .dx10 x → dxgiValid x.dxgiFormat = true ∧
    ∃ a v, r.dx10 = some ⟨x.dxgiFormat, x.resourceDimension.toU32, x.miscFlag, a, v⟩ ∧
      (if x.resourceDimension = .tex3D ∧ a ≠ 1 then 1 else a) = x.arraySize ∧
      parseAlphaMode true (v % 8) = some x.alphaMode

theorem RawOf.parse {r : RawHeader} {h : Header} (ro : RawOf r h) :
    Header.fromRawNoFix true r = .ok h := by
  refine Header.fromRawNoFix_eq_ok.mpr ⟨ro.size.imp_right (And.intro rfl), _, ro.pf, ?_⟩
  rw [parsedMips_of_flag ro.flags.mip, ro.depth, ro.mips, ro.height, ro.width]
  cases h with
  | dx9 x =>
    obtain ⟨hc, hd⟩ := ro.dx9 x rfl
    rw [hd, hc]; rfl
  | dx10 x =>
    obtain ⟨hv, a, v, hd, ha, hal⟩ := ro.dx10 x rfl
    rw [hd]
    refine ⟨x, Dx10Header.fromRaw_eq_ok.mpr ⟨hv, _, _, x.resourceDimension.ofU32_toU32, hal,
      fun _ => Or.inr rfl, ?_⟩, rfl⟩
    rw [ha]; rfl

theorem RawOf.ofToRaw (pi : Header → Option PixelInfo) (h : Header) (hwf : h.WF) :
    RawOf (h.toRaw pi) h := by
  refine ⟨Or.inl (Header.toRaw_size pi h), Header.toRaw_pf pi true h hwf, Header.toRaw_height pi h,
    Header.toRaw_width pi h, Header.toRaw_parsedDepth pi h, ?_, (Header.toRaw_flags pi h).1, ?_, ?_, ?_⟩
  · rw [Header.toRaw_mipmapCount, parsedMips, if_neg (by have := hwf.dims.2.2.2.1; omega)]
  · rw [Header.toRaw_caps]
    split
    · exact Or.inr (by decide)
    · exact Or.inl (by decide)
  · intro x hx; subst hx; exact ⟨rfl, rfl⟩
  · intro x hx; subst hx
    obtain ⟨_, _, _, _, _, hv, _, _, h3⟩ := hwf
    refine ⟨hv, x.arraySize, x.alphaMode.toU32, rfl, if_neg (fun hc => hc.2 (h3 hc.1)), ?_⟩
    rw [Nat.mod_eq_of_lt (Nat.lt_trans x.alphaMode.toU32_lt (by decide))]
    exact parseAlphaMode_eq_some.mpr (Or.inl x.alphaMode.ofU32_toU32)

theorem RawOf.headerSize24 {r : RawHeader} {h : Header} (ro : RawOf r h) :
    RawOf (Defect.headerSize24.apply r) h :=
  { ro with size := Or.inr rfl }

theorem RawOf.pfSize {r : RawHeader} {h : Header} (ro : RawOf r h) (n : Nat) (hn : n = 0 ∨ n = 24) :
    RawOf ((Defect.pfSize n).apply r) h :=
  { ro with
    pf := Dx9PixelFormat.fromRaw_eq_ok.mpr ⟨Or.inr ⟨rfl, hn⟩, (Dx9PixelFormat.fromRaw_eq_ok.mp ro.pf).2⟩ }

theorem RawOf.mipCount {r : RawHeader} {h : Header} (ro : RawOf r h) (m : Nat) :
    RawOf ((Defect.mipCount m).apply r) (h.setMipmapCount (parsedMips m)) := by
  cases h with
  | dx9 y =>
    exact ⟨ro.size, ro.pf, ro.height, ro.width, ro.depth, rfl, ro.flags, ro.caps,
      fun x hx => (by cases hx; exact ro.dx9 y rfl), nofun⟩
  | dx10 y =>
    exact ⟨ro.size, ro.pf, ro.height, ro.width, ro.depth, rfl, ro.flags, ro.caps,
      nofun, fun x hx => (by cases hx; exact ro.dx10 y rfl)⟩

theorem RawOf.arraySize {r : RawHeader} {x : Dx10Header} (ro : RawOf r (.dx10 x)) (a : Nat) :
    RawOf ((Defect.arraySize a).apply r)
      (.dx10 { x with arraySize := if x.resourceDimension = .tex3D ∧ a ≠ 1 then 1 else a }) := by
  obtain ⟨hv, a0, v0, hd, _, hal⟩ := ro.dx10 x rfl
  refine ⟨ro.size, ro.pf, ro.height, ro.width, ro.depth, ro.mips, ro.flags, ro.caps,
    nofun, fun y hy => ?_⟩
  cases hy
  refine ⟨hv, a, v0, ?_, rfl, hal⟩
  show Option.map _ r.dx10 = _
  rw [hd]; rfl

theorem RawOf.miscFlags2 {r : RawHeader} {x : Dx10Header} (ro : RawOf r (.dx10 x)) (v : Nat)
    (hv5 : 5 ≤ v % 8) :
    RawOf ((Defect.miscFlags2 v).apply r) (.dx10 { x with alphaMode := .unknown }) := by
  obtain ⟨hv, a0, v0, hd, ha, _⟩ := ro.dx10 x rfl
  refine ⟨ro.size, ro.pf, ro.height, ro.width, ro.depth, ro.mips, ro.flags, ro.caps,
    nofun, fun y hy => ?_⟩
  cases hy
  refine ⟨hv, a0, v, ?_, ha, parseAlphaMode_eq_some.mpr (Or.inr ⟨AlphaMode.ofU32_none hv5, rfl, rfl⟩)⟩
  show Option.map _ r.dx10 = _
  rw [hd]; rfl

theorem RawOf.pfFlags {r : RawHeader} {x : Dx9Header} (ro : RawOf r (.dx9 x)) (f c : Nat)
    (hpf : r.pixelFormat = RawPixelFormat.newFourCC c) (hx : x.pixelFormat = .fourCC c)
    (hc0 : c ≠ FOURCC_NONE) (hc1 : c ≠ FOURCC_DX10) : RawOf ((Defect.pfFlags f).apply r) (.dx9 x) := by
  refine { ro with pf := ?_ }
  show Dx9PixelFormat.fromRaw true { r.pixelFormat with flags := f } = .ok x.pixelFormat
  rw [hpf, hx]
  exact Dx9PixelFormat.fromRaw_eq_ok.mpr ⟨Or.inl rfl, Or.inl ⟨Or.inr ⟨rfl, rfl, hc0, hc1⟩, rfl⟩⟩

/-- no `RawOf` for the result: with the mip flags dropped the flag words are not of the `to_raw` form -/
theorem RawOf.dropMipFlags_parse {r : RawHeader} {h : Header} (ro : RawOf r h) :
    Header.fromRawNoFix true (Defect.dropMipFlags.apply r) = .ok (h.setMipmapCount 1) := by
  have hf1 : bitSet (clearBit r.flags DDSD_MIPMAPCOUNT) DDSD_DEPTH = bitSet r.flags DDSD_DEPTH ∧
      bitSet (clearBit r.flags DDSD_MIPMAPCOUNT) DDSD_MIPMAPCOUNT = false := by
    rcases ro.flags with h | h | h | h | h | h <;> rw [h] <;> decide
  have hc : bitSet (clearBit (clearBit r.caps CAPS_COMPLEX) CAPS_MIPMAP) CAPS_COMPLEX = false ∧
      bitSet (clearBit (clearBit r.caps CAPS_COMPLEX) CAPS_MIPMAP) CAPS_MIPMAP = false := by
    rcases ro.caps with h | h <;> rw [h] <;> decide
  have hp := (ro.mipCount 1).parse
  rw [show parsedMips 1 = 1 from rfl] at hp
  refine (Header.fromRawNoFix_congr (r := Defect.dropMipFlags.apply r) (r' := (Defect.mipCount 1).apply r) rfl rfl rfl rfl ?_ ?_ rfl rfl).trans hp
  · simp only [RawHeader.parsedDepth, Defect.apply, hf1.1]
    rfl
  · rw [parsedMips_of_flag (r := (Defect.mipCount 1).apply r) ro.flags.mip]
    simp only [RawHeader.parsedMips, Defect.apply, hf1.2, hc.1, hc.2, Bool.or_false, Bool.false_eq_true,
      if_false]
    rfl

theorem Header.fixCore_finds {test : Header → Bool} {e : Nat} {h0 : Header}
    (hc : test h0 = true ∨ (∃ h1, h0.arrayZero? e = some h1 ∧ test h1 = true) ∨
      (∃ c, ((h0.arrayZero? e).getD h0).cubeSix? = some c ∧ test c = true) ∨
      (∃ g ∈ ((h0.arrayZero? e).getD h0).mipGuesses,
        test (((h0.arrayZero? e).getD h0).setMipmapCount g) = true)) :
    (h0.fixCore test e).2 = true := by
  match h0.fixCore test e, Header.fixCore_result test e h0 with
  | _, .same _ | _, .zero .. | _, .six .. | _, .mips .. => rfl
  | _, .fail h1 hh1 t0 t1 t6 tg =>
    exfalso
    subst hh1
    rcases hc with hc | ⟨h1', hz, hc⟩ | ⟨c, hz, hc⟩ | ⟨g, hg, hc⟩
    · rw [t0] at hc; cases hc
    · rw [hz] at t1; rw [Option.getD_some] at t1; rw [t1] at hc; cases hc
    · rw [t6 c hz] at hc; cases hc
    · rw [tg g hg] at hc; cases hc

theorem Header.layoutLen_alpha (px : PixelInfo) (x : Dx10Header) (a : AlphaMode) :
    (Header.dx10 { x with alphaMode := a }).layoutLen px = (Header.dx10 x).layoutLen px := rfl

theorem Header.setMipmapCount_self (h : Header) : h.setMipmapCount h.mipmapCount = h := by
  cases h <;> rfl

theorem Header.setMipmapCount_set (h : Header) (a b : Nat) :
    (h.setMipmapCount a).setMipmapCount b = h.setMipmapCount b := by
  cases h <;> rfl

theorem Header.fmtKey_setMipmapCount (h : Header) (m : Nat) : (h.setMipmapCount m).fmtKey = h.fmtKey := by
  cases h <;> rfl

theorem Header.byteLen_setMipmapCount (h : Header) (m : Nat) : (h.setMipmapCount m).byteLen = h.byteLen := by
  cases h <;> rfl

theorem Header.arraySize_setMipmapCount (h : Header) (m : Nat) :
    (h.setMipmapCount m).arraySize = h.arraySize := by cases h <;> rfl

theorem Header.fmtKey_core (h : Header) : h.core.fmtKey = h.fmtKey := by cases h <;> rfl

theorem Header.testLen_of {px : PixelInfo} {L : Nat} {h : Header} (hL : h.layoutLen px = some L) :
    Header.testLen px L h = true := by
  rw [Header.testLen, hL]; exact beq_self_eq_true _

/-- `r`, a damaged image of the header `h` whose data section has length `L` and pixel info `px`, is parsed —
permissively, with the true file length — to a header of that layout length and pixel info -/
def Recovers (pi : Header → Option PixelInfo) (r : RawHeader) (h : Header) (px : PixelInfo) (L : Nat) : Prop :=
  ∃ h', Header.fromRaw pi (ParseOptions.newPermissive (some (4 + h.byteLen + L))) r = .ok h' ∧
    h'.layoutLen px = some L ∧ pi h' = some px

theorem recovered_of_finds {pi : Header → Option PixelInfo} (hs : PiStable pi) {r : RawHeader} {h h0 : Header}
    {px : PixelInfo} {L : Nat} (hpx : pi h = some px) (hparse : Header.fromRawNoFix true r = .ok h0)
    (hbl : h0.byteLen = h.byteLen) (hk : h0.fmtKey = h.fmtKey)
    (hfind : (h0.fixCore (Header.testLen px L) L).2 = true) : Recovers pi r h px L := by
  have hsub : ckSub (4 + h.byteLen + L) (4 + h0.byteLen) = some L := ckSub_eq_some_iff.mpr (by omega)
  refine ⟨(h0.fixCore (Header.testLen px L) L).1, ?_, ?_, ?_⟩
  · simp only [Header.fromRaw_perm, hparse, Header.fixBasedOnFileLen_eq hsub (hs h0 h hk ▸ hpx)]
  · exact eq_of_beq ((Header.fixCore_snd _ _ _).1 hfind)
  · rw [← hpx]
    exact hs _ _ (by rw [← Header.fmtKey_core, Header.fixCore_core, Header.fmtKey_core, hk])

theorem Header.arrayZero?_none {h : Header} (e : Nat) (ha : h.arraySize ≠ 0) : h.arrayZero? e = none := by
  cases h with
  | dx9 x => rfl
  | dx10 x => exact if_neg fun hc => ha hc.2

/-- the candidates after a wrong mip count contain the true header -/
theorem finds_mips {test : Header → Bool} {L : Nat} {h : Header} (pm : Nat) (ht : test h = true)
    (harr : h.arraySize ≠ 0) (hg : h.mipmapCount ∈ (h.setMipmapCount pm).mipGuesses) :
    ((h.setMipmapCount pm).fixCore test L).2 = true := by
  have hz : (h.setMipmapCount pm).arrayZero? L = none :=
    Header.arrayZero?_none L (by rw [Header.arraySize_setMipmapCount]; exact harr)
  refine Header.fixCore_finds (Or.inr (Or.inr (Or.inr ⟨h.mipmapCount, ?_, ?_⟩))) <;> rw [hz]
  · exact hg
  · rw [Option.getD_none, Header.setMipmapCount_set, Header.setMipmapCount_self]; exact ht

theorem defect_recovered_single (pi : Header → Option PixelInfo) (hs : PiStable pi) (h : Header)
    (hwf : h.WF) (px : PixelInfo) (hpx : pi h = some px) (L : Nat) (hL : h.layoutLen px = some L)
    (hLpos : 0 < L) (harr : h.arraySize ≠ 0) (d : Defect) (happ : d.Applies h) :
    Recovers pi (d.apply (h.toRaw pi)) h px L := by
  have ro := RawOf.ofToRaw pi h hwf
  have ht := Header.testLen_of hL
  cases d with
  | headerSize24 =>
    exact recovered_of_finds hs hpx ro.headerSize24.parse rfl rfl (Header.fixCore_finds (Or.inl ht))
  | pfSize n =>
    exact recovered_of_finds hs hpx (ro.pfSize n happ).parse rfl rfl (Header.fixCore_finds (Or.inl ht))
  | pfFlags f =>
    cases h with
    | dx10 x => exact happ.elim
    | dx9 x =>
      cases hp : x.pixelFormat with
      | mask m => rw [Defect.Applies, hp] at happ; cases happ.2.2
      | fourCC c =>
        rw [Defect.Applies, hp] at happ
        have hc1 : c ≠ FOURCC_DX10 := by
          have := hwf.2.2.2.2.2.2; rw [hp] at this; exact this.2
        have hpf : (Header.toRaw pi (.dx9 x)).pixelFormat = RawPixelFormat.newFourCC c := by
          rw [Header.toRaw_dx9_pixelFormat, hp]
        exact recovered_of_finds hs hpx (ro.pfFlags f c hpf hp (bne_iff_ne.mp happ.2.2) hc1).parse rfl rfl
          (Header.fixCore_finds (Or.inl ht))
  | mipCount m =>
    exact recovered_of_finds hs hpx (ro.mipCount m).parse (Header.byteLen_setMipmapCount _ _)
      (Header.fmtKey_setMipmapCount _ _) (finds_mips _ ht harr happ.2)
  | dropMipFlags =>
    exact recovered_of_finds hs hpx ro.dropMipFlags_parse (Header.byteLen_setMipmapCount _ _)
      (Header.fmtKey_setMipmapCount _ _) (finds_mips _ ht harr happ)
  | miscFlags2 v =>
    cases h with
    | dx9 x => exact happ.elim
    | dx10 x =>
      exact recovered_of_finds hs hpx (ro.miscFlags2 v happ.2).parse rfl rfl (Header.fixCore_finds (Or.inl ht))
  | arraySize a =>
    cases h with
    | dx9 x => exact happ.elim
    | dx10 x =>
      obtain ⟨_, h1, hcases⟩ := happ
      have hx1 : ({ x with arraySize := 1 } : Dx10Header) = x := h1 ▸ rfl
      have hp := (ro.arraySize a).parse
      by_cases h3 : x.resourceDimension = .tex3D ∧ a ≠ 1
      · rw [if_pos h3, hx1] at hp
        exact recovered_of_finds hs hpx hp rfl rfl (Header.fixCore_finds (Or.inl ht))
      · rw [if_neg h3] at hp
        refine recovered_of_finds hs hpx hp rfl rfl (Header.fixCore_finds ?_)
        rcases hcases with ha | ⟨ha, h2d, hcube⟩ | h3'
        · subst ha
          refine Or.inr (Or.inl ⟨.dx10 x, ?_, ht⟩)
          rw [Header.arrayZero?, if_pos ⟨hLpos, rfl⟩, hx1]
        · subst ha
          refine Or.inr (Or.inr (Or.inl ⟨.dx10 x, ?_, ht⟩))
          rw [Header.arrayZero?_none (h := .dx10 { x with arraySize := 6 }) L (show (6 : Nat) ≠ 0 by decide), Option.getD_none, Header.cubeSix?,
            if_pos ⟨rfl, h2d, hcube⟩, hx1]
        · have ha : a = 1 := Decidable.byContradiction fun ha => h3 ⟨h3', ha⟩
          subst ha
          rw [hx1]
          exact Or.inl ht

theorem defect_recovered_array0_mips (pi : Header → Option PixelInfo) (hs : PiStable pi)
    (x : Dx10Header) (hwf : (Header.dx10 x).WF) (px : PixelInfo) (hpx : pi (.dx10 x) = some px) (L : Nat)
    (hL : (Header.dx10 x).layoutLen px = some L) (hLpos : 0 < L) (harr : x.arraySize = 1)
    (md : Defect) (hmd : (∃ m, md = .mipCount m) ∨ md = .dropMipFlags) (happ : md.Applies (.dx10 x)) :
    Recovers pi (Defect.applyAll [.arraySize 0, md] ((Header.dx10 x).toRaw pi)) (.dx10 x) px L := by
  have roA := (RawOf.ofToRaw pi (.dx10 x) hwf).arraySize 0
  have ht := Header.testLen_of hL
  have hx1 : ({ x with arraySize := 1 } : Dx10Header) = x := harr ▸ rfl
  -- the header read after both defects shows array size 0 (1 for a 3D texture) and some mip count `pm`
  obtain ⟨pm, hparse, hg⟩ : ∃ pm, Header.fromRawNoFix true
        (Defect.applyAll [.arraySize 0, md] ((Header.dx10 x).toRaw pi)) = .ok ((Header.dx10
          { x with arraySize := if x.resourceDimension = .tex3D ∧ (0 : Nat) ≠ 1 then 1 else 0 }).setMipmapCount pm) ∧
      (Header.dx10 x).mipmapCount ∈ ((Header.dx10 x).setMipmapCount pm).mipGuesses := by
    rcases hmd with ⟨m, rfl⟩ | rfl
    · exact ⟨_, (roA.mipCount m).parse, happ.2⟩
    · exact ⟨_, roA.dropMipFlags_parse, happ⟩
  refine recovered_of_finds hs hpx hparse rfl rfl ?_
  split
  · rw [hx1]
    exact finds_mips pm ht (by rw [Header.arraySize, harr]; decide) hg
  · have hz : ((Header.dx10 { x with arraySize := 0 }).setMipmapCount pm).arrayZero? L =
        some ((Header.dx10 x).setMipmapCount pm) := by
      rw [Header.setMipmapCount, Header.arrayZero?, if_pos ⟨hLpos, rfl⟩]
      exact congrArg (fun y => some ((Header.dx10 y).setMipmapCount pm)) hx1
    refine Header.fixCore_finds (Or.inr (Or.inr (Or.inr ⟨(Header.dx10 x).mipmapCount, ?_, ?_⟩))) <;> rw [hz]
    · exact hg
    · rw [Option.getD_some, Header.setMipmapCount_set, Header.setMipmapCount_self]; exact ht

end Dds
