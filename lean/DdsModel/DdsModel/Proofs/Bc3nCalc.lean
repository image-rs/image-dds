/-
BC3n `calc_b`: the per-channel part of the computation (`x·x` with `x = r·(2/255) − 1`, and `1 − x·x`) is
tabulated for the 256 channel values (tables checked by kernel evaluation of the integer float operations
of `Proofs/F32Fast.lean`, which are proved equal to the model's for all arguments); what remains per pair
`(r, g)` is `tailF t yy = toU8 (sqrt (max0 (t − yy)) · 127.5 + 128)`, evaluated with the kernel-friendly operations
of `Proofs/F32Raw.lean` (also proved equal to the model's for all arguments).
-/
import DdsModel.Proofs.F32Raw
import DdsModel.BcSpec
namespace Dds.Bc3n
open Dds Dds.F32
open Dds.F32.Fast (force force_eq)

/-- `2.0 / 255.0` -/
def kLit : Nat := 0x3C008081
/-- `1.0` -/
def oneLit : Nat := 0x3F800000
/-- `0.5 * 255.0` -/
def c127h : Nat := 0x42FF0000
/-- `0.5 * 255.0 + 0.5` -/
def c128 : Nat := 0x43000000

theorem consts : F32.divLit 2 255 = kLit ∧ F32.ofNat 1 = oneLit ∧ F32.divLit 255 2 = c127h ∧ F32.ofNat 128 = c128 := by
  decide +kernel

/-- `x * x` for the channel value `r` -/
def xxF (r : Nat) : Nat :=
  let x := Fast.sub (Fast.mul (roundF32Q r 1) kLit) oneLit
  Fast.mul x x
/-- `1.0 - x * x` -/
def tF (r : Nat) : Nat := Fast.sub oneLit (xxF r)
/-- the part of `calc_b` that depends on both channels -/
def tailF (t yy : Nat) : Nat :=
  force (Raw.subMax t yy) fun w => force (Raw.sqrt w) fun z => force (Raw.mul z c127h) fun p =>
    force (Raw.add p c128) fun q => Raw.toU8 q

/-- `calc_b`, operation by operation as in `Bc.calcB`, on the integer float operations -/
theorem calcB_eq (r g : Nat) : Bc.calcB r g = tailF (tF r) (xxF g) := by
  unfold Bc.calcB tailF tF xxF
  simp only [force_eq, consts.1, consts.2.1, consts.2.2.1, consts.2.2.2, Raw.toU8_eq, Raw.add_eq, Raw.mul_eq, Raw.sqrt_eq,
    Raw.subMax_eq, Fast.mul_eq, Fast.sub_eq, Fast.ofNat_eq]

def xxTab : List Nat :=
  [1065353216, 1065091076, 1064831000, 1064572988, 1064317041, 1064063157, 1063811338, 1063561582,
   1063313891, 1063068264, 1062824701, 1062583202, 1062343767, 1062106396, 1061871089, 1061637847,
   1061406668, 1061177554, 1060950503, 1060725517, 1060502595, 1060281737, 1060062943, 1059846213,
   1059631547, 1059418945, 1059208408, 1058999934, 1058793525, 1058589180, 1058386898, 1058186681,
   1057988528, 1057792439, 1057598414, 1057406454, 1057216557, 1057028724, 1056721304, 1056353895,
   1055990614, 1055631462, 1055276438, 1054925542, 1054578774, 1054236134, 1053897623, 1053563240,
   1053232982, 1052906855, 1052584857, 1052266986, 1051953244, 1051643630, 1051338144, 1051036786,
   1050739557, 1050446455, 1050157482, 1049872637, 1049591920, 1049315332, 1049042871, 1048774539,
   1048444670, 1047924518, 1047412623, 1046908984, 1046413602, 1045926475, 1045447606, 1044976992,
   1044514635, 1044060534, 1043614690, 1043177102, 1042747771, 1042326695, 1041913877, 1041509314,
   1041113008, 1040724958, 1040345165, 1039759865, 1039033303, 1038323255, 1037629720, 1036952697,
   1036292187, 1035648189, 1035020705, 1034409733, 1033815274, 1033237328, 1032675894, 1032130973,
   1031406338, 1030382548, 1029391783, 1028434044, 1027509330, 1026617641, 1025758979, 1024933341,
   1024140729, 1023352110, 1021898988, 1020511918, 1019190898, 1017935929, 1016747012, 1015624145,
   1014113091, 1012131562, 1010282135, 1008564809, 1006979586, 1004419970, 1001777932, 999400098,
   996328583, 992629730, 989062828, 983778755, 977635861, 969511433, 957423953, 931201152,
   931201666, 957424146, 969511594, 977635974, 983778827, 989062916, 992629782, 996328643,
   999400132, 1001777970, 1004420012, 1006979609, 1008564835, 1010282162, 1012131591, 1014113122,
   1015624162, 1016747029, 1017935948, 1019190918, 1020511938, 1021899010, 1023352133, 1024140741,
   1024933354, 1025758991, 1026617655, 1027509344, 1028434058, 1029391798, 1030382563, 1031406354,
   1032130977, 1032675898, 1033237332, 1033815278, 1034409737, 1035020709, 1035648194, 1036292192,
   1036952702, 1037629725, 1038323260, 1039033309, 1039759870, 1040345168, 1040724961, 1041113011,
   1041509317, 1041913880, 1042326699, 1042747774, 1043177105, 1043614693, 1044060538, 1044514639,
   1044976996, 1045447609, 1045926479, 1046413605, 1046908988, 1047412627, 1047924522, 1048444674,
   1048774545, 1049042877, 1049315338, 1049591927, 1049872643, 1050157489, 1050446462, 1050739563,
   1051036793, 1051338151, 1051643637, 1051953251, 1052266993, 1052584864, 1052906863, 1053232990,
   1053563245, 1053897628, 1054236140, 1054578779, 1054925547, 1055276443, 1055631467, 1055990620,
   1056353901, 1056721309, 1057028727, 1057216560, 1057406456, 1057598417, 1057792442, 1057988531,
   1058186684, 1058386901, 1058589183, 1058793528, 1058999937, 1059208411, 1059418949, 1059631550,
   1059846216, 1060062946, 1060281740, 1060502598, 1060725520, 1060950507, 1061177557, 1061406672,
   1061637850, 1061871093, 1062106400, 1062343770, 1062583205, 1062824704, 1063068268, 1063313895,
   1063561586, 1063811342, 1064063161, 1064317045, 1064572992, 1064831004, 1065091080, 1065353216]

def tTab : List Nat :=
  [0, 1015021312, 1023343872, 1027505216, 1031600368, 1033730648, 1035745200, 1037743248,
   1039724776, 1040938592, 1041912844, 1042878840, 1043836580, 1044786064, 1045727292, 1046660260,
   1047584976, 1048501432, 1048992818, 1049442790, 1049888634, 1050330350, 1050767938, 1051201398,
   1051630730, 1052055934, 1052477008, 1052893956, 1053306774, 1053715464, 1054120028, 1054520462,
   1054916768, 1055308946, 1055696996, 1056080916, 1056460710, 1056836376, 1057086260, 1057269964,
   1057451605, 1057631181, 1057808693, 1057984141, 1058157525, 1058328845, 1058498100, 1058665292,
   1058830421, 1058993484, 1059154484, 1059313419, 1059470290, 1059625097, 1059777840, 1059928519,
   1060077134, 1060223684, 1060368171, 1060510594, 1060650952, 1060789246, 1060925476, 1061059642,
   1061191744, 1061321782, 1061449756, 1061575666, 1061699512, 1061821293, 1061941010, 1062058664,
   1062174253, 1062287778, 1062399240, 1062508636, 1062615969, 1062721238, 1062824443, 1062925584,
   1063024660, 1063121672, 1063216621, 1063309505, 1063400325, 1063489081, 1063575773, 1063660401,
   1063742965, 1063823464, 1063901900, 1063978271, 1064052579, 1064124822, 1064195001, 1064263116,
   1064329168, 1064393155, 1064455078, 1064514936, 1064572731, 1064628461, 1064682128, 1064733730,
   1064783268, 1064830743, 1064876153, 1064919499, 1064960780, 1064999998, 1065037152, 1065072241,
   1065105267, 1065136228, 1065165126, 1065191959, 1065216728, 1065239433, 1065260074, 1065278651,
   1065295163, 1065309612, 1065321997, 1065332317, 1065340573, 1065346766, 1065350894, 1065352958,
   1065352958, 1065350894, 1065346766, 1065340573, 1065332317, 1065321996, 1065309612, 1065295163,
   1065278650, 1065260074, 1065239433, 1065216728, 1065191958, 1065165125, 1065136228, 1065105266,
   1065072241, 1065037151, 1064999998, 1064960780, 1064919498, 1064876152, 1064830742, 1064783268,
   1064733729, 1064682127, 1064628461, 1064572730, 1064514935, 1064455077, 1064393154, 1064329167,
   1064263116, 1064195001, 1064124822, 1064052578, 1063978271, 1063901899, 1063823464, 1063742964,
   1063660400, 1063575772, 1063489080, 1063400324, 1063309504, 1063216620, 1063121672, 1063024659,
   1062925583, 1062824442, 1062721237, 1062615968, 1062508636, 1062399239, 1062287778, 1062174252,
   1062058663, 1061941010, 1061821292, 1061699511, 1061575665, 1061449755, 1061321782, 1061191744,
   1061059640, 1060925474, 1060789243, 1060650948, 1060510590, 1060368168, 1060223681, 1060077130,
   1059928516, 1059777836, 1059625094, 1059470286, 1059313416, 1059154480, 1058993480, 1058830417,
   1058665290, 1058498098, 1058328842, 1058157522, 1057984138, 1057808690, 1057631178, 1057451602,
   1057269962, 1057086258, 1056836370, 1056460704, 1056080912, 1055696990, 1055308940, 1054916762,
   1054520456, 1054120022, 1053715458, 1053306768, 1052893950, 1052477002, 1052055926, 1051630724,
   1051201392, 1050767932, 1050330344, 1049888628, 1049442784, 1048992810, 1048501420, 1047584960,
   1046660248, 1045727276, 1044786048, 1043836568, 1042878828, 1041912832, 1040938576, 1039724744,
   1037743216, 1035745168, 1033730616, 1031600304, 1027505152, 1023343744, 1015021056, 0]

theorem xxTab_ok : (List.range 256).map xxF = xxTab := by decide +kernel
theorem tTab_ok : xxTab.map (Fast.sub oneLit) = tTab := by decide +kernel

theorem tabs_ok (r : Nat) (hr : r < 256) : xxF r = xxTab.getD r 0 ∧ tF r = tTab.getD r 0 := by
  have h1 : xxTab.getD r 0 = xxF r := by
    rw [← xxTab_ok, List.getD_eq_getElem?_getD, List.getElem?_map, List.getElem?_range hr]
    rfl
  have h2 : tTab.getD r 0 = tF r := by
    rw [← tTab_ok, ← xxTab_ok, List.map_map, List.getD_eq_getElem?_getD, List.getElem?_map, List.getElem?_range hr]
    rfl
  exact ⟨h1.symm, h2.symm⟩

/-! ### the specification side without a square root -/

theorem isqrtBits_spec (n : Nat) : ∀ (b acc : Nat), acc * acc ≤ n → n < (acc + 2 ^ b) * (acc + 2 ^ b) →
    BcSpec.isqrtBits n b acc * BcSpec.isqrtBits n b acc ≤ n ∧
      n < (BcSpec.isqrtBits n b acc + 1) * (BcSpec.isqrtBits n b acc + 1)
  | 0, acc, h1, h2 => by simpa [BcSpec.isqrtBits] using ⟨h1, h2⟩
  | b + 1, acc, h1, h2 => by
    unfold BcSpec.isqrtBits
    split
    · rename_i h
      refine isqrtBits_spec n b (acc + 2 ^ b) h ?_
      have : acc + 2 ^ b + 2 ^ b = acc + 2 ^ (b + 1) := by rw [Nat.pow_succ]; omega
      rw [this]; exact h2
    · rename_i h
      exact isqrtBits_spec n b acc h1 (by omega)

/-- `|2v − 255|` -/
def odd255 (v : Nat) : Nat := force (Nat.mul 2 v) fun v2 => Raw.sel (Nat.ble 255 v2) (Nat.sub v2 255) (Nat.sub 255 v2)

theorem odd255_sq (v : Nat) : (2 * (v : Int) - 255) * (2 * (v : Int) - 255) = ((odd255 v * odd255 v : Nat) : Int) := by
  unfold odd255
  rw [force_eq, Raw.sel_ble]
  show _ = (((if 255 ≤ 2 * v then 2 * v - 255 else 255 - 2 * v) * (if 255 ≤ 2 * v then 2 * v - 255 else 255 - 2 * v) : Nat) : Int)
  split
  · have : (2 * (v : Int) - 255) = ((2 * v - 255 : Nat) : Int) := by omega
    rw [this, Int.natCast_mul]
  · have : (2 * (v : Int) - 255) = -((255 - 2 * v : Nat) : Int) := by omega
    rw [this, Int.neg_mul_neg, Int.natCast_mul]

/-- `65025 − (2r − 255)²`, the part of `D` that depends on `r` only -/
def crOf (r : Nat) : Nat := force (odd255 r) fun a => Nat.sub 65025 (Nat.mul a a)

theorem zD_eq (r g : Nat) : BcSpec.zD r g = crOf r - odd255 g * odd255 g := by
  unfold BcSpec.zD crOf
  rw [force_eq, odd255_sq, odd255_sq]
  show _ = 65025 - odd255 r * odd255 r - odd255 g * odd255 g
  generalize odd255 r * odd255 r = A
  generalize odd255 g * odd255 g = B
  omega

theorem zD_lt (r g : Nat) : BcSpec.zD r g < 65536 := by
  rw [zD_eq]
  unfold crOf
  rw [force_eq]
  show 65025 - odd255 r * odd255 r - odd255 g * odd255 g < 65536
  omega

/-- `z8` is a nearest value for every pair: with `s = ⌊√D⌋` and `k = (s + 256)/2`, `2k − 256 ≤ s < 2k − 254` -/
theorem z8_zNearest (r g : Nat) : BcSpec.zNearest r g (BcSpec.z8 r g) := by
  have hs := isqrtBits_spec (BcSpec.zD r g) 8 0 (Nat.zero_le _) (zD_lt r g)
  unfold BcSpec.zNearest BcSpec.z8
  generalize BcSpec.isqrtBits (BcSpec.zD r g) 8 0 = s at hs ⊢
  generalize BcSpec.zD r g = D at hs ⊢
  have lo : 2 * ((s + 256) / 2) - 256 ≤ s := by omega
  have hi : s + 1 ≤ 2 * ((s + 256) / 2) - 254 := by omega
  exact ⟨Or.inr (Nat.le_trans (Nat.mul_le_mul lo lo) hs.1), by omega,
    Nat.le_trans (Nat.le_of_lt hs.2) (Nat.mul_le_mul hi hi)⟩

/-- `B = z8 r g` tested without a root: `256 ≤ 2B`, `(2B − 256)² ≤ D < (2B − 254)²`, `D = cr − (2g − 255)²` -/
def zOK (cr g B : Nat) : Bool :=
  force (odd255 g) fun b => force (Nat.sub cr (Nat.mul b b)) fun D => force (Nat.mul 2 B) fun B2 =>
    Nat.ble 256 B2 && (force (Nat.sub B2 256) fun lo => Nat.ble (Nat.mul lo lo) D) &&
      (force (Nat.sub B2 254) fun hi => Nat.blt D (Nat.mul hi hi))

theorem zOK_sound (r g B : Nat) (h : zOK (crOf r) g B = true) : B = BcSpec.z8 r g := by
  unfold zOK at h
  simp only [force_eq, Bool.and_eq_true, Nat.ble_eq, Nat.blt_eq] at h
  obtain ⟨⟨h1, h2⟩, h3⟩ := h
  replace h1 : 256 ≤ 2 * B := h1
  replace h2 : (2 * B - 256) * (2 * B - 256) ≤ crOf r - odd255 g * odd255 g := h2
  replace h3 : crOf r - odd255 g * odd255 g < (2 * B - 254) * (2 * B - 254) := h3
  rw [← zD_eq] at h2 h3
  unfold BcSpec.z8
  have hs := isqrtBits_spec (BcSpec.zD r g) 8 0 (Nat.zero_le _) (zD_lt r g)
  generalize BcSpec.isqrtBits (BcSpec.zD r g) 8 0 = s at hs
  generalize BcSpec.zD r g = D at *
  have a1 : 2 * B - 256 < s + 1 := Nat.mul_self_lt_mul_self_iff.mp (Nat.lt_of_le_of_lt h2 hs.2)
  have a2 : s < 2 * B - 254 := Nat.mul_self_lt_mul_self_iff.mp (Nat.lt_of_le_of_lt hs.1 h3)
  omega

/-- one row, walking the table of `y·y` (a lookup by index in a 256-element literal is slow in the kernel) -/
def rowGo (t cr : Nat) : List Nat → Nat → Bool
  | [], _ => true
  | yy :: l, g => force g fun g => zOK cr g (tailF t yy) && rowGo t cr l (Nat.succ g)

theorem rowGo_sound (t r : Nat) : ∀ (l : List Nat) (g0 : Nat), rowGo t (crOf r) l g0 = true →
    ∀ i, i < l.length → tailF t (l.getD i 0) = BcSpec.z8 r (g0 + i)
  | [], _, _, i, hi => by simp at hi
  | yy :: l, g0, h, i, hi => by
    simp only [rowGo, force_eq, Bool.and_eq_true] at h
    cases i with
    | zero => simpa using zOK_sound r g0 _ h.1
    | succ j =>
      have := rowGo_sound t r l (g0 + 1) h.2 j (by simpa using hi)
      rw [show g0 + (j + 1) = g0 + 1 + j by omega]
      simpa using this

/-- one row: all 256 values of `g` for a fixed `r` -/
def rowChk (r : Nat) : Bool := force (tTab.getD r 0) fun t => force (crOf r) fun cr => rowGo t cr xxTab 0

theorem xxTab_length : xxTab.length = 256 := by decide +kernel

theorem rowChk_sound (r g : Nat) (h : rowChk r = true) (hr : r < 256) (hg : g < 256) :
    Bc.calcB r g = BcSpec.z8 r g := by
  unfold rowChk at h
  rw [force_eq, force_eq] at h
  have := rowGo_sound _ r xxTab 0 h g (by rw [xxTab_length]; exact hg)
  rw [Nat.zero_add] at this
  rw [calcB_eq, (tabs_ok r hr).2, (tabs_ok g hg).1]
  exact this

end Dds.Bc3n
