/-
Helper lemmas for C19: the error of a channel group whose mask is 0 stays 0 through the whole
Floyd–Steinberg loop (induction over the pixels of a row, then over the rows).
-/
import DdsModel.Dither
namespace Dds.C19

theorem V4.get_add (a b : V4) (c : Ch) : (a.add b).get c = a.get c + b.get c := by
  cases c <;> rfl
theorem V4.get_mul (a b : V4) (c : Ch) : (a.mul b).get c = a.get c * b.get c := by
  cases c <;> rfl
theorem V4.get_scale (a : V4) (k : Rat) (c : Ch) : (a.scale k).get c = a.get c * k := by
  cases c <;> rfl
theorem V4.get_zero (c : Ch) : V4.zero.get c = 0 := by
  cases c <;> rfl

def ZeroOn (G : Ch → Prop) (v : V4) : Prop := ∀ c, G c → v.get c = 0
def AgreeOn (G : Ch → Prop) (a b : V4) : Prop := ∀ c, G c → a.get c = b.get c

theorem zeroOn_zero (G : Ch → Prop) : ZeroOn G V4.zero := fun c _ => V4.get_zero c

theorem zeroOn_add {G : Ch → Prop} {a b : V4} (ha : ZeroOn G a) (hb : ZeroOn G b) :
    ZeroOn G (a.add b) := by
  intro c hc
  rw [V4.get_add, ha c hc, hb c hc, Rat.add_zero]

theorem zeroOn_mul_mask {G : Ch → Prop} {m : V4} (hm : ZeroOn G m) (e : V4) :
    ZeroOn G (e.mul m) := by
  intro c hc
  rw [V4.get_mul, hm c hc, Rat.mul_zero]

theorem zeroOn_scale {G : Ch → Prop} {v : V4} (hv : ZeroOn G v) (k : Rat) :
    ZeroOn G (v.scale k) := by
  intro c hc
  rw [V4.get_scale, hv c hc, Rat.zero_mul]

theorem agreeOn_add_zero {G : Ch → Prop} {e : V4} (he : ZeroOn G e) (p : V4) :
    AgreeOn G (p.add e) p := by
  intro c hc
  rw [V4.get_add, he c hc, Rat.add_zero]

theorem bump_zeroOn {G : Ch → Prop} {buf : Nat → V4} (hb : ∀ k, ZeroOn G (buf k)) {v : V4}
    (hv : ZeroOn G v) (j : Nat) : ∀ k, ZeroOn G (bump buf j v k) := by
  intro k
  unfold bump
  by_cases h : k = j
  · rw [if_pos h]; exact zeroOn_add (hb k) hv
  · rw [if_neg h]; exact hb k

structure StZero (G : Ch → Prop) (st : RowState) : Prop where
  nextAdd : ZeroOn G st.nextAdd
  next : ∀ k, ZeroOn G (st.next k)

theorem stepPixel_fst {Out : Type} (q : V4 → Out × V4) (mask : V4) (cur : Nat → V4) (i : Nat)
    (st : RowState) (p : V4) :
    (stepPixel q mask cur i st p).1 = (q (p.add ((cur (i + 2)).add st.nextAdd))).1 := rfl

theorem stepPixel_inv {Out : Type} {G : Ch → Prop} (q : V4 → Out × V4) {mask : V4}
    (hm : ZeroOn G mask) {cur : Nat → V4} (hc : ∀ k, ZeroOn G (cur k)) (i : Nat) {st : RowState}
    (hs : StZero G st) (p : V4) :
    StZero G (stepPixel q mask cur i st p).2 ∧
      AgreeOn G (p.add ((cur (i + 2)).add st.nextAdd)) p := by
  refine ⟨⟨?_, ?_⟩, agreeOn_add_zero (zeroOn_add (hc _) hs.nextAdd) p⟩
  · exact zeroOn_scale (zeroOn_mul_mask hm _) _
  · exact bump_zeroOn (bump_zeroOn (bump_zeroOn hs.next (zeroOn_scale (zeroOn_mul_mask hm _) _) _)
      (zeroOn_scale (zeroOn_mul_mask hm _) _) _) (zeroOn_scale (zeroOn_mul_mask hm _) _) _

/-- one row: the view of every stored pixel is the view of the undithered quantisation, and the
state handed to the next row is again error-free on the group -/
theorem ditherRowAux_view {Out β : Type} {G : Ch → Prop} (q : V4 → Out × V4) {mask : V4}
    (hm : ZeroOn G mask) (view : Out → β)
    (hview : ∀ p p', AgreeOn G p p' → view (q p).1 = view (q p').1)
    {cur : Nat → V4} (hc : ∀ k, ZeroOn G (cur k)) (ps : List V4) :
    ∀ (i : Nat) (st : RowState), StZero G st →
      (ditherRowAux q mask cur i st ps).1.map view = ps.map (fun p => view (q p).1) ∧
        StZero G (ditherRowAux q mask cur i st ps).2 := by
  induction ps with
  | nil => intro i st hs; exact ⟨rfl, hs⟩
  | cons p ps ih =>
    intro i st hs
    obtain ⟨hs', hag⟩ := stepPixel_inv q hm hc i hs p
    obtain ⟨h1, h2⟩ := ih (i + 1) (stepPixel q mask cur i st p).2 hs'
    refine ⟨?_, h2⟩
    show view (stepPixel q mask cur i st p).1 ::
        (ditherRowAux q mask cur (i + 1) (stepPixel q mask cur i st p).2 ps).1.map view = _
    rw [h1, stepPixel_fst, hview _ _ hag]
    rfl

theorem ditherRows_view {Out β : Type} {G : Ch → Prop} (q : V4 → Out × V4) {mask : V4}
    (hm : ZeroOn G mask) (view : Out → β)
    (hview : ∀ p p', AgreeOn G p p' → view (q p).1 = view (q p').1) (rows : List (List V4)) :
    ∀ (cur : Nat → V4), (∀ k, ZeroOn G (cur k)) →
      (ditherRows q mask cur rows).map (·.map view) =
        rows.map (·.map fun p => view (q p).1) := by
  induction rows with
  | nil => intro cur _; rfl
  | cons row rows ih =>
    intro cur hc
    have h0 : StZero G ⟨V4.zero, fun _ => V4.zero⟩ := ⟨zeroOn_zero G, fun _ => zeroOn_zero G⟩
    obtain ⟨h1, h2⟩ := ditherRowAux_view q hm view hview hc row 0 _ h0
    show (ditherRowAux q mask cur 0 ⟨V4.zero, fun _ => V4.zero⟩ row).1.map view ::
        (ditherRows q mask (ditherRowAux q mask cur 0 ⟨V4.zero, fun _ => V4.zero⟩ row).2.next
          rows).map (·.map view) = _
    rw [h1, ih _ h2.next]
    rfl

theorem errorMask_zeroOn_alpha (d : Dithering) (h : d.alpha = false) :
    ZeroOn (Group.has .alpha) (errorMask d) := by
  intro c hc
  have : c = .w := hc
  subst this
  cases d with
  | mk col al =>
    simp only at h; subst h
    cases col <;> rfl

theorem errorMask_zeroOn_color (d : Dithering) (h : d.color = false) :
    ZeroOn (Group.has .color) (errorMask d) := by
  intro c hc
  have hc' : c ≠ .w := hc
  cases d with
  | mk col al =>
    simp only at h; subst h
    cases al <;> cases c <;> first | rfl | exact absurd rfl hc'

theorem errorMask_zeroOn (d : Dithering) (g : Group) (h : d.has g = false) :
    ZeroOn (Group.has g) (errorMask d) := by
  cases g with
  | color => exact errorMask_zeroOn_color d h
  | alpha => exact errorMask_zeroOn_alpha d h

end Dds.C19
