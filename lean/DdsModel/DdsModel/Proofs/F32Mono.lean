/-
Monotonicity of the software binary32 of `ConvF32.lean` (used by C04 / C12 to extend two checked points per
output code to all 2^32 inputs of `(x * K + 0.5) as uN`).

`rpU m B` is `roundPack false m (B − 1000)` as one formula: the quantum exponent and the significand packed into a
pattern, monotone in `m` at a fixed exponent; with scale invariance (`m·2^j` at exponent `B` = `m` at exponent `B + j`)
rounding is monotone in the exact value.  `fmul`, `fadd` on non-negative finite operands are one `rpU` of the exact
result at an exponent that does not depend on the varying operand, hence monotone, also up to `+∞`, and so is the
pipeline `pipe`.
-/
import DdsModel.Proofs.ConvFast
import DdsModel.Proofs.CF32Ops
namespace Dds.F32Mono
open Dds Dds.CF32 Dds.ConvFast
open Dds.F32.Raw (sel sel_true nadd nsub nmul ndiv nmod npow nshl sel_ble sel_blt sel_beq ble_dec blt_dec beq_dec sel_dec)

theorem pow_split {a b : Nat} (h : a ≤ b) : 2 ^ b = 2 ^ a * 2 ^ (b - a) := by
  rw [← Nat.pow_add]; congr 1; omega

theorem pow_mono {a b : Nat} (h : a ≤ b) : 2 ^ a ≤ 2 ^ b := Nat.pow_le_pow_right Nat.two_pos h

theorem rne_def (m k : Nat) : rne m k =
    if 2 ^ (k - 1) < m % 2 ^ k ∨ (m % 2 ^ k = 2 ^ (k - 1) ∧ m / 2 ^ k % 2 = 1) then m / 2 ^ k + 1 else m / 2 ^ k := by
  unfold rne
  simp only [Nat.shiftRight_eq_div_pow, gt_iff_lt, beq_iff_eq]

theorem rne_lo (m k : Nat) : m / 2 ^ k ≤ rne m k := by
  rw [rne_def]; split <;> omega

theorem rne_hi (m k : Nat) : rne m k ≤ m / 2 ^ k + 1 := by
  rw [rne_def]; split <;> omega

theorem rne_exact (n k : Nat) : rne (n * 2 ^ k) k = n := by
  rw [rne_def, Nat.mul_mod_left, Nat.mul_div_cancel _ (Nat.two_pow_pos k)]
  have := Nat.two_pow_pos (k - 1)
  rw [if_neg (by omega)]

theorem rne_mono {m1 m2 : Nat} (k : Nat) (h : m1 ≤ m2) : rne m1 k ≤ rne m2 k := by
  have hd : m1 / 2 ^ k ≤ m2 / 2 ^ k := Nat.div_le_div_right h
  by_cases hlt : m1 / 2 ^ k < m2 / 2 ^ k
  · have := rne_hi m1 k
    have := rne_lo m2 k
    omega
  · have he : m1 / 2 ^ k = m2 / 2 ^ k := by omega
    have e1 := Nat.div_add_mod m1 (2 ^ k)
    have e2 := Nat.div_add_mod m2 (2 ^ k)
    rw [he] at e1
    rw [rne_def, rne_def, he]
    generalize m2 / 2 ^ k = hh at *
    generalize m1 % 2 ^ k = r1 at *
    generalize m2 % 2 ^ k = r2 at *
    generalize 2 ^ k * hh = P at *
    split <;> split <;> omega

theorem rne_le_of_le {m N k : Nat} (h : m ≤ N * 2 ^ k) : rne m k ≤ N := by
  have := rne_mono k h
  rwa [rne_exact] at this

theorem rne_ge_of_le {m N k : Nat} (h : N * 2 ^ k ≤ m) : N ≤ rne m k := by
  have := rne_mono k h
  rwa [rne_exact] at this

theorem rne_scale (m k j : Nat) (hk : 1 ≤ k) : rne (m * 2 ^ j) (k + j) = rne m k := by
  have hj := Nat.two_pow_pos j
  have e1 : 2 ^ (k + j) = 2 ^ k * 2 ^ j := Nat.pow_add 2 k j
  have e2 : 2 ^ (k + j - 1) = 2 ^ (k - 1) * 2 ^ j := by
    rw [← Nat.pow_add]; congr 1; omega
  rw [rne_def, rne_def, e1, e2, Nat.mul_mod_mul_right, Nat.mul_div_mul_right _ _ hj]
  have c1 : 2 ^ (k - 1) * 2 ^ j < m % 2 ^ k * 2 ^ j ↔ 2 ^ (k - 1) < m % 2 ^ k := Nat.mul_lt_mul_right hj
  have c2 : m % 2 ^ k * 2 ^ j = 2 ^ (k - 1) * 2 ^ j ↔ m % 2 ^ k = 2 ^ (k - 1) := Nat.mul_left_inj (by omega)
  simp only [c1, c2]

/-- `roundPack false m (B − 1000)`: the unit in the last place has the biased exponent
`qB = max (⌊log₂ m⌋ + B − 23) 851` (851 = the subnormal quantum 2^-149), the result is
`(qB − 851)·2^23 + (m·2^B rounded to a multiple of 2^qB) / 2^qB`, saturated at `+∞` -/
def rpU (m B : Nat) : Nat :=
  if m = 0 then 0 else
    min 0x7F800000 ((max (Nat.log2 m + B - 23) 851 - 851) * 2 ^ 23 +
      (if max (Nat.log2 m + B - 23) 851 ≤ B then m * 2 ^ (B - max (Nat.log2 m + B - 23) 851)
        else rne m (max (Nat.log2 m + B - 23) 851 - B)))

theorem rpH_eq_rpU (m B h : Nat) : rpH m B h = rpU m B := by
  unfold rpH rpU
  rw [sel_beq]
  by_cases hm : m = 0
  · rw [if_pos hm, if_pos hm]
  · rw [if_neg hm, if_neg hm]
    simp only [lgH_eq, nadd, nsub, nshl, sel_ble, Nat.shiftLeft_eq]
    generalize Nat.log2 m = L
    have e : max (L + B - 23) 851 = 851 + (L + B - 874) := by omega
    have e' : 851 + (L + B - 874) - 851 = L + B - 874 := by omega
    rw [e, e', sub_sub_eq_min, Nat.min_def]
    by_cases hq : 851 + (L + B - 874) ≤ B
    · rw [if_pos hq, if_pos hq]
    · rw [if_neg hq, if_neg hq, rneR_eq _ _ (by omega)]

theorem roundPack_eq_rpU (m B : Nat) : roundPack false m ((B : Int) - 1000) = rpU m B := by
  rw [← rpH_eq m B 0, rpH_eq_rpU]

theorem rpU_le (m B : Nat) : rpU m B ≤ 0x7F800000 := by
  unfold rpU; split <;> omega

theorem rpU_zero (B : Nat) : rpU 0 B = 0 := by
  unfold rpU; rw [if_pos rfl]

/-- the quantum (unit in the last place) of the result of rounding `m·2^(B−1000)`, biased by 1000 -/
def quant (m B : Nat) : Nat := max (Nat.log2 m + B - 23) 851

/-- the significand of the result at quantum `q`: `m·2^B` as a multiple of `2^q`, rounded when `q > B` -/
def sig (m B q : Nat) : Nat := if q ≤ B then m * 2 ^ (B - q) else rne m (q - B)

theorem rpU_pos {m : Nat} (B : Nat) (hm : m ≠ 0) :
    rpU m B = min 0x7F800000 ((quant m B - 851) * 2 ^ 23 + sig m B (quant m B)) := by
  unfold rpU; rw [if_neg hm]; rfl

theorem sig_mono {m1 m2 : Nat} (B q : Nat) (h : m1 ≤ m2) : sig m1 B q ≤ sig m2 B q := by
  unfold sig
  split
  · exact Nat.mul_le_mul_right _ h
  · exact rne_mono _ h

/-- at most 24 bits when the quantum is not below the one of `m`'s binade -/
theorem sig_le {m L B q : Nat} (hi : m < 2 ^ (L + 1)) (hq : L + B ≤ q + 23) : sig m B q ≤ 2 ^ 24 := by
  unfold sig
  split
  · calc m * 2 ^ (B - q) ≤ 2 ^ (L + 1) * 2 ^ (B - q) := Nat.mul_le_mul_right _ (Nat.le_of_lt hi)
      _ = 2 ^ (L + 1 + (B - q)) := (Nat.pow_add ..).symm
      _ ≤ 2 ^ 24 := Nat.pow_le_pow_right Nat.two_pos (by omega)
  · apply rne_le_of_le
    calc m ≤ 2 ^ (L + 1) := Nat.le_of_lt hi
      _ ≤ 2 ^ (24 + (q - B)) := Nat.pow_le_pow_right Nat.two_pos (by omega)
      _ = 2 ^ 24 * 2 ^ (q - B) := Nat.pow_add ..

/-- normal (the leading bit is set) when the quantum is exactly the one of `m`'s binade -/
theorem sig_ge {m L B q : Nat} (lo : 2 ^ L ≤ m) (hq : q + 23 = L + B) : 2 ^ 23 ≤ sig m B q := by
  unfold sig
  split
  · calc 2 ^ 23 = 2 ^ (L + (B - q)) := by congr 1; omega
      _ = 2 ^ L * 2 ^ (B - q) := Nat.pow_add ..
      _ ≤ m * 2 ^ (B - q) := Nat.mul_le_mul_right _ lo
  · apply rne_ge_of_le
    calc 2 ^ 23 * 2 ^ (q - B) = 2 ^ (23 + (q - B)) := (Nat.pow_add ..).symm
      _ = 2 ^ L := by congr 1; omega
      _ ≤ m := lo

theorem log2_mul_pow (m j : Nat) (hm : m ≠ 0) : Nat.log2 (m * 2 ^ j) = Nat.log2 m + j := by
  have hj := Nat.two_pow_pos j
  have hne : m * 2 ^ j ≠ 0 := Nat.mul_ne_zero hm (by omega)
  rw [Nat.log2_eq_iff hne, Nat.pow_add, Nat.add_right_comm, Nat.pow_add]
  exact ⟨Nat.mul_le_mul_right _ (Nat.log2_self_le hm), (Nat.mul_lt_mul_right hj).mpr Nat.lt_log2_self⟩

theorem sig_scale (m B j q : Nat) : sig (m * 2 ^ j) B q = sig m (B + j) q := by
  unfold sig
  by_cases h1 : q ≤ B
  · rw [if_pos h1, if_pos (by omega), Nat.mul_assoc, ← Nat.pow_add]
    congr 2; omega
  · rw [if_neg h1]
    by_cases h2 : q ≤ B + j
    · have : m * 2 ^ j = m * 2 ^ (B + j - q) * 2 ^ (q - B) := by
        rw [Nat.mul_assoc, ← Nat.pow_add]; congr 2; omega
      rw [if_pos h2, this, rne_exact]
    · have : q - B = (q - (B + j)) + j := by omega
      rw [if_neg h2, this, rne_scale _ _ _ (by omega)]

theorem rpU_scale (m B j : Nat) : rpU (m * 2 ^ j) B = rpU m (B + j) := by
  by_cases hm : m = 0
  · rw [hm, Nat.zero_mul, rpU_zero, rpU_zero]
  · have hne : m * 2 ^ j ≠ 0 := Nat.mul_ne_zero hm (Nat.pos_iff_ne_zero.mp (Nat.two_pow_pos j))
    have hq : quant (m * 2 ^ j) B = quant m (B + j) := by
      unfold quant; rw [log2_mul_pow m j hm]; congr 2; omega
    rw [rpU_pos B hne, rpU_pos (B + j) hm, hq, sig_scale]

/-- packed patterns are ordered like (quantum, significand) when the smaller significand has at most 24 bits and the
larger one is normal -/
theorem pack_lt (P q1 q2 x1 x2 : Nat) (a1 : x1 ≤ 2 * P) (a2 : P ≤ x2) (hlt : q1 < q2) (h851 : 851 ≤ q1) :
    (q1 - 851) * P + x1 ≤ (q2 - 851) * P + x2 := by
  have := Nat.mul_le_mul_right P (show q1 - 851 + 1 ≤ q2 - 851 by omega)
  rw [Nat.add_mul, Nat.one_mul] at this
  omega

theorem rpU_mono_m {m1 m2 : Nat} (B : Nat) (h : m1 ≤ m2) : rpU m1 B ≤ rpU m2 B := by
  by_cases hm1 : m1 = 0
  · rw [hm1, rpU_zero]; exact Nat.zero_le _
  · have hm2 : m2 ≠ 0 := by omega
    have hL : Nat.log2 m1 ≤ Nat.log2 m2 :=
      Nat.le_of_lt_succ ((Nat.log2_lt hm1).mpr (Nat.lt_of_le_of_lt h Nat.lt_log2_self))
    have key : (quant m1 B - 851) * 2 ^ 23 + sig m1 B (quant m1 B) ≤
        (quant m2 B - 851) * 2 ^ 23 + sig m2 B (quant m2 B) := by
      by_cases hq : quant m1 B = quant m2 B
      · rw [hq]; exact Nat.add_le_add_left (sig_mono B _ h) _
      · unfold quant at hq ⊢
        exact pack_lt (2 ^ 23) _ _ _ _ (sig_le Nat.lt_log2_self (by omega)) (sig_ge (Nat.log2_self_le hm2) (by omega))
          (by omega) (by omega)
    rw [rpU_pos B hm1, rpU_pos B hm2]
    exact Nat.le_min.mpr ⟨Nat.min_le_left _ _, Nat.le_trans (Nat.min_le_right _ _) key⟩

theorem rpU_mono {m1 B1 m2 B2 : Nat} (h : m1 * 2 ^ B1 ≤ m2 * 2 ^ B2) : rpU m1 B1 ≤ rpU m2 B2 := by
  by_cases hB : B1 ≤ B2
  · have e : rpU m2 B2 = rpU (m2 * 2 ^ (B2 - B1)) B1 := by
      rw [rpU_scale]; congr 1; omega
    rw [e]
    apply rpU_mono_m
    rw [pow_split hB, ← Nat.mul_assoc, Nat.mul_right_comm] at h
    exact Nat.le_of_mul_le_mul_right h (Nat.two_pow_pos B1)
  · have hB' : B2 ≤ B1 := by omega
    have e : rpU m1 B1 = rpU (m1 * 2 ^ (B1 - B2)) B2 := by
      rw [rpU_scale]; congr 1; omega
    rw [e]
    apply rpU_mono_m
    rw [pow_split hB', ← Nat.mul_assoc, Nat.mul_right_comm] at h
    exact Nat.le_of_mul_le_mul_right h (Nat.two_pow_pos B2)

/-- the value of a non-negative finite pattern, as a multiple of 2^-149 -/
def pval (p : Nat) : Nat := mantR p * 2 ^ (bexpR p - 851)

theorem pval_small (p : Nat) (h : p < 8388608) : pval p = p := by
  unfold pval; rw [mantR_def, bexpR_def, if_pos h, if_pos h, Nat.sub_self, Nat.pow_zero, Nat.mul_one]

theorem pval_big (p : Nat) (h : ¬ p < 8388608) :
    pval p = (p % 8388608 + 8388608) * 2 ^ (p / 8388608 - 1) := by
  unfold pval; rw [mantR_def, bexpR_def, if_neg h, if_neg h]
  have : p / 8388608 + 850 - 851 = p / 8388608 - 1 := by omega
  rw [this]

/-- the value of a packed (quantum, significand) pair, the carry of a 25-bit significand into the exponent included -/
theorem pval_pack (q r : Nat) (hq : 851 ≤ q) (hr : r ≤ 2 ^ 24) (hn : q = 851 ∨ 2 ^ 23 ≤ r) :
    pval ((q - 851) * 2 ^ 23 + r) = r * 2 ^ (q - 851) := by
  obtain ⟨j, rfl⟩ : ∃ j, q = 851 + j := ⟨q - 851, by omega⟩
  have ej : 851 + j - 851 = j := by omega
  rw [ej]
  have e23 : (2 : Nat) ^ 23 = 8388608 := by decide
  have e24 : (2 : Nat) ^ 24 = 16777216 := by decide
  rw [e23] at hn ⊢
  rw [e24] at hr
  by_cases hs : j * 8388608 + r < 8388608
  · rw [pval_small _ hs]
    have : j = 0 := by omega
    subst this
    rw [Nat.zero_mul, Nat.zero_add, Nat.pow_zero, Nat.mul_one]
  · rw [pval_big _ hs]
    by_cases h24 : r = 16777216
    · subst h24
      have d : (j * 8388608 + 16777216) / 8388608 = j + 2 := by omega
      have md : (j * 8388608 + 16777216) % 8388608 = 0 := by omega
      rw [d, md]
      have : j + 2 - 1 = j + 1 := by omega
      rw [this, Nat.pow_succ]
      omega
    · have hr2 : 8388608 ≤ r := by omega
      have d : (j * 8388608 + r) / 8388608 = j + 1 := by omega
      have md : (j * 8388608 + r) % 8388608 = r - 8388608 := by omega
      rw [d, md]
      have : j + 1 - 1 = j := by omega
      rw [this]
      have : r - 8388608 + 8388608 = r := by omega
      rw [this]

theorem rne_zero (m : Nat) : rne m 0 = m := by
  rw [rne_def, Nat.pow_zero, Nat.mod_one, Nat.div_one]
  exact if_neg (by omega)

/-- in the normal range (`2^-126 ≤ m·2^(B−1000) < 2^127`) rounding keeps the 24 leading bits of `m`, to nearest, ties
to even, and the exponent grows by the number of bits dropped -/
theorem pval_rpU {m B : Nat} (hm : m ≠ 0) (hlo : 874 ≤ Nat.log2 m + B) (hhi : Nat.log2 m + B ≤ 1126) :
    rpU m B < 0x7F800000 ∧
      pval (rpU m B) = rne m (Nat.log2 m - 23) * 2 ^ (B + (Nat.log2 m - 23) - 851) := by
  have hq : quant m B = Nat.log2 m + B - 23 := by unfold quant; omega
  have s1 := sig_le (B := B) (q := quant m B) (@Nat.lt_log2_self m) (by omega)
  have s2 := sig_ge (B := B) (q := quant m B) (Nat.log2_self_le hm) (by omega)
  have hlt : (quant m B - 851) * 2 ^ 23 + sig m B (quant m B) < 0x7F800000 := by
    have : (quant m B - 851) * 2 ^ 23 ≤ 252 * 2 ^ 23 := Nat.mul_le_mul_right _ (by omega)
    omega
  rw [rpU_pos B hm, Nat.min_eq_right (Nat.le_of_lt hlt), pval_pack _ _ (by omega) s1 (Or.inr s2)]
  refine ⟨hlt, ?_⟩
  unfold sig
  rw [hq]
  by_cases hL : Nat.log2 m ≤ 23
  · have e : B - (Nat.log2 m + B - 23) + (Nat.log2 m + B - 23 - 851) = B - 851 := by omega
    have z : Nat.log2 m - 23 = 0 := by omega
    rw [if_pos (by omega), z, rne_zero, Nat.mul_assoc, ← Nat.pow_add, e, Nat.add_zero]
  · have e1 : Nat.log2 m + B - 23 - B = Nat.log2 m - 23 := by omega
    have e2 : Nat.log2 m + B - 23 - 851 = B + (Nat.log2 m - 23) - 851 := by omega
    rw [if_neg (by omega), e1, e2]

theorem pval_mono {a b : Nat} (h : a ≤ b) : pval a ≤ pval b := by
  by_cases hb : b < 8388608
  · rw [pval_small a (by omega), pval_small b hb]; exact h
  · rw [pval_big b hb]
    have hpos := Nat.two_pow_pos (b / 8388608 - 1)
    by_cases ha : a < 8388608
    · rw [pval_small a ha]
      have : b % 8388608 + 8388608 ≤ (b % 8388608 + 8388608) * 2 ^ (b / 8388608 - 1) := Nat.le_mul_of_pos_right _ hpos
      omega
    · rw [pval_big a ha]
      have hd : a / 8388608 ≤ b / 8388608 := Nat.div_le_div_right h
      have e1 := Nat.div_add_mod a 8388608
      have e2 := Nat.div_add_mod b 8388608
      have r1 := Nat.mod_lt a (show 0 < 8388608 by decide)
      by_cases he : a / 8388608 = b / 8388608
      · rw [he]
        apply Nat.mul_le_mul_right
        rw [he] at e1
        omega
      · have hlt : a / 8388608 < b / 8388608 := by omega
        have hge : 1 ≤ a / 8388608 := by omega
        generalize a / 8388608 = ea at *
        generalize b / 8388608 = eb at *
        generalize a % 8388608 = fa at *
        generalize b % 8388608 = fb at *
        have hs : 2 ^ (eb - 1) = 2 ^ (ea - 1) * 2 ^ (eb - ea) := by
          rw [← Nat.pow_add]; congr 1; omega
        have hq : 2 ^ 1 ≤ 2 ^ (eb - ea) := Nat.pow_le_pow_right Nat.two_pos (by omega)
        rw [hs]
        generalize 2 ^ (ea - 1) = P at *
        generalize 2 ^ (eb - ea) = Q at *
        calc (fa + 8388608) * P ≤ (8388608 * 2) * P := Nat.mul_le_mul_right _ (by omega)
          _ = 8388608 * (P * 2) := by rw [Nat.mul_assoc, Nat.mul_comm 2 P]
          _ ≤ 8388608 * (P * Q) := Nat.mul_le_mul_left _ (Nat.mul_le_mul_left _ hq)
          _ ≤ (fb + 8388608) * (P * Q) := Nat.mul_le_mul_right _ (by omega)

theorem fmul_pval (a c : Nat) (ha : a < 0x7F800000) (hc : c < 0x7F800000) :
    fmul a c = rpU (pval a * pval c) 702 := by
  have h2 : posfin2 a c = true := (posfin2_iff a c).mpr ⟨ha, hc⟩
  rw [← mulR_eq]
  unfold mulR
  rw [h2, sel_true, rpH_eq_rpU, nmul, nadd, nsub]
  have ea := bexpR_ge a
  have ec := bexpR_ge c
  unfold pval
  have : mantR a * 2 ^ (bexpR a - 851) * (mantR c * 2 ^ (bexpR c - 851)) =
      mantR a * mantR c * 2 ^ ((bexpR a - 851) + (bexpR c - 851)) := by
    rw [Nat.pow_add, Nat.mul_mul_mul_comm]
  have e : 702 + (bexpR a - 851 + (bexpR c - 851)) = bexpR a + bexpR c - 1000 := by omega
  rw [this, rpU_scale, e]

theorem fadd_pval (a c : Nat) (ha : a < 0x7F800000) (hc : c < 0x7F800000) :
    fadd a c = rpU (pval a + pval c) 851 := by
  have h2 : posfin2 a c = true := (posfin2_iff a c).mpr ⟨ha, hc⟩
  rw [← addR_eq]
  unfold addR
  rw [h2, sel_true]
  simp only [rpH_eq_rpU, nadd, nsub, nshl, Nat.shiftLeft_eq]
  have ea := bexpR_ge a
  have ec := bexpR_ge c
  unfold pval
  generalize bexpR a = A at *
  generalize bexpR c = C at *
  -- `M = min A C` is the common exponent
  obtain ⟨M, hM, hA, hC⟩ : ∃ M, A - (A - C) = M ∧ A - 851 = A - C + (M - 851) ∧ C - 851 = C - A + (M - 851) :=
    ⟨A - (A - C), rfl, by omega, by omega⟩
  have e' : 851 + (M - 851) = M := by omega
  rw [hM, hA, hC, Nat.pow_add, Nat.pow_add, ← Nat.mul_assoc, ← Nat.mul_assoc, ← Nat.add_mul, rpU_scale, e']

theorem toNatSat_pval (x mx : Nat) (hx : x < 0x7F800000) : toNatSat x mx = min mx (pval x / 2 ^ 149) := by
  rw [← toNatSatR_eq]
  unfold toNatSatR
  rw [sel_blt, if_pos hx]
  simp only [nsub, nshl, nshr, Nat.shiftLeft_eq, Nat.shiftRight_eq_div_pow]
  have e := bexpR_ge x
  unfold pval
  generalize bexpR x = E at *
  generalize mantR x = m
  have hv : m * 2 ^ (E - 1000) / 2 ^ (1000 - E) = m * 2 ^ (E - 851) / 2 ^ 149 := by
    by_cases h : 1000 ≤ E
    · have : 2 ^ (E - 851) = 2 ^ (E - 1000) * 2 ^ 149 := by
        have e : E - 851 = E - 1000 + 149 := by omega
        rw [e, Nat.pow_add]
      have z : 1000 - E = 0 := by omega
      rw [this, ← Nat.mul_assoc, Nat.mul_div_cancel _ (Nat.two_pow_pos 149), z, Nat.pow_zero, Nat.div_one]
    · have : 2 ^ 149 = 2 ^ (1000 - E) * 2 ^ (E - 851) := by
        have e : 149 = 1000 - E + (E - 851) := by omega
        rw [← Nat.pow_add, ← e]
      have z : E - 1000 = 0 := by omega
      rw [this, Nat.mul_div_mul_right _ _ (Nat.two_pow_pos _), z, Nat.pow_zero, Nat.mul_one]
  rw [hv]
  generalize m * 2 ^ (E - 851) / 2 ^ 149 = v
  omega

theorem posInf_flags : isNaN 0x7F800000 = false ∧ isInf 0x7F800000 = true ∧ isNeg 0x7F800000 = false ∧
    isZero 0x7F800000 = false := by decide

theorem fmul_posInf (c : Nat) (hc : c < 0x7F800000) (hc0 : 0 < c) : fmul 0x7F800000 c = 0x7F800000 := by
  obtain ⟨c1, c2, c3, _, _⟩ := posfin c hc
  obtain ⟨i1, i2, i3, i4⟩ := posInf_flags
  have cz : isZero c = false := by
    unfold isZero signBit
    have : c % 0x80000000 = c := Nat.mod_eq_of_lt (by omega)
    rw [this]
    simp only [beq_eq_false_iff_ne, ne_eq]; omega
  unfold fmul
  simp only [force_eq, c1, c2, c3, i1, i2, i3, i4, cz]
  rfl

theorem fadd_posInf (c : Nat) (hc : c < 0x7F800000) : fadd 0x7F800000 c = 0x7F800000 := by
  obtain ⟨c1, c2, c3, _, _⟩ := posfin c hc
  obtain ⟨i1, i2, i3, i4⟩ := posInf_flags
  unfold fadd
  simp only [force_eq, c1, c2, c3, i1, i2, i3]
  rfl

theorem toNatSat_posInf (mx : Nat) : toNatSat 0x7F800000 mx = mx := by
  obtain ⟨i1, i2, i3, i4⟩ := posInf_flags
  unfold toNatSat
  simp only [force_eq, i1, i2, i3]
  rfl

theorem fmul_mono_nonneg {a b c : Nat} (hab : a ≤ b) (hb : b ≤ 0x7F800000) (hc : c < 0x7F800000) (hc0 : 0 < c) :
    fmul a c ≤ fmul b c ∧ fmul b c ≤ 0x7F800000 := by
  by_cases hbi : b = 0x7F800000
  · rw [hbi, fmul_posInf c hc hc0]
    refine ⟨?_, Nat.le_refl _⟩
    by_cases hai : a = 0x7F800000
    · rw [hai, fmul_posInf c hc hc0]; exact Nat.le_refl _
    · rw [fmul_pval a c (by omega) hc]; exact rpU_le _ _
  · rw [fmul_pval a c (by omega) hc, fmul_pval b c (by omega) hc]
    exact ⟨rpU_mono_m _ (Nat.mul_le_mul_right _ (pval_mono hab)), rpU_le _ _⟩

theorem fadd_mono_nonneg {a b c : Nat} (hab : a ≤ b) (hb : b ≤ 0x7F800000) (hc : c < 0x7F800000) :
    fadd a c ≤ fadd b c ∧ fadd b c ≤ 0x7F800000 := by
  by_cases hbi : b = 0x7F800000
  · rw [hbi, fadd_posInf c hc]
    refine ⟨?_, Nat.le_refl _⟩
    by_cases hai : a = 0x7F800000
    · rw [hai, fadd_posInf c hc]; exact Nat.le_refl _
    · rw [fadd_pval a c (by omega) hc]; exact rpU_le _ _
  · rw [fadd_pval a c (by omega) hc, fadd_pval b c (by omega) hc]
    exact ⟨rpU_mono_m _ (Nat.add_le_add_right (pval_mono hab) _), rpU_le _ _⟩

theorem toNatSat_mono_nonneg {a b : Nat} (mx : Nat) (hab : a ≤ b) (hb : b ≤ 0x7F800000) :
    toNatSat a mx ≤ toNatSat b mx := by
  by_cases hbi : b = 0x7F800000
  · rw [hbi, toNatSat_posInf]
    by_cases hai : a = 0x7F800000
    · rw [hai, toNatSat_posInf]; exact Nat.le_refl _
    · rw [toNatSat_pval a mx (by omega)]; omega
  · rw [toNatSat_pval a mx (by omega), toNatSat_pval b mx (by omega)]
    have : pval a / 2 ^ 149 ≤ pval b / 2 ^ 149 := Nat.div_le_div_right (pval_mono hab)
    omega

/-- the pipeline `(x * K + h) as uN` of the float → UNORM conversions -/
def pipe (K h mx x : Nat) : Nat := toNatSat (fadd (fmul x K) h) mx

theorem pipe_mono {K h mx a b : Nat} (hK : K < 0x7F800000) (hK0 : 0 < K) (hh : h < 0x7F800000)
    (hab : a ≤ b) (hb : b ≤ 0x7F800000) : pipe K h mx a ≤ pipe K h mx b := by
  unfold pipe
  obtain ⟨m1, m2⟩ := fmul_mono_nonneg hab hb hK hK0
  obtain ⟨s1, s2⟩ := fadd_mono_nonneg (c := h) m1 m2 hh
  exact toNatSat_mono_nonneg mx s1 s2

theorem pipe_le (K h mx x : Nat) (_hx : x ≤ 0x7F800000) (_hK : K < 0x7F800000) (_hK0 : 0 < K)
    (_hh : h < 0x7F800000) :
    pipe K h mx x ≤ mx :=
  toNatSat_le_cap _ _

end Dds.F32Mono
