/-
C01 (codec bodies, uncompressed / sub-sampled / bi-planar formats, channel conversion): the trapping mirrors of
`TrapUnc.lean` return `some` of the wrapping model (`Conv.lean`, `Uncompressed.lean`) for every encoded value.
-/
import DdsModel.TrapUnc
import DdsModel.Proofs.ListLemmas
import DdsModel.Proofs.TrapWp
namespace Dds.TrapUnc
open Dds.Trap Dds.Conv Dds.Unc Dds.CF32

theorem dbgP_true : dbgP True = some () := dbgP_of trivial

/-- a product with a constant, computed in a type of `B` values, for an operand the `debug_assert!` bounds by `M` -/
theorem ck_mul {B k M x : Nat} (hx : x ≤ M) (hB : M * k < B) : ck B (x * k) = some (x * k % B) := by
  have := Nat.mul_le_mul_right k hx
  rw [ck_of_lt (by omega), Nat.mod_eq_of_lt (by omega)]

/-- `((x * k + b) >> s) as uN`, the multiply-add computed in a type of `B` values -/
theorem mulAddShr {B k b M x : Nat} (hx : x ≤ M) (hB : M * k + b < B) (s o : Nat) :
    (do let m ← ck B (x * k); let a ← ck B (m + b); pure ((a >>> s) % o)) = some ((((x * k + b) % B) >>> s) % o) := by
  have h1 : x * k + b < B := Nat.lt_of_le_of_lt (Nat.add_le_add_right (Nat.mul_le_mul_right k hx) b) hB
  rw [Nat.mod_eq_of_lt h1, ← ret_eq]
  simp only [wp, and_true]
  exact ⟨Nat.lt_of_le_of_lt (Nat.le_add_right _ b) h1, h1⟩

theorem n1T_eq (prec x : Nat) (h : x ≤ 1) :
    n1T prec x = some (if prec = 0 then n1n8 x else if prec = 1 then n1n16 x else n1f32 x) := by
  unfold n1T; rw [dbgP_of h, bind_some', pure_some']
theorem n2n8T_eq (x : Nat) (h : x ≤ 3) : n2n8T x = some (n2n8 x) := by
  unfold n2n8T; rw [dbgP_of h, bind_some']; exact ck_mul h (by decide)
theorem n2n16T_eq (x : Nat) (h : x ≤ 3) : n2n16T x = some (n2n16 x) := by
  unfold n2n16T; rw [dbgP_of h, bind_some']; exact ck_mul h (by decide)
theorem n2f32T_eq (x : Nat) (h : x ≤ 3) : n2f32T x = some (n2f32 x) := by
  unfold n2f32T; rw [dbgP_of h, bind_some', pure_some']
theorem n4n8T_eq (x : Nat) (h : x ≤ 15) : n4n8T x = some (n4n8 x) := by
  unfold n4n8T; rw [dbgP_of h, bind_some']; exact ck_mul h (by decide)
theorem n4n16T_eq (x : Nat) (h : x ≤ 15) : n4n16T x = some (n4n16 x) := by
  unfold n4n16T; rw [dbgP_of h, bind_some']; exact ck_mul h (by decide)
theorem n4f32T_eq (x : Nat) (h : x ≤ 15) : n4f32T x = some (n4f32 x) := by
  unfold n4f32T; rw [dbgP_of h, bind_some', pure_some']
theorem n5n8T_eq (x : Nat) (h : x ≤ 31) : n5n8T x = some (n5n8 x) := by
  unfold n5n8T; rw [dbgP_of h, bind_some']; exact mulAddShr h (by decide) 8 256
theorem n5n16T_eq (x : Nat) (h : x ≤ 31) : n5n16T x = some (n5n16 x) := by
  unfold n5n16T; rw [dbgP_of h, bind_some', ck_mul h (by decide), bind_some', pure_some']; rfl
theorem n5f32T_eq (x : Nat) (h : x ≤ 31) : n5f32T x = some (n5f32 x) := by
  unfold n5f32T; rw [dbgP_of h, bind_some', pure_some']
theorem n6n8T_eq (x : Nat) (h : x ≤ 63) : n6n8T x = some (n6n8 x) := by
  unfold n6n8T; rw [dbgP_of h, bind_some']; exact mulAddShr h (by decide) 8 256
theorem n6n16T_eq (x : Nat) (h : x ≤ 63) : n6n16T x = some (n6n16 x) := by
  unfold n6n16T; rw [dbgP_of h, bind_some']; exact mulAddShr h (by decide) 16 65536
theorem n6f32T_eq (x : Nat) (h : x ≤ 63) : n6f32T x = some (n6f32 x) := by
  unfold n6f32T; rw [dbgP_of h, bind_some', pure_some']
theorem n8n16T_eq (x : Nat) (h : x ≤ 255) : n8n16T x = some (n8n16 x) := ck_mul h (by decide)
theorem n10n8T_eq (x : Nat) (h : x ≤ 1023) : n10n8T x = some (n10n8 x) := by
  unfold n10n8T; rw [dbgP_of h, bind_some']; exact mulAddShr h (by decide) 16 256
theorem n10n16T_eq (x : Nat) (h : x ≤ 1023) : n10n16T x = some (n10n16 x) := by
  unfold n10n16T; rw [dbgP_of h, bind_some']; exact mulAddShr h (by decide) 16 65536
theorem n10f32T_eq (x : Nat) (h : x ≤ 1023) : n10f32T x = some (n10f32 x) := by
  unfold n10f32T; rw [dbgP_of h, bind_some', pure_some']
theorem n16n8T_eq (x : Nat) (h : x ≤ 65535) : n16n8T x = some (n16n8 x) := mulAddShr h (by decide) 16 256

theorem s8norm_le (x : Nat) : s8norm x ≤ 254 := by unfold s8norm w8; omega
theorem s16norm_le (x : Nat) : s16norm x ≤ 65534 := by unfold s16norm w16; omega

theorem s8n8T_eq (x : Nat) : s8n8T x = some (s8n8 x) := mulAddShr (s8norm_le x) (by decide) 8 256
theorem s8n16T_eq (x : Nat) : s8n16T x = some (s8n16 x) := mulAddShr (s8norm_le x) (by decide) 16 65536
theorem s16n8T_eq (x : Nat) : s16n8T x = some (s16n8 x) := mulAddShr (s16norm_le x) (by decide) 24 256
theorem s16n16T_eq (x : Nat) : s16n16T x = some (s16n16 x) := mulAddShr (s16norm_le x) (by decide) 16 65536

theorem xrSubT_eq (x : Nat) (h : x ≤ 1023) : xrSubT x = some ((x : Int) - 384) := by
  unfold xrSubT asI16
  have e : x % 65536 = x := Nat.mod_eq_of_lt (by omega)
  rw [e, if_pos (by omega), ckI16_of_range (by omega)]
theorem xrClamp_le (x : Nat) : xrClamp x ≤ 510 := by unfold xrClamp; omega
theorem xr10n8T_eq (x : Nat) (h : x ≤ 1023) : xr10n8T x = some (xr10n8 x) := by
  have h1 : xrClamp x + 1 < 65536 := Nat.lt_of_le_of_lt (Nat.succ_le_succ (xrClamp_le x)) (by decide)
  unfold xr10n8T xr10n8 w8 w16
  rw [xrSubT_eq x h, bind_some', ck_of_lt h1, bind_some', pure_some', Nat.mod_eq_of_lt h1]
theorem xr10n16T_eq (x : Nat) (h : x ≤ 1023) : xr10n16T x = some (xr10n16 x) := by
  unfold xr10n16T
  rw [xrSubT_eq x h, bind_some']
  exact mulAddShr (xrClamp_le x) (by decide) 16 65536
theorem xr10f32T_eq (x : Nat) (h : x ≤ 1023) : xr10f32T x = some (xr10f32 x) := by
  unfold xr10f32T
  rw [xrSubT_eq x h, bind_some', pure_some']


theorem unormTo_eq_ite (w prec v : Nat) : unormTo w prec v =
    if w = 1 then (if prec = 0 then n1n8 v else if prec = 1 then n1n16 v else n1f32 v)
    else if w = 2 then (if prec = 0 then n2n8 v else if prec = 1 then n2n16 v else n2f32 v)
    else if w = 4 then (if prec = 0 then n4n8 v else if prec = 1 then n4n16 v else n4f32 v)
    else if w = 5 then (if prec = 0 then n5n8 v else if prec = 1 then n5n16 v else n5f32 v)
    else if w = 6 then (if prec = 0 then n6n8 v else if prec = 1 then n6n16 v else n6f32 v)
    else if w = 8 then (if prec = 0 then v else if prec = 1 then n8n16 v else n8f32 v)
    else if w = 10 then (if prec = 0 then n10n8 v else if prec = 1 then n10n16 v else n10f32 v)
    else if w = 16 then (if prec = 0 then n16n8 v else if prec = 1 then v else n16f32 v)
    else 0 := by
  unfold unormTo
  -- the wildcard arms come with hypotheses of the form `prec = 0 → False`
  split <;> simp (disch := assumption) only [↓reduceIte, Nat.reduceEqDiff, if_neg]

theorem unormToT_eq (w prec v : Nat) (hv : v < 2 ^ w) : unormToT w prec v = some (unormTo w prec v) := by
  rw [unormTo_eq_ite]
  unfold unormToT
  refine ite_eq_some (fun h => ?_) fun _ => ite_eq_some (fun h => ?_) fun _ => ite_eq_some (fun h => ?_) fun _ =>
    ite_eq_some (fun h => ?_) fun _ => ite_eq_some (fun h => ?_) fun _ => ite_eq_some (fun h => ?_) fun _ =>
    ite_eq_some (fun h => ?_) fun _ => ite_eq_some (fun h => ?_) fun _ => rfl
  all_goals subst h
  · exact n1T_eq prec v (by omega)
  · exact ite_eq_some (fun _ => n2n8T_eq v (by omega)) fun _ =>
      ite_eq_some (fun _ => n2n16T_eq v (by omega)) fun _ => n2f32T_eq v (by omega)
  · exact ite_eq_some (fun _ => n4n8T_eq v (by omega)) fun _ =>
      ite_eq_some (fun _ => n4n16T_eq v (by omega)) fun _ => n4f32T_eq v (by omega)
  · exact ite_eq_some (fun _ => n5n8T_eq v (by omega)) fun _ =>
      ite_eq_some (fun _ => n5n16T_eq v (by omega)) fun _ => n5f32T_eq v (by omega)
  · exact ite_eq_some (fun _ => n6n8T_eq v (by omega)) fun _ =>
      ite_eq_some (fun _ => n6n16T_eq v (by omega)) fun _ => n6f32T_eq v (by omega)
  · exact ite_eq_some (fun _ => rfl) fun _ => ite_eq_some (fun _ => n8n16T_eq v (by omega)) fun _ => rfl
  · exact ite_eq_some (fun _ => n10n8T_eq v (by omega)) fun _ =>
      ite_eq_some (fun _ => n10n16T_eq v (by omega)) fun _ => n10f32T_eq v (by omega)
  · exact ite_eq_some (fun _ => n16n8T_eq v (by omega)) fun _ => ite_eq_some (fun _ => rfl) fun _ => rfl

theorem smallT_eq (mb : Nat) (signed : Bool) (prec x : Nat) (hmb : mb = 10 ∨ mb = 6 ∨ mb = 5) :
    smallT mb signed prec x =
      some (if prec = 0 then smallN8 mb signed x else if prec = 1 then smallN16 mb signed x else smallF32 mb signed x) := by
  have he : (x >>> mb) % 32 ≤ 31 := by omega
  have t1 : twoPowiT ((x >>> mb) % 32) ((15 + mb : Nat) : Int) = some () := twoPowiT_of (by omega)
  have t2 : twoPowiT 1 ((15 + mb : Nat) : Int) = some () := twoPowiT_of (by omega)
  -- the `u16` sums `mant + 7`, `mant + 3` of the fp11 / fp10 denormals
  have hm : ∀ c, c ≤ 7 → (do let _ ← ck 65536 (x % 2 ^ mb + c); pure ()) = some () := fun c hc => by
    have : x % 2 ^ mb < 2 ^ 10 :=
      Nat.lt_of_lt_of_le (Nat.mod_lt _ (Nat.two_pow_pos _)) (Nat.pow_le_pow_right (by decide) (by omega))
    rw [ck_of_lt (by omega), bind_some', pure_some']
  unfold smallT
  dsimp only
  exact ite_eq_some (fun _ => ite_eq_of (then_pure t1 _) (pure_some' _)) fun _ =>
    ite_eq_some (fun _ => ite_eq_of
      (then_pure (ite_eq_of (pure_some' _) (ite_eq_of (hm 7 (by omega)) (hm 3 (by omega)))) _)
      (ite_eq_of (then_pure t1 _) (pure_some' _))) fun _ =>
    ite_eq_of (then_pure t2 _) (ite_eq_of (then_pure t1 _) (pure_some' _))

theorem convField_eq_ite (k : Kind) (w prec v : Nat) : convField k w prec v =
    if k = .unorm then unormTo w prec v
    else if k = .snorm then
      (if w = 8 then (if prec = 0 then s8n8 v else if prec = 1 then s8n16 v else s8f32 v)
       else (if prec = 0 then s16n8 v else if prec = 1 then s16n16 v else s16f32 v))
    else if k = .half then
      (if prec = 0 then smallN8 10 true v else if prec = 1 then smallN16 10 true v else smallF32 10 true v)
    else if k = .f11 then
      (if prec = 0 then smallN8 6 false v else if prec = 1 then smallN16 6 false v else smallF32 6 false v)
    else if k = .f10 then
      (if prec = 0 then smallN8 5 false v else if prec = 1 then smallN16 5 false v else smallF32 5 false v)
    else if k = .xr then (if prec = 0 then xr10n8 v else if prec = 1 then xr10n16 v else xr10f32 v)
    else convField k w prec v := by
  cases k <;> simp only [convField, beq_iff_eq, reduceCtorEq, ↓reduceIte]

/-- the only field kind with a requirement on its width is XR_BIAS: `x as i16 - 0x180` needs `x < 2 ^ 15` -/
theorem convFieldT_eq (k : Kind) (w prec v : Nat) (hk : k = .xr → w ≤ 10) (hv : v < 2 ^ w) :
    convFieldT k w prec v = some (convField k w prec v) := by
  rw [convField_eq_ite]
  unfold convFieldT
  refine ite_eq_some (fun _ => unormToT_eq w prec v hv) fun _ => ite_eq_some (fun _ => ?_) fun _ =>
    ite_eq_some (fun _ => smallT_eq 10 true prec v (by omega)) fun _ =>
    ite_eq_some (fun _ => smallT_eq 6 false prec v (by omega)) fun _ =>
    ite_eq_some (fun _ => smallT_eq 5 false prec v (by omega)) fun _ => ite_eq_some (fun h => ?_) fun _ => rfl
  · exact ite_eq_some
      (fun _ => ite_eq_some (fun _ => s8n8T_eq v) fun _ => ite_eq_some (fun _ => s8n16T_eq v) fun _ => rfl)
      fun _ => ite_eq_some (fun _ => s16n8T_eq v) fun _ => ite_eq_some (fun _ => s16n16T_eq v) fun _ => rfl
  · have hx : v ≤ 1023 := by
      have := Nat.pow_le_pow_right (show 0 < 2 by decide) (hk h)
      omega
    exact ite_eq_some (fun _ => xr10n8T_eq v hx) fun _ => ite_eq_some (fun _ => xr10n16T_eq v hx) fun _ =>
      xr10f32T_eq v hx


/-- what the table must satisfy for the trap-freedom of a format: an XR_BIAS field of at most 10 bits and a shared
exponent field of at most 5 bits -/
def FieldOk (f : Field) : Prop := (f.kind = .xr → f.width ≤ 10) ∧ (f.comp = .E → f.width ≤ 5)

instance (f : Field) : Decidable (FieldOk f) := by unfold FieldOk; infer_instance

theorem fieldVal_lt (word : Nat) (f : Field) : fieldVal word f < 2 ^ f.width :=
  Nat.mod_lt _ (Nat.two_pow_pos _)

theorem findField_mem (fm : Fmt) (c : Comp) (p : Nat) (f : Field) (h : findField fm c p = some f) :
    f ∈ fm.fields ∧ f.comp = c := by
  unfold findField at h
  refine ⟨List.mem_of_find?_eq_some h, ?_⟩
  have := List.find?_some h
  simp only [Bool.and_eq_true, beq_iff_eq] at this
  exact this.1

theorem directT_eq (fm : Fmt) (hok : ∀ f ∈ fm.fields, FieldOk f) (prec word p : Nat) (c : Comp) :
    directT fm prec word p c = some (match findField fm c p with
      | some f => convField f.kind f.width prec (fieldVal word f)
      | none => defaultVal (compDefault fm c) prec) := by
  unfold directT
  cases h : findField fm c p with
  | none => rfl
  | some f =>
    exact convFieldT_eq _ _ _ _ (hok f (findField_mem fm c p f h).1).1 (fieldVal_lt word f)

theorem expField_le (fm : Fmt) (hok : ∀ f ∈ fm.fields, FieldOk f) (word p : Nat) :
    (compOf fm word p .E).getD 0 ≤ 31 := by
  unfold compOf
  cases h : findField fm .E p with
  | none => exact Nat.zero_le 31
  | some f =>
    have hm := findField_mem fm .E p f h
    have hw := (hok f hm.1).2 hm.2
    have h1 := fieldVal_lt word f
    have h2 : (2 : Nat) ^ f.width ≤ 2 ^ 5 := Nat.pow_le_pow_right (by decide) hw
    simp only [Option.map_some, Option.getD_some]
    simp only [Nat.reducePow] at h2
    omega

theorem decodePxT_eq (fm : Fmt) (hok : ∀ f ∈ fm.fields, FieldOk f) (prec word p : Nat) :
    decodePxT fm prec word p = some (decodePx fm prec word p) := by
  unfold decodePxT decodePx
  cases hc : fm.color with
  | direct =>
    simp only []
    apply mapT_eq_some
    intro c _
    exact directT_eq fm hok prec word p c
  | yuv bits =>
    simp only []
    by_cases hn : (fm.native == Channels.rgba) = true
    · simp only [hn, ↓reduceIte, directT_eq fm hok prec word p .A, bind_some', pure_some']
      rfl
    · simp only [hn, ↓reduceIte, bind_some', pure_some', Bool.false_eq_true]
  | sharedExp =>
    simp only []
    have he := expField_le fm hok word p
    rw [twoPowiT_of (by omega), bind_some', pure_some']

theorem formats_ok : ∀ fm ∈ formats, ∀ f ∈ fm.fields, FieldOk f := by decide +kernel

/-- every UNORM field of the table has a width `unormTo` converts: its catch-all arm `_ => 0` is not reached from a
table row (the trap proofs do not need this: `unormToT` does not trap at any width) -/
theorem formats_unorm_width : ∀ fm ∈ formats, ∀ f ∈ fm.fields, f.kind = .unorm →
    f.width = 1 ∨ f.width = 2 ∨ f.width = 4 ∨ f.width = 5 ∨ f.width = 6 ∨ f.width = 8 ∨ f.width = 10 ∨
      f.width = 16 := by
  decide +kernel

theorem formats_len : formats.length = 45 := by decide +kernel


theorem r1BitsT_eq (bits : Nat) :
    r1BitsT bits = some ((List.range 8).map fun i => (bits >>> (7 - i)) &&& 1) := by
  unfold r1BitsT
  apply mapT_eq_some
  intro i hi
  have hi : i < 8 := List.mem_range.mp hi
  rw [← ret_eq]
  simp only [wp, and_true]
  omega

theorem unitT_eq (fm : Fmt) (hok : ∀ f ∈ fm.fields, FieldOk f) (prec word : Nat) :
    unitT fm prec word = some ((List.range fm.pxPerUnit).map (decodePx fm prec word)) := by
  unfold unitT
  have h2 : mapT (decodePxT fm prec word) (List.range fm.pxPerUnit) =
      some ((List.range fm.pxPerUnit).map (decodePx fm prec word)) :=
    mapT_eq_some _ _ _ (fun p _ => decodePxT_eq fm hok prec word p)
  by_cases h8 : fm.pxPerUnit = 8
  · simp only [if_pos h8, r1BitsT_eq, bind_some', pure_some', h2]
  · simp only [if_neg h8, pure_some', h2]


theorem fromBytesT_of {len chunk : Nat} (h : chunk ≠ 0 ∧ len % chunk = 0) : fromBytesT len chunk = some (len / chunk) :=
  if_pos h

/-- `cast::from_bytes` / `as_array_chunks` on `n` whole elements -/
theorem fromBytesT_mul (n : Nat) {k : Nat} (hk : 0 < k) : fromBytesT (n * k) k = some n := by
  rw [fromBytesT_of ⟨Nat.ne_of_gt hk, Nat.mul_mod_left ..⟩, Nat.mul_div_cancel _ hk]

theorem fromBytesT_mul_bind {β} {f : Nat → Option β} {n k : Nat} (hk : 0 < k) : (fromBytesT (n * k) k >>= f) = f n := by
  rw [fromBytesT_mul n hk, bind_some']

theorem chanCount_le (c : Channels) : 1 ≤ chanCount c ∧ chanCount c ≤ 4 := by cases c <;> decide

theorem convertChannelsT_of_pos (src dst : Channels) (size n : Nat) (hs : 0 < size) :
    convertChannelsT src dst size (n * (size * chanCount src)) (n * (size * chanCount dst)) = some () := by
  have hcs := (chanCount_le src).1
  have hcd := (chanCount_le dst).1
  have ea : n * (size * chanCount src) / chanCount src = n * size := by
    rw [← Nat.mul_assoc, Nat.mul_div_cancel _ hcs]
  have eb : n * (size * chanCount dst) / chanCount dst = n * size := by
    rw [← Nat.mul_assoc, Nat.mul_div_cancel _ hcd]
  unfold convertChannelsT
  rw [dbgP_of (Nat.mul_mod_left ..), bind_some', dbgP_of (Nat.mul_mod_left ..), bind_some', div_of_ne (by omega),
    bind_some', div_of_ne (by omega), bind_some', dbgP_of (ea.trans eb.symm), bind_some']
  by_cases h : src = dst
  · subst h; rw [if_pos rfl, dbgP_of rfl]
  rw [if_neg h]
  refine ite_eq_of ?_ ?_
  · rw [Nat.mul_comm size, ← Nat.mul_assoc, fromBytesT_mul _ hs, bind_some', pure_some']
  · rw [fromBytesT_mul _ (Nat.mul_pos hs hcs), bind_some', fromBytesT_mul _ (Nat.mul_pos hs hcd), bind_some',
      dbgP_of rfl]

theorem convertChannelsT_eq (src dst : Channels) (size n : Nat) (hs : size = 1 ∨ size = 2 ∨ size = 4) :
    convertChannelsT src dst size (n * (size * chanCount src)) (n * (size * chanCount dst)) = some () :=
  convertChannelsT_of_pos src dst size n (by omega)


theorem processPixelsT_eq (a b n : Nat) (ha : 0 < a) (hb : 0 < b) : processPixelsT a b (n * a) (n * b) = some n := by
  unfold processPixelsT
  rw [fromBytesT_mul _ ha, bind_some', fromBytesT_mul _ hb, bind_some', pure_some', Nat.min_self]

/-- `n` pixels on both sides, any `UNROLL` and any non-empty pixel types whose buffers fit `usize`: `n / u` whole
chunks, then `n % u` single pixels -/
theorem processPixelsUnrollT_of_pos (u a b n : Nat) (hu : 0 < u) (ha : 0 < a) (hb : 0 < b)
    (hA : n * a < 2 ^ 64) (hB : n * b < 2 ^ 64) : processPixelsUnrollT u a b (n * a) (n * b) = some () := by
  have hq : n / u * u ≤ n := Nat.div_mul_le_self n u
  have le : ∀ c, n / u * (u * c) ≤ n * c := fun c => by rw [← Nat.mul_assoc]; exact Nat.mul_le_mul_right c hq
  have rest : ∀ c, n * c - n / u * (u * c) = n % u * c := fun c => by
    rw [← Nat.mul_assoc, ← Nat.sub_mul, Nat.mod_eq_sub_div_mul]
  unfold processPixelsUnrollT
  rw [← ret_eq]
  simp only [wp, Nat.mul_div_cancel _ ha, processPixelsT_eq _ _ _ (Nat.mul_pos hu ha) (Nat.mul_pos hu hb), rest,
    fromBytesT_mul _ ha, fromBytesT_mul _ hb, and_true]
  exact ⟨Nat.lt_of_le_of_lt (le a) hA, Nat.lt_of_le_of_lt (le b) hB, le a, le b⟩

/-- the two instantiations in `uncompressed.rs`: `F16_TO_U16` (`u16 → u16`) and `F16_TO_F32` (`u16 → f32`), `UNROLL = 4` -/
theorem processPixelsUnrollT_eq (b n : Nat) (hb : b = 2 ∨ b = 4) (hn : n < 2 ^ 60) :
    processPixelsUnrollT 4 2 b (n * 2) (n * b) = some () :=
  processPixelsUnrollT_of_pos 4 2 b n (by decide) (by decide) (by omega) (by omega) (by rcases hb with rfl | rfl <;> omega)

theorem bgraSwapT_eq (n : Nat) : bgraSwapT (4 * n) = some () := by
  unfold bgraSwapT
  rw [mapT_eq_some _ (fun _ => ()) _ (fun k hk => dbgP_of (by have := List.mem_range.mp hk; omega)), bind_some',
    pure_some']

end Dds.TrapUnc
