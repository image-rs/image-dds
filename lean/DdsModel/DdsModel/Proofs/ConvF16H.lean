/- `chkHalf` on the 31 744 non-negative finite halves, by kernel evaluation. -/
import DdsModel.Proofs.ConvF16Chk
namespace Dds.ConvFast

theorem half_0 : allRange chkHalf 7 0 7936 = true := by decide +kernel
theorem half_1 : allRange chkHalf 7 7936 7936 = true := by decide +kernel
theorem half_2 : allRange chkHalf 7 15872 7936 = true := by decide +kernel
theorem half_3 : allRange chkHalf 7 23808 7936 = true := by decide +kernel

theorem chkHalf_all : allRange chkHalf 9 0 31744 = true :=
  allRange_join (allRange_join half_0 half_1) (allRange_join half_2 half_3)

end Dds.ConvFast
