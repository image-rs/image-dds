/-
C12 carrier independence, the 8-bit domain: what the three carriers of an 8-bit value `v` — U8 `v`, U16 `257·v`,
F32 `n8::f32(v)` — become in a stored field.  `v/255 = 257·v/65535`, so the F32 carrier is also the image of the U16
carrier and the 16-bit facts of `Proofs/EncCarrierChk.lean` apply to it; only the two 8-bit quantisers are evaluated.
-/
import DdsModel.Proofs.EncCarrierChk
import DdsModel.Proofs.ConvFloat
namespace Dds.EncCarrier
open Dds Dds.CF32 Dds.Conv Dds.Quant Dds.EncTotal Dds.ConvFast

/-- `n16::f32(257·v) = n8::f32(v)`: the U16 and the U8 carrier give the same `f32` in `as_rgba_f32` -/
theorem n16f32_257 (v : Nat) (hv : v < 256) : n16f32 (v * 257) = n8f32 v := by
  rw [n16f32_all (v * 257) (by omega), Dds.ConvProofs.n8f32_ok v hv, unorm_eq 16 _ 65535 rfl, unorm_eq 8 _ 255 rfl,
    Int.natCast_mul, show (65535 : Nat) = 255 * 257 from rfl, Rat.mkRat_mul_right (by decide)]

/-- `n8::from_f32(n8::f32(v)) = v` -/
theorem n8_n8f32 : ∀ v, v < 256 → QuantF32.n8 (n8f32 v) = v :=
  forall_lt_of_allRange (d := 2) (by decide +kernel)

/-- `s8::from_uf32(n8::f32(v)) = s8::from_n8(v)` -/
theorem s8_n8f32 : ∀ v, v < 256 → QuantBits.s8 (n8f32 v) = some (s8_from_n8 v) :=
  forall_lt_of_allRange (d := 2) (by decide +kernel)

/-- `n16::from_f32(n8::f32(v)) = 257·v` (= `n8::n16(v)`) -/
theorem n16_n8f32 (v : Nat) (hv : v < 256) : QuantF32.n16 (n8f32 v) = v * 257 := by
  rw [← n16f32_257 v hv, n16_n16f32 _ (by omega)]

/-- `s16::from_uf32(n8::f32(v)) = s16::from_n16(257·v)` -/
theorem s16_n8f32 (v : Nat) (hv : v < 256) : QuantBits.s16 (n8f32 v) = some (s16_from_n16 (v * 257)) := by
  rw [← n16f32_257 v hv, s16_n16f32 _ (by omega)]

theorem n8f32_lt (v : Nat) (hv : v < 256) : n8f32 v < 2 ^ 32 := by
  rw [← n16f32_257 v hv]
  exact n16f32_lt _ (by omega)

/-- the `f32` defaults are the images of the integer defaults: `n8::f32(255) = n16::f32(65535) = 1.0`,
`n8::f32(0) = n16::f32(0) = 0.0` -/
theorem norm_images : n8f32 255 = CF32.one ∧ n16f32 65535 = CF32.one ∧ n8f32 0 = 0 ∧ n16f32 0 = 0 := by
  decide +kernel

end Dds.EncCarrier
