/-
C13, BC1–BC5 encoder core: the block writers are right inverses of the proved decoders.
`EndPoints::with_indexes` of bc1.rs / bc4.rs and `concat_blocks` of bc.rs put every field where `BcSpec` (= `Bc`, C03)
reads it; the endpoint order the constructors establish selects the palette the encoder built.
-/
import DdsModel.Proofs.EncBc15Index
import DdsModel.Proofs.Enc13
namespace Dds.Enc15
open Dds Dds.Bc Dds.Enc13
open Dds.BcSpec (leWord)


theorem withIndexes_lt (e : C565 × C565) (idx : Nat) (h0 : e.1.toU16 < 65536) (h1 : e.2.toU16 < 65536) :
    ∀ x ∈ withIndexes e idx, x < 256 := by
  intro x hx
  simp only [withIndexes, List.mem_cons, List.not_mem_nil, or_false] at hx
  rcases hx with h | h | h | h | h | h | h | h <;> subst h <;> omega

theorem withIndexes4_lt (c0 c1 data : Nat) (h0 : c0 < 256) (h1 : c1 < 256) : ∀ x ∈ withIndexes4 c0 c1 data, x < 256 := by
  intro x hx
  simp only [withIndexes4, List.mem_cons, List.not_mem_nil, or_false] at hx
  rcases hx with h | h | h | h | h | h | h | h <;> subst h <;> omega

theorem withIndexes_length (e : C565 × C565) (idx : Nat) : (withIndexes e idx).length = 8 := rfl
theorem withIndexes4_length (c0 c1 data : Nat) : (withIndexes4 c0 c1 data).length = 8 := rfl

theorem mem_append3 {pre l post : List Nat} (hp : ∀ x ∈ pre, x < 256) (hl : ∀ x ∈ l, x < 256) (hq : ∀ x ∈ post, x < 256) :
    ∀ x ∈ pre ++ l ++ post, x < 256 := by
  intro x hx
  simp only [List.mem_append] at hx
  rcases hx with (h | h) | h
  · exact hp x h
  · exact hl x h
  · exact hq x h

/-! ### the colour block: `EndPoints::with_indexes` (bc1.rs) against `BcSpec.colorPx` -/

/-- the four endpoint bytes of a written colour block, wherever it sits -/
theorem colour_bytes (pre post : List Nat) (e : C565 × C565) (idx : Nat) :
    let B := blkOf (pre ++ withIndexes e idx ++ post)
    B pre.length = e.1.toU16 % 256 ∧ B (pre.length + 1) = e.1.toU16 / 256 ∧ B (pre.length + 2) = e.2.toU16 % 256 ∧
    B (pre.length + 3) = e.2.toU16 / 256 := by
  have b (i : Nat) (h : i < 8) := blkOf_mid pre (withIndexes e idx) post i (by rw [withIndexes_length]; exact h)
  exact ⟨b 0 (by decide), b 1 (by decide), b 2 (by decide), b 3 (by decide)⟩

/-- `with_indexes` ends with `indexes.to_le_bytes()` (bc1.rs: all four bytes; bc4.rs: the low six) -/
theorem withIndexes_eq (e : C565 × C565) (idx : Nat) :
    withIndexes e idx = [e.1.toU16 % 256, e.1.toU16 / 256, e.2.toU16 % 256, e.2.toU16 / 256] ++ leBytes idx 4 := by
  simp only [withIndexes, leBytes, show List.range 4 = [0, 1, 2, 3] from rfl, List.map, Nat.pow_zero, Nat.div_one,
    Nat.reducePow, List.cons_append, List.nil_append]
theorem withIndexes4_eq (c0 c1 data : Nat) : withIndexes4 c0 c1 data = [c0, c1] ++ leBytes data 6 := by
  simp only [withIndexes4, leBytes, show List.range 6 = [0, 1, 2, 3, 4, 5] from rfl, List.map, Nat.pow_zero,
    Nat.div_one, Nat.reducePow, List.cons_append, List.nil_append]

theorem leWord_written (pre hd post : List Nat) (x n : Nat) :
    leWord (blkOf (pre ++ (hd ++ leBytes x n) ++ post)) (pre.length + hd.length) n = x % 256 ^ n := by
  rw [← List.append_assoc, ← List.length_append]
  exact leWord_leBytes (pre ++ hd) post x n

/-- the three words of a written colour block, wherever it sits in the block -/
theorem colour_words (pre post : List Nat) (e : C565 × C565) (idx : Nat) (hi : idx < 2 ^ 32) :
    leWord (blkOf (pre ++ withIndexes e idx ++ post)) pre.length 2 = e.1.toU16 ∧
    leWord (blkOf (pre ++ withIndexes e idx ++ post)) (pre.length + 2) 2 = e.2.toU16 ∧
    leWord (blkOf (pre ++ withIndexes e idx ++ post)) (pre.length + 4) 4 = idx := by
  obtain ⟨b0, b1, b2, b3⟩ := colour_bytes pre post e idx
  refine ⟨?_, ?_, ?_⟩
  · simp only [leWord, b0, b1]; omega
  · simp only [leWord, Nat.add_assoc, b2, b3]; omega
  · rw [withIndexes_eq]
    exact (leWord_written pre _ post idx 4).trans (Nat.mod_eq_of_lt hi)

/-- the specification decoder on a written colour block returns, per channel, entry `idx / 4^p % 4` of the palette of
the written pair in the mode the pair's order selects (`bc1 = false`: always four colours) -/
theorem colorPx_written (bc1 : Bool) (pre post : List Nat) (e : C565 × C565) (idx : Nat) (v0 : e.1.Valid) (v1 : e.2.Valid)
    (hi : idx < 2 ^ 32) (p : Nat) :
    BcSpec.colorPx bc1 (blkOf (pre ++ withIndexes e idx ++ post)) pre.length p =
      (let four := BcSpec.fourMode bc1 e.1.toU16 e.2.toU16
       let k := idx / 4 ^ p % 4
       (BcSpec.chan8 four k e.1.r e.2.r 31, BcSpec.chan8 four k e.1.g e.2.g 63, BcSpec.chan8 four k e.1.b e.2.b 31,
        if !four && k == 3 then 0 else 255)) := by
  have w := colour_words pre post e idx hi
  unfold BcSpec.colorPx
  simp only [w.1, w.2.1, w.2.2]
  obtain ⟨a1, a2, a3⟩ := toU16_fields _ v0
  obtain ⟨a4, a5, a6⟩ := toU16_fields _ v1
  rw [a1, a2, a3, a4, a5, a6]

/-- `le32` of a written colour block (for `Portable`'s `colourIndex`) -/
theorem colourIndex_written (pre post : List Nat) (e : C565 × C565) (idx : Nat) (hi : idx < 2 ^ 32) (p : Nat) :
    colourIndex (blkOf (pre ++ withIndexes e idx ++ post)) pre.length p = idxGet 2 idx p := by
  have hle : le32 (blkOf (pre ++ withIndexes e idx ++ post)) (pre.length + 4) = idx :=
    Eq.trans (by simp only [le32, leWord, Nat.add_assoc, Nat.reduceAdd]; omega) (colour_words pre post e idx hi).2.2
  unfold colourIndex idxGet
  rw [hle, Nat.mul_comm p 2]
  have : idx >>> (2 * p) &&& 3 < 256 := by
    have := Nat.and_le_right (n := idx >>> (2 * p)) (m := 3)
    omega
  exact (Nat.mod_eq_of_lt this).symm

theorem le16_written (pre post : List Nat) (e : C565 × C565) (idx : Nat) :
    le16 (blkOf (pre ++ withIndexes e idx ++ post)) pre.length = e.1.toU16 ∧
    le16 (blkOf (pre ++ withIndexes e idx ++ post)) (pre.length + 2) = e.2.toU16 := by
  obtain ⟨b0, b1, b2, b3⟩ := colour_bytes pre post e idx
  constructor
  · simp only [le16, b0, b1]; omega
  · simp only [le16, Nat.add_assoc, b2, b3]; omega

theorem _root_.Dds.Enc13.le16_withIndexes (e : C565 × C565) (idx : Nat) (pre : List Nat) :
    le16 (blkOf (pre ++ withIndexes e idx)) pre.length = e.1.toU16 ∧
    le16 (blkOf (pre ++ withIndexes e idx)) (pre.length + 2) = e.2.toU16 := by
  have h := le16_written pre [] e idx
  rwa [List.append_nil] at h

/-! ### the index list of `block_closest` / `block_dither` (bc1.rs) -/

/-- no assertion fires and the list holds `indexAt` at every pixel, provided `closest` returns `< 4` and a palette
without transparent entry (P4) only sees opaque maps (`compress_p4` passes `AlphaMap::ALL_OPAQUE`) -/
theorem blockIndexes_spec (mode : PaletteMode) (alphaMap : Nat) (sel : Nat → Nat)
    (hs : ∀ i, i < 16 → isOpaque alphaMap i = true → sel i < 4)
    (hm : mode = .p4 → ∀ i, i < 16 → isOpaque alphaMap i = true) :
    ∃ idx, blockIndexes mode alphaMap sel = some idx ∧ idx < 2 ^ 32 ∧
      ∀ p, p < 16 → idxGet 2 idx p = indexAt alphaMap sel p := by
  let v : Nat → Nat := fun i => if i < 16 then indexAt alphaMap sel i else 0
  have hv : ∀ j, v j < 2 ^ 2 := by
    intro j
    show (if j < 16 then indexAt alphaMap sel j else 0) < 4
    by_cases hj : j < 16
    · rw [if_pos hj]; unfold indexAt
      by_cases ho : isOpaque alphaMap j = true
      · rw [if_pos ho]; exact hs j hj ho
      · rw [if_neg ho]; decide
    · rw [if_neg hj]; decide
  have hf : ∀ i, i < 16 → (if isOpaque alphaMap i then some (sel i) else transparentIndex mode) = some (v i) := by
    intro i hi
    show _ = some (if i < 16 then indexAt alphaMap sel i else 0)
    rw [if_pos hi]; unfold indexAt
    by_cases ho : isOpaque alphaMap i = true
    · rw [if_pos ho, if_pos ho]
    · rw [if_neg ho, if_neg ho]
      unfold transparentIndex
      cases mode with
      | p4 => exact absurd (hm rfl i hi) ho
      | p3 => rfl
  have h := idxFill_spec 2 U32 (by decide) (by decide) v hv _ hf
  refine ⟨packed 2 v 16, h.1, h.2.1, fun p hp => ?_⟩
  rw [h.2.2 p hp]
  show (if p < 16 then indexAt alphaMap sel p else 0) = _
  rw [if_pos hp]

/-! ### BC4-type blocks: `EndPoints::with_indexes` (bc4.rs) against `BcSpec.bc4uVal` / `bc4sVal` -/

theorem bc4_words (pre post : List Nat) (c0 c1 data : Nat) (hd : data < 2 ^ 48) :
    blkOf (pre ++ withIndexes4 c0 c1 data ++ post) pre.length = c0 ∧
    blkOf (pre ++ withIndexes4 c0 c1 data ++ post) (pre.length + 1) = c1 ∧
    leWord (blkOf (pre ++ withIndexes4 c0 c1 data ++ post)) (pre.length + 2) 6 = data := by
  have b (i : Nat) (h : i < 8) := blkOf_mid pre (withIndexes4 c0 c1 data) post i (by rw [withIndexes4_length]; exact h)
  refine ⟨b 0 (by decide), b 1 (by decide), ?_⟩
  rw [withIndexes4_eq]
  exact (leWord_written pre _ post data 6).trans (Nat.mod_eq_of_lt hd)

/-- the specification's BC4 value of pixel `p` of a written block, UNORM and SNORM: entry `get(p)` of the palette the
endpoint bytes select -/
theorem bc4Val_written (snorm : Bool) (pre post : List Nat) (c0 c1 data : Nat) (hd : data < 2 ^ 48) (p : Nat) :
    (if snorm then BcSpec.bc4sVal else BcSpec.bc4uVal) (blkOf (pre ++ withIndexes4 c0 c1 data ++ post)) pre.length p =
      intended4 (sixOfBytes snorm c0 c1) (levelOfByte snorm c0) (levelOfByte snorm c1) (if snorm then 254 else 255)
        (idxGet 3 data p) := by
  have w := bc4_words pre post c0 c1 data hd
  cases snorm <;>
    simp only [Bool.false_eq_true, if_false, if_true, BcSpec.bc4uVal, BcSpec.bc4sVal, w.1, w.2.1, w.2.2, intended4,
      sixOfBytes, levelOfByte, idxGet3_spec]
  rfl


theorem fromNorm_eq (n : Nat) (h : n ≤ 254) : fromNorm n = (n + 129) % 256 := rfl

theorem fromNorm_facts (n : Nat) (h : n ≤ 254) :
    fromNorm n < 256 ∧ fromNorm n ≠ 128 ∧ BcSpec.snormU (fromNorm n) = n ∧ BcSpec.sraw (fromNorm n) = (n : Int) - 127 := by
  have e : fromNorm n = (n + 129) % 256 := rfl
  unfold BcSpec.snormU BcSpec.sraw
  rw [e]
  refine ⟨by omega, by omega, ?_, ?_⟩ <;> (repeat' split) <;> omega

end Dds.Enc15
