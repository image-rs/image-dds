import DdsModel.Bc6
import DdsModel.Bc6Spec
import DdsModel.Proofs.BcTables
import DdsModel.Proofs.Bc7
namespace Dds.Bc6
open Dds.BcTables Dds.Bc6Spec

/-! ### the spec's header layouts partition the header bits -/

def declaredWidth (r : ModeRec) (c e : Nat) : Nat :=
  if e = 0 then r.prec else if e < 2 * r.regions then deltaW r c else 0

def comps : List (Nat × Nat) := (List.range 3).flatMap fun c => (List.range 4).map fun e => (c, e)

/-- for one mode: every endpoint component has a source for exactly its declared low bits; every header bit
position after the mode bits is the source of exactly one component bit; the header has the spec's length -/
def layoutOk (r : ModeRec) : Bool :=
  let total := r.modeBits + layoutBits r.layout
  let srcs := comps.flatMap fun ce => (List.range 16).filterMap fun j => srcPos r.layout r.modeBits ce.1 ce.2 j
  comps.all (fun ce => (List.range 16).all fun j =>
    (srcPos r.layout r.modeBits ce.1 ce.2 j).isSome = decide (j < declaredWidth r ce.1 ce.2)) &&
  (List.range' r.modeBits (total - r.modeBits)).all (fun p => srcs.count p = 1) &&
  srcs.length = total - r.modeBits &&
  total = (if r.regions = 2 then 77 else 65) &&
  -- the delta widths of a non-transformed mode equal the precision
  (r.transformed || (r.delta.1 = r.prec && r.delta.2.1 = r.prec && r.delta.2.2 = r.prec))

theorem layouts_ok : modes.length = 14 ∧ modes.all layoutOk = true := by decide +kernel

/-- mode codes are pairwise distinct as bit prefixes: at most one record matches any 5 low bits; the
unmatched 5-bit codes are exactly the four reserved ones -/
theorem mode_codes :
    (List.range 32).all (fun x => (modes.filter (fun r => x % 2 ^ r.modeBits = r.code)).length ≤ 1) = true ∧
    (List.range 32).filter (fun x => (modes.find? (fun r => x % 2 ^ r.modeBits = r.code)).isNone) = [19, 23, 27, 31] := by
  decide +kernel

/-! ### sign extension: `(x << s) >> s` is the two's complement reading -/

/-- With `S = 2^(32-w)`: `v·S` wraps at `2^32 = 2^w·S` around `2^31 = 2^(w-1)·S`, so dividing by `S` again leaves `v`
wrapped at `2^w` around `2^(w-1)`. -/
theorem signExtend_eq (w v : Nat) (hw : 1 ≤ w) (hw' : w ≤ 32) (hv : v < 2 ^ w) :
    signExtend (v : Int) w = sext w v := by
  have hP : (2 ^ w : Nat) = 2 * 2 ^ (w - 1) := by rw [← Nat.pow_succ']; congr 1; omega
  have h32 : (4294967296 : Int) = ((2 ^ (32 - w) : Nat) : Int) * ((2 ^ w : Nat) : Int) := by
    rw [← Int.natCast_mul, ← Nat.pow_add, show 32 - w + w = 32 by omega]; rfl
  have h31 : (2147483648 : Int) = ((2 ^ (32 - w) : Nat) : Int) * ((2 ^ (w - 1) : Nat) : Int) := by
    rw [← Int.natCast_mul, ← Nat.pow_add, show 32 - w + (w - 1) = 31 by omega]; rfl
  have hS : (0 : Int) < ((2 ^ (32 - w) : Nat) : Int) := Int.natCast_pos.mpr (Nat.two_pow_pos _)
  simp only [signExtend, shl32, sar32, wrap32, sext]
  rw [h32, h31, Int.mul_comm (v : Int), ← Int.mul_add, Int.mul_emod_mul_of_pos _ _ hS, ← Int.mul_sub,
    Int.mul_ediv_cancel_left _ (Int.ne_of_gt hS)]
  generalize 2 ^ (w - 1) = H at *
  generalize 2 ^ w = P at *
  subst hP
  split
  · rw [← Int.sub_emod_right, Int.emod_eq_of_lt (by omega) (by omega)]; omega
  · rw [Int.emod_eq_of_lt (by omega) (by omega)]; omega

theorem extractMode_low5 (b : Nat) : (extractMode b).1 = (extractMode (b % 32)).1 := by
  have e1 : b % 32 % 2 ^ 2 = b % 2 ^ 2 := Nat.mod_mod_of_dvd _ (by decide)
  have e2 : ((b % 32) >>> 2) % 2 ^ 3 = (b >>> 2) % 2 ^ 3 := by
    simp only [Nat.shiftRight_eq_div_pow]; omega
  simp only [extractMode, Bc7.consumeBits_eq _ _ (by decide : 0 < 2) (by decide : 2 ≤ 8),
    Bc7.consumeBits_eq _ _ (by decide : 0 < 3) (by decide : 3 ≤ 8), e1, e2, apply_ite Prod.fst]

theorem mode_table : ∀ x, x < 32 → (extractMode x).1 =
    (match Bc6Spec.modeOf x with
     | none => Mode.invalid
     | some r => if r.code = 0 then .two .M10_555 else if r.code = 1 then .two .M7_666
        else if r.code = 2 then .two .M11_544 else if r.code = 6 then .two .M11_454
        else if r.code = 10 then .two .M11_445 else if r.code = 14 then .two .M9_555
        else if r.code = 18 then .two .M8_655 else if r.code = 22 then .two .M8_565
        else if r.code = 26 then .two .M8_556 else if r.code = 30 then .two .M6_666
        else if r.code = 3 then .one .M10_10 else if r.code = 7 then .one .M11_9
        else if r.code = 11 then .one .M12_8 else .one .M16_4) := by decide +kernel

theorem reserved_zero (signed : Bool) (b : Nat) (h : b % 32 = 19 ∨ b % 32 = 23 ∨ b % 32 = 27 ∨ b % 32 = 31) :
    decodeBlock signed b = List.replicate 16 [0, 0, 0] := by
  have : (extractMode b).1 = Mode.invalid := by
    rw [extractMode_low5]
    rcases h with h | h | h | h <;> rw [h] <;> decide
  simp only [decodeBlock, this]

end Dds.Bc6
