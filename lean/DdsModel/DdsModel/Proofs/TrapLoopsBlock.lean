/- Proofs for `TrapLoopsBlock.lean` (C01): the block helpers never trap under the callers' invariants. -/
import DdsModel.TrapLoopsBlock
import DdsModel.Proofs.TrapLoops
import DdsModel.Theorems.C05
namespace Dds.TrapLoops
open Dds Dds.Trap
open Dds.Addr (PRange)

/-- writes of a block function: inside the first `rowBytes` bytes of one of the `rows` rows of `d` (`stride` apart) -/
def RowsOK (d : Sl) (stride rows rowBytes : Nat) (s : Sl) : Prop :=
  s.buf = d.buf ∧ ∃ y, y < rows ∧ d.off + y * stride ≤ s.off ∧ s.off + s.len ≤ d.off + y * stride + rowBytes

theorem RowsOK.shift {d d' : Sl} {stride rows a b c : Nat} {s : Sl} (h : RowsOK d' stride rows a s)
    (hb : d'.buf = d.buf) (ho : d'.off = d.off + c) (hab : c + a ≤ b) : RowsOK d stride rows b s := by
  obtain ⟨h1, y, h2, h3, h4⟩ := h
  exact ⟨h1.trans hb, y, h2, by omega, by omega⟩

theorem RowsOK.mono {d : Sl} {stride rows a b : Nat} {s : Sl} (h : RowsOK d stride rows a s) (hab : a ≤ b) :
    RowsOK d stride rows b s := h.shift rfl (Nat.add_zero _).symm (by omega)

/-- the unit sizes and the row range of a `ProcessBlocksFn` call: what stays the same when a helper hands part of its
pixel range on -/
structure BlkUnit (bx by_ bpb size rs re : Nat) : Prop where
  bx_pos : 0 < bx
  bpb_pos : 0 < bpb
  size_pos : 0 < size
  rows : rs < re
  re_le : re ≤ by_

/-- `enc` holds exactly the blocks that cover the pixels `[wo, wo + width)` of a block row -/
structure EncPre (bx bpb : Nat) (enc : Sl) (width wo : Nat) : Prop where
  wo_lt : wo < bx
  w_ok : 0 < width ∨ wo = 0
  wsum_lt : width + wo < U32B
  enc_len : enc.len = divCeil (width + wo) bx * bpb

/-- what a `ProcessBlocksFn` for `bx × by_` blocks of `bpb` bytes and `size`-byte pixels may assume of its arguments
(the `debug_assert!`s of :322–336 and the doc comments of `PixelRange`): exactly the blocks that cover
`[wo, wo + width)`, a non-empty row range inside the block, and `decoded` long enough for `rows` rows `stride` apart -/
structure BlkPre (bx by_ bpb size : Nat) (enc dec : Sl) (stride : Nat) (r : PRange) : Prop
    extends BlkUnit bx by_ bpb size r.rs r.re, EncPre bx bpb enc r.width r.wo where
  dec_len : (r.re - r.rs - 1) * stride + r.width * size ≤ dec.len
  dec_lt : dec.len < USIZE

theorem EncPre.head {bx bpb : Nat} {enc : Sl} {w wo : Nat} (h : EncPre bx bpb enc w wo) (hw : 0 < w) :
    EncPre bx bpb ⟨enc.buf, enc.off, bpb⟩ (min (bx - wo) w) wo :=
  have s := offsetSplit h.wo_lt hw
  ⟨h.wo_lt, Or.inl s.pos, by have := h.wsum_lt; have := s.le; omega, by rw [s.head, Nat.one_mul]⟩

theorem EncPre.tail {bx bpb : Nat} {enc : Sl} {w wo : Nat} (h : EncPre bx bpb enc w wo) (hw : 0 < w) :
    EncPre bx bpb ⟨enc.buf, enc.off + bpb, enc.len - bpb⟩ (w - min (bx - wo) w) 0 :=
  ⟨Nat.zero_lt_of_lt h.wo_lt, Or.inr rfl, by have := h.wsum_lt; omega, ((offsetSplit h.wo_lt hw).bytes h.enc_len).2⟩

theorem EncPre.bpb_le {bx bpb : Nat} {enc : Sl} {w wo : Nat} (h : EncPre bx bpb enc w wo) (hw : 0 < w) :
    bpb ≤ enc.len := ((offsetSplit h.wo_lt hw).bytes h.enc_len).1

theorem generalRowsT_spec {bx by_ bpb size : Nat} {enc dec : Sl} {stride : Nat} {r : PRange}
    (h : BlkPre bx by_ bpb size enc dec stride r) {pixelX blockW pox : Nat} (hx : pixelX + blockW ≤ r.width)
    (hb : blockW + pox ≤ bx) :
    Runs (generalRowsT bx by_ size dec stride r pixelX blockW pox)
      (RowsOK dec stride (r.re - r.rs) (r.width * size)) := by
  have hre := h.re_le
  have hdl := h.dec_len
  have hdlt := h.dec_lt
  unfold generalRowsT
  refine forT_quiet fun y hy => ?_
  rw [List.mem_range'_1] at hy
  have p1 : (y - r.rs) * stride ≤ (r.re - r.rs - 1) * stride := Nat.mul_le_mul_right _ (by omega)
  have p2 := add_mul_le_mul hx size
  have hidx : ∀ x, x < blockW → x < blockW ∧ y * bx + x + pox < bx * by_ := fun x hx' => by
    have h1 : (y + 1) * bx ≤ by_ * bx := Nat.mul_le_mul_right _ (by omega)
    rw [Nat.succ_mul, Nat.mul_comm by_] at h1
    exact ⟨hx', by omega⟩
  rw [subU_bind (by omega), ckU_bind (by omega), ckU_bind (by omega), ckU_bind (by omega), ckU_bind (by omega),
    ckU_bind (by omega), Sl.range_bind ⟨by omega, by omega⟩]
  simp only [Nat.add_sub_cancel_left]
  rw [TrapUnc.fromBytesT_mul_bind h.size_pos, dbgP_bind rfl, dbgP_bind hidx, pure_some']
  exact ⟨_, rfl, Quiet.one ⟨rfl, y - r.rs, by omega, by simp only; omega, by simp only; omega⟩⟩

/-- one block of `general_process_blocks`, `t = block_index * BX` pixels into the blocks of the range, `pixel_x = px`
not past its start: the width `bw` the code's `min`s allow keeps `pixel_x` inside the range and not past the next block -/
theorem generalBlock_width {bx w wo t px pox bw : Nat} (hlt : t < w + wo) (hwo : wo < bx)
    (hp : (t = 0 ∧ pox = wo) ∨ (bx ≤ t ∧ pox = 0)) (hpx : px ≤ t - wo) (h1 : bw ≤ bx - pox) (h2 : bw ≤ w)
    (h3 : bw ≤ w + wo - t) : px + bw ≤ w ∧ bw + pox ≤ bx ∧ px + bw ≤ t + bx - wo := by
  omega

/-- the block loop of `general_process_blocks` from block `bi` on; `pixel_x` has not passed the start of that block -/
theorem generalLoopT_spec {bx by_ bpb size : Nat} {enc dec : Sl} {stride : Nat} {r : PRange}
    (h : BlkPre bx by_ bpb size enc dec stride r) (nb : Nat) (hnb : ∀ j, j < nb → j * bx < r.width + r.wo) :
    ∀ (k bi px : Nat), bi + k = nb → px ≤ bi * bx - r.wo →
      Runs (generalLoopT bx by_ size dec stride r (List.range' bi k) px)
        (RowsOK dec stride (r.re - r.rs) (r.width * size)) := by
  intro k
  induction k with
  | zero => intro bi px _ _; exact ⟨[], rfl, Quiet.nil _⟩
  | succ k ih =>
    intro bi px hbi hpx
    have hlt := hnb bi (by omega)
    have hwo := h.wo_lt
    have hws := h.wsum_lt
    have hdl := h.dec_len
    have hdlt := h.dec_lt
    obtain ⟨h32, h64, _⟩ := sizes
    rw [List.range'_succ]
    unfold generalLoopT
    simp only []
    generalize hpox : (if bi = 0 then r.wo else 0) = pox
    have hpox' : (bi * bx = 0 ∧ pox = r.wo) ∨ (bx ≤ bi * bx ∧ pox = 0) := by
      subst hpox
      rcases Nat.eq_zero_or_pos bi with rfl | h0
      · exact Or.inl ⟨Nat.zero_mul _, rfl⟩
      · exact Or.inr ⟨Nat.le_mul_of_pos_left _ h0, if_neg (Nat.ne_of_gt h0)⟩
    have hw := generalBlock_width hlt hwo hpox' hpx (Nat.le_trans (Nat.min_le_left _ _) (Nat.min_le_left _ _))
      (Nat.le_trans (Nat.min_le_left _ _) (Nat.min_le_right _ _)) (Nat.min_le_right (min (bx - pox) r.width) _)
    rw [← Nat.succ_mul] at hw
    rw [subU_bind (by omega), ckU_bind (by omega), ckU_bind (by omega), subU_bind (by omega)]
    generalize min (min (bx - pox) r.width) (r.width + r.wo - bi * bx) = bw at hw ⊢
    have p1 := Nat.mul_le_mul_right size hw.1
    refine (generalRowsT_spec h hw.1 hw.2.1).bind fun e1 q1 => ?_
    rw [ckU_bind (by omega)]
    exact (ih (bi + 1) (px + bw) (by omega) hw.2.2).bind fun e2 q2 => ⟨_, rfl, q1.append q2⟩

theorem divCeil_lt_mul {n b j : Nat} (hb : 0 < b) (hj : j < divCeil n b) : j * b < n :=
  (lt_divCeil_iff hb).1 hj

theorem generalT_spec {bx by_ bpb size : Nat} {enc dec : Sl} {stride : Nat} {r : PRange}
    (h : BlkPre bx by_ bpb size enc dec stride r) :
    Runs (generalT bx by_ bpb size enc dec stride r) (RowsOK dec stride (r.re - r.rs) (r.width * size)) := by
  unfold generalT
  rw [dbgP_bind h.wo_lt, h.enc_len, TrapUnc.fromBytesT_mul_bind h.bpb_pos, List.range_eq_range']
  exact generalLoopT_spec h _ (fun j hj => divCeil_lt_mul h.bx_pos hj) _ 0 0 (Nat.zero_add _) (Nat.zero_le _)

/-- the call `handle_width_offset` makes for the first block … -/
theorem BlkPre.head {bx by_ bpb size : Nat} {enc dec : Sl} {stride : Nat} {r : PRange}
    (h : BlkPre bx by_ bpb size enc dec stride r) (hw : 0 < r.width) :
    BlkPre bx by_ bpb size ⟨enc.buf, enc.off, bpb⟩ dec stride ⟨min (bx - r.wo) r.width, r.wo, r.rs, r.re⟩ :=
  ⟨h.toBlkUnit, h.toEncPre.head hw, by
    have := Nat.mul_le_mul_right size (offsetSplit h.wo_lt hw).le
    have := h.dec_len
    show (r.re - r.rs - 1) * stride + min (bx - r.wo) r.width * size ≤ dec.len
    omega, h.dec_lt⟩

/-- … and what it leaves to its caller -/
theorem BlkPre.tail {bx by_ bpb size : Nat} {enc dec : Sl} {stride : Nat} {r : PRange}
    (h : BlkPre bx by_ bpb size enc dec stride r) (hw : 0 < r.width) :
    BlkPre bx by_ bpb size ⟨enc.buf, enc.off + bpb, enc.len - bpb⟩
      ⟨dec.buf, dec.off + min (bx - r.wo) r.width * size, dec.len - min (bx - r.wo) r.width * size⟩ stride
      ⟨r.width - min (bx - r.wo) r.width, 0, r.rs, r.re⟩ := by
  have := add_mul_le_mul (Nat.le_of_eq (Nat.add_sub_cancel' (offsetSplit h.wo_lt hw).le)) size
  have := h.dec_len
  have := h.dec_lt
  exact ⟨h.toBlkUnit, h.toEncPre.tail hw, by
    show (r.re - r.rs - 1) * stride + (r.width - min (bx - r.wo) r.width) * size ≤ dec.len - _; omega,
    by show dec.len - _ < USIZE; omega⟩

/-- blocks left after the first one has been handled separately -/
theorem blocks_after_offset {bx width wo : Nat} (_hbx : 0 < bx) (hwo : wo < bx) (hw : 0 < width) :
    divCeil (width + wo) bx = divCeil (width - min (bx - wo) width) bx + 1 :=
  (offsetSplit hwo hw).rest

theorem succ_mul_sub (d b : Nat) : (d + 1) * b - b = d * b := by rw [Nat.succ_mul, Nat.add_sub_cancel]

theorem handleWidthOffsetT_spec {bx by_ bpb size : Nat} {enc dec : Sl} {stride : Nat} {r : PRange}
    (h : BlkPre bx by_ bpb size enc dec stride r) (hw : 0 < r.width) :
    ∃ e, handleWidthOffsetT bx by_ bpb size enc dec stride r =
        some (⟨enc.buf, enc.off + bpb, enc.len - bpb⟩, min (bx - r.wo) r.width * size,
          ⟨r.width - min (bx - r.wo) r.width, 0, r.rs, r.re⟩, e) ∧
      Quiet (RowsOK dec stride (r.re - r.rs) (r.width * size)) e := by
  have s := offsetSplit h.wo_lt hw
  have hbe := h.bpb_le hw
  obtain ⟨e, he, q⟩ := generalT_spec (h.head hw)
  have p1 := Nat.mul_le_mul_right size s.le
  have hdl := h.dec_len
  have hdlt := h.dec_lt
  unfold handleWidthOffsetT
  rw [dbgP_bind h.wo_lt, subU_bind (Nat.le_of_lt h.wo_lt)]
  simp only []
  rw [if_neg (Nat.ne_of_gt s.pos), Sl.upto_bind hbe, he, bind_some', subU_bind s.le, Sl.drop_bind hbe,
    ckU_bind (by omega), pure_some']
  exact ⟨e, rfl, q.mono fun _ hs => hs.mono p1⟩

theorem fast4T_spec {bpb size : Nat} {enc dec : Sl} {stride width : Nat} (hb : 0 < bpb) (hs : 0 < size)
    (hel : enc.len = divCeil width 4 * bpb) (hst : stride % size = 0) (hdm : dec.len % size = 0)
    (hdl : 3 * stride + width * size ≤ dec.len) (hdlt : dec.len < USIZE) :
    Runs (fast4T bpb size enc dec stride width) (RowsOK dec stride 4 (width * size)) := by
  generalize hS : stride / size = S
  generalize hn : dec.len / size = n
  have eS : stride = S * size := by rw [← hS]; exact (Nat.div_mul_cancel (Nat.dvd_of_mod_eq_zero hst)).symm
  have en : dec.len = n * size := by rw [← hn]; exact (Nat.div_mul_cancel (Nat.dvd_of_mod_eq_zero hdm)).symm
  have hfit : 3 * S + width ≤ n := by
    have : (3 * S + width) * size ≤ n * size := by rw [Nat.add_mul, Nat.mul_assoc, ← eS, ← en]; exact hdl
    exact Nat.le_of_mul_le_mul_right this hs
  have hnl : n ≤ dec.len := by rw [← hn]; exact Nat.div_le_self _ _
  have hdq := div_le_divCeil width 4
  have hrow : ∀ (y pi bw : Nat), y < 4 → pi + bw ≤ width →
      RowsOK dec stride 4 (width * size) ⟨dec.buf, dec.off + (S * y + pi) * size, bw * size⟩ := by
    intro y pi bw hy hp
    have e1 : (S * y + pi) * size = y * stride + pi * size := by rw [Nat.add_mul, eS, Nat.mul_right_comm, Nat.mul_comm y]
    have e2 := add_mul_le_mul hp size
    exact ⟨rfl, y, hy, by simp only; omega, by simp only; omega⟩
  have hS3 : ∀ y, y < 4 → S * y ≤ S * 3 := fun y hy => Nat.mul_le_mul_left _ (by omega)
  unfold fast4T
  rw [hel, TrapUnc.fromBytesT_mul_bind hb]
  simp only [hS, hn]
  rw [dbgP_bind hdq]
  -- from here on everything is counted in pixels (`hfit`, `hrow`); the byte-level facts are not used below
  clear hdq hel hst hdm hdl hS hn eS en
  refine (forT_quiet fun bi hbi => ?_).bind fun e1 q1 => ?_
  · have hbi : bi < width / 4 := List.mem_range.mp hbi
    rw [ckU_bind (by omega)]
    refine forT_quiet fun y hy => ?_
    have hy : y < 4 := List.mem_range.mp hy
    have := hS3 y hy
    rw [ckU_bind (by omega), ckU_bind (by omega), ckU_bind (by omega), dbgP_bind ⟨by omega, by omega⟩, pure_some']
    exact ⟨_, rfl, Quiet.one (hrow y (bi * 4) 4 hy (by omega))⟩
  · split
    · rw [dbgP_bind (div_lt_divCeil_of_rem (by omega)), ckU_bind (by omega), subU_bind (by omega)]
      refine (forT_quiet fun y hy => ?_).bind fun e2 q2 => ⟨_, rfl, q1.append q2⟩
      have hy : y < 4 := List.mem_range.mp hy
      have := hS3 y hy
      rw [ckU_bind (by omega), ckU_bind (by omega), ckU_bind (by omega), dbgP_bind ⟨by omega, by omega⟩,
        dbgP_bind (by intro x hx; omega), pure_some']
      exact ⟨_, rfl, Quiet.one (hrow y (width / 4 * 4) _ hy (by omega))⟩
    · exact ⟨_, rfl, q1.append (Quiet.nil _)⟩

/-- `process_4x4_blocks_helper` after the offset: fast path or general path, whichever the run-time tests select -/
theorem proc4TailT_spec {bpb size : Nat} {enc dec : Sl} {stride : Nat} {r : PRange} (al : Sl → Bool)
    (h : BlkPre 4 4 bpb size enc dec stride r) (hwo : r.wo = 0) :
    Runs (proc4TailT bpb size al enc dec stride r) (RowsOK dec stride (r.re - r.rs) (r.width * size)) := by
  unfold proc4TailT
  rw [subU_bind (Nat.le_of_lt h.rows)]
  split
  · rename_i hc
    have hl := h.dec_len
    have hel := h.enc_len
    rw [hc.1] at hl ⊢
    rw [hwo, Nat.add_zero] at hel
    exact fast4T_spec h.bpb_pos h.size_pos hel hc.2.1 hc.2.2.2 (by omega) h.dec_lt
  · exact generalT_spec h

/-- **`process_4x4_blocks_helper`** (every alignment oracle) -/
theorem proc4T_spec {bpb size : Nat} {enc dec : Sl} {stride : Nat} {r : PRange} (al : Sl → Bool)
    (h : BlkPre 4 4 bpb size enc dec stride r) :
    Runs (proc4T bpb size al enc dec stride r) (RowsOK dec stride (r.re - r.rs) (r.width * size)) := by
  have hrows := h.rows
  have hre := h.re_le
  have hdl := h.dec_len
  have hdlt := h.dec_lt
  have hws := h.wsum_lt
  have hbp := Nat.ne_of_gt h.bpb_pos
  unfold proc4T
  rw [subU_bind (by omega), dbgP_bind (by omega), h.enc_len, modT_bind hbp, dbgP_bind (Nat.mul_mod_left _ _),
    div_bind hbp, Nat.mul_div_cancel _ h.bpb_pos, ck32_bind (by omega), divCeilT_bind (by omega),
    dbgP_bind (by rw [Nat.add_comm]), subU_bind (by omega), Nat.mul_comm stride, ckU_bind (by omega),
    ckU_bind (by omega), ckU_bind (by omega), dbgP_bind (by show dec.len ≥ _; omega)]
  split
  · have hw : 0 < r.width := by have := h.w_ok; omega
    obtain ⟨e0, he0, q0⟩ := handleWidthOffsetT_spec h hw
    have p1 := Nat.mul_le_mul_right size (offsetSplit h.wo_lt hw).le
    have p2 := add_mul_le_mul (Nat.le_of_eq (Nat.add_sub_cancel' (offsetSplit h.wo_lt hw).le)) size
    rw [he0, bind_some']
    simp only []
    rw [Sl.drop_bind (by omega)]
    have ht := (proc4TailT_spec al (h.tail hw) rfl).mono fun _ hs => RowsOK.shift (d := dec) hs rfl rfl p2
    exact ht.bind fun e1 q1 => ⟨_, rfl, q0.append q1⟩
  · exact proc4TailT_spec al h (by omega)

theorem proc2TailT_spec {size : Nat} {dec : Sl} {width off total : Nat} (stride : Nat) (hs : 0 < size)
    (hoff : off + width = total) (hdl : total * size ≤ dec.len) (hdlt : dec.len < USIZE) :
    Runs (proc2TailT size dec width (divCeil width 2) width off) (RowsOK dec stride 1 (total * size)) := by
  have hdc := divCeil_eq width 2 (by omega)
  have hwr : ∀ (a b : Nat), a + b ≤ total →
      RowsOK dec stride 1 (total * size) ⟨dec.buf, dec.off + a * size, b * size⟩ := by
    intro a b hab
    have := add_mul_le_mul hab size
    exact ⟨rfl, 0, by omega, by simp only; omega, by simp only; omega⟩
  have hts : total ≤ total * size := Nat.le_mul_of_pos_right _ hs
  unfold proc2TailT
  rw [dbgP_bind rfl]
  simp only []
  rw [ckU_bind (by omega), dbgP_bind (by omega), Nat.mul_assoc, TrapUnc.fromBytesT_mul_bind (by omega),
    show min (divCeil width 2) (width / 2) = width / 2 by omega]
  have qe1 : Quiet (RowsOK dec stride 1 (total * size))
      (if width / 2 = 0 then [] else [Ev.wr ⟨dec.buf, dec.off + off * size, width / 2 * (2 * size)⟩]) := by
    split
    · exact Quiet.nil _
    · rw [← Nat.mul_assoc]; exact Quiet.one (hwr off (width / 2 * 2) (by omega))
  split
  · rw [dbgP_bind (by omega), subU_bind (by omega), dbgP_bind (by omega), pure_some', bind_some', pure_some']
    refine ⟨_, rfl, qe1.append (Quiet.one ?_)⟩
    have := hwr (off + (width - 1)) 1 (by omega)
    rwa [Nat.one_mul] at this
  · rw [pure_some', bind_some', pure_some']
    exact ⟨_, rfl, qe1.append (Quiet.nil _)⟩

theorem proc2T_spec {bpb size : Nat} {enc dec : Sl} {stride : Nat} {r : PRange}
    (h : BlkPre 2 1 bpb size enc dec stride r) :
    Runs (proc2T bpb size enc dec r) (RowsOK dec stride (r.re - r.rs) (r.width * size)) := by
  have hr1 : r.re - r.rs = 1 := by have := h.rows; have := h.re_le; omega
  have hdl : r.width * size ≤ dec.len := by have := h.dec_len; omega
  have hdlt := h.dec_lt
  have hs := h.size_pos
  have hwo := h.wo_lt
  rw [hr1]
  unfold proc2T
  rw [h.enc_len, TrapUnc.fromBytesT_mul_bind h.bpb_pos, ckU_bind (by omega), Sl.upto_bind hdl]
  simp only []
  rw [TrapUnc.fromBytesT_mul_bind hs, dbgP_bind rfl]
  split
  · rename_i hwo1
    have hw : 0 < r.width := by have := h.w_ok; omega
    have hD := (offsetSplit hwo hw).rest
    rw [hwo1, show min (2 - 1) r.width = 1 by omega] at hD
    have p1 : 1 * size ≤ r.width * size := Nat.mul_le_mul_right _ hw
    have hw1 : 1 ≤ r.width := hw
    rw [dbgP_bind hw, hwo1, hD, dbgP_bind (by omega), dbgP_bind hw, subU_bind hw1, dbgP_bind (by omega), dbgP_bind hw1,
      Nat.add_sub_cancel]
    exact (proc2TailT_spec (off := 1) stride hs (by omega) hdl hdlt).bind fun e1 q1 =>
      ⟨_, rfl, (Quiet.one ⟨rfl, 0, by omega, by simp, by simp only; omega⟩).append q1⟩
  · rw [show r.wo = 0 by omega, Nat.add_zero]
    exact proc2TailT_spec (off := 0) stride hs (by omega) hdl hdlt

/-- the unit sizes a `ProcessBlocksFn` shape is instantiated with -/
def BlkFn.Shape (p : BlkFn) (bpb : Nat) : Prop :=
  0 < p.bx ∧ p.bx < 256 ∧ 0 < p.by_ ∧ p.by_ < 256 ∧ 0 < bpb ∧ (p = .eight → bpb = 1) ∧ bpb < 256

theorem BlkFn.runT_spec {p : BlkFn} {bpb size : Nat} {enc dec : Sl} {stride : Nat} {r : PRange} (al : Sl → Bool)
    (hp : p.Shape bpb) (h : BlkPre p.bx p.by_ bpb size enc dec stride r) :
    Runs (p.runT bpb size al enc dec stride r) (RowsOK dec stride (r.re - r.rs) (r.width * size)) := by
  cases p with
  | general bx b => exact generalT_spec h
  | four => exact proc4T_spec al h
  | two => exact proc2T_spec h
  | eight =>
    obtain rfl : bpb = 1 := hp.2.2.2.2.2.1 rfl
    exact generalT_spec h


/-- where `process_blocks` may write: the conversion buffer, or the first `rowBytes` bytes of a row of `out` -/
def ConvOK (out : Sl) (pitch rows rowBytes : Nat) (s : Sl) : Prop := s.buf = .tmp ∨ RowsOK out pitch rows rowBytes s

theorem convBlockRowsT_spec {native : Color} {target : Unc.Channels} (hp : native.psz = 1 ∨ native.psz = 2 ∨ native.psz = 4)
    {height rowPitch cw : Nat} {buf out : Sl} (hh : 0 < height) (hhl : height < 256)
    (hbl : buf.len = cw * native.bpp * height)
    (hblt : buf.len < USIZE) (hol : (height - 1) * rowPitch + cw * (Color.mk target native.psz).bpp ≤ out.len)
    (holt : out.len < USIZE) :
    Runs (convBlockRowsT native target height (cw * native.bpp) rowPitch cw (Color.mk target native.psz).bpp buf out)
      (RowsOK out rowPitch height (cw * (Color.mk target native.psz).bpp)) := by
  unfold convBlockRowsT
  refine forT_quiet fun y hy => ?_
  have hy : y < height := List.mem_range.mp hy
  have p1 : (y + 1) * (cw * native.bpp) ≤ height * (cw * native.bpp) := Nat.mul_le_mul_right _ hy
  rw [Nat.mul_comm height, Nat.succ_mul] at p1
  have p2 : y * rowPitch ≤ (height - 1) * rowPitch := Nat.mul_le_mul_right _ (by omega)
  have hUS := sizes.2.1
  rw [ckU_bind (by omega), ckU_bind (by omega), Nat.succ_mul, ckU_bind (by omega), Sl.range_bind ⟨by omega, by omega⟩,
    ckU_bind (by omega), ckU_bind (by omega), ckU_bind (by omega), Sl.range_bind ⟨by omega, by omega⟩]
  simp only [Nat.add_sub_cancel_left]
  rw [convertChannelsForT_spec hp (n := cw) rfl rfl]
  exact ⟨_, rfl, Quiet.one ⟨rfl, y, hy, by simp only; omega, by simp only; omega⟩⟩

theorem min_satAdd32 {a b w : Nat} (hw : w < U32B) : min (satAdd32 a b) w = min (a + b) w := by
  unfold satAdd32
  split <;> omega

/-- a buffer of exactly `rows` rows of `rowBytes` bytes, the rows `rowBytes` apart -/
theorem tight_rows {rows : Nat} (rowBytes : Nat) (h : 0 < rows) : (rows - 1) * rowBytes + rowBytes ≤ rowBytes * rows :=
  Nat.le_of_eq (by rw [Nat.pred_mul_add _ h, Nat.mul_comm])

/-- one chunk of the main loop of `process_blocks` (with the repaired, saturating addition) -/
theorem convBlockChunkT_spec {native : Color} {target : Unc.Channels} {p : BlkFn} {bpb : Nat} (al : Sl → Bool)
    (hsh : p.Shape bpb) (hp : native.psz = 1 ∨ native.psz = 2 ∨ native.psz = 4) {height pref width rowPitch : Nat}
    {r : PRange} {enc out : Sl} (hr : r.rs < r.re) (hre : r.re ≤ p.by_) (hh : height = r.re - r.rs)
    (hpref : 0 < pref) (hdvd : p.bx ∣ pref) (hfit : pref * (native.bpp * height) ≤ BUFFER_BYTES) (hw : width < U32B)
    (hel : enc.len = divCeil width p.bx * bpb)
    (hol : (height - 1) * rowPitch + width * (Color.mk target native.psz).bpp ≤ out.len) (holt : out.len < USIZE)
    {cs : Nat} (hcs : cs ∈ Addr.stepStarts width pref) :
    Runs (convBlockChunkT (fun a b => some (satAdd32 a b)) native target p bpb al bpb p.bx native.bpp
        (Color.mk target native.psz).bpp height pref width rowPitch r enc out cs)
      (ConvOK out rowPitch height (width * (Color.mk target native.psz).bpp)) := by
  subst hh
  obtain ⟨hbx, _, _, hbyl, hbpb, _, hbpbl⟩ := id hsh
  obtain ⟨h32, h64, _⟩ := sizes
  have hB := bufBytes_bounds.2
  have hNb := Color.bpp_bounds native hp
  have hOb := Color.bpp_bounds ⟨target, native.psz⟩ hp
  obtain ⟨hd, h1, h2, h3⟩ := Addr.chunk_facts hpref hcs
  generalize hce : min (cs + pref) width = ce at h1 h2 h3
  -- the blocks of the chunk are among those of the line
  have hblk := div_add_divCeil_sub hbx (Nat.dvd_trans hdvd hd) (Nat.le_of_lt h1)
  have hblk' := divCeil_mono hbx h2
  have hdcw := divCeil_le_self width hbx
  have b0 : divCeil width p.bx * bpb ≤ width * 256 := Nat.mul_le_mul hdcw (by omega)
  have b1 : cs / p.bx * bpb ≤ (cs / p.bx + divCeil (ce - cs) p.bx) * bpb := Nat.mul_le_mul_right _ (by omega)
  have b2 : (cs / p.bx + divCeil (ce - cs) p.bx) * bpb ≤ divCeil width p.bx * bpb := Nat.mul_le_mul_right _ (by omega)
  -- its pixels are inside the row, its native pixels fit the conversion buffer
  obtain ⟨o1, o2, _⟩ := scale_range (Nat.le_of_lt h1) h2 (Color.mk target native.psz).bpp
  have o3 : width * (Color.mk target native.psz).bpp ≤ width * 16 := Nat.mul_le_mul_left _ hOb.2
  have o4 := add_mul_le_mul (show cs + (ce - cs) ≤ width by omega) (Color.mk target native.psz).bpp
  have n1 : (ce - cs) * native.bpp * (r.re - r.rs) ≤ pref * (native.bpp * (r.re - r.rs)) := by
    rw [Nat.mul_assoc]; exact Nat.mul_le_mul_right _ h3
  have n2 : (ce - cs) * native.bpp ≤ (ce - cs) * native.bpp * (r.re - r.rs) := Nat.le_mul_of_pos_right _ (by omega)
  unfold convBlockChunkT
  simp only [bind_some']
  rw [min_satAdd32 hw, hce, subU_bind (Nat.le_of_lt h1), div_bind (by omega), divCeilT_bind (by omega),
    ckU_bind (by omega), ckU_bind (by omega), ckU_bind (by omega), Sl.range_bind ⟨b1, by omega⟩, ckU_bind (by omega),
    Sl.drop_bind (by omega), ckU_bind (by omega), ckU_bind (by omega), Sl.upto_bind (by rw [tmpBuffer_len]; omega)]
  refine Runs.seq ((BlkFn.runT_spec (r := ⟨ce - cs, 0, r.rs, r.re⟩) al hsh ⟨⟨hbx, hbpb, by omega, hr, hre⟩,
      ⟨hbx, Or.inr rfl, by show ce - cs + 0 < U32B; omega, Nat.add_mul_sub_mul ..⟩, tight_rows _ (Nat.sub_pos_of_lt hr),
      by show _ * _ * _ < USIZE; omega⟩).mono fun _ hs => Or.inl hs.1)
    ((convBlockRowsT_spec hp (cw := ce - cs) (by omega) (by omega) rfl (by show _ * _ * _ < USIZE; omega)
      (by show _ ≤ out.len - _; omega) (by show out.len - _ < USIZE; omega)).mono
      fun _ hs => Or.inr (hs.shift rfl rfl o4))

/-- the chunk size: `round_down_to_multiple(buffer_width, block_width)` for `buffer_width ≥ block_width` -/
theorem pref_facts {bufW bx : Nat} (hbx : 0 < bx) (hge : bx ≤ bufW) :
    0 < bufW - bufW % bx ∧ bufW - bufW % bx ≤ bufW ∧ bx ∣ bufW - bufW % bx := by
  have e : bufW - bufW % bx = bx * (bufW / bx) := by have := Nat.div_add_mod bufW bx; omega
  have : bx * 1 ≤ bx * (bufW / bx) := Nat.mul_le_mul_left _ (Nat.div_pos hge hbx)
  exact ⟨by omega, Nat.sub_le _ _, e ▸ Nat.dvd_mul_right _ _⟩

/-- the main loop of `process_blocks` on `width` pixels that start at a block boundary -/
theorem convBlocksMainT_spec {native : Color} {target : Unc.Channels} {p : BlkFn} {bpb : Nat} (al : Sl → Bool)
    (hsh : p.Shape bpb) (hp : native.psz = 1 ∨ native.psz = 2 ∨ native.psz = 4) {height bufW width rowPitch : Nat}
    {r : PRange} {enc out : Sl} (hr : r.rs < r.re) (hre : r.re ≤ p.by_) (hh : height = r.re - r.rs)
    (hge : p.bx ≤ bufW) (hfit : bufW * (native.bpp * height) ≤ BUFFER_BYTES) (hw : width < U32B)
    (hel : enc.len = divCeil width p.bx * bpb)
    (hol : (height - 1) * rowPitch + width * (Color.mk target native.psz).bpp ≤ out.len) (holt : out.len < USIZE) :
    Runs (convBlocksMainT (fun a b => some (satAdd32 a b)) native target p bpb al bpb p.bx native.bpp
        (Color.mk target native.psz).bpp height bufW rowPitch r enc out width)
      (ConvOK out rowPitch height (width * (Color.mk target native.psz).bpp)) := by
  obtain ⟨f1, f2, f3⟩ := pref_facts hsh.1 hge
  unfold convBlocksMainT
  rw [modT_bind (Nat.ne_of_gt hsh.1), subU_bind (Nat.mod_le _ _), dbgP_bind (Nat.ne_of_gt f1)]
  exact forT_quiet fun cs hcs => convBlockChunkT_spec al hsh hp hr hre hh f1 f3
    (Nat.le_trans (Nat.mul_le_mul_right _ f2) hfit) hw hel hol holt hcs

/-- what `for_each_block_untyped` / `for_each_block_rect_untyped` hand to `process_blocks` -/
structure ConvPre (native : Color) (target : Unc.Channels) (p : BlkFn) (bpb : Nat) (enc out : Sl) (rowPitch : Nat)
    (r : PRange) : Prop where
  shape : p.Shape bpb
  psz : native.psz = 1 ∨ native.psz = 2 ∨ native.psz = 4
  /-- a block row of native pixels fits the conversion buffer (`debug_assert!(buffer_size.width >= block_width)`) -/
  buf : p.bx * (native.bpp * p.by_) ≤ BUFFER_BYTES
  wo_lt : r.wo < p.bx
  w_ok : 0 < r.width ∨ r.wo = 0
  wsum_lt : r.width + r.wo < U32B
  rows : r.rs < r.re
  re_le : r.re ≤ p.by_
  enc_len : enc.len = divCeil (r.width + r.wo) p.bx * bpb
  out_len : (r.re - r.rs - 1) * rowPitch + r.width * (Color.mk target native.psz).bpp ≤ out.len
  out_lt : out.len < USIZE

/-- **`ChannelConversionBuffer::process_blocks`** (as repaired by F17): no trap for any width `< 2^32` -/
theorem convBlocksT_spec {native : Color} {target : Unc.Channels} {p : BlkFn} {bpb : Nat} {enc out : Sl} {rowPitch : Nat}
    {r : PRange} (al : Sl → Bool) (h : ConvPre native target p bpb enc out rowPitch r) :
    Runs (convBlocksT native target p bpb al bpb p.bx enc out rowPitch r)
      (ConvOK out rowPitch (r.re - r.rs) (r.width * (Color.mk target native.psz).bpp)) := by
  obtain ⟨hbx, _, _, hbyl, hbpb, _, _⟩ := h.shape
  have hrows := h.rows
  have hre := h.re_le
  have hol := h.out_len
  have holt := h.out_lt
  have hNb := Color.bpp_bounds native h.psz
  have hOb := Color.bpp_bounds ⟨target, native.psz⟩ h.psz
  have henc : EncPre p.bx bpb enc r.width r.wo := ⟨h.wo_lt, h.w_ok, h.wsum_lt, h.enc_len⟩
  have hun : BlkUnit p.bx p.by_ bpb native.bpp r.rs r.re := ⟨hbx, hbpb, hNb.1, hrows, hre⟩
  unfold convBlocksT convBlocksWithT
  split
  · rename_i hc
    rw [Color.mk_ch hc] at hol ⊢
    exact (BlkFn.runT_spec al h.shape ⟨hun, henc, hol, holt⟩).mono fun _ => Or.inr
  · have hH : 0 < r.re - r.rs ∧ r.re - r.rs ≤ p.by_ := by omega
    obtain ⟨h32, h64, _⟩ := sizes
    have hB := bufBytes_bounds.2
    -- the buffer width in pixels: at least a block, at most the buffer
    have hm0 : 0 < native.bpp * (r.re - r.rs) := Nat.mul_pos hNb.1 hH.1
    have hm2 : native.bpp * (r.re - r.rs) ≤ 16 * 255 := Nat.mul_le_mul hNb.2 (by omega)
    generalize hbw : BUFFER_BYTES / (native.bpp * (r.re - r.rs)) = bufW
    have hbwle : bufW ≤ BUFFER_BYTES := hbw ▸ Nat.div_le_self _ _
    have hge : p.bx ≤ bufW := by
      rw [← hbw, Nat.le_div_iff_mul_le hm0]
      exact Nat.le_trans (Nat.mul_le_mul_left _ (Nat.mul_le_mul_left _ hH.2)) h.buf
    have hfit : bufW * (native.bpp * (r.re - r.rs)) ≤ BUFFER_BYTES := hbw ▸ Nat.div_mul_le_self _ _
    have hwlt : r.width < U32B := by have := h.wsum_lt; omega
    rw [subU_bind (Nat.le_of_lt hrows), dbgP_bind hH.1, Color.bppT_bind native h.psz, ckU_bind (by omega),
      div_bind (by omega), hbw, Nat.mod_eq_of_lt (by omega), dbgP_bind hge, Color.bppT_bind ⟨target, native.psz⟩ h.psz]
    split
    · have hw : 0 < r.width := by have := h.w_ok; omega
      have s := offsetSplit h.wo_lt hw
      have hbe := henc.bpb_le hw
      have he := henc.head hw
      have ht := henc.tail hw
      rw [subU_bind (Nat.le_of_lt h.wo_lt)]
      simp only []
      generalize min (p.bx - r.wo) r.width = pw at s he ht ⊢
      have hpw := s.le
      have hfit' := s.fit
      have p1 : pw * native.bpp * (r.re - r.rs) ≤ bufW * (native.bpp * (r.re - r.rs)) := by
        rw [Nat.mul_assoc]; exact Nat.mul_le_mul_right _ (by omega)
      have p2 : pw * native.bpp ≤ pw * native.bpp * (r.re - r.rs) := Nat.le_mul_of_pos_right _ hH.1
      have p3 := Nat.mul_le_mul_right (Color.mk target native.psz).bpp hpw
      have p4 := add_mul_le_mul (show pw + (r.width - pw) ≤ r.width by omega) (Color.mk target native.psz).bpp
      have p5 : r.width * (Color.mk target native.psz).bpp ≤ r.width * 16 := Nat.mul_le_mul_left _ hOb.2
      rw [ckU_bind (by omega), ckU_bind (by omega), Sl.upto_bind (by rw [tmpBuffer_len]; omega), Sl.upto_bind hbe]
      refine ((BlkFn.runT_spec (r := ⟨pw, r.wo, r.rs, r.re⟩) al h.shape ⟨hun, he, tight_rows _ hH.1,
        by show _ * _ * _ < USIZE; omega⟩).mono fun _ hs => Or.inl hs.1).bind fun w1 q1 => ?_
      refine ((convBlockRowsT_spec h.psz (cw := pw) hH.1 (by omega) rfl (by show _ * _ * _ < USIZE; omega) (by omega)
        holt).mono fun _ hs => Or.inr (hs.mono p3)).bind fun w2 q2 => ?_
      rw [subU_bind hpw, Sl.drop_bind hbe, ckU_bind (by omega), Sl.drop_bind (by omega)]
      refine ((convBlocksMainT_spec (width := r.width - pw) al h.shape h.psz hrows hre rfl hge hfit (by omega)
        ht.enc_len (by show _ ≤ out.len - _; omega) (by show out.len - _ < USIZE; omega)).mono fun _ hs => ?_).bind
        fun e1 q3 => ⟨_, rfl, (q1.append q2).append q3⟩
      exact hs.imp id fun hs => hs.shift rfl rfl p4
    · have hel := h.enc_len
      rw [show r.wo = 0 by omega, Nat.add_zero] at hel
      exact convBlocksMainT_spec al h.shape h.psz hrows hre rfl hge hfit hwlt hel hol holt


/-- how a decoder of `bc.rs` / `astc.rs` / `sub_sampled.rs` instantiates the block loops -/
structure BlockCfg (img : Img) (native : Color) (p : BlkFn) (bpb size : Nat) : Prop where
  prec : img.color.psz = native.psz
  size : native.bpp = size
  shape : p.Shape bpb
  buf : p.bx * (native.bpp * p.by_) ≤ BUFFER_BYTES

theorem InRows.of_ConvOK {pitch h rowBytes y0 rows : Nat} {d s : Sl} (hc : ConvOK d pitch rows rowBytes s)
    (ho : d.off = y0 * pitch) (hy : y0 + rows ≤ h) : InRows 0 pitch h rowBytes s := by
  intro hb
  rcases hc with hc | ⟨_, y, hy', h1, h2⟩
  · rw [hc] at hb; cases hb
  · exact ⟨y0 + y, by omega, by rw [Nat.add_mul]; omega, by rw [Nat.add_mul]; omega⟩

theorem blockFullBodyT_spec {img : Img} {native : Color} {p : BlkFn} {bpb size : Nat} (al : Sl → Bool) (ok : img.Ok)
    (c : BlockCfg img native p bpb size) {k : Nat} (hk : k < divCeil img.h p.by_) {line : Sl}
    (hl : line.len = divCeil img.w p.bx * bpb) :
    ∃ e, blockFullBodyT img native p bpb al k line = some (k + 1, e) ∧
      Quiet (InRows 0 img.pitch img.h (img.w * img.color.bpp)) e := by
  obtain ⟨hbx, _, hby, hbyl, _, _, _⟩ := c.shape
  have hkm : k * p.by_ < img.h := divCeil_lt_mul hby hk
  have hh := ok.h_lt
  have h32 := sizes.1
  generalize hpr : min p.by_ (img.h - k * p.by_) = pr
  have hpr' : 0 < pr ∧ pr ≤ p.by_ ∧ k * p.by_ + pr ≤ img.h := by omega
  have hkk : k * 1 ≤ k * p.by_ := Nat.mul_le_mul_left _ hby
  have hlen := ok.rows_le hpr'.1 hpr'.2.2
  obtain ⟨e, he, q⟩ := convBlocksT_spec al (native := native) (target := img.color.ch) (enc := line)
    (out := ⟨.out, k * p.by_ * img.pitch, (pr - 1) * img.pitch + img.w * img.color.bpp⟩) (rowPitch := img.pitch)
    (r := ⟨img.w, 0, 0, pr⟩)
    ⟨c.shape, c.prec ▸ ok.psz, c.buf, hbx, Or.inl ok.w_pos, ok.w_lt, hpr'.1, hpr'.2.1, hl,
      by rw [Color.mk_psz c.prec]; exact Nat.le_refl _, by have := ok.len_lt; show _ + _ < USIZE; omega⟩
  rw [Color.mk_psz c.prec] at q
  unfold blockFullBodyT
  rw [ck32_bind (by omega), subU_bind (by omega)]
  simp only [hpr]
  rw [ck32_bind (by omega), ok.getRowRangeT hpr'.1 hpr'.2.2, bind_some', Nat.mod_eq_of_lt (by omega),
    dbgP_bind hpr'.1, he, bind_some', ck32_bind (by omega), pure_some']
  exact ⟨e, rfl, q.mono fun s hs => InRows.of_ConvOK hs rfl hpr'.2.2⟩

/-- **`for_each_block_untyped`**: no trap; trace = C06's `blockFull`; every write inside a row of the view -/
theorem blockFullT_spec {img : Img} {native : Color} {p : BlkFn} {bpb size : Nat} (al : Sl → Bool) (ok : img.Ok)
    (c : BlockCfg img native p bpb size) :
    ∃ evs, blockFullT img native p bpb size al = some evs ∧ ios evs = Stream.blockFull p.bx p.by_ bpb img.w img.h ∧
      Wr (InRows 0 img.pitch img.h (img.w * img.color.bpp)) evs := by
  obtain ⟨hbx, _, hby, _, hbpb, _, hbpbl⟩ := c.shape
  have hwp := ok.w_pos
  have hhp := ok.h_pos
  have hhb : 0 < divCeil img.h p.by_ := divCeil_pos hhp hby
  have hbp : 0 < divCeil img.w p.bx * bpb := Nat.mul_pos (divCeil_pos hwp hbx) hbpb
  have hbl : divCeil img.w p.bx * bpb < USIZE := by
    have : divCeil img.w p.bx * bpb ≤ img.w * 256 := Nat.mul_le_mul (divCeil_le_self _ hbx) (by omega)
    have := ok.w_lt; have := sizes; omega
  obtain ⟨lb, hnew, hloop⟩ := lineLoop_spec hbp hbl hhb
  obtain ⟨e1, he1, i1, w1⟩ := hloop (blockFullBodyT img native p bpb al) (fun k st => k = st)
    (InRows 0 img.pitch img.h (img.w * img.color.bpp)) 0 (by
      rintro k _ line hk rfl _ hl
      obtain ⟨e, he, q⟩ := blockFullBodyT_spec al ok c hk hl
      exact ⟨k + 1, e, he, rfl, q⟩) rfl
  unfold blockFullT
  rw [dbgP_bind c.prec, Color.bppT_bind _ (c.prec ▸ ok.psz), dbgP_bind c.size, dbgP_bind (by omega),
    divCeilT_bind (by omega), divCeilT_bind (by omega), ckU_bind hbl, hnew, bind_some']
  simp only []
  rw [he1, bind_some', pure_some']
  refine ⟨_, rfl, ?_, (Wr.io _ _).append w1⟩
  rw [ios_append, i1]
  unfold Stream.blockFull
  rw [if_neg (by omega), Stream.lineBufNew_eq hbp hhb]; rfl

theorem blockRectBodyT_spec {img : Img} {native : Color} {p : BlkFn} {bpb size : Nat} (al : Sl → Bool) (ok : img.Ok)
    (c : BlockCfg img native p bpb size) {W ox oy : Nat} (hx : ox + img.w ≤ W) (hW : W < U32B) (hoy : oy + img.h < U32B)
    {k : Nat} {line : Sl} (hl : line.len = divCeil W p.bx * bpb)
    (hk : k < (Addr.RectGeom.mk p.bx p.by_ ox oy img.w img.h).linesToRead) :
    let g : Addr.RectGeom := ⟨p.bx, p.by_, ox, oy, img.w, img.h⟩
    ∃ e, blockRectBodyT img oy native p bpb al (g.brStart * bpb) (g.brEnd * bpb) (g.widthOffset % 256)
        (g.skipBefore + k, g.pixelRow k) line = some ((g.skipBefore + (k + 1), g.pixelRow (k + 1)), e) ∧
      Quiet (InRows 0 img.pitch img.h (img.w * img.color.bpp)) e := by
  intro g
  obtain ⟨hbx, _, hby, hbyl, _, _, _⟩ := c.shape
  obtain ⟨h32, h64, _⟩ := sizes
  -- the rows of block line `k` (C05), in the terms of the code
  obtain ⟨r1, r2, _, r4, _, r6, r7⟩ := (C05.rows_partition g hby ok.h_pos).2.2 k hk
  have r2 : g.rowEnd k ≤ p.by_ := r2
  have r6 : g.pixelRow k + (g.rowEnd k - g.rowStart k) ≤ img.h := r4 ▸ r6
  have r7 : (g.skipBefore + k) * p.by_ < oy + img.h := r7
  have eRS : oy - (g.skipBefore + k) * p.by_ = g.rowStart k := rfl
  have eRE : min (oy + img.h - (g.skipBefore + k) * p.by_) p.by_ = g.rowEnd k := rfl
  have hm1 : g.rowStart k % 256 = g.rowStart k := Nat.mod_eq_of_lt (by omega)
  have hm2 : g.rowEnd k % 256 = g.rowEnd k := Nat.mod_eq_of_lt (by omega)
  have hkl : (g.skipBefore + k) * 1 ≤ (g.skipBefore + k) * p.by_ := Nat.mul_le_mul_left _ hby
  have hrows := ok.rows_le (Nat.sub_pos_of_lt r1) r6
  have hll := ok.len_lt
  have hhl := ok.h_lt
  -- the blocks of the rect within the line
  obtain ⟨_, _, _, _, b5, b6⟩ := C05.block_range_covers g hbx ok.w_pos
  have o1 : g.widthOffset < p.bx := (C05.width_offset_ok g hbx ok.w_pos).1
  have o2 : g.widthOffset ≤ ox := Nat.mod_le _ _
  have hm3 : g.widthOffset % 256 = g.widthOffset := Nat.mod_eq_of_lt (by omega)
  have p1 : g.brStart * bpb ≤ g.brEnd * bpb := Nat.mul_le_mul_right _ (Nat.le_of_lt b5)
  have p2 : g.brEnd * bpb ≤ divCeil W p.bx * bpb := Nat.mul_le_mul_right _ (divCeil_mono hbx hx)
  have hel : g.brEnd * bpb - g.brStart * bpb = divCeil (img.w + g.widthOffset) p.bx * bpb := by
    rw [← Nat.sub_mul, b6, Nat.add_comm]
  have hol : (g.rowEnd k - g.rowStart k - 1) * img.pitch + img.w * (Color.mk img.color.ch native.psz).bpp ≤
      img.len - g.pixelRow k * img.pitch := by rw [Color.mk_psz c.prec]; omega
  obtain ⟨e, he, q⟩ := convBlocksT_spec al (native := native) (target := img.color.ch) (p := p)
    (enc := ⟨line.buf, line.off + g.brStart * bpb, g.brEnd * bpb - g.brStart * bpb⟩)
    (out := ⟨.out, 0 + g.pixelRow k * img.pitch, img.len - g.pixelRow k * img.pitch⟩) (rowPitch := img.pitch)
    (r := ⟨img.w, g.widthOffset, g.rowStart k, g.rowEnd k⟩)
    ⟨c.shape, c.prec ▸ ok.psz, c.buf, o1, Or.inl ok.w_pos, by have := ok.w_lt; show img.w + g.widthOffset < U32B; omega,
      r1, r2, hel, hol, Nat.lt_of_le_of_lt (Nat.sub_le _ _) hll⟩
  rw [Color.mk_psz c.prec] at q
  unfold blockRectBodyT
  simp only []
  rw [Sl.range_bind ⟨p1, by omega⟩, ck32_bind (by omega), ck32_bind hoy, ck32_bind (by omega),
    subU_bind (Nat.le_of_lt r7), eRS, dbgP_bind (by omega), dbgP_bind (Nat.sub_pos_of_lt r7), eRE, hm1, hm2,
    dbgP_bind r1, ckU_bind (by omega), Sl.drop_bind (by simp only [Img.data]; omega)]
  simp only [Img.data, hm3]
  rw [he, bind_some', ck32_bind (by omega), subU_bind (Nat.le_of_lt r1), ckU_bind (by omega), pure_some']
  exact ⟨e, by rw [r4, Nat.add_assoc], q.mono fun s hs => InRows.of_ConvOK hs (Nat.zero_add _) r6⟩

/-- **`for_each_block_rect_untyped`**: surface `W × H` whose encoded length passed `check_likely_overflow`, the image is
the rect at `(ox, oy)` inside it -/
theorem blockRectT_spec {img : Img} {native : Color} {p : BlkFn} {bpb size : Nat} (al : Sl → Bool) (ok : img.Ok)
    (c : BlockCfg img native p bpb size) {W H ox oy : Nat} (hx : ox + img.w ≤ W) (hy : oy + img.h ≤ H) (hW : W < U32B)
    (hH : H < U32B) (hsurf : divCeil W p.bx * divCeil H p.by_ * bpb ≤ I64MAX) :
    ∃ evs, blockRectT img W H ox oy native p bpb al = some evs ∧
      ios evs = Stream.blockRect p.bx p.by_ bpb W H oy img.h ∧
      Wr (InRows 0 img.pitch img.h (img.w * img.color.bpp)) evs := by
  obtain ⟨hbx, _, hby, _, hbpb, _, hbpbl⟩ := c.shape
  obtain ⟨h32, h64, hI⟩ := sizes
  have hwp := ok.w_pos
  have hhp := ok.h_pos
  have hhl := ok.h_lt
  have hwl := ok.w_lt
  let g : Addr.RectGeom := ⟨p.bx, p.by_, ox, oy, img.w, img.h⟩
  -- block lines skipped, read, skipped
  obtain ⟨a1, a2, _⟩ := C05.block_lines_account g H hby hy
  have a1 : oy / p.by_ ≤ divCeil (img.h + oy) p.by_ := a1
  have a2 : divCeil (img.h + oy) p.by_ ≤ divCeil H p.by_ := a2
  have hTR : 0 < divCeil (img.h + oy) p.by_ - oy / p.by_ := by
    have := div_lt_divCeil (y := oy) hby hhp
    rw [Nat.add_comm] at this; omega
  have hPLle : divCeil W p.bx ≤ W := divCeil_le_self _ hbx
  have hbp : 0 < divCeil W p.bx * bpb := Nat.mul_pos (divCeil_pos (by omega) hbx) hbpb
  have hbl : divCeil W p.bx * bpb < USIZE := by
    have : divCeil W p.bx * bpb ≤ W * 256 := Nat.mul_le_mul hPLle (by omega)
    omega
  -- whole block lines of the surface stay below its encoded length
  have hsk : ∀ n, n ≤ divCeil H p.by_ → divCeil W p.bx * n ≤ I64MAX ∧ divCeil W p.bx * n * bpb ≤ I64MAX := by
    intro n hn
    have h1 : divCeil W p.bx * n * bpb ≤ divCeil W p.bx * divCeil H p.by_ * bpb :=
      Nat.mul_le_mul_right _ (Nat.mul_le_mul_left _ hn)
    have h2 : divCeil W p.bx * n ≤ divCeil W p.bx * n * bpb := Nat.le_mul_of_pos_right _ hbpb
    omega
  obtain ⟨k1, k2⟩ := hsk (oy / p.by_) (by omega)
  obtain ⟨k3, k4⟩ := hsk (divCeil H p.by_ - oy / p.by_ - (divCeil (img.h + oy) p.by_ - oy / p.by_)) (by omega)
  -- the blocks of the rect within a line
  have p1 : ox / p.bx * bpb ≤ divCeil (ox + img.w) p.bx * bpb :=
    Nat.mul_le_mul_right _ (Nat.le_of_lt (div_lt_divCeil hbx hwp))
  have p2 : divCeil (ox + img.w) p.bx * bpb ≤ divCeil W p.bx * bpb := Nat.mul_le_mul_right _ (divCeil_mono hbx hx)
  obtain ⟨lb, hnew, hloop⟩ := lineLoop_spec hbp hbl hTR
  obtain ⟨e1, he1, i1, w1⟩ := hloop
    (blockRectBodyT img oy native p bpb al (ox / p.bx * bpb) (divCeil (ox + img.w) p.bx * bpb) (ox % p.bx % 256))
    (fun k st => st = (oy / p.by_ + k, g.pixelRow k)) (InRows 0 img.pitch img.h (img.w * img.color.bpp))
    (oy / p.by_, 0) (by
      rintro k _ line hk rfl _ hl
      obtain ⟨e, he, q⟩ := blockRectBodyT_spec al ok c hx hW (by omega) hl hk
      exact ⟨_, e, he, rfl, q⟩) rfl
  unfold blockRectT
  rw [dbgP_bind c.prec, divCeilT_bind (by omega), div_bind (by omega), ck32_bind (by omega), divCeilT_bind (by omega),
    subU_bind a1, divCeilT_bind (by omega), subU_bind (by omega), subU_bind (by omega), ckU_bind hbl, hnew, bind_some']
  simp only []
  rw [ckU_bind (by omega), ckU_bind (by omega), div_bind (by omega), ck32_bind (by omega), divCeilT_bind (by omega),
    ckU_bind (by omega), ckU_bind (by omega), modT_bind (by omega), he1, bind_some', ckU_bind (by omega),
    ckU_bind (by omega), pure_some']
  refine ⟨_, rfl, ?_, (((Wr.io _ _).append (Wr.io _ _)).append w1).append (Wr.io _ _)⟩
  simp only [ios_append, i1, ios, Stream.blockRect, Stream.lineBufNew_eq hbp hTR, List.cons_append, List.nil_append]

end Dds.TrapLoops
