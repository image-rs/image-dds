/-
The nearest code and the tie flag of a clamped ratio of integers, in `Nat` arithmetic: with `clamp01 q = N / D`,
`toCode mx q = ⌊(2·N·mx + D) / 2D⌋` and `mx · clamp01 q` is a tie exactly when `2D` divides `2·N·mx + D`.
-/
import DdsModel.ConvSpec
import DdsModel.Proofs.Quant
namespace Dds.Spec
open Dds.Quant (qRatio ratio_mul)

theorem clamp01_ratio (n : Int) (D : Nat) (hD : 0 < D) :
    clamp01 ((n : Rat) / (D : Rat)) = ((min n.toNat D : Nat) : Rat) / (D : Rat) := by
  have hDr : (0 : Rat) < (D : Rat) := Rat.natCast_pos.mpr hD
  have hDD : (D : Rat) / (D : Rat) = 1 := by rw [Rat.div_def, Rat.mul_inv_cancel _ (Rat.ne_of_gt hDr)]
  have cast (h : 0 ≤ n) : ((n.toNat : Nat) : Rat) = (n : Rat) := by
    rw [← Rat.intCast_natCast, Int.toNat_of_nonneg h]
  unfold clamp01
  rw [Rat.min_def, Rat.max_def]
  by_cases h1 : (D : Int) ≤ n
  · have : (1 : Rat) ≤ (n : Rat) / (D : Rat) := by
      rw [← hDD, Rat.div_def, Rat.div_def]
      apply Rat.mul_le_mul_of_nonneg_right _ (Rat.le_of_lt (Rat.inv_pos.mpr hDr))
      rw [← Rat.intCast_natCast]
      exact Rat.intCast_le_intCast.mpr h1
    rw [if_pos this, if_pos (by decide), Nat.min_eq_right (by omega), hDD]
  · have hlt : (n : Rat) / (D : Rat) < 1 := by
      rw [Rat.div_lt_iff hDr, Rat.one_mul, ← Rat.intCast_natCast]
      exact Rat.intCast_lt_intCast.mpr (by omega)
    rw [if_neg (Rat.not_le.mpr hlt)]
    by_cases h0 : 0 ≤ n
    · have : (0 : Rat) ≤ (n : Rat) / (D : Rat) := by
        rw [Rat.div_def]
        exact Rat.mul_nonneg (Rat.intCast_nonneg.mpr h0) (Rat.le_of_lt (Rat.inv_pos.mpr hDr))
      rw [if_pos this, Nat.min_eq_left (by omega), cast h0]
    · have : ¬ (0 : Rat) ≤ (n : Rat) / (D : Rat) := by
        rw [Rat.not_le, Rat.div_lt_iff hDr, Rat.zero_mul]
        exact Rat.intCast_neg_iff.mpr (by omega)
      rw [if_neg this, Int.toNat_of_nonpos (by omega), Nat.min_eq_left (Nat.zero_le _)]
      show (0 : Rat) = (0 : Rat) / (D : Rat)
      rw [Rat.div_def, Rat.zero_mul]

theorem nearest_ratio (A B : Nat) (hB : 0 < B) :
    nearest ((A : Rat) / (B : Rat)) = ((2 * A + B) / (2 * B) : Nat) :=
  floor_add_half A B hB

theorem den_ratio_eq_one (P Q : Nat) (hQ : 0 < Q) : (((P : Rat) / (Q : Rat)).den == 1) = (P % Q == 0) := by
  have e : (P : Rat) / (Q : Rat) = mkRat P Q := by rw [Rat.mkRat_eq_div]; rfl
  rw [e, Rat.den_mkRat, if_neg (by omega), Int.natAbs_natCast, Bool.eq_iff_iff, beq_iff_eq, beq_iff_eq]
  constructor
  · intro h
    have : Q = Q.gcd P := by
      have := Nat.mul_div_cancel' (Nat.gcd_dvd_left Q P)
      rw [h, Nat.mul_one] at this
      exact this.symm
    exact Nat.mod_eq_zero_of_dvd (this ▸ Nat.gcd_dvd_right Q P)
  · intro h
    rw [Nat.gcd_eq_left (Nat.dvd_of_mod_eq_zero h), Nat.div_self hQ]

theorem isTie_ratio (A B : Nat) (hB : 0 < B) :
    isTie ((A : Rat) / (B : Rat)) = ((2 * A + B) % (2 * B) == 0) := by
  unfold isTie
  rw [ratio_add_half A B hB, den_ratio_eq_one _ _ (by omega)]

theorem toCode_isTie_ratio {mx N D : Nat} {q : Rat} (hD : 0 < D) (hq : clamp01 q = (N : Rat) / (D : Rat)) :
    toCode mx q = (qRatio mx N D : Nat) ∧ isTie ((mx : Rat) * clamp01 q) = ((2 * N * mx + D) % (2 * D) == 0) := by
  have e : (mx : Rat) * clamp01 q = ((N * mx : Nat) : Rat) / (D : Rat) := by
    rw [hq, Rat.mul_comm, ratio_mul]
  unfold toCode qRatio
  rw [e, nearest_ratio _ _ hD, isTie_ratio _ _ hD, Nat.mul_assoc]
  exact ⟨rfl, rfl⟩

end Dds.Spec
