/-
`fp::n16` / `n16::from_f32`: `(x * 65535.0 + 0.5) as u16`: threshold table, codes 40961 … 49152,
checked by kernel evaluation of `chkList` (`Proofs/F32Thr.lean`).  GENERATED by tools/gen_f32thr.py (the
script is not trusted: every entry is validated here).  Entry `2t + d`: `t` = first pattern whose result is ≥ k,
`d = 1` iff `t` is still below the exact tie `(2k−1)/(2·65535)` (its result is one code too high).
-/
import DdsModel.Proofs.F32Thr
namespace Dds.F32Thr.FpN16
-- the elaborator's default recursion depth does not suffice for a list literal of 2048 numerals
set_option maxRecDepth 100000

@[irreducible] def c20 : List Nat :=
  [2118124097, 2118124609, 2118125121, 2118125633, 2118126145, 2118126657, 2118127169, 2118127681, 2118128193,
   2118128705, 2118129217, 2118129729, 2118130241, 2118130753, 2118131265, 2118131777, 2118132289, 2118132801,
   2118133313, 2118133825, 2118134337, 2118134849, 2118135361, 2118135873, 2118136385, 2118136897, 2118137409,
   2118137921, 2118138433, 2118138945, 2118139457, 2118139969, 2118140481, 2118140993, 2118141505, 2118142017,
   2118142529, 2118143041, 2118143553, 2118144065, 2118144577, 2118145089, 2118145601, 2118146113, 2118146625,
   2118147137, 2118147649, 2118148161, 2118148673, 2118149185, 2118149697, 2118150209, 2118150721, 2118151233,
   2118151745, 2118152257, 2118152769, 2118153281, 2118153793, 2118154305, 2118154817, 2118155329, 2118155841,
   2118156353, 2118156865, 2118157377, 2118157889, 2118158401, 2118158913, 2118159425, 2118159937, 2118160449,
   2118160961, 2118161473, 2118161985, 2118162497, 2118163009, 2118163521, 2118164033, 2118164545, 2118165057,
   2118165569, 2118166081, 2118166593, 2118167105, 2118167617, 2118168129, 2118168641, 2118169153, 2118169665,
   2118170177, 2118170689, 2118171201, 2118171713, 2118172225, 2118172737, 2118173249, 2118173761, 2118174273,
   2118174785, 2118175297, 2118175809, 2118176321, 2118176833, 2118177345, 2118177857, 2118178369, 2118178881,
   2118179393, 2118179905, 2118180417, 2118180929, 2118181441, 2118181953, 2118182465, 2118182977, 2118183489,
   2118184001, 2118184513, 2118185025, 2118185537, 2118186049, 2118186561, 2118187073, 2118187585, 2118188097,
   2118188609, 2118189122, 2118189634, 2118190146, 2118190658, 2118191170, 2118191682, 2118192194, 2118192706,
   2118193218, 2118193730, 2118194242, 2118194754, 2118195266, 2118195778, 2118196290, 2118196802, 2118197314,
   2118197826, 2118198338, 2118198850, 2118199362, 2118199874, 2118200386, 2118200898, 2118201410, 2118201922,
   2118202434, 2118202946, 2118203458, 2118203970, 2118204482, 2118204994, 2118205506, 2118206018, 2118206530,
   2118207042, 2118207554, 2118208066, 2118208578, 2118209090, 2118209602, 2118210114, 2118210626, 2118211138,
   2118211650, 2118212162, 2118212674, 2118213186, 2118213698, 2118214210, 2118214722, 2118215234, 2118215746,
   2118216258, 2118216770, 2118217282, 2118217794, 2118218306, 2118218818, 2118219330, 2118219842, 2118220354,
   2118220866, 2118221378, 2118221890, 2118222402, 2118222914, 2118223426, 2118223938, 2118224450, 2118224962,
   2118225474, 2118225986, 2118226498, 2118227010, 2118227522, 2118228034, 2118228546, 2118229058, 2118229570,
   2118230082, 2118230594, 2118231106, 2118231618, 2118232130, 2118232642, 2118233154, 2118233666, 2118234178,
   2118234690, 2118235202, 2118235714, 2118236226, 2118236738, 2118237250, 2118237762, 2118238274, 2118238786,
   2118239298, 2118239810, 2118240322, 2118240834, 2118241346, 2118241858, 2118242370, 2118242882, 2118243394,
   2118243906, 2118244418, 2118244930, 2118245442, 2118245954, 2118246466, 2118246978, 2118247490, 2118248002,
   2118248514, 2118249026, 2118249538, 2118250050, 2118250562, 2118251074, 2118251586, 2118252098, 2118252610,
   2118253122, 2118253634, 2118254146, 2118254659, 2118255171, 2118255683, 2118256195, 2118256707, 2118257219,
   2118257731, 2118258243, 2118258755, 2118259267, 2118259779, 2118260291, 2118260803, 2118261315, 2118261827,
   2118262339, 2118262851, 2118263363, 2118263875, 2118264387, 2118264899, 2118265411, 2118265923, 2118266435,
   2118266947, 2118267459, 2118267971, 2118268483, 2118268995, 2118269507, 2118270019, 2118270531, 2118271043,
   2118271555, 2118272067, 2118272579, 2118273091, 2118273603, 2118274115, 2118274627, 2118275139, 2118275651,
   2118276163, 2118276675, 2118277187, 2118277699, 2118278211, 2118278723, 2118279235, 2118279747, 2118280259,
   2118280771, 2118281283, 2118281795, 2118282307, 2118282819, 2118283331, 2118283843, 2118284355, 2118284867,
   2118285379, 2118285891, 2118286403, 2118286915, 2118287427, 2118287939, 2118288451, 2118288963, 2118289475,
   2118289987, 2118290499, 2118291011, 2118291523, 2118292035, 2118292547, 2118293059, 2118293571, 2118294083,
   2118294595, 2118295107, 2118295619, 2118296131, 2118296643, 2118297155, 2118297667, 2118298179, 2118298691,
   2118299203, 2118299715, 2118300227, 2118300739, 2118301251, 2118301763, 2118302275, 2118302787, 2118303299,
   2118303811, 2118304323, 2118304835, 2118305347, 2118305859, 2118306371, 2118306883, 2118307395, 2118307907,
   2118308419, 2118308931, 2118309443, 2118309955, 2118310467, 2118310979, 2118311491, 2118312003, 2118312515,
   2118313027, 2118313539, 2118314051, 2118314563, 2118315075, 2118315587, 2118316099, 2118316611, 2118317123,
   2118317635, 2118318147, 2118318659, 2118319171, 2118319683, 2118320196, 2118320708, 2118321220, 2118321732,
   2118322244, 2118322756, 2118323268, 2118323780, 2118324292, 2118324804, 2118325316, 2118325828, 2118326340,
   2118326852, 2118327364, 2118327876, 2118328388, 2118328900, 2118329412, 2118329924, 2118330436, 2118330948,
   2118331460, 2118331972, 2118332484, 2118332996, 2118333508, 2118334020, 2118334532, 2118335044, 2118335556,
   2118336068, 2118336580, 2118337092, 2118337604, 2118338116, 2118338628, 2118339140, 2118339652, 2118340164,
   2118340676, 2118341188, 2118341700, 2118342212, 2118342724, 2118343236, 2118343748, 2118344260, 2118344772,
   2118345284, 2118345796, 2118346308, 2118346820, 2118347332, 2118347844, 2118348356, 2118348868, 2118349380,
   2118349892, 2118350404, 2118350916, 2118351428, 2118351940, 2118352452, 2118352964, 2118353476, 2118353988,
   2118354500, 2118355012, 2118355524, 2118356036, 2118356548, 2118357060, 2118357572, 2118358084, 2118358596,
   2118359108, 2118359620, 2118360132, 2118360644, 2118361156, 2118361668, 2118362180, 2118362692, 2118363204,
   2118363716, 2118364228, 2118364740, 2118365252, 2118365764, 2118366276, 2118366788, 2118367300, 2118367812,
   2118368324, 2118368836, 2118369348, 2118369860, 2118370372, 2118370884, 2118371396, 2118371908, 2118372420,
   2118372932, 2118373444, 2118373956, 2118374468, 2118374980, 2118375492, 2118376004, 2118376516, 2118377028,
   2118377540, 2118378052, 2118378564, 2118379076, 2118379588, 2118380100, 2118380612, 2118381124, 2118381636,
   2118382148, 2118382660, 2118383172, 2118383684, 2118384196, 2118384708, 2118385220, 2118385733, 2118386245,
   2118386757, 2118387269, 2118387781, 2118388293, 2118388805, 2118389317, 2118389829, 2118390341, 2118390853,
   2118391365, 2118391877, 2118392389, 2118392901, 2118393413, 2118393925, 2118394437, 2118394949, 2118395461,
   2118395973, 2118396485, 2118396997, 2118397509, 2118398021, 2118398533, 2118399045, 2118399557, 2118400069,
   2118400581, 2118401093, 2118401605, 2118402117, 2118402629, 2118403141, 2118403653, 2118404165, 2118404677,
   2118405189, 2118405701, 2118406213, 2118406725, 2118407237, 2118407749, 2118408261, 2118408773, 2118409285,
   2118409797, 2118410309, 2118410821, 2118411333, 2118411845, 2118412357, 2118412869, 2118413381, 2118413893,
   2118414405, 2118414917, 2118415429, 2118415941, 2118416453, 2118416965, 2118417477, 2118417989, 2118418501,
   2118419013, 2118419525, 2118420037, 2118420549, 2118421061, 2118421573, 2118422085, 2118422597, 2118423109,
   2118423621, 2118424133, 2118424645, 2118425157, 2118425669, 2118426181, 2118426693, 2118427205, 2118427717,
   2118428229, 2118428741, 2118429253, 2118429765, 2118430277, 2118430789, 2118431301, 2118431813, 2118432325,
   2118432837, 2118433349, 2118433861, 2118434373, 2118434885, 2118435397, 2118435909, 2118436421, 2118436933,
   2118437445, 2118437957, 2118438469, 2118438981, 2118439493, 2118440005, 2118440517, 2118441029, 2118441541,
   2118442053, 2118442565, 2118443077, 2118443589, 2118444101, 2118444613, 2118445125, 2118445637, 2118446149,
   2118446661, 2118447173, 2118447685, 2118448197, 2118448709, 2118449221, 2118449733, 2118450245, 2118450757,
   2118451270, 2118451782, 2118452294, 2118452806, 2118453318, 2118453830, 2118454342, 2118454854, 2118455366,
   2118455878, 2118456390, 2118456902, 2118457414, 2118457926, 2118458438, 2118458950, 2118459462, 2118459974,
   2118460486, 2118460998, 2118461510, 2118462022, 2118462534, 2118463046, 2118463558, 2118464070, 2118464582,
   2118465094, 2118465606, 2118466118, 2118466630, 2118467142, 2118467654, 2118468166, 2118468678, 2118469190,
   2118469702, 2118470214, 2118470726, 2118471238, 2118471750, 2118472262, 2118472774, 2118473286, 2118473798,
   2118474310, 2118474822, 2118475334, 2118475846, 2118476358, 2118476870, 2118477382, 2118477894, 2118478406,
   2118478918, 2118479430, 2118479942, 2118480454, 2118480966, 2118481478, 2118481990, 2118482502, 2118483014,
   2118483526, 2118484038, 2118484550, 2118485062, 2118485574, 2118486086, 2118486598, 2118487110, 2118487622,
   2118488134, 2118488646, 2118489158, 2118489670, 2118490182, 2118490694, 2118491206, 2118491718, 2118492230,
   2118492742, 2118493254, 2118493766, 2118494278, 2118494790, 2118495302, 2118495814, 2118496326, 2118496838,
   2118497350, 2118497862, 2118498374, 2118498886, 2118499398, 2118499910, 2118500422, 2118500934, 2118501446,
   2118501958, 2118502470, 2118502982, 2118503494, 2118504006, 2118504518, 2118505030, 2118505542, 2118506054,
   2118506566, 2118507078, 2118507590, 2118508102, 2118508614, 2118509126, 2118509638, 2118510150, 2118510662,
   2118511174, 2118511686, 2118512198, 2118512710, 2118513222, 2118513734, 2118514246, 2118514758, 2118515270,
   2118515782, 2118516294, 2118516807, 2118517319, 2118517831, 2118518343, 2118518855, 2118519367, 2118519879,
   2118520391, 2118520903, 2118521415, 2118521927, 2118522439, 2118522951, 2118523463, 2118523975, 2118524487,
   2118524999, 2118525511, 2118526023, 2118526535, 2118527047, 2118527559, 2118528071, 2118528583, 2118529095,
   2118529607, 2118530119, 2118530631, 2118531143, 2118531655, 2118532167, 2118532679, 2118533191, 2118533703,
   2118534215, 2118534727, 2118535239, 2118535751, 2118536263, 2118536775, 2118537287, 2118537799, 2118538311,
   2118538823, 2118539335, 2118539847, 2118540359, 2118540871, 2118541383, 2118541895, 2118542407, 2118542919,
   2118543431, 2118543943, 2118544455, 2118544967, 2118545479, 2118545991, 2118546503, 2118547015, 2118547527,
   2118548039, 2118548551, 2118549063, 2118549575, 2118550087, 2118550599, 2118551111, 2118551623, 2118552135,
   2118552647, 2118553159, 2118553671, 2118554183, 2118554695, 2118555207, 2118555719, 2118556231, 2118556743,
   2118557255, 2118557767, 2118558279, 2118558791, 2118559303, 2118559815, 2118560327, 2118560839, 2118561351,
   2118561863, 2118562375, 2118562887, 2118563399, 2118563911, 2118564423, 2118564935, 2118565447, 2118565959,
   2118566471, 2118566983, 2118567495, 2118568007, 2118568519, 2118569031, 2118569543, 2118570055, 2118570567,
   2118571079, 2118571591, 2118572103, 2118572615, 2118573127, 2118573639, 2118574151, 2118574663, 2118575175,
   2118575687, 2118576199, 2118576711, 2118577223, 2118577735, 2118578247, 2118578759, 2118579271, 2118579783,
   2118580295, 2118580807, 2118581319, 2118581831, 2118582344, 2118582856, 2118583368, 2118583880, 2118584392,
   2118584904, 2118585416, 2118585928, 2118586440, 2118586952, 2118587464, 2118587976, 2118588488, 2118589000,
   2118589512, 2118590024, 2118590536, 2118591048, 2118591560, 2118592072, 2118592584, 2118593096, 2118593608,
   2118594120, 2118594632, 2118595144, 2118595656, 2118596168, 2118596680, 2118597192, 2118597704, 2118598216,
   2118598728, 2118599240, 2118599752, 2118600264, 2118600776, 2118601288, 2118601800, 2118602312, 2118602824,
   2118603336, 2118603848, 2118604360, 2118604872, 2118605384, 2118605896, 2118606408, 2118606920, 2118607432,
   2118607944, 2118608456, 2118608968, 2118609480, 2118609992, 2118610504, 2118611016, 2118611528, 2118612040,
   2118612552, 2118613064, 2118613576, 2118614088, 2118614600, 2118615112, 2118615624, 2118616136, 2118616648,
   2118617160, 2118617672, 2118618184, 2118618696, 2118619208, 2118619720, 2118620232, 2118620744, 2118621256,
   2118621768, 2118622280, 2118622792, 2118623304, 2118623816, 2118624328, 2118624840, 2118625352, 2118625864,
   2118626376, 2118626888, 2118627400, 2118627912, 2118628424, 2118628936, 2118629448, 2118629960, 2118630472,
   2118630984, 2118631496, 2118632008, 2118632520, 2118633032, 2118633544, 2118634056, 2118634568, 2118635080,
   2118635592, 2118636104, 2118636616, 2118637128, 2118637640, 2118638152, 2118638664, 2118639176, 2118639688,
   2118640200, 2118640712, 2118641224, 2118641736, 2118642248, 2118642760, 2118643272, 2118643784, 2118644296,
   2118644808, 2118645320, 2118645832, 2118646344, 2118646856, 2118647368, 2118647881, 2118648393, 2118648905,
   2118649417, 2118649929, 2118650441, 2118650953, 2118651465, 2118651977, 2118652489, 2118653001, 2118653513,
   2118654025, 2118654537, 2118655049, 2118655561, 2118656073, 2118656585, 2118657097, 2118657609, 2118658121,
   2118658633, 2118659145, 2118659657, 2118660169, 2118660681, 2118661193, 2118661705, 2118662217, 2118662729,
   2118663241, 2118663753, 2118664265, 2118664777, 2118665289, 2118665801, 2118666313, 2118666825, 2118667337,
   2118667849, 2118668361, 2118668873, 2118669385, 2118669897, 2118670409, 2118670921, 2118671433, 2118671945,
   2118672457, 2118672969, 2118673481, 2118673993, 2118674505, 2118675017, 2118675529, 2118676041, 2118676553,
   2118677065, 2118677577, 2118678089, 2118678601, 2118679113, 2118679625, 2118680137, 2118680649, 2118681161,
   2118681673, 2118682185, 2118682697, 2118683209, 2118683721, 2118684233, 2118684745, 2118685257, 2118685769,
   2118686281, 2118686793, 2118687305, 2118687817, 2118688329, 2118688841, 2118689353, 2118689865, 2118690377,
   2118690889, 2118691401, 2118691913, 2118692425, 2118692937, 2118693449, 2118693961, 2118694473, 2118694985,
   2118695497, 2118696009, 2118696521, 2118697033, 2118697545, 2118698057, 2118698569, 2118699081, 2118699593,
   2118700105, 2118700617, 2118701129, 2118701641, 2118702153, 2118702665, 2118703177, 2118703689, 2118704201,
   2118704713, 2118705225, 2118705737, 2118706249, 2118706761, 2118707273, 2118707785, 2118708297, 2118708809,
   2118709321, 2118709833, 2118710345, 2118710857, 2118711369, 2118711881, 2118712393, 2118712905, 2118713418,
   2118713930, 2118714442, 2118714954, 2118715466, 2118715978, 2118716490, 2118717002, 2118717514, 2118718026,
   2118718538, 2118719050, 2118719562, 2118720074, 2118720586, 2118721098, 2118721610, 2118722122, 2118722634,
   2118723146, 2118723658, 2118724170, 2118724682, 2118725194, 2118725706, 2118726218, 2118726730, 2118727242,
   2118727754, 2118728266, 2118728778, 2118729290, 2118729802, 2118730314, 2118730826, 2118731338, 2118731850,
   2118732362, 2118732874, 2118733386, 2118733898, 2118734410, 2118734922, 2118735434, 2118735946, 2118736458,
   2118736970, 2118737482, 2118737994, 2118738506, 2118739018, 2118739530, 2118740042, 2118740554, 2118741066,
   2118741578, 2118742090, 2118742602, 2118743114, 2118743626, 2118744138, 2118744650, 2118745162, 2118745674,
   2118746186, 2118746698, 2118747210, 2118747722, 2118748234, 2118748746, 2118749258, 2118749770, 2118750282,
   2118750794, 2118751306, 2118751818, 2118752330, 2118752842, 2118753354, 2118753866, 2118754378, 2118754890,
   2118755402, 2118755914, 2118756426, 2118756938, 2118757450, 2118757962, 2118758474, 2118758986, 2118759498,
   2118760010, 2118760522, 2118761034, 2118761546, 2118762058, 2118762570, 2118763082, 2118763594, 2118764106,
   2118764618, 2118765130, 2118765642, 2118766154, 2118766666, 2118767178, 2118767690, 2118768202, 2118768714,
   2118769226, 2118769738, 2118770250, 2118770762, 2118771274, 2118771786, 2118772298, 2118772810, 2118773322,
   2118773834, 2118774346, 2118774858, 2118775370, 2118775882, 2118776394, 2118776906, 2118777418, 2118777930,
   2118778442, 2118778955, 2118779467, 2118779979, 2118780491, 2118781003, 2118781515, 2118782027, 2118782539,
   2118783051, 2118783563, 2118784075, 2118784587, 2118785099, 2118785611, 2118786123, 2118786635, 2118787147,
   2118787659, 2118788171, 2118788683, 2118789195, 2118789707, 2118790219, 2118790731, 2118791243, 2118791755,
   2118792267, 2118792779, 2118793291, 2118793803, 2118794315, 2118794827, 2118795339, 2118795851, 2118796363,
   2118796875, 2118797387, 2118797899, 2118798411, 2118798923, 2118799435, 2118799947, 2118800459, 2118800971,
   2118801483, 2118801995, 2118802507, 2118803019, 2118803531, 2118804043, 2118804555, 2118805067, 2118805579,
   2118806091, 2118806603, 2118807115, 2118807627, 2118808139, 2118808651, 2118809163, 2118809675, 2118810187,
   2118810699, 2118811211, 2118811723, 2118812235, 2118812747, 2118813259, 2118813771, 2118814283, 2118814795,
   2118815307, 2118815819, 2118816331, 2118816843, 2118817355, 2118817867, 2118818379, 2118818891, 2118819403,
   2118819915, 2118820427, 2118820939, 2118821451, 2118821963, 2118822475, 2118822987, 2118823499, 2118824011,
   2118824523, 2118825035, 2118825547, 2118826059, 2118826571, 2118827083, 2118827595, 2118828107, 2118828619,
   2118829131, 2118829643, 2118830155, 2118830667, 2118831179, 2118831691, 2118832203, 2118832715, 2118833227,
   2118833739, 2118834251, 2118834763, 2118835275, 2118835787, 2118836299, 2118836811, 2118837323, 2118837835,
   2118838347, 2118838859, 2118839371, 2118839883, 2118840395, 2118840907, 2118841419, 2118841931, 2118842443,
   2118842955, 2118843467, 2118843979, 2118844492, 2118845004, 2118845516, 2118846028, 2118846540, 2118847052,
   2118847564, 2118848076, 2118848588, 2118849100, 2118849612, 2118850124, 2118850636, 2118851148, 2118851660,
   2118852172, 2118852684, 2118853196, 2118853708, 2118854220, 2118854732, 2118855244, 2118855756, 2118856268,
   2118856780, 2118857292, 2118857804, 2118858316, 2118858828, 2118859340, 2118859852, 2118860364, 2118860876,
   2118861388, 2118861900, 2118862412, 2118862924, 2118863436, 2118863948, 2118864460, 2118864972, 2118865484,
   2118865996, 2118866508, 2118867020, 2118867532, 2118868044, 2118868556, 2118869068, 2118869580, 2118870092,
   2118870604, 2118871116, 2118871628, 2118872140, 2118872652, 2118873164, 2118873676, 2118874188, 2118874700,
   2118875212, 2118875724, 2118876236, 2118876748, 2118877260, 2118877772, 2118878284, 2118878796, 2118879308,
   2118879820, 2118880332, 2118880844, 2118881356, 2118881868, 2118882380, 2118882892, 2118883404, 2118883916,
   2118884428, 2118884940, 2118885452, 2118885964, 2118886476, 2118886988, 2118887500, 2118888012, 2118888524,
   2118889036, 2118889548, 2118890060, 2118890572, 2118891084, 2118891596, 2118892108, 2118892620, 2118893132,
   2118893644, 2118894156, 2118894668, 2118895180, 2118895692, 2118896204, 2118896716, 2118897228, 2118897740,
   2118898252, 2118898764, 2118899276, 2118899788, 2118900300, 2118900812, 2118901324, 2118901836, 2118902348,
   2118902860, 2118903372, 2118903884, 2118904396, 2118904908, 2118905420, 2118905932, 2118906444, 2118906956,
   2118907468, 2118907980, 2118908492, 2118909004, 2118909516, 2118910029, 2118910541, 2118911053, 2118911565,
   2118912077, 2118912589, 2118913101, 2118913613, 2118914125, 2118914637, 2118915149, 2118915661, 2118916173,
   2118916685, 2118917197, 2118917709, 2118918221, 2118918733, 2118919245, 2118919757, 2118920269, 2118920781,
   2118921293, 2118921805, 2118922317, 2118922829, 2118923341, 2118923853, 2118924365, 2118924877, 2118925389,
   2118925901, 2118926413, 2118926925, 2118927437, 2118927949, 2118928461, 2118928973, 2118929485, 2118929997,
   2118930509, 2118931021, 2118931533, 2118932045, 2118932557, 2118933069, 2118933581, 2118934093, 2118934605,
   2118935117, 2118935629, 2118936141, 2118936653, 2118937165, 2118937677, 2118938189, 2118938701, 2118939213,
   2118939725, 2118940237, 2118940749, 2118941261, 2118941773, 2118942285, 2118942797, 2118943309, 2118943821,
   2118944333, 2118944845, 2118945357, 2118945869, 2118946381, 2118946893, 2118947405, 2118947917, 2118948429,
   2118948941, 2118949453, 2118949965, 2118950477, 2118950989, 2118951501, 2118952013, 2118952525, 2118953037,
   2118953549, 2118954061, 2118954573, 2118955085, 2118955597, 2118956109, 2118956621, 2118957133, 2118957645,
   2118958157, 2118958669, 2118959181, 2118959693, 2118960205, 2118960717, 2118961229, 2118961741, 2118962253,
   2118962765, 2118963277, 2118963789, 2118964301, 2118964813, 2118965325, 2118965837, 2118966349, 2118966861,
   2118967373, 2118967885, 2118968397, 2118968909, 2118969421, 2118969933, 2118970445, 2118970957, 2118971469,
   2118971981, 2118972493, 2118973005, 2118973517, 2118974029, 2118974541, 2118975053, 2118975566, 2118976078,
   2118976590, 2118977102, 2118977614, 2118978126, 2118978638, 2118979150, 2118979662, 2118980174, 2118980686,
   2118981198, 2118981710, 2118982222, 2118982734, 2118983246, 2118983758, 2118984270, 2118984782, 2118985294,
   2118985806, 2118986318, 2118986830, 2118987342, 2118987854, 2118988366, 2118988878, 2118989390, 2118989902,
   2118990414, 2118990926, 2118991438, 2118991950, 2118992462, 2118992974, 2118993486, 2118993998, 2118994510,
   2118995022, 2118995534, 2118996046, 2118996558, 2118997070, 2118997582, 2118998094, 2118998606, 2118999118,
   2118999630, 2119000142, 2119000654, 2119001166, 2119001678, 2119002190, 2119002702, 2119003214, 2119003726,
   2119004238, 2119004750, 2119005262, 2119005774, 2119006286, 2119006798, 2119007310, 2119007822, 2119008334,
   2119008846, 2119009358, 2119009870, 2119010382, 2119010894, 2119011406, 2119011918, 2119012430, 2119012942,
   2119013454, 2119013966, 2119014478, 2119014990, 2119015502, 2119016014, 2119016526, 2119017038, 2119017550,
   2119018062, 2119018574, 2119019086, 2119019598, 2119020110, 2119020622, 2119021134, 2119021646, 2119022158,
   2119022670, 2119023182, 2119023694, 2119024206, 2119024718, 2119025230, 2119025742, 2119026254, 2119026766,
   2119027278, 2119027790, 2119028302, 2119028814, 2119029326, 2119029838, 2119030350, 2119030862, 2119031374,
   2119031886, 2119032398, 2119032910, 2119033422, 2119033934, 2119034446, 2119034958, 2119035470, 2119035982,
   2119036494, 2119037006, 2119037518, 2119038030, 2119038542, 2119039054, 2119039566, 2119040078, 2119040590,
   2119041103, 2119041615, 2119042127, 2119042639, 2119043151, 2119043663, 2119044175, 2119044687, 2119045199,
   2119045711, 2119046223, 2119046735, 2119047247, 2119047759, 2119048271, 2119048783, 2119049295, 2119049807,
   2119050319, 2119050831, 2119051343, 2119051855, 2119052367, 2119052879, 2119053391, 2119053903, 2119054415,
   2119054927, 2119055439, 2119055951, 2119056463, 2119056975, 2119057487, 2119057999, 2119058511, 2119059023,
   2119059535, 2119060047, 2119060559, 2119061071, 2119061583, 2119062095, 2119062607, 2119063119, 2119063631,
   2119064143, 2119064655, 2119065167, 2119065679, 2119066191, 2119066703, 2119067215, 2119067727, 2119068239,
   2119068751, 2119069263, 2119069775, 2119070287, 2119070799, 2119071311, 2119071823, 2119072335, 2119072847,
   2119073359, 2119073871, 2119074383, 2119074895, 2119075407, 2119075919, 2119076431, 2119076943, 2119077455,
   2119077967, 2119078479, 2119078991, 2119079503, 2119080015, 2119080527, 2119081039, 2119081551, 2119082063,
   2119082575, 2119083087, 2119083599, 2119084111, 2119084623, 2119085135, 2119085647, 2119086159, 2119086671,
   2119087183, 2119087695, 2119088207, 2119088719, 2119089231, 2119089743, 2119090255, 2119090767, 2119091279,
   2119091791, 2119092303, 2119092815, 2119093327, 2119093839, 2119094351, 2119094863, 2119095375, 2119095887,
   2119096399, 2119096911, 2119097423, 2119097935, 2119098447, 2119098959, 2119099471, 2119099983, 2119100495,
   2119101007, 2119101519, 2119102031, 2119102543, 2119103055, 2119103567, 2119104079, 2119104591, 2119105103,
   2119105615, 2119106127, 2119106640, 2119107152, 2119107664, 2119108176, 2119108688, 2119109200, 2119109712,
   2119110224, 2119110736, 2119111248, 2119111760, 2119112272, 2119112784, 2119113296, 2119113808, 2119114320,
   2119114832, 2119115344, 2119115856, 2119116368, 2119116880, 2119117392, 2119117904, 2119118416, 2119118928,
   2119119440, 2119119952, 2119120464, 2119120976, 2119121488, 2119122000, 2119122512, 2119123024, 2119123536,
   2119124048, 2119124560, 2119125072, 2119125584, 2119126096, 2119126608, 2119127120, 2119127632, 2119128144,
   2119128656, 2119129168, 2119129680, 2119130192, 2119130704, 2119131216, 2119131728, 2119132240, 2119132752,
   2119133264, 2119133776, 2119134288, 2119134800, 2119135312, 2119135824, 2119136336, 2119136848, 2119137360,
   2119137872, 2119138384, 2119138896, 2119139408, 2119139920, 2119140432, 2119140944, 2119141456, 2119141968,
   2119142480, 2119142992, 2119143504, 2119144016, 2119144528, 2119145040, 2119145552, 2119146064, 2119146576,
   2119147088, 2119147600, 2119148112, 2119148624, 2119149136, 2119149648, 2119150160, 2119150672, 2119151184,
   2119151696, 2119152208, 2119152720, 2119153232, 2119153744, 2119154256, 2119154768, 2119155280, 2119155792,
   2119156304, 2119156816, 2119157328, 2119157840, 2119158352, 2119158864, 2119159376, 2119159888, 2119160400,
   2119160912, 2119161424, 2119161936, 2119162448, 2119162960, 2119163472, 2119163984, 2119164496, 2119165008,
   2119165520, 2119166032, 2119166544, 2119167056, 2119167568, 2119168080, 2119168592, 2119169104, 2119169616,
   2119170128, 2119170640, 2119171152, 2119171664, 2119172177]
theorem c20_ok :
    chkList (pipeF 1199570688 65535) 65535 2139095040 40961 1059061793 20481 c20
      43009 1059586089 21505 = true := by decide +kernel
theorem c20_len : 40961 + c20.length = 43009 := (chkList_end c20_ok).1
theorem c20_last : lastS 1059061793 c20 = 1059586089 := (chkList_end c20_ok).2.1

@[irreducible] def c21 : List Nat :=
  [2119172689, 2119173201, 2119173713, 2119174225, 2119174737, 2119175249, 2119175761, 2119176273, 2119176785,
   2119177297, 2119177809, 2119178321, 2119178833, 2119179345, 2119179857, 2119180369, 2119180881, 2119181393,
   2119181905, 2119182417, 2119182929, 2119183441, 2119183953, 2119184465, 2119184977, 2119185489, 2119186001,
   2119186513, 2119187025, 2119187537, 2119188049, 2119188561, 2119189073, 2119189585, 2119190097, 2119190609,
   2119191121, 2119191633, 2119192145, 2119192657, 2119193169, 2119193681, 2119194193, 2119194705, 2119195217,
   2119195729, 2119196241, 2119196753, 2119197265, 2119197777, 2119198289, 2119198801, 2119199313, 2119199825,
   2119200337, 2119200849, 2119201361, 2119201873, 2119202385, 2119202897, 2119203409, 2119203921, 2119204433,
   2119204945, 2119205457, 2119205969, 2119206481, 2119206993, 2119207505, 2119208017, 2119208529, 2119209041,
   2119209553, 2119210065, 2119210577, 2119211089, 2119211601, 2119212113, 2119212625, 2119213137, 2119213649,
   2119214161, 2119214673, 2119215185, 2119215697, 2119216209, 2119216721, 2119217233, 2119217745, 2119218257,
   2119218769, 2119219281, 2119219793, 2119220305, 2119220817, 2119221329, 2119221841, 2119222353, 2119222865,
   2119223377, 2119223889, 2119224401, 2119224913, 2119225425, 2119225937, 2119226449, 2119226961, 2119227473,
   2119227985, 2119228497, 2119229009, 2119229521, 2119230033, 2119230545, 2119231057, 2119231569, 2119232081,
   2119232593, 2119233105, 2119233617, 2119234129, 2119234641, 2119235153, 2119235665, 2119236177, 2119236689,
   2119237201, 2119237714, 2119238226, 2119238738, 2119239250, 2119239762, 2119240274, 2119240786, 2119241298,
   2119241810, 2119242322, 2119242834, 2119243346, 2119243858, 2119244370, 2119244882, 2119245394, 2119245906,
   2119246418, 2119246930, 2119247442, 2119247954, 2119248466, 2119248978, 2119249490, 2119250002, 2119250514,
   2119251026, 2119251538, 2119252050, 2119252562, 2119253074, 2119253586, 2119254098, 2119254610, 2119255122,
   2119255634, 2119256146, 2119256658, 2119257170, 2119257682, 2119258194, 2119258706, 2119259218, 2119259730,
   2119260242, 2119260754, 2119261266, 2119261778, 2119262290, 2119262802, 2119263314, 2119263826, 2119264338,
   2119264850, 2119265362, 2119265874, 2119266386, 2119266898, 2119267410, 2119267922, 2119268434, 2119268946,
   2119269458, 2119269970, 2119270482, 2119270994, 2119271506, 2119272018, 2119272530, 2119273042, 2119273554,
   2119274066, 2119274578, 2119275090, 2119275602, 2119276114, 2119276626, 2119277138, 2119277650, 2119278162,
   2119278674, 2119279186, 2119279698, 2119280210, 2119280722, 2119281234, 2119281746, 2119282258, 2119282770,
   2119283282, 2119283794, 2119284306, 2119284818, 2119285330, 2119285842, 2119286354, 2119286866, 2119287378,
   2119287890, 2119288402, 2119288914, 2119289426, 2119289938, 2119290450, 2119290962, 2119291474, 2119291986,
   2119292498, 2119293010, 2119293522, 2119294034, 2119294546, 2119295058, 2119295570, 2119296082, 2119296594,
   2119297106, 2119297618, 2119298130, 2119298642, 2119299154, 2119299666, 2119300178, 2119300690, 2119301202,
   2119301714, 2119302226, 2119302738, 2119303251, 2119303763, 2119304275, 2119304787, 2119305299, 2119305811,
   2119306323, 2119306835, 2119307347, 2119307859, 2119308371, 2119308883, 2119309395, 2119309907, 2119310419,
   2119310931, 2119311443, 2119311955, 2119312467, 2119312979, 2119313491, 2119314003, 2119314515, 2119315027,
   2119315539, 2119316051, 2119316563, 2119317075, 2119317587, 2119318099, 2119318611, 2119319123, 2119319635,
   2119320147, 2119320659, 2119321171, 2119321683, 2119322195, 2119322707, 2119323219, 2119323731, 2119324243,
   2119324755, 2119325267, 2119325779, 2119326291, 2119326803, 2119327315, 2119327827, 2119328339, 2119328851,
   2119329363, 2119329875, 2119330387, 2119330899, 2119331411, 2119331923, 2119332435, 2119332947, 2119333459,
   2119333971, 2119334483, 2119334995, 2119335507, 2119336019, 2119336531, 2119337043, 2119337555, 2119338067,
   2119338579, 2119339091, 2119339603, 2119340115, 2119340627, 2119341139, 2119341651, 2119342163, 2119342675,
   2119343187, 2119343699, 2119344211, 2119344723, 2119345235, 2119345747, 2119346259, 2119346771, 2119347283,
   2119347795, 2119348307, 2119348819, 2119349331, 2119349843, 2119350355, 2119350867, 2119351379, 2119351891,
   2119352403, 2119352915, 2119353427, 2119353939, 2119354451, 2119354963, 2119355475, 2119355987, 2119356499,
   2119357011, 2119357523, 2119358035, 2119358547, 2119359059, 2119359571, 2119360083, 2119360595, 2119361107,
   2119361619, 2119362131, 2119362643, 2119363155, 2119363667, 2119364179, 2119364691, 2119365203, 2119365715,
   2119366227, 2119366739, 2119367251, 2119367763, 2119368275, 2119368788, 2119369300, 2119369812, 2119370324,
   2119370836, 2119371348, 2119371860, 2119372372, 2119372884, 2119373396, 2119373908, 2119374420, 2119374932,
   2119375444, 2119375956, 2119376468, 2119376980, 2119377492, 2119378004, 2119378516, 2119379028, 2119379540,
   2119380052, 2119380564, 2119381076, 2119381588, 2119382100, 2119382612, 2119383124, 2119383636, 2119384148,
   2119384660, 2119385172, 2119385684, 2119386196, 2119386708, 2119387220, 2119387732, 2119388244, 2119388756,
   2119389268, 2119389780, 2119390292, 2119390804, 2119391316, 2119391828, 2119392340, 2119392852, 2119393364,
   2119393876, 2119394388, 2119394900, 2119395412, 2119395924, 2119396436, 2119396948, 2119397460, 2119397972,
   2119398484, 2119398996, 2119399508, 2119400020, 2119400532, 2119401044, 2119401556, 2119402068, 2119402580,
   2119403092, 2119403604, 2119404116, 2119404628, 2119405140, 2119405652, 2119406164, 2119406676, 2119407188,
   2119407700, 2119408212, 2119408724, 2119409236, 2119409748, 2119410260, 2119410772, 2119411284, 2119411796,
   2119412308, 2119412820, 2119413332, 2119413844, 2119414356, 2119414868, 2119415380, 2119415892, 2119416404,
   2119416916, 2119417428, 2119417940, 2119418452, 2119418964, 2119419476, 2119419988, 2119420500, 2119421012,
   2119421524, 2119422036, 2119422548, 2119423060, 2119423572, 2119424084, 2119424596, 2119425108, 2119425620,
   2119426132, 2119426644, 2119427156, 2119427668, 2119428180, 2119428692, 2119429204, 2119429716, 2119430228,
   2119430740, 2119431252, 2119431764, 2119432276, 2119432788, 2119433300, 2119433812, 2119434325, 2119434837,
   2119435349, 2119435861, 2119436373, 2119436885, 2119437397, 2119437909, 2119438421, 2119438933, 2119439445,
   2119439957, 2119440469, 2119440981, 2119441493, 2119442005, 2119442517, 2119443029, 2119443541, 2119444053,
   2119444565, 2119445077, 2119445589, 2119446101, 2119446613, 2119447125, 2119447637, 2119448149, 2119448661,
   2119449173, 2119449685, 2119450197, 2119450709, 2119451221, 2119451733, 2119452245, 2119452757, 2119453269,
   2119453781, 2119454293, 2119454805, 2119455317, 2119455829, 2119456341, 2119456853, 2119457365, 2119457877,
   2119458389, 2119458901, 2119459413, 2119459925, 2119460437, 2119460949, 2119461461, 2119461973, 2119462485,
   2119462997, 2119463509, 2119464021, 2119464533, 2119465045, 2119465557, 2119466069, 2119466581, 2119467093,
   2119467605, 2119468117, 2119468629, 2119469141, 2119469653, 2119470165, 2119470677, 2119471189, 2119471701,
   2119472213, 2119472725, 2119473237, 2119473749, 2119474261, 2119474773, 2119475285, 2119475797, 2119476309,
   2119476821, 2119477333, 2119477845, 2119478357, 2119478869, 2119479381, 2119479893, 2119480405, 2119480917,
   2119481429, 2119481941, 2119482453, 2119482965, 2119483477, 2119483989, 2119484501, 2119485013, 2119485525,
   2119486037, 2119486549, 2119487061, 2119487573, 2119488085, 2119488597, 2119489109, 2119489621, 2119490133,
   2119490645, 2119491157, 2119491669, 2119492181, 2119492693, 2119493205, 2119493717, 2119494229, 2119494741,
   2119495253, 2119495765, 2119496277, 2119496789, 2119497301, 2119497813, 2119498325, 2119498837, 2119499349,
   2119499862, 2119500374, 2119500886, 2119501398, 2119501910, 2119502422, 2119502934, 2119503446, 2119503958,
   2119504470, 2119504982, 2119505494, 2119506006, 2119506518, 2119507030, 2119507542, 2119508054, 2119508566,
   2119509078, 2119509590, 2119510102, 2119510614, 2119511126, 2119511638, 2119512150, 2119512662, 2119513174,
   2119513686, 2119514198, 2119514710, 2119515222, 2119515734, 2119516246, 2119516758, 2119517270, 2119517782,
   2119518294, 2119518806, 2119519318, 2119519830, 2119520342, 2119520854, 2119521366, 2119521878, 2119522390,
   2119522902, 2119523414, 2119523926, 2119524438, 2119524950, 2119525462, 2119525974, 2119526486, 2119526998,
   2119527510, 2119528022, 2119528534, 2119529046, 2119529558, 2119530070, 2119530582, 2119531094, 2119531606,
   2119532118, 2119532630, 2119533142, 2119533654, 2119534166, 2119534678, 2119535190, 2119535702, 2119536214,
   2119536726, 2119537238, 2119537750, 2119538262, 2119538774, 2119539286, 2119539798, 2119540310, 2119540822,
   2119541334, 2119541846, 2119542358, 2119542870, 2119543382, 2119543894, 2119544406, 2119544918, 2119545430,
   2119545942, 2119546454, 2119546966, 2119547478, 2119547990, 2119548502, 2119549014, 2119549526, 2119550038,
   2119550550, 2119551062, 2119551574, 2119552086, 2119552598, 2119553110, 2119553622, 2119554134, 2119554646,
   2119555158, 2119555670, 2119556182, 2119556694, 2119557206, 2119557718, 2119558230, 2119558742, 2119559254,
   2119559766, 2119560278, 2119560790, 2119561302, 2119561814, 2119562326, 2119562838, 2119563350, 2119563862,
   2119564374, 2119564886, 2119565399, 2119565911, 2119566423, 2119566935, 2119567447, 2119567959, 2119568471,
   2119568983, 2119569495, 2119570007, 2119570519, 2119571031, 2119571543, 2119572055, 2119572567, 2119573079,
   2119573591, 2119574103, 2119574615, 2119575127, 2119575639, 2119576151, 2119576663, 2119577175, 2119577687,
   2119578199, 2119578711, 2119579223, 2119579735, 2119580247, 2119580759, 2119581271, 2119581783, 2119582295,
   2119582807, 2119583319, 2119583831, 2119584343, 2119584855, 2119585367, 2119585879, 2119586391, 2119586903,
   2119587415, 2119587927, 2119588439, 2119588951, 2119589463, 2119589975, 2119590487, 2119590999, 2119591511,
   2119592023, 2119592535, 2119593047, 2119593559, 2119594071, 2119594583, 2119595095, 2119595607, 2119596119,
   2119596631, 2119597143, 2119597655, 2119598167, 2119598679, 2119599191, 2119599703, 2119600215, 2119600727,
   2119601239, 2119601751, 2119602263, 2119602775, 2119603287, 2119603799, 2119604311, 2119604823, 2119605335,
   2119605847, 2119606359, 2119606871, 2119607383, 2119607895, 2119608407, 2119608919, 2119609431, 2119609943,
   2119610455, 2119610967, 2119611479, 2119611991, 2119612503, 2119613015, 2119613527, 2119614039, 2119614551,
   2119615063, 2119615575, 2119616087, 2119616599, 2119617111, 2119617623, 2119618135, 2119618647, 2119619159,
   2119619671, 2119620183, 2119620695, 2119621207, 2119621719, 2119622231, 2119622743, 2119623255, 2119623767,
   2119624279, 2119624791, 2119625303, 2119625815, 2119626327, 2119626839, 2119627351, 2119627863, 2119628375,
   2119628887, 2119629399, 2119629911, 2119630423, 2119630936, 2119631448, 2119631960, 2119632472, 2119632984,
   2119633496, 2119634008, 2119634520, 2119635032, 2119635544, 2119636056, 2119636568, 2119637080, 2119637592,
   2119638104, 2119638616, 2119639128, 2119639640, 2119640152, 2119640664, 2119641176, 2119641688, 2119642200,
   2119642712, 2119643224, 2119643736, 2119644248, 2119644760, 2119645272, 2119645784, 2119646296, 2119646808,
   2119647320, 2119647832, 2119648344, 2119648856, 2119649368, 2119649880, 2119650392, 2119650904, 2119651416,
   2119651928, 2119652440, 2119652952, 2119653464, 2119653976, 2119654488, 2119655000, 2119655512, 2119656024,
   2119656536, 2119657048, 2119657560, 2119658072, 2119658584, 2119659096, 2119659608, 2119660120, 2119660632,
   2119661144, 2119661656, 2119662168, 2119662680, 2119663192, 2119663704, 2119664216, 2119664728, 2119665240,
   2119665752, 2119666264, 2119666776, 2119667288, 2119667800, 2119668312, 2119668824, 2119669336, 2119669848,
   2119670360, 2119670872, 2119671384, 2119671896, 2119672408, 2119672920, 2119673432, 2119673944, 2119674456,
   2119674968, 2119675480, 2119675992, 2119676504, 2119677016, 2119677528, 2119678040, 2119678552, 2119679064,
   2119679576, 2119680088, 2119680600, 2119681112, 2119681624, 2119682136, 2119682648, 2119683160, 2119683672,
   2119684184, 2119684696, 2119685208, 2119685720, 2119686232, 2119686744, 2119687256, 2119687768, 2119688280,
   2119688792, 2119689304, 2119689816, 2119690328, 2119690840, 2119691352, 2119691864, 2119692376, 2119692888,
   2119693400, 2119693912, 2119694424, 2119694936, 2119695448, 2119695960, 2119696473, 2119696985, 2119697497,
   2119698009, 2119698521, 2119699033, 2119699545, 2119700057, 2119700569, 2119701081, 2119701593, 2119702105,
   2119702617, 2119703129, 2119703641, 2119704153, 2119704665, 2119705177, 2119705689, 2119706201, 2119706713,
   2119707225, 2119707737, 2119708249, 2119708761, 2119709273, 2119709785, 2119710297, 2119710809, 2119711321,
   2119711833, 2119712345, 2119712857, 2119713369, 2119713881, 2119714393, 2119714905, 2119715417, 2119715929,
   2119716441, 2119716953, 2119717465, 2119717977, 2119718489, 2119719001, 2119719513, 2119720025, 2119720537,
   2119721049, 2119721561, 2119722073, 2119722585, 2119723097, 2119723609, 2119724121, 2119724633, 2119725145,
   2119725657, 2119726169, 2119726681, 2119727193, 2119727705, 2119728217, 2119728729, 2119729241, 2119729753,
   2119730265, 2119730777, 2119731289, 2119731801, 2119732313, 2119732825, 2119733337, 2119733849, 2119734361,
   2119734873, 2119735385, 2119735897, 2119736409, 2119736921, 2119737433, 2119737945, 2119738457, 2119738969,
   2119739481, 2119739993, 2119740505, 2119741017, 2119741529, 2119742041, 2119742553, 2119743065, 2119743577,
   2119744089, 2119744601, 2119745113, 2119745625, 2119746137, 2119746649, 2119747161, 2119747673, 2119748185,
   2119748697, 2119749209, 2119749721, 2119750233, 2119750745, 2119751257, 2119751769, 2119752281, 2119752793,
   2119753305, 2119753817, 2119754329, 2119754841, 2119755353, 2119755865, 2119756377, 2119756889, 2119757401,
   2119757913, 2119758425, 2119758937, 2119759449, 2119759961, 2119760473, 2119760985, 2119761497, 2119762010,
   2119762522, 2119763034, 2119763546, 2119764058, 2119764570, 2119765082, 2119765594, 2119766106, 2119766618,
   2119767130, 2119767642, 2119768154, 2119768666, 2119769178, 2119769690, 2119770202, 2119770714, 2119771226,
   2119771738, 2119772250, 2119772762, 2119773274, 2119773786, 2119774298, 2119774810, 2119775322, 2119775834,
   2119776346, 2119776858, 2119777370, 2119777882, 2119778394, 2119778906, 2119779418, 2119779930, 2119780442,
   2119780954, 2119781466, 2119781978, 2119782490, 2119783002, 2119783514, 2119784026, 2119784538, 2119785050,
   2119785562, 2119786074, 2119786586, 2119787098, 2119787610, 2119788122, 2119788634, 2119789146, 2119789658,
   2119790170, 2119790682, 2119791194, 2119791706, 2119792218, 2119792730, 2119793242, 2119793754, 2119794266,
   2119794778, 2119795290, 2119795802, 2119796314, 2119796826, 2119797338, 2119797850, 2119798362, 2119798874,
   2119799386, 2119799898, 2119800410, 2119800922, 2119801434, 2119801946, 2119802458, 2119802970, 2119803482,
   2119803994, 2119804506, 2119805018, 2119805530, 2119806042, 2119806554, 2119807066, 2119807578, 2119808090,
   2119808602, 2119809114, 2119809626, 2119810138, 2119810650, 2119811162, 2119811674, 2119812186, 2119812698,
   2119813210, 2119813722, 2119814234, 2119814746, 2119815258, 2119815770, 2119816282, 2119816794, 2119817306,
   2119817818, 2119818330, 2119818842, 2119819354, 2119819866, 2119820378, 2119820890, 2119821402, 2119821914,
   2119822426, 2119822938, 2119823450, 2119823962, 2119824474, 2119824986, 2119825498, 2119826010, 2119826522,
   2119827034, 2119827547, 2119828059, 2119828571, 2119829083, 2119829595, 2119830107, 2119830619, 2119831131,
   2119831643, 2119832155, 2119832667, 2119833179, 2119833691, 2119834203, 2119834715, 2119835227, 2119835739,
   2119836251, 2119836763, 2119837275, 2119837787, 2119838299, 2119838811, 2119839323, 2119839835, 2119840347,
   2119840859, 2119841371, 2119841883, 2119842395, 2119842907, 2119843419, 2119843931, 2119844443, 2119844955,
   2119845467, 2119845979, 2119846491, 2119847003, 2119847515, 2119848027, 2119848539, 2119849051, 2119849563,
   2119850075, 2119850587, 2119851099, 2119851611, 2119852123, 2119852635, 2119853147, 2119853659, 2119854171,
   2119854683, 2119855195, 2119855707, 2119856219, 2119856731, 2119857243, 2119857755, 2119858267, 2119858779,
   2119859291, 2119859803, 2119860315, 2119860827, 2119861339, 2119861851, 2119862363, 2119862875, 2119863387,
   2119863899, 2119864411, 2119864923, 2119865435, 2119865947, 2119866459, 2119866971, 2119867483, 2119867995,
   2119868507, 2119869019, 2119869531, 2119870043, 2119870555, 2119871067, 2119871579, 2119872091, 2119872603,
   2119873115, 2119873627, 2119874139, 2119874651, 2119875163, 2119875675, 2119876187, 2119876699, 2119877211,
   2119877723, 2119878235, 2119878747, 2119879259, 2119879771, 2119880283, 2119880795, 2119881307, 2119881819,
   2119882331, 2119882843, 2119883355, 2119883867, 2119884379, 2119884891, 2119885403, 2119885915, 2119886427,
   2119886939, 2119887451, 2119887963, 2119888475, 2119888987, 2119889499, 2119890011, 2119890523, 2119891035,
   2119891547, 2119892059, 2119892571, 2119893084, 2119893596, 2119894108, 2119894620, 2119895132, 2119895644,
   2119896156, 2119896668, 2119897180, 2119897692, 2119898204, 2119898716, 2119899228, 2119899740, 2119900252,
   2119900764, 2119901276, 2119901788, 2119902300, 2119902812, 2119903324, 2119903836, 2119904348, 2119904860,
   2119905372, 2119905884, 2119906396, 2119906908, 2119907420, 2119907932, 2119908444, 2119908956, 2119909468,
   2119909980, 2119910492, 2119911004, 2119911516, 2119912028, 2119912540, 2119913052, 2119913564, 2119914076,
   2119914588, 2119915100, 2119915612, 2119916124, 2119916636, 2119917148, 2119917660, 2119918172, 2119918684,
   2119919196, 2119919708, 2119920220, 2119920732, 2119921244, 2119921756, 2119922268, 2119922780, 2119923292,
   2119923804, 2119924316, 2119924828, 2119925340, 2119925852, 2119926364, 2119926876, 2119927388, 2119927900,
   2119928412, 2119928924, 2119929436, 2119929948, 2119930460, 2119930972, 2119931484, 2119931996, 2119932508,
   2119933020, 2119933532, 2119934044, 2119934556, 2119935068, 2119935580, 2119936092, 2119936604, 2119937116,
   2119937628, 2119938140, 2119938652, 2119939164, 2119939676, 2119940188, 2119940700, 2119941212, 2119941724,
   2119942236, 2119942748, 2119943260, 2119943772, 2119944284, 2119944796, 2119945308, 2119945820, 2119946332,
   2119946844, 2119947356, 2119947868, 2119948380, 2119948892, 2119949404, 2119949916, 2119950428, 2119950940,
   2119951452, 2119951964, 2119952476, 2119952988, 2119953500, 2119954012, 2119954524, 2119955036, 2119955548,
   2119956060, 2119956572, 2119957084, 2119957596, 2119958108, 2119958621, 2119959133, 2119959645, 2119960157,
   2119960669, 2119961181, 2119961693, 2119962205, 2119962717, 2119963229, 2119963741, 2119964253, 2119964765,
   2119965277, 2119965789, 2119966301, 2119966813, 2119967325, 2119967837, 2119968349, 2119968861, 2119969373,
   2119969885, 2119970397, 2119970909, 2119971421, 2119971933, 2119972445, 2119972957, 2119973469, 2119973981,
   2119974493, 2119975005, 2119975517, 2119976029, 2119976541, 2119977053, 2119977565, 2119978077, 2119978589,
   2119979101, 2119979613, 2119980125, 2119980637, 2119981149, 2119981661, 2119982173, 2119982685, 2119983197,
   2119983709, 2119984221, 2119984733, 2119985245, 2119985757, 2119986269, 2119986781, 2119987293, 2119987805,
   2119988317, 2119988829, 2119989341, 2119989853, 2119990365, 2119990877, 2119991389, 2119991901, 2119992413,
   2119992925, 2119993437, 2119993949, 2119994461, 2119994973, 2119995485, 2119995997, 2119996509, 2119997021,
   2119997533, 2119998045, 2119998557, 2119999069, 2119999581, 2120000093, 2120000605, 2120001117, 2120001629,
   2120002141, 2120002653, 2120003165, 2120003677, 2120004189, 2120004701, 2120005213, 2120005725, 2120006237,
   2120006749, 2120007261, 2120007773, 2120008285, 2120008797, 2120009309, 2120009821, 2120010333, 2120010845,
   2120011357, 2120011869, 2120012381, 2120012893, 2120013405, 2120013917, 2120014429, 2120014941, 2120015453,
   2120015965, 2120016477, 2120016989, 2120017501, 2120018013, 2120018525, 2120019037, 2120019549, 2120020061,
   2120020573, 2120021085, 2120021597, 2120022109, 2120022621, 2120023133, 2120023645, 2120024158, 2120024670,
   2120025182, 2120025694, 2120026206, 2120026718, 2120027230, 2120027742, 2120028254, 2120028766, 2120029278,
   2120029790, 2120030302, 2120030814, 2120031326, 2120031838, 2120032350, 2120032862, 2120033374, 2120033886,
   2120034398, 2120034910, 2120035422, 2120035934, 2120036446, 2120036958, 2120037470, 2120037982, 2120038494,
   2120039006, 2120039518, 2120040030, 2120040542, 2120041054, 2120041566, 2120042078, 2120042590, 2120043102,
   2120043614, 2120044126, 2120044638, 2120045150, 2120045662, 2120046174, 2120046686, 2120047198, 2120047710,
   2120048222, 2120048734, 2120049246, 2120049758, 2120050270, 2120050782, 2120051294, 2120051806, 2120052318,
   2120052830, 2120053342, 2120053854, 2120054366, 2120054878, 2120055390, 2120055902, 2120056414, 2120056926,
   2120057438, 2120057950, 2120058462, 2120058974, 2120059486, 2120059998, 2120060510, 2120061022, 2120061534,
   2120062046, 2120062558, 2120063070, 2120063582, 2120064094, 2120064606, 2120065118, 2120065630, 2120066142,
   2120066654, 2120067166, 2120067678, 2120068190, 2120068702, 2120069214, 2120069726, 2120070238, 2120070750,
   2120071262, 2120071774, 2120072286, 2120072798, 2120073310, 2120073822, 2120074334, 2120074846, 2120075358,
   2120075870, 2120076382, 2120076894, 2120077406, 2120077918, 2120078430, 2120078942, 2120079454, 2120079966,
   2120080478, 2120080990, 2120081502, 2120082014, 2120082526, 2120083038, 2120083550, 2120084062, 2120084574,
   2120085086, 2120085598, 2120086110, 2120086622, 2120087134, 2120087646, 2120088158, 2120088670, 2120089182,
   2120089695, 2120090207, 2120090719, 2120091231, 2120091743, 2120092255, 2120092767, 2120093279, 2120093791,
   2120094303, 2120094815, 2120095327, 2120095839, 2120096351, 2120096863, 2120097375, 2120097887, 2120098399,
   2120098911, 2120099423, 2120099935, 2120100447, 2120100959, 2120101471, 2120101983, 2120102495, 2120103007,
   2120103519, 2120104031, 2120104543, 2120105055, 2120105567, 2120106079, 2120106591, 2120107103, 2120107615,
   2120108127, 2120108639, 2120109151, 2120109663, 2120110175, 2120110687, 2120111199, 2120111711, 2120112223,
   2120112735, 2120113247, 2120113759, 2120114271, 2120114783, 2120115295, 2120115807, 2120116319, 2120116831,
   2120117343, 2120117855, 2120118367, 2120118879, 2120119391, 2120119903, 2120120415, 2120120927, 2120121439,
   2120121951, 2120122463, 2120122975, 2120123487, 2120123999, 2120124511, 2120125023, 2120125535, 2120126047,
   2120126559, 2120127071, 2120127583, 2120128095, 2120128607, 2120129119, 2120129631, 2120130143, 2120130655,
   2120131167, 2120131679, 2120132191, 2120132703, 2120133215, 2120133727, 2120134239, 2120134751, 2120135263,
   2120135775, 2120136287, 2120136799, 2120137311, 2120137823, 2120138335, 2120138847, 2120139359, 2120139871,
   2120140383, 2120140895, 2120141407, 2120141919, 2120142431, 2120142943, 2120143455, 2120143967, 2120144479,
   2120144991, 2120145503, 2120146015, 2120146527, 2120147039, 2120147551, 2120148063, 2120148575, 2120149087,
   2120149599, 2120150111, 2120150623, 2120151135, 2120151647, 2120152159, 2120152671, 2120153183, 2120153695,
   2120154207, 2120154719, 2120155232, 2120155744, 2120156256, 2120156768, 2120157280, 2120157792, 2120158304,
   2120158816, 2120159328, 2120159840, 2120160352, 2120160864, 2120161376, 2120161888, 2120162400, 2120162912,
   2120163424, 2120163936, 2120164448, 2120164960, 2120165472, 2120165984, 2120166496, 2120167008, 2120167520,
   2120168032, 2120168544, 2120169056, 2120169568, 2120170080, 2120170592, 2120171104, 2120171616, 2120172128,
   2120172640, 2120173152, 2120173664, 2120174176, 2120174688, 2120175200, 2120175712, 2120176224, 2120176736,
   2120177248, 2120177760, 2120178272, 2120178784, 2120179296, 2120179808, 2120180320, 2120180832, 2120181344,
   2120181856, 2120182368, 2120182880, 2120183392, 2120183904, 2120184416, 2120184928, 2120185440, 2120185952,
   2120186464, 2120186976, 2120187488, 2120188000, 2120188512, 2120189024, 2120189536, 2120190048, 2120190560,
   2120191072, 2120191584, 2120192096, 2120192608, 2120193120, 2120193632, 2120194144, 2120194656, 2120195168,
   2120195680, 2120196192, 2120196704, 2120197216, 2120197728, 2120198240, 2120198752, 2120199264, 2120199776,
   2120200288, 2120200800, 2120201312, 2120201824, 2120202336, 2120202848, 2120203360, 2120203872, 2120204384,
   2120204896, 2120205408, 2120205920, 2120206432, 2120206944, 2120207456, 2120207968, 2120208480, 2120208992,
   2120209504, 2120210016, 2120210528, 2120211040, 2120211552, 2120212064, 2120212576, 2120213088, 2120213600,
   2120214112, 2120214624, 2120215136, 2120215648, 2120216160, 2120216672, 2120217184, 2120217696, 2120218208,
   2120218720, 2120219232, 2120219744, 2120220256, 2120220769]
theorem c21_ok :
    chkList (pipeF 1199570688 65535) 65535 2139095040 43009 1059586089 21505 c21
      45057 1060110385 22529 = true := by decide +kernel
theorem c21_len : 43009 + c21.length = 45057 := (chkList_end c21_ok).1
theorem c21_last : lastS 1059586089 c21 = 1060110385 := (chkList_end c21_ok).2.1

@[irreducible] def c22 : List Nat :=
  [2120221281, 2120221793, 2120222305, 2120222817, 2120223329, 2120223841, 2120224353, 2120224865, 2120225377,
   2120225889, 2120226401, 2120226913, 2120227425, 2120227937, 2120228449, 2120228961, 2120229473, 2120229985,
   2120230497, 2120231009, 2120231521, 2120232033, 2120232545, 2120233057, 2120233569, 2120234081, 2120234593,
   2120235105, 2120235617, 2120236129, 2120236641, 2120237153, 2120237665, 2120238177, 2120238689, 2120239201,
   2120239713, 2120240225, 2120240737, 2120241249, 2120241761, 2120242273, 2120242785, 2120243297, 2120243809,
   2120244321, 2120244833, 2120245345, 2120245857, 2120246369, 2120246881, 2120247393, 2120247905, 2120248417,
   2120248929, 2120249441, 2120249953, 2120250465, 2120250977, 2120251489, 2120252001, 2120252513, 2120253025,
   2120253537, 2120254049, 2120254561, 2120255073, 2120255585, 2120256097, 2120256609, 2120257121, 2120257633,
   2120258145, 2120258657, 2120259169, 2120259681, 2120260193, 2120260705, 2120261217, 2120261729, 2120262241,
   2120262753, 2120263265, 2120263777, 2120264289, 2120264801, 2120265313, 2120265825, 2120266337, 2120266849,
   2120267361, 2120267873, 2120268385, 2120268897, 2120269409, 2120269921, 2120270433, 2120270945, 2120271457,
   2120271969, 2120272481, 2120272993, 2120273505, 2120274017, 2120274529, 2120275041, 2120275553, 2120276065,
   2120276577, 2120277089, 2120277601, 2120278113, 2120278625, 2120279137, 2120279649, 2120280161, 2120280673,
   2120281185, 2120281697, 2120282209, 2120282721, 2120283233, 2120283745, 2120284257, 2120284769, 2120285281,
   2120285793, 2120286306, 2120286818, 2120287330, 2120287842, 2120288354, 2120288866, 2120289378, 2120289890,
   2120290402, 2120290914, 2120291426, 2120291938, 2120292450, 2120292962, 2120293474, 2120293986, 2120294498,
   2120295010, 2120295522, 2120296034, 2120296546, 2120297058, 2120297570, 2120298082, 2120298594, 2120299106,
   2120299618, 2120300130, 2120300642, 2120301154, 2120301666, 2120302178, 2120302690, 2120303202, 2120303714,
   2120304226, 2120304738, 2120305250, 2120305762, 2120306274, 2120306786, 2120307298, 2120307810, 2120308322,
   2120308834, 2120309346, 2120309858, 2120310370, 2120310882, 2120311394, 2120311906, 2120312418, 2120312930,
   2120313442, 2120313954, 2120314466, 2120314978, 2120315490, 2120316002, 2120316514, 2120317026, 2120317538,
   2120318050, 2120318562, 2120319074, 2120319586, 2120320098, 2120320610, 2120321122, 2120321634, 2120322146,
   2120322658, 2120323170, 2120323682, 2120324194, 2120324706, 2120325218, 2120325730, 2120326242, 2120326754,
   2120327266, 2120327778, 2120328290, 2120328802, 2120329314, 2120329826, 2120330338, 2120330850, 2120331362,
   2120331874, 2120332386, 2120332898, 2120333410, 2120333922, 2120334434, 2120334946, 2120335458, 2120335970,
   2120336482, 2120336994, 2120337506, 2120338018, 2120338530, 2120339042, 2120339554, 2120340066, 2120340578,
   2120341090, 2120341602, 2120342114, 2120342626, 2120343138, 2120343650, 2120344162, 2120344674, 2120345186,
   2120345698, 2120346210, 2120346722, 2120347234, 2120347746, 2120348258, 2120348770, 2120349282, 2120349794,
   2120350306, 2120350818, 2120351330, 2120351843, 2120352355, 2120352867, 2120353379, 2120353891, 2120354403,
   2120354915, 2120355427, 2120355939, 2120356451, 2120356963, 2120357475, 2120357987, 2120358499, 2120359011,
   2120359523, 2120360035, 2120360547, 2120361059, 2120361571, 2120362083, 2120362595, 2120363107, 2120363619,
   2120364131, 2120364643, 2120365155, 2120365667, 2120366179, 2120366691, 2120367203, 2120367715, 2120368227,
   2120368739, 2120369251, 2120369763, 2120370275, 2120370787, 2120371299, 2120371811, 2120372323, 2120372835,
   2120373347, 2120373859, 2120374371, 2120374883, 2120375395, 2120375907, 2120376419, 2120376931, 2120377443,
   2120377955, 2120378467, 2120378979, 2120379491, 2120380003, 2120380515, 2120381027, 2120381539, 2120382051,
   2120382563, 2120383075, 2120383587, 2120384099, 2120384611, 2120385123, 2120385635, 2120386147, 2120386659,
   2120387171, 2120387683, 2120388195, 2120388707, 2120389219, 2120389731, 2120390243, 2120390755, 2120391267,
   2120391779, 2120392291, 2120392803, 2120393315, 2120393827, 2120394339, 2120394851, 2120395363, 2120395875,
   2120396387, 2120396899, 2120397411, 2120397923, 2120398435, 2120398947, 2120399459, 2120399971, 2120400483,
   2120400995, 2120401507, 2120402019, 2120402531, 2120403043, 2120403555, 2120404067, 2120404579, 2120405091,
   2120405603, 2120406115, 2120406627, 2120407139, 2120407651, 2120408163, 2120408675, 2120409187, 2120409699,
   2120410211, 2120410723, 2120411235, 2120411747, 2120412259, 2120412771, 2120413283, 2120413795, 2120414307,
   2120414819, 2120415331, 2120415843, 2120416355, 2120416867, 2120417380, 2120417892, 2120418404, 2120418916,
   2120419428, 2120419940, 2120420452, 2120420964, 2120421476, 2120421988, 2120422500, 2120423012, 2120423524,
   2120424036, 2120424548, 2120425060, 2120425572, 2120426084, 2120426596, 2120427108, 2120427620, 2120428132,
   2120428644, 2120429156, 2120429668, 2120430180, 2120430692, 2120431204, 2120431716, 2120432228, 2120432740,
   2120433252, 2120433764, 2120434276, 2120434788, 2120435300, 2120435812, 2120436324, 2120436836, 2120437348,
   2120437860, 2120438372, 2120438884, 2120439396, 2120439908, 2120440420, 2120440932, 2120441444, 2120441956,
   2120442468, 2120442980, 2120443492, 2120444004, 2120444516, 2120445028, 2120445540, 2120446052, 2120446564,
   2120447076, 2120447588, 2120448100, 2120448612, 2120449124, 2120449636, 2120450148, 2120450660, 2120451172,
   2120451684, 2120452196, 2120452708, 2120453220, 2120453732, 2120454244, 2120454756, 2120455268, 2120455780,
   2120456292, 2120456804, 2120457316, 2120457828, 2120458340, 2120458852, 2120459364, 2120459876, 2120460388,
   2120460900, 2120461412, 2120461924, 2120462436, 2120462948, 2120463460, 2120463972, 2120464484, 2120464996,
   2120465508, 2120466020, 2120466532, 2120467044, 2120467556, 2120468068, 2120468580, 2120469092, 2120469604,
   2120470116, 2120470628, 2120471140, 2120471652, 2120472164, 2120472676, 2120473188, 2120473700, 2120474212,
   2120474724, 2120475236, 2120475748, 2120476260, 2120476772, 2120477284, 2120477796, 2120478308, 2120478820,
   2120479332, 2120479844, 2120480356, 2120480868, 2120481380, 2120481892, 2120482404, 2120482917, 2120483429,
   2120483941, 2120484453, 2120484965, 2120485477, 2120485989, 2120486501, 2120487013, 2120487525, 2120488037,
   2120488549, 2120489061, 2120489573, 2120490085, 2120490597, 2120491109, 2120491621, 2120492133, 2120492645,
   2120493157, 2120493669, 2120494181, 2120494693, 2120495205, 2120495717, 2120496229, 2120496741, 2120497253,
   2120497765, 2120498277, 2120498789, 2120499301, 2120499813, 2120500325, 2120500837, 2120501349, 2120501861,
   2120502373, 2120502885, 2120503397, 2120503909, 2120504421, 2120504933, 2120505445, 2120505957, 2120506469,
   2120506981, 2120507493, 2120508005, 2120508517, 2120509029, 2120509541, 2120510053, 2120510565, 2120511077,
   2120511589, 2120512101, 2120512613, 2120513125, 2120513637, 2120514149, 2120514661, 2120515173, 2120515685,
   2120516197, 2120516709, 2120517221, 2120517733, 2120518245, 2120518757, 2120519269, 2120519781, 2120520293,
   2120520805, 2120521317, 2120521829, 2120522341, 2120522853, 2120523365, 2120523877, 2120524389, 2120524901,
   2120525413, 2120525925, 2120526437, 2120526949, 2120527461, 2120527973, 2120528485, 2120528997, 2120529509,
   2120530021, 2120530533, 2120531045, 2120531557, 2120532069, 2120532581, 2120533093, 2120533605, 2120534117,
   2120534629, 2120535141, 2120535653, 2120536165, 2120536677, 2120537189, 2120537701, 2120538213, 2120538725,
   2120539237, 2120539749, 2120540261, 2120540773, 2120541285, 2120541797, 2120542309, 2120542821, 2120543333,
   2120543845, 2120544357, 2120544869, 2120545381, 2120545893, 2120546405, 2120546917, 2120547429, 2120547941,
   2120548454, 2120548966, 2120549478, 2120549990, 2120550502, 2120551014, 2120551526, 2120552038, 2120552550,
   2120553062, 2120553574, 2120554086, 2120554598, 2120555110, 2120555622, 2120556134, 2120556646, 2120557158,
   2120557670, 2120558182, 2120558694, 2120559206, 2120559718, 2120560230, 2120560742, 2120561254, 2120561766,
   2120562278, 2120562790, 2120563302, 2120563814, 2120564326, 2120564838, 2120565350, 2120565862, 2120566374,
   2120566886, 2120567398, 2120567910, 2120568422, 2120568934, 2120569446, 2120569958, 2120570470, 2120570982,
   2120571494, 2120572006, 2120572518, 2120573030, 2120573542, 2120574054, 2120574566, 2120575078, 2120575590,
   2120576102, 2120576614, 2120577126, 2120577638, 2120578150, 2120578662, 2120579174, 2120579686, 2120580198,
   2120580710, 2120581222, 2120581734, 2120582246, 2120582758, 2120583270, 2120583782, 2120584294, 2120584806,
   2120585318, 2120585830, 2120586342, 2120586854, 2120587366, 2120587878, 2120588390, 2120588902, 2120589414,
   2120589926, 2120590438, 2120590950, 2120591462, 2120591974, 2120592486, 2120592998, 2120593510, 2120594022,
   2120594534, 2120595046, 2120595558, 2120596070, 2120596582, 2120597094, 2120597606, 2120598118, 2120598630,
   2120599142, 2120599654, 2120600166, 2120600678, 2120601190, 2120601702, 2120602214, 2120602726, 2120603238,
   2120603750, 2120604262, 2120604774, 2120605286, 2120605798, 2120606310, 2120606822, 2120607334, 2120607846,
   2120608358, 2120608870, 2120609382, 2120609894, 2120610406, 2120610918, 2120611430, 2120611942, 2120612454,
   2120612966, 2120613478, 2120613991, 2120614503, 2120615015, 2120615527, 2120616039, 2120616551, 2120617063,
   2120617575, 2120618087, 2120618599, 2120619111, 2120619623, 2120620135, 2120620647, 2120621159, 2120621671,
   2120622183, 2120622695, 2120623207, 2120623719, 2120624231, 2120624743, 2120625255, 2120625767, 2120626279,
   2120626791, 2120627303, 2120627815, 2120628327, 2120628839, 2120629351, 2120629863, 2120630375, 2120630887,
   2120631399, 2120631911, 2120632423, 2120632935, 2120633447, 2120633959, 2120634471, 2120634983, 2120635495,
   2120636007, 2120636519, 2120637031, 2120637543, 2120638055, 2120638567, 2120639079, 2120639591, 2120640103,
   2120640615, 2120641127, 2120641639, 2120642151, 2120642663, 2120643175, 2120643687, 2120644199, 2120644711,
   2120645223, 2120645735, 2120646247, 2120646759, 2120647271, 2120647783, 2120648295, 2120648807, 2120649319,
   2120649831, 2120650343, 2120650855, 2120651367, 2120651879, 2120652391, 2120652903, 2120653415, 2120653927,
   2120654439, 2120654951, 2120655463, 2120655975, 2120656487, 2120656999, 2120657511, 2120658023, 2120658535,
   2120659047, 2120659559, 2120660071, 2120660583, 2120661095, 2120661607, 2120662119, 2120662631, 2120663143,
   2120663655, 2120664167, 2120664679, 2120665191, 2120665703, 2120666215, 2120666727, 2120667239, 2120667751,
   2120668263, 2120668775, 2120669287, 2120669799, 2120670311, 2120670823, 2120671335, 2120671847, 2120672359,
   2120672871, 2120673383, 2120673895, 2120674407, 2120674919, 2120675431, 2120675943, 2120676455, 2120676967,
   2120677479, 2120677991, 2120678503, 2120679015, 2120679528, 2120680040, 2120680552, 2120681064, 2120681576,
   2120682088, 2120682600, 2120683112, 2120683624, 2120684136, 2120684648, 2120685160, 2120685672, 2120686184,
   2120686696, 2120687208, 2120687720, 2120688232, 2120688744, 2120689256, 2120689768, 2120690280, 2120690792,
   2120691304, 2120691816, 2120692328, 2120692840, 2120693352, 2120693864, 2120694376, 2120694888, 2120695400,
   2120695912, 2120696424, 2120696936, 2120697448, 2120697960, 2120698472, 2120698984, 2120699496, 2120700008,
   2120700520, 2120701032, 2120701544, 2120702056, 2120702568, 2120703080, 2120703592, 2120704104, 2120704616,
   2120705128, 2120705640, 2120706152, 2120706664, 2120707176, 2120707688, 2120708200, 2120708712, 2120709224,
   2120709736, 2120710248, 2120710760, 2120711272, 2120711784, 2120712296, 2120712808, 2120713320, 2120713832,
   2120714344, 2120714856, 2120715368, 2120715880, 2120716392, 2120716904, 2120717416, 2120717928, 2120718440,
   2120718952, 2120719464, 2120719976, 2120720488, 2120721000, 2120721512, 2120722024, 2120722536, 2120723048,
   2120723560, 2120724072, 2120724584, 2120725096, 2120725608, 2120726120, 2120726632, 2120727144, 2120727656,
   2120728168, 2120728680, 2120729192, 2120729704, 2120730216, 2120730728, 2120731240, 2120731752, 2120732264,
   2120732776, 2120733288, 2120733800, 2120734312, 2120734824, 2120735336, 2120735848, 2120736360, 2120736872,
   2120737384, 2120737896, 2120738408, 2120738920, 2120739432, 2120739944, 2120740456, 2120740968, 2120741480,
   2120741992, 2120742504, 2120743016, 2120743528, 2120744040, 2120744552, 2120745065, 2120745577, 2120746089,
   2120746601, 2120747113, 2120747625, 2120748137, 2120748649, 2120749161, 2120749673, 2120750185, 2120750697,
   2120751209, 2120751721, 2120752233, 2120752745, 2120753257, 2120753769, 2120754281, 2120754793, 2120755305,
   2120755817, 2120756329, 2120756841, 2120757353, 2120757865, 2120758377, 2120758889, 2120759401, 2120759913,
   2120760425, 2120760937, 2120761449, 2120761961, 2120762473, 2120762985, 2120763497, 2120764009, 2120764521,
   2120765033, 2120765545, 2120766057, 2120766569, 2120767081, 2120767593, 2120768105, 2120768617, 2120769129,
   2120769641, 2120770153, 2120770665, 2120771177, 2120771689, 2120772201, 2120772713, 2120773225, 2120773737,
   2120774249, 2120774761, 2120775273, 2120775785, 2120776297, 2120776809, 2120777321, 2120777833, 2120778345,
   2120778857, 2120779369, 2120779881, 2120780393, 2120780905, 2120781417, 2120781929, 2120782441, 2120782953,
   2120783465, 2120783977, 2120784489, 2120785001, 2120785513, 2120786025, 2120786537, 2120787049, 2120787561,
   2120788073, 2120788585, 2120789097, 2120789609, 2120790121, 2120790633, 2120791145, 2120791657, 2120792169,
   2120792681, 2120793193, 2120793705, 2120794217, 2120794729, 2120795241, 2120795753, 2120796265, 2120796777,
   2120797289, 2120797801, 2120798313, 2120798825, 2120799337, 2120799849, 2120800361, 2120800873, 2120801385,
   2120801897, 2120802409, 2120802921, 2120803433, 2120803945, 2120804457, 2120804969, 2120805481, 2120805993,
   2120806505, 2120807017, 2120807529, 2120808041, 2120808553, 2120809065, 2120809577, 2120810089, 2120810602,
   2120811114, 2120811626, 2120812138, 2120812650, 2120813162, 2120813674, 2120814186, 2120814698, 2120815210,
   2120815722, 2120816234, 2120816746, 2120817258, 2120817770, 2120818282, 2120818794, 2120819306, 2120819818,
   2120820330, 2120820842, 2120821354, 2120821866, 2120822378, 2120822890, 2120823402, 2120823914, 2120824426,
   2120824938, 2120825450, 2120825962, 2120826474, 2120826986, 2120827498, 2120828010, 2120828522, 2120829034,
   2120829546, 2120830058, 2120830570, 2120831082, 2120831594, 2120832106, 2120832618, 2120833130, 2120833642,
   2120834154, 2120834666, 2120835178, 2120835690, 2120836202, 2120836714, 2120837226, 2120837738, 2120838250,
   2120838762, 2120839274, 2120839786, 2120840298, 2120840810, 2120841322, 2120841834, 2120842346, 2120842858,
   2120843370, 2120843882, 2120844394, 2120844906, 2120845418, 2120845930, 2120846442, 2120846954, 2120847466,
   2120847978, 2120848490, 2120849002, 2120849514, 2120850026, 2120850538, 2120851050, 2120851562, 2120852074,
   2120852586, 2120853098, 2120853610, 2120854122, 2120854634, 2120855146, 2120855658, 2120856170, 2120856682,
   2120857194, 2120857706, 2120858218, 2120858730, 2120859242, 2120859754, 2120860266, 2120860778, 2120861290,
   2120861802, 2120862314, 2120862826, 2120863338, 2120863850, 2120864362, 2120864874, 2120865386, 2120865898,
   2120866410, 2120866922, 2120867434, 2120867946, 2120868458, 2120868970, 2120869482, 2120869994, 2120870506,
   2120871018, 2120871530, 2120872042, 2120872554, 2120873066, 2120873578, 2120874090, 2120874602, 2120875114,
   2120875626, 2120876139, 2120876651, 2120877163, 2120877675, 2120878187, 2120878699, 2120879211, 2120879723,
   2120880235, 2120880747, 2120881259, 2120881771, 2120882283, 2120882795, 2120883307, 2120883819, 2120884331,
   2120884843, 2120885355, 2120885867, 2120886379, 2120886891, 2120887403, 2120887915, 2120888427, 2120888939,
   2120889451, 2120889963, 2120890475, 2120890987, 2120891499, 2120892011, 2120892523, 2120893035, 2120893547,
   2120894059, 2120894571, 2120895083, 2120895595, 2120896107, 2120896619, 2120897131, 2120897643, 2120898155,
   2120898667, 2120899179, 2120899691, 2120900203, 2120900715, 2120901227, 2120901739, 2120902251, 2120902763,
   2120903275, 2120903787, 2120904299, 2120904811, 2120905323, 2120905835, 2120906347, 2120906859, 2120907371,
   2120907883, 2120908395, 2120908907, 2120909419, 2120909931, 2120910443, 2120910955, 2120911467, 2120911979,
   2120912491, 2120913003, 2120913515, 2120914027, 2120914539, 2120915051, 2120915563, 2120916075, 2120916587,
   2120917099, 2120917611, 2120918123, 2120918635, 2120919147, 2120919659, 2120920171, 2120920683, 2120921195,
   2120921707, 2120922219, 2120922731, 2120923243, 2120923755, 2120924267, 2120924779, 2120925291, 2120925803,
   2120926315, 2120926827, 2120927339, 2120927851, 2120928363, 2120928875, 2120929387, 2120929899, 2120930411,
   2120930923, 2120931435, 2120931947, 2120932459, 2120932971, 2120933483, 2120933995, 2120934507, 2120935019,
   2120935531, 2120936043, 2120936555, 2120937067, 2120937579, 2120938091, 2120938603, 2120939115, 2120939627,
   2120940139, 2120940651, 2120941163, 2120941676, 2120942188, 2120942700, 2120943212, 2120943724, 2120944236,
   2120944748, 2120945260, 2120945772, 2120946284, 2120946796, 2120947308, 2120947820, 2120948332, 2120948844,
   2120949356, 2120949868, 2120950380, 2120950892, 2120951404, 2120951916, 2120952428, 2120952940, 2120953452,
   2120953964, 2120954476, 2120954988, 2120955500, 2120956012, 2120956524, 2120957036, 2120957548, 2120958060,
   2120958572, 2120959084, 2120959596, 2120960108, 2120960620, 2120961132, 2120961644, 2120962156, 2120962668,
   2120963180, 2120963692, 2120964204, 2120964716, 2120965228, 2120965740, 2120966252, 2120966764, 2120967276,
   2120967788, 2120968300, 2120968812, 2120969324, 2120969836, 2120970348, 2120970860, 2120971372, 2120971884,
   2120972396, 2120972908, 2120973420, 2120973932, 2120974444, 2120974956, 2120975468, 2120975980, 2120976492,
   2120977004, 2120977516, 2120978028, 2120978540, 2120979052, 2120979564, 2120980076, 2120980588, 2120981100,
   2120981612, 2120982124, 2120982636, 2120983148, 2120983660, 2120984172, 2120984684, 2120985196, 2120985708,
   2120986220, 2120986732, 2120987244, 2120987756, 2120988268, 2120988780, 2120989292, 2120989804, 2120990316,
   2120990828, 2120991340, 2120991852, 2120992364, 2120992876, 2120993388, 2120993900, 2120994412, 2120994924,
   2120995436, 2120995948, 2120996460, 2120996972, 2120997484, 2120997996, 2120998508, 2120999020, 2120999532,
   2121000044, 2121000556, 2121001068, 2121001580, 2121002092, 2121002604, 2121003116, 2121003628, 2121004140,
   2121004652, 2121005164, 2121005676, 2121006188, 2121006700, 2121007213, 2121007725, 2121008237, 2121008749,
   2121009261, 2121009773, 2121010285, 2121010797, 2121011309, 2121011821, 2121012333, 2121012845, 2121013357,
   2121013869, 2121014381, 2121014893, 2121015405, 2121015917, 2121016429, 2121016941, 2121017453, 2121017965,
   2121018477, 2121018989, 2121019501, 2121020013, 2121020525, 2121021037, 2121021549, 2121022061, 2121022573,
   2121023085, 2121023597, 2121024109, 2121024621, 2121025133, 2121025645, 2121026157, 2121026669, 2121027181,
   2121027693, 2121028205, 2121028717, 2121029229, 2121029741, 2121030253, 2121030765, 2121031277, 2121031789,
   2121032301, 2121032813, 2121033325, 2121033837, 2121034349, 2121034861, 2121035373, 2121035885, 2121036397,
   2121036909, 2121037421, 2121037933, 2121038445, 2121038957, 2121039469, 2121039981, 2121040493, 2121041005,
   2121041517, 2121042029, 2121042541, 2121043053, 2121043565, 2121044077, 2121044589, 2121045101, 2121045613,
   2121046125, 2121046637, 2121047149, 2121047661, 2121048173, 2121048685, 2121049197, 2121049709, 2121050221,
   2121050733, 2121051245, 2121051757, 2121052269, 2121052781, 2121053293, 2121053805, 2121054317, 2121054829,
   2121055341, 2121055853, 2121056365, 2121056877, 2121057389, 2121057901, 2121058413, 2121058925, 2121059437,
   2121059949, 2121060461, 2121060973, 2121061485, 2121061997, 2121062509, 2121063021, 2121063533, 2121064045,
   2121064557, 2121065069, 2121065581, 2121066093, 2121066605, 2121067117, 2121067629, 2121068141, 2121068653,
   2121069165, 2121069677, 2121070189, 2121070701, 2121071213, 2121071725, 2121072237, 2121072750, 2121073262,
   2121073774, 2121074286, 2121074798, 2121075310, 2121075822, 2121076334, 2121076846, 2121077358, 2121077870,
   2121078382, 2121078894, 2121079406, 2121079918, 2121080430, 2121080942, 2121081454, 2121081966, 2121082478,
   2121082990, 2121083502, 2121084014, 2121084526, 2121085038, 2121085550, 2121086062, 2121086574, 2121087086,
   2121087598, 2121088110, 2121088622, 2121089134, 2121089646, 2121090158, 2121090670, 2121091182, 2121091694,
   2121092206, 2121092718, 2121093230, 2121093742, 2121094254, 2121094766, 2121095278, 2121095790, 2121096302,
   2121096814, 2121097326, 2121097838, 2121098350, 2121098862, 2121099374, 2121099886, 2121100398, 2121100910,
   2121101422, 2121101934, 2121102446, 2121102958, 2121103470, 2121103982, 2121104494, 2121105006, 2121105518,
   2121106030, 2121106542, 2121107054, 2121107566, 2121108078, 2121108590, 2121109102, 2121109614, 2121110126,
   2121110638, 2121111150, 2121111662, 2121112174, 2121112686, 2121113198, 2121113710, 2121114222, 2121114734,
   2121115246, 2121115758, 2121116270, 2121116782, 2121117294, 2121117806, 2121118318, 2121118830, 2121119342,
   2121119854, 2121120366, 2121120878, 2121121390, 2121121902, 2121122414, 2121122926, 2121123438, 2121123950,
   2121124462, 2121124974, 2121125486, 2121125998, 2121126510, 2121127022, 2121127534, 2121128046, 2121128558,
   2121129070, 2121129582, 2121130094, 2121130606, 2121131118, 2121131630, 2121132142, 2121132654, 2121133166,
   2121133678, 2121134190, 2121134702, 2121135214, 2121135726, 2121136238, 2121136750, 2121137262, 2121137774,
   2121138287, 2121138799, 2121139311, 2121139823, 2121140335, 2121140847, 2121141359, 2121141871, 2121142383,
   2121142895, 2121143407, 2121143919, 2121144431, 2121144943, 2121145455, 2121145967, 2121146479, 2121146991,
   2121147503, 2121148015, 2121148527, 2121149039, 2121149551, 2121150063, 2121150575, 2121151087, 2121151599,
   2121152111, 2121152623, 2121153135, 2121153647, 2121154159, 2121154671, 2121155183, 2121155695, 2121156207,
   2121156719, 2121157231, 2121157743, 2121158255, 2121158767, 2121159279, 2121159791, 2121160303, 2121160815,
   2121161327, 2121161839, 2121162351, 2121162863, 2121163375, 2121163887, 2121164399, 2121164911, 2121165423,
   2121165935, 2121166447, 2121166959, 2121167471, 2121167983, 2121168495, 2121169007, 2121169519, 2121170031,
   2121170543, 2121171055, 2121171567, 2121172079, 2121172591, 2121173103, 2121173615, 2121174127, 2121174639,
   2121175151, 2121175663, 2121176175, 2121176687, 2121177199, 2121177711, 2121178223, 2121178735, 2121179247,
   2121179759, 2121180271, 2121180783, 2121181295, 2121181807, 2121182319, 2121182831, 2121183343, 2121183855,
   2121184367, 2121184879, 2121185391, 2121185903, 2121186415, 2121186927, 2121187439, 2121187951, 2121188463,
   2121188975, 2121189487, 2121189999, 2121190511, 2121191023, 2121191535, 2121192047, 2121192559, 2121193071,
   2121193583, 2121194095, 2121194607, 2121195119, 2121195631, 2121196143, 2121196655, 2121197167, 2121197679,
   2121198191, 2121198703, 2121199215, 2121199727, 2121200239, 2121200751, 2121201263, 2121201775, 2121202287,
   2121202799, 2121203311, 2121203824, 2121204336, 2121204848, 2121205360, 2121205872, 2121206384, 2121206896,
   2121207408, 2121207920, 2121208432, 2121208944, 2121209456, 2121209968, 2121210480, 2121210992, 2121211504,
   2121212016, 2121212528, 2121213040, 2121213552, 2121214064, 2121214576, 2121215088, 2121215600, 2121216112,
   2121216624, 2121217136, 2121217648, 2121218160, 2121218672, 2121219184, 2121219696, 2121220208, 2121220720,
   2121221232, 2121221744, 2121222256, 2121222768, 2121223280, 2121223792, 2121224304, 2121224816, 2121225328,
   2121225840, 2121226352, 2121226864, 2121227376, 2121227888, 2121228400, 2121228912, 2121229424, 2121229936,
   2121230448, 2121230960, 2121231472, 2121231984, 2121232496, 2121233008, 2121233520, 2121234032, 2121234544,
   2121235056, 2121235568, 2121236080, 2121236592, 2121237104, 2121237616, 2121238128, 2121238640, 2121239152,
   2121239664, 2121240176, 2121240688, 2121241200, 2121241712, 2121242224, 2121242736, 2121243248, 2121243760,
   2121244272, 2121244784, 2121245296, 2121245808, 2121246320, 2121246832, 2121247344, 2121247856, 2121248368,
   2121248880, 2121249392, 2121249904, 2121250416, 2121250928, 2121251440, 2121251952, 2121252464, 2121252976,
   2121253488, 2121254000, 2121254512, 2121255024, 2121255536, 2121256048, 2121256560, 2121257072, 2121257584,
   2121258096, 2121258608, 2121259120, 2121259632, 2121260144, 2121260656, 2121261168, 2121261680, 2121262192,
   2121262704, 2121263216, 2121263728, 2121264240, 2121264752, 2121265264, 2121265776, 2121266288, 2121266800,
   2121267312, 2121267824, 2121268336, 2121268848, 2121269361]
theorem c22_ok :
    chkList (pipeF 1199570688 65535) 65535 2139095040 45057 1060110385 22529 c22
      47105 1060634681 23553 = true := by decide +kernel
theorem c22_len : 45057 + c22.length = 47105 := (chkList_end c22_ok).1
theorem c22_last : lastS 1060110385 c22 = 1060634681 := (chkList_end c22_ok).2.1

@[irreducible] def c23 : List Nat :=
  [2121269873, 2121270385, 2121270897, 2121271409, 2121271921, 2121272433, 2121272945, 2121273457, 2121273969,
   2121274481, 2121274993, 2121275505, 2121276017, 2121276529, 2121277041, 2121277553, 2121278065, 2121278577,
   2121279089, 2121279601, 2121280113, 2121280625, 2121281137, 2121281649, 2121282161, 2121282673, 2121283185,
   2121283697, 2121284209, 2121284721, 2121285233, 2121285745, 2121286257, 2121286769, 2121287281, 2121287793,
   2121288305, 2121288817, 2121289329, 2121289841, 2121290353, 2121290865, 2121291377, 2121291889, 2121292401,
   2121292913, 2121293425, 2121293937, 2121294449, 2121294961, 2121295473, 2121295985, 2121296497, 2121297009,
   2121297521, 2121298033, 2121298545, 2121299057, 2121299569, 2121300081, 2121300593, 2121301105, 2121301617,
   2121302129, 2121302641, 2121303153, 2121303665, 2121304177, 2121304689, 2121305201, 2121305713, 2121306225,
   2121306737, 2121307249, 2121307761, 2121308273, 2121308785, 2121309297, 2121309809, 2121310321, 2121310833,
   2121311345, 2121311857, 2121312369, 2121312881, 2121313393, 2121313905, 2121314417, 2121314929, 2121315441,
   2121315953, 2121316465, 2121316977, 2121317489, 2121318001, 2121318513, 2121319025, 2121319537, 2121320049,
   2121320561, 2121321073, 2121321585, 2121322097, 2121322609, 2121323121, 2121323633, 2121324145, 2121324657,
   2121325169, 2121325681, 2121326193, 2121326705, 2121327217, 2121327729, 2121328241, 2121328753, 2121329265,
   2121329777, 2121330289, 2121330801, 2121331313, 2121331825, 2121332337, 2121332849, 2121333361, 2121333873,
   2121334385, 2121334898, 2121335410, 2121335922, 2121336434, 2121336946, 2121337458, 2121337970, 2121338482,
   2121338994, 2121339506, 2121340018, 2121340530, 2121341042, 2121341554, 2121342066, 2121342578, 2121343090,
   2121343602, 2121344114, 2121344626, 2121345138, 2121345650, 2121346162, 2121346674, 2121347186, 2121347698,
   2121348210, 2121348722, 2121349234, 2121349746, 2121350258, 2121350770, 2121351282, 2121351794, 2121352306,
   2121352818, 2121353330, 2121353842, 2121354354, 2121354866, 2121355378, 2121355890, 2121356402, 2121356914,
   2121357426, 2121357938, 2121358450, 2121358962, 2121359474, 2121359986, 2121360498, 2121361010, 2121361522,
   2121362034, 2121362546, 2121363058, 2121363570, 2121364082, 2121364594, 2121365106, 2121365618, 2121366130,
   2121366642, 2121367154, 2121367666, 2121368178, 2121368690, 2121369202, 2121369714, 2121370226, 2121370738,
   2121371250, 2121371762, 2121372274, 2121372786, 2121373298, 2121373810, 2121374322, 2121374834, 2121375346,
   2121375858, 2121376370, 2121376882, 2121377394, 2121377906, 2121378418, 2121378930, 2121379442, 2121379954,
   2121380466, 2121380978, 2121381490, 2121382002, 2121382514, 2121383026, 2121383538, 2121384050, 2121384562,
   2121385074, 2121385586, 2121386098, 2121386610, 2121387122, 2121387634, 2121388146, 2121388658, 2121389170,
   2121389682, 2121390194, 2121390706, 2121391218, 2121391730, 2121392242, 2121392754, 2121393266, 2121393778,
   2121394290, 2121394802, 2121395314, 2121395826, 2121396338, 2121396850, 2121397362, 2121397874, 2121398386,
   2121398898, 2121399410, 2121399922, 2121400435, 2121400947, 2121401459, 2121401971, 2121402483, 2121402995,
   2121403507, 2121404019, 2121404531, 2121405043, 2121405555, 2121406067, 2121406579, 2121407091, 2121407603,
   2121408115, 2121408627, 2121409139, 2121409651, 2121410163, 2121410675, 2121411187, 2121411699, 2121412211,
   2121412723, 2121413235, 2121413747, 2121414259, 2121414771, 2121415283, 2121415795, 2121416307, 2121416819,
   2121417331, 2121417843, 2121418355, 2121418867, 2121419379, 2121419891, 2121420403, 2121420915, 2121421427,
   2121421939, 2121422451, 2121422963, 2121423475, 2121423987, 2121424499, 2121425011, 2121425523, 2121426035,
   2121426547, 2121427059, 2121427571, 2121428083, 2121428595, 2121429107, 2121429619, 2121430131, 2121430643,
   2121431155, 2121431667, 2121432179, 2121432691, 2121433203, 2121433715, 2121434227, 2121434739, 2121435251,
   2121435763, 2121436275, 2121436787, 2121437299, 2121437811, 2121438323, 2121438835, 2121439347, 2121439859,
   2121440371, 2121440883, 2121441395, 2121441907, 2121442419, 2121442931, 2121443443, 2121443955, 2121444467,
   2121444979, 2121445491, 2121446003, 2121446515, 2121447027, 2121447539, 2121448051, 2121448563, 2121449075,
   2121449587, 2121450099, 2121450611, 2121451123, 2121451635, 2121452147, 2121452659, 2121453171, 2121453683,
   2121454195, 2121454707, 2121455219, 2121455731, 2121456243, 2121456755, 2121457267, 2121457779, 2121458291,
   2121458803, 2121459315, 2121459827, 2121460339, 2121460851, 2121461363, 2121461875, 2121462387, 2121462899,
   2121463411, 2121463923, 2121464435, 2121464947, 2121465459, 2121465972, 2121466484, 2121466996, 2121467508,
   2121468020, 2121468532, 2121469044, 2121469556, 2121470068, 2121470580, 2121471092, 2121471604, 2121472116,
   2121472628, 2121473140, 2121473652, 2121474164, 2121474676, 2121475188, 2121475700, 2121476212, 2121476724,
   2121477236, 2121477748, 2121478260, 2121478772, 2121479284, 2121479796, 2121480308, 2121480820, 2121481332,
   2121481844, 2121482356, 2121482868, 2121483380, 2121483892, 2121484404, 2121484916, 2121485428, 2121485940,
   2121486452, 2121486964, 2121487476, 2121487988, 2121488500, 2121489012, 2121489524, 2121490036, 2121490548,
   2121491060, 2121491572, 2121492084, 2121492596, 2121493108, 2121493620, 2121494132, 2121494644, 2121495156,
   2121495668, 2121496180, 2121496692, 2121497204, 2121497716, 2121498228, 2121498740, 2121499252, 2121499764,
   2121500276, 2121500788, 2121501300, 2121501812, 2121502324, 2121502836, 2121503348, 2121503860, 2121504372,
   2121504884, 2121505396, 2121505908, 2121506420, 2121506932, 2121507444, 2121507956, 2121508468, 2121508980,
   2121509492, 2121510004, 2121510516, 2121511028, 2121511540, 2121512052, 2121512564, 2121513076, 2121513588,
   2121514100, 2121514612, 2121515124, 2121515636, 2121516148, 2121516660, 2121517172, 2121517684, 2121518196,
   2121518708, 2121519220, 2121519732, 2121520244, 2121520756, 2121521268, 2121521780, 2121522292, 2121522804,
   2121523316, 2121523828, 2121524340, 2121524852, 2121525364, 2121525876, 2121526388, 2121526900, 2121527412,
   2121527924, 2121528436, 2121528948, 2121529460, 2121529972, 2121530484, 2121530996, 2121531509, 2121532021,
   2121532533, 2121533045, 2121533557, 2121534069, 2121534581, 2121535093, 2121535605, 2121536117, 2121536629,
   2121537141, 2121537653, 2121538165, 2121538677, 2121539189, 2121539701, 2121540213, 2121540725, 2121541237,
   2121541749, 2121542261, 2121542773, 2121543285, 2121543797, 2121544309, 2121544821, 2121545333, 2121545845,
   2121546357, 2121546869, 2121547381, 2121547893, 2121548405, 2121548917, 2121549429, 2121549941, 2121550453,
   2121550965, 2121551477, 2121551989, 2121552501, 2121553013, 2121553525, 2121554037, 2121554549, 2121555061,
   2121555573, 2121556085, 2121556597, 2121557109, 2121557621, 2121558133, 2121558645, 2121559157, 2121559669,
   2121560181, 2121560693, 2121561205, 2121561717, 2121562229, 2121562741, 2121563253, 2121563765, 2121564277,
   2121564789, 2121565301, 2121565813, 2121566325, 2121566837, 2121567349, 2121567861, 2121568373, 2121568885,
   2121569397, 2121569909, 2121570421, 2121570933, 2121571445, 2121571957, 2121572469, 2121572981, 2121573493,
   2121574005, 2121574517, 2121575029, 2121575541, 2121576053, 2121576565, 2121577077, 2121577589, 2121578101,
   2121578613, 2121579125, 2121579637, 2121580149, 2121580661, 2121581173, 2121581685, 2121582197, 2121582709,
   2121583221, 2121583733, 2121584245, 2121584757, 2121585269, 2121585781, 2121586293, 2121586805, 2121587317,
   2121587829, 2121588341, 2121588853, 2121589365, 2121589877, 2121590389, 2121590901, 2121591413, 2121591925,
   2121592437, 2121592949, 2121593461, 2121593973, 2121594485, 2121594997, 2121595509, 2121596021, 2121596533,
   2121597046, 2121597558, 2121598070, 2121598582, 2121599094, 2121599606, 2121600118, 2121600630, 2121601142,
   2121601654, 2121602166, 2121602678, 2121603190, 2121603702, 2121604214, 2121604726, 2121605238, 2121605750,
   2121606262, 2121606774, 2121607286, 2121607798, 2121608310, 2121608822, 2121609334, 2121609846, 2121610358,
   2121610870, 2121611382, 2121611894, 2121612406, 2121612918, 2121613430, 2121613942, 2121614454, 2121614966,
   2121615478, 2121615990, 2121616502, 2121617014, 2121617526, 2121618038, 2121618550, 2121619062, 2121619574,
   2121620086, 2121620598, 2121621110, 2121621622, 2121622134, 2121622646, 2121623158, 2121623670, 2121624182,
   2121624694, 2121625206, 2121625718, 2121626230, 2121626742, 2121627254, 2121627766, 2121628278, 2121628790,
   2121629302, 2121629814, 2121630326, 2121630838, 2121631350, 2121631862, 2121632374, 2121632886, 2121633398,
   2121633910, 2121634422, 2121634934, 2121635446, 2121635958, 2121636470, 2121636982, 2121637494, 2121638006,
   2121638518, 2121639030, 2121639542, 2121640054, 2121640566, 2121641078, 2121641590, 2121642102, 2121642614,
   2121643126, 2121643638, 2121644150, 2121644662, 2121645174, 2121645686, 2121646198, 2121646710, 2121647222,
   2121647734, 2121648246, 2121648758, 2121649270, 2121649782, 2121650294, 2121650806, 2121651318, 2121651830,
   2121652342, 2121652854, 2121653366, 2121653878, 2121654390, 2121654902, 2121655414, 2121655926, 2121656438,
   2121656950, 2121657462, 2121657974, 2121658486, 2121658998, 2121659510, 2121660022, 2121660534, 2121661046,
   2121661558, 2121662070, 2121662583, 2121663095, 2121663607, 2121664119, 2121664631, 2121665143, 2121665655,
   2121666167, 2121666679, 2121667191, 2121667703, 2121668215, 2121668727, 2121669239, 2121669751, 2121670263,
   2121670775, 2121671287, 2121671799, 2121672311, 2121672823, 2121673335, 2121673847, 2121674359, 2121674871,
   2121675383, 2121675895, 2121676407, 2121676919, 2121677431, 2121677943, 2121678455, 2121678967, 2121679479,
   2121679991, 2121680503, 2121681015, 2121681527, 2121682039, 2121682551, 2121683063, 2121683575, 2121684087,
   2121684599, 2121685111, 2121685623, 2121686135, 2121686647, 2121687159, 2121687671, 2121688183, 2121688695,
   2121689207, 2121689719, 2121690231, 2121690743, 2121691255, 2121691767, 2121692279, 2121692791, 2121693303,
   2121693815, 2121694327, 2121694839, 2121695351, 2121695863, 2121696375, 2121696887, 2121697399, 2121697911,
   2121698423, 2121698935, 2121699447, 2121699959, 2121700471, 2121700983, 2121701495, 2121702007, 2121702519,
   2121703031, 2121703543, 2121704055, 2121704567, 2121705079, 2121705591, 2121706103, 2121706615, 2121707127,
   2121707639, 2121708151, 2121708663, 2121709175, 2121709687, 2121710199, 2121710711, 2121711223, 2121711735,
   2121712247, 2121712759, 2121713271, 2121713783, 2121714295, 2121714807, 2121715319, 2121715831, 2121716343,
   2121716855, 2121717367, 2121717879, 2121718391, 2121718903, 2121719415, 2121719927, 2121720439, 2121720951,
   2121721463, 2121721975, 2121722487, 2121722999, 2121723511, 2121724023, 2121724535, 2121725047, 2121725559,
   2121726071, 2121726583, 2121727095, 2121727607, 2121728120, 2121728632, 2121729144, 2121729656, 2121730168,
   2121730680, 2121731192, 2121731704, 2121732216, 2121732728, 2121733240, 2121733752, 2121734264, 2121734776,
   2121735288, 2121735800, 2121736312, 2121736824, 2121737336, 2121737848, 2121738360, 2121738872, 2121739384,
   2121739896, 2121740408, 2121740920, 2121741432, 2121741944, 2121742456, 2121742968, 2121743480, 2121743992,
   2121744504, 2121745016, 2121745528, 2121746040, 2121746552, 2121747064, 2121747576, 2121748088, 2121748600,
   2121749112, 2121749624, 2121750136, 2121750648, 2121751160, 2121751672, 2121752184, 2121752696, 2121753208,
   2121753720, 2121754232, 2121754744, 2121755256, 2121755768, 2121756280, 2121756792, 2121757304, 2121757816,
   2121758328, 2121758840, 2121759352, 2121759864, 2121760376, 2121760888, 2121761400, 2121761912, 2121762424,
   2121762936, 2121763448, 2121763960, 2121764472, 2121764984, 2121765496, 2121766008, 2121766520, 2121767032,
   2121767544, 2121768056, 2121768568, 2121769080, 2121769592, 2121770104, 2121770616, 2121771128, 2121771640,
   2121772152, 2121772664, 2121773176, 2121773688, 2121774200, 2121774712, 2121775224, 2121775736, 2121776248,
   2121776760, 2121777272, 2121777784, 2121778296, 2121778808, 2121779320, 2121779832, 2121780344, 2121780856,
   2121781368, 2121781880, 2121782392, 2121782904, 2121783416, 2121783928, 2121784440, 2121784952, 2121785464,
   2121785976, 2121786488, 2121787000, 2121787512, 2121788024, 2121788536, 2121789048, 2121789560, 2121790072,
   2121790584, 2121791096, 2121791608, 2121792120, 2121792632, 2121793144, 2121793657, 2121794169, 2121794681,
   2121795193, 2121795705, 2121796217, 2121796729, 2121797241, 2121797753, 2121798265, 2121798777, 2121799289,
   2121799801, 2121800313, 2121800825, 2121801337, 2121801849, 2121802361, 2121802873, 2121803385, 2121803897,
   2121804409, 2121804921, 2121805433, 2121805945, 2121806457, 2121806969, 2121807481, 2121807993, 2121808505,
   2121809017, 2121809529, 2121810041, 2121810553, 2121811065, 2121811577, 2121812089, 2121812601, 2121813113,
   2121813625, 2121814137, 2121814649, 2121815161, 2121815673, 2121816185, 2121816697, 2121817209, 2121817721,
   2121818233, 2121818745, 2121819257, 2121819769, 2121820281, 2121820793, 2121821305, 2121821817, 2121822329,
   2121822841, 2121823353, 2121823865, 2121824377, 2121824889, 2121825401, 2121825913, 2121826425, 2121826937,
   2121827449, 2121827961, 2121828473, 2121828985, 2121829497, 2121830009, 2121830521, 2121831033, 2121831545,
   2121832057, 2121832569, 2121833081, 2121833593, 2121834105, 2121834617, 2121835129, 2121835641, 2121836153,
   2121836665, 2121837177, 2121837689, 2121838201, 2121838713, 2121839225, 2121839737, 2121840249, 2121840761,
   2121841273, 2121841785, 2121842297, 2121842809, 2121843321, 2121843833, 2121844345, 2121844857, 2121845369,
   2121845881, 2121846393, 2121846905, 2121847417, 2121847929, 2121848441, 2121848953, 2121849465, 2121849977,
   2121850489, 2121851001, 2121851513, 2121852025, 2121852537, 2121853049, 2121853561, 2121854073, 2121854585,
   2121855097, 2121855609, 2121856121, 2121856633, 2121857145, 2121857657, 2121858169, 2121858681, 2121859194,
   2121859706, 2121860218, 2121860730, 2121861242, 2121861754, 2121862266, 2121862778, 2121863290, 2121863802,
   2121864314, 2121864826, 2121865338, 2121865850, 2121866362, 2121866874, 2121867386, 2121867898, 2121868410,
   2121868922, 2121869434, 2121869946, 2121870458, 2121870970, 2121871482, 2121871994, 2121872506, 2121873018,
   2121873530, 2121874042, 2121874554, 2121875066, 2121875578, 2121876090, 2121876602, 2121877114, 2121877626,
   2121878138, 2121878650, 2121879162, 2121879674, 2121880186, 2121880698, 2121881210, 2121881722, 2121882234,
   2121882746, 2121883258, 2121883770, 2121884282, 2121884794, 2121885306, 2121885818, 2121886330, 2121886842,
   2121887354, 2121887866, 2121888378, 2121888890, 2121889402, 2121889914, 2121890426, 2121890938, 2121891450,
   2121891962, 2121892474, 2121892986, 2121893498, 2121894010, 2121894522, 2121895034, 2121895546, 2121896058,
   2121896570, 2121897082, 2121897594, 2121898106, 2121898618, 2121899130, 2121899642, 2121900154, 2121900666,
   2121901178, 2121901690, 2121902202, 2121902714, 2121903226, 2121903738, 2121904250, 2121904762, 2121905274,
   2121905786, 2121906298, 2121906810, 2121907322, 2121907834, 2121908346, 2121908858, 2121909370, 2121909882,
   2121910394, 2121910906, 2121911418, 2121911930, 2121912442, 2121912954, 2121913466, 2121913978, 2121914490,
   2121915002, 2121915514, 2121916026, 2121916538, 2121917050, 2121917562, 2121918074, 2121918586, 2121919098,
   2121919610, 2121920122, 2121920634, 2121921146, 2121921658, 2121922170, 2121922682, 2121923194, 2121923706,
   2121924218, 2121924731, 2121925243, 2121925755, 2121926267, 2121926779, 2121927291, 2121927803, 2121928315,
   2121928827, 2121929339, 2121929851, 2121930363, 2121930875, 2121931387, 2121931899, 2121932411, 2121932923,
   2121933435, 2121933947, 2121934459, 2121934971, 2121935483, 2121935995, 2121936507, 2121937019, 2121937531,
   2121938043, 2121938555, 2121939067, 2121939579, 2121940091, 2121940603, 2121941115, 2121941627, 2121942139,
   2121942651, 2121943163, 2121943675, 2121944187, 2121944699, 2121945211, 2121945723, 2121946235, 2121946747,
   2121947259, 2121947771, 2121948283, 2121948795, 2121949307, 2121949819, 2121950331, 2121950843, 2121951355,
   2121951867, 2121952379, 2121952891, 2121953403, 2121953915, 2121954427, 2121954939, 2121955451, 2121955963,
   2121956475, 2121956987, 2121957499, 2121958011, 2121958523, 2121959035, 2121959547, 2121960059, 2121960571,
   2121961083, 2121961595, 2121962107, 2121962619, 2121963131, 2121963643, 2121964155, 2121964667, 2121965179,
   2121965691, 2121966203, 2121966715, 2121967227, 2121967739, 2121968251, 2121968763, 2121969275, 2121969787,
   2121970299, 2121970811, 2121971323, 2121971835, 2121972347, 2121972859, 2121973371, 2121973883, 2121974395,
   2121974907, 2121975419, 2121975931, 2121976443, 2121976955, 2121977467, 2121977979, 2121978491, 2121979003,
   2121979515, 2121980027, 2121980539, 2121981051, 2121981563, 2121982075, 2121982587, 2121983099, 2121983611,
   2121984123, 2121984635, 2121985147, 2121985659, 2121986171, 2121986683, 2121987195, 2121987707, 2121988219,
   2121988731, 2121989243, 2121989755, 2121990268, 2121990780, 2121991292, 2121991804, 2121992316, 2121992828,
   2121993340, 2121993852, 2121994364, 2121994876, 2121995388, 2121995900, 2121996412, 2121996924, 2121997436,
   2121997948, 2121998460, 2121998972, 2121999484, 2121999996, 2122000508, 2122001020, 2122001532, 2122002044,
   2122002556, 2122003068, 2122003580, 2122004092, 2122004604, 2122005116, 2122005628, 2122006140, 2122006652,
   2122007164, 2122007676, 2122008188, 2122008700, 2122009212, 2122009724, 2122010236, 2122010748, 2122011260,
   2122011772, 2122012284, 2122012796, 2122013308, 2122013820, 2122014332, 2122014844, 2122015356, 2122015868,
   2122016380, 2122016892, 2122017404, 2122017916, 2122018428, 2122018940, 2122019452, 2122019964, 2122020476,
   2122020988, 2122021500, 2122022012, 2122022524, 2122023036, 2122023548, 2122024060, 2122024572, 2122025084,
   2122025596, 2122026108, 2122026620, 2122027132, 2122027644, 2122028156, 2122028668, 2122029180, 2122029692,
   2122030204, 2122030716, 2122031228, 2122031740, 2122032252, 2122032764, 2122033276, 2122033788, 2122034300,
   2122034812, 2122035324, 2122035836, 2122036348, 2122036860, 2122037372, 2122037884, 2122038396, 2122038908,
   2122039420, 2122039932, 2122040444, 2122040956, 2122041468, 2122041980, 2122042492, 2122043004, 2122043516,
   2122044028, 2122044540, 2122045052, 2122045564, 2122046076, 2122046588, 2122047100, 2122047612, 2122048124,
   2122048636, 2122049148, 2122049660, 2122050172, 2122050684, 2122051196, 2122051708, 2122052220, 2122052732,
   2122053244, 2122053756, 2122054268, 2122054780, 2122055292, 2122055805, 2122056317, 2122056829, 2122057341,
   2122057853, 2122058365, 2122058877, 2122059389, 2122059901, 2122060413, 2122060925, 2122061437, 2122061949,
   2122062461, 2122062973, 2122063485, 2122063997, 2122064509, 2122065021, 2122065533, 2122066045, 2122066557,
   2122067069, 2122067581, 2122068093, 2122068605, 2122069117, 2122069629, 2122070141, 2122070653, 2122071165,
   2122071677, 2122072189, 2122072701, 2122073213, 2122073725, 2122074237, 2122074749, 2122075261, 2122075773,
   2122076285, 2122076797, 2122077309, 2122077821, 2122078333, 2122078845, 2122079357, 2122079869, 2122080381,
   2122080893, 2122081405, 2122081917, 2122082429, 2122082941, 2122083453, 2122083965, 2122084477, 2122084989,
   2122085501, 2122086013, 2122086525, 2122087037, 2122087549, 2122088061, 2122088573, 2122089085, 2122089597,
   2122090109, 2122090621, 2122091133, 2122091645, 2122092157, 2122092669, 2122093181, 2122093693, 2122094205,
   2122094717, 2122095229, 2122095741, 2122096253, 2122096765, 2122097277, 2122097789, 2122098301, 2122098813,
   2122099325, 2122099837, 2122100349, 2122100861, 2122101373, 2122101885, 2122102397, 2122102909, 2122103421,
   2122103933, 2122104445, 2122104957, 2122105469, 2122105981, 2122106493, 2122107005, 2122107517, 2122108029,
   2122108541, 2122109053, 2122109565, 2122110077, 2122110589, 2122111101, 2122111613, 2122112125, 2122112637,
   2122113149, 2122113661, 2122114173, 2122114685, 2122115197, 2122115709, 2122116221, 2122116733, 2122117245,
   2122117757, 2122118269, 2122118781, 2122119293, 2122119805, 2122120317, 2122120829, 2122121342, 2122121854,
   2122122366, 2122122878, 2122123390, 2122123902, 2122124414, 2122124926, 2122125438, 2122125950, 2122126462,
   2122126974, 2122127486, 2122127998, 2122128510, 2122129022, 2122129534, 2122130046, 2122130558, 2122131070,
   2122131582, 2122132094, 2122132606, 2122133118, 2122133630, 2122134142, 2122134654, 2122135166, 2122135678,
   2122136190, 2122136702, 2122137214, 2122137726, 2122138238, 2122138750, 2122139262, 2122139774, 2122140286,
   2122140798, 2122141310, 2122141822, 2122142334, 2122142846, 2122143358, 2122143870, 2122144382, 2122144894,
   2122145406, 2122145918, 2122146430, 2122146942, 2122147454, 2122147966, 2122148478, 2122148990, 2122149502,
   2122150014, 2122150526, 2122151038, 2122151550, 2122152062, 2122152574, 2122153086, 2122153598, 2122154110,
   2122154622, 2122155134, 2122155646, 2122156158, 2122156670, 2122157182, 2122157694, 2122158206, 2122158718,
   2122159230, 2122159742, 2122160254, 2122160766, 2122161278, 2122161790, 2122162302, 2122162814, 2122163326,
   2122163838, 2122164350, 2122164862, 2122165374, 2122165886, 2122166398, 2122166910, 2122167422, 2122167934,
   2122168446, 2122168958, 2122169470, 2122169982, 2122170494, 2122171006, 2122171518, 2122172030, 2122172542,
   2122173054, 2122173566, 2122174078, 2122174590, 2122175102, 2122175614, 2122176126, 2122176638, 2122177150,
   2122177662, 2122178174, 2122178686, 2122179198, 2122179710, 2122180222, 2122180734, 2122181246, 2122181758,
   2122182270, 2122182782, 2122183294, 2122183806, 2122184318, 2122184830, 2122185342, 2122185854, 2122186366,
   2122186879, 2122187391, 2122187903, 2122188415, 2122188927, 2122189439, 2122189951, 2122190463, 2122190975,
   2122191487, 2122191999, 2122192511, 2122193023, 2122193535, 2122194047, 2122194559, 2122195071, 2122195583,
   2122196095, 2122196607, 2122197119, 2122197631, 2122198143, 2122198655, 2122199167, 2122199679, 2122200191,
   2122200703, 2122201215, 2122201727, 2122202239, 2122202751, 2122203263, 2122203775, 2122204287, 2122204799,
   2122205311, 2122205823, 2122206335, 2122206847, 2122207359, 2122207871, 2122208383, 2122208895, 2122209407,
   2122209919, 2122210431, 2122210943, 2122211455, 2122211967, 2122212479, 2122212991, 2122213503, 2122214015,
   2122214527, 2122215039, 2122215551, 2122216063, 2122216575, 2122217087, 2122217599, 2122218111, 2122218623,
   2122219135, 2122219647, 2122220159, 2122220671, 2122221183, 2122221695, 2122222207, 2122222719, 2122223231,
   2122223743, 2122224255, 2122224767, 2122225279, 2122225791, 2122226303, 2122226815, 2122227327, 2122227839,
   2122228351, 2122228863, 2122229375, 2122229887, 2122230399, 2122230911, 2122231423, 2122231935, 2122232447,
   2122232959, 2122233471, 2122233983, 2122234495, 2122235007, 2122235519, 2122236031, 2122236543, 2122237055,
   2122237567, 2122238079, 2122238591, 2122239103, 2122239615, 2122240127, 2122240639, 2122241151, 2122241663,
   2122242175, 2122242687, 2122243199, 2122243711, 2122244223, 2122244735, 2122245247, 2122245759, 2122246271,
   2122246783, 2122247295, 2122247807, 2122248319, 2122248831, 2122249343, 2122249855, 2122250367, 2122250879,
   2122251391, 2122251903, 2122252416, 2122252928, 2122253440, 2122253952, 2122254464, 2122254976, 2122255488,
   2122256000, 2122256512, 2122257024, 2122257536, 2122258048, 2122258560, 2122259072, 2122259584, 2122260096,
   2122260608, 2122261120, 2122261632, 2122262144, 2122262656, 2122263168, 2122263680, 2122264192, 2122264704,
   2122265216, 2122265728, 2122266240, 2122266752, 2122267264, 2122267776, 2122268288, 2122268800, 2122269312,
   2122269824, 2122270336, 2122270848, 2122271360, 2122271872, 2122272384, 2122272896, 2122273408, 2122273920,
   2122274432, 2122274944, 2122275456, 2122275968, 2122276480, 2122276992, 2122277504, 2122278016, 2122278528,
   2122279040, 2122279552, 2122280064, 2122280576, 2122281088, 2122281600, 2122282112, 2122282624, 2122283136,
   2122283648, 2122284160, 2122284672, 2122285184, 2122285696, 2122286208, 2122286720, 2122287232, 2122287744,
   2122288256, 2122288768, 2122289280, 2122289792, 2122290304, 2122290816, 2122291328, 2122291840, 2122292352,
   2122292864, 2122293376, 2122293888, 2122294400, 2122294912, 2122295424, 2122295936, 2122296448, 2122296960,
   2122297472, 2122297984, 2122298496, 2122299008, 2122299520, 2122300032, 2122300544, 2122301056, 2122301568,
   2122302080, 2122302592, 2122303104, 2122303616, 2122304128, 2122304640, 2122305152, 2122305664, 2122306176,
   2122306688, 2122307200, 2122307712, 2122308224, 2122308736, 2122309248, 2122309760, 2122310272, 2122310784,
   2122311296, 2122311808, 2122312320, 2122312832, 2122313344, 2122313856, 2122314368, 2122314880, 2122315392,
   2122315904, 2122316416, 2122316928, 2122317440, 2122317953]
theorem c23_ok :
    chkList (pipeF 1199570688 65535) 65535 2139095040 47105 1060634681 23553 c23
      49153 1061158977 24577 = true := by decide +kernel
theorem c23_len : 47105 + c23.length = 49153 := (chkList_end c23_ok).1
theorem c23_last : lastS 1060634681 c23 = 1061158977 := (chkList_end c23_ok).2.1

end Dds.F32Thr.FpN16
