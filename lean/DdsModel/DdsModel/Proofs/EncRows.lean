/- Helper lemmas about the data-flow model of the encoders, `EncRows.lean` (C14). -/
import DdsModel.EncRows
import DdsModel.Proofs.Split
import DdsModel.Proofs.EncLen
namespace Dds
namespace EncRows

variable {α β σ ρ : Type}


theorem chunks_flatMap_flatMap {k : Nat} (hk : 0 < k) (r : ρ → List β) (l : List ρ) :
    (chunks k l).flatMap (fun g => g.flatMap r) = l.flatMap r := by
  rw [← List.flatMap_assoc (f := fun g => g), chunks_flatten hk]

theorem chunks_short {k : Nat} {l : List ρ} (hl : l ≠ []) (hk : l.length ≤ k) :
    chunks k l = [l] := by
  have hpos : 0 < l.length := List.length_pos_iff.mpr hl
  rw [chunks_cons (by omega) hl, List.take_of_length_le hk, List.drop_eq_nil_of_le hk, chunks_nil]

theorem chunks_mem {k : Nat} (hk : 0 < k) (l : List ρ) :
    ∀ c ∈ chunks k l, c ≠ [] ∧ c.length ≤ k ∧ ∀ x ∈ c, x ∈ l := by
  induction l using chunks_induction hk with
  | nil => rw [chunks_nil]; exact fun _ hc => nomatch hc
  | cons l hne ih =>
    rw [chunks_cons hk hne]
    intro c hc
    rcases List.mem_cons.mp hc with rfl | h
    · have := List.length_pos_iff.2 hne
      exact ⟨List.ne_nil_of_length_pos (by rw [List.length_take]; omega), List.length_take_le k l,
        fun x hx => List.mem_of_mem_take hx⟩
    · obtain ⟨h1, h2, h3⟩ := ih c h
      exact ⟨h1, h2, fun x hx => List.mem_of_mem_drop (h3 x hx)⟩

/-- the chunk lengths are those of `chunkLens` of `EncLen.lean` (`slice.chunks(n)`) -/
theorem chunks_lengths {k : Nat} (hk : 0 < k) (l : List ρ) :
    ∀ fuel, l.length ≤ fuel → (chunks k l).map List.length = chunkLens k fuel l.length := by
  intro fuel
  induction fuel generalizing l with
  | zero =>
    intro h
    rw [List.eq_nil_of_length_eq_zero (by omega : l.length = 0), chunks_nil]
    rfl
  | succ fuel ih =>
    intro h
    unfold chunkLens
    by_cases hne : l = []
    · subst hne; rw [chunks_nil]; rfl
    · have hpos : 0 < l.length := List.length_pos_iff.mpr hne
      rw [chunks_cons hk hne, if_neg (by omega), List.map_cons, List.length_take,
        ih (l.drop k) (by rw [List.length_drop]; omega), List.length_drop]
      congr 2
      omega

theorem chunks_full {k : Nat} (hk : 0 < k) (m : Nat) (l : List ρ) (hl : l.length = m * k) :
    ∀ c ∈ chunks k l, c.length = k := by
  intro c hc
  have := List.mem_map_of_mem (f := List.length) hc
  rw [chunks_lengths hk l _ (Nat.le_refl _), chunkLens_eq k hk _ _ (Nat.le_refl _), hl, Nat.mul_mod_left,
    if_pos rfl, List.append_nil] at this
  exact List.eq_of_mem_replicate this


/-- If `enc (a ++ b) = enc a ++ enc b` whenever `g` divides the length of `a`, then encoding fragments whose
heights (all but the last) are multiples of `g` one by one gives the encoding of the whole. -/
theorem fragments_of_additive {g : Nat} (enc : List ρ → List β)
    (happ : ∀ a b, g ∣ a.length → enc (a ++ b) = enc a ++ enc b) :
    ∀ frags : List (List ρ), (∀ f ∈ frags.dropLast, g ∣ f.length) →
      (frags.map enc).flatten = enc frags.flatten := by
  intro frags
  induction frags with
  | nil =>
    -- `enc [] = enc [] ++ enc []`
    exact fun _ => (List.self_eq_append_right.1 (happ [] [] (Nat.dvd_zero g))).symm
  | cons f rest ih =>
    intro h
    cases rest with
    | nil => simp
    | cons f' rest' =>
      rw [List.dropLast_cons_cons] at h
      rw [List.map_cons, List.flatten_cons, List.flatten_cons, ih fun x hx => h x (List.mem_cons_of_mem _ hx),
        happ f _ (h f List.mem_cons_self)]

/-- **fragments of a row-group-local encoder**: if `enc` is the concatenation of `eg` over the
chunks of `g` rows and every fragment but the last has a height that is a multiple of `g`, then
encoding the fragments one by one gives the encoding of the whole. -/
theorem fragments_of_groupLocal {g : Nat} (hg : 0 < g) (enc eg : List ρ → List β)
    (hloc : ∀ img, enc img = (chunks g img).flatMap eg) :
    ∀ frags : List (List ρ), (∀ f ∈ frags.dropLast, g ∣ f.length) →
      (frags.map enc).flatten = enc frags.flatten :=
  fragments_of_additive enc fun a b ⟨m, hm⟩ => by
    rw [hloc, hloc, hloc, chunks_append hg m a b (by rw [hm, Nat.mul_comm]), List.flatMap_append]

/-- the same with a row index: `enc y0 rows` may depend on the index `y0` of the first row, as long
as it is additive over concatenation and periodic in `y0` with period `P`; then the fragment heights
(all but the last) have to be multiples of `P`. -/
theorem fragments_of_periodic {P : Nat} (enc : Nat → List ρ → List β)
    (happ : ∀ y a b, enc y (a ++ b) = enc y a ++ enc (y + a.length) b)
    (hper : ∀ y l, enc (y + P) l = enc y l) :
    ∀ frags : List (List ρ), (∀ f ∈ frags.dropLast, P ∣ f.length) →
      (frags.map (enc 0)).flatten = enc 0 frags.flatten := by
  have hmul : ∀ k l, enc (P * k) l = enc 0 l := by
    intro k
    induction k with
    | zero => exact fun l => rfl
    | succ k ih => exact fun l => by rw [Nat.mul_succ, hper, ih]
  exact fragments_of_additive (enc 0) fun a b ⟨m, hm⟩ => by rw [happ, Nat.zero_add, hm, hmul]

/-- an encoder that works row by row is row-group local for every group height … -/
theorem rowwise_groupLocal {enc : List ρ → List β} {r : ρ → List β} (h : ∀ img, enc img = img.flatMap r)
    {sh : Nat} (hsh : 0 < sh) : ∃ eg : List ρ → List β, ∀ img, enc img = (chunks sh img).flatMap eg :=
  ⟨fun g => g.flatMap r, fun img => by rw [h, chunks_flatMap_flatMap hsh]⟩

/-- … and fragment-wise = whole for every fragmentation, even when the fragments go through another
encoder with the same per-row function -/
theorem rowwise_fragments {enc enc' : List ρ → List β} {r : ρ → List β} (h : ∀ img, enc img = img.flatMap r)
    (h' : ∀ img, enc' img = img.flatMap r) (frags : List (List ρ)) :
    (frags.map enc').flatten = enc frags.flatten := by
  rw [List.map_congr_left fun f _ => h' f, h, map_flatMap_flatten]


theorem encPixels_append (encPx : α → List β) (a b : List α) :
    encPixels encPx (a ++ b) = encPixels encPx a ++ encPixels encPx b :=
  List.flatMap_append

theorem contigWrites_flatten (encPx : α → List β) {bufPx : Nat} (hb : 0 < bufPx)
    (img : List (List α)) :
    (contigWrites encPx bufPx img).flatten = encPixels encPx img.flatten := by
  unfold contigWrites
  rw [← List.flatMap_def]
  exact chunks_flatMap_flatMap hb encPx img.flatten

/-- the inner loop neither loses nor reorders pixels: flushed buffers followed by the buffer left
= old buffer followed by the encoded row; the fill stays within the buffer and is positive whenever
the buffer holds data. -/
theorem fillRowD_spec (encPx : α → List β) {bufPx : Nat} (hb : 0 < bufPx) :
    ∀ (fuel : Nat) (row : List α) (fill : Nat) (buf : List β),
      row.length < fuel → fill ≤ bufPx → (fill = 0 → buf = []) →
      let r := fillRowD encPx bufPx fuel row fill buf
      r.1.flatten ++ r.2.2 = buf ++ encPixels encPx row ∧ r.2.1 ≤ bufPx ∧
        (r.2.1 = 0 → r.2.2 = []) := by
  intro fuel row fill buf
  fun_induction fillRowD encPx bufPx fuel row fill buf with
  | case1 => omega
  | case2 => exact fun _ hfill hinv => ⟨(List.append_nil _).symm, hfill, hinv⟩
  | case3 fuel row buf hr w r ih =>
    intro hlen _ _
    have hpos := List.length_pos_iff.2 hr
    obtain ⟨h1, h2⟩ := ih (by rw [List.length_drop]; omega) (by omega) (by omega)
    refine ⟨?_, h2⟩
    show buf ++ r.1.flatten ++ r.2.2 = _
    rw [List.append_assoc, h1, ← encPixels_append, List.take_append_drop]
  | case4 fuel row fill buf hr hf w ih =>
    intro hlen hfill _
    have hpos := List.length_pos_iff.2 hr
    obtain ⟨h1, h2⟩ := ih (by rw [List.length_drop]; omega) (by omega) (by omega)
    exact ⟨by rw [h1, List.append_assoc, ← encPixels_append, List.take_append_drop], h2⟩

theorem rowsWritesAux_flatten (encPx : α → List β) {bufPx : Nat} (hb : 0 < bufPx) :
    ∀ (img : List (List α)) (fill : Nat) (buf : List β), fill ≤ bufPx → (fill = 0 → buf = []) →
      (rowsWritesAux encPx bufPx img fill buf).flatten = buf ++ encPixels encPx img.flatten := by
  intro img
  induction img with
  | nil =>
    intro fill buf _ hinv
    unfold rowsWritesAux
    split
    · rfl
    · rw [hinv (by omega)]; rfl
  | cons row rest ih =>
    intro fill buf hfill hinv
    unfold rowsWritesAux
    obtain ⟨h1, h2, h3⟩ := fillRowD_spec encPx hb (row.length + 1) row fill buf (by omega) hfill hinv
    rw [List.flatten_append, ih _ _ h2 h3, ← List.append_assoc, h1, List.flatten_cons, encPixels_append,
      List.append_assoc]

/-- **chunk boundaries do not matter**: whatever the path and the buffer size, the bytes are the
per-pixel encodings in row-major order -/
theorem encUncompressed_eq (p : Path) (encPx : α → List β) {bufPx : Nat} (hb : 0 < bufPx)
    (img : List (List α)) :
    encUncompressed p encPx bufPx img = img.flatMap (encPixels encPx) := by
  have e : img.flatMap (encPixels encPx) = encPixels encPx img.flatten := by
    unfold encPixels
    rw [List.flatten_eq_flatMap, List.flatMap_assoc]
    rfl
  rw [e]
  cases p with
  | contiguous => exact contigWrites_flatten encPx hb img
  | rowWise => exact rowsWritesAux_flatten encPx hb img 0 [] (Nat.zero_le _) fun _ => rfl
  | direct => rfl

/-! ### the write sizes are those of `EncLen.lean` (C10) -/

theorem encPixels_length (encPx : α → List β) {encBpp : Nat} (hl : ∀ x, (encPx x).length = encBpp)
    (l : List α) : (encPixels encPx l).length = l.length * encBpp := by
  unfold encPixels
  induction l with
  | nil => simp
  | cons a t ih => rw [List.flatMap_cons, List.length_append, ih, hl, List.length_cons,
      Nat.succ_mul, Nat.add_comm]

theorem contigWrites_lengths (encPx : α → List β) {encBpp bufPx : Nat}
    (hl : ∀ x, (encPx x).length = encBpp) (hb : 0 < bufPx) (img : List (List α)) :
    (contigWrites encPx bufPx img).map List.length =
      chunksContig img.flatten.length bufPx encBpp := by
  unfold contigWrites chunksContig
  rw [← chunks_lengths hb img.flatten _ (Nat.le_refl _), List.map_map, List.map_map]
  exact List.map_congr_left fun c _ => encPixels_length encPx hl c

/-- the pixel counts of the row-wise path are those of `fillRow` of `EncLen.lean` -/
theorem fillRowD_flush_lengths (encPx : α → List β) (bufPx : Nat) :
    ∀ (fuel : Nat) (row : List α) (fill : Nat) (buf : List β),
      (fillRowD encPx bufPx fuel row fill buf).1.length = (fillRow bufPx fuel row.length fill).1.length ∧
      (fillRowD encPx bufPx fuel row fill buf).2.1 = (fillRow bufPx fuel row.length fill).2 := by
  intro fuel row fill buf
  fun_induction fillRowD encPx bufPx fuel row fill buf with
  | case1 => exact ⟨rfl, rfl⟩
  | case2 => exact ⟨rfl, rfl⟩
  | case3 fuel row buf hr w r ih =>
    rw [fillRow_full _ _ (mt List.eq_nil_of_length_eq_zero hr), ← List.length_drop]
    exact ⟨congrArg (· + 1) ih.1, ih.2⟩
  | case4 fuel row fill buf hr hf w ih =>
    rw [fillRow_room _ _ (mt List.eq_nil_of_length_eq_zero hr) hf, ← List.length_drop]
    exact ih

/-- … and so are the sizes of the flushed buffers and of the buffer left, `encBpp` bytes per pixel -/
theorem fillRowD_lengths (encPx : α → List β) {encBpp : Nat} (hl : ∀ x, (encPx x).length = encBpp)
    (bufPx : Nat) :
    ∀ (fuel : Nat) (row : List α) (fill : Nat) (buf : List β), buf.length = fill * encBpp →
      (fillRowD encPx bufPx fuel row fill buf).1.map List.length =
        (fillRow bufPx fuel row.length fill).1.map (· * encBpp) ∧
      (fillRowD encPx bufPx fuel row fill buf).2.2.length =
        (fillRow bufPx fuel row.length fill).2 * encBpp := by
  intro fuel row fill buf
  fun_induction fillRowD encPx bufPx fuel row fill buf with
  | case1 => exact fun hbuf => ⟨rfl, hbuf⟩
  | case2 => exact fun hbuf => ⟨rfl, hbuf⟩
  | case3 fuel row buf hr w r ih =>
    intro hbuf
    rw [fillRow_full _ _ (mt List.eq_nil_of_length_eq_zero hr), ← List.length_drop]
    obtain ⟨h1, h2⟩ := ih (by rw [encPixels_length encPx hl, List.length_take]; congr 1; omega)
    exact ⟨by rw [List.map_cons, List.map_cons, hbuf, h1], h2⟩
  | case4 fuel row fill buf hr hf w ih =>
    intro hbuf
    rw [fillRow_room _ _ (mt List.eq_nil_of_length_eq_zero hr) hf, ← List.length_drop]
    exact ih (by rw [List.length_append, encPixels_length encPx hl, List.length_take, hbuf, Nat.add_mul]
                 congr 2; omega)

theorem rowsWritesAux_lengths (encPx : α → List β) {encBpp bufPx w : Nat}
    (hl : ∀ x, (encPx x).length = encBpp) (hb : 1 ≤ bufPx) :
    ∀ (img : List (List α)) (fill : Nat) (buf : List β), (∀ r ∈ img, r.length = w) →
      buf.length = fill * encBpp → fill ≤ bufPx →
      (rowsWritesAux encPx bufPx img fill buf).map List.length =
        (chunksRowsAux bufPx w img.length fill).map (· * encBpp) := by
  intro img
  induction img with
  | nil =>
    intro fill buf _ hbuf _
    by_cases h0 : fill > 0 <;> simp [rowsWritesAux, chunksRowsAux, h0, hbuf]
  | cons row rest ih =>
    intro fill buf hu hbuf hfill
    have hrw : row.length = w := hu row List.mem_cons_self
    rw [List.length_cons]
    unfold rowsWritesAux chunksRowsAux
    obtain ⟨h1, h3⟩ := fillRowD_lengths encPx hl bufPx (row.length + 1) row fill buf hbuf
    have h2 := (fillRowD_flush_lengths encPx bufPx (row.length + 1) row fill buf).2
    have hle := (fillRow_sum bufPx hb (row.length + 1) row.length fill (by omega) hfill).2
    rw [List.map_append, List.map_append, h1,
      ih _ _ (fun r hr => hu r (List.mem_cons_of_mem _ hr)) (by rw [h3, h2]) (by rw [h2]; exact hle), h2, hrw]

theorem flatten_length_uniform {w : Nat} (img : List (List α)) (hu : ∀ r ∈ img, r.length = w) :
    img.flatten.length = w * img.length := by
  induction img with
  | nil => rfl
  | cons r t ih =>
    rw [List.flatten_cons, List.length_append, hu r List.mem_cons_self,
      ih (fun x hx => hu x (List.mem_cons_of_mem _ hx)), List.length_cons, Nat.mul_succ, Nat.add_comm]

theorem rowGroupBuffers_length (bh : Nat) (img : List (List α)) :
    (rowGroupBuffers bh img).length = rowGroups img.length bh := by
  unfold rowGroupBuffers rowGroups
  simp only [List.length_append, List.length_map, List.length_range]
  split <;> rfl


theorem padLast_of_length_ge {n : Nat} {l : List α} (h : n ≤ l.length) : padLast n l = l := by
  unfold padLast
  split
  · rw [Nat.sub_eq_zero_of_le h]; exact List.append_nil _
  · rfl

theorem padLast_length {n : Nat} {l : List α} (hne : l ≠ []) (hl : l.length ≤ n) :
    (padLast n l).length = n := by
  unfold padLast
  split
  · rw [List.length_append, List.length_replicate]; omega
  · rename_i hg; exact absurd (List.getLast?_eq_none_iff.mp hg) hne

theorem map_padLast_full {k : Nat} (hk : 0 < k) (m : Nat) (l : List α) (hl : l.length = m * k) :
    (chunks k l).map (padLast k) = chunks k l := by
  conv => rhs; rw [← List.map_id (chunks k l)]
  exact List.map_congr_left fun c hc => padLast_of_length_ge (Nat.le_of_eq (chunks_full hk m l hl c hc).symm)

/-- `process_subsample` = the per-block function over the blocks of the data, last one padded -/
theorem processSubsample_eq {bw : Nat} (hbw : 0 < bw) (f : List α → List β) (data : List α) :
    processSubsample bw f data = (rowBlocks bw data).flatMap f := by
  unfold processSubsample rowBlocks
  dsimp only
  have hfull : data.length / bw * bw ≤ data.length := Nat.div_mul_le_self _ _
  have hlt : data.length - data.length / bw * bw < bw := by
    rw [← Nat.mod_eq_sub_div_mul]; exact Nat.mod_lt _ hbw
  have hdl : (data.drop (data.length / bw * bw)).length = data.length - data.length / bw * bw :=
    List.length_drop
  rw [← chunks_take_append_drop hbw (data.length / bw) data, List.map_append, List.flatMap_append,
    map_padLast_full hbw _ _ (List.length_take_of_le hfull)]
  congr 1
  by_cases hr : data.length - data.length / bw * bw > 0
  · -- the partial block is the one chunk of the rest; its last pixel is the last pixel of `data`
    have hne : data.drop (data.length / bw * bw) ≠ [] := List.ne_nil_of_length_pos (by omega)
    rw [if_pos hr, chunks_short hne (by omega), List.map_singleton, List.flatMap_singleton, padLast,
      List.getLast?_drop, if_neg (by omega), hdl]
    cases hg : data.getLast? with
    | some x => rfl
    | none => rw [List.getLast?_eq_none_iff.mp hg] at hne; exact absurd List.drop_nil hne
  · rw [if_neg hr, List.drop_eq_nil_of_le (by omega), chunks_nil]; rfl

/-- **the chunking of a row does not matter** (the chunk size is a multiple of the block width) -/
theorem subsampleRow_eq {bw chunkPx : Nat} (hbw : 0 < bw) (hc : 0 < chunkPx) (hd : bw ∣ chunkPx)
    (f : List α → List β) (row : List α) :
    subsampleRow bw chunkPx f row = (rowBlocks bw row).flatMap f := by
  obtain ⟨m, rfl⟩ := hd
  have hm : 0 < m := Nat.pos_of_mul_pos_left hc
  unfold subsampleRow
  -- the blocks of the chunks of `m * bw` pixels are the blocks of the row
  rw [flatMap_congr' fun c _ => processSubsample_eq hbw f c, ← List.flatMap_assoc]
  unfold rowBlocks
  rw [← List.map_flatMap, Nat.mul_comm, chunks_flatMap hbw hm]

theorem encSubsampleFrom_append (bw chunkPx : Nat) (f : Nat → List α → List β) :
    ∀ (a b : List (List α)) (y : Nat),
      encSubsampleFrom bw chunkPx f y (a ++ b) =
        encSubsampleFrom bw chunkPx f y a ++ encSubsampleFrom bw chunkPx f (y + a.length) b := by
  intro a
  induction a with
  | nil => exact fun b y => rfl
  | cons r t ih =>
    intro b y
    rw [List.cons_append, encSubsampleFrom, encSubsampleFrom, ih, List.append_assoc, List.length_cons,
      Nat.add_comm t.length, Nat.add_assoc]

theorem encSubsampleFrom_periodic (bw chunkPx : Nat) (f : Nat → List α → List β) {P : Nat}
    (hper : ∀ y, f (y + P) = f y) :
    ∀ (l : List (List α)) (y : Nat),
      encSubsampleFrom bw chunkPx f (y + P) l = encSubsampleFrom bw chunkPx f y l := by
  intro l
  induction l with
  | nil => exact fun y => rfl
  | cons r t ih =>
    intro y
    rw [encSubsampleFrom, encSubsampleFrom, hper y, Nat.add_right_comm, ih]

/-- without a row index: the rows are encoded independently -/
theorem encSubsampleFrom_const (bw chunkPx : Nat) (f : List α → List β) :
    ∀ (l : List (List α)) (y : Nat),
      encSubsampleFrom bw chunkPx (fun _ => f) y l = l.flatMap (subsampleRow bw chunkPx f) := by
  intro l
  induction l with
  | nil => exact fun y => rfl
  | cons r t ih => exact fun y => by rw [encSubsampleFrom, ih, List.flatMap_cons]


theorem padRows_of_length_ge {n : Nat} {g : List (List α)} (h : n ≤ g.length) :
    padRows n g = g := by
  unfold padRows
  split
  · rw [Nat.sub_eq_zero_of_le h]; exact List.append_nil _
  · rfl

theorem padRows_props {bh : Nat} {g : List (List α)} (hne : g ≠ []) (hl : g.length ≤ bh) :
    (padRows bh g).length = bh ∧ ∀ r ∈ padRows bh g, r ∈ g := by
  cases g with
  | nil => exact absurd rfl hne
  | cons r t =>
    refine ⟨?_, fun x hx => ?_⟩
    · show (r :: t ++ List.replicate _ r).length = bh
      rw [List.length_append, List.length_replicate]; omega
    · rcases List.mem_append.mp hx with h | h
      · exact h
      · rw [List.eq_of_mem_replicate h]; exact List.mem_cons_self

/-- `for_each_f32_rgba_rows` hands out the chunks of `bh` rows, the last one padded -/
theorem rowGroupBuffers_eq {bh : Nat} (hbh : 0 < bh) (img : List (List α)) :
    rowGroupBuffers bh img = (chunks bh img).map (padRows bh) := by
  unfold rowGroupBuffers
  dsimp only
  rw [chunks_eq_map hbh, range_divCeil, List.map_append, List.map_append, List.map_map]
  congr 1
  · -- a full group is not padded
    apply List.map_congr_left
    intro i hi
    have := (Nat.le_div_iff_mul_le hbh).1 (Nat.succ_le_of_lt (List.mem_range.1 hi))
    rw [Nat.succ_mul] at this
    exact (padRows_of_length_ge (by rw [List.length_take, List.length_drop]; omega)).symm
  · split
    · have := Nat.mod_lt img.length hbh
      rw [List.map_singleton, List.map_singleton, List.take_of_length_le]
      rw [List.length_drop, ← Nat.mod_eq_sub_div_mul]
      omega
    · rfl

theorem encBlocks_eq {bw bh w : Nat} (hbh : 0 < bh) (encBlock : List α → Nat → List β)
    (img : List (List α)) :
    encBlocks bw bh w encBlock img =
      (chunks bh img).flatMap (fun g => encodeGroup bw bh w encBlock (padRows bh g)) := by
  unfold encBlocks
  rw [rowGroupBuffers_eq hbh, List.flatMap_map]

/-- … hence also the concatenation of a group function over chunks of any multiple of `bh` rows -/
theorem encBlocks_eq_mul {bw bh w k : Nat} (hbh : 0 < bh) (hk : 0 < k)
    (encBlock : List α → Nat → List β) (img : List (List α)) :
    encBlocks bw bh w encBlock img =
      (chunks (k * bh) img).flatMap (fun G => (chunks bh G).flatMap
        (fun g => encodeGroup bw bh w encBlock (padRows bh g))) := by
  rw [encBlocks_eq hbh, ← List.flatMap_assoc, chunks_flatMap hbh hk]

/-- reading a run of every row out of the flat buffer (`rows[o + i * width ..][..n]`) = reading
it out of the rows -/
theorem flat_runs {γ : Type} (φ : List α → List γ) {w o n : Nat} (hon : o + n ≤ w) :
    ∀ buf : List (List α), (∀ r ∈ buf, r.length = w) →
      (List.range buf.length).flatMap (fun i => φ ((buf.flatten.drop (o + i * w)).take n)) =
        buf.flatMap (fun row => φ ((row.drop o).take n)) := by
  intro buf
  induction buf with
  | nil => exact fun _ => rfl
  | cons r t ih =>
    intro hu
    have hr : r.length = w := hu r List.mem_cons_self
    rw [List.length_cons, List.range_succ_eq_map, List.flatMap_cons, List.flatMap_cons, List.flatMap_map,
      ← ih fun x hx => hu x (List.mem_cons_of_mem _ hx), List.flatten_cons]
    congr 1
    · rw [Nat.zero_mul, Nat.add_zero, List.drop_append_of_le_length (by omega),
        List.take_append_of_le_length (by rw [List.length_drop]; omega)]
    · apply flatMap_congr'
      intro i _
      have e : o + (i + 1) * w = r.length + (o + i * w) := by rw [Nat.succ_mul, hr]; omega
      rw [e, List.drop_length_add_append]

/-- a block read out of a flat buffer the way the BCn encoders do (`blockAt`) = the same run of every row -/
theorem blockAt_flatten {bw p o : Nat} (rows : List (List α)) (hu : ∀ r ∈ rows, r.length = p)
    (ho : o + bw ≤ p) :
    blockAt bw rows.length (rows.flatten.drop o) p = rows.flatMap fun r => (r.drop o).take bw := by
  unfold blockAt
  simp only [List.drop_drop]
  exact flat_runs (fun l => l) ho rows hu

/-- … in particular a buffer of rows of `bw` pixels read with pitch `bw` is read back unchanged -/
theorem blockAt_flatten_self {bw : Nat} (rows : List (List α)) (hu : ∀ r ∈ rows, r.length = bw) :
    blockAt bw rows.length rows.flatten bw = rows.flatten := by
  have := blockAt_flatten rows hu (Nat.le_of_eq (Nat.zero_add bw))
  rw [List.drop_zero] at this
  rw [this, List.flatten_eq_flatMap]
  exact flatMap_congr' fun r hr => by rw [List.drop_zero, List.take_of_length_le (Nat.le_of_eq (hu r hr))]; rfl

/-- **what a block encoder sees**: if `encode_block` reads its slice the way the BCn encoders do
(`blockAt`: the `bw × bh` pixels at `data[i * pitch + j]`), the output of a row group is the per-block
function over the blocks of the group, left to right; the blocks at the right edge are padded by
repeating the last pixel of each row. -/
theorem encodeGroup_blockAt {bw bh w : Nat} (hbw : 0 < bw) (g : List α → List β)
    (buf : List (List α)) (hlen : buf.length = bh) (hu : ∀ r ∈ buf, r.length = w) :
    encodeGroup bw bh w (fun data pitch => g (blockAt bw bh data pitch)) buf =
      (groupBlocks bw w buf).flatMap g := by
  subst hlen
  unfold encodeGroup groupBlocks
  dsimp only
  rw [range_divCeil, List.map_append, List.flatMap_append, List.flatMap_map]
  congr 1
  · -- a full block is read straight out of the buffer, and nothing of it is padded
    apply flatMap_congr'
    intro bi hbi
    have hle := (Nat.le_div_iff_mul_le hbw).1 (Nat.succ_le_of_lt (List.mem_range.1 hbi))
    rw [Nat.succ_mul] at hle
    rw [blockAt_flatten buf hu hle]
    congr 1
    apply flatMap_congr'
    intro row hrow
    exact (padLast_of_length_ge (by rw [List.length_take, List.length_drop, hu row hrow]; omega)).symm
  · by_cases hr : w % bw > 0
    · -- the partial block: the rest of every row has `w % bw` pixels, fewer than `bw`
      have hrest : ∀ row ∈ buf, (row.drop (w / bw * bw)).length = w % bw := fun row hrow => by
        rw [List.length_drop, hu row hrow, Nat.mod_eq_sub_div_mul]
      have hlt := Nat.mod_lt w hbw
      -- `block_data` holds these rests, each padded to `bw` pixels …
      have hdata : ((List.range buf.length).flatMap fun i =>
            padLast bw ((buf.flatten.drop (w / bw * bw + i * w)).take (w - w / bw * bw))) =
          (buf.map fun row => padLast bw ((row.drop (w / bw * bw)).take bw)).flatten := by
        rw [flat_runs (padLast bw) (Nat.le_of_eq (Nat.add_sub_cancel' (Nat.div_mul_le_self w bw))) buf hu,
          ← List.flatMap_def]
        exact flatMap_congr' fun row hrow => by
          rw [List.take_of_length_le (by rw [hrest row hrow, ← Nat.mod_eq_sub_div_mul]; omega),
            List.take_of_length_le (by rw [hrest row hrow]; omega)]
      -- … and is read back with pitch `bw`
      rw [if_pos (Nat.ne_of_gt hr), if_pos hr, List.map_singleton, List.flatMap_singleton, hdata,
        ← List.length_map (as := buf), blockAt_flatten_self, ← List.flatMap_def]
      intro r hr'
      obtain ⟨row, hrow, rfl⟩ := List.mem_map.mp hr'
      have := hrest row hrow
      rw [List.take_of_length_le (by omega)]
      exact padLast_length (List.ne_nil_of_length_pos (by omega)) (by omega)
    · rw [if_neg (by omega), if_neg hr]
      rfl

/-- the whole image, when `encode_block` reads its slice as a block: the per-block function over
the blocks of every (padded) row group, groups top to bottom, blocks left to right -/
theorem encBlocks_blockAt {bw bh w : Nat} (hbw : 0 < bw) (hbh : 0 < bh) (g : List α → List β)
    (img : List (List α)) (hu : ∀ r ∈ img, r.length = w) :
    encBlocks bw bh w (fun data pitch => g (blockAt bw bh data pitch)) img =
      (chunks bh img).flatMap (fun grp => (groupBlocks bw w (padRows bh grp)).flatMap g) := by
  rw [encBlocks_eq hbh]
  apply flatMap_congr'
  intro grp hgrp
  obtain ⟨h1, h2, h3⟩ := chunks_mem hbh img grp hgrp
  obtain ⟨p1, p2⟩ := padRows_props h1 h2
  exact encodeGroup_blockAt hbw g _ p1 (fun r hr => hu r (h3 r (p2 r hr)))

/-! ## the split model never splits the stateful families -/

theorem fragmentHeight_none_of_no_split_height (w h : Nat) (s : Support) (d : Dithering)
    (q : Quality) (hs : s.splitHeight = none) :
    (SplitView.new w h (some s) d q).fragmentHeight = none := by
  rw [SplitView.new_fragmentHeight, getFragmentHeight_of_no_splitHeight w h d q hs]

theorem fragmentHeight_none_of_global_dithering (w h : Nat) (s : Support) (d : Dithering)
    (q : Quality) (hl : s.localDithering = false) (hd : d.intersect s.dithering ≠ .none) :
    (SplitView.new w h (some s) d q).fragmentHeight = none := by
  rw [SplitView.new_fragmentHeight]
  cases hsh : s.splitHeight with
  | none => exact getFragmentHeight_of_no_splitHeight w h d q hsh
  | some sh => rw [getFragmentHeight_eq d q hsh, if_pos (Or.inr (Or.inl ⟨hl, hd⟩))]


theorem splitOk_wf {ctor : C19.SetCtor} {px : PixelInfo} {s : Support}
    (h : splitOk ctor px s.splitHeight = true) : s.WF := by
  intro sh hsh
  rw [hsh] at h
  unfold splitOk at h
  cases ctor <;> cases px <;> simp at h <;> omega

theorem splitOk_bc {bytes bw bh : Nat} {sho : Option Nat}
    (h : splitOk .bc (.block bytes bw bh) sho = true) :
    ∀ sh, sho = some sh → 0 < bh ∧ ∃ k, 0 < k ∧ sh = k * bh := by
  intro sh hsh
  subst hsh
  simp [splitOk] at h
  obtain ⟨⟨⟨h0, _⟩, hbh⟩, hmod⟩ := h
  have hsh : sh = sh / bh * bh := by
    have := Nat.div_add_mod sh bh
    rw [hmod, Nat.mul_comm] at this
    omega
  exact ⟨hbh, sh / bh, Nat.pos_of_ne_zero fun hk => by rw [hk] at hsh; omega, hsh⟩

theorem splitOk_biPlanar {p1 p2 sx sy : Nat} {sho : Option Nat}
    (h : splitOk .biPlanar (.biPlanar p1 p2 sx sy) sho = true) : sho = none := by
  cases sho with
  | none => rfl
  | some sh => simp [splitOk] at h

theorem kindOk_stateful {kind : C19.EncKind} {s : Support} {d : Dithering}
    (hk : kind = .fsDither ∨ kind = .bayer) (h : kindOk kind .plain s d = true) :
    s.localDithering = false ∧ d.intersect s.dithering ≠ .none := by
  rcases hk with hk | hk <;> subst hk <;> simpa [kindOk] using h

end EncRows
end Dds
