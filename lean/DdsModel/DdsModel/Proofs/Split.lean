/-
Helper lemmas for `Theorems/C14.lean` (model: `Split.lean`): what `get_fragment_height` computes, the view
`SplitView::new` builds from it, the rows its fragments cover, the indexed collect, and `chunks`.
-/
import DdsModel.Split
import DdsModel.Proofs.DivCeil
import DdsModel.Proofs.ListLemmas
namespace Dds

theorem getPreferred_lt (s : FragSize) (q : Quality) : s.getPreferred q < U64 := by
  cases s with
  | entireImage => exact Nat.sub_lt (by decide) Nat.one_pos
  | fragment f h u =>
    exact Nat.lt_of_le_of_lt (Nat.pow_le_pow_right (by omega) (Nat.min_le_right _ 63)) (by decide)

theorem getFragmentHeight_none (w h : Nat) (dith : Dithering) (q : Quality) :
    getFragmentHeight w h none dith q = none :=
  ite_self _

theorem getFragmentHeight_of_no_splitHeight (w h : Nat) {s : Support} (dith : Dithering) (q : Quality)
    (hs : s.splitHeight = none) : getFragmentHeight w h (some s) dith q = none := by
  unfold getFragmentHeight; simp only [hs]; split <;> rfl

/-- the four early returns as one condition; the `u64` product cannot wrap, being at most `fragment_pixels` -/
theorem getFragmentHeight_eq {w h : Nat} {s : Support} {sh : Nat} (dith : Dithering) (q : Quality)
    (hsh : s.splitHeight = some sh) :
    getFragmentHeight w h (some s) dith q =
      if (w = 0 ∨ h = 0) ∨ (s.localDithering = false ∧ dith.intersect s.dithering ≠ .none) ∨
          w * h ≤ max (s.fragmentSize.getPreferred q) 1 then none
      else (tryU32 (max (s.fragmentSize.getPreferred q) 1 / w / sh * sh)).map
        fun v => if v = 0 then sh else v := by
  have hlt : max (s.fragmentSize.getPreferred q) 1 / w / sh * sh < U64 :=
    Nat.lt_of_le_of_lt (Nat.le_trans (Nat.div_mul_le_self _ _) (Nat.div_le_self _ _))
      (Nat.max_lt.2 ⟨getPreferred_lt _ q, by decide⟩)
  unfold getFragmentHeight
  simp only [hsh, wMul_eq hlt, ite_or, Bool.and_eq_true, Bool.not_eq_eq_eq_not, Bool.not_true,
    decide_eq_true_eq, ge_iff_le]
  cases tryU32 _ <;> rfl

/-- past the size check the rounded quotient is below the image height, so `u32::try_from` succeeds -/
theorem fragment_rows_lt {p w h : Nat} (sh : Nat) (hp : p < w * h) : p / w / sh * sh < h :=
  Nat.lt_of_le_of_lt (Nat.div_mul_le_self _ _) (Nat.div_lt_of_lt_mul hp)

theorem getFragmentHeight_eq_none_iff {w h : Nat} {sup : Option Support} {dith : Dithering} {q : Quality}
    (hh : h < U32) :
    getFragmentHeight w h sup dith q = none ↔
      w = 0 ∨ h = 0 ∨ sup = none ∨ (∃ s, sup = some s ∧ s.splitHeight = none) ∨
      (∃ s, sup = some s ∧ s.localDithering = false ∧ dith.intersect s.dithering ≠ .none) ∨
      (∃ s, sup = some s ∧ w * h ≤ max (s.fragmentSize.getPreferred q) 1) := by
  cases sup with
  | none => simp [getFragmentHeight_none]
  | some s =>
    cases hsh : s.splitHeight with
    | none => simp [getFragmentHeight_of_no_splitHeight, hsh]
    | some sh =>
      rw [getFragmentHeight_eq dith q hsh]
      simp only [Option.some.injEq, exists_eq_left', hsh, reduceCtorEq, false_or]
      split
      · rename_i hc
        exact iff_of_true rfl (or_assoc.1 hc)
      · rename_i hc
        refine iff_of_false ?_ fun h => hc (or_assoc.2 h)
        -- past the early returns `u32::try_from` cannot fail
        simp only [not_or, Nat.not_le] at hc
        rw [tryU32, if_pos (Nat.lt_trans (fragment_rows_lt sh hc.2.2) hh)]
        exact fun h => nomatch h

/-- `F` is the rows that hold the preferred number of pixels, rounded down to a multiple of the split height, or the
split height itself when that is none -/
theorem getFragmentHeight_some {w h : Nat} {sup : Option Support} {dith : Dithering} {q : Quality}
    {F : Nat} (hwf : ∀ s, sup = some s → s.WF) (hF : getFragmentHeight w h sup dith q = some F) :
    ∃ s sh k, sup = some s ∧ s.splitHeight = some sh ∧ 0 < sh ∧ 0 < k ∧ F = k * sh ∧ 0 < w ∧ 0 < h ∧
      max (s.fragmentSize.getPreferred q) 1 < w * h ∧ (F * w ≤ max (s.fragmentSize.getPreferred q) 1 ∨ F = sh) ∧
      (s.localDithering = true ∨ dith.intersect s.dithering = .none) ∧
      F = (if (max (s.fragmentSize.getPreferred q) 1 / w) / sh * sh = 0 then sh
           else (max (s.fragmentSize.getPreferred q) 1 / w) / sh * sh) := by
  cases sup with
  | none => rw [getFragmentHeight_none] at hF; cases hF
  | some s =>
    cases hsh : s.splitHeight with
    | none => rw [getFragmentHeight_of_no_splitHeight w h dith q hsh] at hF; cases hF
    | some sh =>
      rw [getFragmentHeight_eq dith q hsh] at hF
      split at hF
      · cases hF
      · rename_i hc
        simp only [not_or, not_and, Nat.not_le] at hc
        obtain ⟨hwh, hd, hp⟩ := hc
        have hd : s.localDithering = true ∨ dith.intersect s.dithering = .none := by
          cases hl : s.localDithering with
          | true => exact .inl rfl
          | false => exact .inr (Decidable.not_not.1 (hd hl))
        unfold tryU32 at hF
        split at hF
        · obtain rfl : F = if max (s.fragmentSize.getPreferred q) 1 / w / sh * sh = 0 then sh
              else max (s.fragmentSize.getPreferred q) 1 / w / sh * sh := (Option.some.inj hF).symm
          refine ⟨s, sh, ?_⟩
          split
          · exact ⟨1, rfl, hsh, (hwf s rfl sh hsh).1, Nat.one_pos, (Nat.one_mul sh).symm, by omega, by omega, hp,
              Or.inr rfl, hd, rfl⟩
          · rename_i hz
            exact ⟨_, rfl, hsh, (hwf s rfl sh hsh).1, Nat.pos_of_ne_zero fun hk => hz (by rw [hk, Nat.zero_mul]), rfl,
              by omega, by omega, hp,
              Or.inl (Nat.le_trans (Nat.mul_le_mul_right _ (Nat.div_mul_le_self _ _)) (Nat.div_mul_le_self _ _)),
              hd, rfl⟩
        · cases hF

theorem getFragmentHeight_pos {w h : Nat} {sup : Option Support} {dith : Dithering} {q : Quality}
    {F : Nat} (hwf : ∀ s, sup = some s → s.WF) (hF : getFragmentHeight w h sup dith q = some F) :
    0 < F ∧ 0 < w ∧ 0 < h := by
  obtain ⟨_, _, _, _, _, hsh0, hk, hFk, hw, hh, _⟩ := getFragmentHeight_some hwf hF
  exact ⟨hFk ▸ Nat.mul_pos hk hsh0, hw, hh⟩

@[simp] theorem SplitView.new_fragmentHeight (w h : Nat) (sup : Option Support) (dith : Dithering)
    (q : Quality) :
    (SplitView.new w h sup dith q).fragmentHeight = getFragmentHeight w h sup dith q := by
  unfold SplitView.new; cases getFragmentHeight w h sup dith q <;> rfl

theorem SplitView.new_of_some {w h : Nat} {sup : Option Support} {dith : Dithering} {q : Quality}
    {F : Nat} (hg : getFragmentHeight w h sup dith q = some F) :
    SplitView.new w h sup dith q = ⟨w, h, divCeil h F, some F⟩ := by
  unfold SplitView.new; rw [hg]

theorem SplitView.new_of_none {w h : Nat} {sup : Option Support} {dith : Dithering} {q : Quality}
    (hg : getFragmentHeight w h sup dith q = none) :
    SplitView.new w h sup dith q = ⟨w, h, 1, none⟩ := by
  unfold SplitView.new; rw [hg]

theorem SplitView.get_of_le {s : SplitView} {i : Nat} (hi : s.len ≤ i) : s.get i = none :=
  if_pos hi

theorem SplitView.get_single (w h : Nat) : (SplitView.mk w h 1 none).get 0 = some (0, h) := rfl

theorem start_lt {h F i : Nat} (hF : 0 < F) (hi : i < divCeil h F) : i * F < h :=
  (lt_divCeil_iff hF).1 hi

/-- none of the `u32` operations of `get` wraps or saturates, since the fragment starts inside the image -/
theorem get_split {w h len F i : Nat} (hh : h < U32) (hF : 0 < F)
    (hi : i < len) (hlen : len = divCeil h F) :
    (SplitView.mk w h len (some F)).get i = some (i * F, min F (h - i * F)) := by
  subst hlen
  have hs := start_lt hF hi
  have hb : i * F < U32 := Nat.lt_trans hs hh
  have h1 : wMul32 i F = i * F := Nat.mod_eq_of_lt hb
  have h2 : min (satAdd32 (i * F) F) h = min (i * F + F) h := by
    unfold satAdd32
    split
    · rfl
    · rename_i hc
      rw [Nat.min_eq_right (Nat.le_sub_one_of_lt hh),
        Nat.min_eq_right (Nat.le_trans (Nat.le_of_lt hh) (Nat.le_of_not_lt hc))]
  have h3 : wSub32 (min (i * F + F) h) (i * F) = min F (h - i * F) := by
    have hle : i * F ≤ min (i * F + F) h := Nat.le_min.2 ⟨Nat.le_add_right _ _, Nat.le_of_lt hs⟩
    unfold wSub32
    rw [Nat.mod_eq_of_lt hb, Nat.sub_add_comm hle, Nat.add_mod_right, ← Nat.sub_min_sub_right,
      Nat.add_sub_cancel_left]
    exact Nat.mod_eq_of_lt (Nat.lt_of_le_of_lt (Nat.le_trans (Nat.min_le_right _ _) (Nat.sub_le _ _)) hh)
  simp only [SplitView.get, if_neg (Nat.not_le.2 hi), h1, h2, h3]

theorem SplitView.new_spec (w h : Nat) (sup : Option Support) (dith : Dithering) (q : Quality)
    (hh : h < U32) (hwf : ∀ s, sup = some s → s.WF) :
    ∃ F, 0 < F ∧ (SplitView.new w h sup dith q).len = max 1 (divCeil h F) ∧
      (∀ i, i < (SplitView.new w h sup dith q).len →
        (SplitView.new w h sup dith q).get i = some (i * F, min F (h - i * F))) ∧
      (∀ fh, getFragmentHeight w h sup dith q = some fh → fh = F ∧
        ∃ s sh k, sup = some s ∧ s.splitHeight = some sh ∧ 0 < k ∧ F = k * sh) := by
  cases hg : getFragmentHeight w h sup dith q with
  | none =>
    rw [SplitView.new_of_none hg]
    have hlen : 1 = max 1 (divCeil h (max h 1)) := by
      have := divCeil_le_iff (a := h) (q := 1) (Nat.lt_of_lt_of_le Nat.one_pos (Nat.le_max_right h 1))
      omega
    refine ⟨max h 1, by omega, hlen, fun i hi => ?_, fun fh hfh => by cases hfh⟩
    have hi0 : i = 0 := Nat.lt_one_iff.1 hi
    subst hi0
    rw [SplitView.get_single, Nat.zero_mul, Nat.sub_zero, Nat.min_eq_right (Nat.le_max_left h 1)]
  | some F =>
    rw [SplitView.new_of_some hg]
    obtain ⟨s, sh, k, hs, hsh, _, hk, hFk, _⟩ := getFragmentHeight_some hwf hg
    obtain ⟨hF, _, hh0⟩ := getFragmentHeight_pos hwf hg
    have := divCeil_pos hh0 hF
    refine ⟨F, hF, by show divCeil h F = _; omega, fun i hi => get_split hh hF hi rfl, fun fh hfh => ?_⟩
    cases hfh
    exact ⟨rfl, s, sh, k, hs, hsh, hk, hFk⟩

def rowsOf : Option (Nat × Nat) → List Nat
  | some (o, k) => List.range' o k
  | none => []

theorem cover_prefix (F h n : Nat) :
    (List.range n).flatMap (fun i => List.range' (i * F) (min F (h - i * F))) =
      List.range (min (n * F) h) := by
  induction n with
  | zero => simp
  | succ n ih =>
    rw [List.range_succ, List.flatMap_append, ih, List.flatMap_singleton, List.range_eq_range',
      List.range_eq_range', Nat.succ_mul]
    by_cases hc : n * F ≤ h
    · rw [Nat.min_eq_left hc]
      have := @List.range'_append 0 (n * F) (min F (h - n * F)) 1
      rw [Nat.one_mul, Nat.zero_add] at this
      rw [this]
      congr 1
      omega
    · rw [Nat.min_eq_right (by omega), Nat.min_eq_right (by omega : h - n * F ≤ F),
        Nat.sub_eq_zero_of_le (by omega), Nat.min_eq_right (by omega)]
      exact List.append_nil _

theorem sum_fragment_heights (F h n : Nat) : ((List.range n).map fun i => min F (h - i * F)).sum = min (n * F) h := by
  have := congrArg List.length (cover_prefix F h n)
  rwa [List.length_flatMap, List.length_range, List.map_congr_left fun i _ => List.length_range'] at this

theorem tile_rows {h F : Nat} (hF : 0 < F) :
    (∀ i, i + 1 < max 1 (divCeil h F) → min F (h - i * F) = F) ∧
    (0 < h → ∀ i, i < max 1 (divCeil h F) → 0 < min F (h - i * F)) ∧
    (List.range (max 1 (divCeil h F))).flatMap (fun i => List.range' (i * F) (min F (h - i * F))) =
      List.range h := by
  refine ⟨fun i hi => ?_, fun hpos i hi => ?_, ?_⟩
  · have := start_lt hF (by omega : i + 1 < divCeil h F)
    rw [Nat.succ_mul] at this
    omega
  · have := divCeil_pos hpos hF
    have := start_lt hF (by omega : i < divCeil h F)
    omega
  · rw [cover_prefix, Nat.min_eq_right]
    exact Nat.le_trans (le_divCeil_mul h hF) (Nat.mul_le_mul_right F (Nat.le_max_right _ _))

theorem foldl_set_getElem? {α : Type} (r : Nat → α) (order : List Nat) (init : List (Option α))
    (j : Nat) :
    (order.foldl (fun slots i => slots.set i (some (r i))) init)[j]? =
      if j ∈ order ∧ j < init.length then some (some (r j)) else init[j]? := by
  induction order generalizing init with
  | nil => simp
  | cons i t ih =>
    rw [List.foldl_cons, ih, List.length_set, List.getElem?_set]
    by_cases hij : i = j
    · subst hij
      by_cases hj : i < init.length <;> simp [hj]
    · simp [hij, Ne.symm hij]

/-- every job writes the slot of its own index: once all have finished, slot `j` holds `r j` -/
theorem collectSlots_eq {α : Type} (n : Nat) (r : Nat → α) (order : List Nat)
    (hcov : ∀ j, j < n → j ∈ order) :
    collectSlots n r order = ((List.range n).map r).map some := by
  apply List.ext_getElem?
  intro j
  unfold collectSlots
  rw [foldl_set_getElem?, List.length_replicate, List.getElem?_replicate, List.map_map, List.getElem?_map]
  by_cases hj : j < n
  · rw [if_pos ⟨hcov j hj, hj⟩, List.getElem?_range hj]; rfl
  · rw [if_neg (fun h => hj h.2), if_neg hj, List.getElem?_eq_none (by rw [List.length_range]; omega)]; rfl

theorem allSome_map_some {α : Type} (l : List α) : allSome (l.map some) = some l := by
  induction l with
  | nil => rfl
  | cons a t ih => simp [allSome, ih]

theorem chunks_nil {ρ : Type} (k : Nat) : chunks k ([] : List ρ) = [] := by
  rw [chunks]; simp

theorem chunks_zero {ρ : Type} (l : List ρ) : chunks 0 l = [] := by
  rw [chunks]; simp

theorem chunks_cons {ρ : Type} {k : Nat} {l : List ρ} (hk : 0 < k) (hl : l ≠ []) :
    chunks k l = l.take k :: chunks k (l.drop k) := by
  rw [chunks, dif_neg (by simp [hl]; omega)]

theorem chunks_induction {ρ : Type} {k : Nat} (hk : 0 < k) {motive : List ρ → Prop} (nil : motive [])
    (cons : ∀ l, l ≠ [] → motive (l.drop k) → motive l) : ∀ l, motive l :=
  chunks.induct k motive
    (fun l h => by
      cases h with
      | inl h => omega
      | inr h => exact h ▸ nil)
    (fun l h ih => cons l (fun hl => h (Or.inr hl)) ih)

theorem chunks_append {ρ : Type} {sh : Nat} (hsh : 0 < sh) (m : Nat) (a b : List ρ)
    (ha : a.length = m * sh) : chunks sh (a ++ b) = chunks sh a ++ chunks sh b := by
  induction m generalizing a with
  | zero =>
    rw [List.eq_nil_of_length_eq_zero (by omega : a.length = 0), chunks_nil]
    rfl
  | succ m ih =>
    rw [Nat.succ_mul] at ha
    have hne : a ≠ [] := List.ne_nil_of_length_pos (by omega)
    have hle : sh ≤ a.length := by omega
    rw [chunks_cons hsh (List.append_ne_nil_of_left_ne_nil hne b), chunks_cons hsh hne,
      List.take_append_of_le_length hle, List.drop_append_of_le_length hle,
      ih (a.drop sh) (by rw [List.length_drop]; omega)]
    rfl

theorem chunks_take_append_drop {ρ : Type} {k : Nat} (hk : 0 < k) (m : Nat) (l : List ρ) :
    chunks k (l.take (m * k)) ++ chunks k (l.drop (m * k)) = chunks k l := by
  by_cases h : m * k ≤ l.length
  · rw [← chunks_append hk m _ _ (List.length_take_of_le h), List.take_append_drop]
  · rw [List.take_of_length_le (by omega), List.drop_eq_nil_of_le (by omega), chunks_nil,
      List.append_nil]

theorem chunks_flatMap {ρ : Type} {sh k : Nat} (hsh : 0 < sh) (hk : 0 < k) (img : List ρ) :
    (chunks (k * sh) img).flatMap (chunks sh) = chunks sh img := by
  have hF : 0 < k * sh := Nat.mul_pos hk hsh
  induction img using chunks_induction hF with
  | nil => rw [chunks_nil, chunks_nil]; rfl
  | cons l hne ih =>
    rw [chunks_cons hF hne, List.flatMap_cons, ih, chunks_take_append_drop hsh]

theorem chunks_flatten {ρ : Type} {sh : Nat} (hsh : 0 < sh) (img : List ρ) :
    (chunks sh img).flatMap (fun g => g) = img := by
  induction img using chunks_induction hsh with
  | nil => rw [chunks_nil]; rfl
  | cons l hne ih => rw [chunks_cons hsh hne, List.flatMap_cons, ih, List.take_append_drop]

theorem chunks_eq_map {ρ : Type} {F : Nat} (hF : 0 < F) (img : List ρ) :
    chunks F img =
      (List.range (divCeil img.length F)).map (fun i => (img.drop (i * F)).take F) := by
  induction img using chunks_induction hF with
  | nil => rw [chunks_nil, List.length_nil, divCeil_zero]; rfl
  | cons l hne ih =>
    rw [chunks_cons hF hne, ih, List.length_drop, divCeil_step hF (List.length_pos_iff.2 hne),
      List.range_succ_eq_map, List.map_cons, List.map_map, Nat.zero_mul, List.drop_zero]
    congr 1
    apply List.map_congr_left
    intro i _
    simp only [Function.comp, List.drop_drop, Nat.succ_mul]
    rw [Nat.add_comm]

theorem SplitView.fragmentRows_split {ρ : Type} {w F : Nat} {sup : Option Support} {dith : Dithering}
    {q : Quality} (img : List ρ) (hh : img.length < U32) (hF : 0 < F)
    (hg : getFragmentHeight w img.length sup dith q = some F) :
    (List.range (SplitView.new w img.length sup dith q).len).map
      ((SplitView.new w img.length sup dith q).fragmentRows img) = chunks F img := by
  rw [SplitView.new_of_some hg, chunks_eq_map hF]
  apply List.map_congr_left
  intro i hi
  unfold SplitView.fragmentRows
  rw [get_split hh hF (List.mem_range.1 hi) rfl]
  show (img.drop (i * F)).take (min F (img.length - i * F)) = _
  rw [← List.length_drop, ← List.take_eq_take_min]

theorem SplitView.fragmentRows_unsplit {ρ : Type} {w : Nat} {sup : Option Support} {dith : Dithering}
    {q : Quality} (img : List ρ) (hg : getFragmentHeight w img.length sup dith q = none) :
    (List.range (SplitView.new w img.length sup dith q).len).map
      ((SplitView.new w img.length sup dith q).fragmentRows img) = [img] := by
  rw [SplitView.new_of_none hg]
  show [(img.drop 0).take img.length] = [img]
  rw [List.drop_zero, List.take_length]

end Dds
