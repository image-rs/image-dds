/-
C01 (codec bodies, BC7): the trapping mirror `TrapBc7.decodeBlockT` returns `some` of the wrapping model
`Bc7.decodeBlock` for every block.
-/
import DdsModel.TrapBc7
import DdsModel.Proofs.ListLemmas
import DdsModel.Proofs.Bc7
import DdsModel.Proofs.TrapWp
namespace Dds.TrapBc7
open Dds Dds.Trap Dds.Bc7 Dds.BcTables

theorem mapT_nil {α β} (f : α → Option β) : mapT f [] = some [] := rfl

/-- a loop whose results are returned together with the stream -/
theorem mapT_with {α β γ} {f : α → Option β} {g : α → β} {l : List α} (c : γ) (h : ∀ x ∈ l, f x = some (g x)) :
    (mapT f l >>= fun out => pure (out, c)) = some (l.map g, c) := by
  rw [mapT_eq_some f g l h, bind_some', pure_some']


theorem skipT_eq (n s : Nat) (h : n < 128) : skipT n s = some (s >>> n) := shr_of_lt h

theorem consumeBitT_eq (s : Nat) : consumeBitT s = some (consumeBit s) := by
  unfold consumeBitT consumeBit
  rw [skipT_eq _ _ (by omega), bind_some', pure_some']

theorem consumeBitsT_eq (count s : Nat) (h : 0 < count ∧ count ≤ 8) :
    consumeBitsT count s = some (consumeBits count s) := by
  unfold consumeBitsT consumeBits mask8 skipT
  rw [← ret_eq]
  simp only [wp, and_true]
  omega

theorem consumeBits64T_eq (count s : Nat) (h : 0 < count ∧ count ≤ 64) :
    consumeBits64T count s = some (consumeBits64 count s) := by
  unfold consumeBits64T
  rw [dbgP_of h, bind_some', skipT_eq _ _ (by omega), bind_some', pure_some']
  rfl

theorem consumeNT_eq (k c s : Nat) (h : 0 < c ∧ c ≤ 8) : consumeNT k c s = some (consumeN k c s) := by
  induction k generalizing s with
  | zero => rfl
  | succ k ih =>
    unfold consumeNT consumeN
    rw [consumeBitsT_eq _ _ h, bind_some', ih, bind_some', pure_some']

theorem consumeBitsEachT_eq (k s : Nat) : consumeBitsEachT k s = some (consumeBitsEach k s) := by
  induction k generalizing s with
  | zero => rfl
  | succ k ih =>
    unfold consumeBitsEachT consumeBitsEach
    rw [consumeBitT_eq, bind_some', ih, bind_some', pure_some']

theorem consumeBits_lt_pow (c s : Nat) (h : 0 < c ∧ c ≤ 8) : (consumeBits c s).1 < 2 ^ c := by
  rw [consumeBits_eq c s h.1 h.2]
  exact Nat.mod_lt _ (Nat.two_pow_pos c)

theorem consumeBits_lt (c s : Nat) : (consumeBits c s).1 < 256 :=
  Nat.lt_of_le_of_lt Nat.and_le_left (Nat.mod_lt _ (by decide))

theorem consumeBit_lt (s : Nat) : (consumeBit s).1 < 2 := Nat.lt_succ_of_le Nat.and_le_right

theorem consumeN_length (k c s : Nat) : (consumeN k c s).1.length = k := by
  induction k generalizing s with
  | zero => rfl
  | succ k ih => unfold consumeN; simp only [List.length_cons, ih]

theorem consumeN_lt (k c s : Nat) : ∀ v ∈ (consumeN k c s).1, v < 256 := by
  induction k generalizing s with
  | zero => intro v hv; cases hv
  | succ k ih =>
    unfold consumeN
    exact List.forall_mem_cons.2 ⟨consumeBits_lt _ _, ih _⟩

theorem consumeBitsEach_length (k s : Nat) : (consumeBitsEach k s).1.length = k := by
  induction k generalizing s with
  | zero => rfl
  | succ k ih => unfold consumeBitsEach; simp only [List.length_cons, ih]

theorem consumeBitsEach_lt (k s : Nat) : ∀ v ∈ (consumeBitsEach k s).1, v < 2 := by
  induction k generalizing s with
  | zero => intro v hv; cases hv
  | succ k ih =>
    unfold consumeBitsEach
    exact List.forall_mem_cons.2 ⟨consumeBit_lt _, ih _⟩

theorem idx_consumeN (k c s i : Nat) (hi : i < k) : idx (consumeN k c s).1 i = some (px (consumeN k c s).1 i) :=
  idx_getD _ _ _ (by rw [consumeN_length]; exact hi)
theorem idx_consumeBitsEach (k s i : Nat) (hi : i < k) :
    idx (consumeBitsEach k s).1 i = some (px (consumeBitsEach k s).1 i) :=
  idx_getD _ _ _ (by rw [consumeBitsEach_length]; exact hi)

theorem px_consumeN_lt (k c s i : Nat) : px (consumeN k c s).1 i < 256 := getD_lt (by decide) (consumeN_lt k c s) i
theorem px_consumeBitsEach_lt (k s i : Nat) : px (consumeBitsEach k s).1 i < 2 :=
  getD_lt (by decide) (consumeBitsEach_lt k s) i


theorem u64_eq : U64 = 2 ^ 64 := by decide

theorem shl1_u64 (k : Nat) (h : k < 64) : (1 <<< k) % U64 = 2 ^ k := by
  rw [Nat.one_shiftLeft, Nat.mod_eq_of_lt (by rw [u64_eq]; exact Nat.pow_lt_pow_right (by decide) h)]

theorem wsub1 (x : Nat) (h1 : 1 ≤ x) (h2 : x < U64) : (x + U64 - 1) % U64 = x - 1 := by
  unfold U64 at *; omega

/-- `(1 << bits) - 1` neither shifts out of `u64` nor borrows -/
theorem getMaskT_eq (bits : Nat) (h : bits < 64) : getMaskT bits = some (getMask bits) := by
  unfold getMaskT
  rw [shl_of_lt h, bind_some', subU_of_le (by rw [shl1_u64 _ h]; exact Nat.one_le_two_pow), getMask_eq _ h, shl1_u64 _ h]

theorem decompressSingleIndexT_eq (bits compressed index : Nat) (hb : bits < 64) (hk : index * bits < 64) :
    decompressSingleIndexT bits compressed index = some (decompressSingleIndex bits compressed index) := by
  unfold decompressSingleIndexT decompressSingleIndex
  have e : (index * bits) % U8 = index * bits := Nat.mod_eq_of_lt (by unfold U8; omega)
  rw [e]
  generalize index * bits = k at *
  have h1 : 1 ≤ (1 <<< k) % U64 := by rw [shl1_u64 _ hk]; exact Nat.one_le_two_pow
  dsimp only
  rw [wsub1 _ h1 (Nat.mod_lt _ (by decide)), ← ret_eq]
  simp only [wp, getMaskT_eq _ hb, and_true]
  exact ⟨by omega, hk, h1, hk, by decide, by decide, hk⟩

theorem countT_eq (bits k : Nat) (hb : bits ≤ 4) (hk : k ≤ 16 * bits) : countT bits k = some (16 * bits - k) := by
  unfold countT
  rw [ck_of_lt (by omega), bind_some', subU_of_le hk]

/-- a fix-up index times an index width is a shift amount inside `u64` -/
theorem fix_mul_lt {fix bits : Nat} (hf : fix < 16) (hb : bits ≤ 4) : fix * bits < 64 :=
  Nat.lt_of_le_of_lt (Nat.mul_le_mul (Nat.le_of_lt_succ hf) hb) (by decide)

theorem newP1T_eq (bits s : Nat) (hb : 1 ≤ bits ∧ bits ≤ 4) : newP1T bits s = some (newP1 bits s) := by
  unfold newP1T newP1
  rw [countT_eq _ _ hb.2 (by omega), bind_some', consumeBits64T_eq _ _ (by omega), bind_some', dbgP_of hb.2, bind_some',
    decompressSingleIndexT_eq _ _ _ (by omega) (by omega), bind_some', getMaskT_eq _ (by omega), bind_some', pure_some']

theorem newP2T_eq (bits s fix2 : Nat) (hb : 1 ≤ bits ∧ bits ≤ 4) (hf : 0 < fix2 ∧ fix2 < 16) :
    newP2T bits s fix2 = some (newP2 bits s fix2) := by
  unfold newP2T newP2
  rw [countT_eq _ _ hb.2 (by omega), bind_some', consumeBits64T_eq _ _ (by omega), bind_some', dbgP_of hb.2, bind_some',
    dbgP_of hf.1, bind_some', decompressSingleIndexT_eq _ _ _ (by omega) (by omega), bind_some',
    decompressSingleIndexT_eq _ _ _ (by omega) (fix_mul_lt hf.2 hb.2), bind_some', getMaskT_eq _ (by omega), bind_some',
    pure_some']

theorem newP3T_eq (bits s fix2 fix3 : Nat) (hb : 1 ≤ bits ∧ bits ≤ 4) (hf : 0 < fix2 ∧ fix2 < fix3 ∧ fix3 < 16) :
    newP3T bits s fix2 fix3 = some (newP3 bits s fix2 fix3) := by
  unfold newP3T newP3
  rw [countT_eq _ _ hb.2 (by omega), bind_some', consumeBits64T_eq _ _ (by omega), bind_some', dbgP_of hb.2, bind_some',
    dbgP_of ⟨hf.1, hf.2.1⟩, bind_some', decompressSingleIndexT_eq _ _ _ (by omega) (by omega), bind_some',
    decompressSingleIndexT_eq _ _ _ (by omega) (fix_mul_lt (by omega) hb.2), bind_some',
    decompressSingleIndexT_eq _ _ _ (by omega) (fix_mul_lt hf.2.2 hb.2), bind_some', getMaskT_eq _ (by omega),
    bind_some', pure_some']

theorem getIndexT_eq (ix : Indexes) (pixel bits : Nat) (hp : pixel < 16) (hb : ix.bits = bits) (h4 : bits ≤ 4) :
    getIndexT ix pixel = some (getIndex ix pixel) := by
  subst hb
  have h := fix_mul_lt hp h4
  unfold getIndexT getIndex
  rw [← ret_eq]
  simp only [wp, and_true]
  exact ⟨hp, by omega, h⟩

theorem getIndex_le (ix : Indexes) (pixel : Nat) : getIndex ix pixel ≤ ix.mask :=
  Nat.le_trans (Nat.mod_le _ _) Nat.and_le_right

theorem getMask_vals : getMask 2 = 3 ∧ getMask 3 = 7 ∧ getMask 4 = 15 :=
  ⟨getMask_eq 2 (by decide), getMask_eq 3 (by decide), getMask_eq 4 (by decide)⟩

/-- an index of `bits` bits selects one of `2 ^ bits` weights -/
theorem getIndex_lt (ix : Indexes) (pixel bits : Nat) (hm : ix.mask = getMask bits) (hb : bits < 64) :
    getIndex ix pixel < 2 ^ bits := by
  have h := getIndex_le ix pixel
  have := Nat.two_pow_pos bits
  rw [hm, getMask_eq _ hb] at h
  omega

theorem tz_le (x : Nat) : trailingZeros8 x ≤ 8 := by
  unfold trailingZeros8
  repeat' apply ite_of (· ≤ 8)
  all_goals decide

theorem extractModeT_eq (s : Nat) : extractModeT s = some (extractMode s) := by
  unfold extractModeT extractMode skipT
  have := tz_le (s % U8)
  rw [← ret_eq]
  simp only [wp, and_true]
  omega

theorem extractMode_le (s : Nat) : (extractMode s).1 ≤ 8 := tz_le _

theorem promoteT_eq (number bits : Nat) (h : 4 ≤ bits ∧ bits < 8) : promoteT number bits = some (promote number bits) := by
  unfold promoteT promote
  rw [← ret_eq]
  simp only [wp, and_true]
  omega

theorem withPT_eq (x p : Nat) : withPT x p = some (withP x p) := by
  unfold withPT withP
  rw [← ret_eq]
  simp only [wp, and_true]
  decide

theorem mod_u8_lt (x : Nat) : x % U8 < 2 ^ 8 := Nat.mod_lt _ (by decide)

theorem promote_lt (number bits : Nat) : promote number bits < 256 :=
  Nat.or_lt_two_pow (mod_u8_lt _) (Nat.lt_of_le_of_lt (Nat.shiftRight_le _ _) (mod_u8_lt _))

theorem withP_lt (x p : Nat) (hp : p < 2) : withP x p < 256 :=
  Nat.or_lt_two_pow (mod_u8_lt _) (Nat.lt_trans hp (by decide))

theorem lerpT_eq (e0 e1 w : Nat) (h0 : e0 < 256) (h1 : e1 < 256) (hw : w ≤ 256) : lerpT e0 e1 w = some (lerp e0 e1 w) := by
  have m0 := Nat.mul_le_mul_left (256 - w) (Nat.le_of_lt_succ h0)
  have m1 := Nat.mul_le_mul_left w (Nat.le_of_lt_succ h1)
  have e : (256 + 65536 - w) % 65536 = 256 - w := by omega
  have hS : (256 - w) * e0 + w * e1 + 128 < 65536 := by omega
  have hAB := Nat.lt_of_le_of_lt (Nat.le_add_right _ 128) hS
  have hA := Nat.lt_of_le_of_lt (Nat.le_add_right _ (w * e1)) hAB
  have hB := Nat.lt_of_le_of_lt (Nat.le_add_left _ ((256 - w) * e0)) hAB
  unfold lerpT lerp U16
  dsimp only
  rw [e, Nat.mod_eq_of_lt hA, Nat.mod_eq_of_lt hB, Nat.mod_eq_of_lt hAB, Nat.mod_eq_of_lt hS, ← ret_eq]
  simp only [wp, and_true]
  exact ⟨hw, hA, hB, hAB, hS, by decide⟩

theorem weights_le : (∀ w ∈ WEIGHTS_2, w < 257) ∧ (∀ w ∈ WEIGHTS_3, w < 257) ∧ (∀ w ∈ WEIGHTS_4, w < 257) := by
  decide

theorem weight_le {W : List Nat} (h : ∀ w ∈ W, w < 257) (i : Nat) : W.getD i 0 ≤ 256 :=
  Nat.le_of_lt_succ (getD_lt (by decide) h i)

theorem interpolate23T_eq (e0 e1 index bits : Nat) (h0 : e0 < 256) (h1 : e1 < 256) (hb : bits = 2 ∨ bits = 3)
    (hi : index < 2 ^ bits) : interpolate23T e0 e1 index bits = some (interpolate23 e0 e1 index bits) := by
  unfold interpolate23T interpolate23
  rcases hb with rfl | rfl
  · rw [if_pos rfl, if_pos rfl, idx_getD WEIGHTS_2 _ 0 hi, bind_some']
    exact lerpT_eq _ _ _ h0 h1 (weight_le weights_le.1 _)
  · rw [if_neg (by decide), if_pos rfl, if_neg (by decide), idx_getD WEIGHTS_3 _ 0 hi, bind_some']
    exact lerpT_eq _ _ _ h0 h1 (weight_le weights_le.2.1 _)

def EpLt (e : List (List Nat)) : Prop := ∀ c ∈ e, ∀ v ∈ c, v < 256

theorem px_ep_lt {e : List (List Nat)} (he : EpLt e) (i j : Nat) : px (ep e i) j < 256 := getD_getD_lt (by decide) he i j

theorem interpolateColorsAlphaT_eq (c0 c1 : List Nat) (cw aw : Nat) (h0 : ∀ j, px c0 j < 256) (h1 : ∀ j, px c1 j < 256)
    (hc : cw ≤ 256) (ha : aw ≤ 256) :
    interpolateColorsAlphaT c0 c1 cw aw = some (interpolateColorsAlpha c0 c1 cw aw) := by
  unfold interpolateColorsAlphaT interpolateColorsAlpha
  rw [lerpT_eq _ _ _ (h0 0) (h1 0) hc, bind_some', lerpT_eq _ _ _ (h0 1) (h1 1) hc, bind_some',
    lerpT_eq _ _ _ (h0 2) (h1 2) hc, bind_some', lerpT_eq _ _ _ (h0 3) (h1 3) ha, bind_some', pure_some']

/-- the four channels of one pixel of `mode_subset_2` / `mode_subset_3` -/
theorem interpolate4T_eq (c0 c1 : List Nat) (index bits : Nat) (h0 : ∀ j, px c0 j < 256) (h1 : ∀ j, px c1 j < 256)
    (hb : bits = 2 ∨ bits = 3) (hi : index < 2 ^ bits) :
    (do
      let r ← interpolate23T (px c0 0) (px c1 0) index bits
      let g ← interpolate23T (px c0 1) (px c1 1) index bits
      let b ← interpolate23T (px c0 2) (px c1 2) index bits
      let a ← interpolate23T (px c0 3) (px c1 3) index bits
      pure [r, g, b, a]) =
    some [interpolate23 (px c0 0) (px c1 0) index bits, interpolate23 (px c0 1) (px c1 1) index bits,
      interpolate23 (px c0 2) (px c1 2) index bits, interpolate23 (px c0 3) (px c1 3) index bits] := by
  rw [interpolate23T_eq _ _ _ _ (h0 0) (h1 0) hb hi, bind_some', interpolate23T_eq _ _ _ _ (h0 1) (h1 1) hb hi,
    bind_some', interpolate23T_eq _ _ _ _ (h0 2) (h1 2) hb hi, bind_some',
    interpolate23T_eq _ _ _ _ (h0 3) (h1 3) hb hi, bind_some', pure_some']

/-! ### endpoints

Every mode first reads its channel arrays (and p-bits) from the stream, then builds endpoint `i` from entry `i` of
each array: look up, append the p-bit, promote. -/

theorem getEndPoints2T_eq (mode s : Nat) (h : mode = 4 ∨ mode = 5 ∨ mode = 6) :
    getEndPoints2T mode s = some (getEndPoints2 mode s) := by
  rcases h with rfl | rfl | rfl <;>
    simp (disch := omega) only [getEndPoints2T, getEndPoints2, consumeNT_eq, consumeBitsEachT_eq, bind_some', ↓reduceIte,
      Nat.reduceEqDiff] <;>
    refine mapT_with _ fun i hi => ?_ <;>
    have hi := List.mem_range.mp hi <;>
    simp (disch := omega) only [idx_consumeN, idx_consumeBitsEach, promoteT_eq, withPT_eq, bind_some', pure_some']
  rfl

theorem getEndPoints4T_eq (mode s : Nat) (h : mode = 1 ∨ mode = 3 ∨ mode = 7) :
    getEndPoints4T mode s = some (getEndPoints4 mode s) := by
  rcases h with rfl | rfl | rfl <;>
    simp (disch := omega) only [getEndPoints4T, getEndPoints4, consumeNT_eq, consumeBitsEachT_eq, bind_some', ↓reduceIte,
      Nat.reduceEqDiff] <;>
    refine mapT_with _ fun i hi => ?_ <;>
    have hi := List.mem_range.mp hi <;>
    simp (disch := omega) only [idx_consumeN, idx_consumeBitsEach, promoteT_eq, withPT_eq, bind_some', pure_some']

theorem getEndPoints6T_eq (mode s : Nat) (h : mode = 0 ∨ mode = 2) :
    getEndPoints6T mode s = some (getEndPoints6 mode s) := by
  rcases h with rfl | rfl <;>
    simp (disch := omega) only [getEndPoints6T, getEndPoints6, consumeNT_eq, consumeBitsEachT_eq, bind_some', ↓reduceIte,
      Nat.reduceEqDiff] <;>
    refine mapT_with _ fun i hi => ?_ <;>
    have hi := List.mem_range.mp hi <;>
    simp (disch := omega) only [idx_consumeN, idx_consumeBitsEach, promoteT_eq, withPT_eq, bind_some', pure_some']

theorem epLt_map (n : Nat) (g : Nat → List Nat) (h : ∀ i, ∀ v ∈ g i, v < 256) : EpLt ((List.range n).map g) := by
  intro c hc
  obtain ⟨i, _, rfl⟩ := List.mem_map.mp hc
  exact h i

theorem withP_each_lt (x k s i : Nat) : withP x (px (consumeBitsEach k s).1 i) < 256 :=
  withP_lt _ _ (px_consumeBitsEach_lt _ _ _)
theorem withP_pair_lt (x s s' i : Nat) : withP x (px [(consumeBit s).1, (consumeBit s').1] i) < 256 :=
  withP_lt _ _ (getD_lt (by decide) (List.forall_mem_cons.2 ⟨consumeBit_lt _, List.forall_mem_cons.2
    ⟨consumeBit_lt _, fun _ hv => (List.not_mem_nil hv).elim⟩⟩) i)

theorem getEndPoints2_lt (mode s : Nat) : EpLt (getEndPoints2 mode s).1 := by
  unfold getEndPoints2
  split
  · exact epLt_map _ _ fun _ => forall_mem4 (promote_lt ..) (promote_lt ..) (promote_lt ..) (promote_lt ..)
  split
  · exact epLt_map _ _ fun _ => forall_mem4 (promote_lt ..) (promote_lt ..) (promote_lt ..) (px_consumeN_lt ..)
  · exact epLt_map _ _ fun _ => forall_mem4 (withP_pair_lt ..) (withP_pair_lt ..) (withP_pair_lt ..) (withP_pair_lt ..)

theorem getEndPoints4_lt (mode s : Nat) : EpLt (getEndPoints4 mode s).1 := by
  unfold getEndPoints4
  split
  · exact epLt_map _ _ fun _ => forall_mem4 (promote_lt ..) (promote_lt ..) (promote_lt ..) (by decide)
  split
  · exact epLt_map _ _ fun _ => forall_mem4 (withP_each_lt ..) (withP_each_lt ..) (withP_each_lt ..) (by decide)
  · exact epLt_map _ _ fun _ => forall_mem4 (promote_lt ..) (promote_lt ..) (promote_lt ..) (promote_lt ..)

theorem getEndPoints6_lt (mode s : Nat) : EpLt (getEndPoints6 mode s).1 := by
  unfold getEndPoints6
  split
  · exact epLt_map _ _ fun _ => forall_mem4 (promote_lt ..) (promote_lt ..) (promote_lt ..) (by decide)
  · exact epLt_map _ _ fun _ => forall_mem4 (promote_lt ..) (promote_lt ..) (promote_lt ..) (by decide)

theorem getEndPoints2_len (mode s : Nat) : (getEndPoints2 mode s).1.length = 2 := by
  unfold getEndPoints2
  split
  · simp only [List.length_map, List.length_range]
  · split <;> simp only [List.length_map, List.length_range]
theorem getEndPoints6_len (mode s : Nat) : (getEndPoints6 mode s).1.length = 6 := by
  unfold getEndPoints6
  split <;> simp only [List.length_map, List.length_range]


theorem extractPartitionSetIdT_eq (mode s : Nat) (h : mode = 0 ∨ mode = 1 ∨ mode = 2 ∨ mode = 3 ∨ mode = 7) :
    extractPartitionSetIdT mode s = some (consumeBits (if mode = 0 then 4 else 6) s) := by
  unfold extractPartitionSetIdT
  rw [dbgP_of h, bind_some']
  exact consumeBitsT_eq _ _ (by split <;> omega)

theorem implP2_fix : ∀ i, i < 64 → 0 < (implP2 i).2 ∧ (implP2 i).2 < 16 := by decide +kernel
theorem implP3_fix : ∀ i, i < 64 → 0 < (implP3 i).2.1 ∧ (implP3 i).2.1 < (implP3 i).2.2 ∧ (implP3 i).2.2 < 16 := by
  decide +kernel

theorem modeSubset2T_eq (mode s : Nat) (hm : mode = 1 ∨ mode = 3 ∨ mode = 7) :
    modeSubset2T mode s = some (modeSubset2 mode s) := by
  have hpid : (consumeBits 6 s).1 < 64 := consumeBits_lt_pow 6 s (by omega)
  have hib : indexBits2T mode = some (if mode = 1 then 3 else 2) := by
    rcases hm with rfl | rfl | rfl <;> rfl
  have hb : (if mode = 1 then 3 else 2) = 2 ∨ (if mode = 1 then 3 else 2) = 3 := by split <;> omega
  have hE := getEndPoints4_lt mode (consumeBits 6 s).2
  unfold modeSubset2T modeSubset2
  generalize (if mode = 1 then 3 else 2) = ib at hib hb ⊢
  rw [dbgP_of hm, bind_some', extractPartitionSetIdT_eq _ _ (by omega), bind_some', if_neg (by omega),
    idxF_of_lt hpid, bind_some', getEndPoints4T_eq _ _ hm, bind_some', hib, bind_some',
    newP2T_eq _ _ _ (by omega) (implP2_fix _ hpid), bind_some']
  apply mapT_eq_some
  intro pixel hp
  have hp : pixel < 16 := List.mem_range.mp hp
  simp only [dbgP_of hp, bind_some']
  rw [getIndexT_eq _ _ ib hp rfl (by omega), bind_some']
  exact interpolate4T_eq _ _ _ _ (fun _ => by split <;> exact px_ep_lt hE _ _) (fun _ => by split <;> exact px_ep_lt hE _ _)
    hb (getIndex_lt _ _ ib rfl (by omega))

theorem modeSubset3T_eq (mode s : Nat) (hm : mode = 0 ∨ mode = 2) :
    modeSubset3T mode s = some (modeSubset3 mode s) := by
  have hpid : (consumeBits (if mode = 0 then 4 else 6) s).1 < 64 := by
    split
    · exact Nat.lt_trans (consumeBits_lt_pow 4 s (by omega)) (by decide)
    · exact consumeBits_lt_pow 6 s (by omega)
  have hib : indexBits3T mode = some (if mode = 0 then 3 else 2) := by
    rcases hm with rfl | rfl <;> rfl
  have hb : (if mode = 0 then 3 else 2) = 2 ∨ (if mode = 0 then 3 else 2) = 3 := by split <;> omega
  have hE := getEndPoints6_lt mode (consumeBits (if mode = 0 then 4 else 6) s).2
  have hL := getEndPoints6_len mode (consumeBits (if mode = 0 then 4 else 6) s).2
  unfold modeSubset3T modeSubset3
  generalize (if mode = 0 then 3 else 2) = ib at hib hb ⊢
  rw [dbgP_of hm, bind_some', extractPartitionSetIdT_eq _ _ (by omega), bind_some', idxF_of_lt hpid, bind_some',
    getEndPoints6T_eq _ _ hm, bind_some', hib, bind_some', newP3T_eq _ _ _ _ (by omega) (implP3_fix _ hpid), bind_some']
  apply mapT_eq_some
  intro pixel hp
  have hp : pixel < 16 := List.mem_range.mp hp
  have hsub : min (subset3Index (implP3 (consumeBits (if mode = 0 then 4 else 6) s).1) pixel) 2 ≤ 2 :=
    Nat.min_le_right _ _
  simp only [dbgP_of hp, bind_some']
  rw [ck_of_lt (by omega), bind_some', idx_getD _ _ [] (by omega), bind_some', idx_getD _ _ [] (by omega), bind_some',
    getIndexT_eq _ _ ib hp rfl (by omega), bind_some']
  exact interpolate4T_eq _ _ _ _ (fun _ => px_ep_lt hE _ _) (fun _ => px_ep_lt hE _ _) hb
    (getIndex_lt _ _ ib rfl (by omega))

theorem mode4T_eq (s : Nat) : mode4T s = some (mode4 s) := by
  have hE := getEndPoints2_lt 4 (consumeBits 3 s).2
  unfold mode4T mode4
  rw [consumeBitsT_eq _ _ (by omega), bind_some', getEndPoints2T_eq _ _ (by omega), bind_some',
    newP1T_eq _ _ (by omega), bind_some', newP1T_eq _ _ (by omega), bind_some']
  apply mapT_eq_some
  intro pixel hp
  have hp : pixel < 16 := List.mem_range.mp hp
  dsimp only
  rw [getIndexT_eq _ _ 2 hp rfl (by omega), bind_some', getIndexT_eq _ _ 3 hp rfl (by omega), bind_some',
    idx_getD WEIGHTS_2 _ 0 (getIndex_lt _ _ 2 rfl (by omega)), bind_some',
    idx_getD WEIGHTS_3 _ 0 (getIndex_lt _ _ 3 rfl (by omega)), bind_some', dbgP_of hp, bind_some',
    interpolateColorsAlphaT_eq _ _ _ _ (px_ep_lt hE _) (px_ep_lt hE _)
      (ite_of (· ≤ 256) (weight_le weights_le.2.1 _) (weight_le weights_le.1 _))
      (ite_of (· ≤ 256) (weight_le weights_le.1 _) (weight_le weights_le.2.1 _)), bind_some', pure_some']

theorem mode5T_eq (s : Nat) : mode5T s = some (mode5 s) := by
  have hE := getEndPoints2_lt 5 (consumeBits 2 s).2
  unfold mode5T mode5
  rw [consumeBitsT_eq _ _ (by omega), bind_some', getEndPoints2T_eq _ _ (by omega), bind_some',
    newP1T_eq _ _ (by omega), bind_some', newP1T_eq _ _ (by omega), bind_some']
  apply mapT_eq_some
  intro pixel hp
  have hp : pixel < 16 := List.mem_range.mp hp
  dsimp only
  rw [getIndexT_eq _ _ 2 hp rfl (by omega), bind_some', getIndexT_eq _ _ 2 hp rfl (by omega), bind_some',
    idx_getD WEIGHTS_2 _ 0 (getIndex_lt _ _ 2 rfl (by omega)), bind_some',
    idx_getD WEIGHTS_2 _ 0 (getIndex_lt _ _ 2 rfl (by omega)), bind_some', dbgP_of hp, bind_some',
    interpolateColorsAlphaT_eq _ _ _ _ (px_ep_lt hE _) (px_ep_lt hE _) (weight_le weights_le.1 _) (weight_le weights_le.1 _),
    bind_some', pure_some']

theorem mode6T_eq (s : Nat) : mode6T s = some (mode6 s) := by
  have hE := getEndPoints2_lt 6 s
  unfold mode6T mode6
  rw [getEndPoints2T_eq _ _ (by omega), bind_some', newP1T_eq _ _ (by omega), bind_some']
  apply mapT_eq_some
  intro pixel hp
  have hp : pixel < 16 := List.mem_range.mp hp
  dsimp only
  rw [getIndexT_eq _ _ 4 hp rfl (by omega), bind_some', idx_getD WEIGHTS_4 _ 0 (getIndex_lt _ _ 4 rfl (by omega)),
    bind_some', dbgP_of hp, bind_some',
    interpolateColorsAlphaT_eq _ _ _ _ (px_ep_lt hE _) (px_ep_lt hE _) (weight_le weights_le.2.2 _) (weight_le weights_le.2.2 _)]

/-- **BC7 body**: for every block the trapping mirror returns the 16 pixels of the wrapping model -/
theorem decodeBlockT_eq (b : Nat) : decodeBlockT b = some (decodeBlock b) := by
  unfold decodeBlockT decodeBlock
  rw [extractModeT_eq, bind_some']
  exact ite_eq_some (fun _ => modeSubset3T_eq _ _ (by omega)) fun _ =>
    ite_eq_some (fun _ => modeSubset2T_eq _ _ (by omega)) fun _ =>
    ite_eq_some (fun _ => modeSubset3T_eq _ _ (by omega)) fun _ =>
    ite_eq_some (fun _ => modeSubset2T_eq _ _ (by omega)) fun _ =>
    ite_eq_some (fun _ => mode4T_eq _) fun _ =>
    ite_eq_some (fun _ => mode5T_eq _) fun _ =>
    ite_eq_some (fun _ => mode6T_eq _) fun _ =>
    ite_eq_some (fun _ => modeSubset2T_eq _ _ (by omega)) fun _ => rfl


theorem lerp_lt (e0 e1 w : Nat) : lerp e0 e1 w < 256 := Nat.mod_lt _ (by decide)

theorem interpolate4_lt (c0 c1 : List Nat) (i b : Nat) :
    ∀ v ∈ [interpolate23 (px c0 0) (px c1 0) i b, interpolate23 (px c0 1) (px c1 1) i b,
      interpolate23 (px c0 2) (px c1 2) i b, interpolate23 (px c0 3) (px c1 3) i b], v < 256 :=
  forall_mem4 (lerp_lt ..) (lerp_lt ..) (lerp_lt ..) (lerp_lt ..)

theorem ica_lt (c0 c1 : List Nat) (cw aw : Nat) : ∀ v ∈ interpolateColorsAlpha c0 c1 cw aw, v < 256 :=
  forall_mem4 (lerp_lt ..) (lerp_lt ..) (lerp_lt ..) (lerp_lt ..)

theorem swapChannels_lt (p : List Nat) (r : Nat) (h : ∀ v ∈ p, v < 256) : ∀ v ∈ swapChannels p r, v < 256 := by
  have hp : ∀ i, px p i < 256 := getD_lt (by decide) h
  unfold swapChannels
  split
  · exact forall_mem4 (hp _) (hp _) (hp _) (hp _)
  split
  · exact forall_mem4 (hp _) (hp _) (hp _) (hp _)
  split
  · exact forall_mem4 (hp _) (hp _) (hp _) (hp _)
  · exact h

theorem modeSubset2_lt (mode s : Nat) : EpLt (modeSubset2 mode s) := epLt_map _ _ fun _ => interpolate4_lt _ _ _ _
theorem modeSubset3_lt (mode s : Nat) : EpLt (modeSubset3 mode s) := epLt_map _ _ fun _ => interpolate4_lt _ _ _ _
theorem mode4_lt (s : Nat) : EpLt (mode4 s) := epLt_map _ _ fun _ => swapChannels_lt _ _ (ica_lt _ _ _ _)
theorem mode5_lt (s : Nat) : EpLt (mode5 s) := epLt_map _ _ fun _ => swapChannels_lt _ _ (ica_lt _ _ _ _)
theorem mode6_lt (s : Nat) : EpLt (mode6 s) := epLt_map _ _ fun _ => ica_lt _ _ _ _

theorem decodeBlock_lt (b : Nat) : EpLt (decodeBlock b) := by
  unfold decodeBlock
  exact ite_of EpLt (modeSubset3_lt _ _) <| ite_of _ (modeSubset2_lt _ _) <| ite_of _ (modeSubset3_lt _ _) <|
    ite_of _ (modeSubset2_lt _ _) <| ite_of _ (mode4_lt _) <| ite_of _ (mode5_lt _) <| ite_of _ (mode6_lt _) <|
    ite_of _ (modeSubset2_lt _ _) fun c hc => by
      rw [List.eq_of_mem_replicate hc]
      exact forall_mem4 (by decide) (by decide) (by decide) (by decide)

/-- `bc7_u8_rgba` / `bc7_u16_rgba` / `bc7_f32_rgba`: no trap, `U16 = v * 257`, `F32 = n8::f32` -/
theorem decodeT_eq (prec : Nat) (f : Nat → Nat) (b : Nat) :
    decodeT prec f b = some (if prec = 0 then decodeBlock b
      else if prec = 1 then (decodeBlock b).map (List.map (· * 257)) else (decodeBlock b).map (List.map f)) := by
  unfold decodeT
  rw [decodeBlockT_eq, bind_some']
  refine ite_eq_some (fun _ => pure_some' _) fun _ => ite_eq_some (fun _ => ?_) fun _ => pure_some' _
  exact mapT_eq_some _ _ _ fun c hc => mapT_eq_some _ _ _ fun v hv =>
    ck_of_lt (by have := decodeBlock_lt b c hc v hv; omega)

end Dds.TrapBc7
