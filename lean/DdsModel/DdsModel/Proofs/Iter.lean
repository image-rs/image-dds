/- Helper lemmas about the iterator model (`Iter.lean`). -/
import DdsModel.Iter
import DdsModel.Proofs.Layout
namespace Dds

theorem specMips_getElem_none (px : PixelInfo) (w h : Nat) (n level off j : Nat) (hj : n ≤ j) :
    (specMips px w h level n off)[j]? = none := by
  rw [specMips_getElem, if_neg (by omega)]

theorem sumLens_foldl (l : List Surface) : ∀ acc : Nat,
    l.foldl (fun a s => wAdd a s.len) acc = l.foldl (fun a s => wAdd a s.len) acc := fun _ => rfl

/-- the invariant of `TextureSurfaceIterator` -/
structure TexIter.Inv (it : TexIter) : Prop where
  wf : it.first.px.WF
  off0 : it.first.offsetIndex = 0
  mips_pos : 1 ≤ it.first.mips
  mips_lt : it.first.mips < 256
  len_lt : it.len < U32
  fits : it.len * texIdeal it.first.px it.first.w it.first.h 0 it.first.mips < U64
  tex : texIdeal it.first.px it.first.w it.first.h 0 it.first.mips < U64
  short : it.first.shortLen = toShortLen (texIdeal it.first.px it.first.w it.first.h 0 it.first.mips)
  cursor : (it.idx < it.len ∧ it.level < it.first.mips) ∨ (it.idx = it.len ∧ it.level = 0)

/-- length of one array element -/
def TexIter.T (it : TexIter) : Nat := texIdeal it.first.px it.first.w it.first.h 0 it.first.mips

/-- the abstraction: index into the flattened surface list -/
def TexIter.abs (it : TexIter) : Nat := it.idx * it.first.mips + it.level

/-- number of surfaces -/
def TexIter.N (it : TexIter) : Nat := it.len * it.first.mips

/-- ideal number of bytes before the cursor -/
def TexIter.elapsed (it : TexIter) : Nat :=
  it.idx * it.T + texIdeal it.first.px it.first.w it.first.h 0 it.level

theorem TexIter.Inv.firstValid {it : TexIter} (v : it.Inv) : it.first.Valid := by
  refine ⟨v.wf, ?_, ?_, v.short⟩
  · rw [v.off0]; have := v.tex; omega
  · rw [v.off0]; simp [U32]

/-- only the cursor has to be checked again for a state with the same texture and length -/
theorem TexIter.Inv.of_cursor {it it' : TexIter} (v : it.Inv) (hf : it'.first = it.first)
    (hl : it'.len = it.len)
    (hc : (it'.idx < it'.len ∧ it'.level < it'.first.mips) ∨ (it'.idx = it'.len ∧ it'.level = 0)) :
    it'.Inv := by
  obtain ⟨f, l, i, lv⟩ := it'
  obtain rfl : f = it.first := hf
  obtain rfl : l = it.len := hl
  exact { v with cursor := hc }

/-- the state `SurfaceIterator::new` starts from -/
theorem TexIter.Inv.new {f : Texture} {n : Nat} (v : f.Valid) (h0 : f.offsetIndex = 0)
    (hm : 1 ≤ f.mips) (hml : f.mips < 256) (hn : n < U32) (hfit : n * f.len < U64) :
    TexIter.Inv ⟨f, n, 0, 0⟩ :=
  ⟨v.wf, h0, hm, hml, hn, hfit, v.len_lt, v.short, by dsimp only; omega⟩

theorem TexIter.Inv.level_lt {it : TexIter} (v : it.Inv) (h : it.idx < it.len) :
    it.level < it.first.mips := by
  have := v.cursor; omega

theorem TexIter.Inv.at_end {it : TexIter} (v : it.Inv) (h : ¬ it.idx < it.len) :
    it.idx = it.len ∧ it.level = 0 := by
  have := v.cursor; omega

theorem TexIter.Inv.idx_le {it : TexIter} (v : it.Inv) : it.idx ≤ it.len := by
  have := v.cursor; omega

theorem TexIter.Inv.level_le {it : TexIter} (v : it.Inv) : it.level ≤ it.first.mips := by
  have := v.cursor; omega

theorem TexIter.Inv.abs_lt_iff {it : TexIter} (v : it.Inv) : it.abs < it.N ↔ it.idx < it.len := by
  unfold TexIter.abs TexIter.N
  by_cases h : it.idx < it.len
  · have := Nat.mul_le_mul_right it.first.mips h
    have := v.level_lt h
    rw [Nat.succ_mul] at *; omega
  · rw [(v.at_end h).1, (v.at_end h).2]; omega

theorem TexIter.Inv.abs_le {it : TexIter} (v : it.Inv) : it.abs ≤ it.N := by
  by_cases h : it.idx < it.len
  · exact Nat.le_of_lt (v.abs_lt_iff.2 h)
  · unfold TexIter.abs TexIter.N; rw [(v.at_end h).1, (v.at_end h).2]; omega

/-- `current()` reports the surface at the cursor (size, length, level) or nothing at the end;
it never panics. -/
theorem TexIter.Inv.currentP {it : TexIter} (v : it.Inv) :
    it.currentP =
      some (if it.idx < it.len then
        some ⟨mipSize it.first.w it.level, mipSize it.first.h it.level,
              it.first.px.surfIdeal (mipSize it.first.w it.level) (mipSize it.first.h it.level),
              it.level⟩
      else none) := by
  unfold TexIter.currentP
  by_cases h : it.idx < it.len
  · rw [if_pos h, if_pos h, Texture.getP, v.firstValid.iterMipsP, Option.map_some, specMips_getElem,
      if_pos (v.level_lt h), Nat.zero_add]
  · rw [if_neg h, if_neg h]

/-- under the invariant neither counter of `advance` wraps -/
theorem TexIter.Inv.advance_eq {it : TexIter} (v : it.Inv) (h : it.idx < it.len) :
    it.advance = if it.level + 1 < it.first.mips then { it with level := it.level + 1 }
      else { it with idx := it.idx + 1, level := 0 } := by
  have := v.level_lt h
  have := v.mips_lt
  have := v.len_lt
  simp only [TexIter.advance, if_pos h, wrap_succ (show it.level + 1 < U8 by unfold U8; omega),
    wrap_succ (show it.idx + 1 < U32 by omega)]

/-- the wrapping decrements of `rewind` are the plain ones -/
theorem TexIter.Inv.rewind_eq {it : TexIter} (v : it.Inv) :
    it.rewind = if it.level > 0 then { it with level := it.level - 1 }
      else if it.idx > 0 then { it with idx := it.idx - 1, level := it.first.mips - 1 }
      else it := by
  rw [TexIter.rewind, wrap_pred v.mips_pos (show it.first.mips < U8 from v.mips_lt)]

/-- `advance` moves to the next level, or to level 0 of the next element, and stays at the end; the
elapsed bytes grow by the length of the surface left behind. -/
theorem TexIter.Inv.advance_spec {it : TexIter} (v : it.Inv) :
    it.advance.Inv ∧ it.advance.abs = min (it.abs + 1) it.N ∧ it.advance.first = it.first ∧
      it.advance.len = it.len ∧
      (it.idx < it.len → it.advance.elapsed = it.elapsed +
        it.first.px.surfIdeal (mipSize it.first.w it.level) (mipSize it.first.h it.level)) := by
  by_cases h : it.idx < it.len
  · have hN := v.abs_lt_iff.2 h
    have hs := texIdeal_succ_right it.first.px it.first.w it.first.h 0 it.level
    rw [Nat.zero_add] at hs
    rw [v.advance_eq h, Nat.min_eq_left hN]
    split
    · next hn =>
      refine ⟨v.of_cursor rfl rfl (Or.inl ⟨h, hn⟩), ?_, rfl, rfl, fun _ => ?_⟩
      · simp only [TexIter.abs]; omega
      · simp only [TexIter.elapsed, TexIter.T]; omega
    · next hn =>
      have hm : it.level + 1 = it.first.mips := by have := v.level_lt h; omega
      rw [hm] at hs
      refine ⟨v.of_cursor rfl rfl ?_, ?_, rfl, rfl, fun _ => ?_⟩
      · have := v.mips_pos; dsimp only; omega
      · simp only [TexIter.abs, Nat.succ_mul]; omega
      · simp only [TexIter.elapsed, TexIter.T, Nat.succ_mul, texIdeal]; omega
  · rw [TexIter.advance, if_neg h]
    have := v.abs_le
    have := v.abs_lt_iff
    exact ⟨v, by rw [Nat.min_def]; split <;> omega, rfl, rfl, fun h' => absurd h' h⟩

theorem TexIter.Inv.advance {it : TexIter} (v : it.Inv) :
    it.advance.Inv ∧ it.advance.abs = min (it.abs + 1) it.N ∧ it.advance.first = it.first ∧
      it.advance.len = it.len :=
  ⟨v.advance_spec.1, v.advance_spec.2.1, v.advance_spec.2.2.1, v.advance_spec.2.2.2.1⟩

theorem TexIter.Inv.advance_elapsed {it : TexIter} (v : it.Inv) (hi : it.idx < it.len) :
    it.advance.elapsed = it.elapsed +
      it.first.px.surfIdeal (mipSize it.first.w it.level) (mipSize it.first.h it.level) :=
  v.advance_spec.2.2.2.2 hi

/-- `rewind` moves to the previous level, or to the last level of the previous element, and stays at
the start; the elapsed bytes do not grow. -/
theorem TexIter.Inv.rewind_spec {it : TexIter} (v : it.Inv) :
    it.rewind.Inv ∧ it.rewind.abs = it.abs - 1 ∧ it.rewind.first = it.first ∧
      it.rewind.len = it.len ∧ it.rewind.elapsed ≤ it.elapsed := by
  rw [v.rewind_eq]
  split
  · refine ⟨v.of_cursor rfl rfl ?_, ?_, rfl, rfl, ?_⟩
    · have := v.cursor; dsimp only; omega
    · simp only [TexIter.abs]; omega
    · have := texIdeal_mono it.first.px it.first.w it.first.h 0 (Nat.sub_le it.level 1)
      simp only [TexIter.elapsed, TexIter.T]; omega
  · split
    · next h0 hi =>
      obtain ⟨i, hi⟩ : ∃ i, it.idx = i + 1 := ⟨it.idx - 1, by omega⟩
      refine ⟨v.of_cursor rfl rfl ?_, ?_, rfl, rfl, ?_⟩
      · have := v.idx_le; have := v.mips_pos; dsimp only; omega
      · have := v.mips_pos
        simp only [TexIter.abs, hi, Nat.add_sub_cancel, Nat.succ_mul]; omega
      · have := texIdeal_mono it.first.px it.first.w it.first.h 0 (Nat.sub_le it.first.mips 1)
        simp only [TexIter.elapsed, TexIter.T, hi, Nat.add_sub_cancel, Nat.succ_mul]; omega
    · next h0 hi =>
      refine ⟨v, ?_, rfl, rfl, Nat.le_refl _⟩
      rw [TexIter.abs, Nat.le_zero.1 (Nat.not_lt.1 hi), Nat.le_zero.1 (Nat.not_lt.1 h0), Nat.zero_mul]

theorem TexIter.Inv.rewind {it : TexIter} (v : it.Inv) :
    it.rewind.Inv ∧ it.rewind.abs = it.abs - 1 ∧ it.rewind.first = it.first ∧
      it.rewind.len = it.len :=
  ⟨v.rewind_spec.1, v.rewind_spec.2.1, v.rewind_spec.2.2.1, v.rewind_spec.2.2.2.1⟩

theorem TexIter.Inv.rewind_elapsed_le {it : TexIter} (v : it.Inv) :
    it.rewind.elapsed ≤ it.elapsed :=
  v.rewind_spec.2.2.2.2

theorem texElapsedLoop_eq (t : Texture) (v : t.Valid) :
    ∀ (n level acc : Nat), level + n ≤ t.mips →
      acc + texIdeal t.px t.w t.h level n < U64 →
      texElapsedLoop t n level acc = some (acc + texIdeal t.px t.w t.h level n) := by
  intro n
  induction n with
  | zero => intro level acc _ _; rfl
  | succ n ih =>
    intro level acc hle hlt
    rw [texIdeal] at hlt ⊢
    rw [texElapsedLoop, Texture.getP, v.iterMipsP, Option.map_some, specMips_getElem,
      if_pos (by omega), Nat.zero_add]
    simp only
    rw [wAdd_eq (by omega), ih _ _ (by omega) (by omega), Nat.add_assoc]

theorem TexIter.Inv.elapsed_le {it : TexIter} (v : it.Inv) : it.elapsed ≤ it.len * it.T := by
  by_cases h : it.idx < it.len
  · have h1 := Nat.mul_le_mul_right it.T h
    have h2 := texIdeal_mono it.first.px it.first.w it.first.h 0 v.level_le
    rw [Nat.succ_mul] at h1
    simp only [TexIter.elapsed, TexIter.T] at *; omega
  · rw [TexIter.elapsed, (v.at_end h).1, (v.at_end h).2]; exact Nat.le_refl _

/-- `elapsed_bytes()` is the ideal offset of the cursor; no panic, no wrap. -/
theorem TexIter.Inv.elapsedP {it : TexIter} (v : it.Inv) : it.elapsedP = some it.elapsed := by
  have hle := v.elapsed_le
  have hfit := v.fits
  have h1 := Nat.mul_le_mul_right it.T v.idx_le
  simp only [TexIter.elapsed, TexIter.T] at hle h1
  rw [TexIter.elapsedP, v.firstValid.dataLenP]
  simp only [Texture.len]
  rw [Nat.mul_comm] at hle h1
  rw [wMul_eq (by omega),
    texElapsedLoop_eq it.first v.firstValid _ _ _ (by have := v.level_le; omega) (by omega),
    TexIter.elapsed, TexIter.T, Nat.mul_comm]

/-- `skip_mipmaps()` moves to level 0 of the next element (only from a level ≠ 0) and
returns exactly the bytes in between. -/
theorem TexIter.Inv.skipMipmapsP {it : TexIter} (v : it.Inv) :
    ∃ it' n, it.skipMipmapsP = some (it', n) ∧ it'.Inv ∧ it'.first = it.first ∧ it'.len = it.len ∧
      it'.elapsed = it.elapsed + n ∧
      (if it.idx < it.len ∧ it.level ≠ 0 then it'.idx = it.idx + 1 ∧ it'.level = 0
       else it' = it ∧ n = 0) := by
  unfold TexIter.skipMipmapsP
  by_cases h : it.idx < it.len ∧ it.level ≠ 0
  · have hl := Nat.le_of_lt (v.level_lt h.1)
    have hlen := v.len_lt
    have htex := v.tex
    have hsplit := texIdeal_split it.first.px it.first.w it.first.h it.level 0
      (it.first.mips - it.level)
    rw [Nat.add_sub_cancel' hl, Nat.zero_add] at hsplit
    simp only [if_pos h]
    rw [v.firstValid.iterMipsP, wrap_succ (show it.idx + 1 < U32 by omega)]
    refine ⟨_, _, rfl, v.of_cursor rfl rfl ?_, rfl, rfl, ?_, ⟨rfl, rfl⟩⟩
    · have := v.mips_pos; dsimp only; omega
    · rw [sumLens, specMips_eq_specList, specList_drop _ _ _ _ _ _ hl, Nat.zero_add,
        specList_foldl _ _ Surface.len, ← texIdeal_eq_levelSum]
      · simp only [TexIter.elapsed, TexIter.T, Nat.succ_mul, texIdeal]; omega
      · exact fun _ _ _ => rfl
      · rw [← texIdeal_eq_levelSum]; omega
  · simp only [if_neg h]
    exact ⟨it, 0, rfl, v, rfl, rfl, rfl, rfl, rfl⟩

/-- number of depth slices in levels `level .. level+n-1` -/
def depthSum (d : Nat) : (level n : Nat) → Nat
  | _, 0 => 0
  | level, n + 1 => mipSize d level + depthSum d (level + 1) n

theorem depthSum_eq_levelSum (d : Nat) : ∀ (n level : Nat),
    depthSum d level n = levelSum (mipSize d) level n := by
  intro n
  induction n with
  | zero => intro _; rfl
  | succ n ih => intro level; simp only [depthSum, levelSum, ih]

theorem depthSum_split (d : Nat) : ∀ (a level b : Nat),
    depthSum d level (a + b) = depthSum d level a + depthSum d (level + a) b := by
  simp only [depthSum_eq_levelSum]; exact fun a level b => levelSum_split _ a level b

theorem depthSum_succ_right (d level a : Nat) :
    depthSum d level (a + 1) = depthSum d level a + mipSize d (level + a) := by
  simp only [depthSum_eq_levelSum]; exact levelSum_succ_right _ level a

theorem depthSum_succ (d l : Nat) : depthSum d 0 (l + 1) = depthSum d 0 l + mipSize d l := by
  rw [depthSum_succ_right, Nat.zero_add]

theorem depthSum_mono (d level : Nat) {a b : Nat} (hab : a ≤ b) :
    depthSum d level a ≤ depthSum d level b := by
  simp only [depthSum_eq_levelSum]; exact levelSum_mono _ level hab

/-- the invariant of `VolumeSurfaceIterator` -/
structure VolIter.Inv (it : VolIter) : Prop where
  valid : it.volume.Valid
  mips_pos : 1 ≤ it.volume.mips
  mips_lt : it.volume.mips < 256
  d_lt : it.volume.d < U32
  d_pos : 0 < it.volume.d
  cursor : (it.level < it.volume.mips ∧ it.depth < mipSize it.volume.d it.level) ∨
           (it.level = it.volume.mips ∧ it.depth = 0)

def VolIter.abs (it : VolIter) : Nat := depthSum it.volume.d 0 it.level + it.depth
def VolIter.N (it : VolIter) : Nat := depthSum it.volume.d 0 it.volume.mips

def Volume.sliceLen (v : Volume) (level : Nat) : Nat :=
  v.px.surfIdeal (mipSize v.w level) (mipSize v.h level)

def VolIter.elapsed (it : VolIter) : Nat :=
  volIdeal it.volume.px it.volume.w it.volume.h it.volume.d 0 it.level
    + it.depth * it.volume.sliceLen it.level

theorem Volume.volIdeal_succ (v : Volume) (l : Nat) :
    volIdeal v.px v.w v.h v.d 0 (l + 1) =
      volIdeal v.px v.w v.h v.d 0 l + v.sliceLen l * mipSize v.d l := by
  rw [volIdeal_succ_right, Nat.zero_add]; rfl

theorem Volume.Valid.getP {v : Volume} (hv : v.Valid) (l : Nat) :
    v.getP l = some (if l < v.mips then
      some ⟨mipSize v.w l, mipSize v.h l, mipSize v.d l, volIdeal v.px v.w v.h v.d 0 l,
            v.sliceLen l⟩ else none) := by
  rw [Volume.getP, hv.iterMipsP, Option.map_some, specVol_getElem]
  simp only [Nat.zero_add, Volume.sliceLen]

theorem Volume.level_fits (v : Volume) {l : Nat} (hl : l < v.mips) :
    volIdeal v.px v.w v.h v.d 0 l + v.sliceLen l * mipSize v.d l ≤
      volIdeal v.px v.w v.h v.d 0 v.mips := by
  rw [← v.volIdeal_succ]; exact volIdeal_mono _ _ _ _ _ hl

/-- only the cursor has to be checked again for a state with the same volume -/
theorem VolIter.Inv.of_cursor {it it' : VolIter} (v : it.Inv) (hv : it'.volume = it.volume)
    (hc : (it'.level < it'.volume.mips ∧ it'.depth < mipSize it'.volume.d it'.level) ∨
      (it'.level = it'.volume.mips ∧ it'.depth = 0)) : it'.Inv := by
  obtain ⟨vol, l, d⟩ := it'
  obtain rfl : vol = it.volume := hv
  exact { v with cursor := hc }

theorem VolIter.Inv.new {vol : Volume} (v : vol.Valid) (hm : 1 ≤ vol.mips) (hml : vol.mips < 256)
    (hd : vol.d < U32) (hdp : 0 < vol.d) : VolIter.Inv ⟨vol, 0, 0⟩ :=
  ⟨v, hm, hml, hd, hdp, Or.inl ⟨hm, mipSize_pos _ _⟩⟩

theorem VolIter.Inv.depth_lt {it : VolIter} (v : it.Inv) (h : it.level < it.volume.mips) :
    it.depth < mipSize it.volume.d it.level := by
  have := v.cursor; omega

theorem VolIter.Inv.at_end {it : VolIter} (v : it.Inv) (h : ¬ it.level < it.volume.mips) :
    it.level = it.volume.mips ∧ it.depth = 0 := by
  have := v.cursor; omega

theorem VolIter.Inv.level_le {it : VolIter} (v : it.Inv) : it.level ≤ it.volume.mips := by
  have := v.cursor; omega

theorem VolIter.Inv.abs_lt_iff {it : VolIter} (v : it.Inv) :
    it.abs < it.N ↔ it.level < it.volume.mips := by
  unfold VolIter.abs VolIter.N
  by_cases h : it.level < it.volume.mips
  · have := depthSum_mono it.volume.d 0 h
    have := v.depth_lt h
    rw [depthSum_succ] at *; omega
  · rw [(v.at_end h).1, (v.at_end h).2]; omega

theorem VolIter.Inv.abs_le {it : VolIter} (v : it.Inv) : it.abs ≤ it.N := by
  by_cases h : it.level < it.volume.mips
  · exact Nat.le_of_lt (v.abs_lt_iff.2 h)
  · unfold VolIter.abs VolIter.N; rw [(v.at_end h).1, (v.at_end h).2]; omega

theorem VolIter.Inv.currentP {it : VolIter} (v : it.Inv) :
    it.currentP = some (if it.level < it.volume.mips then
      some ⟨mipSize it.volume.w it.level, mipSize it.volume.h it.level,
            it.volume.sliceLen it.level, it.level⟩ else none) := by
  rw [VolIter.currentP, v.valid.getP]
  by_cases hl : it.level < it.volume.mips
  · simp only [if_pos hl, VolumeDesc.getDepthSlice, if_pos (v.depth_lt hl)]
  · simp only [if_neg hl]

/-- under the invariant neither counter of `advance` wraps -/
theorem VolIter.Inv.advanceP_eq {it : VolIter} (v : it.Inv) :
    it.advanceP = some (if it.level < it.volume.mips then
      if it.depth + 1 < mipSize it.volume.d it.level then { it with depth := it.depth + 1 }
      else { it with level := it.level + 1, depth := 0 }
    else it) := by
  rw [VolIter.advanceP, v.valid.getP]
  by_cases hl : it.level < it.volume.mips
  · have := v.depth_lt hl
    have := mipSize_lt_U32 it.volume.d it.level v.d_lt
    have := v.mips_lt
    simp only [if_pos hl, wrap_succ (show it.depth + 1 < U32 by omega),
      wrap_succ (show it.level + 1 < U8 by unfold U8; omega)]
    split <;> rfl
  · simp only [if_neg hl]

/-- `advance` moves to the next slice, or to slice 0 of the next level, and stays at the end; the
elapsed bytes grow by the length of the slice left behind. -/
theorem VolIter.Inv.advanceP_spec {it : VolIter} (v : it.Inv) :
    ∃ it', it.advanceP = some it' ∧ it'.Inv ∧ it'.abs = min (it.abs + 1) it.N ∧
      it'.volume = it.volume ∧
      (it.level < it.volume.mips → it'.elapsed = it.elapsed + it.volume.sliceLen it.level) := by
  refine ⟨_, v.advanceP_eq, ?_⟩
  by_cases hl : it.level < it.volume.mips
  · have hd := v.depth_lt hl
    rw [if_pos hl, Nat.min_eq_left (v.abs_lt_iff.2 hl)]
    split
    · next hn =>
      refine ⟨v.of_cursor rfl (Or.inl ⟨hl, hn⟩), ?_, rfl, fun _ => ?_⟩
      · simp only [VolIter.abs]; omega
      · simp only [VolIter.elapsed, Nat.add_mul, Nat.one_mul]; omega
    · next hn =>
      have hm : mipSize it.volume.d it.level = it.depth + 1 := by omega
      refine ⟨v.of_cursor rfl ?_, ?_, rfl, fun _ => ?_⟩
      · have := mipSize_pos it.volume.d (it.level + 1); dsimp only; omega
      · simp only [VolIter.abs, depthSum_succ]; omega
      · simp only [VolIter.elapsed, it.volume.volIdeal_succ, hm, Nat.zero_mul, Nat.mul_add,
          Nat.mul_one, Nat.mul_comm it.depth]
        omega
  · rw [if_neg hl]
    have := v.abs_le
    have := v.abs_lt_iff
    exact ⟨v, by rw [Nat.min_def]; split <;> omega, rfl, fun h => absurd h hl⟩

theorem VolIter.Inv.advanceP {it : VolIter} (v : it.Inv) :
    ∃ it', it.advanceP = some it' ∧ it'.Inv ∧ it'.abs = min (it.abs + 1) it.N ∧
      it'.volume = it.volume :=
  let ⟨it', h1, h2, h3, h4, _⟩ := v.advanceP_spec
  ⟨it', h1, h2, h3, h4⟩

theorem VolIter.Inv.advance_elapsed {it : VolIter} (v : it.Inv) (hl : it.level < it.volume.mips) :
    ∃ it', it.advanceP = some it' ∧ it'.elapsed = it.elapsed + it.volume.sliceLen it.level :=
  let ⟨it', h1, _, _, _, h5⟩ := v.advanceP_spec
  ⟨it', h1, h5 hl⟩

/-- the wrapping decrements of `rewind` are the plain ones, and the checked ones do not fail -/
theorem VolIter.Inv.rewindP_eq {it : VolIter} (v : it.Inv) :
    it.rewindP = some (if it.depth > 0 then { it with depth := it.depth - 1 }
      else if it.level > 0 then
        { it with level := it.level - 1, depth := mipSize it.volume.d (it.level - 1) - 1 }
      else it) := by
  unfold VolIter.rewindP
  split
  · rfl
  · split
    · have := v.level_le
      rw [v.valid.getP, if_pos (by omega)]
      simp only [wrap_pred (mipSize_pos _ _) (mipSize_lt_U32 it.volume.d (it.level - 1) v.d_lt)]
    · rfl

/-- `rewind` moves to the previous slice, or to the last slice of the previous level, and stays at
the start; the elapsed bytes do not grow. -/
theorem VolIter.Inv.rewindP_spec {it : VolIter} (v : it.Inv) :
    ∃ it', it.rewindP = some it' ∧ it'.Inv ∧ it'.abs = it.abs - 1 ∧ it'.volume = it.volume ∧
      it'.elapsed ≤ it.elapsed := by
  refine ⟨_, v.rewindP_eq, ?_⟩
  split
  · refine ⟨v.of_cursor rfl ?_, ?_, rfl, ?_⟩
    · have := v.cursor; dsimp only; omega
    · simp only [VolIter.abs]; omega
    · have := Nat.mul_le_mul_right (it.volume.sliceLen it.level) (Nat.sub_le it.depth 1)
      simp only [VolIter.elapsed]; omega
  · split
    · next hd hl =>
      obtain ⟨l, hl⟩ : ∃ l, it.level = l + 1 := ⟨it.level - 1, by omega⟩
      have := mipSize_pos it.volume.d l
      refine ⟨v.of_cursor rfl ?_, ?_, rfl, ?_⟩
      · have := v.level_le; simp only [hl, Nat.add_sub_cancel]; omega
      · simp only [VolIter.abs, hl, Nat.add_sub_cancel, depthSum_succ]; omega
      · have := Nat.mul_le_mul_left (it.volume.sliceLen l) (Nat.sub_le (mipSize it.volume.d l) 1)
        simp only [VolIter.elapsed, hl, Nat.add_sub_cancel, it.volume.volIdeal_succ,
          Nat.mul_comm _ (it.volume.sliceLen l)]
        omega
    · next hd hl =>
      refine ⟨v, ?_, rfl, Nat.le_refl _⟩
      rw [VolIter.abs, Nat.le_zero.1 (Nat.not_lt.1 hl), Nat.le_zero.1 (Nat.not_lt.1 hd)]; rfl

theorem VolIter.Inv.rewindP {it : VolIter} (v : it.Inv) :
    ∃ it', it.rewindP = some it' ∧ it'.Inv ∧ it'.abs = it.abs - 1 ∧ it'.volume = it.volume :=
  let ⟨it', h1, h2, h3, h4, _⟩ := v.rewindP_spec
  ⟨it', h1, h2, h3, h4⟩

theorem VolIter.Inv.rewind_elapsed_le {it : VolIter} (v : it.Inv) :
    ∃ it', it.rewindP = some it' ∧ it'.elapsed ≤ it.elapsed :=
  let ⟨it', h1, _, _, _, h5⟩ := v.rewindP_spec
  ⟨it', h1, h5⟩

theorem volElapsedLoop_eq (vol : Volume) (hv : vol.Valid) :
    ∀ (n level acc : Nat), level + n ≤ vol.mips →
      acc + volIdeal vol.px vol.w vol.h vol.d level n < U64 →
      volElapsedLoop vol n level acc = some (acc + volIdeal vol.px vol.w vol.h vol.d level n) := by
  intro n
  induction n with
  | zero => intro level acc _ _; rfl
  | succ n ih =>
    intro level acc hle hlt
    rw [volIdeal] at hlt ⊢
    rw [volElapsedLoop, hv.getP, if_pos (by omega)]
    simp only [VolumeDesc.dataLen, Volume.sliceLen]
    rw [wMul_eq (by omega), wAdd_eq (by omega), ih _ _ (by omega) (by omega), Nat.add_assoc]

theorem VolIter.Inv.elapsed_le {it : VolIter} (v : it.Inv) :
    it.elapsed ≤ volIdeal it.volume.px it.volume.w it.volume.h it.volume.d 0 it.volume.mips := by
  by_cases h : it.level < it.volume.mips
  · have h1 := it.volume.level_fits h
    have h2 := Nat.mul_le_mul_right (it.volume.sliceLen it.level) (Nat.le_of_lt (v.depth_lt h))
    rw [Nat.mul_comm (mipSize _ _)] at h2
    rw [VolIter.elapsed]; omega
  · rw [VolIter.elapsed, (v.at_end h).1, (v.at_end h).2, Nat.zero_mul]; exact Nat.le_refl _

/-- `elapsed_bytes()` of the volume iterator is the ideal offset of the cursor. -/
theorem VolIter.Inv.elapsedP {it : VolIter} (v : it.Inv) : it.elapsedP = some it.elapsed := by
  have hfit := v.valid.fits
  have hle := v.elapsed_le
  have hpre := volIdeal_mono it.volume.px it.volume.w it.volume.h it.volume.d 0 v.level_le
  rw [VolIter.elapsed] at hle
  rw [VolIter.elapsedP,
    volElapsedLoop_eq it.volume v.valid _ _ _ (by have := v.level_le; omega) (by omega),
    v.valid.getP, VolIter.elapsed, Nat.zero_add]
  by_cases hl : it.level < it.volume.mips
  · rw [Nat.mul_comm] at hle
    simp only [if_pos hl, VolumeDesc.getDepthSlice, if_pos (mipSize_pos it.volume.d it.level)]
    rw [wMul_eq (by omega), wAdd_eq (by omega), Nat.mul_comm]
  · simp only [if_neg hl, (v.at_end hl).2, Nat.zero_mul, Nat.add_zero]

/-- `skip_mipmaps()` on a volume: error inside a level, no-op at level 0 and at the end,
otherwise jump to the end, returning exactly the bytes in between. -/
theorem VolIter.Inv.skipMipmapsP {it : VolIter} (v : it.Inv) :
    (it.depth ≠ 0 → it.skipMipmapsP = some (.error ())) ∧
    (it.depth = 0 → ∃ it' n, it.skipMipmapsP = some (.ok (it', n)) ∧ it'.Inv ∧
      it'.volume = it.volume ∧ it'.elapsed = it.elapsed + n ∧
      (if it.level = 0 ∨ it.level ≥ it.volume.mips then it' = it ∧ n = 0
       else it'.level = it.volume.mips ∧ it'.depth = 0)) := by
  unfold VolIter.skipMipmapsP
  refine ⟨fun hd => if_pos hd, fun hd => ?_⟩
  rw [if_neg (by omega)]
  by_cases hc : it.level = 0 ∨ it.level ≥ it.volume.mips
  · simp only [if_pos hc]
    exact ⟨it, 0, rfl, v, rfl, rfl, rfl, rfl⟩
  · have hl : it.level ≤ it.volume.mips := by omega
    have hfit := v.valid.fits
    have hsplit := volIdeal_split it.volume.px it.volume.w it.volume.h it.volume.d it.level 0
      (it.volume.mips - it.level)
    rw [Nat.add_sub_cancel' hl, Nat.zero_add] at hsplit
    simp only [if_neg hc]
    rw [v.valid.iterMipsP]
    refine ⟨_, _, rfl, v.of_cursor rfl (Or.inr ⟨rfl, hd⟩), rfl, ?_, rfl, hd⟩
    rw [sumVolLens, specVol_eq_specList, specList_drop _ _ _ _ _ _ hl, Nat.zero_add,
      specList_foldl _ _ VolumeDesc.dataLen, ← volIdeal_eq_levelSum]
    · simp only [VolIter.elapsed, hd, Nat.zero_mul]; omega
    · exact fun _ _ h => wMul_eq h
    · rw [← volIdeal_eq_levelSum]; omega

end Dds
