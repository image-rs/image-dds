/-
C13, opacity of BC7 blocks — the DISCRETE control flow of the encoder that bears on it (src/encode/bc7.rs,
src/encode/bc.rs `BC7_UNORM`).  Every f32 result (endpoint fit, `Quantization::pick_best`, `channel_round/floor/ceil`,
the error estimates of `get_best`/`get_best_2`, the errors compared by `pick_best_of_directly`) is a PARAMETER of the
definitions below, never computed: the theorems hold for whatever the float code returns.

The definitions (`bc7ModesTried`, `possiblePBits`, `pickBestStates`, `pickBestOfDirectly`, `pSwap`, `singleAlpha`, …) live
in the model file `Enc13.lean` and are evaluated by the driver on every run: `Enc13.bc7Rule` turns them into a constraint
on the header fields of the emitted block (mode, rotation, p-bits, alpha endpoint fields), which the tie compares with the
fields read back from what `dds::encode` emitted (notes/C13.md, "Tie").  They are also backed by the oracle clause
`opaque-lost` and the self-tests M6, M12–M22 (notes/C13.md; M11 is recorded there as missed).

What is and is not discrete, for a fully opaque, not single-coloured block (the single-coloured one is
`compress_single_color`, proved exact in `Proofs/Bc7Single.lean`):
  * which modes are tried: discrete (`bc7ModesTried`) — never mode 7 at any quality preset;
  * modes 0–3: no alpha is stored, every decoder shows 255 (`Bc7Spec.noalpha_endpoint`);
  * modes 6 (and 7): the p-bit candidates are forced to `[[true, true]]` — discrete (`possiblePBits`,
    `pickBestStates`); the 7-bit (5-bit) alpha endpoint VALUES come from `Quantization::pick_best` on the fitted
    f32 line — float-dependent, NOT proved to be all ones;
  * modes 4, 5 with `Rotation::None`: `single_alpha() = Some(255)`; `round = Alpha::<A>::round(255.0 * (1/255))` is
    float (`channel_round`); the guard `round.promote().a == a` is discrete: if it holds both endpoints are
    `round` and they promote to exactly `a` (`singleAlpha_exact`); the else-branch (floor, ceil, `closest_alpha`)
    is float-dependent;
  * modes 4, 5 with a rotation ≠ None: the constant alpha 255 travels in a COLOUR channel through the float
    endpoint search — float-dependent.  (For an opaque block `RotationSelect::pick_best` even skips `Rotation::None`
    when no rotation is forced, because `r.channel() = 3` is then a constant channel.)
-/
import DdsModel.Enc13
import DdsModel.Range
namespace Dds.Enc13
open Dds Dds.Bc

/-! ### which modes are tried (`compress_bc7_block`, bc7.rs lines 95–136; presets: bc.rs lines 480–491, 526) -/

/-- opaque block (`min.a = 255`, hence `max.a = 255`): whenever the options allow at least one of the modes 0–6,
mode 7 is not tried and some mode is; in particular at every quality preset the tried modes are exactly the allowed
modes among 0–6 -/
theorem opaque_modes :
    (∀ allowed, allowed ≤ 255 → allowed &&& 127 ≠ 0 →
      bc7ModesTried 255 255 allowed 0 = allowed &&& 127 ∧ bc7ModesTried 255 255 allowed 0 &&& MODE 7 = 0) ∧
    (∀ q, bc7ModesTried 255 255 (bc7Allowed q) 0 = bc7Allowed q &&& 127 ∧ bc7Allowed q &&& 127 ≠ 0) := by
  constructor
  · exact forall_le_of_allRange (d := 3) (by decide +kernel)
  · intro q; cases q <;> decide

/-- a block that mixes opaque and non-opaque pixels (`min.a < 255 = max.a`) is never tried in mode 6 at the quality
presets (mode 6 shares the index between colour and alpha, so opaque pixels could lose opacity) -/
theorem mixed_no_mode6 : ∀ minA, minA < 255 → ∀ q, bc7ModesTried minA 255 (bc7Allowed q) 0 &&& MODE 6 = 0 := by
  intro minA h q
  have := forall_lt_of_allRange (d := 3) (n := 255) (P := fun minA =>
    ∀ q ∈ [Quality.fast, .normal, .high, .unreasonable], bc7ModesTried minA 255 (bc7Allowed q) 0 &&& MODE 6 = 0)
    (by decide +kernel) minA h
  exact this q (by cases q <;> decide)

/-! ### p-bits of `compress_rgba` (modes 6 and 7): bc7.rs lines 629–631, 757–808, 1574–1580, 1602–1609 -/

theorem pickBestOfDirectly_mem {S : Type} (poss : List S) (err : S → Nat) (s : S)
    (h : pickBestOfDirectly poss err = some s) : s ∈ poss := by
  cases poss with
  | nil => simp [pickBestOfDirectly] at h
  | cons p rest =>
    simp only [pickBestOfDirectly, Option.some.injEq] at h
    subst h
    have key : ∀ (l : List S) (init : Nat × S), (l.foldl (fun (best : Nat × S) p =>
        if err p < best.1 then (err p, p) else best) init).2 = init.2 ∨
        (l.foldl (fun (best : Nat × S) p => if err p < best.1 then (err p, p) else best) init).2 ∈ l := by
      intro l
      induction l with
      | nil => intro init; exact Or.inl rfl
      | cons a l ih =>
        intro init
        rw [List.foldl_cons]
        by_cases hlt : err a < init.1
        · rw [if_pos hlt]
          rcases ih (err a, a) with h | h
          · exact Or.inr (by rw [h]; exact List.mem_cons_self)
          · exact Or.inr (List.mem_cons_of_mem _ h)
        · rw [if_neg hlt]
          rcases ih init with h | h
          · exact Or.inl h
          · exact Or.inr (List.mem_cons_of_mem _ h)
    rcases key rest (err p, p) with h | h
    · rw [h]; exact List.mem_cons_self
    · exact List.mem_cons_of_mem _ h

/-- Fully opaque subset: whatever `max_p_bit_combinations`, the estimates and the errors are, the p-bits chosen by
`compress_rgba` are (1, 1), and they stay (1, 1) under the endpoint swap of `Compressed::mode6` / `mode7`. -/
theorem opaque_pbits (maxComb : Nat) (best1 : List (Bool × Bool) → Bool × Bool)
    (best2 : List (Bool × Bool) → List (Bool × Bool)) (err : Bool × Bool → Nat) (swap : Bool) :
    pickBestStates (possiblePBits true) ALL_UNIQUE maxComb best1 best2 = [(true, true)] ∧
    (pickBestOfDirectly (pickBestStates (possiblePBits true) ALL_UNIQUE maxComb best1 best2) err).map (pSwap · swap) =
      some (true, true) := by
  have h : pickBestStates (possiblePBits true) ALL_UNIQUE maxComb best1 best2 = [(true, true)] := by
    simp [pickBestStates, possiblePBits]
  refine ⟨h, ?_⟩
  rw [h]
  cases swap <;> rfl

/-! ### constant alpha in modes 4 and 5 (`compress_color_separate_alpha_with_rotation`, bc7.rs lines 534–545) -/

/-- exact branch: both stored endpoints promote to exactly `a`, so every interpolation weight gives back `a` -/
theorem singleAlpha_exact (A a round floor ceil : Nat) (h : (singleAlpha A a round floor ceil).2 = true) (w : Nat)
    (hw : w ≤ 64) :
    promoteAlpha A (singleAlpha A a round floor ceil).1.1 = a ∧ promoteAlpha A (singleAlpha A a round floor ceil).1.2 = a ∧
    Bc7Spec.interp (promoteAlpha A (singleAlpha A a round floor ceil).1.1)
      (promoteAlpha A (singleAlpha A a round floor ceil).1.2) w = a := by
  unfold singleAlpha at h ⊢
  by_cases hg : promoteAlpha A round = a
  · simp only [hg, if_true]
    refine ⟨trivial, trivial, ?_⟩
    unfold Bc7Spec.interp
    have : (64 - w) * a + w * a = 64 * a := by rw [← Nat.add_mul]; congr 1; omega
    omega
  · simp [hg] at h

/-- for `a = 255` the guard allows exactly the all-ones endpoint: 63 in mode 4 (6 bits), 255 in mode 5 (8 bits) -/
theorem singleAlpha_opaque_guard :
    (∀ round, round < 64 → (promoteAlpha 6 round = 255 ↔ round = 63)) ∧
    (∀ round, round < 256 → (promoteAlpha 8 round = 255 ↔ round = 255)) := by
  constructor
  · decide
  · intro round _; simp [promoteAlpha]

end Dds.Enc13
