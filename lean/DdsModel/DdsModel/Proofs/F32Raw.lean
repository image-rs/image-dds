/-
Kernel-friendly versions of the integer float operations of `Proofs/F32Fast.lean`.

The kernel evaluates `Nat.add`, `Nat.mul`, `Nat.div`, `Nat.pow`, … on literals with GMP, but every type-class
layer (`HAdd.hAdd → Add.add → Nat.add`), every `Decidable` instance and all `Int` arithmetic is unfolded
step by step.  The definitions here are written with the primitives directly (`Nat.add`, `Nat.ble`, `sel`),
exponents are kept as biased natural numbers, `Nat.log2` (not accelerated) is replaced by the checked binary
search `Fast.lg`, and intermediate values are shared by β-redexes (`lz`).  Each is proved equal to the
corresponding `Fast`/`F32` operation for ALL arguments: where the cheap formula needs a side condition
(non-negative operands, denominators below `2^400`) the definition tests it and otherwise falls back to the
general operation, so no range hypotheses leak into the statements.
-/
import DdsModel.Proofs.F32Fast
namespace Dds.F32.Raw
open Dds.F32

/-- sharing by a β-redex: the kernel substitutes the unevaluated `x`, evaluates it at its first use and finds
the result in its cache afterwards -/
def lz {α : Type} (x : Nat) (f : Nat → α) : α := f x
theorem lz_eq {α : Type} (x : Nat) (f : Nat → α) : lz x f = f x := id rfl

/-- `cond c a b`.  Written on `Bool.casesOn` because the kernel reaches the recursor from here in two unfoldings; from
`cond` it goes through the auxiliary matcher as well, and a float operation makes this choice dozens of times. -/
def sel {α : Type} (c : Bool) (a b : α) : α := Bool.casesOn c b a
theorem sel_true {α : Type} (a b : α) : sel true a b = a := rfl
theorem sel_false {α : Type} (a b : α) : sel false a b = b := rfl
theorem sel_eq_cond {α : Type} (c : Bool) (a b : α) : sel c a b = cond c a b := by cases c <;> rfl

theorem nadd (a b : Nat) : Nat.add a b = a + b := rfl
theorem nsub (a b : Nat) : Nat.sub a b = a - b := rfl
theorem nmul (a b : Nat) : Nat.mul a b = a * b := rfl
theorem ndiv (a b : Nat) : Nat.div a b = a / b := rfl
theorem nmod (a b : Nat) : Nat.mod a b = a % b := rfl
theorem npow (a b : Nat) : Nat.pow a b = a ^ b := rfl
theorem nshl (a b : Nat) : Nat.shiftLeft a b = a <<< b := rfl

theorem ble_dec (a b : Nat) : Nat.ble a b = decide (a ≤ b) := by
  cases h : Nat.ble a b
  · exact (decide_eq_false fun hle => Bool.false_ne_true (h.symm.trans (Nat.ble_eq_true_of_le hle))).symm
  · exact (decide_eq_true (Nat.ble_eq.mp h)).symm
theorem blt_dec (a b : Nat) : Nat.blt a b = decide (a < b) := ble_dec _ _
theorem beq_dec (a b : Nat) : Nat.beq a b = decide (a = b) := by
  cases h : Nat.beq a b
  · exact (decide_eq_false (Nat.ne_of_beq_eq_false h)).symm
  · exact (decide_eq_true (Nat.eq_of_beq_eq_true h)).symm
theorem cond_dec {α : Type} (p : Prop) [Decidable p] (x y : α) : cond (decide p) x y = if p then x else y := by
  by_cases h : p <;> simp [h]
theorem sel_dec {α : Type} (p : Prop) [Decidable p] (x y : α) : sel (decide p) x y = if p then x else y := by
  rw [sel_eq_cond, cond_dec]
theorem sel_ble {α : Type} (a b : Nat) (x y : α) : sel (Nat.ble a b) x y = if a ≤ b then x else y := by
  rw [ble_dec, sel_dec]
theorem sel_blt {α : Type} (a b : Nat) (x y : α) : sel (Nat.blt a b) x y = if a < b then x else y := by
  rw [blt_dec, sel_dec]
theorem sel_beq {α : Type} (a b : Nat) (x y : α) : sel (Nat.beq a b) x y = if a = b then x else y := by
  rw [beq_dec, sel_dec]

/-- the part of `roundF32Q` after the scaling: round `num/den` to an integer (ties to even), add the
biased exponent, saturate to infinity -/
def fin (num den bexp : Nat) : Nat :=
  let q := num / den
  let r := num % den
  let m := if 2 * r > den ∨ (2 * r = den ∧ q % 2 = 1) then q + 1 else q
  let bits := bexp * 8388608 + m
  if bits ≥ 0x7F800000 then 0x7F800000 else bits

theorem roundF32Q_fin (n d : Nat) : roundF32Q n d =
    if n = 0 then 0 else
    let ee : Int := if ilog2Q n d < -126 then -126 else ilog2Q n d
    fin (if 23 - ee ≥ 0 then n <<< (23 - ee).toNat else n) (if 23 - ee ≥ 0 then d else d <<< (-(23 - ee)).toNat)
      (ee + 126).toNat := rfl

/-- `ilog2Q n d + 400` -/
def ilogB (n d : Nat) : Nat :=
  let E0 := Nat.log2 n + 400 - Nat.log2 d
  let ge := if 400 ≤ E0 then decide (d <<< (E0 - 400) ≤ n) else decide (d ≤ n <<< (400 - E0))
  if ge then E0 else E0 - 1

theorem ilogB_eq (n d : Nat) (hd : Nat.log2 d < Nat.log2 n + 400) : (ilogB n d : Int) = ilog2Q n d + 400 := by
  unfold ilogB ilog2Q geTwoPow
  simp only
  generalize Nat.log2 n = ln at *
  generalize Nat.log2 d = ld at *
  have h0 : ((ln : Int) - (ld : Int) ≥ 0) ↔ 400 ≤ ln + 400 - ld := by omega
  have h1 : ((ln : Int) - (ld : Int)).toNat = ln + 400 - ld - 400 := by omega
  have h2 : (-((ln : Int) - (ld : Int))).toNat = 400 - (ln + 400 - ld) := by omega
  rw [h1, h2]
  simp only [h0]
  by_cases h400 : 400 ≤ ln + 400 - ld
  · simp only [h400, if_true]
    generalize decide (d <<< (ln + 400 - ld - 400) ≤ n) = b
    cases b <;> simp <;> omega
  · simp only [h400, if_false]
    generalize decide (d ≤ n <<< (400 - (ln + 400 - ld))) = b
    cases b <;> simp <;> omega

/-- `roundF32Q` with natural-number exponents (bias 400) -/
def rqN (n d : Nat) : Nat :=
  if n = 0 then 0 else
  let E := ilogB n d
  let EE := if E < 274 then 274 else E
  fin (if EE ≤ 423 then n <<< (423 - EE) else n) (if EE ≤ 423 then d else d <<< (EE - 423)) (EE - 274)

theorem rqN_eq (n d : Nat) (hd : Nat.log2 d < Nat.log2 n + 400) : rqN n d = roundF32Q n d := by
  rw [roundF32Q_fin]
  unfold rqN
  have hE := ilogB_eq n d hd
  generalize ilogB n d = E at hE
  generalize ilog2Q n d = e at hE
  by_cases hn : n = 0
  · rw [if_pos hn, if_pos hn]
  · rw [if_neg hn, if_neg hn]
    simp only
    have c1 : (e < -126) ↔ E < 274 := by omega
    simp only [c1]
    by_cases hlt : E < 274
    · simp only [hlt, if_true]
      rfl
    · simp only [hlt, if_false]
      have c2 : (23 - e ≥ 0) ↔ E ≤ 423 := by omega
      have c3 : (23 - e).toNat = 423 - E := by omega
      have c4 : (-(23 - e)).toNat = E - 423 := by omega
      have c5 : (e + 126).toNat = E - 274 := by omega
      simp only [c2, c3, c4, c5]

/-- rounding of `num/den` to an integer, ties to even (primitives only).  Up iff `2r + q mod 2 > den`: one comparison
says both `2r > den` and the tie `2r = den` with `q` odd, where a Boolean `||`/`&&` would cost the kernel more than
the arithmetic -/
def rte (num den : Nat) : Nat :=
  lz (Nat.div num den) fun q =>
    sel (Nat.blt den (Nat.add (Nat.mul 2 (Nat.mod num den)) (Nat.mod q 2))) (Nat.add q 1) q

def finR (num den bexp : Nat) : Nat :=
  lz (Nat.add (Nat.mul bexp 8388608) (rte num den)) fun bits => sel (Nat.ble 0x7F800000 bits) 0x7F800000 bits

theorem finR_eq (num den bexp : Nat) : finR num den bexp = fin num den bexp := by
  unfold finR fin rte
  have c : (den < 2 * (num % den) + num / den % 2) ↔
      (2 * (num % den) > den ∨ (2 * (num % den) = den ∧ num / den % 2 = 1)) := by omega
  simp only [lz_eq, nadd, nmul, ndiv, nmod, sel_ble, sel_blt, c, ge_iff_le]

/-- `ilogB` on primitives (`ln = log2 n`, `ld = log2 d`) -/
def ilogR (n d ln ld : Nat) : Nat :=
  lz (Nat.sub (Nat.add ln 400) ld) fun E0 =>
    sel (sel (Nat.ble 400 E0) (Nat.ble (Nat.shiftLeft d (Nat.sub E0 400)) n)
            (Nat.ble d (Nat.shiftLeft n (Nat.sub 400 E0)))) E0 (Nat.sub E0 1)

theorem ilogR_eq (n d : Nat) : ilogR n d (Nat.log2 n) (Nat.log2 d) = ilogB n d := by
  unfold ilogR ilogB
  simp only [lz_eq, nadd, nsub, nshl, ble_dec, sel_dec]
  rw [sel_eq_cond]
  exact cond_eq_ite _ _ _

/-- scaling + rounding for the clamped biased exponent `EE` -/
def scaleR (n d EE : Nat) : Nat :=
  sel (Nat.ble EE 423)
    (lz (Nat.shiftLeft n (Nat.sub 423 EE)) fun num => finR num d (Nat.sub EE 274))
    (lz (Nat.shiftLeft d (Nat.sub EE 423)) fun den => finR n den (Nat.sub EE 274))

theorem scaleR_eq (n d EE : Nat) : scaleR n d EE =
    fin (if EE ≤ 423 then n <<< (423 - EE) else n) (if EE ≤ 423 then d else d <<< (EE - 423)) (EE - 274) := by
  unfold scaleR
  simp only [lz_eq, nsub, nshl, sel_ble, finR_eq]
  split <;> rfl

def clampR (E : Nat) : Nat := sel (Nat.blt E 274) 274 E

/-- `roundF32Q`, kernel-friendly; falls back to `roundF32Q` for denominators `≥ 2^400` -/
def rq (n d : Nat) : Nat :=
  lz (Fast.lg d) fun ld =>
    sel (Nat.ble ld 399)
      (sel (Nat.beq n 0) 0 (lz (clampR (ilogR n d (Fast.lg n) ld)) fun EE => scaleR n d EE))
      (roundF32Q n d)

theorem rq_eq (n d : Nat) : rq n d = roundF32Q n d := by
  unfold rq
  rw [lz_eq, Fast.lg_eq, Fast.lg_eq, sel_ble]
  by_cases hd : Nat.log2 d ≤ 399
  · rw [if_pos hd, ← rqN_eq n d (by omega)]
    unfold rqN
    rw [sel_beq, lz_eq, scaleR_eq, ilogR_eq]
    unfold clampR
    rw [sel_blt]
  · rw [if_neg hd]

/-! ### `roundF32Q` from a candidate exponent

A call of `Fast.lg` costs the kernel about as much as the rest of `rq`.  The caller knows the binade of `n/d` from the
exponent fields of its operands: up to one for a product, a sum or a root, from above for a difference.  Each candidate
is checked by one division (`okE`); if none passes, `rq` does the search. -/

/-- the comparison inside `ilogB` (bias `b = 400`), cross-multiplied: `n/d ≥ 2^(E−b)` -/
theorem ge_iff (n d E b : Nat) :
    (if b ≤ E then decide (d <<< (E - b) ≤ n) else decide (d ≤ n <<< (b - E))) = decide (d <<< E ≤ n <<< b) := by
  simp only [Nat.shiftLeft_eq]
  split
  · obtain ⟨j, rfl⟩ : ∃ j, E = j + b := ⟨E - b, by omega⟩
    apply decide_eq_decide.mpr
    rw [Nat.add_sub_cancel, Nat.pow_add, ← Nat.mul_assoc, Nat.mul_le_mul_right_iff (Nat.pow_pos (by decide))]
  · obtain ⟨j, rfl⟩ : ∃ j, b = j + E := ⟨b - E, by omega⟩
    apply decide_eq_decide.mpr
    rw [Nat.add_sub_cancel, Nat.pow_add, ← Nat.mul_assoc, Nat.mul_le_mul_right_iff (Nat.pow_pos (by decide))]

/-- `2^(E−b) ≤ n/d < 2^(E+1−b)` with `n`, `d` in the binades `ln`, `ld` pins `E` to `ln + b − ld` or one less -/
theorem binade_bounds {ln ld n d E b : Nat} (a1 : 2 ^ ln ≤ n) (a2 : n < 2 ^ (ln + 1)) (b1 : 2 ^ ld ≤ d)
    (b2 : d < 2 ^ (ld + 1)) (h1 : d * 2 ^ E ≤ n * 2 ^ b) (h2 : n * 2 ^ b < d * 2 ^ (E + 1)) :
    ld + E < ln + 1 + b ∧ ln + b < ld + 1 + (E + 1) := by
  constructor
  · apply (Nat.pow_lt_pow_iff_right (a := 2) (by decide)).mp
    rw [Nat.pow_add, Nat.pow_add (n := b)]
    exact Nat.lt_of_le_of_lt (Nat.le_trans (Nat.mul_le_mul_right _ b1) h1)
      (Nat.mul_lt_mul_of_pos_right a2 (Nat.pow_pos (by decide)))
  · apply (Nat.pow_lt_pow_iff_right (a := 2) (by decide)).mp
    rw [Nat.pow_add, Nat.pow_add (n := E + 1)]
    exact Nat.lt_of_le_of_lt (Nat.mul_le_mul_right _ a1)
      (Nat.lt_trans h2 (Nat.mul_lt_mul_of_pos_right b2 (Nat.pow_pos (by decide))))

/-- `ilogB n d` is the only `E` with `2^(E−400) ≤ n/d < 2^(E−399)` -/
theorem ilogB_unique (n d E : Nat) (hE : 0 < E) (h1 : d <<< E ≤ n <<< 400) (h2 : n <<< 400 < d <<< (E + 1)) :
    n ≠ 0 ∧ Nat.log2 d < Nat.log2 n + 400 ∧ ilogB n d = E := by
  unfold ilogB
  simp only [ge_iff]
  have g1 := h1
  have g2 := h2
  rw [Nat.shiftLeft_eq, Nat.shiftLeft_eq] at g1 g2
  have hd0 : d ≠ 0 := Nat.ne_of_gt (Nat.pos_of_mul_pos_right (Nat.lt_of_le_of_lt (Nat.zero_le _) g2))
  have hn0 : n ≠ 0 := Nat.ne_of_gt (Nat.pos_of_mul_pos_right
    (Nat.lt_of_lt_of_le (Nat.mul_pos (Nat.pos_of_ne_zero hd0) (Nat.pow_pos (by decide))) g1))
  have c := binade_bounds (Nat.log2_self_le hn0) Nat.lt_log2_self (Nat.log2_self_le hd0) Nat.lt_log2_self g1 g2
  generalize n.log2 = ln at c ⊢
  generalize d.log2 = ld at c ⊢
  refine ⟨hn0, by omega, ?_⟩
  by_cases hE : ln + 400 - ld = E
  · rw [hE, decide_eq_true h1, if_pos rfl]
  · have hE' : ln + 400 - ld = E + 1 := by omega
    rw [hE', decide_eq_false (Nat.not_le.mpr h2), if_neg Bool.false_ne_true, Nat.add_sub_cancel]

/-- `0 < E` and `2^(E−400) ≤ n/d < 2^(E−399)`, as one division: the quotient of `n·2^400` by `d·2^E` is 1 -/
def okE (n d E : Nat) : Bool :=
  sel (Nat.beq E 0) false (Nat.beq (Nat.div (Nat.shiftLeft n 400) (Nat.shiftLeft d E)) 1)

theorem okE_spec (n d E : Nat) (h : okE n d E = true) : 0 < E ∧ d <<< E ≤ n <<< 400 ∧ n <<< 400 < d <<< (E + 1) := by
  unfold okE at h
  rw [sel_beq, nshl, nshl, ndiv] at h
  have hD : d <<< (E + 1) = 2 * (d <<< E) := by
    rw [Nat.shiftLeft_eq, Nat.shiftLeft_eq, Nat.pow_succ, ← Nat.mul_assoc, Nat.mul_comm _ 2]
  rw [hD]
  generalize n <<< 400 = N at h ⊢
  generalize d <<< E = D at h ⊢
  split at h
  · exact absurd h Bool.false_ne_true
  · have hq : N / D = 1 := Nat.eq_of_beq_eq_true h
    have hpos : 0 < D := by
      apply Nat.pos_of_ne_zero
      intro h0
      rw [h0, Nat.div_zero] at hq
      exact absurd hq (by decide)
    have h1 := Nat.div_add_mod N D
    have h2 := Nat.mod_lt N hpos
    rw [hq] at h1
    omega

/-- `roundF32Q` for the candidates `E, E − 1, …, E − k` of the biased exponent, then the search -/
def rqC (n d : Nat) : Nat → Nat → Nat
  | 0, E => sel (okE n d E) (scaleR n d (clampR E)) (rq n d)
  | k + 1, E => sel (okE n d E) (scaleR n d (clampR E)) (rqC n d k (Nat.sub E 1))

theorem scaleR_of_okE (n d E : Nat) (h : okE n d E = true) : scaleR n d (clampR E) = roundF32Q n d := by
  obtain ⟨h0, h1, h2⟩ := okE_spec n d E h
  obtain ⟨hn, hd, hE⟩ := ilogB_unique n d E h0 h1 h2
  rw [← rqN_eq n d hd]
  unfold rqN
  rw [if_neg hn, hE, scaleR_eq]
  unfold clampR
  rw [sel_blt]

theorem rqC_eq (n d : Nat) : ∀ k E, rqC n d k E = roundF32Q n d
  | 0, E => by
    unfold rqC
    by_cases h : okE n d E = true
    · rw [h, sel_true]
      exact scaleR_of_okE n d E h
    · rw [Bool.not_eq_true] at h
      rw [h, sel_false]
      exact rq_eq n d
  | k + 1, E => by
    unfold rqC
    by_cases h : okE n d E = true
    · rw [h, sel_true]
      exact scaleR_of_okE n d E h
    · rw [Bool.not_eq_true] at h
      rw [h, sel_false]
      exact rqC_eq n d k _

/-- numerator of the value of a pattern `a < 2^31`.  With `ex` the exponent field, `a − (ex − 1)·2^23` (truncated
subtraction) is the significand with its leading bit for `ex ≥ 1` and the bare mantissa for `ex = 0`, so no case on
`ex` is needed; likewise for the shift `ex − 150` -/
def un (a : Nat) : Nat :=
  lz (Nat.div a 8388608) fun ex =>
    Nat.shiftLeft (Nat.sub a (Nat.shiftLeft (Nat.sub ex 1) 23)) (Nat.sub ex 150)

/-- denominator of the value of a pattern `a < 2^31`: `2^(150 − max ex 1)` -/
def ud (a : Nat) : Nat := Nat.pow 2 (Nat.sub 149 (Nat.sub (Nat.div a 8388608) 1))

theorem un_def (a : Nat) : un a = if a / 8388608 = 0 then a % 8388608 else
    if 150 ≤ a / 8388608 then (8388608 + a % 8388608) * 2 ^ (a / 8388608 - 150) else 8388608 + a % 8388608 := by
  unfold un
  simp only [lz_eq, nsub, ndiv, nshl, Nat.shiftLeft_eq]
  have hs : a - (a / 8388608 - 1) * 2 ^ 23 = if a / 8388608 = 0 then a % 8388608 else 8388608 + a % 8388608 := by
    split <;> omega
  rw [hs]
  split
  · rename_i h
    rw [h, Nat.zero_sub, Nat.pow_zero, Nat.mul_one]
  · split
    · rfl
    · have h0 : a / 8388608 - 150 = 0 := by omega
      rw [h0, Nat.pow_zero, Nat.mul_one]

theorem ud_def (a : Nat) : ud a = if a / 8388608 = 0 then 2 ^ 149 else
    if 150 ≤ a / 8388608 then 1 else 2 ^ (150 - a / 8388608) := by
  unfold ud
  simp only [nsub, ndiv, npow]
  split
  · rename_i h
    rw [h]
  · split
    · have h0 : 149 - (a / 8388608 - 1) = 0 := by omega
      rw [h0, Nat.pow_zero]
    · have h0 : 149 - (a / 8388608 - 1) = 150 - a / 8388608 := by omega
      rw [h0]

theorem un_eq (a : Nat) (h : a < 2147483648) : Fast.qn a = (un a : Int) := by
  unfold Fast.qn
  rw [un_def]
  have h1 : a / 8388608 % 256 = a / 8388608 := Nat.mod_eq_of_lt (by omega)
  have h2 : ¬ (a / 2147483648 % 2 = 1) := by
    have : a / 2147483648 = 0 := Nat.div_eq_of_lt h
    rw [this]; decide
  simp only [h1, if_neg h2]

theorem ud_eq (a : Nat) (h : a < 2147483648) : Fast.qd a = ud a := by
  unfold Fast.qd
  rw [ud_def]
  have h1 : a / 8388608 % 256 = a / 8388608 := Nat.mod_eq_of_lt (by omega)
  simp only [h1]

/-- `roundF32` of the non-negative fraction `n/d` -/
def rn (n d : Nat) : Nat :=
  lz (Nat.gcd d n) fun g => lz (Nat.div n g) fun n' => lz (Nat.div d g) fun d' => rq n' d'

theorem rn_eq (n d : Nat) : rn n d = Fast.rnd (n : Int) d := by
  unfold rn Fast.rnd
  simp only [lz_eq, ndiv, Int.natAbs_natCast, rq_eq]
  have h1 : (n : Int) / ((d.gcd n : Nat) : Int) = ((n / d.gcd n : Nat) : Int) := (Int.natCast_ediv _ _).symm
  have hnn : ¬ ((n / d.gcd n : Nat) : Int) < 0 := Int.not_lt.mpr (Int.natCast_nonneg _)
  rw [h1, if_neg hnn, Int.natAbs_natCast]

/-- `rn` with the candidates `E, …, E − k` for the biased exponent of `n/d` -/
def rnC (n d k E : Nat) : Nat :=
  lz (Nat.gcd d n) fun g => lz (Nat.div n g) fun n' => lz (Nat.div d g) fun d' => rqC n' d' k E

theorem rnC_eq (n d k E : Nat) : rnC n d k E = rn n d := by
  unfold rnC rn
  simp only [lz_eq, rqC_eq, rq_eq]

theorem fin_le (num den bexp : Nat) : fin num den bexp ≤ 0x7F800000 := by
  unfold fin
  simp only
  generalize (bexp * 8388608 + if 2 * (num % den) > den ∨ 2 * (num % den) = den ∧ num / den % 2 = 1 then num / den + 1
    else num / den) = bits
  split <;> omega

theorem roundF32Q_le (n d : Nat) : roundF32Q n d ≤ 0x7F800000 := by
  rw [roundF32Q_fin]
  split
  · omega
  · exact fin_le _ _ _

theorem rn_lt (n d : Nat) : rn n d < 2147483648 := by
  unfold rn
  simp only [lz_eq]
  rw [rq_eq]
  have := roundF32Q_le (Nat.div n (Nat.gcd d n)) (Nat.div d (Nat.gcd d n))
  omega

def nonneg2 (a b : Nat) : Bool := Nat.blt a 2147483648 && Nat.blt b 2147483648

theorem nonneg2_iff (a b : Nat) : nonneg2 a b = true ↔ a < 2147483648 ∧ b < 2147483648 := by
  unfold nonneg2
  rw [Bool.and_eq_true, Nat.blt_eq, Nat.blt_eq]

def mul (a b : Nat) : Nat :=
  sel (nonneg2 a b)
    (lz (Nat.mul (un a) (un b)) fun n => lz (Nat.mul (ud a) (ud b)) fun d =>
      rnC n d 1 (Nat.add (Nat.add (Nat.div a 8388608) (Nat.div b 8388608)) 147))
    (Fast.mul a b)

theorem mul_eq (a b : Nat) : mul a b = F32.mul a b := by
  unfold mul
  rw [Fast.mul_eq]
  cases h : nonneg2 a b
  · rfl
  · obtain ⟨ha, hb⟩ := (nonneg2_iff a b).mp h
    rw [sel_true, lz_eq, lz_eq, rnC_eq, rn_eq]
    unfold Fast.mul
    rw [un_eq a ha, un_eq b hb, ud_eq a ha, ud_eq b hb]
    congr 1

def add (a b : Nat) : Nat :=
  sel (nonneg2 a b)
    (lz (ud a) fun da => lz (ud b) fun db =>
      lz (Nat.add (Nat.mul (un a) db) (Nat.mul (un b) da)) fun n => lz (Nat.mul da db) fun d =>
        rnC n d 1 (Nat.add (Nat.div (sel (Nat.ble a b) b a) 8388608) 274))
    (Fast.add a b)

theorem add_eq (a b : Nat) : add a b = F32.add a b := by
  unfold add
  rw [Fast.add_eq]
  cases h : nonneg2 a b
  · rfl
  · obtain ⟨ha, hb⟩ := (nonneg2_iff a b).mp h
    rw [sel_true, lz_eq, lz_eq, lz_eq, lz_eq, rnC_eq, rn_eq]
    unfold Fast.add
    rw [un_eq a ha, un_eq b hb, ud_eq a ha, ud_eq b hb]
    congr 1

theorem rnd_neg (k D : Nat) (hk : 0 < k) : Fast.rnd (-(k : Int)) D = Nat.add 2147483648 (rn k D) := by
  unfold rn Fast.rnd
  simp only [lz_eq, ndiv, rq_eq, Int.natAbs_neg, Int.natAbs_natCast]
  have hg : D.gcd k ∣ k := Nat.gcd_dvd_right D k
  have hq : 0 < k / D.gcd k := Nat.div_pos (Nat.le_of_dvd hk hg) (Nat.gcd_pos_of_pos_right D hk)
  have h1 : -(k : Int) / ((D.gcd k : Nat) : Int) = -((k / D.gcd k : Nat) : Int) := by
    rw [Int.neg_ediv_of_dvd (Int.natCast_dvd_natCast.mpr hg), Int.natCast_ediv]
  have hneg : -((k / D.gcd k : Nat) : Int) < 0 := by omega
  rw [h1, if_pos hneg, Int.natAbs_neg, Int.natAbs_natCast]
  rfl

/-- `(a - b).max(0.0)` for non-negative operands: one rounding of `|a − b|`; a negative difference gets the sign bit
before `max0` looks at it -/
def subMax (a b : Nat) : Nat :=
  sel (nonneg2 a b)
    (lz (ud a) fun da => lz (ud b) fun db =>
      lz (Nat.mul (un a) db) fun q => lz (Nat.mul (un b) da) fun p => lz (Nat.mul da db) fun d =>
        sel (Nat.ble p q) (rnC (Nat.sub q p) d 3 (Nat.add (Nat.div a 8388608) 273))
          (Fast.max0 (Nat.add 2147483648 (rnC (Nat.sub p q) d 3 (Nat.add (Nat.div b 8388608) 273)))))
    (Fast.max0 (Fast.sub a b))

theorem subMax_eq (a b : Nat) : subMax a b = F32.max0 (F32.sub a b) := by
  unfold subMax
  rw [Fast.max0_eq, Fast.sub_eq]
  cases h : nonneg2 a b
  · rfl
  · obtain ⟨ha, hb⟩ := (nonneg2_iff a b).mp h
    rw [sel_true, lz_eq, lz_eq, lz_eq, lz_eq, lz_eq, rnC_eq, rnC_eq]
    have hsub : Fast.sub a b = Fast.rnd (((un a * ud b : Nat) : Int) - ((un b * ud a : Nat) : Int)) (ud a * ud b) := by
      unfold Fast.sub
      rw [un_eq a ha, un_eq b hb, ud_eq a ha, ud_eq b hb, Int.natCast_mul, Int.natCast_mul, Int.neg_mul,
        Int.sub_eq_add_neg]
    cases h' : Nat.ble (Nat.mul (un b) (ud a)) (Nat.mul (un a) (ud b))
    · have hlt : un a * ud b < un b * ud a :=
        Nat.lt_of_not_le fun hle => Bool.false_ne_true (h'.symm.trans (Nat.ble_eq_true_of_le hle))
      rw [sel_false, hsub]
      have e : ((un a * ud b : Nat) : Int) - ((un b * ud a : Nat) : Int) = -((un b * ud a - un a * ud b : Nat) : Int) := by
        omega
      rw [e, rnd_neg _ _ (by omega)]
      rfl
    · have hle : un b * ud a ≤ un a * ud b := Nat.ble_eq.mp h'
      rw [sel_true, hsub, ← Int.natCast_sub hle, ← rn_eq]
      unfold Fast.max0
      have hnn : ¬ ((un (rn (un a * ud b - un b * ud a) (ud a * ud b)) : Nat) : Int) < 0 :=
        Int.not_lt.mpr (Int.natCast_nonneg _)
      rw [un_eq _ (rn_lt _ _), if_neg hnn]
      rfl

/-- the rounding step: `v = 2s + sticky`, `H = E/2` (biased) -/
def sqFinN (v H : Nat) : Nat :=
  if 181 ≤ H then roundF32Q (v <<< (H - 181)) 1 else roundF32Q v (1 <<< (181 - H))
def sqVN (s big : Nat) : Nat := 2 * s + if s * s = big then 0 else 1
def sqCoreN (isq : Nat → Nat) (m E : Nat) : Nat :=
  if E % 2 = 1 then sqFinN (sqVN (isq ((2 * m) <<< 60)) ((2 * m) <<< 60)) ((E - 1) / 2)
  else sqFinN (sqVN (isq (m <<< 60)) (m <<< 60)) (E / 2)

/-- `Fast.sqrtWith` for a pattern `a < 2^31`, natural-number exponent `E = e + 300` -/
def sqrtN (isq : Nat → Nat) (a : Nat) : Nat :=
  if a = 0 then 0 else
  sqCoreN isq (if a / 8388608 = 0 then a % 8388608 else 8388608 + a % 8388608)
    (if a / 8388608 = 0 then 151 else a / 8388608 + 150)

theorem sqrtN_eq (isq : Nat → Nat) (a : Nat) (ha : a < 2147483648) : Fast.sqrtWith isq a = sqrtN isq a := by
  unfold Fast.sqrtWith sqrtN sqCoreN sqFinN sqVN
  have h1 : a / 8388608 % 256 = a / 8388608 := Nat.mod_eq_of_lt (by omega)
  simp only [h1]
  have c0 : (a ≥ 0x80000000 ∨ (a / 8388608 = 0 ∧ a % 8388608 = 0)) ↔ a = 0 := by omega
  simp only [c0]
  by_cases h0 : a = 0
  · rw [if_pos h0, if_pos h0]
  · rw [if_neg h0, if_neg h0]
    generalize hm : (if a / 8388608 = 0 then a % 8388608 else 8388608 + a % 8388608) = m
    generalize he : (if a / 8388608 = 0 then (-149 : Int) else ((a / 8388608 : Nat) : Int) - 150) = e
    generalize hE : (if a / 8388608 = 0 then 151 else a / 8388608 + 150) = E
    have hEe : (E : Int) = e + 300 := by
      rw [← he, ← hE]; split <;> omega
    have c1 : (e % 2 ≠ 0) ↔ (E % 2 = 1) := by omega
    simp only [c1]
    by_cases hodd : E % 2 = 1
    · simp only [hodd, if_true]
      have c2 : ((e - 1) / 2 - 31 ≥ 0) ↔ 181 ≤ (E - 1) / 2 := by omega
      have c3 : ((e - 1) / 2 - 31).toNat = (E - 1) / 2 - 181 := by omega
      have c4 : (-((e - 1) / 2 - 31)).toNat = 181 - (E - 1) / 2 := by omega
      simp only [c2, c3, c4]
    · simp only [hodd, if_false]
      have c2 : (e / 2 - 31 ≥ 0) ↔ 181 ≤ E / 2 := by omega
      have c3 : (e / 2 - 31).toNat = E / 2 - 181 := by omega
      have c4 : (-(e / 2 - 31)).toNat = 181 - E / 2 := by omega
      simp only [c2, c3, c4]

def sqFin (v H : Nat) : Nat :=
  sel (Nat.ble 181 H) (lz (Nat.shiftLeft v (Nat.sub H 181)) fun n => rqC n 1 1 (Nat.add H 262))
    (lz (Nat.shiftLeft 1 (Nat.sub 181 H)) fun d => rqC v d 1 (Nat.add H 262))
theorem sqFin_eq (v H : Nat) : sqFin v H = sqFinN v H := by
  unfold sqFin sqFinN
  rw [sel_ble, lz_eq, lz_eq, rqC_eq, rqC_eq]
  rfl

def sqV (s big : Nat) : Nat := Nat.add (Nat.mul 2 s) (sel (Nat.beq (Nat.mul s s) big) 0 1)
theorem sqV_eq (s big : Nat) : sqV s big = sqVN s big := by
  unfold sqV sqVN
  rw [sel_beq]
  rfl

def nstep (n g : Nat) : Nat := Nat.div (Nat.add g (Nat.div n g)) 2

/-- four Newton steps taken without asking whether they still decrease: from a start above `√n` they stay at or
above `⌊√n⌋`.  Only a start value for `Fast.isqrtFrom`, which iterates on under its guard and checks what it returns,
so nothing has to be proved about it -/
def nstep4 (n g0 : Nat) : Nat :=
  lz (nstep n g0) fun g1 => lz (nstep n g1) fun g2 => lz (nstep n g2) fun g3 => nstep n g3

/-- root, sticky bit and rounding for the even-exponent significand `M` (`big = M·2^60`), `H = E/2`; Newton starts
from `2^41 + M·2^17 = 2^42·(1 + x)/2 ≥ 2^42·√x = √big` (`x = M/2^24`), within 6 % for `x ∈ [½, 2]` -/
def sqStep (M H : Nat) : Nat :=
  lz (Nat.shiftLeft M 60) fun big =>
    lz (Fast.isqrtFrom big (nstep4 big (Nat.add 2199023255552 (Nat.shiftLeft M 17)))) fun s =>
      lz (sqV s big) fun v => sqFin v H
theorem sqStep_eq (M H : Nat) : sqStep M H = sqFinN (sqVN (Nat.sqrt (M <<< 60)) (M <<< 60)) H := by
  unfold sqStep
  rw [lz_eq, lz_eq, lz_eq, sqFin_eq, sqV_eq, Fast.isqrtFrom_eq]
  rfl

def sqCore (m E : Nat) : Nat :=
  sel (Nat.beq (Nat.mod E 2) 1) (lz (Nat.div (Nat.sub E 1) 2) fun H => sqStep (Nat.mul 2 m) H)
    (lz (Nat.div E 2) fun H => sqStep m H)
theorem sqCore_eq (m E : Nat) : sqCore m E = sqCoreN Nat.sqrt m E := by
  unfold sqCore sqCoreN
  rw [sel_beq, lz_eq, lz_eq, sqStep_eq, sqStep_eq]
  rfl

/-- mantissa and biased exponent of a pattern `a < 2^31` -/
def sqM (a : Nat) : Nat := sel (Nat.beq (Nat.div a 8388608) 0) (Nat.mod a 8388608) (Nat.add 8388608 (Nat.mod a 8388608))
def sqE (a : Nat) : Nat := sel (Nat.beq (Nat.div a 8388608) 0) 151 (Nat.add (Nat.div a 8388608) 150)

/-- `F32.sqrt`, kernel-friendly -/
def sqrt (a : Nat) : Nat :=
  sel (Nat.blt a 2147483648)
    (sel (Nat.beq a 0) 0 (lz (sqM a) fun m => lz (sqE a) fun E => sqCore m E))
    (Fast.sqrt a)

theorem sqrt_eq (a : Nat) : sqrt a = F32.sqrt a := by
  unfold sqrt
  rw [sel_blt]
  by_cases ha : a < 2147483648
  · rw [if_pos ha]
    show _ = Fast.sqrtWith Nat.sqrt a
    rw [sqrtN_eq _ a ha]
    unfold sqrtN sqM sqE
    rw [sel_beq, lz_eq, lz_eq, sel_beq, sel_beq, sqCore_eq]
    rfl
  · rw [if_neg ha, Fast.sqrt_eq]

def toU8 (a : Nat) : Nat :=
  sel (Nat.blt a 2147483648)
    (lz (un a) fun n => lz (ud a) fun d => lz (Nat.gcd d n) fun g =>
      lz (Nat.div (Nat.div n g) (Nat.div d g)) fun f => sel (Nat.blt 255 f) 255 f)
    (Fast.toU8 a)

theorem toU8_eq (a : Nat) : toU8 a = F32.toU8 a := by
  unfold toU8
  rw [Fast.toU8_eq, sel_blt]
  by_cases ha : a < 2147483648
  · rw [if_pos ha]
    unfold Fast.toU8
    have hnn : ¬ ((un a : Nat) : Int) < 0 := Int.not_lt.mpr (Int.natCast_nonneg _)
    rw [un_eq a ha, ud_eq a ha, if_neg hnn]
    simp only [lz_eq, Int.natAbs_natCast, sel_blt]
    rw [← Int.natCast_ediv, ← Int.natCast_ediv, Int.toNat_natCast]
    rfl
  · rw [if_neg ha]

end Dds.F32.Raw
