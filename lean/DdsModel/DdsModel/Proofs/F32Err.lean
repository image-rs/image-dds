/-
Rounding-error bounds for the software binary32 of `ConvF32.lean` — the "standard model of floating-point
arithmetic", proved for the bit-level operators (used by C04 for the YUV decoders, whose domains of 2^24 … 2^48
triples cannot be enumerated).

Everything here is in units of 2^-1000 and about `rpU m B` (= `roundPack false m (B − 1000)`, `Proofs/F32Mono.lean`):
its value `pval (rpU m B) · 2^851` is the significand `sig m B q` times the quantum `2^q`, `q = quant m B`, hence
within half a quantum of the exact `m·2^B` and equal to it when it needs no rounding; the quantum is `2^-24` of the
bound of the binade and at most `2^-23` of the value in the normal range.  An odd significand with ≥ 26 bits is
rounded at least one unit short of half a quantum (the sticky bit of `roundF32`).
-/
import DdsModel.Proofs.F32Value
namespace Dds.F32Err
open Dds Dds.CF32 Dds.ConvFast Dds.F32Mono

theorem mul_pow_cancel (m a b : Nat) (h : b ≤ a) : m * 2 ^ (a - b) * 2 ^ b = m * 2 ^ a := by
  rw [Nat.mul_assoc, ← Nat.pow_add, Nat.sub_add_cancel h]

theorem rne_err (m k : Nat) (hk : 1 ≤ k) :
    2 * (rne m k * 2 ^ k) ≤ 2 * m + 2 ^ k ∧ 2 * m ≤ 2 * (rne m k * 2 ^ k) + 2 ^ k := by
  rw [rne_def]
  have e := Nat.div_add_mod m (2 ^ k)
  have r := Nat.mod_lt m (Nat.two_pow_pos k)
  have hp : 2 ^ k = 2 * 2 ^ (k - 1) := by
    rw [← Nat.pow_succ']; congr 1; omega
  rw [Nat.mul_comm] at e
  generalize m / 2 ^ k = h at *
  generalize m % 2 ^ k = rr at *
  split
  · rw [Nat.add_mul, Nat.one_mul]
    generalize h * 2 ^ k = X at *
    generalize 2 ^ (k - 1) = Q at *
    generalize 2 ^ k = P at *
    omega
  · generalize h * 2 ^ k = X at *
    generalize 2 ^ (k - 1) = Q at *
    generalize 2 ^ k = P at *
    omega

theorem sig_err (m B q : Nat) :
    2 * (sig m B q * 2 ^ q) ≤ 2 * (m * 2 ^ B) + 2 ^ q ∧ 2 * (m * 2 ^ B) ≤ 2 * (sig m B q * 2 ^ q) + 2 ^ q ∧
    (q ≤ B → sig m B q * 2 ^ q = m * 2 ^ B) := by
  unfold sig
  by_cases hc : q ≤ B
  · rw [if_pos hc, mul_pow_cancel _ B q hc]
    exact ⟨Nat.le_add_right _ _, Nat.le_add_right _ _, fun _ => rfl⟩
  · obtain ⟨e1, e2⟩ := rne_err m (q - B) (by omega)
    have hs : 2 ^ q = 2 ^ (q - B) * 2 ^ B := by
      rw [← Nat.pow_add, Nat.sub_add_cancel (by omega)]
    have f1 := Nat.mul_le_mul_right (2 ^ B) e1
    have f2 := Nat.mul_le_mul_right (2 ^ B) e2
    rw [Nat.add_mul, Nat.mul_assoc 2, Nat.mul_assoc 2, Nat.mul_assoc (rne m (q - B)), ← hs] at f1 f2
    rw [if_neg hc]
    exact ⟨f1, f2, fun h => absurd h hc⟩

theorem log2_add_lt {m B T : Nat} (hm : m ≠ 0) (h : m * 2 ^ B < 2 ^ T) : Nat.log2 m + B < T := by
  have lo := Nat.log2_self_le hm
  have : 2 ^ (Nat.log2 m + B) ≤ m * 2 ^ B := by
    rw [Nat.pow_add]; exact Nat.mul_le_mul_right _ lo
  exact (Nat.pow_lt_pow_iff_right (by decide : 1 < 2)).mp (Nat.lt_of_le_of_lt this h)

theorem pval_zero_mul (P : Nat) : pval 0 * P = 0 := by
  rw [pval_small 0 (by decide), Nat.zero_mul]

/-- THE VALUE OF A ROUNDED RESULT: no overflow below 2^127, and in units of 2^-1000 the result is the significand times
the quantum -/
theorem rpU_val (m B : Nat) (hlt : m * 2 ^ B < 2 ^ 1127) :
    rpU m B < 0x7F800000 ∧ pval (rpU m B) * 2 ^ 851 = sig m B (quant m B) * 2 ^ quant m B := by
  by_cases hm : m = 0
  · subst hm
    have : sig 0 B (quant 0 B) = 0 := by
      unfold sig rne; split
      · exact Nat.zero_mul _
      · simp
    rw [rpU_zero, pval_zero_mul, this, Nat.zero_mul]
    exact ⟨by decide, rfl⟩
  · have hLB := log2_add_lt hm hlt
    have hq : 851 ≤ quant m B ∧ quant m B ≤ 1103 ∧ Nat.log2 m + B ≤ quant m B + 23 := by unfold quant; omega
    have a1 : sig m B (quant m B) ≤ 2 ^ 24 := sig_le Nat.lt_log2_self hq.2.2
    have a2 : quant m B = 851 ∨ 2 ^ 23 ≤ sig m B (quant m B) := by
      by_cases h851 : quant m B = 851
      · exact Or.inl h851
      · exact Or.inr (sig_ge (Nat.log2_self_le hm) (by unfold quant at h851 ⊢; omega))
    have hfin : (quant m B - 851) * 2 ^ 23 + sig m B (quant m B) < 0x7F800000 := by
      have : (quant m B - 851) * 2 ^ 23 ≤ 252 * 2 ^ 23 := Nat.mul_le_mul_right _ (by omega)
      have e24 : (2 : Nat) ^ 24 = 2 * 2 ^ 23 := by decide
      rw [e24] at a1
      generalize (2 : Nat) ^ 23 = P at *
      generalize sig m B (quant m B) = sg at *
      omega
    rw [rpU_pos B hm, Nat.min_eq_right (Nat.le_of_lt hfin), pval_pack _ _ hq.1 a1 a2]
    exact ⟨hfin, mul_pow_cancel _ _ 851 hq.1⟩

theorem rpU_err (m B : Nat) (hlt : m * 2 ^ B < 2 ^ 1127) :
    rpU m B < 0x7F800000 ∧
    2 * (pval (rpU m B) * 2 ^ 851) ≤ 2 * (m * 2 ^ B) + 2 ^ quant m B ∧
    2 * (m * 2 ^ B) ≤ 2 * (pval (rpU m B) * 2 ^ 851) + 2 ^ quant m B := by
  obtain ⟨h0, hv⟩ := rpU_val m B hlt
  obtain ⟨e1, e2, _⟩ := sig_err m B (quant m B)
  rw [hv]
  exact ⟨h0, e1, e2⟩

/-- below `2^(T−1000)`, `T ≥ 875`, the quantum is at most `2^(T−1024)` (never below the subnormal quantum 2^-149) -/
theorem quant_le_of_lt (m B T : Nat) (hm : m ≠ 0) (h : m * 2 ^ B < 2 ^ T) (hT : 875 ≤ T) :
    2 ^ quant m B ≤ 2 ^ (T - 24) := by
  have hLB := log2_add_lt hm h
  exact Nat.pow_le_pow_right Nat.two_pos (by unfold quant; omega)

/-- ABSOLUTE FORM ("half an ulp of the binade"): an exact value below `2^(T−1000)` (`T ≥ 875`, i.e. a bound
`≥ 2^-125`; `T ≤ 1127`: no overflow) is rounded with an error of at most `2^(T−1025)` -/
theorem rpU_err_ulp (m B T : Nat) (hT : 875 ≤ T) (hT2 : T ≤ 1127) (h : m * 2 ^ B < 2 ^ T) :
    rpU m B < 0x7F800000 ∧
    2 * (pval (rpU m B) * 2 ^ 851) ≤ 2 * (m * 2 ^ B) + 2 ^ (T - 24) ∧
    2 * (m * 2 ^ B) ≤ 2 * (pval (rpU m B) * 2 ^ 851) + 2 ^ (T - 24) := by
  by_cases hm : m = 0
  · subst hm
    rw [rpU_zero, pval_zero_mul, Nat.zero_mul]
    exact ⟨by decide, Nat.zero_le _, Nat.zero_le _⟩
  · obtain ⟨h0, h1, h2⟩ := rpU_err m B (Nat.lt_of_lt_of_le h (Nat.pow_le_pow_right Nat.two_pos (i := T) (j := 1127) hT2))
    have hq := quant_le_of_lt m B T hm h hT
    exact ⟨h0, Nat.le_trans h1 (Nat.add_le_add_left hq _), Nat.le_trans h2 (Nat.add_le_add_left hq _)⟩

/-- normal range: the quantum is at most `2^-23` of the value; for an odd significand even of the value less one unit
(the leading power of two is at most `m − 1`) -/
theorem quant_rel (m B : Nat) (hm : m ≠ 0) (hn : 2 ^ 874 ≤ m * 2 ^ B) :
    2 ^ 23 * 2 ^ quant m B ≤ m * 2 ^ B ∧ (m % 2 = 1 → 2 ≤ m → 2 ^ 23 * 2 ^ quant m B + 2 ^ B ≤ m * 2 ^ B) := by
  have lo := Nat.log2_self_le hm
  have hi := @Nat.lt_log2_self m
  have hL : 874 ≤ Nat.log2 m + B := by
    have : m * 2 ^ B < 2 ^ (Nat.log2 m + 1 + B) := by
      rw [Nat.pow_add (n := B)]; exact (Nat.mul_lt_mul_right (Nat.two_pow_pos B)).mpr hi
    have := (Nat.pow_lt_pow_iff_right (by decide : 1 < 2)).mp (Nat.lt_of_le_of_lt hn this)
    omega
  have hq : quant m B = Nat.log2 m + B - 23 := by unfold quant; omega
  have e : 23 + (Nat.log2 m + B - 23) = Nat.log2 m + B := by omega
  rw [hq, ← Nat.pow_add, e, Nat.pow_add]
  clear hn hq e
  refine ⟨Nat.mul_le_mul_right _ lo, ?_⟩
  intro hodd h2
  have hL1 : 1 ≤ Nat.log2 m := (Nat.le_log2 hm).mpr (by omega)
  have hev : 2 ^ Nat.log2 m % 2 = 0 := by
    obtain ⟨j, hj⟩ : ∃ j, Nat.log2 m = j + 1 := ⟨Nat.log2 m - 1, by omega⟩
    rw [hj, Nat.pow_succ]; omega
  have : 2 ^ Nat.log2 m + 1 ≤ m := by omega
  have := Nat.mul_le_mul_right (2 ^ B) this
  rw [Nat.add_mul, Nat.one_mul] at this
  exact this

/-- RELATIVE FORM: an exact value in the normal range `[2^-126, 2^127)` is rounded with a relative error of at most
`2^-24`: `|result − exact| · 2^24 ≤ exact`.  Units of 2^-1000. -/
theorem rpU_err_rel (m B : Nat) (hlt : m * 2 ^ B < 2 ^ 1127) (hn : 2 ^ 874 ≤ m * 2 ^ B) :
    rpU m B < 0x7F800000 ∧
    2 ^ 24 * (pval (rpU m B) * 2 ^ 851) ≤ 2 ^ 24 * (m * 2 ^ B) + m * 2 ^ B ∧
    2 ^ 24 * (m * 2 ^ B) ≤ 2 ^ 24 * (pval (rpU m B) * 2 ^ 851) + m * 2 ^ B := by
  have hm : m ≠ 0 := fun h0 => absurd hn (by rw [h0, Nat.zero_mul]; exact Nat.not_le.mpr (Nat.two_pow_pos 874))
  obtain ⟨h0, h1, h2⟩ := rpU_err m B hlt
  have hq := (quant_rel m B hm hn).1
  generalize 2 ^ quant m B = Q at *
  generalize pval (rpU m B) * 2 ^ 851 = V at *
  generalize m * 2 ^ B = X at *
  exact ⟨h0, by omega, by omega⟩

/-- STICKY BIT: for an ODD significand `m ≥ 2^25` (two or more bits below the rounding position, the last one set) the
result is at most half a quantum MINUS one unit `2^B` away from `m·2^B`; hence every exact value strictly within one
unit of `m·2^B` is rounded to the same result, with an error of at most half a quantum (`roundF32`) -/
theorem rpU_sticky (m B : Nat) (hodd : m % 2 = 1) (hbig : 2 ^ 25 ≤ m) (hlt : m * 2 ^ B < 2 ^ 1127) :
    2 * (pval (rpU m B) * 2 ^ 851) + 2 * 2 ^ B ≤ 2 * (m * 2 ^ B) + 2 ^ quant m B ∧
    2 * (m * 2 ^ B) + 2 * 2 ^ B ≤ 2 * (pval (rpU m B) * 2 ^ 851) + 2 ^ quant m B := by
  have hm : m ≠ 0 := by omega
  obtain ⟨_, h1, h2⟩ := rpU_err m B hlt
  have hL : 25 ≤ Nat.log2 m := (Nat.le_log2 hm).mpr hbig
  obtain ⟨j, hj⟩ : ∃ j, quant m B = B + 2 + j := ⟨quant m B - (B + 2), by unfold quant; omega⟩
  rw [(rpU_val m B hlt).2] at h1 h2 ⊢
  clear hlt hbig
  -- everything is a multiple of `2^B`: the quantum is `4·2^j` of them, the significand is odd
  have hs : 2 ^ quant m B = 4 * 2 ^ j * 2 ^ B := by
    rw [hj, Nat.pow_add, Nat.pow_add, Nat.mul_comm (2 ^ B), Nat.mul_assoc, Nat.mul_comm (2 ^ B), ← Nat.mul_assoc]
  rw [hs] at h1 h2 ⊢
  generalize sig m B (quant m B) = r at *
  generalize 2 ^ j = p at *
  have hB := Nat.two_pow_pos B
  have e1 : 2 * (r * (4 * p * 2 ^ B)) = 2 * (4 * (r * p)) * 2 ^ B := by
    rw [Nat.mul_assoc 2, ← Nat.mul_assoc r, Nat.mul_left_comm r 4 p]
  have e2 : 2 * (m * 2 ^ B) = 2 * m * 2 ^ B := by rw [Nat.mul_assoc]
  rw [e1, e2, ← Nat.add_mul] at h1 h2
  have g1 := Nat.le_of_mul_le_mul_right h1 hB
  have g2 := Nat.le_of_mul_le_mul_right h2 hB
  rw [e1, e2, ← Nat.add_mul, ← Nat.add_mul, ← Nat.add_mul, ← Nat.add_mul]
  generalize r * p = X at *
  exact ⟨Nat.mul_le_mul_right _ (by omega), Nat.mul_le_mul_right _ (by omega)⟩

/-- EXACTNESS: a value that can be written `m'·2^(B'−1000)` with `m' < 2^24` and `B' ≥ 851` (a multiple of 2^-149) is
not rounded -/
theorem rpU_exact (m B m' B' : Nat) (h : m * 2 ^ B = m' * 2 ^ B') (hm' : m' < 2 ^ 24) (hB' : 851 ≤ B')
    (hlt : m' * 2 ^ B' < 2 ^ 1127) :
    rpU m B < 0x7F800000 ∧ pval (rpU m B) * 2 ^ 851 = m * 2 ^ B := by
  have e : rpU m B = rpU m' B' :=
    Nat.le_antisymm (rpU_mono (Nat.le_of_eq h)) (rpU_mono (Nat.le_of_eq h.symm))
  obtain ⟨h0, hv⟩ := rpU_val m' B' hlt
  rw [e, h, hv]
  refine ⟨h0, (sig_err m' B' _).2.2 ?_⟩
  by_cases hm : m' = 0
  · subst hm; unfold quant; have : Nat.log2 0 = 0 := by decide
    rw [this]; omega
  · have : Nat.log2 m' < 24 := (Nat.log2_lt hm).mpr hm'
    unfold quant; omega

theorem mul_pow_lt {n a b c : Nat} (hn : n < 2 ^ a) (h : a + b ≤ c) : n * 2 ^ b < 2 ^ c :=
  Nat.lt_of_lt_of_le (Nat.mul_lt_mul_of_pos_right hn (Nat.two_pow_pos b))
    (by rw [← Nat.pow_add]; exact Nat.pow_le_pow_right Nat.two_pos h)

theorem pval_rpU_small (n B : Nat) (hn : n < 2 ^ 24) (hB : 851 ≤ B) (hB2 : 24 + B ≤ 1127) :
    rpU n B < 0x7F800000 ∧ pval (rpU n B) = n * 2 ^ (B - 851) := by
  obtain ⟨h0, hv⟩ := rpU_exact n B n B rfl hn hB (mul_pow_lt (c := 1127) hn hB2)
  exact ⟨h0, Nat.eq_of_mul_eq_mul_right (Nat.two_pow_pos 851) (by rw [hv, mul_pow_cancel _ _ _ hB])⟩

theorem ofNat_eq_rpU (n : Nat) : ofNat n = rpU n 1000 := roundPack_eq_rpU n 1000

/-- AN INTEGER BELOW `2^24` IS A FLOAT: `n as f32` has the value `n` -/
theorem pval_ofNat (n : Nat) (hn : n < 2 ^ 24) : ofNat n < 0x7F800000 ∧ pval (ofNat n) = n * 2 ^ 149 := by
  rw [ofNat_eq_rpU]
  exact pval_rpU_small n 1000 hn (by decide) (by decide)

theorem rpU_mul_scaled (a b x y B B' : Nat) (h : B + (x + y) = B') : rpU (a * 2 ^ x * (b * 2 ^ y)) B = rpU (a * b) B' := by
  subst h
  rw [← rpU_scale, Nat.pow_add, Nat.mul_mul_mul_comm]

/-- the product of two such floats is the product of the integers, rounded once -/
theorem fmul_ofNat (a b : Nat) (ha : a < 2 ^ 24) (hb : b < 2 ^ 24) : fmul (ofNat a) (ofNat b) = ofNat (a * b) := by
  obtain ⟨a0, av⟩ := pval_ofNat a ha
  obtain ⟨b0, bv⟩ := pval_ofNat b hb
  rw [fmul_pval _ _ a0 b0, av, bv, ofNat_eq_rpU]
  exact rpU_mul_scaled a b 149 149 702 1000 rfl

theorem fadd_ofNat (a b : Nat) (ha : a < 2 ^ 24) (hb : b < 2 ^ 24) : fadd (ofNat a) (ofNat b) = ofNat (a + b) := by
  obtain ⟨a0, av⟩ := pval_ofNat a ha
  obtain ⟨b0, bv⟩ := pval_ofNat b hb
  rw [fadd_pval _ _ a0 b0, av, bv, ← Nat.add_mul, rpU_scale, ofNat_eq_rpU]
end Dds.F32Err
