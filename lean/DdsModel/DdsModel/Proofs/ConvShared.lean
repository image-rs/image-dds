/- R9G9B9E5: all 32 × 512 (exponent, mantissa) pairs at all three precisions, by kernel evaluation of `chkShared`. -/
import DdsModel.Proofs.ConvF16Chk
namespace Dds.ConvProofs
open Dds Dds.Conv Dds.Spec Dds.CF32 Dds.ConvFast

theorem shared_c0 : allRange chkShared 7 0 8192 = true := by decide +kernel
theorem shared_c1 : allRange chkShared 7 8192 8192 = true := by decide +kernel

theorem chkShared_all : allRange chkShared 8 0 16384 = true := allRange_join shared_c0 shared_c1

theorem shared_ok (e m : Nat) (he : e < 32) (hm : m < 512) :
    sharedF32 e m = roundF32 (sharedExp e m) ∧ (sharedN8 e m : Int) = toCode 255 (sharedExp e m) ∧
    (sharedN16 e m : Int) = toCode 65535 (sharedExp e m) + (if e = 15 ∧ m = 257 then 1 else 0) :=
  chkShared_sound e m hm (allRange_lt chkShared_all (e * 512 + m) (by omega))

end Dds.ConvProofs
