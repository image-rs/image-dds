/-
C15, R9G9B9E5: one channel of `rgb9995f::from_f32` — `(c * two_powi(24 - exp) + 0.5) as u32`
for a clamped channel `c` and the shared exponent `exp` read from the bits of the largest
channel — and the clamp / maximum that precede it.
-/
import DdsModel.Proofs.SharedExpOps
namespace Dds.EncTotal.SharedExp
open Dds.CF32
open Dds.ConvFast (expField_eq)

/-- `(p + 0.5) as u32` is monotone on the non-negative patterns -/
theorem castAddHalf_mono (M : Nat) {p P : Nat} (hp : p ≤ P) (hP : P ≤ posInf) :
    toNatSat (fadd p half) M ≤ toNatSat (fadd P half) M := by
  obtain ⟨s1, s2⟩ := F32Mono.fadd_mono_nonneg (c := half) hp hP (by decide)
  exact F32Mono.toNatSat_mono_nonneg M s1 s2

theorem mant_ne_zero (c : Nat) (h1 : 1 ≤ c) (h2 : c < posInf) : mant c ≠ 0 := by
  by_cases hX : 1 ≤ expField c
  · rw [(mant_normal c hX).1]; omega
  · rw [(mant_subnormal c (by omega)).1]
    have := pattern_split c h2
    have : expField c = 0 := by omega
    omega

theorem c65408_lt : c65408 < posInf := by decide

/-- a zero channel (either sign) has mantissa 0 at every scale -/
theorem mantOf_zero (c : Nat) (n : Int) (hc : c = 0 ∨ c = signBit) (h1 : -126 ≤ n) (h2 : n ≤ 127) :
    mantOf c (twoPowi n) = 0 := by
  unfold mantOf
  rw [fmul_zero c n hc h1 h2]
  rcases hc with rfl | rfl <;> decide +kernel

/-- a channel below `2^(K+1)` after scaling: the rounded product is at most the pattern of
`2^(K+1)`, and `(· + 0.5) as u32` is monotone -/
theorem mantOf_le_pow (c : Nat) (n K : Int) (hc1 : 1 ≤ c) (hc2 : c ≤ c65408) (h1 : -126 ≤ n)
    (h2 : n ≤ 127) (hK : (expField c : Int) + n - 127 ≤ K) (hK1 : -127 ≤ K) (hK2 : K ≤ 126) :
    mantOf c (twoPowi n) ≤ toNatSat (fadd ((K + 128).toNat * 2 ^ 23) half) (2 ^ 32 - 1) := by
  have hc : c < posInf := Nat.lt_of_le_of_lt hc2 c65408_lt
  refine castAddHalf_mono _ (fmul_twoPowi_le c n K hc (mant_ne_zero c hc1 hc) h1 h2 hK hK1) ?_
  exact Nat.le_trans (Nat.mul_le_mul_right _ (show (K + 128).toNat ≤ 254 by omega)) (by decide)

/-- **first pass.**  A channel whose exponent field is at most `exp + 111` (the field of the
maximum, from which `exp` was computed) has `c · 2^(24−exp) < 512`: the rounded product is at most
`512.0`, and `(512.0 + 0.5) as u32 = 512` (the sum is the tie 512.5, rounded to even). -/
theorem mantOf_le_first (c exp : Nat) (hc1 : 1 ≤ c) (hc2 : c ≤ c65408) (he : exp ≤ 31)
    (hX : expField c ≤ exp + 111) : mantOf c (twoPowi (24 - exp)) ≤ 512 :=
  Nat.le_trans (mantOf_le_pow c (24 - exp) 8 hc1 hc2 (by omega) (by omega) (by omega) (by omega)
    (by omega)) (by decide +kernel)

/-- **second pass** (`exp` is the incremented exponent): `c · 2^(24−exp) < 256`, mantissa ≤ 256 -/
theorem mantOf_le_second (c exp : Nat) (hc1 : 1 ≤ c) (hc2 : c ≤ c65408) (he : exp ≤ 32)
    (hX : expField c ≤ exp + 110) : mantOf c (twoPowi (24 - exp)) ≤ 256 :=
  Nat.le_trans (mantOf_le_pow c (24 - exp) 7 hc1 hc2 (by omega) (by omega) (by omega) (by omega)
    (by omega)) (by decide +kernel)

/-- **top exponent.**  With `exp = 31` the channel is scaled by `2^-7`; the mantissa is monotone
in the channel, and at the clamp bound `65408 = 511·2^7` it is `(511.0 + 0.5) as u32 = 511`: the
first pass cannot produce 512 there, so `exp` never becomes 32. -/
theorem mantOf_le_top (c : Nat) (hc2 : c ≤ c65408) :
    mantOf c (twoPowi (24 - (31 : Nat))) ≤ 511 := by
  rw [show ((24 : Int) - (31 : Nat)) = -7 from rfl]
  have h : mantOf c (twoPowi (-7)) ≤ mantOf c65408 (twoPowi (-7)) :=
    F32Mono.pipe_mono (by decide) (by decide) (by decide) hc2 (by decide)
  exact Nat.le_trans h (by decide +kernel)

/-- what `clamp_0_max(·, 65408.0)` returns: `-0.0`, or a non-negative pattern up to 65408.0 -/
def Clamped (c : Nat) : Prop := c = signBit ∨ c ≤ c65408

theorem isNaN_iff (x : Nat) : isNaN x = true ↔ (x / 8388608 % 256 = 255 ∧ x % 8388608 ≠ 0) := by
  unfold isNaN; rw [expField_eq, fracField_eq]; simp

theorem isNaN_of_le (x : Nat) (h : x ≤ posInf) : isNaN x = false := by
  apply Bool.eq_false_iff.mpr
  rw [Ne, isNaN_iff]
  simp only [posInf] at h
  omega

theorem key_of_lt (x : Nat) (h : x < signBit) : key x = x := by
  unfold key isNeg
  simp only [signBit] at h ⊢
  simp; omega

theorem key_signBit : key signBit = 0 := by decide

theorem key_of_ge (x : Nat) (h : signBit ≤ x) : key x = -((x - signBit : Nat) : Int) := by
  unfold key isNeg
  simp [h]

/-- `f32::max` and `f32::min` of non-NaN operands decide by the order key -/
theorem fmax_key (t : Bool) (a b : Nat) (ha : isNaN a = false) (hb : isNaN b = false) :
    fmax t a b = if key a < key b then b else if key b < key a then a else if t then a else b := by
  unfold fmax flt
  simp only [ha, hb, Bool.false_eq_true, if_false, Bool.not_false, Bool.true_and, decide_eq_true_eq]

theorem fmin_key (a b : Nat) (ha : isNaN a = false) (hb : isNaN b = false) :
    fmin a b = if key b < key a then b else a := by
  unfold fmin flt
  simp only [ha, hb, Bool.false_eq_true, if_false, Bool.not_false, Bool.true_and, decide_eq_true_eq]

def Zeroish (c : Nat) : Prop := c = 0 ∨ c = signBit

/-- `value.max(0.0)` of ANY pattern: 0 (NaN, negative values, `+0.0`), the non-negative non-NaN
`value` itself, or — only for `-0.0` — whichever zero `max` returns -/
theorem fmax0_cases (x : Nat) :
    (∀ t, fmax t x 0 = 0) ∨ (x ≤ posInf ∧ ∀ t, fmax t x 0 = x) ∨
      (∀ t, fmax t x 0 = if t then signBit else 0) := by
  by_cases hn : isNaN x = true
  · exact Or.inl fun t => by unfold fmax; rw [if_pos hn]
  have hk : ∀ t, fmax t x 0 =
      if key x < 0 then 0 else if 0 < key x then x else if t then x else 0 :=
    fun t => fmax_key t x 0 (by simpa using hn) (by decide)
  have hnn := mt (isNaN_iff x).mpr hn
  by_cases hs : x < signBit
  · refine Or.inr (Or.inl ⟨by simp only [signBit, posInf] at hs ⊢; omega, fun t => ?_⟩)
    rw [hk, key_of_lt x hs, if_neg (by omega)]
    by_cases h0 : x = 0
    · subst h0; cases t <;> rfl
    · rw [if_pos (by omega)]
  · by_cases h0 : x = signBit
    · subst h0; exact Or.inr (Or.inr fun t => by rw [hk]; rfl)
    · exact Or.inl fun t => by rw [hk, key_of_ge x (by omega), if_pos (by omega)]

/-- `clamp_0_max(value, 65408.0)`: a non-negative pattern up to 65408.0 that does not depend on
the zero `max` returns, or (for `-0.0`) that zero -/
theorem clamp_cases (x : Nat) :
    (∃ c, c ≤ c65408 ∧ ∀ t, clamp0Max t x = c) ∨
      (∀ t, clamp0Max t x = if t then signBit else 0) := by
  unfold clamp0Max
  rcases fmax0_cases x with h | ⟨hle, h⟩ | h
  · exact Or.inl ⟨0, Nat.zero_le _, fun t => by rw [h]; decide⟩
  · have hm : fmin x c65408 = if (c65408 : Int) < x then c65408 else x := by
      rw [fmin_key x _ (isNaN_of_le x hle) (by decide),
        key_of_lt x (Nat.lt_of_le_of_lt hle (by decide))]
      rfl
    refine Or.inl ⟨fmin x c65408, ?_, fun t => by rw [h]⟩
    rw [hm]
    split <;> omega
  · exact Or.inr fun t => by rw [h]; cases t <;> decide

theorem clamp_spec (tie : Bool) (x : Nat) : Clamped (clamp0Max tie x) := by
  rcases clamp_cases x with ⟨c, hc, h⟩ | h <;> rw [h]
  · exact Or.inr hc
  · cases tie
    · exact Or.inr (Nat.zero_le _)
    · exact Or.inl rfl

def mag (c : Nat) : Nat := c % signBit

theorem clamped_facts (c : Nat) (h : Clamped c) :
    isNaN c = false ∧ key c = (mag c : Int) ∧ mag c ≤ c65408 ∧ (mag c = 0 ∨ c = mag c) := by
  rcases h with h | h
  · subst h; decide
  · have h2 : c < signBit := by simp only [c65408, signBit] at *; omega
    have hm : mag c = c := by unfold mag; exact Nat.mod_eq_of_lt h2
    refine ⟨isNaN_of_le c (by simp only [c65408, posInf] at *; omega), ?_, ?_, ?_⟩
    · rw [hm]; exact key_of_lt c h2
    · rw [hm]; exact h
    · right; exact hm.symm

theorem fmax_clamped_eq (t : Bool) (a b : Nat) (ha : Clamped a) (hb : Clamped b) :
    fmax t a b = if mag a < mag b then b else if mag b < mag a then a else if t then a else b := by
  obtain ⟨a1, a2, _, _⟩ := clamped_facts a ha
  obtain ⟨b1, b2, _, _⟩ := clamped_facts b hb
  simp only [fmax_key t a b a1 b1, a2, b2, Int.ofNat_lt]

theorem fmax_clamped (tie : Bool) (a b : Nat) (ha : Clamped a) (hb : Clamped b) :
    Clamped (fmax tie a b) ∧ mag a ≤ mag (fmax tie a b) ∧ mag b ≤ mag (fmax tie a b) := by
  rw [fmax_clamped_eq tie a b ha hb]
  split
  · exact ⟨hb, by omega, Nat.le_refl _⟩
  split
  · exact ⟨ha, Nat.le_refl _, by omega⟩
  split
  · exact ⟨ha, Nat.le_refl _, by omega⟩
  · exact ⟨hb, by omega, Nat.le_refl _⟩

end Dds.EncTotal.SharedExp
