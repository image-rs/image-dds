/-
`x ↦ (x * K + 0.5) as uN` for the kernel: the two roundings are done on (significand, exponent of its unit) without
packing the intermediate results into bit patterns.  The tests under which this is valid (finite operands with
normal significands, a normal product below `2^41`) are part of the definition, with `pipeR` as the other branch,
so `pipeF K cap x = pipe K half cap x` for ALL arguments; on the patterns of the threshold tables the other branch
is never taken.
-/
import DdsModel.Proofs.F32Mono
namespace Dds.F32Thr
open Dds Dds.CF32 Dds.ConvFast Dds.F32Mono
open Dds.F32.Raw (sel sel_true nadd nsub nmul ndiv nshl)
open Dds.ConvFast (nshr)

def pipeR (K h mx x : Nat) : Nat := toNatSatR (addR (mulR x K) h) mx

theorem pipeR_eq (K h mx x : Nat) : pipeR K h mx x = pipe K h mx x := by
  unfold pipeR pipe; rw [toNatSatR_eq, addR_eq, mulR_eq]

/-- `m·2^(B−1000)` with `⌊log₂ m⌋ = l ≥ 24`, a normal number below `2^127`, is rounded by dropping `l − 23` bits:
the result has the significand `rne m (l − 23)` (in `[2^23, 2^24]`) with the unit `2^(l + B − 23 − 1000)` -/
theorem pval_rpU (m B l : Nat) (lo : 2 ^ l ≤ m) (hi : m < 2 ^ (l + 1)) (h24 : 24 ≤ l) (h875 : 875 ≤ l + B)
    (h1126 : l + B ≤ 1126) :
    rpU m B < 0x7F800000 ∧ 2 ^ 23 ≤ rne m (l - 23) ∧ rne m (l - 23) ≤ 2 ^ 24 ∧
      pval (rpU m B) = rne m (l - 23) * 2 ^ (l + B - 23 - 851) := by
  have hm : m ≠ 0 := by have := Nat.two_pow_pos l; omega
  have hl : Nat.log2 m = l := (Nat.log2_eq_iff hm).mpr ⟨lo, hi⟩
  have hq : max (l + B - 23) 851 = l + B - 23 := by omega
  have hk : l + B - 23 - B = l - 23 := by omega
  have hsplit : 2 ^ l = 2 ^ 23 * 2 ^ (l - 23) := pow_split (show 23 ≤ l by omega)
  have r1 : 2 ^ 23 ≤ rne m (l - 23) := rne_ge_of_le (by rw [← hsplit]; exact lo)
  have r2 : rne m (l - 23) ≤ 2 ^ 24 := by
    apply rne_le_of_le
    have : 2 ^ (l + 1) = 2 ^ 24 * 2 ^ (l - 23) := by
      have e : l + 1 = 24 + (l - 23) := by omega
      rw [e, Nat.pow_add]
    omega
  unfold rpU
  rw [if_neg hm, hl, hq, if_neg (by omega), hk]
  have hlt : (l + B - 23 - 851) * 2 ^ 23 + rne m (l - 23) < 0x7F800000 := by
    have : l + B - 23 - 851 ≤ 252 := by omega
    have := Nat.mul_le_mul_right (2 ^ 23) this
    have e23 : (2 : Nat) ^ 23 = 8388608 := by decide
    have e24 : (2 : Nat) ^ 24 = 16777216 := by decide
    rw [e23] at this ⊢
    rw [e24] at r2
    omega
  rw [Nat.min_eq_right (Nat.le_of_lt hlt)]
  exact ⟨hlt, r1, r2, pval_pack _ _ (by omega) r2 (Or.inr r1)⟩

/-- the last step: `r·2^e / 2^149` saturated at `cap` -/
def satF (r e cap : Nat) : Nat :=
  let v := Nat.shiftRight (Nat.shiftLeft r e) 149
  Nat.sub cap (Nat.sub cap v)

/-- round the sum `m·2^(B−1000)`, where `2^h ≤ m < 2^(h+2)` (so `⌊log₂ m⌋` is `h` or `h + 1`), and convert -/
def sumF (cap m B h : Nat) : Nat :=
  let l := Nat.add h (Nat.shiftRight m (Nat.add h 1))
  satF (rneR m (Nat.sub l 23)) (Nat.sub (Nat.sub (Nat.add l B) 23) 851) cap

/-- add `0.5 = 2^23·2^(976−1000)` to the product `r·2^(q−1000)`: the one with the larger exponent is shifted -/
def addF (cap r q : Nat) : Nat :=
  let d1 := Nat.sub q 976
  let d2 := Nat.sub 976 q
  sumF cap (Nat.add (Nat.shiftLeft r d1) (Nat.shiftLeft 8388608 d2)) (Nat.sub q d1) (Nat.add 23 (Nat.add d1 d2))

/-- `pipe K half cap x`.  `m` is the product of the significands, in `[2^46, 2^48)` when both are normal, `l` its
`⌊log₂⌋` then (the literals are `2^47` and `2^46`), `s − 1000` the exponent of its leading bit.  The sum tested against `0` has one term for each
condition: `x` and `K` below `+∞`, `2^46 ≤ m`, `875 ≤ s`, and `s ≤ 1040` (values below `2^41`: the sum stays away
from overflow) -/
def pipeF (K cap x : Nat) : Nat :=
  let m := Nat.mul (mantR x) (mantR K)
  let l := Nat.add 46 (Nat.div m 140737488355328)
  let s := Nat.add l (Nat.sub (Nat.add (bexpR x) (bexpR K)) 1000)
  sel (Nat.beq (Nat.add (Nat.add (Nat.div x 0x7F800000) (Nat.div K 0x7F800000))
      (Nat.add (Nat.sub 1 (Nat.div m 70368744177664)) (Nat.add (Nat.sub 875 s) (Nat.sub s 1040)))) 0)
    (addF cap (rneR m (Nat.sub l 23)) (Nat.sub s 23))
    (pipeR K half cap x)

theorem satF_eq (r e cap : Nat) : satF r e cap = min cap (r * 2 ^ e / 2 ^ 149) := by
  unfold satF
  simp only [nsub, nshl, nshr, Nat.shiftLeft_eq, Nat.shiftRight_eq_div_pow]
  omega

theorem pval_half : pval half = 8388608 * 2 ^ 125 := by decide +kernel

/-- the sum `pval y + pval half`, given as `m·2^(B − 851)` with `2^(23+d) ≤ m < 2^(25+d)`, rounded and converted -/
theorem sumF_eq (cap m B d y : Nat) (hy : y < 0x7F800000) (hB : 852 ≤ B) (hBd : B + d ≤ 1100)
    (hm1 : 8388608 * 2 ^ d ≤ m) (hm2 : m < 33554432 * 2 ^ d) (hm3 : 16777216 ≤ m)
    (hsum : pval y + pval half = m * 2 ^ (B - 851)) : sumF cap m B (23 + d) = toNatSat (fadd y half) cap := by
  unfold sumF
  simp only [nadd, nshr, Nat.shiftRight_eq_div_pow]
  have e0 : 2 ^ (23 + d) = 8388608 * 2 ^ d := by rw [Nat.pow_add]
  have e1 : 2 ^ (23 + d + 1) = 16777216 * 2 ^ d := by rw [Nat.add_right_comm, Nat.pow_add]
  have e2 : 2 ^ (23 + d + 1 + 1) = 33554432 * 2 ^ d := by
    have : 23 + d + 1 + 1 = 25 + d := by omega
    rw [this, Nat.pow_add]
  -- `l` is the `⌊log₂ m⌋` read off the bit above `2^(23+d)`
  obtain ⟨l, hl, lo, hi, h24, hle⟩ : ∃ l, 23 + d + m / 2 ^ (23 + d + 1) = l ∧
      2 ^ l ≤ m ∧ m < 2 ^ (l + 1) ∧ 24 ≤ l ∧ l ≤ 24 + d := by
    have hd : d = 0 → 2 ^ d = 1 := fun h => by rw [h]
    by_cases h : m < 2 ^ (23 + d + 1)
    · refine ⟨23 + d, by rw [Nat.div_eq_of_lt h, Nat.add_zero], by rw [e0]; exact hm1, h, ?_, by omega⟩
      rw [e1] at h
      have := hd
      generalize 2 ^ d = D at *
      omega
    · have : m / 2 ^ (23 + d + 1) = 1 := by
        rw [e1] at h ⊢
        generalize 2 ^ d = D at *
        exact Nat.div_eq_of_lt_le (by omega) (by omega)
      exact ⟨23 + d + 1, by rw [this], by omega, by rw [e2]; exact hm2, by omega, by omega⟩
  rw [hl]
  obtain ⟨hz, _, _, hv⟩ := pval_rpU m B l lo hi h24 (by omega) (by omega)
  have e : 851 + (B - 851) = B := by omega
  rw [satF_eq, nsub, nsub, nsub, rneR_eq m (l - 23) (by omega), fadd_pval y half hy (by decide), hsum, rpU_scale, e,
    toNatSat_pval _ cap hz, hv]

theorem mantR_lt (p : Nat) (h : p < 0x7F800000) : mantR p < 16777216 := by
  rw [mantR_def]; split <;> omega

/-- `pipeF` with the product of the significands and the sum of the exponents named -/
theorem pipeF_aux (K cap x m B : Nat) (hm : mantR x * mantR K = m) (hB : bexpR x + bexpR K - 1000 = B) :
    sel (Nat.beq (x / 0x7F800000 + K / 0x7F800000 +
        (1 - m / 70368744177664 + (875 - (46 + m / 140737488355328 + B) + (46 + m / 140737488355328 + B - 1040)))) 0)
      (addF cap (rneR m (46 + m / 140737488355328 - 23)) (46 + m / 140737488355328 + B - 23)) (pipeR K half cap x) =
    pipe K half cap x := by
  cases hg : Nat.beq (x / 0x7F800000 + K / 0x7F800000 +
      (1 - m / 70368744177664 + (875 - (46 + m / 140737488355328 + B) + (46 + m / 140737488355328 + B - 1040)))) 0
  · exact pipeR_eq K half cap x
  have hg' := Nat.eq_of_beq_eq_true hg
  have hx : x < 0x7F800000 := by omega
  have hK : K < 0x7F800000 := by omega
  have h46 : 70368744177664 ≤ m := by omega
  have h48 : m < 16777216 * 16777216 := by
    rw [← hm]; exact Nat.mul_lt_mul'' (mantR_lt x hx) (mantR_lt K hK)
  -- `l` is the `⌊log₂⌋` of the product of the significands
  obtain ⟨l, hl, lo, hi, h24⟩ : ∃ l, 46 + m / 140737488355328 = l ∧ 2 ^ l ≤ m ∧ m < 2 ^ (l + 1) ∧ 24 ≤ l := by
    by_cases h : 140737488355328 ≤ m
    · exact ⟨47, by omega, h, h48, by decide⟩
    · exact ⟨46, by omega, h46, by omega, by decide⟩
  rw [hl] at hg' ⊢
  have hok : 875 ≤ l + B ∧ l + B ≤ 1040 := by omega
  -- the product as a pattern `y`: `pval y = r·2^(q − 851)`
  obtain ⟨hy, r1, r2, hv⟩ := pval_rpU m B l lo hi h24 hok.1 (by omega)
  have hpipe : pipe K half cap x = toNatSat (fadd (rpU m B) half) cap := by
    unfold pipe
    rw [← mulR_eq]
    unfold mulR
    rw [(posfin2_iff x K).mpr ⟨hx, hK⟩, sel_true, rpH_eq_rpU, nmul, nadd, nsub, hm, hB]
  rw [sel_true, rneR_eq m (l - 23) (by omega), hpipe]
  generalize rne m (l - 23) = r at hv r1 r2
  generalize hq : l + B - 23 = q at hv
  have hq1 : 852 ≤ q := by omega
  have hq2 : q ≤ 1017 := by omega
  generalize rpU m B = y at hy hv
  clear hpipe hm hB hok hq hg hg' lo hi h48 h46 hl
  have e23 : (2 : Nat) ^ 23 = 8388608 := by decide
  have e24 : (2 : Nat) ^ 24 = 16777216 := by decide
  rw [e23] at r1
  rw [e24] at r2
  unfold addF
  simp only [nadd, nsub, nshl, Nat.shiftLeft_eq]
  by_cases h976 : 976 ≤ q
  · have z : 976 - q = 0 := by omega
    have zq : q - (q - 976) = 976 := by omega
    simp only [z, zq, Nat.pow_zero, Nat.mul_one, Nat.add_zero]
    have a1 := Nat.mul_le_mul_right (2 ^ (q - 976)) r1
    have a2 := Nat.mul_le_mul_right (2 ^ (q - 976)) r2
    have a3 := Nat.two_pow_pos (q - 976)
    apply sumF_eq cap _ 976 (q - 976) y hy (by decide) (by omega)
    · omega
    · generalize 2 ^ (q - 976) = D at a1 a2 a3 ⊢
      omega
    · generalize 2 ^ (q - 976) = D at a1 a2 a3 ⊢
      omega
    · have e : q - 851 = q - 976 + 125 := by omega
      rw [hv, pval_half, e, Nat.pow_add, Nat.add_mul, Nat.mul_assoc]
  · have z : q - 976 = 0 := by omega
    simp only [z, Nat.pow_zero, Nat.mul_one, Nat.zero_add, Nat.sub_zero]
    have a3 : 2 ≤ 2 ^ (976 - q) := by
      have := Nat.pow_le_pow_right Nat.two_pos (show 1 ≤ 976 - q by omega)
      omega
    apply sumF_eq cap _ q (976 - q) y hy hq1 (by omega)
    · omega
    · generalize 2 ^ (976 - q) = D at a3 ⊢
      omega
    · generalize 2 ^ (976 - q) = D at a3 ⊢
      omega
    · have e : 125 = 976 - q + (q - 851) := by omega
      rw [hv, pval_half, Nat.add_mul, Nat.mul_assoc, ← Nat.pow_add, ← e]

theorem pipeF_eq (K cap x : Nat) : pipeF K cap x = pipe K half cap x := by
  unfold pipeF
  simp only [nadd, nsub, nmul, ndiv]
  exact pipeF_aux K cap x _ _ rfl rfl

end Dds.F32Thr
