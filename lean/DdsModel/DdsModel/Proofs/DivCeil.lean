/-
`divCeil` (util.rs `div_ceil`) through its adjunction `divCeil a b ≤ q ↔ a ≤ q * b`; every other fact about it that the
layout, addressing, stream and trap proofs need follows from that one.
-/
import DdsModel.Mach
namespace Dds

theorem divCeil_le_iff {a b q : Nat} (hb : 0 < b) : divCeil a b ≤ q ↔ a ≤ q * b := by
  rw [divCeil_eq a b hb, ← Nat.lt_succ_iff, Nat.div_lt_iff_lt_mul hb, Nat.succ_mul]
  omega

theorem lt_divCeil_iff {a b k : Nat} (hb : 0 < b) : k < divCeil a b ↔ k * b < a := by
  rw [← Nat.not_le, divCeil_le_iff hb, Nat.not_le]

theorem le_divCeil_mul (a : Nat) {b : Nat} (hb : 0 < b) : a ≤ divCeil a b * b :=
  (divCeil_le_iff hb).1 (Nat.le_refl _)

theorem divCeil_zero (b : Nat) : divCeil 0 b = 0 := by
  unfold divCeil; simp

theorem divCeil_pos {a b : Nat} (ha : 0 < a) (hb : 0 < b) : 0 < divCeil a b := by
  rw [lt_divCeil_iff hb]; omega

theorem divCeil_mono {a c b : Nat} (hb : 0 < b) (h : a ≤ c) : divCeil a b ≤ divCeil c b :=
  (divCeil_le_iff hb).2 (Nat.le_trans h (le_divCeil_mul c hb))

theorem divCeil_add_mul (a k b : Nat) (hb : 0 < b) : divCeil (a + k * b) b = divCeil a b + k := by
  rw [divCeil_eq _ _ hb, divCeil_eq _ _ hb]
  have : a + k * b + b - 1 = (a + b - 1) + k * b := by omega
  rw [this, Nat.add_mul_div_right _ _ hb]

theorem divCeil_add_self (a b : Nat) (hb : 0 < b) : divCeil (a + b) b = divCeil a b + 1 := by
  have := divCeil_add_mul a 1 b hb
  rwa [Nat.one_mul] at this

theorem divCeil_eq_one {a b : Nat} (ha : 0 < a) (hab : a ≤ b) : divCeil a b = 1 := by
  have h1 : divCeil a b ≤ 1 := (divCeil_le_iff (by omega)).2 (by omega)
  have h2 := divCeil_pos ha (Nat.lt_of_lt_of_le ha hab)
  omega

theorem divCeil_le_self (a : Nat) {b : Nat} (hb : 0 < b) : divCeil a b ≤ a :=
  (divCeil_le_iff hb).2 (Nat.le_mul_of_pos_right a hb)

theorem div_le_divCeil (a b : Nat) : a / b ≤ divCeil a b := by
  unfold divCeil; split <;> omega

theorem div_lt_divCeil_of_rem {a b : Nat} (h : 0 < a % b) : a / b < divCeil a b := by
  unfold divCeil; rw [if_pos h]; omega

/-- the block of row `y` exists once one more row does -/
theorem div_lt_divCeil {y h b : Nat} (hb : 0 < b) (hh : 0 < h) : y / b < divCeil (y + h) b := by
  rw [lt_divCeil_iff hb]
  have := Nat.div_mul_le_self y b
  omega

theorem divCeil_mul_right (a : Nat) {b k : Nat} (hb : 0 < b) (hk : 0 < k) : divCeil (a * k) (b * k) = divCeil a b := by
  apply Nat.le_antisymm
  · rw [divCeil_le_iff (Nat.mul_pos hb hk), ← Nat.mul_assoc]
    exact Nat.mul_le_mul_right k (le_divCeil_mul a hb)
  · rw [divCeil_le_iff hb]
    have := le_divCeil_mul (a * k) (Nat.mul_pos hb hk)
    rw [← Nat.mul_assoc] at this
    exact Nat.le_of_mul_le_mul_right this hk

theorem divCeil_mul_self (q : Nat) {b : Nat} (hb : 0 < b) : divCeil (q * b) b = q := by
  have := divCeil_add_mul 0 q b hb
  rwa [Nat.zero_add, divCeil_zero, Nat.zero_add] at this

theorem divCeil_step {n F : Nat} (hF : 0 < F) (hn : 0 < n) :
    divCeil n F = divCeil (n - F) F + 1 := by
  by_cases hle : F ≤ n
  · rw [← divCeil_add_self _ _ hF, Nat.sub_add_cancel hle]
  · rw [Nat.sub_eq_zero_of_le (by omega), divCeil_zero, divCeil_eq_one hn (by omega)]

/-- the blocks of `[cs, ce)` when `cs` is a block boundary -/
theorem div_add_divCeil_sub {cs ce bx : Nat} (hbx : 0 < bx) (hd : bx ∣ cs) (h : cs ≤ ce) :
    cs / bx + divCeil (ce - cs) bx = divCeil ce bx := by
  obtain ⟨q, rfl⟩ := hd
  have : ce = ce - bx * q + q * bx := by rw [Nat.mul_comm q]; omega
  rw [Nat.mul_div_cancel_left _ hbx, Nat.add_comm, ← divCeil_add_mul _ _ _ hbx, ← this]

/-- `⌈n/k⌉` indices: the `n / k` full pieces, then the remainder if there is one -/
theorem range_divCeil (n k : Nat) :
    List.range (divCeil n k) = List.range (n / k) ++ if n % k > 0 then [n / k] else [] := by
  unfold divCeil
  split
  · exact List.range_succ
  · exact (List.append_nil _).symm

end Dds
