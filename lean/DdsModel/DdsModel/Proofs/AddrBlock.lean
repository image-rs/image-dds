/-
Block family of the addressing model (C05): `general_process_blocks`, the 4x4 / 2x1 helpers,
`ChannelConversionBuffer::process_blocks` and the block-line loops.

Every `ProcessBlocksFn` is shown to meet one contract (`ProcSpec`); the conversion buffer composes
contracts of column windows (`ProcSpec.shift`: offset part + aligned chunks); block lines with their
contracts make up the view (`crop_of_lines`).
-/
import DdsModel.Proofs.Addr
namespace Dds.Addr
open Dds

/-- contract of a `ProcessBlocksFn` call on range `r` (block width `bw`): every run stays in the
range, inside one block, and column `c` of row `y` comes from pixel `(wo + c) % bw` of block
`(wo + c) / bw` of the slice, row `y` of the block; every pixel of the range is written. -/
structure ProcSpec (bw : Nat) (r : PRange) (runs : List Run) : Prop where
  sound : ∀ x ∈ runs, x.row + r.rs = x.py ∧ x.py < r.re ∧ x.uy = 0 ∧ 0 < x.n ∧ x.col + x.n ≤ r.width ∧
    x.px + x.n ≤ bw ∧ x.ux * bw + x.px = r.wo + x.col
  cover : ∀ c y, c < r.width → r.rs ≤ y → y < r.re →
    ∃ x ∈ runs, x.row + r.rs = y ∧ x.col ≤ c ∧ c < x.col + x.n


theorem mem_genRows {r : PRange} {pixelX blockW bi pox : Nat} {x : Run} :
    x ∈ genRows r pixelX blockW bi pox ↔
      ∃ y, r.rs ≤ y ∧ y < r.re ∧ x = ⟨y - r.rs, pixelX, blockW, bi, 0, pox, y⟩ := by
  simp only [genRows, List.mem_map, List.mem_range'_1]
  exact ⟨fun ⟨y, h, e⟩ => ⟨y, h.1, by omega, e.symm⟩, fun ⟨y, h1, h2, e⟩ => ⟨y, ⟨h1, by omega⟩, e.symm⟩⟩

/-- the accumulator `pixel_x` before block `b`: block `b ≥ 1` starts at column `b·bw - wo` -/
def genCol (bw : Nat) (r : PRange) (b : Nat) : Nat := min (b * bw - r.wo) r.width

/-- The block loop without its accumulator: block `b` is written to the columns
`[genCol b, genCol (b+1))`; its pixel offset `if b = 0 then wo else 0` is `wo - b·bw`. -/
theorem genLoop_eq (bw : Nat) (r : PRange) (hwo : r.wo < bw) : ∀ todo bi,
    genLoop bw r todo bi (genCol bw r bi) =
      (List.range' bi todo).flatMap fun b =>
        genRows r (genCol bw r b) (genCol bw r (b + 1) - genCol bw r b) b (r.wo - b * bw) := by
  intro todo
  induction todo with
  | zero => intro bi; rfl
  | succ todo ih =>
    intro bi
    have hp : (if bi = 0 then r.wo else 0) = r.wo - bi * bw ∧
        min (min (bw - (r.wo - bi * bw)) r.width) (r.width + r.wo - bi * bw) =
          genCol bw r (bi + 1) - genCol bw r bi ∧
        genCol bw r bi + (genCol bw r (bi + 1) - genCol bw r bi) = genCol bw r (bi + 1) := by
      unfold genCol
      rcases Nat.eq_zero_or_pos bi with rfl | hb
      · simp only [if_true, Nat.zero_mul, Nat.sub_zero, Nat.zero_sub, Nat.zero_min, Nat.zero_add, Nat.one_mul,
          true_and, and_true]
        omega
      · have e : (bi + 1) * bw = bi * bw + bw := Nat.succ_mul _ _
        have := Nat.le_mul_of_pos_left bw hb
        rw [if_neg (by omega)]
        omega
    rw [genLoop, List.range'_succ, List.flatMap_cons, hp.1, hp.2.1, hp.2.2, ih]

/-- preconditions under which the callers invoke a `ProcessBlocksFn` -/
structure ProcPre (bw : Nat) (r : PRange) (nb : Nat) : Prop where
  bw_pos : 0 < bw
  wo : r.wo < bw
  width : 0 < r.width
  rows : r.rs < r.re
  nb : nb = divCeil (r.wo + r.width) bw

theorem procGeneral_spec (bw : Nat) (r : PRange) (nb : Nat) (h : ProcPre bw r nb) :
    ProcSpec bw r (procGeneral bw r nb) := by
  obtain ⟨hbw, hwo, hw, -, rfl⟩ := h
  have hmem : ∀ x, x ∈ procGeneral bw r (divCeil (r.wo + r.width) bw) ↔
      ∃ b, b * bw < r.wo + r.width ∧ ∃ y, r.rs ≤ y ∧ y < r.re ∧
        x = ⟨y - r.rs, genCol bw r b, genCol bw r (b + 1) - genCol bw r b, b, 0, r.wo - b * bw, y⟩ := by
    intro x
    have h := genLoop_eq bw r hwo (divCeil (r.wo + r.width) bw) 0
    rw [show genCol bw r 0 = 0 by unfold genCol; omega] at h
    rw [procGeneral, h]
    simp only [List.mem_flatMap, List.mem_range'_1, mem_genRows, Nat.zero_le, true_and, Nat.zero_add,
      lt_divCeil_iff hbw]
  constructor
  · intro x hx
    obtain ⟨b, hb, y, hy1, hy2, rfl⟩ := (hmem x).1 hx
    have e : (b + 1) * bw = b * bw + bw := Nat.succ_mul _ _
    dsimp only [genCol]
    omega
  · intro c y hc hy1 hy2
    -- column `c` lies in block `(wo + c) / bw`
    have h1 := Nat.div_mul_le_self (r.wo + c) bw
    have h2 : r.wo + c < (r.wo + c) / bw * bw + bw := Nat.lt_div_mul_add hbw
    have e : ((r.wo + c) / bw + 1) * bw = (r.wo + c) / bw * bw + bw := Nat.succ_mul _ _
    refine ⟨_, (hmem _).2 ⟨(r.wo + c) / bw, by omega, y, hy1, hy2, rfl⟩, ?_⟩
    dsimp only [genCol]
    omega


theorem ProcSpec.nil (bw wo rs re : Nat) : ProcSpec bw ⟨0, wo, rs, re⟩ [] :=
  ⟨fun _ hx => (nomatch hx), fun _ _ hc => (nomatch hc)⟩

/-- A contract for `w'` columns that start on a block boundary, used for the columns
`[dc, dc + w')` of the range `⟨width, wo⟩` whose block `du` starts at column `dc`. -/
theorem ProcSpec.shift {bw w' width wo rs re dc du : Nat} {A : List Run} (hA : ProcSpec bw ⟨w', 0, rs, re⟩ A)
    (hw : dc + w' ≤ width) (hu : 0 < w' → du * bw = wo + dc) :
    (∀ x ∈ A.map (Run.shift 0 dc du 0), x.row + rs = x.py ∧ x.py < re ∧ x.uy = 0 ∧ 0 < x.n ∧
      x.col + x.n ≤ width ∧ x.px + x.n ≤ bw ∧ x.ux * bw + x.px = wo + x.col) ∧
    (∀ c y, dc ≤ c → c < dc + w' → rs ≤ y → y < re →
      ∃ x ∈ A.map (Run.shift 0 dc du 0), x.row + rs = y ∧ x.col ≤ c ∧ c < x.col + x.n) := by
  constructor
  · intro x hx
    obtain ⟨x0, hx0, rfl⟩ := List.mem_map.1 hx
    have s := hA.sound x0 hx0
    have e : (x0.ux + du) * bw = x0.ux * bw + du * bw := Nat.add_mul _ _ _
    have := hu (by dsimp only at s; omega)
    simp only [Run.shift] at s ⊢
    omega
  · intro c y h1 h2 hy1 hy2
    obtain ⟨x0, hx0, s⟩ := hA.cover (c - dc) y (by dsimp only; omega) hy1 hy2
    refine ⟨_, List.mem_map_of_mem hx0, ?_⟩
    simp only [Run.shift] at s ⊢
    omega

/-- first (offset) block handled separately, the rest shifted by one block -/
theorem ProcSpec.split {bw width wo rs re ow : Nat} {A B : List Run}
    (how : ow ≤ width) (hfull : 0 < width - ow → wo + ow = bw)
    (hA : ProcSpec bw ⟨ow, wo, rs, re⟩ A) (hB : ProcSpec bw ⟨width - ow, 0, rs, re⟩ B) :
    ProcSpec bw ⟨width, wo, rs, re⟩ (A ++ B.map (Run.shift 0 ow 1 0)) := by
  obtain ⟨sB, cB⟩ := hB.shift (wo := wo) (width := width) (dc := ow) (du := 1) (by omega)
    (fun h => by rw [Nat.one_mul, hfull h])
  constructor
  · intro x hx
    rcases List.mem_append.1 hx with hx | hx
    · have s := hA.sound x hx
      dsimp only at s ⊢
      omega
    · exact sB x hx
  · intro c y hc hy1 hy2
    dsimp only at hc
    by_cases h : c < ow
    · obtain ⟨x, hx, s⟩ := hA.cover c y h hy1 hy2
      exact ⟨x, List.mem_append_left _ hx, s⟩
    · obtain ⟨x, hx, s⟩ := cB c y (by omega) (by omega) hy1 hy2
      exact ⟨x, List.mem_append_right _ hx, s⟩

/-- conversion chunks of a range without width offset -/
theorem ProcSpec.chunks {bw width rs re pref : Nat} (hpref : 0 < pref)
    (hdvd : pref % bw = 0) (f : Nat → List Run)
    (hf : ∀ cs, cs ∈ stepStarts width pref →
      ProcSpec bw ⟨min (cs + pref) width - cs, 0, rs, re⟩ (f cs)) :
    ProcSpec bw ⟨width, 0, rs, re⟩
      ((stepStarts width pref).flatMap fun cs => (f cs).map (Run.shift 0 cs (cs / bw) 0)) := by
  have sh := fun cs (hcs : cs ∈ stepStarts width pref) =>
    (hf cs hcs).shift (wo := 0) (width := width) (dc := cs) (du := cs / bw)
      (by have := stepStart_lt hpref hcs; omega) (fun _ => by rw [stepStart_aligned hdvd hcs, Nat.zero_add])
  constructor
  · intro x hx
    obtain ⟨cs, hcs, hx⟩ := List.mem_flatMap.1 hx
    exact (sh cs hcs).1 x hx
  · intro c y hc hy1 hy2
    dsimp only at hc
    obtain ⟨cs, hcs, h1, h2⟩ := stepStarts_tiles hpref hc
    obtain ⟨x, hx, s⟩ := (sh cs hcs).2 c y h1 (by omega) hy1 hy2
    exact ⟨x, List.mem_flatMap.2 ⟨cs, hcs, hx⟩, s⟩


theorem fast4_spec (width : Nat) : ProcSpec 4 ⟨width, 0, 0, 4⟩ (fast4 width) := by
  have hmem : ∀ x, x ∈ fast4 width ↔
      (∃ bi, bi < width / 4 ∧ ∃ y, y < 4 ∧ (⟨y, bi * 4, 4, bi, 0, 0, y⟩ : Run) = x) ∨
      (width % 4 ≠ 0 ∧ ∃ y, y < 4 ∧ (⟨y, width / 4 * 4, width - width / 4 * 4, width / 4, 0, 0, y⟩ : Run) = x) := by
    intro x
    by_cases h : width % 4 = 0 <;>
      simp only [fast4, h, ne_eq, not_true_eq_false, not_false_eq_true, if_true, if_false, List.mem_append,
        List.mem_flatMap, List.mem_map, List.mem_range, List.not_mem_nil, true_and, false_and]
  constructor
  · intro x hx
    rcases (hmem x).1 hx with ⟨bi, hbi, y, hy, rfl⟩ | ⟨h, y, hy, rfl⟩ <;> dsimp only <;> omega
  · intro c y hc _ hy
    dsimp only at hc hy
    by_cases h : c / 4 < width / 4
    · refine ⟨_, (hmem _).2 (Or.inl ⟨c / 4, h, y, hy, rfl⟩), ?_⟩
      dsimp only
      omega
    · refine ⟨_, (hmem _).2 (Or.inr ⟨by omega, y, hy, rfl⟩), ?_⟩
      dsimp only
      omega

theorem Run.shift_zero : Run.shift 0 0 0 0 = id :=
  funext fun x => by cases x; rfl

/-- what `process_4x4_blocks_helper` does after `handle_width_offset` -/
theorem proc4_rest_spec (fast : Bool) (width rs re nb : Nat) (hrows : rs < re) (hre : re ≤ 4)
    (hnb : nb = divCeil width 4) :
    ProcSpec 4 ⟨width, 0, rs, re⟩
      (if re - rs = 4 ∧ fast = true then fast4 width else procGeneral 4 ⟨width, 0, rs, re⟩ nb) := by
  split
  · obtain ⟨rfl, rfl⟩ : rs = 0 ∧ re = 4 := by omega
    exact fast4_spec width
  · rcases Nat.eq_zero_or_pos width with rfl | hw
    · rw [hnb, divCeil_zero]
      exact ProcSpec.nil 4 0 rs re
    · exact procGeneral_spec 4 _ nb ⟨by decide, (by decide : 0 < 4), hw, hrows, by rw [hnb, Nat.zero_add]⟩

theorem proc4_spec (fast : Bool) (r : PRange) (nb : Nat) (h : ProcPre 4 r nb) (hre : r.re ≤ 4) :
    ProcSpec 4 r (proc4 fast r nb) := by
  obtain ⟨_, hwo, hw, hrows, hnb⟩ := h
  obtain ⟨width, wo, rs, re⟩ := r
  dsimp only at hwo hw hrows hnb hre
  unfold proc4
  dsimp only
  by_cases h0 : wo = 0
  · subst h0
    rw [Nat.zero_add] at hnb
    simp only [bne_self_eq_false, Bool.false_and, Bool.false_eq_true, if_false, List.nil_append,
      Run.shift_zero, List.map_id]
    exact proc4_rest_spec fast width rs re nb hrows hre hnb
  · have hh : (wo != 0 && min (4 - wo) width != 0) = true := by
      simp only [bne_iff_ne, ne_eq, Bool.and_eq_true]; omega
    simp only [hh, if_true]
    apply ProcSpec.split (by omega) (by omega)
    · exact procGeneral_spec 4 _ 1 ⟨by decide, hwo, by dsimp only; omega, hrows,
        (divCeil_eq_one (by dsimp only; omega) (by dsimp only; omega)).symm⟩
    · apply proc4_rest_spec fast _ rs re _ hrows hre
      rw [hnb, divCeil_eq _ _ (by decide), divCeil_eq _ _ (by decide)]
      omega

theorem proc2_spec (r : PRange) (nb : Nat) (h : ProcPre 2 r nb) (hre : r.re ≤ 1) :
    ProcSpec 2 r (proc2 r nb) := by
  obtain ⟨_, hwo, hw, hrows, hnb⟩ := h
  obtain ⟨width, wo, rs, re⟩ := r
  dsimp only at hwo hw hrows hnb hre
  obtain ⟨rfl, rfl⟩ : rs = 0 ∧ re = 1 := by omega
  rw [divCeil_eq _ _ (by decide)] at hnb
  -- the blocks after the offset part: `⌈(width - wo) / 2⌉`, so every pair is decoded
  have hn : nb - wo = (width - wo + 1) / 2 := by omega
  have hP : min (nb - wo) ((width - wo) / 2) = (width - wo) / 2 := by omega
  clear hnb
  -- both values of `first` at once: `wo` pixels and `wo` blocks go to the offset part
  have hmem : ∀ x, x ∈ proc2 ⟨width, wo, 0, 1⟩ nb ↔
      (wo = 1 ∧ x = ⟨0, 0, 1, 0, 0, 1, 0⟩) ∨
      (∃ i, i < (width - wo) / 2 ∧ (⟨0, wo + 2 * i, 2, wo + i, 0, 0, 0⟩ : Run) = x) ∨
      ((width - wo) % 2 = 1 ∧ x = ⟨0, wo + (width - wo - 1), 1, wo + (nb - wo - 1), 0, 0, 0⟩) := by
    intro x
    rcases (by omega : wo = 0 ∨ wo = 1) with rfl | rfl
    · rw [Nat.sub_zero, Nat.sub_zero] at hP
      by_cases hl : width % 2 = 1 <;>
        simp only [proc2, hl, hP, Nat.zero_ne_one, beq_iff_eq, if_true, if_false, List.mem_append, List.mem_map,
          List.mem_range, List.mem_singleton, List.not_mem_nil, List.nil_append, true_and, false_and, or_false,
          false_or, Nat.sub_zero, Nat.zero_add]
    · by_cases hl : (width - 1) % 2 = 1 <;>
        simp only [proc2, hl, hP, beq_self_eq_true, if_true, if_false, List.mem_append, List.mem_map, List.mem_range,
          List.mem_singleton, List.not_mem_nil, true_and, false_and, or_false, or_assoc]
  constructor
  · intro x hx
    rcases (hmem x).1 hx with ⟨_, rfl⟩ | ⟨i, hi, rfl⟩ | ⟨_, rfl⟩ <;> dsimp only <;> omega
  · intro c y hc hy1 hy2
    dsimp only at hc hy1 hy2
    obtain rfl : y = 0 := by omega
    by_cases h1 : c < wo
    · exact ⟨_, (hmem _).2 (Or.inl ⟨by omega, rfl⟩), rfl, Nat.zero_le _, by dsimp only; omega⟩
    · by_cases h2 : (c - wo) / 2 < (width - wo) / 2
      · refine ⟨_, (hmem _).2 (Or.inr (Or.inl ⟨_, h2, rfl⟩)), rfl, ?_⟩
        dsimp only
        omega
      · refine ⟨_, (hmem _).2 (Or.inr (Or.inr ⟨by omega, rfl⟩)), rfl, ?_⟩
        dsimp only
        omega
/-- block heights a `ProcessBlocksFn` shape is instantiated with -/
def Proc.bhOk : Proc → Nat → Prop
  | .general _, _ => True
  | .four, bh => bh = 4
  | .two, bh => bh = 1

theorem Proc.run_spec (p : Proc) (bh : Nat) (hok : p.bhOk bh) (fast : Bool) (r : PRange) (nb : Nat)
    (h : ProcPre p.bw r nb) (hre : r.re ≤ bh) : ProcSpec p.bw r (p.run fast r nb) := by
  cases p with
  | general bw => exact procGeneral_spec bw r nb h
  | four => exact proc4_spec fast r nb h (hok ▸ hre)
  | two => exact proc2_spec r nb h (hok ▸ hre)


theorem Run.shift_shift (a b c d a' b' c' d' : Nat) (x : Run) :
    Run.shift a b c d (Run.shift a' b' c' d' x) = Run.shift (a' + a) (b' + b) (c' + c) (d' + d) x := by
  simp only [Run.shift, Nat.add_assoc]

/-- the chunks after an offset part of `ow` pixels are the chunks of the remaining range, moved by
`ow` pixels and one block -/
theorem flatMap_shift (l : List Nat) (f : Nat → List Run) (g : Nat → Nat) (ow : Nat) :
    (l.flatMap fun cs => (f cs).map (Run.shift 0 (ow + cs) (1 + g cs) 0)) =
    (l.flatMap fun cs => (f cs).map (Run.shift 0 cs (g cs) 0)).map (Run.shift 0 ow 1 0) := by
  simp only [List.map_flatMap, List.map_map, Function.comp_def, Run.shift_shift, Nat.add_comm ow, Nat.add_comm 1]

theorem roundDown_props {v m : Nat} (hm : 0 < m) (hv : m ≤ v) :
    0 < roundDown v m ∧ roundDown v m % m = 0 ∧ roundDown v m ≤ v := by
  have e : roundDown v m = m * (v / m) := by
    have := Nat.div_add_mod v m
    unfold roundDown
    omega
  rw [e]
  exact ⟨Nat.mul_pos hm (Nat.div_pos hv hm), Nat.mul_mod_right m _, Nat.mul_div_le v m⟩

theorem convBlocks_spec (p : Proc) (bh : Nat) (hok : p.bhOk bh) (fast conv : Bool) (nbpp : Nat)
    (r : PRange) (nb : Nat) (h : ProcPre p.bw r nb) (hre : r.re ≤ bh)
    (hbuf : conv = true → p.bw ≤ BUFFER_BYTES / (nbpp * (r.re - r.rs))) :
    ProcSpec p.bw r (convBlocks p fast conv nbpp r nb) := by
  unfold convBlocks
  cases conv with
  | false => exact Proc.run_spec p bh hok fast r nb h hre
  | true =>
    obtain ⟨hp1, hp2, _⟩ := roundDown_props h.bw_pos (hbuf rfl)
    obtain ⟨hbw, hwo, hw, hrows, -⟩ := h
    obtain ⟨width, wo, rs, re⟩ := r
    dsimp only at hwo hw hrows hre hp1 hp2 ⊢
    -- one chunk, and the chunks of a range without width offset
    have hchunk : ∀ csz, 0 < csz → ProcSpec p.bw ⟨csz, 0, rs, re⟩ (p.run true ⟨csz, 0, rs, re⟩ (divCeil csz p.bw)) :=
      fun csz h => Proc.run_spec p bh hok true _ _ ⟨hbw, hbw, h, hrows, by rw [Nat.zero_add]⟩ hre
    have hchunks := fun W' => ProcSpec.chunks (width := W') (rs := rs) (re := re) hp1 hp2 _ fun cs hcs =>
      hchunk (min (cs + roundDown (BUFFER_BYTES / (nbpp * (re - rs))) p.bw) W' - cs)
        (by have := stepStart_lt hp1 hcs; omega)
    by_cases h0 : wo = 0
    · subst h0
      simp only [Bool.not_true, Bool.false_eq_true, ne_eq, not_true_eq_false, if_false, List.nil_append,
        Nat.zero_add]
      exact hchunks width
    · simp only [Bool.not_true, Bool.false_eq_true, ne_eq, h0, not_false_eq_true, if_true, if_false]
      rw [flatMap_shift]
      refine ProcSpec.split (by omega) (by omega) ?_ (hchunks _)
      exact Proc.run_spec p bh hok true _ _ ⟨hbw, hwo, by dsimp only; omega, hrows,
        (divCeil_eq_one (by dsimp only; omega) (by dsimp only; omega)).symm⟩ hre


/-- closed form of the accumulator `pixel_row`: the rows of the rectangle above block line `k` -/
theorem pixelRow_eq (g : RectGeom) (hbh : 0 < g.bh) (k : Nat) :
    g.pixelRow k = min g.h ((g.skipBefore + k) * g.bh - g.oy) := by
  have h1 : g.skipBefore * g.bh ≤ g.oy := Nat.div_mul_le_self _ _
  have h2 : g.oy < g.skipBefore * g.bh + g.bh := Nat.lt_div_mul_add hbh
  induction k with
  | zero => rw [RectGeom.pixelRow, Nat.add_zero, Nat.sub_eq_zero_of_le h1, Nat.min_zero]
  | succ k ih =>
    have h3 : g.skipBefore * g.bh ≤ (g.skipBefore + k) * g.bh := Nat.mul_le_mul_right _ (Nat.le_add_right _ _)
    rw [RectGeom.pixelRow, ih, RectGeom.rowEnd, RectGeom.rowStart, ← Nat.add_assoc, Nat.succ_mul]
    generalize (g.skipBefore + k) * g.bh = top at h3 ⊢
    omega

/-- `rows_partition`, the facts used by the assembly -/
theorem rows_facts (g : RectGeom) (hbh : 0 < g.bh) (hh : 0 < g.h) (k : Nat)
    (hk : (g.skipBefore + k) * g.bh < g.oy + g.h) :
    g.rowStart k < g.rowEnd k ∧ g.rowEnd k ≤ g.bh ∧
    (g.skipBefore + k) * g.bh + g.rowStart k = g.oy + g.pixelRow k ∧
    g.pixelRow (k + 1) = g.pixelRow k + (g.rowEnd k - g.rowStart k) ∧ g.pixelRow (k + 1) ≤ g.h := by
  have h1 : g.skipBefore * g.bh ≤ g.oy := Nat.div_mul_le_self _ _
  have h2 : g.oy < g.skipBefore * g.bh + g.bh := Nat.lt_div_mul_add hbh
  have e : (g.skipBefore + k) * g.bh = g.skipBefore * g.bh + k * g.bh := Nat.add_mul _ _ _
  refine ⟨?_, ?_, ?_, rfl, ?_⟩
  · rw [RectGeom.rowEnd, RectGeom.rowStart]; omega
  · rw [RectGeom.rowEnd]; omega
  · rw [pixelRow_eq g hbh, RectGeom.rowStart]; omega
  · rw [pixelRow_eq g hbh]; omega

theorem pixelRow_end (g : RectGeom) (hbh : 0 < g.bh) : g.pixelRow g.linesToRead = g.h := by
  have := Nat.mul_le_mul_right g.bh
    (show divCeil (g.h + g.oy) g.bh ≤ g.skipBefore + g.linesToRead by unfold RectGeom.linesToRead; omega)
  have := le_divCeil_mul (g.h + g.oy) hbh
  rw [pixelRow_eq g hbh]
  omega

/-- the lines read are those that start above the lower edge of the rectangle -/
theorem lt_linesToRead (g : RectGeom) (hbh : 0 < g.bh) {k : Nat} (hk : k < g.linesToRead) :
    (g.skipBefore + k) * g.bh < g.oy + g.h := by
  have : g.skipBefore + k < divCeil (g.h + g.oy) g.bh := by unfold RectGeom.linesToRead at hk; omega
  rw [lt_divCeil_iff hbh] at this
  omega

/-- the block range of a line has the block count the pixel functions expect -/
theorem brLen_eq (g : RectGeom) (hbw : 0 < g.bw) :
    g.brEnd - g.brStart = divCeil (g.widthOffset + g.w) g.bw := by
  unfold RectGeom.brEnd RectGeom.brStart RectGeom.widthOffset
  have : g.ox + g.w = (g.ox % g.bw + g.w) + g.ox / g.bw * g.bw := by
    have := Nat.div_add_mod g.ox g.bw
    rw [Nat.mul_comm]; omega
  rw [this, divCeil_add_mul _ _ _ hbw, Nat.add_sub_cancel]

structure RectOk (p : Proc) (g : RectGeom) (conv : Bool) (nbpp : Nat) : Prop where
  bw : g.bw = p.bw
  bwpos : 0 < g.bw
  bhpos : 0 < g.bh
  bhok : p.bhOk g.bh
  w : 0 < g.w
  h : 0 < g.h
  fit : conv = true → 0 < nbpp ∧ nbpp * g.bh * g.bw ≤ BUFFER_BYTES

theorem buf_fits {nbpp bh bw d : Nat} (hn : 0 < nbpp) (hd : 0 < d) (hdb : d ≤ bh)
    (hfit : nbpp * bh * bw ≤ BUFFER_BYTES) : bw ≤ BUFFER_BYTES / (nbpp * d) := by
  rw [Nat.le_div_iff_mul_le (Nat.mul_pos hn hd), Nat.mul_comm]
  exact Nat.le_trans (Nat.mul_le_mul_right bw (Nat.mul_le_mul_left nbpp hdb)) hfit

/-- Block lines `k < n`: the slice of each starts at block `U` of block line `V k`, where
`U·bw + wo = ox`; line `k` meets its contract on the rows `[rs k, re k)` of its blocks, row `rs k`
being surface row `oy + R k`, and is written from row `R k` of the view on.  If these row ranges make
up the view, the lines together are the crop at `(ox, oy)`. -/
theorem crop_of_lines {bw bh w wo U ox oy h n : Nat} {runs : List Run} {rs re R V : Nat → Nat}
    {line : Nat → List Run}
    (hmem : ∀ x, x ∈ runs ↔ ∃ k, k < n ∧ x ∈ (line k).map (Run.shift (R k) 0 U (V k)))
    (hU : U * bw + wo = ox)
    (hline : ∀ k, k < n → ProcSpec bw ⟨w, wo, rs k, re k⟩ (line k) ∧ re k ≤ bh ∧
      V k * bh + rs k = oy + R k ∧ R k + (re k - rs k) ≤ h)
    (hrow : ∀ j, j < h → ∃ k, k < n ∧ R k ≤ j ∧ j < R k + (re k - rs k)) :
    CropSound bw bh ox oy w h runs ∧ CropCover w h runs ∧ WithinUnit bw bh runs := by
  have hs : ∀ x ∈ runs, (x.row < h ∧ x.col + x.n ≤ w ∧ x.ux * bw + x.px = ox + x.col ∧
      x.uy * bh + x.py = oy + x.row) ∧ x.px + x.n ≤ bw ∧ x.py < bh := by
    intro x hx
    obtain ⟨k, hk, hx⟩ := (hmem x).1 hx
    obtain ⟨x0, hx0, rfl⟩ := List.mem_map.1 hx
    obtain ⟨hA, h1, h2, h3⟩ := hline k hk
    have s := hA.sound x0 hx0
    have e : (x0.ux + U) * bw = x0.ux * bw + U * bw := Nat.add_mul _ _ _
    simp only [Run.shift] at s ⊢
    rw [s.2.2.1, Nat.zero_add]
    omega
  refine ⟨fun x hx => (hs x hx).1, fun i j hi hj => ?_, fun x hx => (hs x hx).2⟩
  obtain ⟨k, hk, j1, j2⟩ := hrow j hj
  obtain ⟨x0, hx0, s⟩ := (hline k hk).1.cover i (rs k + (j - R k)) hi (by dsimp only; omega) (by dsimp only; omega)
  refine ⟨_, (hmem _).2 ⟨k, hk, List.mem_map_of_mem hx0⟩, (covers_iff _ _ _).2 ?_⟩
  simp only [Run.shift] at s ⊢
  omega

theorem rect_line_spec (p : Proc) (g : RectGeom) (fast conv : Bool) (nbpp : Nat) (ok : RectOk p g conv nbpp)
    (k : Nat) (hk : (g.skipBefore + k) * g.bh < g.oy + g.h) :
    ProcSpec p.bw ⟨g.w, g.widthOffset, g.rowStart k, g.rowEnd k⟩
      (convBlocks p fast conv nbpp ⟨g.w, g.widthOffset, g.rowStart k, g.rowEnd k⟩ (g.brEnd - g.brStart)) := by
  obtain ⟨r1, r2, -⟩ := rows_facts g ok.bhpos ok.h k hk
  refine convBlocks_spec p g.bh ok.bhok fast conv nbpp _ _ ?_ r2 fun hc => ?_
  · rw [← ok.bw]
    exact ⟨ok.bwpos, Nat.mod_lt _ ok.bwpos, ok.w, r1, brLen_eq g ok.bwpos⟩
  · obtain ⟨f1, f2⟩ := ok.fit hc
    rw [← ok.bw]
    exact buf_fits f1 (by dsimp only; omega) (by dsimp only; omega) f2

/-- the `while let Some(block_line)` loop without its accumulator -/
theorem rectLoop_eq (p : Proc) (g : RectGeom) (fastAt : Nat → Bool) (conv : Bool) (nbpp : Nat) : ∀ todo k,
    rectLoop p g fastAt conv nbpp todo k (g.pixelRow k) =
      (List.range' k todo).flatMap fun k =>
        (convBlocks p (fastAt (g.pixelRow k)) conv nbpp ⟨g.w, g.widthOffset, g.rowStart k, g.rowEnd k⟩
          (g.brEnd - g.brStart)).map (Run.shift (g.pixelRow k) 0 g.brStart (g.skipBefore + k)) := by
  intro todo
  induction todo with
  | zero => intro k; rfl
  | succ todo ih => intro k; rw [rectLoop, List.range'_succ, List.flatMap_cons, ← ih]; rfl

theorem blockRect_spec (p : Proc) (g : RectGeom) (fastAt : Nat → Bool) (conv : Bool) (nbpp : Nat)
    (ok : RectOk p g conv nbpp) :
    CropSound g.bw g.bh g.ox g.oy g.w g.h (blockRect p g fastAt conv nbpp) ∧
    CropCover g.w g.h (blockRect p g fastAt conv nbpp) ∧
    WithinUnit g.bw g.bh (blockRect p g fastAt conv nbpp) := by
  have hbh := ok.bhpos
  refine crop_of_lines (n := g.linesToRead) (rs := g.rowStart) (re := g.rowEnd) (R := g.pixelRow)
    (V := fun k => g.skipBefore + k) (wo := g.widthOffset) (U := g.brStart)
    (line := fun k => convBlocks p (fastAt (g.pixelRow k)) conv nbpp
      ⟨g.w, g.widthOffset, g.rowStart k, g.rowEnd k⟩ (g.brEnd - g.brStart))
    (fun x => ?_) (by rw [Nat.mul_comm]; exact Nat.div_add_mod g.ox g.bw) (fun k hk => ?_) (fun j hj => ?_)
  · rw [blockRect, show rectLoop p g fastAt conv nbpp g.linesToRead 0 0 = _ from
      rectLoop_eq p g fastAt conv nbpp g.linesToRead 0]
    simp only [List.mem_flatMap, List.mem_range'_1, Nat.zero_le, true_and, Nat.zero_add]
  · have hk' := lt_linesToRead g hbh hk
    obtain ⟨_, r2, r3, r4, r5⟩ := rows_facts g hbh ok.h k hk'
    exact ⟨ok.bw ▸ rect_line_spec p g _ conv nbpp ok k hk', r2, r3, by omega⟩
  · -- row `j` of the view is surface row `oy + j`, in block line `(oy + j) / bh`
    have h1 := Nat.div_mul_le_self (g.oy + j) g.bh
    have h2 : g.oy + j < (g.oy + j) / g.bh * g.bh + g.bh := Nat.lt_div_mul_add hbh
    have h3 : g.skipBefore ≤ (g.oy + j) / g.bh := Nat.div_le_div_right (Nat.le_add_right _ _)
    have e : g.skipBefore + ((g.oy + j) / g.bh - g.skipBefore) = (g.oy + j) / g.bh := by omega
    have hlt : (g.oy + j) / g.bh < divCeil (g.h + g.oy) g.bh := by rw [lt_divCeil_iff hbh]; omega
    refine ⟨(g.oy + j) / g.bh - g.skipBefore, by unfold RectGeom.linesToRead; omega, ?_⟩
    rw [pixelRow_eq g hbh, RectGeom.rowEnd, RectGeom.rowStart, e]
    omega

theorem blockFull_spec (p : Proc) (bh : Nat) (fastAt : Nat → Bool) (conv : Bool) (nbpp W H : Nat)
    (hbw : 0 < p.bw) (hbh : 0 < bh) (hok : p.bhOk bh) (hW : 0 < W)
    (hfit : conv = true → 0 < nbpp ∧ nbpp * bh * p.bw ≤ BUFFER_BYTES) :
    CropSound p.bw bh 0 0 W H (blockFull p bh fastAt conv nbpp W H) ∧
    CropCover W H (blockFull p bh fastAt conv nbpp W H) ∧
    WithinUnit p.bw bh (blockFull p bh fastAt conv nbpp W H) := by
  refine crop_of_lines (n := divCeil H bh) (rs := fun _ => 0) (re := fun b => min bh (H - b * bh))
    (R := fun b => b * bh) (V := fun b => b) (wo := 0) (U := 0)
    (line := fun b => convBlocks p (fastAt (b * bh)) conv nbpp ⟨W, 0, 0, min bh (H - b * bh)⟩ (divCeil W p.bw))
    (fun x => ?_) (by omega) (fun b hb => ?_) (fun j hj => ?_)
  · simp only [blockFull, List.mem_flatMap, List.mem_range]
  · rw [lt_divCeil_iff hbh] at hb
    refine ⟨convBlocks_spec p bh hok _ conv nbpp _ _ ⟨hbw, hbw, hW, by dsimp only; omega, by rw [Nat.zero_add]⟩
      (Nat.min_le_left _ _) fun hc => buf_fits (hfit hc).1 (by dsimp only; omega) (by dsimp only; omega) (hfit hc).2,
      Nat.min_le_left _ _, by omega, by omega⟩
  · have h1 := Nat.div_mul_le_self j bh
    have h2 : j < j / bh * bh + bh := Nat.lt_div_mul_add hbh
    exact ⟨j / bh, by rw [lt_divCeil_iff hbh]; omega, h1, by omega⟩

end Dds.Addr
