/-
C15 (encoder loops, part 2): the mirrors of `TrapEncBlk.lean` (row-group loop, sub-sampled, bi-planar, block
formats) return `some` of the write sizes of `EncLen.lean` for every view that satisfies C20's invariant.
-/
import DdsModel.TrapEncBlk
import DdsModel.Proofs.TrapEnc
namespace Dds.TrapEnc
open Dds Dds.Trap

/-! ## `for_each_f32_rgba_rows` -/

/-- row `i` of a buffer of `n` rows of `w` elements -/
theorem row_slice {w n i : Nat} (hi : i < n) : i * w ≤ (i + 1) * w ∧ (i + 1) * w ≤ w * n ∧ (i + 1) * w - i * w = w := by
  have h2 : (i + 1) * w ≤ n * w := Nat.mul_le_mul_right _ hi
  rw [Nat.mul_comm n] at h2
  rw [Nat.succ_mul] at h2 ⊢
  omega

theorem fillGroupT_eq {c : Color} (hc : c.OK) {w bh : Nat} (hbuf : w * bh < 18446744073709551616) (hbhl : bh ≤ 65536) :
    ∀ (n i m : Nat), i + n ≤ bh → n ≤ m →
      fillGroupT c w (w * bh) i n (List.replicate m (w * c.bpp)) = some (List.replicate (m - n) (w * c.bpp)) := by
  intro n
  induction n with
  | zero => intro i m _ _; rfl
  | succ n ih =>
    intro i m hi hm
    obtain ⟨m, rfl⟩ : ∃ m', m = m' + 1 := ⟨m - 1, by omega⟩
    obtain ⟨h1, h2, h3⟩ := row_slice (w := w) (show i < bh by omega)
    rw [List.replicate_succ, fillGroupT, mulU_bind (by omega), addU_bind (by omega), mulU_bind (by omega),
      sliceRange_bind ⟨h1, h2⟩, h3, convertToRgbaF32T_eq hc, bind_some', ih (i + 1) m (by omega) (by omega),
      Nat.add_sub_add_right]

theorem fullGroupsT_eq {c : Color} (hc : c.OK) {w bh : Nat} (hbuf : w * bh < 18446744073709551616) (hbhl : bh ≤ 65536) :
    ∀ (g m : Nat), g * bh ≤ m →
      fullGroupsT c w bh (w * bh) g (List.replicate m (w * c.bpp)) =
        some (List.replicate (m - g * bh) (w * c.bpp)) := by
  intro g
  induction g with
  | zero => intro m _; rw [Nat.zero_mul]; rfl
  | succ g ih =>
    intro m hm
    rw [Nat.succ_mul] at hm ⊢
    rw [fullGroupsT, fillGroupT_eq hc hbuf hbhl bh 0 m (by omega) (by omega), bind_some', ih (m - bh) (by omega),
      Nat.sub_sub, Nat.add_comm]

/-- **`for_each_f32_rgba_rows`**: the closure is called `ceil(h / bh)` times with a buffer of `w · bh` pixels; the
row iterator is exhausted exactly (`expect("Image has too few rows")`, `debug_assert!(rows.next().is_none())`), the
slices `[i·w .. (i+1)·w]` and the `copy_within` targets are inside the buffer — also for `w = 0`, `h < bh` -/
theorem forEachRowsT_eq {v : View} {c : Color} (hv : VOK v c) (hc : c.OK) {bh : Nat} (hbh : 1 ≤ bh ∧ bh ≤ 65536) :
    forEachRowsT v c bh = some (v.w * bh, rowGroups v.h bh) := by
  obtain ⟨hw, _, _, _⟩ := hv.bounds
  have hbuf : v.w * bh ≤ 4294967295 * 65536 := Nat.mul_le_mul (by omega) hbh.2
  have hlt : v.h % bh < bh := Nat.mod_lt _ (by omega)
  unfold forEachRowsT rowGroups
  rw [dbgP_bind (by omega), mulU_bind (by omega), allocT_bind (by omega), rowsT_eq hv, bind_some', div_bind (by omega),
    hv.bpp, fullGroupsT_eq hc (by omega) hbh.2 _ _ (Nat.div_mul_le_self _ _), bind_some', ← Nat.mod_eq_sub_div_mul,
    remU_bind (by omega)]
  split
  · rw [fillGroupT_eq hc (by omega) hbh.2 _ 0 _ (by omega) (Nat.le_refl _), bind_some', Nat.sub_self, List.replicate_zero,
      dbgP_bind rfl, mapT_eq_some _ (fun _ => ()), bind_some', pure_some']
    intro i hi
    have hi := List.mem_range'_1.mp hi
    have hb1 : v.w ≤ v.w * bh := Nat.le_mul_of_pos_right _ hbh.1
    have hb2 := (row_slice (w := v.w) (show i < bh by omega)).2.1
    rw [Nat.succ_mul] at hb2
    rw [sliceTo_bind hb1, mulU_bind (by omega), addU_bind (by omega), dbgP_of hb2]
  · rw [pure_some', Nat.add_zero]

/-! ## sub-sampled formats -/

theorem processSubsampleT_eq {bw p : Nat} (hbw : 1 ≤ bw) (hp : p < 4294967296) :
    processSubsampleT bw p (divCeil p bw) = some () := by
  have hfull : p / bw * bw ≤ p := Nat.div_mul_le_self _ _
  have hrest : p - p / bw * bw = p % bw := Nat.mod_eq_sub_div_mul.symm
  have hlt : p % bw < bw := Nat.mod_lt _ (by omega)
  unfold processSubsampleT
  rw [div_bind (by omega), mulU_bind (by omega), subU_bind hfull, sliceTo_bind hfull, Nat.mul_assoc,
    TrapUnc.fromBytesT_mul_bind (by omega), hrest]
  split
  · next hr =>
    rw [show divCeil p bw = p / bw + 1 from if_pos hr, sliceTo_bind (by omega), sliceFrom_bind hfull, hrest,
      copyFromSliceT_of_eq rfl, bind_some', sliceFrom_bind (by omega), subU_bind (by omega), idxLen_bind (by omega),
      idxLen_of_lt (by omega)]
  · rfl

/-- the chunk loop of one row on the chunks `L` (in pixels, each at most `cp`) -/
theorem subsampleRowT_eq {c : Color} (hc : c.OK) (aligned : Bool) {bw blockBytes prim cnt cp : Nat} (hbw : 1 ≤ bw)
    (hbb : blockBytes ≤ 65536) (hp : prim = 1 ∨ blockBytes % prim = 0)
    (hcpb : cp ≤ SrcConsts.SUBSAMPLE_BUFFER_PIXELS) (hcpe : divCeil cp bw ≤ SrcConsts.SUBSAMPLE_ENCODED_BLOCKS)
    (hcpl : cp < 4294967296)
    (hcnt : cnt < 18446744073709551616) (hfr : SrcConsts.SUBSAMPLE_REPORT_FREQUENCY ≠ 0) :
    ∀ (L : List Nat) (idx : Nat), (∀ q ∈ L, 1 ≤ q ∧ q ≤ cp) → idx + L.length ≤ cnt →
      subsampleRowT c aligned bw blockBytes prim cnt (L.map (· * c.bpp)) idx =
        some (L.map (fun q => divCeil q bw * blockBytes), idx + L.length) := by
  have hb := c.bpp_pos hc
  intro L
  induction L with
  | nil => intro idx _ _; rfl
  | cons q L ih =>
    intro idx hq hidx
    have hq1 := hq q (List.mem_cons_self ..)
    rw [List.length_cons] at hidx
    -- `ceil(q / bw) ≤ ceil(cp / bw)`: the encoded buffer holds the blocks of a full chunk
    have hmono : divCeil q bw ≤ divCeil cp bw := divCeil_mono hbw hq1.2
    have hdl : divCeil q bw ≤ q := divCeil_le_self _ hbw
    have hbytes : divCeil q bw * blockBytes ≤ 4294967296 * 65536 := Nat.mul_le_mul (by omega) hbb
    rw [List.map_cons, subsampleRowT, progT_of hfr (by omega) hcnt, bind_some', div_bind (by omega),
      Nat.mul_div_cancel _ (by omega), sliceTo_bind (by omega), divCeilU_bind (by omega), sliceTo_bind (by omega),
      asRgbaF32T_eq hc, bind_some', processSubsampleT_eq hbw (by omega), bind_some', mulU_bind (by omega),
      toLeT_mul hp, bind_some', ih (idx + 1) (fun x hx => hq x (List.mem_cons_of_mem _ hx)) (by omega), bind_some',
      pure_some', List.map_cons, Nat.add_assoc, Nat.add_comm 1]
    rfl

theorem subsampleRowsT_eq {c : Color} (hc : c.OK) (aligned : Bool) {bw blockBytes prim cnt cp w : Nat} (hbw : 1 ≤ bw)
    (hbb : blockBytes ≤ 65536) (hp : prim = 1 ∨ blockBytes % prim = 0) (hcp : 1 ≤ cp)
    (hcpb : cp ≤ SrcConsts.SUBSAMPLE_BUFFER_PIXELS) (hcpe : divCeil cp bw ≤ SrcConsts.SUBSAMPLE_ENCODED_BLOCKS)
    (hcpl : cp < 4294967296)
    (hcnt : cnt < 18446744073709551616) (hfr : SrcConsts.SUBSAMPLE_REPORT_FREQUENCY ≠ 0) :
    ∀ (n idx : Nat), idx + n * divCeil w cp ≤ cnt →
      subsampleRowsT c aligned bw blockBytes prim (cp * c.bpp) cnt (w * c.bpp) (List.replicate n (w * c.bpp)) idx =
        some (List.replicate n ((chunkLens cp w w).map fun q => divCeil q bw * blockBytes)).flatten := by
  obtain ⟨hch, hlen, _, hle⟩ := row_chunks hcp (c.bpp_pos hc).1 w
  intro n
  induction n with
  | zero => intro idx _; rfl
  | succ n ih =>
    intro idx hidx
    rw [Nat.succ_mul] at hidx
    rw [List.replicate_succ, subsampleRowsT, dbgP_bind rfl, hch, bind_some',
      subsampleRowT_eq hc aligned hbw hbb hp hcpb hcpe hcpl hcnt hfr _ idx hle (by omega), bind_some',
      ih _ (by omega), bind_some', pure_some', List.replicate_succ, List.flatten_cons]

/-- **`uncompressed_universal_subsample`** (sub_sampled.rs:30) for blocks of `bw` pixels encoded in `blockBytes` bytes:
every row is cut into chunks of `BUFFER_PIXELS / bw * bw` pixels, a chunk of `p` pixels writes `ceil(p / bw)` blocks;
the partial last block of a row (also for `width < bw`, `width = 1`) stays inside `data`, `last_block` and `out` -/
theorem subsampleT_eq {v : View} {c : Color} (hv : VOK v c) (hc : c.OK) (aligned : Bool) {bw blockBytes prim : Nat}
    (hbw : 2 ≤ bw ∧ bw ≤ SrcConsts.SUBSAMPLE_BUFFER_PIXELS) (hbb : blockBytes ≤ 65536)
    (hp : prim = 1 ∨ blockBytes % prim = 0)
    (hbuf : SrcConsts.SUBSAMPLE_BUFFER_PIXELS ≤ 65536 ∧
      SrcConsts.SUBSAMPLE_BUFFER_PIXELS / 2 ≤ SrcConsts.SUBSAMPLE_ENCODED_BLOCKS)
    (hfr : SrcConsts.SUBSAMPLE_REPORT_FREQUENCY ≠ 0) :
    subsampleT v c aligned bw blockBytes prim =
      some (chunksSubsample v.w v.h (SrcConsts.SUBSAMPLE_BUFFER_PIXELS / bw * bw) bw blockBytes) := by
  unfold subsampleT chunksSubsample
  have hq1 : 1 ≤ SrcConsts.SUBSAMPLE_BUFFER_PIXELS / bw := (Nat.one_le_div_iff (by omega)).2 hbw.2
  have hcple : SrcConsts.SUBSAMPLE_BUFFER_PIXELS / bw * bw ≤ SrcConsts.SUBSAMPLE_BUFFER_PIXELS := Nat.div_mul_le_self _ _
  have hcp1 : 1 * 1 ≤ SrcConsts.SUBSAMPLE_BUFFER_PIXELS / bw * bw := Nat.mul_le_mul hq1 (by omega)
  -- a full chunk is `BUFFER_PIXELS / bw ≤ BUFFER_PIXELS / 2` blocks
  have hcpe : divCeil (SrcConsts.SUBSAMPLE_BUFFER_PIXELS / bw * bw) bw ≤ SrcConsts.SUBSAMPLE_ENCODED_BLOCKS := by
    have := divCeil_mul_self (SrcConsts.SUBSAMPLE_BUFFER_PIXELS / bw) (b := bw) (by omega)
    have := Nat.div_le_div_left (a := SrcConsts.SUBSAMPLE_BUFFER_PIXELS) hbw.1 (by omega)
    omega
  rw [dbgP_bind hbw.1, div_bind (by omega), mulU_bind (by omega)]
  generalize SrcConsts.SUBSAMPLE_BUFFER_PIXELS / bw * bw = cp at *
  obtain ⟨_, hcs, hrow, hper, hcnt⟩ := row_chunk_facts hv hc (cp := cp) (by omega) (by omega)
  rw [mulU_bind hcs, mulU_bind hrow, divCeilU_bind (by omega), hper, mulU_bind hcnt, rowsT_eq hv, bind_some', hv.bpp,
    subsampleRowsT_eq hc aligned (by omega) hbb hp (by omega) hcple hcpe (by omega) hcnt hfr v.h 0
      (by rw [Nat.zero_add, Nat.mul_comm]; exact Nat.le_refl _),
    List.map_const', List.length_range]

/-! ## bi-planar formats -/

theorem biPlanarGroupT_eq {w : Nat} (hw : w < 4294967296) : biPlanarGroupT w (w * 2) (w * 2) = some () := by
  unfold biPlanarGroupT
  rw [div_bind (by omega), mapT_eq_some _ (fun _ => [[(), ()], [(), ()]]), bind_some', pure_some']
  intro mx hmx
  have hmx : mx < w / 2 := List.mem_range.mp hmx
  apply mapT_eq_some _ (fun _ => [(), ()])
  intro y hy
  have hy : y < 2 := List.mem_range.mp hy
  apply mapT_eq_some _ (fun _ => ())
  intro x hx
  have hx : x < 2 := List.mem_range.mp hx
  have hyw : y * w ≤ 1 * w := Nat.mul_le_mul_right _ (by omega)
  rw [mulU_bind (by omega), mulU_bind (by omega), addU_bind (by omega), addU_bind (by omega), idxLen_bind (by omega),
    mulU_bind (by omega), addU_bind (by omega), idxLen_bind (by omega), idxLen_bind (by omega), idxLen_of_lt (by omega)]

/-- a view that exists has at least one byte per pixel: `w · h ≤ data.len()` (so `plane2_len · size_of::<P2>()` cannot
exceed `isize::MAX`) -/
theorem pixels_le_len {v : View} {c : Color} (hv : VOK v c) : v.w * v.h ≤ v.len := by
  by_cases he : v.w = 0 ∨ v.h = 0
  · rw [(hv.inv.empty he).1, Nat.zero_mul]; exact Nat.zero_le _
  · have h1 : v.w ≤ v.w * v.bpp := Nat.le_mul_of_pos_right _ hv.inv.bpp_pos
    rw [hv.inv.len_eq he, ← Nat.mul_pred_add _ (show 0 < v.h by omega)]
    exact Nat.add_le_add (Nat.mul_le_mul_right _ (Nat.le_trans h1 hv.inv.pitch_ge)) h1

/-- **`bi_planar_universal`** (bi_planar.rs:16): odd sizes are refused before anything is written; otherwise one write
of plane 1 per row pair and one of plane 2.  The progress divisor `report_frequency` is never zero (also for the
empty image), `Vec::with_capacity(plane2_len)` stays below `isize::MAX`, the 2×2 cell indices stay inside the f32
buffer and `plane1_buffer`, and `plane2` has exactly `plane2_len` elements at the end. -/
theorem biPlanarT_eq {v : View} {c : Color} (hv : VOK v c) (hc : c.OK) {s1 prim1 s2 prim2 : Nat}
    (hs1 : s1 ≤ 4096) (hs2 : s2 ≤ 4) (hp1 : prim1 = 1 ∨ s1 % prim1 = 0) (hp2 : prim2 = 1 ∨ s2 % prim2 = 0)
    (hfr : SrcConsts.BIPLANAR_REPORT_PIXELS ≠ 0) :
    biPlanarT v c s1 prim1 s2 prim2 =
      some (if v.w % 2 ≠ 0 ∨ v.h % 2 ≠ 0 then none else some (writesBiPlanar v.w v.h s1 s2)) := by
  obtain ⟨hw, hh, hvl, _⟩ := hv.bounds
  unfold biPlanarT
  rw [remU_bind (by omega), remU_bind (by omega)]
  split
  · rfl
  · next hodd =>
    have hp1s : v.w * 2 * s1 ≤ 8589934590 * 4096 := Nat.mul_le_mul (by omega) hs1
    have hhalf : v.w / 2 * (v.h / 2) ≤ 2147483647 * 2147483647 := Nat.mul_le_mul (by omega) (by omega)
    -- `(w/2)·(h/2)·4 ≤ w·h ≤ data.len() ≤ isize::MAX`
    have hquad : v.w / 2 * (v.h / 2) * 4 ≤ v.w * v.h := by
      rw [Nat.mul_comm _ 4, show 4 = 2 * 2 from rfl, Nat.mul_mul_mul_comm]
      exact Nat.mul_le_mul (Nat.mul_div_le _ _) (Nat.mul_div_le _ _)
    have hp2s : v.w / 2 * (v.h / 2) * s2 ≤ v.w / 2 * (v.h / 2) * 4 := Nat.mul_le_mul_left _ hs2
    have hlen := pixels_le_len hv
    have hpush : v.h / 2 * (v.w / 2) = v.w / 2 * (v.h / 2) := Nat.mul_comm ..
    have hcalls : rowGroups v.h 2 = v.h / 2 := by unfold rowGroups; rw [if_neg (by omega)]; rfl
    have hfreq : divCeil SrcConsts.BIPLANAR_REPORT_PIXELS (max (v.w * 2) 1) ≠ 0 :=
      Nat.ne_of_gt (divCeil_pos (by omega) (by omega))
    rw [mulU_bind (by omega), allocT_bind (by omega), div_bind (by omega), div_bind (by omega), mulU_bind (by omega),
      allocT_bind (by omega), divCeilU_bind (by omega), mulU_bind (by omega), divCeilU_bind (by omega),
      forEachRowsT_eq hv hc (bh := 2) (by omega), bind_some', hcalls, show divCeil v.h 2 = v.h / 2 from if_neg (by omega)]
    dsimp only
    rw [mapT_eq_some _ (fun _ => v.w * 2 * s1), bind_some', mulU_bind (by omega), dbgP_bind hpush,
      hpush, mulU_bind (by omega), toLeT_mul hp2, bind_some', pure_some', writesBiPlanar, hcalls]
    intro g hg
    rw [progT_of hfreq (List.mem_range.mp hg) (by omega), bind_some', biPlanarGroupT_eq hw, bind_some',
      mulU_bind (by omega), toLeT_mul hp1, bind_some', pure_some']

/-! ## block-compressed formats -/

/-- the 4×4 reads stay inside the slice when it holds three pitches and four more pixels -/
theorem get4x4T_of {dataLen pitch : Nat} (h : 3 * pitch + 4 ≤ dataLen) (hl : dataLen < 18446744073709551616) :
    get4x4T dataLen pitch = some () := by
  unfold get4x4T
  rw [mapT_eq_some _ (fun _ => [(), (), (), ()]), bind_some', pure_some']
  intro i hi
  have hi : i < 4 := List.mem_range.mp hi
  apply mapT_eq_some _ (fun _ => ())
  intro j hj
  have hj : j < 4 := List.mem_range.mp hj
  have hip : i * pitch ≤ 3 * pitch := Nat.mul_le_mul_right _ (by omega)
  rw [mulU_bind (by omega), addU_bind (by omega), idxLen_bind (by omega), mulU_bind (by omega), addU_bind (by omega),
    idxLen_of_lt (by omega)]

/-- what `block_universal` needs of `encode_block(data, row_pitch, ..)`: it reads at most a `bw × bh` block at the start
of the slice, rows `row_pitch` apart -/
def EncBlockOK (encT : Nat → Nat → Option Unit) (bw bh : Nat) : Prop :=
  ∀ dataLen pitch, (bh - 1) * pitch + bw ≤ dataLen → dataLen < 18446744073709551616 → encT dataLen pitch = some ()

theorem get4x4T_ok : EncBlockOK get4x4T 4 4 := fun _ _ h hl => get4x4T_of h hl

theorem fullBlocksT_eq {encT : Nat → Nat → Option Unit} {w bw bh encLen cnt freq : Nat} (hok : EncBlockOK encT bw bh)
    (hbw : 1 ≤ bw) (hbh : 1 ≤ bh) (hbuf : w * bh < 18446744073709551616) (hfr : freq ≠ 0)
    (hcnt : cnt < 18446744073709551616) :
    ∀ (n bi idx : Nat), (bi + n) * bw ≤ w → bi + n ≤ encLen → idx + n ≤ cnt →
      fullBlocksT encT w (w * bh) encLen bw cnt freq bi n idx = some (idx + n) := by
  intro n
  induction n with
  | zero => intro bi idx _ _ _; rfl
  | succ n ih =>
    intro bi idx hb he hi
    have h1 : (bi + 1) * bw ≤ (bi + (n + 1)) * bw := Nat.mul_le_mul_right _ (by omega)
    rw [Nat.succ_mul] at h1
    -- the slice from block `bi` on holds `bh - 1` rows and one more block
    have h3 : w * bh = (bh - 1) * w + w := by rw [← Nat.mul_pred_add _ (show 0 < bh by omega), Nat.mul_comm]
    rw [fullBlocksT, reportBlockT, mulU_bind (by omega), sliceFrom_bind (by omega), idxLen_bind (by omega),
      hok _ _ (by omega) (by omega), bind_some', progT_of hfr (by omega) hcnt, bind_some', pure_some', bind_some',
      ih (bi + 1) (idx + 1) (by rw [Nat.add_assoc, Nat.add_comm 1 n]; exact hb) (by omega) (by omega), Nat.add_assoc,
      Nat.add_comm 1]

/-- one row group: `ceil(w / bw)` blocks are encoded and reported, one write of `ceil(w / bw) · bytes` -/
theorem blockGroupT_eq {encT : Nat → Nat → Option Unit} {w bw bh bb cnt freq idx : Nat} (hok : EncBlockOK encT bw bh)
    (hbw : 1 ≤ bw ∧ bw ≤ 256) (hbh : 1 ≤ bh ∧ bh ≤ 256) (hw : w < 4294967296) (hbb : bb ≤ 65536) (hfr : freq ≠ 0)
    (hcnt : cnt < 18446744073709551616) (hidx : idx + divCeil w bw ≤ cnt) :
    blockGroupT encT w (w * bh) (divCeil w bw) bw bh (bw * bh) bb cnt freq idx =
      some (divCeil w bw * bb, idx + divCeil w bw) := by
  have hbuf : w * bh ≤ 4294967295 * 256 := Nat.mul_le_mul (by omega) hbh.2
  have hfull : w / bw * bw ≤ w := Nat.div_mul_le_self _ _
  have hrest : w - w / bw * bw = w % bw := Nat.mod_eq_sub_div_mul.symm
  have hlt : w % bw < bw := Nat.mod_lt _ (by omega)
  have hbytes : divCeil w bw * bb ≤ 4294967295 * 65536 :=
    Nat.mul_le_mul (Nat.le_trans (divCeil_le_self _ hbw.1) (by omega)) hbb
  have hdq : w / bw ≤ w := Nat.div_le_self _ _
  have hfb := fullBlocksT_eq (encLen := divCeil w bw) hok hbw.1 hbh.1 (w := w) (by omega) hfr hcnt (w / bw) 0 idx
    (by rw [Nat.zero_add]; exact hfull) (by have := div_le_divCeil w bw; omega)
    (by have := div_le_divCeil w bw; omega)
  unfold blockGroupT
  rw [div_bind (by omega), hfb, bind_some', remU_bind (by omega)]
  split
  · next hr =>
    have hdc : divCeil w bw = w / bw + 1 := if_pos (by omega)
    have hbs : bw * bh ≤ 256 * 256 := Nat.mul_le_mul hbw.2 hbh.2
    -- the gathered block is `bh` rows of `bw`
    have hblk : bw * bh = (bh - 1) * bw + bw := by rw [← Nat.mul_pred_add _ (show 0 < bh by omega), Nat.mul_comm]
    rw [hdc] at hidx hbytes ⊢
    rw [div_bind (by omega), mulU_bind (by omega), subU_bind hfull, hrest, mapT_eq_some _ (fun _ => ()),
      bind_some', reportBlockT, idxLen_bind (by omega), hok _ _ (by omega) (by omega),
      bind_some', progT_of hfr (by omega) hcnt, bind_some', pure_some', bind_some', mulU_bind (by omega), pure_some',
      Nat.add_assoc]
    intro i hi
    have hi : i < bh := List.mem_range.mp hi
    obtain ⟨h1, h2, h3⟩ := row_slice (w := bw) hi
    have h5 := (row_slice (w := w) hi).2.1
    rw [Nat.succ_mul] at h5
    rw [mulU_bind (by omega), addU_bind (by omega), mulU_bind (by omega), sliceRange_bind ⟨h1, h2⟩, h3,
      mulU_bind (by omega), addU_bind (by omega), sliceFrom_bind (by omega), sliceTo_bind (by omega),
      sliceTo_bind (by omega), copyFromSliceT_of_eq rfl, bind_some', sliceFrom_bind (by omega), pure_some']
  · rw [show divCeil w bw = w / bw from if_neg (by omega)] at hbytes ⊢
    rw [pure_some', bind_some', mulU_bind (by omega), pure_some']

theorem blockGroupsT_eq {encT : Nat → Nat → Option Unit} {w bw bh bb cnt freq : Nat} (hok : EncBlockOK encT bw bh)
    (hbw : 1 ≤ bw ∧ bw ≤ 256) (hbh : 1 ≤ bh ∧ bh ≤ 256) (hw : w < 4294967296) (hbb : bb ≤ 65536) (hfr : freq ≠ 0)
    (hcnt : cnt < 18446744073709551616) :
    ∀ (n idx : Nat), idx + n * divCeil w bw ≤ cnt →
      blockGroupsT encT w (w * bh) (divCeil w bw) bw bh (bw * bh) bb cnt freq n idx =
        some (List.replicate n (divCeil w bw * bb)) := by
  intro n
  induction n with
  | zero => intro idx _; rfl
  | succ n ih =>
    intro idx hidx
    rw [Nat.succ_mul] at hidx
    rw [blockGroupsT, blockGroupT_eq hok hbw hbh hw hbb hfr hcnt (by omega), bind_some', ih _ (by omega), bind_some',
      pure_some', List.replicate_succ]

/-- **`block_universal`** (bc.rs:26) for `bw × bh` blocks of `bb` bytes: one write of `ceil(w / bw)` blocks per group
of `bh` rows; full blocks read `&rows[bi·bw ..]` with pitch `w`, the partial block a `bw × bh` copy whose rows are
sliced out of the buffer at `bi·bw + i·w` (`width % bw` pixels) — for every `w`, `h`, including `w < bw`, `h < bh` -/
theorem blockUniversalT_eq {encT : Nat → Nat → Option Unit} {v : View} {c : Color} (hv : VOK v c) (hc : c.OK)
    {bw bh bb freq : Nat} (hok : EncBlockOK encT bw bh) (hbw : 1 ≤ bw ∧ bw ≤ 256) (hbh : 1 ≤ bh ∧ bh ≤ 256)
    (hbb : bb ≤ 65536) (hfr : freq ≠ 0) :
    blockUniversalT encT v c bw bh (bw * bh) bb freq = some (writesBlock v.w v.h bw bh bb) := by
  obtain ⟨hw, hh, _, _⟩ := hv.bounds
  have h1 : bw * bh ≤ 256 * 256 := Nat.mul_le_mul hbw.2 hbh.2
  have hdl : divCeil v.w bw ≤ v.w := divCeil_le_self _ hbw.1
  have hdh : divCeil v.h bh ≤ v.h := divCeil_le_self _ hbh.1
  have hbytes : divCeil v.w bw * bb ≤ 4294967295 * 65536 := Nat.mul_le_mul (by omega) hbb
  have hcnt : divCeil v.w bw * divCeil v.h bh ≤ 4294967295 * 4294967295 := Nat.mul_le_mul (by omega) (by omega)
  unfold blockUniversalT writesBlock
  rw [mulU_bind (by omega), dbgP_bind rfl, divCeilU_bind (by omega), allocT_bind (by omega), divCeilU_bind (by omega),
    divCeilU_bind (by omega), mulU_bind (by omega), forEachRowsT_eq hv hc (bh := bh) (by omega), bind_some',
    blockGroupsT_eq hok hbw hbh hw hbb hfr (by omega) _ 0 (by
      rw [Nat.zero_add, rowGroups_eq, Nat.mul_comm]; exact Nat.le_refl _),
    List.map_const', List.length_range]

theorem bcReportFrequency_ne (hf : SrcConsts.BC_REPORT_FREQUENCY_FAST ≠ 0 ∧ SrcConsts.BC_REPORT_FREQUENCY_NORMAL ≠ 0 ∧
    SrcConsts.BC_REPORT_FREQUENCY_HIGH ≠ 0 ∧ SrcConsts.BC_REPORT_FREQUENCY_UNREASONABLE ≠ 0) (q : Nat) :
    bcReportFrequency q ≠ 0 := by
  unfold bcReportFrequency
  split
  · exact hf.1
  · split
    · exact hf.2.1
    · split
      · exact hf.2.2.1
      · exact hf.2.2.2

/-- **`block_4x4`**: the block loop with the `get_4x4_*` readers -/
theorem block4x4T_eq {v : View} {c : Color} (hv : VOK v c) (hc : c.OK) {bb : Nat} (hbb : bb ≤ 65536) (quality : Nat)
    (hf : SrcConsts.BC_REPORT_FREQUENCY_FAST ≠ 0 ∧ SrcConsts.BC_REPORT_FREQUENCY_NORMAL ≠ 0 ∧
      SrcConsts.BC_REPORT_FREQUENCY_HIGH ≠ 0 ∧ SrcConsts.BC_REPORT_FREQUENCY_UNREASONABLE ≠ 0) :
    block4x4T v c bb quality = some (writesBlock v.w v.h 4 4 bb) :=
  blockUniversalT_eq (bw := 4) (bh := 4) hv hc get4x4T_ok (by omega) (by omega) hbb (bcReportFrequency_ne hf quality)

end Dds.TrapEnc
