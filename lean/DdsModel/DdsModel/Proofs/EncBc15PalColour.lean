/-
C13: complete evaluation of the encoder's binary32 colour palettes against the decoder's 8-bit palette (checkers in
`Proofs/EncBc15Palette.lean`): all 32 × 32 pairs of 5-bit and all 64 × 64 pairs of 6-bit channel levels.
-/
import DdsModel.Proofs.EncBc15Palette
namespace Dds.Enc15
open Dds Dds.Bc

theorem pal5_all : chkChannel 31 Conv.n5f32 n5n8 third5 mid5 = true := by decide +kernel

theorem pal6_all : chkChannel 63 Conv.n6f32 n6n8 third6 mid6 = true := by decide +kernel

end Dds.Enc15
