/-
C15, R9G9B9E5: multiplication of a binary32 bit pattern by a power of two, `c * two_powi(n)`: it is
`roundPack` of the shifted significand, EXACT (exponent field moved, fraction untouched) whenever operand
and result are normal, and in every case, underflow included, at or below the next power of two.
-/
import DdsModel.EncTotal
import DdsModel.Proofs.RoundPack
import DdsModel.Proofs.CF32Ops
namespace Dds.EncTotal.SharedExp
open Dds.CF32 Dds.RoundPack
open Dds.ConvFast (expField_eq posfin roundPack_zero)

theorem fracField_eq (b : Nat) : fracField b = b % 8388608 := rfl

theorem mant_lt (p : Nat) : mant p < 2 ^ 24 := by
  unfold mant
  have : fracField p < 8388608 := by rw [fracField_eq]; omega
  split <;> omega

theorem mant_normal (p : Nat) (h : 1 ≤ expField p) :
    mant p = fracField p + 8388608 ∧ expo p = (expField p : Int) - 150 := by
  have h0 : (expField p == 0) = false := by simp; omega
  unfold mant expo
  simp [h0]

theorem mant_subnormal (p : Nat) (h : expField p = 0) :
    mant p = fracField p ∧ expo p = -149 := by
  unfold mant expo
  simp [h]

theorem pattern_split (p : Nat) (h : p < posInf) :
    p = expField p * 8388608 + fracField p := by
  rw [expField_eq, fracField_eq]; simp only [posInf] at h; omega

/-- `util::two_powi(n)` for `-126 ≤ n ≤ 127` is the positive normal pattern with significand
`2^23` and exponent `n − 23`, i.e. the value `2^n` -/
theorem twoPowi_facts (n : Int) (h1 : -126 ≤ n) (h2 : n ≤ 127) :
    twoPowi n < posInf ∧ mant (twoPowi n) = 2 ^ 23 ∧ expo (twoPowi n) = n - 23 := by
  have hE : expField (twoPowi n) = (n + 127).toNat ∧ fracField (twoPowi n) = 0 ∧
      twoPowi n < posInf := by
    rw [expField_eq, fracField_eq]; unfold twoPowi posInf; rw [Nat.shiftLeft_eq]
    generalize hx : (n + 127).toNat = x
    have : x ≤ 254 := by omega
    simp only [Nat.reducePow]; omega
  obtain ⟨m1, m2⟩ := mant_normal (twoPowi n) (by omega)
  exact ⟨hE.2.2, by rw [m1, hE.2.1], by rw [m2, hE.1]; omega⟩

/-- one multiplication of a positive finite number by `two_powi(n)`: the exact product is the
significand of `c` shifted, and it is rounded once -/
theorem fmul_twoPowi (c : Nat) (n : Int) (hc : c < posInf) (h1 : -126 ≤ n) (h2 : n ≤ 127) :
    fmul c (twoPowi n) = roundPack false (mant c * 2 ^ 23) (expo c + (n - 23)) := by
  obtain ⟨f1, f2, f3⟩ := twoPowi_facts n h1 h2
  obtain ⟨a1, a2, a3, _, _⟩ := posfin c hc
  obtain ⟨b1, b2, b3, _, _⟩ := posfin _ f1
  rw [fmul_fin c _ a1 a2 b1 b2, a3, b3, f2, f3]
  rfl

/-- **multiplication by a power of two is exact** when operand and result are normal: the
exponent field moves by `n`, the fraction is untouched (no rounding happens) -/
theorem fmul_twoPowi_exact (c : Nat) (n : Int) (hc : c < posInf) (h1 : -126 ≤ n) (h2 : n ≤ 127)
    (hX : 1 ≤ expField c) (hr1 : 1 ≤ (expField c : Int) + n) (hr2 : (expField c : Int) + n ≤ 254) :
    fmul c (twoPowi n) = ((expField c : Int) + n).toNat * 2 ^ 23 + fracField c := by
  obtain ⟨m1, m2⟩ := mant_normal c hX
  have hm0 : mant c ≠ 0 := by omega
  have hlog : Nat.log2 (mant c) = 23 :=
    (Nat.log2_eq_iff hm0).mpr ⟨by rw [m1]; omega, mant_lt c⟩
  obtain ⟨r, _, _⟩ := roundPackG_exact 23 126 (mant c) 23 (expo c + (n - 23)) hm0 (mant_lt c)
    (by rw [hlog, m2]; omega) (by rw [hlog, m2]; omega)
  rw [fmul_twoPowi c n hc h1 h2, roundPack_eq, r, hlog, m1, m2]
  unfold patG
  rw [show ((23 : Nat) : Int) + (23 : Nat) + ((expField c : Int) - 150 + (n - 23)) + (126 : Nat) =
      (expField c : Int) + n - 1 by omega,
    show ((expField c : Int) + n).toNat = ((expField c : Int) + n - 1).toNat + 1 by omega,
    Nat.add_mul]
  omega

/-- in every case — subnormal operand, underflow of the result — the rounded product stays at or
below the power of two above the exact product -/
theorem fmul_twoPowi_le (c : Nat) (n K : Int) (hc : c < posInf) (hc0 : mant c ≠ 0)
    (h1 : -126 ≤ n) (h2 : n ≤ 127) (hK : (expField c : Int) + n - 127 ≤ K) (hK2 : -127 ≤ K) :
    fmul c (twoPowi n) ≤ (K + 128).toNat * 2 ^ 23 := by
  have hm : mant c * 2 ^ 23 ≠ 0 := Nat.mul_ne_zero hc0 (by decide)
  have hlog : (Nat.log2 (mant c * 2 ^ 23) : Int) + (expo c + (n - 23)) < K + 1 := by
    rw [F32Mono.log2_mul_pow _ _ hc0]
    by_cases hX : 1 ≤ expField c
    · have := (Nat.log2_lt hc0).mpr (mant_lt c)
      rw [(mant_normal c hX).2]; omega
    · obtain ⟨m1, m2⟩ := mant_subnormal c (by omega)
      have : Nat.log2 (mant c) < 23 := by
        rw [Nat.log2_lt hc0, m1, fracField_eq]; omega
      rw [m2]; omega
  have := roundPackG_le_pow 23 126 _ _ hm (K + 1) hlog
  rw [patG_pow 23 126 _ (by omega)] at this
  rw [fmul_twoPowi c n hc h1 h2, roundPack_eq]
  rwa [show K + 1 + (126 : Nat) + 1 = K + 128 by omega] at this

theorem fmul_zero (c : Nat) (n : Int) (hc : c = 0 ∨ c = signBit) (h1 : -126 ≤ n) (h2 : n ≤ 127) :
    fmul c (twoPowi n) = c := by
  obtain ⟨b1, b2, b3, _, _⟩ := posfin _ (twoPowi_facts n h1 h2).1
  have hfl : isNaN c = false ∧ isInf c = false ∧ mant c = 0 ∧ c = if isNeg c then signBit else 0 := by
    rcases hc with rfl | rfl <;> decide
  rw [fmul_fin c _ hfl.1 hfl.2.1 b1 b2, hfl.2.2.1, Nat.zero_mul, roundPack_zero, b3,
    Bool.bne_false]
  exact hfl.2.2.2.symm

theorem half_facts : isNaN half = false ∧ isInf half = false ∧ isNeg half = false ∧
    mant half = 2 ^ 23 ∧ expo half = -24 := by decide

end Dds.EncTotal.SharedExp
