/-
Kernel-friendly evaluation of the software binary32 of `ConvF32.lean` (the float model of C04).

`ConvF32.roundPack` and the operators built on it (`fmul`, `fadd`, `ofNat`, `toNatSat`) are written with `Int`
exponents, type-class arithmetic, `Decidable` instances, `Nat.log2` and call-by-value wrappers, all of which the
kernel evaluates by unfolding.  Here the same operations are written with the kernel-accelerated primitives only
(`Nat.add`, `Nat.sub`, `Nat.shiftRight`, …), with exponents kept as natural numbers biased by 1000 and `Nat.log2`
replaced by a checked candidate — the technique of `Proofs/F32Raw.lean` (C03), applied to the dyadic `roundPack` of
C04.  Arithmetic on literals costs the kernel next to nothing, every selection and every Boolean connective an
unfolding or more: so a minimum, a maximum or a case on an exponent field is written with the truncated `Nat.sub`
wherever that is possible (`c − (c − x)` is `min x c`), and a selection is kept only where one side must not be
evaluated.  In `Nat.sub` and `Nat.mul` a large literal stands first: should a proof ever make the kernel reduce such
a term with a VARIABLE for `x`, it unfolds them by recursion on the second argument, once per unit of a literal there.

Every fast operation is proved equal to the model's for ALL arguments: where the cheap formula covers only
positive finite patterns the definition tests that at run time and otherwise falls back to the model's own
operation, so no range hypotheses leak into the statements.
-/
import DdsModel.Proofs.F32Raw
import DdsModel.ConvF32
namespace Dds.ConvFast
open Dds Dds.CF32
open Dds.F32.Raw (sel sel_true nadd nsub nmul ndiv nmod npow nshl sel_ble sel_blt sel_beq ble_dec blt_dec beq_dec sel_dec)
open Dds.F32.Fast (lg lg_eq)

theorem nshr (a b : Nat) : Nat.shiftRight a b = a >>> b := rfl


/-- round `m / 2^k` to nearest, ties to even (`k ≥ 1`): half a unit less one is added, one more when the quotient is
odd, and the `k` bits are dropped -/
def rneR (m k : Nat) : Nat :=
  Nat.shiftRight (Nat.add (Nat.add m (Nat.sub (Nat.pow 2 (Nat.sub k 1)) 1)) (Nat.mod (Nat.shiftRight m k) 2)) k

/-- the same in the notation of `roundPack` -/
def rne (m k : Nat) : Nat :=
  if m % 2 ^ k > 2 ^ (k - 1) ∨ (m % 2 ^ k == 2 ^ (k - 1) ∧ (m >>> k) % 2 == 1) then (m >>> k) + 1 else m >>> k

theorem rneR_eq (m k : Nat) (hk : 1 ≤ k) : rneR m k = rne m k := by
  unfold rneR rne
  simp only [nadd, nsub, npow, nmod, nshr, Nat.shiftRight_eq_div_pow, beq_iff_eq, gt_iff_lt]
  have hP : 2 ^ k = 2 * 2 ^ (k - 1) := by
    rw [← Nat.pow_succ']; congr 1; omega
  have hQ : 0 < 2 ^ (k - 1) := Nat.pow_pos (by decide)
  have e := Nat.div_add_mod m (2 ^ k)
  have r := Nat.mod_lt m (show 0 < 2 ^ k by omega)
  have hb := Nat.mod_lt (m / 2 ^ k) (show 0 < 2 by decide)
  generalize m / 2 ^ k = hi at *
  generalize m % 2 ^ k = rem at *
  generalize hi % 2 = b at *
  rw [Nat.mul_comm] at e
  generalize 2 ^ (k - 1) = Q at *
  generalize 2 ^ k = P at *
  split
  · apply Nat.div_eq_of_lt_le
    · rw [Nat.add_mul, Nat.one_mul]; omega
    · rw [Nat.add_mul, Nat.add_mul, Nat.one_mul]; omega
  · apply Nat.div_eq_of_lt_le
    · omega
    · rw [Nat.add_mul, Nat.one_mul]; omega

/-- `roundPack` for a positive value without the call-by-value wrappers -/
theorem roundPack_pos (m : Nat) (e : Int) (hm : m ≠ 0) :
    roundPack false m e =
      (let E := (Nat.log2 m : Int) + e
       let q := if E ≥ -126 then E - 23 else -149
       let sh := q - e
       let mant' := if sh ≤ 0 then m <<< (-sh).toNat else rne m sh.toNat
       let bits := if E ≥ -126 then ((E + 126).toNat <<< 23) + mant' else mant'
       if bits ≥ posInf then posInf else bits) := by
  unfold roundPack
  simp only [force_eq, forceI_eq]
  have : (m == 0) = false := by simpa using hm
  simp only [this, rne]
  simp

theorem roundPack_zero (s : Bool) (e : Int) : roundPack s 0 e = if s then signBit else 0 := by
  unfold roundPack
  simp only [force_eq, forceI_eq]
  simp

theorem roundPack_sign (m : Nat) (e : Int) : roundPack true m e = signBit + roundPack false m e := by
  unfold roundPack
  simp only [force_eq, forceI_eq]
  by_cases hm : (m == 0) = true
  · simp [hm]
  · simp only [hm, if_true, Bool.false_eq_true, if_false, Nat.zero_add]
    exact (apply_ite (fun t => signBit + t) _ _ _).symm

theorem log2_of_shr (m L : Nat) (h : m >>> L = 1) : Nat.log2 m = L := by
  rw [Nat.shiftRight_eq_div_pow] at h
  have e := Nat.div_add_mod m (2 ^ L)
  have r := Nat.mod_lt m (show 0 < 2 ^ L from Nat.pow_pos (by decide))
  rw [h, Nat.mul_one] at e
  have hm : m ≠ 0 := by omega
  rw [Nat.log2_eq_iff hm, Nat.pow_succ]
  omega

/-- `⌊log₂ m⌋` with a hint `h`, meant to satisfy `h ≤ ⌊log₂ m⌋ ≤ h + 1`: the candidate `L = h + ⌊m / 2^(h+1)⌋` is
CHECKED (`⌊m / 2^L⌋ = 1`), otherwise the binary search `Fast.lg`; equal to `Nat.log2 m` whatever the hint -/
def lgH (m h : Nat) : Nat :=
  let L := Nat.add h (Nat.shiftRight m (Nat.add h 1))
  sel (Nat.beq (Nat.shiftRight m L) 1) L (lg m)

theorem lgH_eq (m h : Nat) : lgH m h = Nat.log2 m := by
  unfold lgH
  simp only [nadd, nshr, sel_beq, lg_eq]
  split
  · rename_i h1; exact (log2_of_shr _ _ h1).symm
  · rfl

/-! a hint for `⌊log₂ x⌋`, `x < 2^32`: the even number `h` with `h ≤ ⌊log₂ x⌋ ≤ h + 1`, which is what `lgH` asks for.
Being a hint only, nothing has to be proved about it.  The tree is cut into one definition per byte so that the
kernel instantiates only the part it walks through. -/

def lgByte0 (x : Nat) : Nat := sel (Nat.ble 16 x) (sel (Nat.ble 64 x) 6 4) (sel (Nat.ble 4 x) 2 0)
def lgByte1 (x : Nat) : Nat := sel (Nat.ble 4096 x) (sel (Nat.ble 16384 x) 14 12) (sel (Nat.ble 1024 x) 10 8)
def lgByte2 (x : Nat) : Nat :=
  sel (Nat.ble 1048576 x) (sel (Nat.ble 4194304 x) 22 20) (sel (Nat.ble 262144 x) 18 16)
def lgByte3 (x : Nat) : Nat :=
  sel (Nat.ble 268435456 x) (sel (Nat.ble 1073741824 x) 30 28) (sel (Nat.ble 67108864 x) 26 24)
def lg32 (x : Nat) : Nat :=
  sel (Nat.ble 65536 x) (sel (Nat.ble 16777216 x) (lgByte3 x) (lgByte2 x)) (sel (Nat.ble 256 x) (lgByte1 x) (lgByte0 x))

/-- `⌊log₂ m⌋`: the hint of `lg32` is good for `m < 2^32`, beyond that `lgH` falls back to the binary search -/
def lgA (m : Nat) : Nat := lgH m (lg32 m)
theorem lgA_eq (m : Nat) : lgA m = Nat.log2 m := lgH_eq m _

theorem sub_sub_eq_min (x c : Nat) : c - (c - x) = if c ≤ x then c else x := by
  split <;> omega

/-- `roundPack false m (B − 1000)`: exponents biased by 1000; `h` is a hint for `⌊log₂ m⌋` (see `lgH`).  `e` is the
exponent field of the result, `q = 851 + e` the biased exponent of its unit in the last place (851: the subnormal
quantum `2^-149`); the significand is `m·2^(B−q)`, rounded when `q > B`, and its leading bit counts into the field -/
def rpH (m B h : Nat) : Nat :=
  sel (Nat.beq m 0) 0
    (let e := Nat.sub (Nat.add (lgH m h) B) 874
     let q := Nat.add 851 e
     let bits := Nat.add (Nat.shiftLeft e 23)
       (sel (Nat.ble q B) (Nat.shiftLeft m (Nat.sub B q)) (rneR m (Nat.sub q B)))
     Nat.sub 0x7F800000 (Nat.sub 0x7F800000 bits))

theorem rpH_eq (m B h : Nat) : rpH m B h = roundPack false m ((B : Int) - 1000) := by
  unfold rpH
  rw [sel_beq]
  by_cases hm : m = 0
  · rw [if_pos hm, hm, roundPack_zero]; rfl
  · rw [if_neg hm, roundPack_pos m _ hm]
    simp only [lgH_eq, nadd, nsub, nshl, sel_ble, posInf, ge_iff_le]
    generalize Nat.log2 m = L
    have c1 : (-126 ≤ (L : Int) + ((B : Int) - 1000)) ↔ 874 ≤ L + B := by omega
    simp only [c1]
    by_cases h : 874 ≤ L + B
    · have c2 : ((L : Int) + ((B : Int) - 1000) - 23 - ((B : Int) - 1000) ≤ 0) ↔ 851 + (L + B - 874) ≤ B := by omega
      have c3 : (-((L : Int) + ((B : Int) - 1000) - 23 - ((B : Int) - 1000))).toNat = B - (851 + (L + B - 874)) := by
        omega
      have c4 : ((L : Int) + ((B : Int) - 1000) - 23 - ((B : Int) - 1000)).toNat = 851 + (L + B - 874) - B := by omega
      have c5 : ((L : Int) + ((B : Int) - 1000) + 126).toNat = L + B - 874 := by omega
      simp only [h, if_true, c2, c3, c4, c5]
      by_cases hq : 851 + (L + B - 874) ≤ B
      · simp only [hq, if_true, sub_sub_eq_min]
      · simp only [hq, if_false, rneR_eq _ _ (show 1 ≤ 851 + (L + B - 874) - B by omega), sub_sub_eq_min]
    · have c2 : ((-149 : Int) - ((B : Int) - 1000) ≤ 0) ↔ 851 + (L + B - 874) ≤ B := by omega
      have c3 : (-((-149 : Int) - ((B : Int) - 1000))).toNat = B - (851 + (L + B - 874)) := by omega
      have c4 : ((-149 : Int) - ((B : Int) - 1000)).toNat = 851 + (L + B - 874) - B := by omega
      have c6 : L + B - 874 = 0 := by omega
      simp only [h, if_false, c2, c3, c4]
      rw [c6, Nat.zero_shiftLeft, Nat.zero_add]
      by_cases hq : 851 + 0 ≤ B
      · simp only [hq, if_true, sub_sub_eq_min]
      · simp only [hq, if_false, rneR_eq _ _ (show 1 ≤ 851 + 0 - B by omega), sub_sub_eq_min]

/-! ### unpacking a positive finite pattern (`a < +∞`) -/

/-- significand with the hidden bit: what the exponent field exceeds one by is taken off the pattern -/
def mantR (a : Nat) : Nat := Nat.sub a (Nat.shiftLeft (Nat.sub (Nat.div a 8388608) 1) 23)
/-- exponent of the unit in the last place, biased by 1000 -/
def bexpR (a : Nat) : Nat := Nat.add 851 (Nat.sub (Nat.div a 8388608) 1)

theorem mantR_def (p : Nat) : mantR p = if p < 8388608 then p else p % 8388608 + 8388608 := by
  unfold mantR; rw [nsub, nshl, nsub, ndiv, Nat.shiftLeft_eq]; split <;> omega

theorem bexpR_def (p : Nat) : bexpR p = if p < 8388608 then 851 else p / 8388608 + 850 := by
  unfold bexpR; rw [nadd, nsub, ndiv]; split <;> omega

theorem bexpR_ge (a : Nat) : 851 ≤ bexpR a := by
  rw [bexpR_def]; split <;> omega

theorem expField_eq (b : Nat) : expField b = b / 8388608 % 256 := by
  unfold expField; rw [Nat.shiftRight_eq_div_pow]

theorem posfin (p : Nat) (h : p < 0x7F800000) :
    isNaN p = false ∧ isInf p = false ∧ isNeg p = false ∧ mant p = mantR p ∧ expo p = (bexpR p : Int) - 1000 := by
  have he : expField p = p / 8388608 := by rw [expField_eq]; omega
  have hne : expField p ≠ 255 := by omega
  refine ⟨?_, ?_, ?_, ?_, ?_⟩
  · unfold isNaN; simp [hne]
  · unfold isInf; simp [hne]
  · unfold isNeg signBit; simp; omega
  · unfold mant fracField
    rw [mantR_def, he]
    by_cases h0 : p < 8388608
    · have : p / 8388608 = 0 := Nat.div_eq_of_lt h0
      simp [this, h0]
    · have : p / 8388608 ≠ 0 := by omega
      simp [this, h0]
  · unfold expo
    rw [bexpR_def, he]
    by_cases h0 : p < 8388608
    · have : p / 8388608 = 0 := Nat.div_eq_of_lt h0
      simp [this, h0]
    · have : p / 8388608 ≠ 0 := by omega
      simp [this, h0]; omega

/-- both patterns are below `+∞` -/
def posfin2 (a b : Nat) : Bool := Nat.beq (Nat.add (Nat.div a 0x7F800000) (Nat.div b 0x7F800000)) 0

theorem posfin2_iff (a b : Nat) : posfin2 a b = true ↔ a < 0x7F800000 ∧ b < 0x7F800000 := by
  unfold posfin2
  rw [beq_dec, decide_eq_true_eq, nadd, ndiv, ndiv]
  omega


/-- `n as f32` -/
def ofNatR (n : Nat) : Nat := rpH n 1000 (lg32 n)

theorem ofNatR_eq (n : Nat) : ofNatR n = ofNat n := by
  unfold ofNatR ofNat
  rw [rpH_eq]; rfl

/-- `a * b`; the product of two normal significands is in `[2^46, 2^48)` -/
def mulR (a b : Nat) : Nat :=
  sel (posfin2 a b)
    (rpH (Nat.mul (mantR a) (mantR b)) (Nat.sub (Nat.add (bexpR a) (bexpR b)) 1000) 46)
    (fmul a b)

theorem mulR_eq (a b : Nat) : mulR a b = fmul a b := by
  unfold mulR
  cases h : posfin2 a b
  · rfl
  · obtain ⟨ha, hb⟩ := (posfin2_iff a b).mp h
    obtain ⟨a1, a2, a3, a4, a5⟩ := posfin a ha
    obtain ⟨b1, b2, b3, b4, b5⟩ := posfin b hb
    rw [sel_true, rpH_eq]
    unfold fmul
    simp only [force_eq, a1, a2, a3, a4, a5, b1, b2, b3, b4, b5, Bool.or_self, Bool.false_eq_true, if_false, bne_self_eq_false,
      nadd, nsub, nmul]
    have ea := bexpR_ge a
    have eb := bexpR_ge b
    generalize bexpR a = x at *
    generalize bexpR b = y at *
    have : (((x + y - 1000 : Nat) : Int) - 1000) = (x : Int) - 1000 + ((y : Int) - 1000) := by omega
    rw [this]

/-- `a + b`: each significand is shifted by what its exponent exceeds the other's by (one of the two shifts is `0`);
the sum of two normal significands so aligned is in `[2^(23+d), 2^(25+d))` for the shift `d` -/
def addR (a b : Nat) : Nat :=
  sel (posfin2 a b)
    (let ea := bexpR a
     let eb := bexpR b
     let da := Nat.sub ea eb
     let db := Nat.sub eb ea
     rpH (Nat.add (Nat.shiftLeft (mantR a) da) (Nat.shiftLeft (mantR b) db)) (Nat.sub ea da) (Nat.add 23 (Nat.add da db)))
    (fadd a b)

theorem fadd_tail (A B : Nat) (e : Int) :
    (if (((A : Nat) : Int) + ((B : Nat) : Int) == 0) = true then 0
      else roundPack (decide (((A : Nat) : Int) + ((B : Nat) : Int) < 0)) (((A : Nat) : Int) + ((B : Nat) : Int)).natAbs e) =
    roundPack false (A + B) e := by
  have hn : (((A : Nat) : Int) + ((B : Nat) : Int)).natAbs = A + B := by omega
  have hlt : ¬ (((A : Nat) : Int) + ((B : Nat) : Int) < 0) := by omega
  rw [hn, decide_eq_false hlt]
  by_cases hS : A + B = 0
  · have : (((A : Nat) : Int) + ((B : Nat) : Int) == 0) = true := by simp; omega
    rw [if_pos this, hS, roundPack_zero]; rfl
  · have : ¬ (((A : Nat) : Int) + ((B : Nat) : Int) == 0) = true := by simp; omega
    rw [if_neg this]

theorem addR_eq (a b : Nat) : addR a b = fadd a b := by
  unfold addR
  cases h : posfin2 a b
  · rfl
  · obtain ⟨ha, hb⟩ := (posfin2_iff a b).mp h
    obtain ⟨a1, a2, a3, a4, a5⟩ := posfin a ha
    obtain ⟨b1, b2, b3, b4, b5⟩ := posfin b hb
    rw [sel_true]
    unfold fadd
    simp only [force_eq, forceI_eq, a1, a2, a3, a4, a5, b1, b2, b3, b4, b5, Bool.or_self, Bool.false_eq_true, if_false,
      Bool.and_self, nadd, nsub, nshl, rpH_eq]
    rw [fadd_tail]
    generalize bexpR a = ea
    generalize bexpR b = eb
    have hmin : min ((ea : Int) - 1000) ((eb : Int) - 1000) = ((ea - (ea - eb) : Nat) : Int) - 1000 := by omega
    have s1 : ((ea : Int) - 1000 - (((ea - (ea - eb) : Nat) : Int) - 1000)).toNat = ea - eb := by omega
    have s2 : ((eb : Int) - 1000 - (((ea - (ea - eb) : Nat) : Int) - 1000)).toNat = eb - ea := by omega
    rw [hmin, s1, s2]

/-- `x as uN` (saturating), `max = 2^N − 1`; of the two shifts one is by `0` -/
def toNatSatR (x max : Nat) : Nat :=
  sel (Nat.blt x 0x7F800000)
    (let e := bexpR x
     let v := Nat.shiftRight (Nat.shiftLeft (mantR x) (Nat.sub e 1000)) (Nat.sub 1000 e)
     Nat.sub max (Nat.sub max v))
    (toNatSat x max)

theorem toNatSatR_eq (x max : Nat) : toNatSatR x max = toNatSat x max := by
  unfold toNatSatR
  rw [sel_blt]
  by_cases hx : x < 0x7F800000
  · obtain ⟨a1, a2, a3, a4, a5⟩ := posfin x hx
    rw [if_pos hx]
    unfold toNatSat
    simp only [force_eq, a1, a2, a3, a4, a5, Bool.false_eq_true, if_false, nsub, nshl, nshr]
    generalize bexpR x = e
    generalize mantR x = m
    by_cases h : 1000 ≤ e
    · have c1 : ((e : Int) - 1000 ≥ 0) := by omega
      have c2 : ((e : Int) - 1000).toNat = e - 1000 := by omega
      have c3 : 1000 - e = 0 := by omega
      rw [if_pos c1, c2, c3, Nat.shiftRight_zero]
      generalize m <<< (e - 1000) = v
      split <;> omega
    · have c1 : ¬ ((e : Int) - 1000 ≥ 0) := by omega
      have c2 : (-((e : Int) - 1000)).toNat = 1000 - e := by omega
      have c3 : e - 1000 = 0 := by omega
      rw [if_neg c1, c2, c3, Nat.shiftLeft_zero]
      generalize m >>> (1000 - e) = v
      split <;> omega
  · rw [if_neg hx]

/-- `-x` -/
def negR (b : Nat) : Nat := sel (Nat.ble 0x80000000 b) (Nat.sub b 0x80000000) (Nat.add b 0x80000000)

theorem negR_eq (b : Nat) : negR b = neg b := by
  unfold negR neg isNeg signBit
  rw [sel_ble]
  simp only [ge_iff_le, decide_eq_true_eq]
  rfl

end Dds.ConvFast
