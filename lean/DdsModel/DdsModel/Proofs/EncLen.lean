/- Helper lemmas about the writer-loop model `EncLen.lean`. -/
import DdsModel.EncLen
import DdsModel.Proofs.DivCeil
namespace Dds

theorem sum_map_mul (l : List Nat) (c : Nat) : (l.map (· * c)).sum = l.sum * c := by
  induction l with
  | nil => simp
  | cons a r ih => simp only [List.map_cons, List.sum_cons, ih, Nat.add_mul]

theorem sum_range_const (n x : Nat) : ((List.range n).map fun _ => x).sum = n * x := by
  rw [List.map_const', List.length_range, List.sum_replicate_nat]

theorem sum_flatten_range_const (n : Nat) (l : List Nat) :
    ((List.range n).map fun _ => l).flatten.sum = n * l.sum := by
  induction n with
  | zero => simp
  | succ n ih =>
    rw [List.range_succ, List.map_append, List.flatten_append, List.sum_append, ih]
    simp [Nat.add_mul]

/-- `chunks(n)` of a slice of length `len`: `len / n` full chunks, then the remainder if there is one -/
theorem chunkLens_eq (n : Nat) (hn : 1 ≤ n) : ∀ (fuel len : Nat), len ≤ fuel →
    chunkLens n fuel len = List.replicate (len / n) n ++ if len % n = 0 then [] else [len % n] := by
  intro fuel
  induction fuel with
  | zero =>
    intro len h
    obtain rfl : len = 0 := by omega
    simp [chunkLens]
  | succ fuel ih =>
    intro len h
    unfold chunkLens
    by_cases h0 : len = 0
    · subst h0; simp
    rw [if_neg h0, ih _ (by omega)]
    by_cases hle : n ≤ len
    · rw [Nat.min_eq_left hle, Nat.div_eq_sub_div hn hle, Nat.mod_eq_sub_mod hle, List.replicate_succ,
        List.cons_append]
    · have hlt : len < n := Nat.lt_of_not_le hle
      rw [Nat.min_eq_right (Nat.le_of_lt hlt), Nat.sub_self, Nat.div_eq_of_lt hlt, Nat.mod_eq_of_lt hlt,
        if_neg h0, Nat.zero_div, Nat.zero_mod]
      rfl

theorem chunkLens_sum (n : Nat) (hn : 1 ≤ n) : ∀ (fuel len : Nat), len ≤ fuel →
    (chunkLens n fuel len).sum = len := by
  intro fuel len h
  rw [chunkLens_eq n hn fuel len h, List.sum_append_nat, List.sum_replicate_nat]
  have := Nat.div_add_mod len n
  rw [Nat.mul_comm] at this
  split <;> simp <;> omega

theorem chunkLens_length (n : Nat) (hn : 1 ≤ n) (fuel len : Nat) (h : len ≤ fuel) :
    (chunkLens n fuel len).length = divCeil len n := by
  rw [chunkLens_eq n hn fuel len h, List.length_append, List.length_replicate, divCeil]
  by_cases h0 : len % n = 0
  · rw [if_pos h0, if_neg (by omega)]; rfl
  · rw [if_neg h0, if_pos (by omega)]; rfl

/-- `chunks(n * k)` of `T * k` elements = the chunks of `T` by `n`, each scaled by `k`; the fuels only have to cover
the slices -/
theorem chunkLens_scale (n k : Nat) (hn : 1 ≤ n) (hk : 1 ≤ k) (f g T : Nat) (hf : T ≤ f) (hg : T * k ≤ g) :
    chunkLens (n * k) g (T * k) = (chunkLens n f T).map (· * k) := by
  rw [chunkLens_eq (n * k) (Nat.mul_le_mul hn hk) g _ hg, chunkLens_eq n hn f T hf, List.map_append,
    List.map_replicate, Nat.mul_div_mul_right _ _ hk, Nat.mul_mod_mul_right]
  by_cases h0 : T % n = 0
  · rw [h0, Nat.zero_mul, if_pos rfl]; rfl
  · rw [if_neg h0, if_neg (Nat.mul_ne_zero h0 (by omega))]; rfl

theorem chunkLens_le (n : Nat) (hn : 1 ≤ n) : ∀ (fuel len : Nat),
    ∀ c ∈ chunkLens n fuel len, c ≤ n ∧ 1 ≤ c := by
  intro fuel len c hc
  fun_induction chunkLens n fuel len with
  | case1 => cases hc
  | case2 => cases hc
  | case3 fuel len h0 ih =>
    rcases List.mem_cons.1 hc with rfl | h
    · omega
    · exact ih h

/-- a chunk loop over a row whose chunk size is a multiple of the block width writes
`ceil(w / bw)` blocks in total -/
theorem chunkLens_blocks (cp bw : Nat) (hbw : 1 ≤ bw) (hcp : 1 ≤ cp) (hdvd : cp % bw = 0) :
    ∀ (fuel len : Nat), len ≤ fuel →
      ((chunkLens cp fuel len).map fun p => divCeil p bw).sum = divCeil len bw := by
  intro fuel len h
  obtain ⟨q, rfl⟩ := Nat.dvd_of_mod_eq_zero hdvd
  rw [chunkLens_eq _ hcp fuel len h, List.map_append, List.map_replicate, List.sum_append_nat,
    List.sum_replicate_nat]
  have e : ((if len % (bw * q) = 0 then [] else [len % (bw * q)]).map fun p => divCeil p bw).sum =
      divCeil (len % (bw * q)) bw := by
    split
    · rename_i h0; rw [h0, divCeil_zero]; rfl
    · simp
  have hq : divCeil (bw * q) bw = q := by rw [Nat.mul_comm, divCeil_mul_self q hbw]
  have hlen : len % (bw * q) + len / (bw * q) * q * bw = len := by
    rw [Nat.mul_assoc, Nat.mul_comm q bw, Nat.mul_comm _ (bw * q), Nat.add_comm]
    exact Nat.div_add_mod len (bw * q)
  rw [e, hq, Nat.add_comm, ← divCeil_add_mul _ _ _ hbw, hlen]

theorem fillRow_full (bufPx fuel : Nat) {rowPx : Nat} (h0 : rowPx ≠ 0) :
    fillRow bufPx (fuel + 1) rowPx bufPx =
      (bufPx :: (fillRow bufPx fuel (rowPx - min rowPx bufPx) (min rowPx bufPx)).1,
        (fillRow bufPx fuel (rowPx - min rowPx bufPx) (min rowPx bufPx)).2) := by
  rw [fillRow, if_neg h0, if_pos rfl]

theorem fillRow_room (bufPx fuel : Nat) {rowPx fill : Nat} (h0 : rowPx ≠ 0) (hf : fill ≠ bufPx) :
    fillRow bufPx (fuel + 1) rowPx fill =
      fillRow bufPx fuel (rowPx - min rowPx (bufPx - fill)) (fill + min rowPx (bufPx - fill)) := by
  rw [fillRow, if_neg h0, if_neg hf]

theorem fillRow_all_full (bufPx fuel rowPx fill : Nat) : ∀ x ∈ (fillRow bufPx fuel rowPx fill).1, x = bufPx := by
  fun_induction fillRow bufPx fuel rowPx fill with
  | case1 => exact fun _ h => nomatch h
  | case2 => exact fun _ h => nomatch h
  | case3 fuel rowPx h0 w r ih => exact List.forall_mem_cons.2 ⟨rfl, ih⟩
  | case4 fuel rowPx fill h0 hfull w ih => exact ih

/-- the row-wise buffer filling: flushed pixels + pixels left in the buffer = pixels before +
pixels of the row; the buffer never overflows -/
theorem fillRow_sum (bufPx : Nat) (hb : 1 ≤ bufPx) : ∀ (fuel rowPx fill : Nat),
    rowPx < fuel → fill ≤ bufPx →
      (fillRow bufPx fuel rowPx fill).1.sum + (fillRow bufPx fuel rowPx fill).2 = fill + rowPx ∧
      (fillRow bufPx fuel rowPx fill).2 ≤ bufPx := by
  intro fuel rowPx fill
  fun_induction fillRow bufPx fuel rowPx fill with
  | case1 => omega
  | case2 => exact fun _ h => ⟨Nat.zero_add _, h⟩
  | case3 fuel rowPx h0 w r ih =>
    intro hf _
    obtain ⟨h1, h2⟩ : r.1.sum + r.2 = w + (rowPx - w) ∧ r.2 ≤ bufPx := ih (by omega) (by omega)
    exact ⟨by rw [List.sum_cons]; omega, h2⟩
  | case4 fuel rowPx fill h0 hfull w ih =>
    intro hf hfill
    obtain ⟨h1, h2⟩ := ih (by omega) (by omega)
    exact ⟨by omega, h2⟩

theorem chunksRowsAux_sum (bufPx w : Nat) (hb : 1 ≤ bufPx) : ∀ (rows fill : Nat), fill ≤ bufPx →
    (chunksRowsAux bufPx w rows fill).sum = fill + w * rows := by
  intro rows
  induction rows with
  | zero =>
    intro fill _
    unfold chunksRowsAux
    split <;> simp <;> omega
  | succ rows ih =>
    intro fill hfill
    unfold chunksRowsAux
    obtain ⟨h1, h2⟩ := fillRow_sum bufPx hb (w + 1) w fill (by omega) hfill
    rw [List.sum_append, ih _ h2, Nat.mul_add]
    omega

theorem rowGroups_eq (h bh : Nat) : rowGroups h bh = divCeil h bh := by
  unfold rowGroups divCeil
  split <;> omega


theorem chunksContig_sum (totalPx bufPx encBpp : Nat) (hb : 1 ≤ bufPx) :
    (chunksContig totalPx bufPx encBpp).sum = totalPx * encBpp := by
  unfold chunksContig
  rw [sum_map_mul, chunkLens_sum bufPx hb _ _ (Nat.le_refl _)]

theorem chunksRows_sum (w h bufPx encBpp : Nat) (hb : 1 ≤ bufPx) :
    (chunksRows w h bufPx encBpp).sum = w * h * encBpp := by
  unfold chunksRows
  rw [sum_map_mul, chunksRowsAux_sum bufPx w hb h 0 (Nat.zero_le _), Nat.zero_add]

theorem chunksPerRow_sum (w h chunkPx encBpp : Nat) (hc : 1 ≤ chunkPx) :
    (chunksPerRow w h chunkPx encBpp).sum = w * h * encBpp := by
  unfold chunksPerRow
  rw [sum_flatten_range_const, sum_map_mul, chunkLens_sum chunkPx hc _ _ (Nat.le_refl _)]
  ac_rfl

theorem chunksSubsample_sum (w h chunkPx bw blockBytes : Nat) (hbw : 1 ≤ bw) (hcp : 1 ≤ chunkPx)
    (hdvd : chunkPx % bw = 0) :
    (chunksSubsample w h chunkPx bw blockBytes).sum =
      (PixelInfo.block blockBytes bw 1).surfIdeal w h := by
  unfold chunksSubsample
  rw [sum_flatten_range_const]
  have : ((chunkLens chunkPx w w).map fun p => divCeil p bw * blockBytes) =
      ((chunkLens chunkPx w w).map fun p => divCeil p bw).map (· * blockBytes) := by
    rw [List.map_map]; rfl
  rw [this, sum_map_mul, chunkLens_blocks chunkPx bw hbw hcp hdvd _ _ (Nat.le_refl _), divCeil_eq _ _ hbw]
  simp only [PixelInfo.surfIdeal, Nat.add_sub_cancel, Nat.div_one]
  ac_rfl

/-- the chunk size the code uses, `512 / bw * bw`, is a positive multiple of the block width
for every block width up to 512 -/
theorem subsample_chunk_ok (bw : Nat) (h1 : 1 ≤ bw) (h2 : bw ≤ 512) :
    1 ≤ 512 / bw * bw ∧ (512 / bw * bw) % bw = 0 :=
  ⟨Nat.mul_le_mul ((Nat.one_le_div_iff (by omega)).2 h2) h1, Nat.mul_mod_left _ _⟩

theorem writesBlock_sum (w h bw bh blockBytes : Nat) (hbw : 1 ≤ bw) (hbh : 1 ≤ bh) :
    (writesBlock w h bw bh blockBytes).sum = (PixelInfo.block blockBytes bw bh).surfIdeal w h := by
  unfold writesBlock
  rw [sum_range_const, rowGroups_eq, divCeil_eq _ _ hbw, divCeil_eq _ _ hbh]
  simp only [PixelInfo.surfIdeal]
  ac_rfl

theorem writesBiPlanar_sum (w h p1 p2 : Nat) (hw : w % 2 = 0) (hh : h % 2 = 0) :
    (writesBiPlanar w h p1 p2).sum = (PixelInfo.biPlanar p1 p2 2 2).surfIdeal w h := by
  unfold writesBiPlanar
  rw [List.sum_append, sum_range_const, rowGroups_eq]
  simp only [PixelInfo.surfIdeal, List.sum_cons, List.sum_nil, Nat.add_zero]
  have e1 : divCeil h 2 = h / 2 := by unfold divCeil; simp [hh]
  have e2 : (w + 2 - 1) / 2 = w / 2 := by omega
  have e3 : (h + 2 - 1) / 2 = h / 2 := by omega
  rw [e1, e2, e3]
  have : h / 2 * (w * 2 * p1) = w * h * p1 := by
    have hh2 : h = 2 * (h / 2) := by omega
    calc h / 2 * (w * 2 * p1) = w * (2 * (h / 2)) * p1 := by ac_rfl
      _ = w * h * p1 := by rw [← hh2]
  rw [this]

end Dds
