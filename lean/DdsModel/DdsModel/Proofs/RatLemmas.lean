/- Order and division in `Rat`: the `≤` forms of core's `Rat.div_lt_iff` / `Rat.lt_div_iff` and what follows from them;
the floor of a ratio of naturals, and of the ratio plus one half (the nearest integer, ties up), as integer quotients. -/
namespace Dds

theorem rat_div_le_iff {a b c : Rat} (hc : 0 < c) : a / c ≤ b ↔ a ≤ b * c := by
  rw [← Rat.not_lt, Rat.lt_div_iff hc, Rat.not_lt]

theorem rat_le_div_iff {a b c : Rat} (hc : 0 < c) : a ≤ b / c ↔ a * c ≤ b := by
  rw [← Rat.not_lt, Rat.div_lt_iff hc, Rat.not_lt]

theorem rat_div_le_div_right {a b t : Rat} (h : a ≤ b) (ht : 0 < t) : a / t ≤ b / t := by
  rw [rat_div_le_iff ht, Rat.div_mul_cancel (Rat.ne_of_gt ht)]; exact h

theorem rat_div_lt_div_right {a b t : Rat} (h : a < b) (ht : 0 < t) : a / t < b / t := by
  rw [Rat.div_lt_iff ht, Rat.div_mul_cancel (Rat.ne_of_gt ht)]; exact h

theorem rat_div_nonneg {a t : Rat} (h : 0 ≤ a) (ht : 0 < t) : 0 ≤ a / t := by
  rw [rat_le_div_iff ht, Rat.zero_mul]; exact h

theorem rat_mul_one_div (n d : Rat) : n * (1 / d) = n / d := by
  rw [Rat.div_def 1, Rat.one_mul, Rat.div_def]

theorem one_div_pos (d : Rat) (hd : 0 < d) : 0 < 1 / d := by
  rw [Rat.lt_div_iff hd, Rat.zero_mul]; decide

theorem mul_one_div_cancel (d : Rat) (hd : d ≠ 0) : d * (1 / d) = 1 := by
  rw [rat_mul_one_div, Rat.div_def]; exact Rat.mul_inv_cancel d hd

theorem rat_pow_succ_le {q : Rat} (h0 : 0 ≤ q) (h1 : q ≤ 1) (n : Nat) : q ^ (n + 1) ≤ q ^ n := by
  have := Rat.mul_le_mul_of_nonneg_left h1 (Rat.pow_nonneg h0 (n := n))
  rwa [Rat.mul_one, ← Rat.pow_succ] at this

theorem floor_eq_of_nat {y : Rat} {k : Nat} (h1 : (k : Rat) ≤ y) (h2 : y < (k : Rat) + 1) :
    y.floor = (k : Int) := by
  have a : (k : Int) ≤ y.floor := Rat.le_floor_iff.mpr (by rw [Rat.intCast_natCast]; exact h1)
  have b : y.floor < (k : Int) + 1 :=
    Rat.floor_lt_iff.mpr (by rw [Rat.intCast_add, Rat.intCast_natCast]; exact h2)
  omega

theorem floor_natCast_div (a b : Nat) (hb : 0 < b) : ((a : Rat) / (b : Rat)).floor = ((a / b : Nat) : Int) := by
  have hb' : (0 : Rat) < (b : Rat) := Rat.natCast_pos.mpr hb
  apply floor_eq_of_nat
  · rw [rat_le_div_iff hb', ← Rat.natCast_mul, Rat.natCast_le_natCast]
    exact Nat.div_mul_le_self a b
  · rw [Rat.div_lt_iff hb', ← Rat.natCast_ofNat (a := 1), ← Rat.natCast_add, ← Rat.natCast_mul, Rat.natCast_lt_natCast,
      Nat.add_mul, Nat.one_mul]
    exact Nat.lt_div_mul_add hb

theorem ratio_add_half (A B : Nat) (hB : 0 < B) :
    (A : Rat) / (B : Rat) + 1 / 2 = ((2 * A + B : Nat) : Rat) / ((2 * B : Nat) : Rat) := by
  have hB' : (B : Rat) ≠ 0 := fun h => by have := Rat.natCast_eq_zero_iff.mp h; omega
  simp only [Rat.natCast_add, Rat.natCast_mul]
  have : ((2 : Nat) : Rat) = 2 := rfl
  rw [this]
  grind

/-- `⌊A/B + ½⌋ = ⌊(2A + B) / 2B⌋`: what `BcSpec.rnd`, `Quant.roundHalfUp` and `Spec.nearest` compute on a ratio -/
theorem floor_add_half (A B : Nat) (hB : 0 < B) :
    ((A : Rat) / (B : Rat) + 1 / 2).floor = (((2 * A + B) / (2 * B) : Nat) : Int) := by
  rw [ratio_add_half A B hB, floor_natCast_div _ _ (by omega)]

end Dds
