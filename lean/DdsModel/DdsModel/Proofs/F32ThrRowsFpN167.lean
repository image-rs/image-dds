/-
`fp::n16` / `n16::from_f32`: `(x * 65535.0 + 0.5) as u16`: threshold table, codes 57345 … 65535,
checked by kernel evaluation of `chkList` (`Proofs/F32Thr.lean`).  GENERATED by tools/gen_f32thr.py (the
script is not trusted: every entry is validated here).  Entry `2t + d`: `t` = first pattern whose result is ≥ k,
`d = 1` iff `t` is still below the exact tie `(2k−1)/(2·65535)` (its result is one code too high).
-/
import DdsModel.Proofs.F32Thr
namespace Dds.F32Thr.FpN16
-- the elaborator's default recursion depth does not suffice for a list literal of 2048 numerals
set_option maxRecDepth 100000

@[irreducible] def c28 : List Nat :=
  [2126512833, 2126513345, 2126513857, 2126514369, 2126514881, 2126515393, 2126515905, 2126516417, 2126516929,
   2126517441, 2126517953, 2126518465, 2126518977, 2126519489, 2126520001, 2126520513, 2126521025, 2126521537,
   2126522049, 2126522561, 2126523073, 2126523585, 2126524097, 2126524609, 2126525121, 2126525633, 2126526145,
   2126526657, 2126527169, 2126527681, 2126528193, 2126528705, 2126529217, 2126529729, 2126530241, 2126530753,
   2126531265, 2126531777, 2126532289, 2126532801, 2126533313, 2126533825, 2126534337, 2126534849, 2126535361,
   2126535873, 2126536385, 2126536897, 2126537409, 2126537921, 2126538433, 2126538945, 2126539457, 2126539969,
   2126540481, 2126540993, 2126541505, 2126542017, 2126542529, 2126543041, 2126543553, 2126544065, 2126544577,
   2126545089, 2126545601, 2126546113, 2126546625, 2126547137, 2126547649, 2126548161, 2126548673, 2126549185,
   2126549697, 2126550209, 2126550721, 2126551233, 2126551745, 2126552257, 2126552769, 2126553281, 2126553793,
   2126554305, 2126554817, 2126555329, 2126555841, 2126556353, 2126556865, 2126557377, 2126557889, 2126558401,
   2126558913, 2126559425, 2126559937, 2126560449, 2126560961, 2126561473, 2126561985, 2126562497, 2126563009,
   2126563521, 2126564033, 2126564545, 2126565057, 2126565569, 2126566081, 2126566593, 2126567105, 2126567617,
   2126568129, 2126568641, 2126569153, 2126569665, 2126570177, 2126570689, 2126571201, 2126571713, 2126572225,
   2126572737, 2126573249, 2126573761, 2126574273, 2126574785, 2126575297, 2126575809, 2126576321, 2126576833,
   2126577345, 2126577858, 2126578370, 2126578882, 2126579394, 2126579906, 2126580418, 2126580930, 2126581442,
   2126581954, 2126582466, 2126582978, 2126583490, 2126584002, 2126584514, 2126585026, 2126585538, 2126586050,
   2126586562, 2126587074, 2126587586, 2126588098, 2126588610, 2126589122, 2126589634, 2126590146, 2126590658,
   2126591170, 2126591682, 2126592194, 2126592706, 2126593218, 2126593730, 2126594242, 2126594754, 2126595266,
   2126595778, 2126596290, 2126596802, 2126597314, 2126597826, 2126598338, 2126598850, 2126599362, 2126599874,
   2126600386, 2126600898, 2126601410, 2126601922, 2126602434, 2126602946, 2126603458, 2126603970, 2126604482,
   2126604994, 2126605506, 2126606018, 2126606530, 2126607042, 2126607554, 2126608066, 2126608578, 2126609090,
   2126609602, 2126610114, 2126610626, 2126611138, 2126611650, 2126612162, 2126612674, 2126613186, 2126613698,
   2126614210, 2126614722, 2126615234, 2126615746, 2126616258, 2126616770, 2126617282, 2126617794, 2126618306,
   2126618818, 2126619330, 2126619842, 2126620354, 2126620866, 2126621378, 2126621890, 2126622402, 2126622914,
   2126623426, 2126623938, 2126624450, 2126624962, 2126625474, 2126625986, 2126626498, 2126627010, 2126627522,
   2126628034, 2126628546, 2126629058, 2126629570, 2126630082, 2126630594, 2126631106, 2126631618, 2126632130,
   2126632642, 2126633154, 2126633666, 2126634178, 2126634690, 2126635202, 2126635714, 2126636226, 2126636738,
   2126637250, 2126637762, 2126638274, 2126638786, 2126639298, 2126639810, 2126640322, 2126640834, 2126641346,
   2126641858, 2126642370, 2126642882, 2126643395, 2126643907, 2126644419, 2126644931, 2126645443, 2126645955,
   2126646467, 2126646979, 2126647491, 2126648003, 2126648515, 2126649027, 2126649539, 2126650051, 2126650563,
   2126651075, 2126651587, 2126652099, 2126652611, 2126653123, 2126653635, 2126654147, 2126654659, 2126655171,
   2126655683, 2126656195, 2126656707, 2126657219, 2126657731, 2126658243, 2126658755, 2126659267, 2126659779,
   2126660291, 2126660803, 2126661315, 2126661827, 2126662339, 2126662851, 2126663363, 2126663875, 2126664387,
   2126664899, 2126665411, 2126665923, 2126666435, 2126666947, 2126667459, 2126667971, 2126668483, 2126668995,
   2126669507, 2126670019, 2126670531, 2126671043, 2126671555, 2126672067, 2126672579, 2126673091, 2126673603,
   2126674115, 2126674627, 2126675139, 2126675651, 2126676163, 2126676675, 2126677187, 2126677699, 2126678211,
   2126678723, 2126679235, 2126679747, 2126680259, 2126680771, 2126681283, 2126681795, 2126682307, 2126682819,
   2126683331, 2126683843, 2126684355, 2126684867, 2126685379, 2126685891, 2126686403, 2126686915, 2126687427,
   2126687939, 2126688451, 2126688963, 2126689475, 2126689987, 2126690499, 2126691011, 2126691523, 2126692035,
   2126692547, 2126693059, 2126693571, 2126694083, 2126694595, 2126695107, 2126695619, 2126696131, 2126696643,
   2126697155, 2126697667, 2126698179, 2126698691, 2126699203, 2126699715, 2126700227, 2126700739, 2126701251,
   2126701763, 2126702275, 2126702787, 2126703299, 2126703811, 2126704323, 2126704835, 2126705347, 2126705859,
   2126706371, 2126706883, 2126707395, 2126707907, 2126708419, 2126708932, 2126709444, 2126709956, 2126710468,
   2126710980, 2126711492, 2126712004, 2126712516, 2126713028, 2126713540, 2126714052, 2126714564, 2126715076,
   2126715588, 2126716100, 2126716612, 2126717124, 2126717636, 2126718148, 2126718660, 2126719172, 2126719684,
   2126720196, 2126720708, 2126721220, 2126721732, 2126722244, 2126722756, 2126723268, 2126723780, 2126724292,
   2126724804, 2126725316, 2126725828, 2126726340, 2126726852, 2126727364, 2126727876, 2126728388, 2126728900,
   2126729412, 2126729924, 2126730436, 2126730948, 2126731460, 2126731972, 2126732484, 2126732996, 2126733508,
   2126734020, 2126734532, 2126735044, 2126735556, 2126736068, 2126736580, 2126737092, 2126737604, 2126738116,
   2126738628, 2126739140, 2126739652, 2126740164, 2126740676, 2126741188, 2126741700, 2126742212, 2126742724,
   2126743236, 2126743748, 2126744260, 2126744772, 2126745284, 2126745796, 2126746308, 2126746820, 2126747332,
   2126747844, 2126748356, 2126748868, 2126749380, 2126749892, 2126750404, 2126750916, 2126751428, 2126751940,
   2126752452, 2126752964, 2126753476, 2126753988, 2126754500, 2126755012, 2126755524, 2126756036, 2126756548,
   2126757060, 2126757572, 2126758084, 2126758596, 2126759108, 2126759620, 2126760132, 2126760644, 2126761156,
   2126761668, 2126762180, 2126762692, 2126763204, 2126763716, 2126764228, 2126764740, 2126765252, 2126765764,
   2126766276, 2126766788, 2126767300, 2126767812, 2126768324, 2126768836, 2126769348, 2126769860, 2126770372,
   2126770884, 2126771396, 2126771908, 2126772420, 2126772932, 2126773444, 2126773956, 2126774469, 2126774981,
   2126775493, 2126776005, 2126776517, 2126777029, 2126777541, 2126778053, 2126778565, 2126779077, 2126779589,
   2126780101, 2126780613, 2126781125, 2126781637, 2126782149, 2126782661, 2126783173, 2126783685, 2126784197,
   2126784709, 2126785221, 2126785733, 2126786245, 2126786757, 2126787269, 2126787781, 2126788293, 2126788805,
   2126789317, 2126789829, 2126790341, 2126790853, 2126791365, 2126791877, 2126792389, 2126792901, 2126793413,
   2126793925, 2126794437, 2126794949, 2126795461, 2126795973, 2126796485, 2126796997, 2126797509, 2126798021,
   2126798533, 2126799045, 2126799557, 2126800069, 2126800581, 2126801093, 2126801605, 2126802117, 2126802629,
   2126803141, 2126803653, 2126804165, 2126804677, 2126805189, 2126805701, 2126806213, 2126806725, 2126807237,
   2126807749, 2126808261, 2126808773, 2126809285, 2126809797, 2126810309, 2126810821, 2126811333, 2126811845,
   2126812357, 2126812869, 2126813381, 2126813893, 2126814405, 2126814917, 2126815429, 2126815941, 2126816453,
   2126816965, 2126817477, 2126817989, 2126818501, 2126819013, 2126819525, 2126820037, 2126820549, 2126821061,
   2126821573, 2126822085, 2126822597, 2126823109, 2126823621, 2126824133, 2126824645, 2126825157, 2126825669,
   2126826181, 2126826693, 2126827205, 2126827717, 2126828229, 2126828741, 2126829253, 2126829765, 2126830277,
   2126830789, 2126831301, 2126831813, 2126832325, 2126832837, 2126833349, 2126833861, 2126834373, 2126834885,
   2126835397, 2126835909, 2126836421, 2126836933, 2126837445, 2126837957, 2126838469, 2126838981, 2126839493,
   2126840006, 2126840518, 2126841030, 2126841542, 2126842054, 2126842566, 2126843078, 2126843590, 2126844102,
   2126844614, 2126845126, 2126845638, 2126846150, 2126846662, 2126847174, 2126847686, 2126848198, 2126848710,
   2126849222, 2126849734, 2126850246, 2126850758, 2126851270, 2126851782, 2126852294, 2126852806, 2126853318,
   2126853830, 2126854342, 2126854854, 2126855366, 2126855878, 2126856390, 2126856902, 2126857414, 2126857926,
   2126858438, 2126858950, 2126859462, 2126859974, 2126860486, 2126860998, 2126861510, 2126862022, 2126862534,
   2126863046, 2126863558, 2126864070, 2126864582, 2126865094, 2126865606, 2126866118, 2126866630, 2126867142,
   2126867654, 2126868166, 2126868678, 2126869190, 2126869702, 2126870214, 2126870726, 2126871238, 2126871750,
   2126872262, 2126872774, 2126873286, 2126873798, 2126874310, 2126874822, 2126875334, 2126875846, 2126876358,
   2126876870, 2126877382, 2126877894, 2126878406, 2126878918, 2126879430, 2126879942, 2126880454, 2126880966,
   2126881478, 2126881990, 2126882502, 2126883014, 2126883526, 2126884038, 2126884550, 2126885062, 2126885574,
   2126886086, 2126886598, 2126887110, 2126887622, 2126888134, 2126888646, 2126889158, 2126889670, 2126890182,
   2126890694, 2126891206, 2126891718, 2126892230, 2126892742, 2126893254, 2126893766, 2126894278, 2126894790,
   2126895302, 2126895814, 2126896326, 2126896838, 2126897350, 2126897862, 2126898374, 2126898886, 2126899398,
   2126899910, 2126900422, 2126900934, 2126901446, 2126901958, 2126902470, 2126902982, 2126903494, 2126904006,
   2126904518, 2126905030, 2126905543, 2126906055, 2126906567, 2126907079, 2126907591, 2126908103, 2126908615,
   2126909127, 2126909639, 2126910151, 2126910663, 2126911175, 2126911687, 2126912199, 2126912711, 2126913223,
   2126913735, 2126914247, 2126914759, 2126915271, 2126915783, 2126916295, 2126916807, 2126917319, 2126917831,
   2126918343, 2126918855, 2126919367, 2126919879, 2126920391, 2126920903, 2126921415, 2126921927, 2126922439,
   2126922951, 2126923463, 2126923975, 2126924487, 2126924999, 2126925511, 2126926023, 2126926535, 2126927047,
   2126927559, 2126928071, 2126928583, 2126929095, 2126929607, 2126930119, 2126930631, 2126931143, 2126931655,
   2126932167, 2126932679, 2126933191, 2126933703, 2126934215, 2126934727, 2126935239, 2126935751, 2126936263,
   2126936775, 2126937287, 2126937799, 2126938311, 2126938823, 2126939335, 2126939847, 2126940359, 2126940871,
   2126941383, 2126941895, 2126942407, 2126942919, 2126943431, 2126943943, 2126944455, 2126944967, 2126945479,
   2126945991, 2126946503, 2126947015, 2126947527, 2126948039, 2126948551, 2126949063, 2126949575, 2126950087,
   2126950599, 2126951111, 2126951623, 2126952135, 2126952647, 2126953159, 2126953671, 2126954183, 2126954695,
   2126955207, 2126955719, 2126956231, 2126956743, 2126957255, 2126957767, 2126958279, 2126958791, 2126959303,
   2126959815, 2126960327, 2126960839, 2126961351, 2126961863, 2126962375, 2126962887, 2126963399, 2126963911,
   2126964423, 2126964935, 2126965447, 2126965959, 2126966471, 2126966983, 2126967495, 2126968007, 2126968519,
   2126969031, 2126969543, 2126970055, 2126970567, 2126971080, 2126971592, 2126972104, 2126972616, 2126973128,
   2126973640, 2126974152, 2126974664, 2126975176, 2126975688, 2126976200, 2126976712, 2126977224, 2126977736,
   2126978248, 2126978760, 2126979272, 2126979784, 2126980296, 2126980808, 2126981320, 2126981832, 2126982344,
   2126982856, 2126983368, 2126983880, 2126984392, 2126984904, 2126985416, 2126985928, 2126986440, 2126986952,
   2126987464, 2126987976, 2126988488, 2126989000, 2126989512, 2126990024, 2126990536, 2126991048, 2126991560,
   2126992072, 2126992584, 2126993096, 2126993608, 2126994120, 2126994632, 2126995144, 2126995656, 2126996168,
   2126996680, 2126997192, 2126997704, 2126998216, 2126998728, 2126999240, 2126999752, 2127000264, 2127000776,
   2127001288, 2127001800, 2127002312, 2127002824, 2127003336, 2127003848, 2127004360, 2127004872, 2127005384,
   2127005896, 2127006408, 2127006920, 2127007432, 2127007944, 2127008456, 2127008968, 2127009480, 2127009992,
   2127010504, 2127011016, 2127011528, 2127012040, 2127012552, 2127013064, 2127013576, 2127014088, 2127014600,
   2127015112, 2127015624, 2127016136, 2127016648, 2127017160, 2127017672, 2127018184, 2127018696, 2127019208,
   2127019720, 2127020232, 2127020744, 2127021256, 2127021768, 2127022280, 2127022792, 2127023304, 2127023816,
   2127024328, 2127024840, 2127025352, 2127025864, 2127026376, 2127026888, 2127027400, 2127027912, 2127028424,
   2127028936, 2127029448, 2127029960, 2127030472, 2127030984, 2127031496, 2127032008, 2127032520, 2127033032,
   2127033544, 2127034056, 2127034568, 2127035080, 2127035592, 2127036104, 2127036617, 2127037129, 2127037641,
   2127038153, 2127038665, 2127039177, 2127039689, 2127040201, 2127040713, 2127041225, 2127041737, 2127042249,
   2127042761, 2127043273, 2127043785, 2127044297, 2127044809, 2127045321, 2127045833, 2127046345, 2127046857,
   2127047369, 2127047881, 2127048393, 2127048905, 2127049417, 2127049929, 2127050441, 2127050953, 2127051465,
   2127051977, 2127052489, 2127053001, 2127053513, 2127054025, 2127054537, 2127055049, 2127055561, 2127056073,
   2127056585, 2127057097, 2127057609, 2127058121, 2127058633, 2127059145, 2127059657, 2127060169, 2127060681,
   2127061193, 2127061705, 2127062217, 2127062729, 2127063241, 2127063753, 2127064265, 2127064777, 2127065289,
   2127065801, 2127066313, 2127066825, 2127067337, 2127067849, 2127068361, 2127068873, 2127069385, 2127069897,
   2127070409, 2127070921, 2127071433, 2127071945, 2127072457, 2127072969, 2127073481, 2127073993, 2127074505,
   2127075017, 2127075529, 2127076041, 2127076553, 2127077065, 2127077577, 2127078089, 2127078601, 2127079113,
   2127079625, 2127080137, 2127080649, 2127081161, 2127081673, 2127082185, 2127082697, 2127083209, 2127083721,
   2127084233, 2127084745, 2127085257, 2127085769, 2127086281, 2127086793, 2127087305, 2127087817, 2127088329,
   2127088841, 2127089353, 2127089865, 2127090377, 2127090889, 2127091401, 2127091913, 2127092425, 2127092937,
   2127093449, 2127093961, 2127094473, 2127094985, 2127095497, 2127096009, 2127096521, 2127097033, 2127097545,
   2127098057, 2127098569, 2127099081, 2127099593, 2127100105, 2127100617, 2127101129, 2127101641, 2127102154,
   2127102666, 2127103178, 2127103690, 2127104202, 2127104714, 2127105226, 2127105738, 2127106250, 2127106762,
   2127107274, 2127107786, 2127108298, 2127108810, 2127109322, 2127109834, 2127110346, 2127110858, 2127111370,
   2127111882, 2127112394, 2127112906, 2127113418, 2127113930, 2127114442, 2127114954, 2127115466, 2127115978,
   2127116490, 2127117002, 2127117514, 2127118026, 2127118538, 2127119050, 2127119562, 2127120074, 2127120586,
   2127121098, 2127121610, 2127122122, 2127122634, 2127123146, 2127123658, 2127124170, 2127124682, 2127125194,
   2127125706, 2127126218, 2127126730, 2127127242, 2127127754, 2127128266, 2127128778, 2127129290, 2127129802,
   2127130314, 2127130826, 2127131338, 2127131850, 2127132362, 2127132874, 2127133386, 2127133898, 2127134410,
   2127134922, 2127135434, 2127135946, 2127136458, 2127136970, 2127137482, 2127137994, 2127138506, 2127139018,
   2127139530, 2127140042, 2127140554, 2127141066, 2127141578, 2127142090, 2127142602, 2127143114, 2127143626,
   2127144138, 2127144650, 2127145162, 2127145674, 2127146186, 2127146698, 2127147210, 2127147722, 2127148234,
   2127148746, 2127149258, 2127149770, 2127150282, 2127150794, 2127151306, 2127151818, 2127152330, 2127152842,
   2127153354, 2127153866, 2127154378, 2127154890, 2127155402, 2127155914, 2127156426, 2127156938, 2127157450,
   2127157962, 2127158474, 2127158986, 2127159498, 2127160010, 2127160522, 2127161034, 2127161546, 2127162058,
   2127162570, 2127163082, 2127163594, 2127164106, 2127164618, 2127165130, 2127165642, 2127166154, 2127166666,
   2127167178, 2127167691, 2127168203, 2127168715, 2127169227, 2127169739, 2127170251, 2127170763, 2127171275,
   2127171787, 2127172299, 2127172811, 2127173323, 2127173835, 2127174347, 2127174859, 2127175371, 2127175883,
   2127176395, 2127176907, 2127177419, 2127177931, 2127178443, 2127178955, 2127179467, 2127179979, 2127180491,
   2127181003, 2127181515, 2127182027, 2127182539, 2127183051, 2127183563, 2127184075, 2127184587, 2127185099,
   2127185611, 2127186123, 2127186635, 2127187147, 2127187659, 2127188171, 2127188683, 2127189195, 2127189707,
   2127190219, 2127190731, 2127191243, 2127191755, 2127192267, 2127192779, 2127193291, 2127193803, 2127194315,
   2127194827, 2127195339, 2127195851, 2127196363, 2127196875, 2127197387, 2127197899, 2127198411, 2127198923,
   2127199435, 2127199947, 2127200459, 2127200971, 2127201483, 2127201995, 2127202507, 2127203019, 2127203531,
   2127204043, 2127204555, 2127205067, 2127205579, 2127206091, 2127206603, 2127207115, 2127207627, 2127208139,
   2127208651, 2127209163, 2127209675, 2127210187, 2127210699, 2127211211, 2127211723, 2127212235, 2127212747,
   2127213259, 2127213771, 2127214283, 2127214795, 2127215307, 2127215819, 2127216331, 2127216843, 2127217355,
   2127217867, 2127218379, 2127218891, 2127219403, 2127219915, 2127220427, 2127220939, 2127221451, 2127221963,
   2127222475, 2127222987, 2127223499, 2127224011, 2127224523, 2127225035, 2127225547, 2127226059, 2127226571,
   2127227083, 2127227595, 2127228107, 2127228619, 2127229131, 2127229643, 2127230155, 2127230667, 2127231179,
   2127231691, 2127232203, 2127232715, 2127233228, 2127233740, 2127234252, 2127234764, 2127235276, 2127235788,
   2127236300, 2127236812, 2127237324, 2127237836, 2127238348, 2127238860, 2127239372, 2127239884, 2127240396,
   2127240908, 2127241420, 2127241932, 2127242444, 2127242956, 2127243468, 2127243980, 2127244492, 2127245004,
   2127245516, 2127246028, 2127246540, 2127247052, 2127247564, 2127248076, 2127248588, 2127249100, 2127249612,
   2127250124, 2127250636, 2127251148, 2127251660, 2127252172, 2127252684, 2127253196, 2127253708, 2127254220,
   2127254732, 2127255244, 2127255756, 2127256268, 2127256780, 2127257292, 2127257804, 2127258316, 2127258828,
   2127259340, 2127259852, 2127260364, 2127260876, 2127261388, 2127261900, 2127262412, 2127262924, 2127263436,
   2127263948, 2127264460, 2127264972, 2127265484, 2127265996, 2127266508, 2127267020, 2127267532, 2127268044,
   2127268556, 2127269068, 2127269580, 2127270092, 2127270604, 2127271116, 2127271628, 2127272140, 2127272652,
   2127273164, 2127273676, 2127274188, 2127274700, 2127275212, 2127275724, 2127276236, 2127276748, 2127277260,
   2127277772, 2127278284, 2127278796, 2127279308, 2127279820, 2127280332, 2127280844, 2127281356, 2127281868,
   2127282380, 2127282892, 2127283404, 2127283916, 2127284428, 2127284940, 2127285452, 2127285964, 2127286476,
   2127286988, 2127287500, 2127288012, 2127288524, 2127289036, 2127289548, 2127290060, 2127290572, 2127291084,
   2127291596, 2127292108, 2127292620, 2127293132, 2127293644, 2127294156, 2127294668, 2127295180, 2127295692,
   2127296204, 2127296716, 2127297228, 2127297740, 2127298252, 2127298765, 2127299277, 2127299789, 2127300301,
   2127300813, 2127301325, 2127301837, 2127302349, 2127302861, 2127303373, 2127303885, 2127304397, 2127304909,
   2127305421, 2127305933, 2127306445, 2127306957, 2127307469, 2127307981, 2127308493, 2127309005, 2127309517,
   2127310029, 2127310541, 2127311053, 2127311565, 2127312077, 2127312589, 2127313101, 2127313613, 2127314125,
   2127314637, 2127315149, 2127315661, 2127316173, 2127316685, 2127317197, 2127317709, 2127318221, 2127318733,
   2127319245, 2127319757, 2127320269, 2127320781, 2127321293, 2127321805, 2127322317, 2127322829, 2127323341,
   2127323853, 2127324365, 2127324877, 2127325389, 2127325901, 2127326413, 2127326925, 2127327437, 2127327949,
   2127328461, 2127328973, 2127329485, 2127329997, 2127330509, 2127331021, 2127331533, 2127332045, 2127332557,
   2127333069, 2127333581, 2127334093, 2127334605, 2127335117, 2127335629, 2127336141, 2127336653, 2127337165,
   2127337677, 2127338189, 2127338701, 2127339213, 2127339725, 2127340237, 2127340749, 2127341261, 2127341773,
   2127342285, 2127342797, 2127343309, 2127343821, 2127344333, 2127344845, 2127345357, 2127345869, 2127346381,
   2127346893, 2127347405, 2127347917, 2127348429, 2127348941, 2127349453, 2127349965, 2127350477, 2127350989,
   2127351501, 2127352013, 2127352525, 2127353037, 2127353549, 2127354061, 2127354573, 2127355085, 2127355597,
   2127356109, 2127356621, 2127357133, 2127357645, 2127358157, 2127358669, 2127359181, 2127359693, 2127360205,
   2127360717, 2127361229, 2127361741, 2127362253, 2127362765, 2127363277, 2127363789, 2127364302, 2127364814,
   2127365326, 2127365838, 2127366350, 2127366862, 2127367374, 2127367886, 2127368398, 2127368910, 2127369422,
   2127369934, 2127370446, 2127370958, 2127371470, 2127371982, 2127372494, 2127373006, 2127373518, 2127374030,
   2127374542, 2127375054, 2127375566, 2127376078, 2127376590, 2127377102, 2127377614, 2127378126, 2127378638,
   2127379150, 2127379662, 2127380174, 2127380686, 2127381198, 2127381710, 2127382222, 2127382734, 2127383246,
   2127383758, 2127384270, 2127384782, 2127385294, 2127385806, 2127386318, 2127386830, 2127387342, 2127387854,
   2127388366, 2127388878, 2127389390, 2127389902, 2127390414, 2127390926, 2127391438, 2127391950, 2127392462,
   2127392974, 2127393486, 2127393998, 2127394510, 2127395022, 2127395534, 2127396046, 2127396558, 2127397070,
   2127397582, 2127398094, 2127398606, 2127399118, 2127399630, 2127400142, 2127400654, 2127401166, 2127401678,
   2127402190, 2127402702, 2127403214, 2127403726, 2127404238, 2127404750, 2127405262, 2127405774, 2127406286,
   2127406798, 2127407310, 2127407822, 2127408334, 2127408846, 2127409358, 2127409870, 2127410382, 2127410894,
   2127411406, 2127411918, 2127412430, 2127412942, 2127413454, 2127413966, 2127414478, 2127414990, 2127415502,
   2127416014, 2127416526, 2127417038, 2127417550, 2127418062, 2127418574, 2127419086, 2127419598, 2127420110,
   2127420622, 2127421134, 2127421646, 2127422158, 2127422670, 2127423182, 2127423694, 2127424206, 2127424718,
   2127425230, 2127425742, 2127426254, 2127426766, 2127427278, 2127427790, 2127428302, 2127428814, 2127429326,
   2127429839, 2127430351, 2127430863, 2127431375, 2127431887, 2127432399, 2127432911, 2127433423, 2127433935,
   2127434447, 2127434959, 2127435471, 2127435983, 2127436495, 2127437007, 2127437519, 2127438031, 2127438543,
   2127439055, 2127439567, 2127440079, 2127440591, 2127441103, 2127441615, 2127442127, 2127442639, 2127443151,
   2127443663, 2127444175, 2127444687, 2127445199, 2127445711, 2127446223, 2127446735, 2127447247, 2127447759,
   2127448271, 2127448783, 2127449295, 2127449807, 2127450319, 2127450831, 2127451343, 2127451855, 2127452367,
   2127452879, 2127453391, 2127453903, 2127454415, 2127454927, 2127455439, 2127455951, 2127456463, 2127456975,
   2127457487, 2127457999, 2127458511, 2127459023, 2127459535, 2127460047, 2127460559, 2127461071, 2127461583,
   2127462095, 2127462607, 2127463119, 2127463631, 2127464143, 2127464655, 2127465167, 2127465679, 2127466191,
   2127466703, 2127467215, 2127467727, 2127468239, 2127468751, 2127469263, 2127469775, 2127470287, 2127470799,
   2127471311, 2127471823, 2127472335, 2127472847, 2127473359, 2127473871, 2127474383, 2127474895, 2127475407,
   2127475919, 2127476431, 2127476943, 2127477455, 2127477967, 2127478479, 2127478991, 2127479503, 2127480015,
   2127480527, 2127481039, 2127481551, 2127482063, 2127482575, 2127483087, 2127483599, 2127484111, 2127484623,
   2127485135, 2127485647, 2127486159, 2127486671, 2127487183, 2127487695, 2127488207, 2127488719, 2127489231,
   2127489743, 2127490255, 2127490767, 2127491279, 2127491791, 2127492303, 2127492815, 2127493327, 2127493839,
   2127494351, 2127494863, 2127495376, 2127495888, 2127496400, 2127496912, 2127497424, 2127497936, 2127498448,
   2127498960, 2127499472, 2127499984, 2127500496, 2127501008, 2127501520, 2127502032, 2127502544, 2127503056,
   2127503568, 2127504080, 2127504592, 2127505104, 2127505616, 2127506128, 2127506640, 2127507152, 2127507664,
   2127508176, 2127508688, 2127509200, 2127509712, 2127510224, 2127510736, 2127511248, 2127511760, 2127512272,
   2127512784, 2127513296, 2127513808, 2127514320, 2127514832, 2127515344, 2127515856, 2127516368, 2127516880,
   2127517392, 2127517904, 2127518416, 2127518928, 2127519440, 2127519952, 2127520464, 2127520976, 2127521488,
   2127522000, 2127522512, 2127523024, 2127523536, 2127524048, 2127524560, 2127525072, 2127525584, 2127526096,
   2127526608, 2127527120, 2127527632, 2127528144, 2127528656, 2127529168, 2127529680, 2127530192, 2127530704,
   2127531216, 2127531728, 2127532240, 2127532752, 2127533264, 2127533776, 2127534288, 2127534800, 2127535312,
   2127535824, 2127536336, 2127536848, 2127537360, 2127537872, 2127538384, 2127538896, 2127539408, 2127539920,
   2127540432, 2127540944, 2127541456, 2127541968, 2127542480, 2127542992, 2127543504, 2127544016, 2127544528,
   2127545040, 2127545552, 2127546064, 2127546576, 2127547088, 2127547600, 2127548112, 2127548624, 2127549136,
   2127549648, 2127550160, 2127550672, 2127551184, 2127551696, 2127552208, 2127552720, 2127553232, 2127553744,
   2127554256, 2127554768, 2127555280, 2127555792, 2127556304, 2127556816, 2127557328, 2127557840, 2127558352,
   2127558864, 2127559376, 2127559888, 2127560400, 2127560913]
theorem c28_ok :
    chkList (pipeF 1199570688 65535) 65535 2139095040 57345 1063256161 28673 c28
      59393 1063780457 29697 = true := by decide +kernel
theorem c28_len : 57345 + c28.length = 59393 := (chkList_end c28_ok).1
theorem c28_last : lastS 1063256161 c28 = 1063780457 := (chkList_end c28_ok).2.1

@[irreducible] def c29 : List Nat :=
  [2127561425, 2127561937, 2127562449, 2127562961, 2127563473, 2127563985, 2127564497, 2127565009, 2127565521,
   2127566033, 2127566545, 2127567057, 2127567569, 2127568081, 2127568593, 2127569105, 2127569617, 2127570129,
   2127570641, 2127571153, 2127571665, 2127572177, 2127572689, 2127573201, 2127573713, 2127574225, 2127574737,
   2127575249, 2127575761, 2127576273, 2127576785, 2127577297, 2127577809, 2127578321, 2127578833, 2127579345,
   2127579857, 2127580369, 2127580881, 2127581393, 2127581905, 2127582417, 2127582929, 2127583441, 2127583953,
   2127584465, 2127584977, 2127585489, 2127586001, 2127586513, 2127587025, 2127587537, 2127588049, 2127588561,
   2127589073, 2127589585, 2127590097, 2127590609, 2127591121, 2127591633, 2127592145, 2127592657, 2127593169,
   2127593681, 2127594193, 2127594705, 2127595217, 2127595729, 2127596241, 2127596753, 2127597265, 2127597777,
   2127598289, 2127598801, 2127599313, 2127599825, 2127600337, 2127600849, 2127601361, 2127601873, 2127602385,
   2127602897, 2127603409, 2127603921, 2127604433, 2127604945, 2127605457, 2127605969, 2127606481, 2127606993,
   2127607505, 2127608017, 2127608529, 2127609041, 2127609553, 2127610065, 2127610577, 2127611089, 2127611601,
   2127612113, 2127612625, 2127613137, 2127613649, 2127614161, 2127614673, 2127615185, 2127615697, 2127616209,
   2127616721, 2127617233, 2127617745, 2127618257, 2127618769, 2127619281, 2127619793, 2127620305, 2127620817,
   2127621329, 2127621841, 2127622353, 2127622865, 2127623377, 2127623889, 2127624401, 2127624913, 2127625425,
   2127625937, 2127626450, 2127626962, 2127627474, 2127627986, 2127628498, 2127629010, 2127629522, 2127630034,
   2127630546, 2127631058, 2127631570, 2127632082, 2127632594, 2127633106, 2127633618, 2127634130, 2127634642,
   2127635154, 2127635666, 2127636178, 2127636690, 2127637202, 2127637714, 2127638226, 2127638738, 2127639250,
   2127639762, 2127640274, 2127640786, 2127641298, 2127641810, 2127642322, 2127642834, 2127643346, 2127643858,
   2127644370, 2127644882, 2127645394, 2127645906, 2127646418, 2127646930, 2127647442, 2127647954, 2127648466,
   2127648978, 2127649490, 2127650002, 2127650514, 2127651026, 2127651538, 2127652050, 2127652562, 2127653074,
   2127653586, 2127654098, 2127654610, 2127655122, 2127655634, 2127656146, 2127656658, 2127657170, 2127657682,
   2127658194, 2127658706, 2127659218, 2127659730, 2127660242, 2127660754, 2127661266, 2127661778, 2127662290,
   2127662802, 2127663314, 2127663826, 2127664338, 2127664850, 2127665362, 2127665874, 2127666386, 2127666898,
   2127667410, 2127667922, 2127668434, 2127668946, 2127669458, 2127669970, 2127670482, 2127670994, 2127671506,
   2127672018, 2127672530, 2127673042, 2127673554, 2127674066, 2127674578, 2127675090, 2127675602, 2127676114,
   2127676626, 2127677138, 2127677650, 2127678162, 2127678674, 2127679186, 2127679698, 2127680210, 2127680722,
   2127681234, 2127681746, 2127682258, 2127682770, 2127683282, 2127683794, 2127684306, 2127684818, 2127685330,
   2127685842, 2127686354, 2127686866, 2127687378, 2127687890, 2127688402, 2127688914, 2127689426, 2127689938,
   2127690450, 2127690962, 2127691474, 2127691987, 2127692499, 2127693011, 2127693523, 2127694035, 2127694547,
   2127695059, 2127695571, 2127696083, 2127696595, 2127697107, 2127697619, 2127698131, 2127698643, 2127699155,
   2127699667, 2127700179, 2127700691, 2127701203, 2127701715, 2127702227, 2127702739, 2127703251, 2127703763,
   2127704275, 2127704787, 2127705299, 2127705811, 2127706323, 2127706835, 2127707347, 2127707859, 2127708371,
   2127708883, 2127709395, 2127709907, 2127710419, 2127710931, 2127711443, 2127711955, 2127712467, 2127712979,
   2127713491, 2127714003, 2127714515, 2127715027, 2127715539, 2127716051, 2127716563, 2127717075, 2127717587,
   2127718099, 2127718611, 2127719123, 2127719635, 2127720147, 2127720659, 2127721171, 2127721683, 2127722195,
   2127722707, 2127723219, 2127723731, 2127724243, 2127724755, 2127725267, 2127725779, 2127726291, 2127726803,
   2127727315, 2127727827, 2127728339, 2127728851, 2127729363, 2127729875, 2127730387, 2127730899, 2127731411,
   2127731923, 2127732435, 2127732947, 2127733459, 2127733971, 2127734483, 2127734995, 2127735507, 2127736019,
   2127736531, 2127737043, 2127737555, 2127738067, 2127738579, 2127739091, 2127739603, 2127740115, 2127740627,
   2127741139, 2127741651, 2127742163, 2127742675, 2127743187, 2127743699, 2127744211, 2127744723, 2127745235,
   2127745747, 2127746259, 2127746771, 2127747283, 2127747795, 2127748307, 2127748819, 2127749331, 2127749843,
   2127750355, 2127750867, 2127751379, 2127751891, 2127752403, 2127752915, 2127753427, 2127753939, 2127754451,
   2127754963, 2127755475, 2127755987, 2127756499, 2127757011, 2127757524, 2127758036, 2127758548, 2127759060,
   2127759572, 2127760084, 2127760596, 2127761108, 2127761620, 2127762132, 2127762644, 2127763156, 2127763668,
   2127764180, 2127764692, 2127765204, 2127765716, 2127766228, 2127766740, 2127767252, 2127767764, 2127768276,
   2127768788, 2127769300, 2127769812, 2127770324, 2127770836, 2127771348, 2127771860, 2127772372, 2127772884,
   2127773396, 2127773908, 2127774420, 2127774932, 2127775444, 2127775956, 2127776468, 2127776980, 2127777492,
   2127778004, 2127778516, 2127779028, 2127779540, 2127780052, 2127780564, 2127781076, 2127781588, 2127782100,
   2127782612, 2127783124, 2127783636, 2127784148, 2127784660, 2127785172, 2127785684, 2127786196, 2127786708,
   2127787220, 2127787732, 2127788244, 2127788756, 2127789268, 2127789780, 2127790292, 2127790804, 2127791316,
   2127791828, 2127792340, 2127792852, 2127793364, 2127793876, 2127794388, 2127794900, 2127795412, 2127795924,
   2127796436, 2127796948, 2127797460, 2127797972, 2127798484, 2127798996, 2127799508, 2127800020, 2127800532,
   2127801044, 2127801556, 2127802068, 2127802580, 2127803092, 2127803604, 2127804116, 2127804628, 2127805140,
   2127805652, 2127806164, 2127806676, 2127807188, 2127807700, 2127808212, 2127808724, 2127809236, 2127809748,
   2127810260, 2127810772, 2127811284, 2127811796, 2127812308, 2127812820, 2127813332, 2127813844, 2127814356,
   2127814868, 2127815380, 2127815892, 2127816404, 2127816916, 2127817428, 2127817940, 2127818452, 2127818964,
   2127819476, 2127819988, 2127820500, 2127821012, 2127821524, 2127822036, 2127822548, 2127823061, 2127823573,
   2127824085, 2127824597, 2127825109, 2127825621, 2127826133, 2127826645, 2127827157, 2127827669, 2127828181,
   2127828693, 2127829205, 2127829717, 2127830229, 2127830741, 2127831253, 2127831765, 2127832277, 2127832789,
   2127833301, 2127833813, 2127834325, 2127834837, 2127835349, 2127835861, 2127836373, 2127836885, 2127837397,
   2127837909, 2127838421, 2127838933, 2127839445, 2127839957, 2127840469, 2127840981, 2127841493, 2127842005,
   2127842517, 2127843029, 2127843541, 2127844053, 2127844565, 2127845077, 2127845589, 2127846101, 2127846613,
   2127847125, 2127847637, 2127848149, 2127848661, 2127849173, 2127849685, 2127850197, 2127850709, 2127851221,
   2127851733, 2127852245, 2127852757, 2127853269, 2127853781, 2127854293, 2127854805, 2127855317, 2127855829,
   2127856341, 2127856853, 2127857365, 2127857877, 2127858389, 2127858901, 2127859413, 2127859925, 2127860437,
   2127860949, 2127861461, 2127861973, 2127862485, 2127862997, 2127863509, 2127864021, 2127864533, 2127865045,
   2127865557, 2127866069, 2127866581, 2127867093, 2127867605, 2127868117, 2127868629, 2127869141, 2127869653,
   2127870165, 2127870677, 2127871189, 2127871701, 2127872213, 2127872725, 2127873237, 2127873749, 2127874261,
   2127874773, 2127875285, 2127875797, 2127876309, 2127876821, 2127877333, 2127877845, 2127878357, 2127878869,
   2127879381, 2127879893, 2127880405, 2127880917, 2127881429, 2127881941, 2127882453, 2127882965, 2127883477,
   2127883989, 2127884501, 2127885013, 2127885525, 2127886037, 2127886549, 2127887061, 2127887573, 2127888085,
   2127888598, 2127889110, 2127889622, 2127890134, 2127890646, 2127891158, 2127891670, 2127892182, 2127892694,
   2127893206, 2127893718, 2127894230, 2127894742, 2127895254, 2127895766, 2127896278, 2127896790, 2127897302,
   2127897814, 2127898326, 2127898838, 2127899350, 2127899862, 2127900374, 2127900886, 2127901398, 2127901910,
   2127902422, 2127902934, 2127903446, 2127903958, 2127904470, 2127904982, 2127905494, 2127906006, 2127906518,
   2127907030, 2127907542, 2127908054, 2127908566, 2127909078, 2127909590, 2127910102, 2127910614, 2127911126,
   2127911638, 2127912150, 2127912662, 2127913174, 2127913686, 2127914198, 2127914710, 2127915222, 2127915734,
   2127916246, 2127916758, 2127917270, 2127917782, 2127918294, 2127918806, 2127919318, 2127919830, 2127920342,
   2127920854, 2127921366, 2127921878, 2127922390, 2127922902, 2127923414, 2127923926, 2127924438, 2127924950,
   2127925462, 2127925974, 2127926486, 2127926998, 2127927510, 2127928022, 2127928534, 2127929046, 2127929558,
   2127930070, 2127930582, 2127931094, 2127931606, 2127932118, 2127932630, 2127933142, 2127933654, 2127934166,
   2127934678, 2127935190, 2127935702, 2127936214, 2127936726, 2127937238, 2127937750, 2127938262, 2127938774,
   2127939286, 2127939798, 2127940310, 2127940822, 2127941334, 2127941846, 2127942358, 2127942870, 2127943382,
   2127943894, 2127944406, 2127944918, 2127945430, 2127945942, 2127946454, 2127946966, 2127947478, 2127947990,
   2127948502, 2127949014, 2127949526, 2127950038, 2127950550, 2127951062, 2127951574, 2127952086, 2127952598,
   2127953110, 2127953622, 2127954135, 2127954647, 2127955159, 2127955671, 2127956183, 2127956695, 2127957207,
   2127957719, 2127958231, 2127958743, 2127959255, 2127959767, 2127960279, 2127960791, 2127961303, 2127961815,
   2127962327, 2127962839, 2127963351, 2127963863, 2127964375, 2127964887, 2127965399, 2127965911, 2127966423,
   2127966935, 2127967447, 2127967959, 2127968471, 2127968983, 2127969495, 2127970007, 2127970519, 2127971031,
   2127971543, 2127972055, 2127972567, 2127973079, 2127973591, 2127974103, 2127974615, 2127975127, 2127975639,
   2127976151, 2127976663, 2127977175, 2127977687, 2127978199, 2127978711, 2127979223, 2127979735, 2127980247,
   2127980759, 2127981271, 2127981783, 2127982295, 2127982807, 2127983319, 2127983831, 2127984343, 2127984855,
   2127985367, 2127985879, 2127986391, 2127986903, 2127987415, 2127987927, 2127988439, 2127988951, 2127989463,
   2127989975, 2127990487, 2127990999, 2127991511, 2127992023, 2127992535, 2127993047, 2127993559, 2127994071,
   2127994583, 2127995095, 2127995607, 2127996119, 2127996631, 2127997143, 2127997655, 2127998167, 2127998679,
   2127999191, 2127999703, 2128000215, 2128000727, 2128001239, 2128001751, 2128002263, 2128002775, 2128003287,
   2128003799, 2128004311, 2128004823, 2128005335, 2128005847, 2128006359, 2128006871, 2128007383, 2128007895,
   2128008407, 2128008919, 2128009431, 2128009943, 2128010455, 2128010967, 2128011479, 2128011991, 2128012503,
   2128013015, 2128013527, 2128014039, 2128014551, 2128015063, 2128015575, 2128016087, 2128016599, 2128017111,
   2128017623, 2128018135, 2128018647, 2128019159, 2128019672, 2128020184, 2128020696, 2128021208, 2128021720,
   2128022232, 2128022744, 2128023256, 2128023768, 2128024280, 2128024792, 2128025304, 2128025816, 2128026328,
   2128026840, 2128027352, 2128027864, 2128028376, 2128028888, 2128029400, 2128029912, 2128030424, 2128030936,
   2128031448, 2128031960, 2128032472, 2128032984, 2128033496, 2128034008, 2128034520, 2128035032, 2128035544,
   2128036056, 2128036568, 2128037080, 2128037592, 2128038104, 2128038616, 2128039128, 2128039640, 2128040152,
   2128040664, 2128041176, 2128041688, 2128042200, 2128042712, 2128043224, 2128043736, 2128044248, 2128044760,
   2128045272, 2128045784, 2128046296, 2128046808, 2128047320, 2128047832, 2128048344, 2128048856, 2128049368,
   2128049880, 2128050392, 2128050904, 2128051416, 2128051928, 2128052440, 2128052952, 2128053464, 2128053976,
   2128054488, 2128055000, 2128055512, 2128056024, 2128056536, 2128057048, 2128057560, 2128058072, 2128058584,
   2128059096, 2128059608, 2128060120, 2128060632, 2128061144, 2128061656, 2128062168, 2128062680, 2128063192,
   2128063704, 2128064216, 2128064728, 2128065240, 2128065752, 2128066264, 2128066776, 2128067288, 2128067800,
   2128068312, 2128068824, 2128069336, 2128069848, 2128070360, 2128070872, 2128071384, 2128071896, 2128072408,
   2128072920, 2128073432, 2128073944, 2128074456, 2128074968, 2128075480, 2128075992, 2128076504, 2128077016,
   2128077528, 2128078040, 2128078552, 2128079064, 2128079576, 2128080088, 2128080600, 2128081112, 2128081624,
   2128082136, 2128082648, 2128083160, 2128083672, 2128084184, 2128084696, 2128085209, 2128085721, 2128086233,
   2128086745, 2128087257, 2128087769, 2128088281, 2128088793, 2128089305, 2128089817, 2128090329, 2128090841,
   2128091353, 2128091865, 2128092377, 2128092889, 2128093401, 2128093913, 2128094425, 2128094937, 2128095449,
   2128095961, 2128096473, 2128096985, 2128097497, 2128098009, 2128098521, 2128099033, 2128099545, 2128100057,
   2128100569, 2128101081, 2128101593, 2128102105, 2128102617, 2128103129, 2128103641, 2128104153, 2128104665,
   2128105177, 2128105689, 2128106201, 2128106713, 2128107225, 2128107737, 2128108249, 2128108761, 2128109273,
   2128109785, 2128110297, 2128110809, 2128111321, 2128111833, 2128112345, 2128112857, 2128113369, 2128113881,
   2128114393, 2128114905, 2128115417, 2128115929, 2128116441, 2128116953, 2128117465, 2128117977, 2128118489,
   2128119001, 2128119513, 2128120025, 2128120537, 2128121049, 2128121561, 2128122073, 2128122585, 2128123097,
   2128123609, 2128124121, 2128124633, 2128125145, 2128125657, 2128126169, 2128126681, 2128127193, 2128127705,
   2128128217, 2128128729, 2128129241, 2128129753, 2128130265, 2128130777, 2128131289, 2128131801, 2128132313,
   2128132825, 2128133337, 2128133849, 2128134361, 2128134873, 2128135385, 2128135897, 2128136409, 2128136921,
   2128137433, 2128137945, 2128138457, 2128138969, 2128139481, 2128139993, 2128140505, 2128141017, 2128141529,
   2128142041, 2128142553, 2128143065, 2128143577, 2128144089, 2128144601, 2128145113, 2128145625, 2128146137,
   2128146649, 2128147161, 2128147673, 2128148185, 2128148697, 2128149209, 2128149721, 2128150233, 2128150746,
   2128151258, 2128151770, 2128152282, 2128152794, 2128153306, 2128153818, 2128154330, 2128154842, 2128155354,
   2128155866, 2128156378, 2128156890, 2128157402, 2128157914, 2128158426, 2128158938, 2128159450, 2128159962,
   2128160474, 2128160986, 2128161498, 2128162010, 2128162522, 2128163034, 2128163546, 2128164058, 2128164570,
   2128165082, 2128165594, 2128166106, 2128166618, 2128167130, 2128167642, 2128168154, 2128168666, 2128169178,
   2128169690, 2128170202, 2128170714, 2128171226, 2128171738, 2128172250, 2128172762, 2128173274, 2128173786,
   2128174298, 2128174810, 2128175322, 2128175834, 2128176346, 2128176858, 2128177370, 2128177882, 2128178394,
   2128178906, 2128179418, 2128179930, 2128180442, 2128180954, 2128181466, 2128181978, 2128182490, 2128183002,
   2128183514, 2128184026, 2128184538, 2128185050, 2128185562, 2128186074, 2128186586, 2128187098, 2128187610,
   2128188122, 2128188634, 2128189146, 2128189658, 2128190170, 2128190682, 2128191194, 2128191706, 2128192218,
   2128192730, 2128193242, 2128193754, 2128194266, 2128194778, 2128195290, 2128195802, 2128196314, 2128196826,
   2128197338, 2128197850, 2128198362, 2128198874, 2128199386, 2128199898, 2128200410, 2128200922, 2128201434,
   2128201946, 2128202458, 2128202970, 2128203482, 2128203994, 2128204506, 2128205018, 2128205530, 2128206042,
   2128206554, 2128207066, 2128207578, 2128208090, 2128208602, 2128209114, 2128209626, 2128210138, 2128210650,
   2128211162, 2128211674, 2128212186, 2128212698, 2128213210, 2128213722, 2128214234, 2128214746, 2128215258,
   2128215770, 2128216283, 2128216795, 2128217307, 2128217819, 2128218331, 2128218843, 2128219355, 2128219867,
   2128220379, 2128220891, 2128221403, 2128221915, 2128222427, 2128222939, 2128223451, 2128223963, 2128224475,
   2128224987, 2128225499, 2128226011, 2128226523, 2128227035, 2128227547, 2128228059, 2128228571, 2128229083,
   2128229595, 2128230107, 2128230619, 2128231131, 2128231643, 2128232155, 2128232667, 2128233179, 2128233691,
   2128234203, 2128234715, 2128235227, 2128235739, 2128236251, 2128236763, 2128237275, 2128237787, 2128238299,
   2128238811, 2128239323, 2128239835, 2128240347, 2128240859, 2128241371, 2128241883, 2128242395, 2128242907,
   2128243419, 2128243931, 2128244443, 2128244955, 2128245467, 2128245979, 2128246491, 2128247003, 2128247515,
   2128248027, 2128248539, 2128249051, 2128249563, 2128250075, 2128250587, 2128251099, 2128251611, 2128252123,
   2128252635, 2128253147, 2128253659, 2128254171, 2128254683, 2128255195, 2128255707, 2128256219, 2128256731,
   2128257243, 2128257755, 2128258267, 2128258779, 2128259291, 2128259803, 2128260315, 2128260827, 2128261339,
   2128261851, 2128262363, 2128262875, 2128263387, 2128263899, 2128264411, 2128264923, 2128265435, 2128265947,
   2128266459, 2128266971, 2128267483, 2128267995, 2128268507, 2128269019, 2128269531, 2128270043, 2128270555,
   2128271067, 2128271579, 2128272091, 2128272603, 2128273115, 2128273627, 2128274139, 2128274651, 2128275163,
   2128275675, 2128276187, 2128276699, 2128277211, 2128277723, 2128278235, 2128278747, 2128279259, 2128279771,
   2128280283, 2128280795, 2128281307, 2128281820, 2128282332, 2128282844, 2128283356, 2128283868, 2128284380,
   2128284892, 2128285404, 2128285916, 2128286428, 2128286940, 2128287452, 2128287964, 2128288476, 2128288988,
   2128289500, 2128290012, 2128290524, 2128291036, 2128291548, 2128292060, 2128292572, 2128293084, 2128293596,
   2128294108, 2128294620, 2128295132, 2128295644, 2128296156, 2128296668, 2128297180, 2128297692, 2128298204,
   2128298716, 2128299228, 2128299740, 2128300252, 2128300764, 2128301276, 2128301788, 2128302300, 2128302812,
   2128303324, 2128303836, 2128304348, 2128304860, 2128305372, 2128305884, 2128306396, 2128306908, 2128307420,
   2128307932, 2128308444, 2128308956, 2128309468, 2128309980, 2128310492, 2128311004, 2128311516, 2128312028,
   2128312540, 2128313052, 2128313564, 2128314076, 2128314588, 2128315100, 2128315612, 2128316124, 2128316636,
   2128317148, 2128317660, 2128318172, 2128318684, 2128319196, 2128319708, 2128320220, 2128320732, 2128321244,
   2128321756, 2128322268, 2128322780, 2128323292, 2128323804, 2128324316, 2128324828, 2128325340, 2128325852,
   2128326364, 2128326876, 2128327388, 2128327900, 2128328412, 2128328924, 2128329436, 2128329948, 2128330460,
   2128330972, 2128331484, 2128331996, 2128332508, 2128333020, 2128333532, 2128334044, 2128334556, 2128335068,
   2128335580, 2128336092, 2128336604, 2128337116, 2128337628, 2128338140, 2128338652, 2128339164, 2128339676,
   2128340188, 2128340700, 2128341212, 2128341724, 2128342236, 2128342748, 2128343260, 2128343772, 2128344284,
   2128344796, 2128345308, 2128345820, 2128346332, 2128346844, 2128347357, 2128347869, 2128348381, 2128348893,
   2128349405, 2128349917, 2128350429, 2128350941, 2128351453, 2128351965, 2128352477, 2128352989, 2128353501,
   2128354013, 2128354525, 2128355037, 2128355549, 2128356061, 2128356573, 2128357085, 2128357597, 2128358109,
   2128358621, 2128359133, 2128359645, 2128360157, 2128360669, 2128361181, 2128361693, 2128362205, 2128362717,
   2128363229, 2128363741, 2128364253, 2128364765, 2128365277, 2128365789, 2128366301, 2128366813, 2128367325,
   2128367837, 2128368349, 2128368861, 2128369373, 2128369885, 2128370397, 2128370909, 2128371421, 2128371933,
   2128372445, 2128372957, 2128373469, 2128373981, 2128374493, 2128375005, 2128375517, 2128376029, 2128376541,
   2128377053, 2128377565, 2128378077, 2128378589, 2128379101, 2128379613, 2128380125, 2128380637, 2128381149,
   2128381661, 2128382173, 2128382685, 2128383197, 2128383709, 2128384221, 2128384733, 2128385245, 2128385757,
   2128386269, 2128386781, 2128387293, 2128387805, 2128388317, 2128388829, 2128389341, 2128389853, 2128390365,
   2128390877, 2128391389, 2128391901, 2128392413, 2128392925, 2128393437, 2128393949, 2128394461, 2128394973,
   2128395485, 2128395997, 2128396509, 2128397021, 2128397533, 2128398045, 2128398557, 2128399069, 2128399581,
   2128400093, 2128400605, 2128401117, 2128401629, 2128402141, 2128402653, 2128403165, 2128403677, 2128404189,
   2128404701, 2128405213, 2128405725, 2128406237, 2128406749, 2128407261, 2128407773, 2128408285, 2128408797,
   2128409309, 2128409821, 2128410333, 2128410845, 2128411357, 2128411869, 2128412381, 2128412894, 2128413406,
   2128413918, 2128414430, 2128414942, 2128415454, 2128415966, 2128416478, 2128416990, 2128417502, 2128418014,
   2128418526, 2128419038, 2128419550, 2128420062, 2128420574, 2128421086, 2128421598, 2128422110, 2128422622,
   2128423134, 2128423646, 2128424158, 2128424670, 2128425182, 2128425694, 2128426206, 2128426718, 2128427230,
   2128427742, 2128428254, 2128428766, 2128429278, 2128429790, 2128430302, 2128430814, 2128431326, 2128431838,
   2128432350, 2128432862, 2128433374, 2128433886, 2128434398, 2128434910, 2128435422, 2128435934, 2128436446,
   2128436958, 2128437470, 2128437982, 2128438494, 2128439006, 2128439518, 2128440030, 2128440542, 2128441054,
   2128441566, 2128442078, 2128442590, 2128443102, 2128443614, 2128444126, 2128444638, 2128445150, 2128445662,
   2128446174, 2128446686, 2128447198, 2128447710, 2128448222, 2128448734, 2128449246, 2128449758, 2128450270,
   2128450782, 2128451294, 2128451806, 2128452318, 2128452830, 2128453342, 2128453854, 2128454366, 2128454878,
   2128455390, 2128455902, 2128456414, 2128456926, 2128457438, 2128457950, 2128458462, 2128458974, 2128459486,
   2128459998, 2128460510, 2128461022, 2128461534, 2128462046, 2128462558, 2128463070, 2128463582, 2128464094,
   2128464606, 2128465118, 2128465630, 2128466142, 2128466654, 2128467166, 2128467678, 2128468190, 2128468702,
   2128469214, 2128469726, 2128470238, 2128470750, 2128471262, 2128471774, 2128472286, 2128472798, 2128473310,
   2128473822, 2128474334, 2128474846, 2128475358, 2128475870, 2128476382, 2128476894, 2128477406, 2128477918,
   2128478431, 2128478943, 2128479455, 2128479967, 2128480479, 2128480991, 2128481503, 2128482015, 2128482527,
   2128483039, 2128483551, 2128484063, 2128484575, 2128485087, 2128485599, 2128486111, 2128486623, 2128487135,
   2128487647, 2128488159, 2128488671, 2128489183, 2128489695, 2128490207, 2128490719, 2128491231, 2128491743,
   2128492255, 2128492767, 2128493279, 2128493791, 2128494303, 2128494815, 2128495327, 2128495839, 2128496351,
   2128496863, 2128497375, 2128497887, 2128498399, 2128498911, 2128499423, 2128499935, 2128500447, 2128500959,
   2128501471, 2128501983, 2128502495, 2128503007, 2128503519, 2128504031, 2128504543, 2128505055, 2128505567,
   2128506079, 2128506591, 2128507103, 2128507615, 2128508127, 2128508639, 2128509151, 2128509663, 2128510175,
   2128510687, 2128511199, 2128511711, 2128512223, 2128512735, 2128513247, 2128513759, 2128514271, 2128514783,
   2128515295, 2128515807, 2128516319, 2128516831, 2128517343, 2128517855, 2128518367, 2128518879, 2128519391,
   2128519903, 2128520415, 2128520927, 2128521439, 2128521951, 2128522463, 2128522975, 2128523487, 2128523999,
   2128524511, 2128525023, 2128525535, 2128526047, 2128526559, 2128527071, 2128527583, 2128528095, 2128528607,
   2128529119, 2128529631, 2128530143, 2128530655, 2128531167, 2128531679, 2128532191, 2128532703, 2128533215,
   2128533727, 2128534239, 2128534751, 2128535263, 2128535775, 2128536287, 2128536799, 2128537311, 2128537823,
   2128538335, 2128538847, 2128539359, 2128539871, 2128540383, 2128540895, 2128541407, 2128541919, 2128542431,
   2128542943, 2128543455, 2128543968, 2128544480, 2128544992, 2128545504, 2128546016, 2128546528, 2128547040,
   2128547552, 2128548064, 2128548576, 2128549088, 2128549600, 2128550112, 2128550624, 2128551136, 2128551648,
   2128552160, 2128552672, 2128553184, 2128553696, 2128554208, 2128554720, 2128555232, 2128555744, 2128556256,
   2128556768, 2128557280, 2128557792, 2128558304, 2128558816, 2128559328, 2128559840, 2128560352, 2128560864,
   2128561376, 2128561888, 2128562400, 2128562912, 2128563424, 2128563936, 2128564448, 2128564960, 2128565472,
   2128565984, 2128566496, 2128567008, 2128567520, 2128568032, 2128568544, 2128569056, 2128569568, 2128570080,
   2128570592, 2128571104, 2128571616, 2128572128, 2128572640, 2128573152, 2128573664, 2128574176, 2128574688,
   2128575200, 2128575712, 2128576224, 2128576736, 2128577248, 2128577760, 2128578272, 2128578784, 2128579296,
   2128579808, 2128580320, 2128580832, 2128581344, 2128581856, 2128582368, 2128582880, 2128583392, 2128583904,
   2128584416, 2128584928, 2128585440, 2128585952, 2128586464, 2128586976, 2128587488, 2128588000, 2128588512,
   2128589024, 2128589536, 2128590048, 2128590560, 2128591072, 2128591584, 2128592096, 2128592608, 2128593120,
   2128593632, 2128594144, 2128594656, 2128595168, 2128595680, 2128596192, 2128596704, 2128597216, 2128597728,
   2128598240, 2128598752, 2128599264, 2128599776, 2128600288, 2128600800, 2128601312, 2128601824, 2128602336,
   2128602848, 2128603360, 2128603872, 2128604384, 2128604896, 2128605408, 2128605920, 2128606432, 2128606944,
   2128607456, 2128607968, 2128608480, 2128608992, 2128609505]
theorem c29_ok :
    chkList (pipeF 1199570688 65535) 65535 2139095040 59393 1063780457 29697 c29
      61441 1064304753 30721 = true := by decide +kernel
theorem c29_len : 59393 + c29.length = 61441 := (chkList_end c29_ok).1
theorem c29_last : lastS 1063780457 c29 = 1064304753 := (chkList_end c29_ok).2.1

@[irreducible] def c30 : List Nat :=
  [2128610017, 2128610529, 2128611041, 2128611553, 2128612065, 2128612577, 2128613089, 2128613601, 2128614113,
   2128614625, 2128615137, 2128615649, 2128616161, 2128616673, 2128617185, 2128617697, 2128618209, 2128618721,
   2128619233, 2128619745, 2128620257, 2128620769, 2128621281, 2128621793, 2128622305, 2128622817, 2128623329,
   2128623841, 2128624353, 2128624865, 2128625377, 2128625889, 2128626401, 2128626913, 2128627425, 2128627937,
   2128628449, 2128628961, 2128629473, 2128629985, 2128630497, 2128631009, 2128631521, 2128632033, 2128632545,
   2128633057, 2128633569, 2128634081, 2128634593, 2128635105, 2128635617, 2128636129, 2128636641, 2128637153,
   2128637665, 2128638177, 2128638689, 2128639201, 2128639713, 2128640225, 2128640737, 2128641249, 2128641761,
   2128642273, 2128642785, 2128643297, 2128643809, 2128644321, 2128644833, 2128645345, 2128645857, 2128646369,
   2128646881, 2128647393, 2128647905, 2128648417, 2128648929, 2128649441, 2128649953, 2128650465, 2128650977,
   2128651489, 2128652001, 2128652513, 2128653025, 2128653537, 2128654049, 2128654561, 2128655073, 2128655585,
   2128656097, 2128656609, 2128657121, 2128657633, 2128658145, 2128658657, 2128659169, 2128659681, 2128660193,
   2128660705, 2128661217, 2128661729, 2128662241, 2128662753, 2128663265, 2128663777, 2128664289, 2128664801,
   2128665313, 2128665825, 2128666337, 2128666849, 2128667361, 2128667873, 2128668385, 2128668897, 2128669409,
   2128669921, 2128670433, 2128670945, 2128671457, 2128671969, 2128672481, 2128672993, 2128673505, 2128674017,
   2128674529, 2128675042, 2128675554, 2128676066, 2128676578, 2128677090, 2128677602, 2128678114, 2128678626,
   2128679138, 2128679650, 2128680162, 2128680674, 2128681186, 2128681698, 2128682210, 2128682722, 2128683234,
   2128683746, 2128684258, 2128684770, 2128685282, 2128685794, 2128686306, 2128686818, 2128687330, 2128687842,
   2128688354, 2128688866, 2128689378, 2128689890, 2128690402, 2128690914, 2128691426, 2128691938, 2128692450,
   2128692962, 2128693474, 2128693986, 2128694498, 2128695010, 2128695522, 2128696034, 2128696546, 2128697058,
   2128697570, 2128698082, 2128698594, 2128699106, 2128699618, 2128700130, 2128700642, 2128701154, 2128701666,
   2128702178, 2128702690, 2128703202, 2128703714, 2128704226, 2128704738, 2128705250, 2128705762, 2128706274,
   2128706786, 2128707298, 2128707810, 2128708322, 2128708834, 2128709346, 2128709858, 2128710370, 2128710882,
   2128711394, 2128711906, 2128712418, 2128712930, 2128713442, 2128713954, 2128714466, 2128714978, 2128715490,
   2128716002, 2128716514, 2128717026, 2128717538, 2128718050, 2128718562, 2128719074, 2128719586, 2128720098,
   2128720610, 2128721122, 2128721634, 2128722146, 2128722658, 2128723170, 2128723682, 2128724194, 2128724706,
   2128725218, 2128725730, 2128726242, 2128726754, 2128727266, 2128727778, 2128728290, 2128728802, 2128729314,
   2128729826, 2128730338, 2128730850, 2128731362, 2128731874, 2128732386, 2128732898, 2128733410, 2128733922,
   2128734434, 2128734946, 2128735458, 2128735970, 2128736482, 2128736994, 2128737506, 2128738018, 2128738530,
   2128739042, 2128739554, 2128740066, 2128740579, 2128741091, 2128741603, 2128742115, 2128742627, 2128743139,
   2128743651, 2128744163, 2128744675, 2128745187, 2128745699, 2128746211, 2128746723, 2128747235, 2128747747,
   2128748259, 2128748771, 2128749283, 2128749795, 2128750307, 2128750819, 2128751331, 2128751843, 2128752355,
   2128752867, 2128753379, 2128753891, 2128754403, 2128754915, 2128755427, 2128755939, 2128756451, 2128756963,
   2128757475, 2128757987, 2128758499, 2128759011, 2128759523, 2128760035, 2128760547, 2128761059, 2128761571,
   2128762083, 2128762595, 2128763107, 2128763619, 2128764131, 2128764643, 2128765155, 2128765667, 2128766179,
   2128766691, 2128767203, 2128767715, 2128768227, 2128768739, 2128769251, 2128769763, 2128770275, 2128770787,
   2128771299, 2128771811, 2128772323, 2128772835, 2128773347, 2128773859, 2128774371, 2128774883, 2128775395,
   2128775907, 2128776419, 2128776931, 2128777443, 2128777955, 2128778467, 2128778979, 2128779491, 2128780003,
   2128780515, 2128781027, 2128781539, 2128782051, 2128782563, 2128783075, 2128783587, 2128784099, 2128784611,
   2128785123, 2128785635, 2128786147, 2128786659, 2128787171, 2128787683, 2128788195, 2128788707, 2128789219,
   2128789731, 2128790243, 2128790755, 2128791267, 2128791779, 2128792291, 2128792803, 2128793315, 2128793827,
   2128794339, 2128794851, 2128795363, 2128795875, 2128796387, 2128796899, 2128797411, 2128797923, 2128798435,
   2128798947, 2128799459, 2128799971, 2128800483, 2128800995, 2128801507, 2128802019, 2128802531, 2128803043,
   2128803555, 2128804067, 2128804579, 2128805091, 2128805603, 2128806116, 2128806628, 2128807140, 2128807652,
   2128808164, 2128808676, 2128809188, 2128809700, 2128810212, 2128810724, 2128811236, 2128811748, 2128812260,
   2128812772, 2128813284, 2128813796, 2128814308, 2128814820, 2128815332, 2128815844, 2128816356, 2128816868,
   2128817380, 2128817892, 2128818404, 2128818916, 2128819428, 2128819940, 2128820452, 2128820964, 2128821476,
   2128821988, 2128822500, 2128823012, 2128823524, 2128824036, 2128824548, 2128825060, 2128825572, 2128826084,
   2128826596, 2128827108, 2128827620, 2128828132, 2128828644, 2128829156, 2128829668, 2128830180, 2128830692,
   2128831204, 2128831716, 2128832228, 2128832740, 2128833252, 2128833764, 2128834276, 2128834788, 2128835300,
   2128835812, 2128836324, 2128836836, 2128837348, 2128837860, 2128838372, 2128838884, 2128839396, 2128839908,
   2128840420, 2128840932, 2128841444, 2128841956, 2128842468, 2128842980, 2128843492, 2128844004, 2128844516,
   2128845028, 2128845540, 2128846052, 2128846564, 2128847076, 2128847588, 2128848100, 2128848612, 2128849124,
   2128849636, 2128850148, 2128850660, 2128851172, 2128851684, 2128852196, 2128852708, 2128853220, 2128853732,
   2128854244, 2128854756, 2128855268, 2128855780, 2128856292, 2128856804, 2128857316, 2128857828, 2128858340,
   2128858852, 2128859364, 2128859876, 2128860388, 2128860900, 2128861412, 2128861924, 2128862436, 2128862948,
   2128863460, 2128863972, 2128864484, 2128864996, 2128865508, 2128866020, 2128866532, 2128867044, 2128867556,
   2128868068, 2128868580, 2128869092, 2128869604, 2128870116, 2128870628, 2128871140, 2128871653, 2128872165,
   2128872677, 2128873189, 2128873701, 2128874213, 2128874725, 2128875237, 2128875749, 2128876261, 2128876773,
   2128877285, 2128877797, 2128878309, 2128878821, 2128879333, 2128879845, 2128880357, 2128880869, 2128881381,
   2128881893, 2128882405, 2128882917, 2128883429, 2128883941, 2128884453, 2128884965, 2128885477, 2128885989,
   2128886501, 2128887013, 2128887525, 2128888037, 2128888549, 2128889061, 2128889573, 2128890085, 2128890597,
   2128891109, 2128891621, 2128892133, 2128892645, 2128893157, 2128893669, 2128894181, 2128894693, 2128895205,
   2128895717, 2128896229, 2128896741, 2128897253, 2128897765, 2128898277, 2128898789, 2128899301, 2128899813,
   2128900325, 2128900837, 2128901349, 2128901861, 2128902373, 2128902885, 2128903397, 2128903909, 2128904421,
   2128904933, 2128905445, 2128905957, 2128906469, 2128906981, 2128907493, 2128908005, 2128908517, 2128909029,
   2128909541, 2128910053, 2128910565, 2128911077, 2128911589, 2128912101, 2128912613, 2128913125, 2128913637,
   2128914149, 2128914661, 2128915173, 2128915685, 2128916197, 2128916709, 2128917221, 2128917733, 2128918245,
   2128918757, 2128919269, 2128919781, 2128920293, 2128920805, 2128921317, 2128921829, 2128922341, 2128922853,
   2128923365, 2128923877, 2128924389, 2128924901, 2128925413, 2128925925, 2128926437, 2128926949, 2128927461,
   2128927973, 2128928485, 2128928997, 2128929509, 2128930021, 2128930533, 2128931045, 2128931557, 2128932069,
   2128932581, 2128933093, 2128933605, 2128934117, 2128934629, 2128935141, 2128935653, 2128936165, 2128936677,
   2128937190, 2128937702, 2128938214, 2128938726, 2128939238, 2128939750, 2128940262, 2128940774, 2128941286,
   2128941798, 2128942310, 2128942822, 2128943334, 2128943846, 2128944358, 2128944870, 2128945382, 2128945894,
   2128946406, 2128946918, 2128947430, 2128947942, 2128948454, 2128948966, 2128949478, 2128949990, 2128950502,
   2128951014, 2128951526, 2128952038, 2128952550, 2128953062, 2128953574, 2128954086, 2128954598, 2128955110,
   2128955622, 2128956134, 2128956646, 2128957158, 2128957670, 2128958182, 2128958694, 2128959206, 2128959718,
   2128960230, 2128960742, 2128961254, 2128961766, 2128962278, 2128962790, 2128963302, 2128963814, 2128964326,
   2128964838, 2128965350, 2128965862, 2128966374, 2128966886, 2128967398, 2128967910, 2128968422, 2128968934,
   2128969446, 2128969958, 2128970470, 2128970982, 2128971494, 2128972006, 2128972518, 2128973030, 2128973542,
   2128974054, 2128974566, 2128975078, 2128975590, 2128976102, 2128976614, 2128977126, 2128977638, 2128978150,
   2128978662, 2128979174, 2128979686, 2128980198, 2128980710, 2128981222, 2128981734, 2128982246, 2128982758,
   2128983270, 2128983782, 2128984294, 2128984806, 2128985318, 2128985830, 2128986342, 2128986854, 2128987366,
   2128987878, 2128988390, 2128988902, 2128989414, 2128989926, 2128990438, 2128990950, 2128991462, 2128991974,
   2128992486, 2128992998, 2128993510, 2128994022, 2128994534, 2128995046, 2128995558, 2128996070, 2128996582,
   2128997094, 2128997606, 2128998118, 2128998630, 2128999142, 2128999654, 2129000166, 2129000678, 2129001190,
   2129001702, 2129002214, 2129002727, 2129003239, 2129003751, 2129004263, 2129004775, 2129005287, 2129005799,
   2129006311, 2129006823, 2129007335, 2129007847, 2129008359, 2129008871, 2129009383, 2129009895, 2129010407,
   2129010919, 2129011431, 2129011943, 2129012455, 2129012967, 2129013479, 2129013991, 2129014503, 2129015015,
   2129015527, 2129016039, 2129016551, 2129017063, 2129017575, 2129018087, 2129018599, 2129019111, 2129019623,
   2129020135, 2129020647, 2129021159, 2129021671, 2129022183, 2129022695, 2129023207, 2129023719, 2129024231,
   2129024743, 2129025255, 2129025767, 2129026279, 2129026791, 2129027303, 2129027815, 2129028327, 2129028839,
   2129029351, 2129029863, 2129030375, 2129030887, 2129031399, 2129031911, 2129032423, 2129032935, 2129033447,
   2129033959, 2129034471, 2129034983, 2129035495, 2129036007, 2129036519, 2129037031, 2129037543, 2129038055,
   2129038567, 2129039079, 2129039591, 2129040103, 2129040615, 2129041127, 2129041639, 2129042151, 2129042663,
   2129043175, 2129043687, 2129044199, 2129044711, 2129045223, 2129045735, 2129046247, 2129046759, 2129047271,
   2129047783, 2129048295, 2129048807, 2129049319, 2129049831, 2129050343, 2129050855, 2129051367, 2129051879,
   2129052391, 2129052903, 2129053415, 2129053927, 2129054439, 2129054951, 2129055463, 2129055975, 2129056487,
   2129056999, 2129057511, 2129058023, 2129058535, 2129059047, 2129059559, 2129060071, 2129060583, 2129061095,
   2129061607, 2129062119, 2129062631, 2129063143, 2129063655, 2129064167, 2129064679, 2129065191, 2129065703,
   2129066215, 2129066727, 2129067239, 2129067751, 2129068264, 2129068776, 2129069288, 2129069800, 2129070312,
   2129070824, 2129071336, 2129071848, 2129072360, 2129072872, 2129073384, 2129073896, 2129074408, 2129074920,
   2129075432, 2129075944, 2129076456, 2129076968, 2129077480, 2129077992, 2129078504, 2129079016, 2129079528,
   2129080040, 2129080552, 2129081064, 2129081576, 2129082088, 2129082600, 2129083112, 2129083624, 2129084136,
   2129084648, 2129085160, 2129085672, 2129086184, 2129086696, 2129087208, 2129087720, 2129088232, 2129088744,
   2129089256, 2129089768, 2129090280, 2129090792, 2129091304, 2129091816, 2129092328, 2129092840, 2129093352,
   2129093864, 2129094376, 2129094888, 2129095400, 2129095912, 2129096424, 2129096936, 2129097448, 2129097960,
   2129098472, 2129098984, 2129099496, 2129100008, 2129100520, 2129101032, 2129101544, 2129102056, 2129102568,
   2129103080, 2129103592, 2129104104, 2129104616, 2129105128, 2129105640, 2129106152, 2129106664, 2129107176,
   2129107688, 2129108200, 2129108712, 2129109224, 2129109736, 2129110248, 2129110760, 2129111272, 2129111784,
   2129112296, 2129112808, 2129113320, 2129113832, 2129114344, 2129114856, 2129115368, 2129115880, 2129116392,
   2129116904, 2129117416, 2129117928, 2129118440, 2129118952, 2129119464, 2129119976, 2129120488, 2129121000,
   2129121512, 2129122024, 2129122536, 2129123048, 2129123560, 2129124072, 2129124584, 2129125096, 2129125608,
   2129126120, 2129126632, 2129127144, 2129127656, 2129128168, 2129128680, 2129129192, 2129129704, 2129130216,
   2129130728, 2129131240, 2129131752, 2129132264, 2129132776, 2129133288, 2129133801, 2129134313, 2129134825,
   2129135337, 2129135849, 2129136361, 2129136873, 2129137385, 2129137897, 2129138409, 2129138921, 2129139433,
   2129139945, 2129140457, 2129140969, 2129141481, 2129141993, 2129142505, 2129143017, 2129143529, 2129144041,
   2129144553, 2129145065, 2129145577, 2129146089, 2129146601, 2129147113, 2129147625, 2129148137, 2129148649,
   2129149161, 2129149673, 2129150185, 2129150697, 2129151209, 2129151721, 2129152233, 2129152745, 2129153257,
   2129153769, 2129154281, 2129154793, 2129155305, 2129155817, 2129156329, 2129156841, 2129157353, 2129157865,
   2129158377, 2129158889, 2129159401, 2129159913, 2129160425, 2129160937, 2129161449, 2129161961, 2129162473,
   2129162985, 2129163497, 2129164009, 2129164521, 2129165033, 2129165545, 2129166057, 2129166569, 2129167081,
   2129167593, 2129168105, 2129168617, 2129169129, 2129169641, 2129170153, 2129170665, 2129171177, 2129171689,
   2129172201, 2129172713, 2129173225, 2129173737, 2129174249, 2129174761, 2129175273, 2129175785, 2129176297,
   2129176809, 2129177321, 2129177833, 2129178345, 2129178857, 2129179369, 2129179881, 2129180393, 2129180905,
   2129181417, 2129181929, 2129182441, 2129182953, 2129183465, 2129183977, 2129184489, 2129185001, 2129185513,
   2129186025, 2129186537, 2129187049, 2129187561, 2129188073, 2129188585, 2129189097, 2129189609, 2129190121,
   2129190633, 2129191145, 2129191657, 2129192169, 2129192681, 2129193193, 2129193705, 2129194217, 2129194729,
   2129195241, 2129195753, 2129196265, 2129196777, 2129197289, 2129197801, 2129198313, 2129198825, 2129199338,
   2129199850, 2129200362, 2129200874, 2129201386, 2129201898, 2129202410, 2129202922, 2129203434, 2129203946,
   2129204458, 2129204970, 2129205482, 2129205994, 2129206506, 2129207018, 2129207530, 2129208042, 2129208554,
   2129209066, 2129209578, 2129210090, 2129210602, 2129211114, 2129211626, 2129212138, 2129212650, 2129213162,
   2129213674, 2129214186, 2129214698, 2129215210, 2129215722, 2129216234, 2129216746, 2129217258, 2129217770,
   2129218282, 2129218794, 2129219306, 2129219818, 2129220330, 2129220842, 2129221354, 2129221866, 2129222378,
   2129222890, 2129223402, 2129223914, 2129224426, 2129224938, 2129225450, 2129225962, 2129226474, 2129226986,
   2129227498, 2129228010, 2129228522, 2129229034, 2129229546, 2129230058, 2129230570, 2129231082, 2129231594,
   2129232106, 2129232618, 2129233130, 2129233642, 2129234154, 2129234666, 2129235178, 2129235690, 2129236202,
   2129236714, 2129237226, 2129237738, 2129238250, 2129238762, 2129239274, 2129239786, 2129240298, 2129240810,
   2129241322, 2129241834, 2129242346, 2129242858, 2129243370, 2129243882, 2129244394, 2129244906, 2129245418,
   2129245930, 2129246442, 2129246954, 2129247466, 2129247978, 2129248490, 2129249002, 2129249514, 2129250026,
   2129250538, 2129251050, 2129251562, 2129252074, 2129252586, 2129253098, 2129253610, 2129254122, 2129254634,
   2129255146, 2129255658, 2129256170, 2129256682, 2129257194, 2129257706, 2129258218, 2129258730, 2129259242,
   2129259754, 2129260266, 2129260778, 2129261290, 2129261802, 2129262314, 2129262826, 2129263338, 2129263850,
   2129264362, 2129264875, 2129265387, 2129265899, 2129266411, 2129266923, 2129267435, 2129267947, 2129268459,
   2129268971, 2129269483, 2129269995, 2129270507, 2129271019, 2129271531, 2129272043, 2129272555, 2129273067,
   2129273579, 2129274091, 2129274603, 2129275115, 2129275627, 2129276139, 2129276651, 2129277163, 2129277675,
   2129278187, 2129278699, 2129279211, 2129279723, 2129280235, 2129280747, 2129281259, 2129281771, 2129282283,
   2129282795, 2129283307, 2129283819, 2129284331, 2129284843, 2129285355, 2129285867, 2129286379, 2129286891,
   2129287403, 2129287915, 2129288427, 2129288939, 2129289451, 2129289963, 2129290475, 2129290987, 2129291499,
   2129292011, 2129292523, 2129293035, 2129293547, 2129294059, 2129294571, 2129295083, 2129295595, 2129296107,
   2129296619, 2129297131, 2129297643, 2129298155, 2129298667, 2129299179, 2129299691, 2129300203, 2129300715,
   2129301227, 2129301739, 2129302251, 2129302763, 2129303275, 2129303787, 2129304299, 2129304811, 2129305323,
   2129305835, 2129306347, 2129306859, 2129307371, 2129307883, 2129308395, 2129308907, 2129309419, 2129309931,
   2129310443, 2129310955, 2129311467, 2129311979, 2129312491, 2129313003, 2129313515, 2129314027, 2129314539,
   2129315051, 2129315563, 2129316075, 2129316587, 2129317099, 2129317611, 2129318123, 2129318635, 2129319147,
   2129319659, 2129320171, 2129320683, 2129321195, 2129321707, 2129322219, 2129322731, 2129323243, 2129323755,
   2129324267, 2129324779, 2129325291, 2129325803, 2129326315, 2129326827, 2129327339, 2129327851, 2129328363,
   2129328875, 2129329387, 2129329899, 2129330412, 2129330924, 2129331436, 2129331948, 2129332460, 2129332972,
   2129333484, 2129333996, 2129334508, 2129335020, 2129335532, 2129336044, 2129336556, 2129337068, 2129337580,
   2129338092, 2129338604, 2129339116, 2129339628, 2129340140, 2129340652, 2129341164, 2129341676, 2129342188,
   2129342700, 2129343212, 2129343724, 2129344236, 2129344748, 2129345260, 2129345772, 2129346284, 2129346796,
   2129347308, 2129347820, 2129348332, 2129348844, 2129349356, 2129349868, 2129350380, 2129350892, 2129351404,
   2129351916, 2129352428, 2129352940, 2129353452, 2129353964, 2129354476, 2129354988, 2129355500, 2129356012,
   2129356524, 2129357036, 2129357548, 2129358060, 2129358572, 2129359084, 2129359596, 2129360108, 2129360620,
   2129361132, 2129361644, 2129362156, 2129362668, 2129363180, 2129363692, 2129364204, 2129364716, 2129365228,
   2129365740, 2129366252, 2129366764, 2129367276, 2129367788, 2129368300, 2129368812, 2129369324, 2129369836,
   2129370348, 2129370860, 2129371372, 2129371884, 2129372396, 2129372908, 2129373420, 2129373932, 2129374444,
   2129374956, 2129375468, 2129375980, 2129376492, 2129377004, 2129377516, 2129378028, 2129378540, 2129379052,
   2129379564, 2129380076, 2129380588, 2129381100, 2129381612, 2129382124, 2129382636, 2129383148, 2129383660,
   2129384172, 2129384684, 2129385196, 2129385708, 2129386220, 2129386732, 2129387244, 2129387756, 2129388268,
   2129388780, 2129389292, 2129389804, 2129390316, 2129390828, 2129391340, 2129391852, 2129392364, 2129392876,
   2129393388, 2129393900, 2129394412, 2129394924, 2129395436, 2129395949, 2129396461, 2129396973, 2129397485,
   2129397997, 2129398509, 2129399021, 2129399533, 2129400045, 2129400557, 2129401069, 2129401581, 2129402093,
   2129402605, 2129403117, 2129403629, 2129404141, 2129404653, 2129405165, 2129405677, 2129406189, 2129406701,
   2129407213, 2129407725, 2129408237, 2129408749, 2129409261, 2129409773, 2129410285, 2129410797, 2129411309,
   2129411821, 2129412333, 2129412845, 2129413357, 2129413869, 2129414381, 2129414893, 2129415405, 2129415917,
   2129416429, 2129416941, 2129417453, 2129417965, 2129418477, 2129418989, 2129419501, 2129420013, 2129420525,
   2129421037, 2129421549, 2129422061, 2129422573, 2129423085, 2129423597, 2129424109, 2129424621, 2129425133,
   2129425645, 2129426157, 2129426669, 2129427181, 2129427693, 2129428205, 2129428717, 2129429229, 2129429741,
   2129430253, 2129430765, 2129431277, 2129431789, 2129432301, 2129432813, 2129433325, 2129433837, 2129434349,
   2129434861, 2129435373, 2129435885, 2129436397, 2129436909, 2129437421, 2129437933, 2129438445, 2129438957,
   2129439469, 2129439981, 2129440493, 2129441005, 2129441517, 2129442029, 2129442541, 2129443053, 2129443565,
   2129444077, 2129444589, 2129445101, 2129445613, 2129446125, 2129446637, 2129447149, 2129447661, 2129448173,
   2129448685, 2129449197, 2129449709, 2129450221, 2129450733, 2129451245, 2129451757, 2129452269, 2129452781,
   2129453293, 2129453805, 2129454317, 2129454829, 2129455341, 2129455853, 2129456365, 2129456877, 2129457389,
   2129457901, 2129458413, 2129458925, 2129459437, 2129459949, 2129460461, 2129460973, 2129461486, 2129461998,
   2129462510, 2129463022, 2129463534, 2129464046, 2129464558, 2129465070, 2129465582, 2129466094, 2129466606,
   2129467118, 2129467630, 2129468142, 2129468654, 2129469166, 2129469678, 2129470190, 2129470702, 2129471214,
   2129471726, 2129472238, 2129472750, 2129473262, 2129473774, 2129474286, 2129474798, 2129475310, 2129475822,
   2129476334, 2129476846, 2129477358, 2129477870, 2129478382, 2129478894, 2129479406, 2129479918, 2129480430,
   2129480942, 2129481454, 2129481966, 2129482478, 2129482990, 2129483502, 2129484014, 2129484526, 2129485038,
   2129485550, 2129486062, 2129486574, 2129487086, 2129487598, 2129488110, 2129488622, 2129489134, 2129489646,
   2129490158, 2129490670, 2129491182, 2129491694, 2129492206, 2129492718, 2129493230, 2129493742, 2129494254,
   2129494766, 2129495278, 2129495790, 2129496302, 2129496814, 2129497326, 2129497838, 2129498350, 2129498862,
   2129499374, 2129499886, 2129500398, 2129500910, 2129501422, 2129501934, 2129502446, 2129502958, 2129503470,
   2129503982, 2129504494, 2129505006, 2129505518, 2129506030, 2129506542, 2129507054, 2129507566, 2129508078,
   2129508590, 2129509102, 2129509614, 2129510126, 2129510638, 2129511150, 2129511662, 2129512174, 2129512686,
   2129513198, 2129513710, 2129514222, 2129514734, 2129515246, 2129515758, 2129516270, 2129516782, 2129517294,
   2129517806, 2129518318, 2129518830, 2129519342, 2129519854, 2129520366, 2129520878, 2129521390, 2129521902,
   2129522414, 2129522926, 2129523438, 2129523950, 2129524462, 2129524974, 2129525486, 2129525998, 2129526510,
   2129527023, 2129527535, 2129528047, 2129528559, 2129529071, 2129529583, 2129530095, 2129530607, 2129531119,
   2129531631, 2129532143, 2129532655, 2129533167, 2129533679, 2129534191, 2129534703, 2129535215, 2129535727,
   2129536239, 2129536751, 2129537263, 2129537775, 2129538287, 2129538799, 2129539311, 2129539823, 2129540335,
   2129540847, 2129541359, 2129541871, 2129542383, 2129542895, 2129543407, 2129543919, 2129544431, 2129544943,
   2129545455, 2129545967, 2129546479, 2129546991, 2129547503, 2129548015, 2129548527, 2129549039, 2129549551,
   2129550063, 2129550575, 2129551087, 2129551599, 2129552111, 2129552623, 2129553135, 2129553647, 2129554159,
   2129554671, 2129555183, 2129555695, 2129556207, 2129556719, 2129557231, 2129557743, 2129558255, 2129558767,
   2129559279, 2129559791, 2129560303, 2129560815, 2129561327, 2129561839, 2129562351, 2129562863, 2129563375,
   2129563887, 2129564399, 2129564911, 2129565423, 2129565935, 2129566447, 2129566959, 2129567471, 2129567983,
   2129568495, 2129569007, 2129569519, 2129570031, 2129570543, 2129571055, 2129571567, 2129572079, 2129572591,
   2129573103, 2129573615, 2129574127, 2129574639, 2129575151, 2129575663, 2129576175, 2129576687, 2129577199,
   2129577711, 2129578223, 2129578735, 2129579247, 2129579759, 2129580271, 2129580783, 2129581295, 2129581807,
   2129582319, 2129582831, 2129583343, 2129583855, 2129584367, 2129584879, 2129585391, 2129585903, 2129586415,
   2129586927, 2129587439, 2129587951, 2129588463, 2129588975, 2129589487, 2129589999, 2129590511, 2129591023,
   2129591535, 2129592047, 2129592560, 2129593072, 2129593584, 2129594096, 2129594608, 2129595120, 2129595632,
   2129596144, 2129596656, 2129597168, 2129597680, 2129598192, 2129598704, 2129599216, 2129599728, 2129600240,
   2129600752, 2129601264, 2129601776, 2129602288, 2129602800, 2129603312, 2129603824, 2129604336, 2129604848,
   2129605360, 2129605872, 2129606384, 2129606896, 2129607408, 2129607920, 2129608432, 2129608944, 2129609456,
   2129609968, 2129610480, 2129610992, 2129611504, 2129612016, 2129612528, 2129613040, 2129613552, 2129614064,
   2129614576, 2129615088, 2129615600, 2129616112, 2129616624, 2129617136, 2129617648, 2129618160, 2129618672,
   2129619184, 2129619696, 2129620208, 2129620720, 2129621232, 2129621744, 2129622256, 2129622768, 2129623280,
   2129623792, 2129624304, 2129624816, 2129625328, 2129625840, 2129626352, 2129626864, 2129627376, 2129627888,
   2129628400, 2129628912, 2129629424, 2129629936, 2129630448, 2129630960, 2129631472, 2129631984, 2129632496,
   2129633008, 2129633520, 2129634032, 2129634544, 2129635056, 2129635568, 2129636080, 2129636592, 2129637104,
   2129637616, 2129638128, 2129638640, 2129639152, 2129639664, 2129640176, 2129640688, 2129641200, 2129641712,
   2129642224, 2129642736, 2129643248, 2129643760, 2129644272, 2129644784, 2129645296, 2129645808, 2129646320,
   2129646832, 2129647344, 2129647856, 2129648368, 2129648880, 2129649392, 2129649904, 2129650416, 2129650928,
   2129651440, 2129651952, 2129652464, 2129652976, 2129653488, 2129654000, 2129654512, 2129655024, 2129655536,
   2129656048, 2129656560, 2129657072, 2129657584, 2129658097]
theorem c30_ok :
    chkList (pipeF 1199570688 65535) 65535 2139095040 61441 1064304753 30721 c30
      63489 1064829049 31745 = true := by decide +kernel
theorem c30_len : 61441 + c30.length = 63489 := (chkList_end c30_ok).1
theorem c30_last : lastS 1064304753 c30 = 1064829049 := (chkList_end c30_ok).2.1

@[irreducible] def c31 : List Nat :=
  [2129658609, 2129659121, 2129659633, 2129660145, 2129660657, 2129661169, 2129661681, 2129662193, 2129662705,
   2129663217, 2129663729, 2129664241, 2129664753, 2129665265, 2129665777, 2129666289, 2129666801, 2129667313,
   2129667825, 2129668337, 2129668849, 2129669361, 2129669873, 2129670385, 2129670897, 2129671409, 2129671921,
   2129672433, 2129672945, 2129673457, 2129673969, 2129674481, 2129674993, 2129675505, 2129676017, 2129676529,
   2129677041, 2129677553, 2129678065, 2129678577, 2129679089, 2129679601, 2129680113, 2129680625, 2129681137,
   2129681649, 2129682161, 2129682673, 2129683185, 2129683697, 2129684209, 2129684721, 2129685233, 2129685745,
   2129686257, 2129686769, 2129687281, 2129687793, 2129688305, 2129688817, 2129689329, 2129689841, 2129690353,
   2129690865, 2129691377, 2129691889, 2129692401, 2129692913, 2129693425, 2129693937, 2129694449, 2129694961,
   2129695473, 2129695985, 2129696497, 2129697009, 2129697521, 2129698033, 2129698545, 2129699057, 2129699569,
   2129700081, 2129700593, 2129701105, 2129701617, 2129702129, 2129702641, 2129703153, 2129703665, 2129704177,
   2129704689, 2129705201, 2129705713, 2129706225, 2129706737, 2129707249, 2129707761, 2129708273, 2129708785,
   2129709297, 2129709809, 2129710321, 2129710833, 2129711345, 2129711857, 2129712369, 2129712881, 2129713393,
   2129713905, 2129714417, 2129714929, 2129715441, 2129715953, 2129716465, 2129716977, 2129717489, 2129718001,
   2129718513, 2129719025, 2129719537, 2129720049, 2129720561, 2129721073, 2129721585, 2129722097, 2129722609,
   2129723121, 2129723634, 2129724146, 2129724658, 2129725170, 2129725682, 2129726194, 2129726706, 2129727218,
   2129727730, 2129728242, 2129728754, 2129729266, 2129729778, 2129730290, 2129730802, 2129731314, 2129731826,
   2129732338, 2129732850, 2129733362, 2129733874, 2129734386, 2129734898, 2129735410, 2129735922, 2129736434,
   2129736946, 2129737458, 2129737970, 2129738482, 2129738994, 2129739506, 2129740018, 2129740530, 2129741042,
   2129741554, 2129742066, 2129742578, 2129743090, 2129743602, 2129744114, 2129744626, 2129745138, 2129745650,
   2129746162, 2129746674, 2129747186, 2129747698, 2129748210, 2129748722, 2129749234, 2129749746, 2129750258,
   2129750770, 2129751282, 2129751794, 2129752306, 2129752818, 2129753330, 2129753842, 2129754354, 2129754866,
   2129755378, 2129755890, 2129756402, 2129756914, 2129757426, 2129757938, 2129758450, 2129758962, 2129759474,
   2129759986, 2129760498, 2129761010, 2129761522, 2129762034, 2129762546, 2129763058, 2129763570, 2129764082,
   2129764594, 2129765106, 2129765618, 2129766130, 2129766642, 2129767154, 2129767666, 2129768178, 2129768690,
   2129769202, 2129769714, 2129770226, 2129770738, 2129771250, 2129771762, 2129772274, 2129772786, 2129773298,
   2129773810, 2129774322, 2129774834, 2129775346, 2129775858, 2129776370, 2129776882, 2129777394, 2129777906,
   2129778418, 2129778930, 2129779442, 2129779954, 2129780466, 2129780978, 2129781490, 2129782002, 2129782514,
   2129783026, 2129783538, 2129784050, 2129784562, 2129785074, 2129785586, 2129786098, 2129786610, 2129787122,
   2129787634, 2129788146, 2129788658, 2129789171, 2129789683, 2129790195, 2129790707, 2129791219, 2129791731,
   2129792243, 2129792755, 2129793267, 2129793779, 2129794291, 2129794803, 2129795315, 2129795827, 2129796339,
   2129796851, 2129797363, 2129797875, 2129798387, 2129798899, 2129799411, 2129799923, 2129800435, 2129800947,
   2129801459, 2129801971, 2129802483, 2129802995, 2129803507, 2129804019, 2129804531, 2129805043, 2129805555,
   2129806067, 2129806579, 2129807091, 2129807603, 2129808115, 2129808627, 2129809139, 2129809651, 2129810163,
   2129810675, 2129811187, 2129811699, 2129812211, 2129812723, 2129813235, 2129813747, 2129814259, 2129814771,
   2129815283, 2129815795, 2129816307, 2129816819, 2129817331, 2129817843, 2129818355, 2129818867, 2129819379,
   2129819891, 2129820403, 2129820915, 2129821427, 2129821939, 2129822451, 2129822963, 2129823475, 2129823987,
   2129824499, 2129825011, 2129825523, 2129826035, 2129826547, 2129827059, 2129827571, 2129828083, 2129828595,
   2129829107, 2129829619, 2129830131, 2129830643, 2129831155, 2129831667, 2129832179, 2129832691, 2129833203,
   2129833715, 2129834227, 2129834739, 2129835251, 2129835763, 2129836275, 2129836787, 2129837299, 2129837811,
   2129838323, 2129838835, 2129839347, 2129839859, 2129840371, 2129840883, 2129841395, 2129841907, 2129842419,
   2129842931, 2129843443, 2129843955, 2129844467, 2129844979, 2129845491, 2129846003, 2129846515, 2129847027,
   2129847539, 2129848051, 2129848563, 2129849075, 2129849587, 2129850099, 2129850611, 2129851123, 2129851635,
   2129852147, 2129852659, 2129853171, 2129853683, 2129854195, 2129854708, 2129855220, 2129855732, 2129856244,
   2129856756, 2129857268, 2129857780, 2129858292, 2129858804, 2129859316, 2129859828, 2129860340, 2129860852,
   2129861364, 2129861876, 2129862388, 2129862900, 2129863412, 2129863924, 2129864436, 2129864948, 2129865460,
   2129865972, 2129866484, 2129866996, 2129867508, 2129868020, 2129868532, 2129869044, 2129869556, 2129870068,
   2129870580, 2129871092, 2129871604, 2129872116, 2129872628, 2129873140, 2129873652, 2129874164, 2129874676,
   2129875188, 2129875700, 2129876212, 2129876724, 2129877236, 2129877748, 2129878260, 2129878772, 2129879284,
   2129879796, 2129880308, 2129880820, 2129881332, 2129881844, 2129882356, 2129882868, 2129883380, 2129883892,
   2129884404, 2129884916, 2129885428, 2129885940, 2129886452, 2129886964, 2129887476, 2129887988, 2129888500,
   2129889012, 2129889524, 2129890036, 2129890548, 2129891060, 2129891572, 2129892084, 2129892596, 2129893108,
   2129893620, 2129894132, 2129894644, 2129895156, 2129895668, 2129896180, 2129896692, 2129897204, 2129897716,
   2129898228, 2129898740, 2129899252, 2129899764, 2129900276, 2129900788, 2129901300, 2129901812, 2129902324,
   2129902836, 2129903348, 2129903860, 2129904372, 2129904884, 2129905396, 2129905908, 2129906420, 2129906932,
   2129907444, 2129907956, 2129908468, 2129908980, 2129909492, 2129910004, 2129910516, 2129911028, 2129911540,
   2129912052, 2129912564, 2129913076, 2129913588, 2129914100, 2129914612, 2129915124, 2129915636, 2129916148,
   2129916660, 2129917172, 2129917684, 2129918196, 2129918708, 2129919220, 2129919732, 2129920245, 2129920757,
   2129921269, 2129921781, 2129922293, 2129922805, 2129923317, 2129923829, 2129924341, 2129924853, 2129925365,
   2129925877, 2129926389, 2129926901, 2129927413, 2129927925, 2129928437, 2129928949, 2129929461, 2129929973,
   2129930485, 2129930997, 2129931509, 2129932021, 2129932533, 2129933045, 2129933557, 2129934069, 2129934581,
   2129935093, 2129935605, 2129936117, 2129936629, 2129937141, 2129937653, 2129938165, 2129938677, 2129939189,
   2129939701, 2129940213, 2129940725, 2129941237, 2129941749, 2129942261, 2129942773, 2129943285, 2129943797,
   2129944309, 2129944821, 2129945333, 2129945845, 2129946357, 2129946869, 2129947381, 2129947893, 2129948405,
   2129948917, 2129949429, 2129949941, 2129950453, 2129950965, 2129951477, 2129951989, 2129952501, 2129953013,
   2129953525, 2129954037, 2129954549, 2129955061, 2129955573, 2129956085, 2129956597, 2129957109, 2129957621,
   2129958133, 2129958645, 2129959157, 2129959669, 2129960181, 2129960693, 2129961205, 2129961717, 2129962229,
   2129962741, 2129963253, 2129963765, 2129964277, 2129964789, 2129965301, 2129965813, 2129966325, 2129966837,
   2129967349, 2129967861, 2129968373, 2129968885, 2129969397, 2129969909, 2129970421, 2129970933, 2129971445,
   2129971957, 2129972469, 2129972981, 2129973493, 2129974005, 2129974517, 2129975029, 2129975541, 2129976053,
   2129976565, 2129977077, 2129977589, 2129978101, 2129978613, 2129979125, 2129979637, 2129980149, 2129980661,
   2129981173, 2129981685, 2129982197, 2129982709, 2129983221, 2129983733, 2129984245, 2129984757, 2129985269,
   2129985782, 2129986294, 2129986806, 2129987318, 2129987830, 2129988342, 2129988854, 2129989366, 2129989878,
   2129990390, 2129990902, 2129991414, 2129991926, 2129992438, 2129992950, 2129993462, 2129993974, 2129994486,
   2129994998, 2129995510, 2129996022, 2129996534, 2129997046, 2129997558, 2129998070, 2129998582, 2129999094,
   2129999606, 2130000118, 2130000630, 2130001142, 2130001654, 2130002166, 2130002678, 2130003190, 2130003702,
   2130004214, 2130004726, 2130005238, 2130005750, 2130006262, 2130006774, 2130007286, 2130007798, 2130008310,
   2130008822, 2130009334, 2130009846, 2130010358, 2130010870, 2130011382, 2130011894, 2130012406, 2130012918,
   2130013430, 2130013942, 2130014454, 2130014966, 2130015478, 2130015990, 2130016502, 2130017014, 2130017526,
   2130018038, 2130018550, 2130019062, 2130019574, 2130020086, 2130020598, 2130021110, 2130021622, 2130022134,
   2130022646, 2130023158, 2130023670, 2130024182, 2130024694, 2130025206, 2130025718, 2130026230, 2130026742,
   2130027254, 2130027766, 2130028278, 2130028790, 2130029302, 2130029814, 2130030326, 2130030838, 2130031350,
   2130031862, 2130032374, 2130032886, 2130033398, 2130033910, 2130034422, 2130034934, 2130035446, 2130035958,
   2130036470, 2130036982, 2130037494, 2130038006, 2130038518, 2130039030, 2130039542, 2130040054, 2130040566,
   2130041078, 2130041590, 2130042102, 2130042614, 2130043126, 2130043638, 2130044150, 2130044662, 2130045174,
   2130045686, 2130046198, 2130046710, 2130047222, 2130047734, 2130048246, 2130048758, 2130049270, 2130049782,
   2130050294, 2130050806, 2130051319, 2130051831, 2130052343, 2130052855, 2130053367, 2130053879, 2130054391,
   2130054903, 2130055415, 2130055927, 2130056439, 2130056951, 2130057463, 2130057975, 2130058487, 2130058999,
   2130059511, 2130060023, 2130060535, 2130061047, 2130061559, 2130062071, 2130062583, 2130063095, 2130063607,
   2130064119, 2130064631, 2130065143, 2130065655, 2130066167, 2130066679, 2130067191, 2130067703, 2130068215,
   2130068727, 2130069239, 2130069751, 2130070263, 2130070775, 2130071287, 2130071799, 2130072311, 2130072823,
   2130073335, 2130073847, 2130074359, 2130074871, 2130075383, 2130075895, 2130076407, 2130076919, 2130077431,
   2130077943, 2130078455, 2130078967, 2130079479, 2130079991, 2130080503, 2130081015, 2130081527, 2130082039,
   2130082551, 2130083063, 2130083575, 2130084087, 2130084599, 2130085111, 2130085623, 2130086135, 2130086647,
   2130087159, 2130087671, 2130088183, 2130088695, 2130089207, 2130089719, 2130090231, 2130090743, 2130091255,
   2130091767, 2130092279, 2130092791, 2130093303, 2130093815, 2130094327, 2130094839, 2130095351, 2130095863,
   2130096375, 2130096887, 2130097399, 2130097911, 2130098423, 2130098935, 2130099447, 2130099959, 2130100471,
   2130100983, 2130101495, 2130102007, 2130102519, 2130103031, 2130103543, 2130104055, 2130104567, 2130105079,
   2130105591, 2130106103, 2130106615, 2130107127, 2130107639, 2130108151, 2130108663, 2130109175, 2130109687,
   2130110199, 2130110711, 2130111223, 2130111735, 2130112247, 2130112759, 2130113271, 2130113783, 2130114295,
   2130114807, 2130115319, 2130115831, 2130116343, 2130116856, 2130117368, 2130117880, 2130118392, 2130118904,
   2130119416, 2130119928, 2130120440, 2130120952, 2130121464, 2130121976, 2130122488, 2130123000, 2130123512,
   2130124024, 2130124536, 2130125048, 2130125560, 2130126072, 2130126584, 2130127096, 2130127608, 2130128120,
   2130128632, 2130129144, 2130129656, 2130130168, 2130130680, 2130131192, 2130131704, 2130132216, 2130132728,
   2130133240, 2130133752, 2130134264, 2130134776, 2130135288, 2130135800, 2130136312, 2130136824, 2130137336,
   2130137848, 2130138360, 2130138872, 2130139384, 2130139896, 2130140408, 2130140920, 2130141432, 2130141944,
   2130142456, 2130142968, 2130143480, 2130143992, 2130144504, 2130145016, 2130145528, 2130146040, 2130146552,
   2130147064, 2130147576, 2130148088, 2130148600, 2130149112, 2130149624, 2130150136, 2130150648, 2130151160,
   2130151672, 2130152184, 2130152696, 2130153208, 2130153720, 2130154232, 2130154744, 2130155256, 2130155768,
   2130156280, 2130156792, 2130157304, 2130157816, 2130158328, 2130158840, 2130159352, 2130159864, 2130160376,
   2130160888, 2130161400, 2130161912, 2130162424, 2130162936, 2130163448, 2130163960, 2130164472, 2130164984,
   2130165496, 2130166008, 2130166520, 2130167032, 2130167544, 2130168056, 2130168568, 2130169080, 2130169592,
   2130170104, 2130170616, 2130171128, 2130171640, 2130172152, 2130172664, 2130173176, 2130173688, 2130174200,
   2130174712, 2130175224, 2130175736, 2130176248, 2130176760, 2130177272, 2130177784, 2130178296, 2130178808,
   2130179320, 2130179832, 2130180344, 2130180856, 2130181368, 2130181880, 2130182393, 2130182905, 2130183417,
   2130183929, 2130184441, 2130184953, 2130185465, 2130185977, 2130186489, 2130187001, 2130187513, 2130188025,
   2130188537, 2130189049, 2130189561, 2130190073, 2130190585, 2130191097, 2130191609, 2130192121, 2130192633,
   2130193145, 2130193657, 2130194169, 2130194681, 2130195193, 2130195705, 2130196217, 2130196729, 2130197241,
   2130197753, 2130198265, 2130198777, 2130199289, 2130199801, 2130200313, 2130200825, 2130201337, 2130201849,
   2130202361, 2130202873, 2130203385, 2130203897, 2130204409, 2130204921, 2130205433, 2130205945, 2130206457,
   2130206969, 2130207481, 2130207993, 2130208505, 2130209017, 2130209529, 2130210041, 2130210553, 2130211065,
   2130211577, 2130212089, 2130212601, 2130213113, 2130213625, 2130214137, 2130214649, 2130215161, 2130215673,
   2130216185, 2130216697, 2130217209, 2130217721, 2130218233, 2130218745, 2130219257, 2130219769, 2130220281,
   2130220793, 2130221305, 2130221817, 2130222329, 2130222841, 2130223353, 2130223865, 2130224377, 2130224889,
   2130225401, 2130225913, 2130226425, 2130226937, 2130227449, 2130227961, 2130228473, 2130228985, 2130229497,
   2130230009, 2130230521, 2130231033, 2130231545, 2130232057, 2130232569, 2130233081, 2130233593, 2130234105,
   2130234617, 2130235129, 2130235641, 2130236153, 2130236665, 2130237177, 2130237689, 2130238201, 2130238713,
   2130239225, 2130239737, 2130240249, 2130240761, 2130241273, 2130241785, 2130242297, 2130242809, 2130243321,
   2130243833, 2130244345, 2130244857, 2130245369, 2130245881, 2130246393, 2130246905, 2130247417, 2130247930,
   2130248442, 2130248954, 2130249466, 2130249978, 2130250490, 2130251002, 2130251514, 2130252026, 2130252538,
   2130253050, 2130253562, 2130254074, 2130254586, 2130255098, 2130255610, 2130256122, 2130256634, 2130257146,
   2130257658, 2130258170, 2130258682, 2130259194, 2130259706, 2130260218, 2130260730, 2130261242, 2130261754,
   2130262266, 2130262778, 2130263290, 2130263802, 2130264314, 2130264826, 2130265338, 2130265850, 2130266362,
   2130266874, 2130267386, 2130267898, 2130268410, 2130268922, 2130269434, 2130269946, 2130270458, 2130270970,
   2130271482, 2130271994, 2130272506, 2130273018, 2130273530, 2130274042, 2130274554, 2130275066, 2130275578,
   2130276090, 2130276602, 2130277114, 2130277626, 2130278138, 2130278650, 2130279162, 2130279674, 2130280186,
   2130280698, 2130281210, 2130281722, 2130282234, 2130282746, 2130283258, 2130283770, 2130284282, 2130284794,
   2130285306, 2130285818, 2130286330, 2130286842, 2130287354, 2130287866, 2130288378, 2130288890, 2130289402,
   2130289914, 2130290426, 2130290938, 2130291450, 2130291962, 2130292474, 2130292986, 2130293498, 2130294010,
   2130294522, 2130295034, 2130295546, 2130296058, 2130296570, 2130297082, 2130297594, 2130298106, 2130298618,
   2130299130, 2130299642, 2130300154, 2130300666, 2130301178, 2130301690, 2130302202, 2130302714, 2130303226,
   2130303738, 2130304250, 2130304762, 2130305274, 2130305786, 2130306298, 2130306810, 2130307322, 2130307834,
   2130308346, 2130308858, 2130309370, 2130309882, 2130310394, 2130310906, 2130311418, 2130311930, 2130312442,
   2130312954, 2130313467, 2130313979, 2130314491, 2130315003, 2130315515, 2130316027, 2130316539, 2130317051,
   2130317563, 2130318075, 2130318587, 2130319099, 2130319611, 2130320123, 2130320635, 2130321147, 2130321659,
   2130322171, 2130322683, 2130323195, 2130323707, 2130324219, 2130324731, 2130325243, 2130325755, 2130326267,
   2130326779, 2130327291, 2130327803, 2130328315, 2130328827, 2130329339, 2130329851, 2130330363, 2130330875,
   2130331387, 2130331899, 2130332411, 2130332923, 2130333435, 2130333947, 2130334459, 2130334971, 2130335483,
   2130335995, 2130336507, 2130337019, 2130337531, 2130338043, 2130338555, 2130339067, 2130339579, 2130340091,
   2130340603, 2130341115, 2130341627, 2130342139, 2130342651, 2130343163, 2130343675, 2130344187, 2130344699,
   2130345211, 2130345723, 2130346235, 2130346747, 2130347259, 2130347771, 2130348283, 2130348795, 2130349307,
   2130349819, 2130350331, 2130350843, 2130351355, 2130351867, 2130352379, 2130352891, 2130353403, 2130353915,
   2130354427, 2130354939, 2130355451, 2130355963, 2130356475, 2130356987, 2130357499, 2130358011, 2130358523,
   2130359035, 2130359547, 2130360059, 2130360571, 2130361083, 2130361595, 2130362107, 2130362619, 2130363131,
   2130363643, 2130364155, 2130364667, 2130365179, 2130365691, 2130366203, 2130366715, 2130367227, 2130367739,
   2130368251, 2130368763, 2130369275, 2130369787, 2130370299, 2130370811, 2130371323, 2130371835, 2130372347,
   2130372859, 2130373371, 2130373883, 2130374395, 2130374907, 2130375419, 2130375931, 2130376443, 2130376955,
   2130377467, 2130377979, 2130378491, 2130379004, 2130379516, 2130380028, 2130380540, 2130381052, 2130381564,
   2130382076, 2130382588, 2130383100, 2130383612, 2130384124, 2130384636, 2130385148, 2130385660, 2130386172,
   2130386684, 2130387196, 2130387708, 2130388220, 2130388732, 2130389244, 2130389756, 2130390268, 2130390780,
   2130391292, 2130391804, 2130392316, 2130392828, 2130393340, 2130393852, 2130394364, 2130394876, 2130395388,
   2130395900, 2130396412, 2130396924, 2130397436, 2130397948, 2130398460, 2130398972, 2130399484, 2130399996,
   2130400508, 2130401020, 2130401532, 2130402044, 2130402556, 2130403068, 2130403580, 2130404092, 2130404604,
   2130405116, 2130405628, 2130406140, 2130406652, 2130407164, 2130407676, 2130408188, 2130408700, 2130409212,
   2130409724, 2130410236, 2130410748, 2130411260, 2130411772, 2130412284, 2130412796, 2130413308, 2130413820,
   2130414332, 2130414844, 2130415356, 2130415868, 2130416380, 2130416892, 2130417404, 2130417916, 2130418428,
   2130418940, 2130419452, 2130419964, 2130420476, 2130420988, 2130421500, 2130422012, 2130422524, 2130423036,
   2130423548, 2130424060, 2130424572, 2130425084, 2130425596, 2130426108, 2130426620, 2130427132, 2130427644,
   2130428156, 2130428668, 2130429180, 2130429692, 2130430204, 2130430716, 2130431228, 2130431740, 2130432252,
   2130432764, 2130433276, 2130433788, 2130434300, 2130434812, 2130435324, 2130435836, 2130436348, 2130436860,
   2130437372, 2130437884, 2130438396, 2130438908, 2130439420, 2130439932, 2130440444, 2130440956, 2130441468,
   2130441980, 2130442492, 2130443004, 2130443516, 2130444028, 2130444541, 2130445053, 2130445565, 2130446077,
   2130446589, 2130447101, 2130447613, 2130448125, 2130448637, 2130449149, 2130449661, 2130450173, 2130450685,
   2130451197, 2130451709, 2130452221, 2130452733, 2130453245, 2130453757, 2130454269, 2130454781, 2130455293,
   2130455805, 2130456317, 2130456829, 2130457341, 2130457853, 2130458365, 2130458877, 2130459389, 2130459901,
   2130460413, 2130460925, 2130461437, 2130461949, 2130462461, 2130462973, 2130463485, 2130463997, 2130464509,
   2130465021, 2130465533, 2130466045, 2130466557, 2130467069, 2130467581, 2130468093, 2130468605, 2130469117,
   2130469629, 2130470141, 2130470653, 2130471165, 2130471677, 2130472189, 2130472701, 2130473213, 2130473725,
   2130474237, 2130474749, 2130475261, 2130475773, 2130476285, 2130476797, 2130477309, 2130477821, 2130478333,
   2130478845, 2130479357, 2130479869, 2130480381, 2130480893, 2130481405, 2130481917, 2130482429, 2130482941,
   2130483453, 2130483965, 2130484477, 2130484989, 2130485501, 2130486013, 2130486525, 2130487037, 2130487549,
   2130488061, 2130488573, 2130489085, 2130489597, 2130490109, 2130490621, 2130491133, 2130491645, 2130492157,
   2130492669, 2130493181, 2130493693, 2130494205, 2130494717, 2130495229, 2130495741, 2130496253, 2130496765,
   2130497277, 2130497789, 2130498301, 2130498813, 2130499325, 2130499837, 2130500349, 2130500861, 2130501373,
   2130501885, 2130502397, 2130502909, 2130503421, 2130503933, 2130504445, 2130504957, 2130505469, 2130505981,
   2130506493, 2130507005, 2130507517, 2130508029, 2130508541, 2130509053, 2130509565, 2130510078, 2130510590,
   2130511102, 2130511614, 2130512126, 2130512638, 2130513150, 2130513662, 2130514174, 2130514686, 2130515198,
   2130515710, 2130516222, 2130516734, 2130517246, 2130517758, 2130518270, 2130518782, 2130519294, 2130519806,
   2130520318, 2130520830, 2130521342, 2130521854, 2130522366, 2130522878, 2130523390, 2130523902, 2130524414,
   2130524926, 2130525438, 2130525950, 2130526462, 2130526974, 2130527486, 2130527998, 2130528510, 2130529022,
   2130529534, 2130530046, 2130530558, 2130531070, 2130531582, 2130532094, 2130532606, 2130533118, 2130533630,
   2130534142, 2130534654, 2130535166, 2130535678, 2130536190, 2130536702, 2130537214, 2130537726, 2130538238,
   2130538750, 2130539262, 2130539774, 2130540286, 2130540798, 2130541310, 2130541822, 2130542334, 2130542846,
   2130543358, 2130543870, 2130544382, 2130544894, 2130545406, 2130545918, 2130546430, 2130546942, 2130547454,
   2130547966, 2130548478, 2130548990, 2130549502, 2130550014, 2130550526, 2130551038, 2130551550, 2130552062,
   2130552574, 2130553086, 2130553598, 2130554110, 2130554622, 2130555134, 2130555646, 2130556158, 2130556670,
   2130557182, 2130557694, 2130558206, 2130558718, 2130559230, 2130559742, 2130560254, 2130560766, 2130561278,
   2130561790, 2130562302, 2130562814, 2130563326, 2130563838, 2130564350, 2130564862, 2130565374, 2130565886,
   2130566398, 2130566910, 2130567422, 2130567934, 2130568446, 2130568958, 2130569470, 2130569982, 2130570494,
   2130571006, 2130571518, 2130572030, 2130572542, 2130573054, 2130573566, 2130574078, 2130574590, 2130575102,
   2130575615, 2130576127, 2130576639, 2130577151, 2130577663, 2130578175, 2130578687, 2130579199, 2130579711,
   2130580223, 2130580735, 2130581247, 2130581759, 2130582271, 2130582783, 2130583295, 2130583807, 2130584319,
   2130584831, 2130585343, 2130585855, 2130586367, 2130586879, 2130587391, 2130587903, 2130588415, 2130588927,
   2130589439, 2130589951, 2130590463, 2130590975, 2130591487, 2130591999, 2130592511, 2130593023, 2130593535,
   2130594047, 2130594559, 2130595071, 2130595583, 2130596095, 2130596607, 2130597119, 2130597631, 2130598143,
   2130598655, 2130599167, 2130599679, 2130600191, 2130600703, 2130601215, 2130601727, 2130602239, 2130602751,
   2130603263, 2130603775, 2130604287, 2130604799, 2130605311, 2130605823, 2130606335, 2130606847, 2130607359,
   2130607871, 2130608383, 2130608895, 2130609407, 2130609919, 2130610431, 2130610943, 2130611455, 2130611967,
   2130612479, 2130612991, 2130613503, 2130614015, 2130614527, 2130615039, 2130615551, 2130616063, 2130616575,
   2130617087, 2130617599, 2130618111, 2130618623, 2130619135, 2130619647, 2130620159, 2130620671, 2130621183,
   2130621695, 2130622207, 2130622719, 2130623231, 2130623743, 2130624255, 2130624767, 2130625279, 2130625791,
   2130626303, 2130626815, 2130627327, 2130627839, 2130628351, 2130628863, 2130629375, 2130629887, 2130630399,
   2130630911, 2130631423, 2130631935, 2130632447, 2130632959, 2130633471, 2130633983, 2130634495, 2130635007,
   2130635519, 2130636031, 2130636543, 2130637055, 2130637567, 2130638079, 2130638591, 2130639103, 2130639615,
   2130640127, 2130640639, 2130641152, 2130641664, 2130642176, 2130642688, 2130643200, 2130643712, 2130644224,
   2130644736, 2130645248, 2130645760, 2130646272, 2130646784, 2130647296, 2130647808, 2130648320, 2130648832,
   2130649344, 2130649856, 2130650368, 2130650880, 2130651392, 2130651904, 2130652416, 2130652928, 2130653440,
   2130653952, 2130654464, 2130654976, 2130655488, 2130656000, 2130656512, 2130657024, 2130657536, 2130658048,
   2130658560, 2130659072, 2130659584, 2130660096, 2130660608, 2130661120, 2130661632, 2130662144, 2130662656,
   2130663168, 2130663680, 2130664192, 2130664704, 2130665216, 2130665728, 2130666240, 2130666752, 2130667264,
   2130667776, 2130668288, 2130668800, 2130669312, 2130669824, 2130670336, 2130670848, 2130671360, 2130671872,
   2130672384, 2130672896, 2130673408, 2130673920, 2130674432, 2130674944, 2130675456, 2130675968, 2130676480,
   2130676992, 2130677504, 2130678016, 2130678528, 2130679040, 2130679552, 2130680064, 2130680576, 2130681088,
   2130681600, 2130682112, 2130682624, 2130683136, 2130683648, 2130684160, 2130684672, 2130685184, 2130685696,
   2130686208, 2130686720, 2130687232, 2130687744, 2130688256, 2130688768, 2130689280, 2130689792, 2130690304,
   2130690816, 2130691328, 2130691840, 2130692352, 2130692864, 2130693376, 2130693888, 2130694400, 2130694912,
   2130695424, 2130695936, 2130696448, 2130696960, 2130697472, 2130697984, 2130698496, 2130699008, 2130699520,
   2130700032, 2130700544, 2130701056, 2130701568, 2130702080, 2130702592, 2130703104, 2130703616, 2130704128,
   2130704640, 2130705152, 2130705664, 2130706176]
theorem c31_ok :
    chkList (pipeF 1199570688 65535) 65535 2139095040 63489 1064829049 31745 c31
      65536 1065353088 32768 = true := by decide +kernel
theorem c31_len : 63489 + c31.length = 65536 := (chkList_end c31_ok).1
theorem c31_last : lastS 1064829049 c31 = 1065353088 := (chkList_end c31_ok).2.1

end Dds.F32Thr.FpN16
