/-
C01, reader ⊑ cursor: whole call sequences on a stream that delivers the data section.
-/
import DdsModel.Proofs.ReaderRefinesOps
namespace Dds.Reader
open Dds Dds.Stream Dds.C08

/-- **The stream delivers the whole data section**: its offsets are `u64`s, every byte of the data
section (which starts at `base`) can be read / seeked over (`Env.lim`: no end of file, no hard error,
no early `Ok(0)` before `base + data length`), and the allocator grants what the budget admits. -/
structure Intact (k : Cfg) (base : Nat) : Prop where
  len : k.env.len < U64
  fits : base + total (SurfIter.new k.layout) ≤ k.env.lim
  grants : C06.AllocatorGrants k.env

/-- **The memory limit in force covers the need of every call** of the list (the limit can be changed
by `setLimit` operations inside the list) -/
def Covered (k : Cfg) : RS → List Op → Prop
  | _, [] => True
  | s, op :: rest => opNeed k s op ≤ s.limit ∧ Covered k (step k s op).1 rest

instance Covered.instDecidable (k : Cfg) : ∀ (s : RS) (ops : List Op), Decidable (Covered k s ops)
  | _, [] => isTrue trivial
  | s, op :: rest =>
    have := Covered.instDecidable k (step k s op).1 rest
    inferInstanceAs (Decidable (opNeed k s op ≤ s.limit ∧ Covered k (step k s op).1 rest))

theorem Covered.take {k : Cfg} : ∀ (ops : List Op) (s : RS) (n : Nat), Covered k s ops →
    Covered k s (ops.take n) := by
  intro ops
  induction ops with
  | nil => intro s n _; simp [Covered]
  | cons op rest ih =>
    intro s n h
    cases n with
    | zero => simp [Covered]
    | succ n => exact ⟨h.1, ih _ n h.2⟩

/-- the reader's result list from the ideal decoder's: `ok` for every change of the memory limit, the
ideal results (in order) for the other calls -/
def weave : List Op → List DecRes → List R
  | [], _ => []
  | op :: ops, rs =>
    match toDecOp op, rs with
    | none, rs => .ok :: weave ops rs
    | some _, r :: rs => ofDecRes r :: weave ops rs
    | some _, [] => []

theorem weave_none {op : Op} {ops : List Op} {rs : List DecRes} (h : toDecOp op = none) :
    weave (op :: ops) rs = .ok :: weave ops rs := weave.eq_2 op ops rs h

theorem weave_some {op : Op} {o : DecOp} {ops : List Op} {r : DecRes} {rs : List DecRes}
    (h : toDecOp op = some o) : weave (op :: ops) (r :: rs) = ofDecRes r :: weave ops rs :=
  weave.eq_3 op ops r rs o h

theorem run_cons (d : Dec) (o : DecOp) (l : List DecOp) :
    C08.run d (o :: l) = ((C08.run (d.step o).1 l).1, (d.step o).2.1 :: (C08.run (d.step o).1 l).2) := by
  simp only [C08.run]

theorem ideal_cons (d : Dec) (op : Op) (rest : List Op) :
    (C08.run d ((op :: rest).filterMap toDecOp)).1 =
      (C08.run (idealStep d op).1 (rest.filterMap toDecOp)).1 ∧
    weave (op :: rest) (C08.run d ((op :: rest).filterMap toDecOp)).2 =
      ofDecRes (idealStep d op).2 :: weave rest (C08.run (idealStep d op).1 (rest.filterMap toDecOp)).2 := by
  cases h : toDecOp op with
  | none =>
    rw [List.filterMap_cons_none h]
    have hi : idealStep d op = (d, .ok) := by unfold idealStep; rw [h]
    rw [hi]
    exact ⟨rfl, weave_none h⟩
  | some o =>
    rw [List.filterMap_cons_some h]
    have hi : idealStep d op = ((d.step o).1, (d.step o).2.1) := by unfold idealStep; rw [h]
    rw [hi, run_cons]
    exact ⟨rfl, weave_some h⟩

theorem ofDecRes_eq_panic {q : DecRes} : ofDecRes q = .panic ↔ q = .panic := by
  cases q <;> simp [ofDecRes]

/-- the ideal decoder keeps C08's invariant and does not panic, for the ideal image of every reader
operation -/
theorem idealStep_inv (d : Dec) (v : DecInv d) (op : Op) :
    DecInv (idealStep d op).1 ∧ (idealStep d op).2 ≠ .panic := by
  unfold idealStep
  cases toDecOp op with
  | none => exact ⟨v, by simp⟩
  | some o => exact C08.step_inv d v o

theorem Sim.new {k : Cfg} {base : Nat} (limit : Nat) (hi : IterInv (SurfIter.new k.layout))
    (hu : base + total (SurfIter.new k.layout) < U64) :
    Sim k base ⟨SurfIter.new k.layout, base, limit⟩ (Dec.new k.layout) where
  iter := rfl
  pos := by show (base : Int) = base + 0; omega
  layout := rfl
  px := iterPx_new k.layout
  inv := hi
  cpos := by show (0 : Int) = (elapsed (SurfIter.new k.layout) : Int); rw [(new_zero k.layout).2]; rfl
  u64 := hu

/-- the relation proper (`s.iter = d.iter`, `s.pos = base + d.pos`) for an ideal state
satisfying C08's invariant gives `Sim`, once the static facts are known: the decoder belongs to the
layout of `k`, its iterator computes lengths with the layout's `PixelInfo` (true of a fresh iterator,
kept by every operation), and `base + data length` is a `u64` offset -/
theorem Sim.ofDecInv {k : Cfg} {base : Nat} {s : RS} {d : Dec} (hiter : s.iter = d.iter)
    (hpos : (s.pos : Int) = base + d.pos) (hlay : d.layout = k.layout) (hpx : iterPx d.iter = k.layout.px)
    (hinv : DecInv d) (hu : base + total d.iter < U64) : Sim k base s d :=
  ⟨hiter, hpos, hlay, hpx, hinv.iter, hinv.pos, hu⟩

/-! ### the three clauses of `C01.reader_refines_cursor` -/

/-- the clauses as one proposition about a reader outcome `a` and an ideal outcome `b` -/
def Clauses (k : Cfg) (base : Nat) (s : RS) (d : Dec) (N : Nat) (a : RS × R) (b : Dec × DecRes) : Prop :=
  (a.2 ≠ .io → a.2 ≠ .memoryLimitExceeded → a.2 = ofDecRes b.2 ∧ Sim k base a.1 b.1) ∧
  (a.2 = .io → k.env.len < U64 →
    (k.env.lim : Int) < base + max d.pos b.1.pos ∨ (I64MAX : Int) < b.1.pos - d.pos) ∧
  (a.2 = .memoryLimitExceeded →
    s.limit < N ∨ ¬ C06.AllocatorGrants k.env ∨
    (b.2 = .memoryLimitExceeded ∧ Sim k base a.1 b.1 ∧ I64MAX < total d.iter))

theorem StepOK.clauses {k : Cfg} {base : Nat} {s : RS} {d : Dec} {N : Nat} {a : RS × R} {b : Dec × DecRes}
    (H : StepOK k base s d N a b) : Clauses k base s d N a b :=
  ⟨H.sim, fun hio hl => (H.io hio hl).imp (fun h' => by have := H.st.mono; omega) id, H.mem⟩

theorem BackOK.clauses {k : Cfg} {base : Nat} {s : RS} {d : Dec} {N : Nat} {a : RS × R} {b : Dec × DecRes}
    (h : Sim k base s d) (B : BackOK k base s d a b) : Clauses k base s d N a b :=
  ⟨fun hio _ => B.sim hio, fun hio _ => Or.inl (by have := B.io hio; have := h.pos; omega),
    fun hm => absurd hm B.mem⟩

/-- every reader operation against its ideal image: the calls of C01's list satisfy `StepOK` with no
hypothesis on the size of the data section, `set_memory_limit` touches neither side, the rewinding calls
satisfy `BackOK` under C08's invariant on a reader whose clamping `seek` is not positioned beyond the end -/
theorem step_clauses {k : Cfg} (hk : k.Agrees) {base : Nat} {s : RS} {d : Dec} (h : Sim k base s d) (op : Op)
    (hback : op.inC01 = false → DecInv d ∧ (k.env.clampSeek = true → s.pos ≤ k.env.len)) :
    Clauses k base s d (opNeed k s op) (step k s op) (idealStep d op) := by
  cases op with
  | read w hh c => exact (readSurface_sim hk h w hh c).clauses
  | rect ox oy w hh c =>
    show Clauses k base s d _ (readRect k s ox oy w hh c)
      ((d.step (.readRect ox oy w hh)).1, (d.step (.readRect ox oy w hh)).2.1)
    rw [Dec.step_readRect_eq]; exact (readRect_sim hk h ox oy w hh c).clauses
  | skipSurface =>
    show Clauses k base s d _ (skipSurface k s) ((d.step .skipSurface).1, (d.step .skipSurface).2.1)
    rw [Dec.step_skipSurface_eq]; exact (skipSurface_sim h _).clauses
  | skipMipmaps => exact (skipMipmaps_sim h _).clauses
  | cube w hh c => exact (readCubeMap_sim hk h w hh c).clauses
  | setLimit l =>
    exact ⟨fun _ _ => ⟨rfl, ⟨h.iter, h.pos, h.layout, h.px, h.inv, h.cpos, h.u64⟩⟩,
      (fun hio => by simp [step] at hio), (fun hm => by simp [step] at hm)⟩
  | rewindPrev => exact (rewindPrev_sim h (hback rfl).1 (hback rfl).2).clauses h
  | rewindStart => exact (rewindStart_sim h (hback rfl).1 (hback rfl).2).clauses h

theorem idealStep_layout (d : Dec) (v : DecInv d) (op : Op) : (idealStep d op).1.layout = d.layout := by
  unfold idealStep
  cases toDecOp op with
  | none => rfl
  | some o => exact (step_kept v o).layout

/-- **One call on an intact stream with a sufficient limit**: same result as the ideal decoder, states
related again, no I/O error, no memory-limit error, no panic.  An intact stream refutes the I/O clause,
a covered limit and a data section of at most `i64::MAX` bytes the memory clause. -/
theorem step_intact {k : Cfg} (hk : k.Agrees) {base : Nat} (hin : Intact k base) {s : RS} {d : Dec}
    (h : Sim k base s d) (hinv : DecInv d) (op : Op) (hcov : opNeed k s op ≤ s.limit) :
    (step k s op).2 = ofDecRes (idealStep d op).2 ∧ Sim k base (step k s op).1 (idealStep d op).1 ∧
    (step k s op).2 ≠ .io ∧ (step k s op).2 ≠ .memoryLimitExceeded ∧ (step k s op).2 ≠ .panic := by
  obtain ⟨hinv', hnp⟩ := idealStep_inv d hinv op
  have hpos := h.pos
  have hcpos := h.cpos
  have hcpos' := hinv'.pos
  have hel := elapsed_le_total h.inv
  have hel' := elapsed_le_total hinv'.iter
  have htot : total (idealStep d op).1.iter = total d.iter := by
    rw [← hinv'.total_eq, idealStep_layout d hinv op, hinv.total_eq]
  have hfit := hin.fits
  rw [← h.layout, hinv.total_eq] at hfit
  have hsmall := hinv.small
  have hll := lim_le_len k.env
  obtain ⟨c1, c2, c3⟩ := step_clauses hk h op fun _ => ⟨hinv, fun _ => by omega⟩
  have hio : (step k s op).2 ≠ .io := fun hio => by rcases c2 hio hin.len with h' | h' <;> omega
  have hmem : (step k s op).2 ≠ .memoryLimitExceeded := fun hm => by
    rcases c3 hm with h' | h' | h'
    · omega
    · exact h' hin.grants
    · have := h'.2.2; omega
  obtain ⟨h1, h2⟩ := c1 hio hmem
  exact ⟨h1, h2, hio, hmem, by rw [h1]; exact fun hp => hnp (ofDecRes_eq_panic.1 hp)⟩

/-- **Whole call sequences**: on an intact stream with a sufficient limit the reader model and C08's
ideal decoder give the same results and stay related. -/
theorem runOps_sim {k : Cfg} (hk : k.Agrees) {base : Nat} (hin : Intact k base) :
    ∀ (ops : List Op) (s : RS) (d : Dec), Sim k base s d → DecInv d → Covered k s ops →
      (runOps k s ops).2 = weave ops (C08.run d (ops.filterMap toDecOp)).2 ∧
      Sim k base (runOps k s ops).1 (C08.run d (ops.filterMap toDecOp)).1 ∧
      DecInv (C08.run d (ops.filterMap toDecOp)).1 ∧
      ∀ r ∈ (runOps k s ops).2, r ≠ .io ∧ r ≠ .memoryLimitExceeded ∧ r ≠ .panic := by
  intro ops
  induction ops with
  | nil => intro s d h v _; exact ⟨rfl, h, v, by simp [runOps]⟩
  | cons op rest ih =>
    intro s d h v hc
    obtain ⟨h1, h2, h3, h4, h5⟩ := step_intact hk hin h v op hc.1
    obtain ⟨v', _⟩ := idealStep_inv d v op
    obtain ⟨i1, i2, i3, i4⟩ := ih _ _ h2 v' hc.2
    obtain ⟨c1, c2⟩ := ideal_cons d op rest
    simp only [runOps]
    rw [c1, c2, h1, i1]
    refine ⟨rfl, i2, i3, ?_⟩
    intro r hr
    simp only [List.mem_cons] at hr
    rcases hr with hr | hr
    · rw [hr, ← h1]; exact ⟨h3, h4, h5⟩
    · rw [← i1] at hr; exact i4 r hr

end Dds.Reader
