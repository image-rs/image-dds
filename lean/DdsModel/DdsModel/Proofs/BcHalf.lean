/-
half -> f32 / UNORM8 / UNORM16: the models of the code's conversions (`fp16::*`, `bc6h_uf16::*`, float arithmetic on
the dyadic `Dy` of `Bc6.lean`) against the specification readings `Bc6Spec.halfTo*`, for all 65536 halves.
`Conv.lean` models the same Rust functions a second time, on binary32 bit patterns, and C04 proves those against
`Spec.smallFloat` / `Spec.toCode`.  Here the two models are proved equal for every argument (`fp16_conv`,
through the value relation of `Proofs/DyRep.lean`) and the two specifications are proved to say the
same (`smallFloat_half`, `toCode_halfNum`), so the integer outputs are C04's results; the `f32` pattern is exact by
construction (`half_pat`: the fraction lies below the exponent field, so `|` is `+`).
-/
import DdsModel.Bc6Spec
import DdsModel.Proofs.DyRep
import DdsModel.Proofs.ConvF16All
import DdsModel.Proofs.NatLemmas
namespace Dds.Bc6
open Dds.Bc6Spec Dds.ConvFast Dds.CF32 Dds.F32Mono

theorem half_bits (h : Nat) :
    (h >>> 10) &&& 31 = h / 1024 % 32 ∧ h &&& 1023 = h % 1024 ∧ h &&& 0x8000 = 32768 * (h / 32768 % 2) := by
  refine ⟨?_, ?_, ?_⟩
  · rw [Nat.shiftRight_eq_div_pow, show (31 : Nat) = 2 ^ 5 - 1 from rfl, Nat.and_two_pow_sub_one_eq_mod]
  · rw [show (1023 : Nat) = 2 ^ 10 - 1 from rfl, Nat.and_two_pow_sub_one_eq_mod]
  · have h1 : (h &&& 2 ^ 15) % 2 ^ 15 = 0 := by
      rw [Nat.and_mod_two_pow, Nat.mod_self, Nat.and_zero]
    have h2 : (h &&& 2 ^ 15) / 2 ^ 15 = h / 2 ^ 15 % 2 := by
      rw [Nat.and_div_two_pow, Nat.div_self (by decide), Nat.and_one_is_mod]
    have := Nat.div_add_mod (h &&& 2 ^ 15) (2 ^ 15)
    rw [h1, h2] at this
    exact this.symm

/-! ### `fp16::n8`, `fp16::n16`: the model on `Dy` is the model on bit patterns -/

theorem normal_dy (exp mant : Nat) (hm : mant < 1024) :
    Dy.mul ⟨mant + 1024, 0⟩ ⟨1, (exp : Int) - 25⟩ = ⟨mant + 1024, (exp : Int) - 25⟩ := by
  show rnd24 ⟨(mant + 1024) * 1, 0 + ((exp : Int) - 25)⟩ = _
  rw [Nat.mul_one, Int.zero_add, rnd24_small (by show mant + 1024 < 2 ^ 24; omega)]

/-- `(mant as f32 + 1024.0) * two_powi(exp − 25)`: no rounding, 11 significant bits -/
theorem Rep.smallNormal (exp mant : Nat) (he : exp ≤ 30) (hm : mant < 1024) :
    Rep (Conv.smallNormal 10 exp mant) ⟨mant + 1024, (exp : Int) - 25⟩ := by
  have r0 : Rep (fadd (CF32.ofNat mant) (CF32.ofNat 1024)) ⟨mant + 1024, 0⟩ := by
    rw [F32Err.fadd_ofNat mant 1024 (by omega) (by decide)]
    exact Rep.ofNat _ (by omega)
  obtain ⟨b1, b2⟩ := pow_bounds (n := (mant + 1024) * 1) (a := 11) (E := (0 + ((exp : Int) - 25) + 149).toNat) (b := 276)
    (by omega) (by omega) (by omega) (by omega)
  have := Rep.mul r0 (Rep.twoPowi ((exp : Int) - 25) (by omega) (by omega)) (by show -149 ≤ 0 + ((exp : Int) - 25); omega)
    b1 b2
  rwa [normal_dy exp mant hm] at this

theorem normToInt_conv (exp mant max : Nat) (he : exp ≤ 30) (hm : mant < 1024) (h0 : 0 < max) (hmax : max < 65536) :
    normToInt exp mant max = toNatSat (fadd (fmul (Conv.smallNormal 10 exp mant) (CF32.ofNat max)) CF32.half) max := by
  have hlt : (mant + 1024) * max < 2 ^ 27 := Nat.mul_lt_mul'' (c := 2 ^ 11) (d := 2 ^ 16) (by omega) (by omega)
  obtain ⟨b1, b2⟩ := pow_bounds (E := ((exp : Int) - 25 + 0 + 149).toNat) (b := 250)
    (Nat.ne_of_gt (Nat.mul_pos (by omega) h0)) hlt (by omega) (by omega)
  unfold normToInt
  rw [normal_dy exp mant hm]
  exact (Rep.scale (Rep.smallNormal exp mant he hm) (Rep.ofNat max (by omega)) max
    (by show -149 ≤ (exp : Int) - 25 + 0; omega) b1 b2).symm

theorem Rep.kDenorm16 : Rep Conv.kDenorm16 ⟨65535, -24⟩ := ⟨by decide, by decide, by decide +kernel⟩

/-- the subnormal branch of `fp16::n16`: `(mant as f32 * (65535.0 / 16777216.0) + 0.5) as u16` -/
theorem denorm16_conv (mant : Nat) (hm : mant < 1024) :
    ((Dy.mul ⟨mant, 0⟩ ⟨65535, -24⟩).add ⟨1, -1⟩).toUInt 65535 =
      toNatSat (fadd (fmul (CF32.ofNat mant) Conv.kDenorm16) CF32.half) 65535 := by
  by_cases h0 : mant = 0
  · subst h0; decide +kernel
  · obtain ⟨b1, b2⟩ := pow_bounds (n := mant * 65535) (a := 26) (E := 125) (b := 250) (by omega) (by omega) (by decide)
      (by decide)
    exact (Rep.scale (Rep.ofNat mant (by omega)) Rep.kDenorm16 65535 (by show (-149 : Int) ≤ 0 + -24; decide) b1 b2).symm

/-- **`fp16::n8` and `fp16::n16` are modelled twice** (`Bc6.lean` for BC6H, `Conv.lean` for the uncompressed formats):
the two models agree on every bit pattern -/
theorem fp16_conv (x : Nat) : fp16N8 x = Conv.smallN8 10 true x ∧ fp16N16 x = Conv.smallN16 10 true x := by
  obtain ⟨a1, a2, a3⟩ := half_bits x
  have hs : 32768 * (x / 32768 % 2) = 0 ↔ ¬ x / 32768 % 2 = 1 := by omega
  have he : x / 1024 % 32 < 32 := Nat.mod_lt _ (by decide)
  have hm : x % 1024 < 1024 := Nat.mod_lt _ (by decide)
  unfold fp16N8 fp16N16 Conv.smallN8 Conv.smallN16
  simp only [a1, a2, a3]
  simp only [hs, Nat.shiftRight_eq_div_pow, Bool.true_and, beq_iff_eq, bne_iff_ne, ne_eq, ite_not, Classical.not_not,
    if_true, show (2 : Nat) ^ 10 = 1024 from rfl, show (2 : Nat) ^ (10 + 5) = 32768 from rfl]
  constructor
  · split
    · rfl
    · split
      · rfl
      · exact normToInt_conv _ _ 255 (by omega) hm (by decide) (by decide)
  · split
    · rfl
    · split
      · exact denorm16_conv _ hm
      · split
        · rfl
        · exact normToInt_conv _ _ 65535 (by omega) hm (by decide) (by decide)

/-! ### the two specifications say the same -/

/-- `M·2^(a−25)`, `a ≥ 1`, as a fraction over `2^24` -/
theorem natCast_mul_pow2_24 (M a : Nat) (ha : 1 ≤ a) :
    (M : Rat) * CF32.pow2 ((a : Int) - 25) = mkRat ((M * 2 ^ (a - 1) : Nat) : Int) 16777216 := by
  have e : (a : Int) - 25 = ((975 + a : Nat) : Int) - 1000 := by omega
  rw [e, natCast_mul_pow2_pval M (975 + a) (by omega), show 975 + a - 851 = a - 1 + 125 by omega, Nat.pow_add,
    ← Nat.mul_assoc, Int.natCast_mul, show (2 : Nat) ^ 149 = 16777216 * 2 ^ 125 by decide]
  exact Rat.mkRat_mul_right (by decide)

/-- the value of a half without sign bit as `Spec.smallFloat` gives it is `Bc6Spec.halfNum / 2^24` -/
theorem smallFloat_half (y : Nat) (hy : y < 32768) : Spec.smallFloat 10 true y =
    if y / 1024 % 32 = 31 then none else some (mkRat (halfNum (y / 1024 % 32) (y % 1024)) 16777216) := by
  have hs : ¬ y / 32768 % 2 = 1 := by omega
  unfold Spec.smallFloat halfNum
  simp only [Nat.shiftRight_eq_div_pow, Bool.true_and, beq_iff_eq, hs, if_false,
    show (2 : Nat) ^ 10 = 1024 from rfl, show (2 : Nat) ^ (10 + 5) = 32768 from rfl]
  split
  · rfl
  · congr 1
    split
    · have := natCast_mul_pow2_24 (y % 1024) 1 (Nat.le_refl _)
      rwa [Nat.sub_self, Nat.pow_zero, Nat.mul_one] at this
    · exact natCast_mul_pow2_24 (1024 + y % 1024) (y / 1024 % 32) (by omega)

open Dds.F32.Raw (sel_ble nadd nmul ndiv) in
/-- `Spec.toCode` of a fraction over `2^24` in integers, as `Bc6Spec.halfToUnorm` writes it -/
theorem toCode_halfNum (mx H : Nat) : Spec.toCode mx (mkRat H 16777216) =
    ((if (H * mx * 2 + 16777216) / 33554432 > mx then mx else (H * mx * 2 + 16777216) / 33554432 : Nat) : Int) := by
  rw [toCode_mkRat _ _ _ (by decide)]
  unfold codeR
  rw [sel_ble, ndiv, nadd, nmul, nmul, nmul, Nat.mul_assoc 2 mx H, Nat.mul_comm H mx, Nat.mul_comm (mx * H) 2]
  congr 1
  by_cases h : 16777216 ≤ H
  · have := Nat.mul_le_mul_left mx h
    rw [if_pos h]
    generalize mx * H = P at this ⊢
    split <;> omega
  · have := Nat.mul_le_mul_left mx (show H + 1 ≤ 16777216 by omega)
    rw [Nat.mul_add, Nat.mul_one] at this
    rw [if_neg h]
    generalize mx * H = P at this ⊢
    split <;> omega

/-- the integer outputs of `fp16::*` on the halves without sign bit: C04's results (`ConvFast.half_n8_all`,
`half_n16_all`) read through the specification of C03x -/
theorem half_pos_int (y : Nat) (hy : y < 32768) :
    fp16N8 y = halfToUnorm 255 y ∧
      fp16N16 y = halfToUnorm 65535 y + if 14337 ≤ y ∧ y ≤ 14340 then 1 else 0 := by
  have h8 := half_n8_all y (by omega)
  have h16 := half_n16_all y (by omega)
  rw [← (fp16_conv y).1, smallFloat_half y hy] at h8
  rw [← (fp16_conv y).2, smallFloat_half y hy] at h16
  unfold halfToUnorm
  simp only [show y / 32768 = 0 by omega, show ¬ (0 = 1) by decide, if_false]
  by_cases h31 : y / 1024 % 32 = 31
  · rw [if_pos h31] at h8 h16
    simp only [hy, and_true] at h8 h16
    rw [if_pos h31, if_pos h31, if_neg (by omega : ¬ (14337 ≤ y ∧ y ≤ 14340))]
    constructor <;> apply Int.ofNat_inj.1
    · rw [h8]; split <;> rfl
    · rw [h16]; split <;> rfl
  · rw [if_neg h31] at h8 h16
    dsimp only at h8 h16
    rw [if_neg h31, if_neg h31]
    refine ⟨Int.ofNat_inj.1 (h8.trans (toCode_halfNum ..)), Int.ofNat_inj.1 ?_⟩
    rw [h16, toCode_halfNum, Int.natCast_add]
    congr 1
    split <;> rfl

/-! ### `fp16::f32` -/

/-- the pattern is assembled with `|` from an exponent field and a fraction below `2^23`: that is `+` -/
theorem half_pat (y : Nat) (hy : y < 32768) : fp16F32 y = halfToF32 y ∧ halfToF32 y < 2 ^ 31 := by
  obtain ⟨a1, a2, a3⟩ := half_bits y
  have hm : y % 1024 < 1024 := Nat.mod_lt _ (by decide)
  have he : y / 1024 % 32 < 32 := Nat.mod_lt _ (by decide)
  have hs : y / 32768 = 0 := by omega
  have hs' : y / 32768 % 2 = 0 := by omega
  unfold fp16F32 halfToF32 halfMagToF32
  simp only [a1, a2, a3, hs, Nat.zero_mul, Nat.zero_add, ne_eq, not_true, if_false, ite_not]
  generalize y / 1024 % 32 = e at *
  generalize y % 1024 = m at *
  by_cases h31 : e = 31
  · rw [if_neg (by omega), if_pos h31, if_pos h31]
    split <;> exact ⟨rfl, by decide⟩
  rw [if_neg h31]
  by_cases h0 : e = 0
  · rw [if_pos h0, if_pos h0, if_neg h31]
    by_cases hm0 : m = 0
    · rw [if_pos hm0, if_pos hm0]; exact ⟨rfl, by decide⟩
    · rw [if_neg hm0, if_neg hm0]
      have lo : 2 ^ Nat.log2 m ≤ m := Nat.log2_self_le hm0
      have hi : m < 2 ^ (Nat.log2 m + 1) := Nat.lt_log2_self
      have ht : Nat.log2 m < 10 := (Nat.log2_lt hm0).2 hm
      generalize Nat.log2 m = t at *
      have hP : 2 ^ t * 2 ^ (23 - t) = 8388608 := by rw [← Nat.pow_add, show t + (23 - t) = 23 by omega]
      have hx : (m - 2 ^ t) * 2 ^ (23 - t) = m * 2 ^ (23 - t) - 8388608 := by rw [Nat.sub_mul, hP]
      have hlt : m * 2 ^ (23 - t) < 2 * 8388608 := by
        rw [← hP, ← Nat.mul_assoc, ← Nat.pow_succ']
        exact Nat.mul_lt_mul_of_pos_right hi (Nat.two_pow_pos _)
      have hge : 8388608 ≤ m * 2 ^ (23 - t) := hP ▸ Nat.mul_le_mul_right _ lo
      rw [Nat.or_comm, Nat.shiftLeft_eq (m - 2 ^ t), hx, or_shl_eq_add _ _ 23 (by omega)]
      have : (103 + t) * 2 ^ 23 ≤ 112 * 8388608 := Nat.mul_le_mul_right _ (by omega)
      refine ⟨by omega, by omega⟩
  · rw [if_neg h0, if_neg h0, if_neg h31, Nat.or_comm, Nat.shiftLeft_eq m, or_shl_eq_add _ _ 23 (by omega)]
    have : (e + 112) * 2 ^ 23 ≤ 142 * 8388608 := Nat.mul_le_mul_right _ (by omega)
    refine ⟨by omega, by omega⟩

theorem half_pos (y : Nat) (hy : y < 32768) :
    fp16F32 y = halfToF32 y ∧ halfToF32 y < 2 ^ 31 ∧ fp16N8 y = halfToUnorm 255 y ∧
      fp16N16 y = halfToUnorm 65535 y + if 14337 ≤ y ∧ y ≤ 14340 then 1 else 0 :=
  ⟨(half_pat y hy).1, (half_pat y hy).2, half_pos_int y hy⟩

/-- the sign bit: both integer outputs are 0, the `f32` pattern is that of the magnitude with its sign bit set -/
theorem half_neg (y : Nat) (hy : y < 32768) (max : Nat) :
    fp16N8 (y + 32768) = 0 ∧ fp16N16 (y + 32768) = 0 ∧ halfToUnorm max (y + 32768) = 0 ∧
    fp16F32 (y + 32768) = fp16F32 y ||| 0x80000000 ∧ halfToF32 (y + 32768) = 2147483648 + halfToF32 y := by
  obtain ⟨a1, a2, a3⟩ := half_bits (y + 32768)
  obtain ⟨b1, b2, b3⟩ := half_bits y
  have e1 : (y + 32768) / 1024 % 32 = y / 1024 % 32 := by omega
  have e2 : (y + 32768) % 1024 = y % 1024 := by omega
  have e3 : (y + 32768) / 32768 % 2 = 1 := by omega
  have e4 : y / 32768 % 2 = 0 := by omega
  have e5 : (y + 32768) / 32768 = 1 := by omega
  have e6 : y / 32768 = 0 := by omega
  refine ⟨?_, ?_, ?_, ?_, ?_⟩
  · unfold fp16N8
    simp only [a3, e3]
    rfl
  · unfold fp16N16
    simp only [a3, e3]
    rfl
  · unfold halfToUnorm
    simp only [e5, if_true]
  · unfold fp16F32
    simp only [a1, a2, a3, b1, b2, b3, e1, e2, e3, e4]
    rfl
  · unfold halfToF32
    simp only [e1, e2, e5, e6]
    omega

/-- U16: equal to the nearest value except for the halves 0x3801..0x3804, where the code is one too high -/
theorem half_all (h : Nat) (hh : h < 65536) :
    fp16F32 h = halfToF32 h ∧ fp16N8 h = halfToUnorm 255 h ∧
      fp16N16 h = halfToUnorm 65535 h + if 14337 ≤ h ∧ h ≤ 14340 then 1 else 0 := by
  by_cases hs : h < 32768
  · obtain ⟨c1, -, c2, c3⟩ := half_pos h hs
    exact ⟨c1, c2, c3⟩
  · obtain ⟨c1, c2, -, -⟩ := half_pos (h - 32768) (by omega)
    have e : h = h - 32768 + 32768 := by omega
    obtain ⟨n1, n2, -, n4, n5⟩ := half_neg (h - 32768) (by omega) 0
    obtain ⟨-, -, u8, -, -⟩ := half_neg (h - 32768) (by omega) 255
    obtain ⟨-, -, u16, -, -⟩ := half_neg (h - 32768) (by omega) 65535
    rw [← e] at n1 n2 u8 u16 n4 n5
    refine ⟨?_, ?_, ?_⟩
    · rw [n4, n5, c1, Nat.or_comm]
      exact (Nat.two_pow_add_eq_or_of_lt c2 1).symm
    · rw [n1, u8]
    · rw [n2, u16, if_neg (by omega)]

/-- below 0x7C00 (all that BC6H_UF16 can produce) the sign bit is clear and the exponent is not 31 -/
theorem small_bits (h : Nat) (hh : h < 31744) : (h >>> 10) &&& 31 ≠ 31 ∧ h &&& 0x8000 = 0 := by
  obtain ⟨a1, -, a3⟩ := half_bits h
  rw [a1, a3]
  omega

theorem uf16_eq_fp16 (h : Nat) (hh : h < 31744) :
    uf16N8 h = fp16N8 h ∧ uf16N16 h = fp16N16 h ∧ uf16F32 h = fp16F32 h := by
  obtain ⟨he, hs⟩ := small_bits h hh
  refine ⟨?_, ?_, ?_⟩
  · simp [uf16N8, fp16N8, he, hs]
  · simp [uf16N16, fp16N16, he, hs]
  · simp only [uf16F32, fp16F32, halfMagToF32, hs]
    simp
    split <;> simp_all

end Dds.Bc6
