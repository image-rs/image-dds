/-
C15, block-compression encoder sites (`EncBcSites.lean`): general lemmas about the software binary32 that the
site proofs share — the saturating cast is bounded, `fmul` commutes, what `min`/`max`/`clamp` (Rust scalar and
glam SSE2) return, NaN through the operators, and `a − c` of non-negative finite operands as one rounding of the exact
difference (`fsub_pval`).
-/
import DdsModel.EncBcSites
import DdsModel.Proofs.F32ThrDev
namespace Dds.EncBcSites
open Dds Dds.CF32 Dds.ConvFast Dds.F32Mono Dds.F32Thr
open Dds.F32.Raw (sel nadd nsub sel_ble)
open Dds.EncTotal.QuantBits (NegR negR_flags)
open Dds.EncTotal.SharedExp (isNaN_iff key_of_lt key_of_ge)


theorem toNatSat_nan (x M : Nat) (h : isNaN x = true) : toNatSat x M = 0 := by
  unfold toNatSat
  simp only [force_eq, h, if_true]


theorem cls (x : Nat) (hx : x < 2 ^ 32) (hn : isNaN x = false) : x ≤ 0x7F800000 ∨ NegR x := by
  rcases classify x hx with h | h | h | ⟨h, _⟩ | h
  · left; omega
  · left; omega
  · rw [hn] at h; exact absurd h (by decide)
  · right; exact h
  · right; subst h; exact ⟨by decide, by decide⟩

theorem key_pos (x : Nat) (hx : x ≤ 0x7F800000) : key x = (x : Int) :=
  key_of_lt x (by simp only [signBit]; omega)

theorem key_neg (x : Nat) (hx : NegR x) : key x ≤ 0 := by
  obtain ⟨_, n2⟩ := negR_flags x hx
  unfold key; rw [n2]; simp only [if_true]; omega

theorem nan_of_pos (x : Nat) (hx : x ≤ 0x7F800000) : isNaN x = false :=
  Dds.EncTotal.SharedExp.isNaN_of_le x hx


theorem fmul_comm (a b : Nat) : fmul a b = fmul b a := by
  unfold fmul
  simp only [force_eq]
  rw [Bool.or_comm (isNaN a), Bool.or_comm (isInf a), Bool.or_comm (isZero a), Nat.mul_comm (mant a),
    Int.add_comm (expo a)]
  have : (isNeg a != isNeg b) = (isNeg b != isNeg a) := by
    cases isNeg a <;> cases isNeg b <;> rfl
  rw [this]



theorem flt_iff (a b : Nat) : flt a b = true ↔ isNaN a = false ∧ isNaN b = false ∧ key a < key b := by
  unfold flt
  simp only [Bool.and_eq_true, Bool.not_eq_eq_eq_not, Bool.not_true, decide_eq_true_eq, and_assoc]

theorem flt_key {a b : Nat} (ha : isNaN a = false) (hb : isNaN b = false) : flt a b = decide (key a < key b) := by
  unfold flt; rw [ha, hb]; rfl

theorem key_zero : key 0 = 0 := by decide
theorem key_one : key one = 1065353216 := by decide
theorem nan_zero : isNaN 0 = false := by decide
theorem nan_one : isNaN one = false := by decide

theorem pos_of_key_pos (x : Nat) (hx : x < 2 ^ 32) (hn : isNaN x = false) (hk : 0 < key x) :
    0 < x ∧ x ≤ 0x7F800000 := by
  rcases cls x hx hn with h | h
  · rw [key_pos x h] at hk; omega
  · have := key_neg x h; omega

theorem unit_of_key (x : Nat) (hx : x < 2 ^ 32) (hn : isNaN x = false) (h0 : 0 ≤ key x) (h1 : key x ≤ key one) :
    x = signBit ∨ x ≤ one := by
  rcases cls x hx hn with h | h
  · right; rw [key_pos x h, key_one] at h1; simp only [one]; omega
  · left
    have h1 := h.1
    have := key_of_ge x h.1
    omega

theorem sseMin_cases (a b : Nat) : sseMin a b = b ∨ (sseMin a b = a ∧ isNaN a = false ∧ isNaN b = false ∧ key a < key b) := by
  unfold sseMin
  by_cases h : flt a b = true
  · rw [if_pos h]; right; exact ⟨rfl, (flt_iff a b).mp h⟩
  · rw [if_neg h]; left; rfl

theorem sseMax_cases (a b : Nat) : sseMax a b = b ∨ (sseMax a b = a ∧ isNaN a = false ∧ isNaN b = false ∧ key b < key a) := by
  unfold sseMax
  by_cases h : flt b a = true
  · rw [if_pos h]; right
    obtain ⟨h1, h2, h3⟩ := (flt_iff b a).mp h
    exact ⟨rfl, h2, h1, h3⟩
  · rw [if_neg h]; left; rfl

/-- glam's SSE2 `clamp(ZERO, ONE)` lane: the result is a pattern `+0.0 … 1.0` for EVERY input
(NaN ↦ +0.0, −0.0 ↦ +0.0, −∞ ↦ +0.0, +∞ ↦ 1.0) -/
theorem sseClamp01_le (x : Nat) (hx : x < 2 ^ 32) : sseClamp01 x ≤ one := by
  unfold sseClamp01
  rcases sseMax_cases x 0 with e | ⟨e, hn, _, hk⟩
  · rw [e]; decide
  · rw [e]
    rcases sseMin_cases x one with e' | ⟨e', _, _, hk'⟩
    · rw [e']; exact Nat.le_refl _
    · rw [key_zero] at hk
      obtain ⟨_, hp⟩ := pos_of_key_pos x hx hn hk
      rw [key_pos x hp, key_one] at hk'
      rw [e']; simp only [one]; omega

theorem fmin_cases (a k : Nat) (hk : isNaN k = false) :
    fmin a k = k ∨ (fmin a k = a ∧ isNaN a = false ∧ key a ≤ key k) := by
  unfold fmin
  by_cases hn : isNaN a = true
  · rw [if_pos hn]; left; rfl
  · rw [if_neg hn, if_neg (by rw [hk]; decide)]
    rw [Bool.not_eq_true] at hn
    rw [flt_key hk hn]
    by_cases h : key k < key a
    · rw [if_pos (decide_eq_true h)]; left; rfl
    · rw [if_neg (by rw [decide_eq_true_eq]; exact h)]; right
      exact ⟨rfl, hn, by omega⟩

/-- what `e0.min(e1)` and `e0.max(e1)` hand on, and a clamp keeps: both NaN, or neither and in order -/
def Ordered (mn mx : Nat) : Prop :=
  (isNaN mn = true ∧ isNaN mx = true) ∨ (isNaN mn = false ∧ isNaN mx = false ∧ key mn ≤ key mx)

theorem Ordered.refl (x : Nat) : Ordered x x := by
  cases h : isNaN x
  · exact Or.inr ⟨h, h, Int.le_refl _⟩
  · exact Or.inl ⟨h, h⟩

theorem fminmax_spec (t1 t2 : Bool) (e0 e1 : Nat) (h0 : e0 < 2 ^ 32) (h1 : e1 < 2 ^ 32) :
    fminT t1 e0 e1 < 2 ^ 32 ∧ fmaxT t2 e0 e1 < 2 ^ 32 ∧ Ordered (fminT t1 e0 e1) (fmaxT t2 e0 e1) := by
  unfold fminT fmaxT
  by_cases n0 : isNaN e0 = true
  · rw [if_pos n0, if_pos n0]; exact ⟨h1, h1, Ordered.refl e1⟩
  rw [if_neg n0, if_neg n0]
  by_cases n1 : isNaN e1 = true
  · rw [if_pos n1, if_pos n1]; exact ⟨h0, h0, Ordered.refl e0⟩
  rw [if_neg n1, if_neg n1]
  rw [Bool.not_eq_true] at n0 n1
  rw [flt_key n0 n1, flt_key n1 n0]
  by_cases a : key e0 < key e1
  · simp only [a, decide_true, if_true]
    exact ⟨h0, h1, Or.inr ⟨n0, n1, by omega⟩⟩
  by_cases b : key e1 < key e0
  · simp only [a, b, decide_true, decide_false, Bool.false_eq_true, if_true, if_false]
    exact ⟨h1, h0, Or.inr ⟨n1, n0, by omega⟩⟩
  -- equal keys (`-0.0` against `+0.0`, or equal patterns): whichever operand each of the two returns
  simp only [a, b, decide_false, Bool.false_eq_true, if_false]
  cases t1 <;> cases t2 <;> simp only [if_true, if_false, Bool.false_eq_true] <;>
    exact ⟨by assumption, by assumption, Or.inr ⟨by assumption, by assumption, by omega⟩⟩

/-- `f32::clamp` hands a NaN on as it is: both comparisons are false -/
theorem fclamp01_nan (x : Nat) (hn : isNaN x = true) : fclamp x 0 one = x := by
  have a : flt x 0 = false := by unfold flt; rw [hn]; rfl
  have b : flt one x = false := by unfold flt; rw [hn]; rfl
  unfold fclamp
  simp only [force_eq, a, b, Bool.false_eq_true, if_false]

/-- `f32::clamp(0.0, 1.0)`: NaN stays NaN; any other pattern becomes `-0.0` or a pattern `+0.0 … 1.0`, its key
clamped to `[0, key 1.0]` -/
theorem fclamp01_spec (x : Nat) (hx : x < 2 ^ 32) :
    fclamp x 0 one < 2 ^ 32 ∧ isNaN (fclamp x 0 one) = isNaN x ∧
    (isNaN x = false → (fclamp x 0 one = signBit ∨ fclamp x 0 one ≤ one) ∧
      key (fclamp x 0 one) = max 0 (min (key x) (key one))) := by
  by_cases hn : isNaN x = true
  · rw [fclamp01_nan x hn]
    exact ⟨hx, rfl, fun h => absurd (hn.symm.trans h) (by decide)⟩
  · unfold fclamp
    simp only [force_eq]
    rw [Bool.not_eq_true] at hn
    rw [flt_key hn nan_zero, key_zero]
    by_cases a : key x < 0
    · simp only [a, decide_true, if_true, show flt one 0 = false by decide, Bool.false_eq_true, if_false]
      refine ⟨by decide, by rw [hn]; decide, fun _ => ⟨Or.inr (by decide), ?_⟩⟩
      rw [key_zero, key_one]; omega
    · simp only [a, decide_false, Bool.false_eq_true, if_false]
      rw [flt_key nan_one hn]
      by_cases b : key one < key x
      · simp only [b, decide_true, if_true]
        refine ⟨by decide, by rw [hn]; decide, fun _ => ⟨Or.inr (Nat.le_refl _), ?_⟩⟩
        rw [key_one] at b ⊢; omega
      · simp only [b, decide_false, Bool.false_eq_true, if_false]
        refine ⟨hx, trivial, fun _ => ⟨unit_of_key x hx hn (by omega) (by omega), ?_⟩⟩
        rw [key_one] at b ⊢; omega

theorem Ordered.clamp {mn mx : Nat} (h : Ordered mn mx) (h0 : mn < 2 ^ 32) (h1 : mx < 2 ^ 32) :
    Ordered (fclamp mn 0 one) (fclamp mx 0 one) := by
  obtain ⟨_, a1, a2⟩ := fclamp01_spec mn h0
  obtain ⟨_, b1, b2⟩ := fclamp01_spec mx h1
  unfold Ordered
  rw [a1, b1]
  rcases h with h | ⟨n1, n2, hk⟩
  · exact Or.inl h
  · refine Or.inr ⟨n1, n2, ?_⟩
    rw [(a2 n1).2, (b2 n2).2]; omega


theorem isNaN_nan : isNaN nan = true := by decide

theorem fmul_nan_right (k x : Nat) (h : isNaN x = true) : fmul k x = nan := by
  unfold fmul; simp only [force_eq, h, Bool.or_true, if_true]

theorem fmul_nan_left (k x : Nat) (h : isNaN x = true) : fmul x k = nan := by
  unfold fmul; simp only [force_eq, h, Bool.true_or, if_true]

theorem fadd_nan_left (x h : Nat) (hn : isNaN x = true) : fadd x h = nan := by
  unfold fadd; simp only [force_eq, hn, Bool.true_or, if_true]

theorem fadd_nan_right (a x : Nat) (hn : isNaN x = true) : fadd a x = nan := by
  unfold fadd; simp only [force_eq, hn, Bool.or_true, if_true]

theorem isNaN_neg (x : Nat) (hx : x < 2 ^ 32) (hn : isNaN x = true) : isNaN (neg x) = true := by
  rw [isNaN_iff] at hn ⊢
  rw [← negR_eq]
  unfold negR
  rw [sel_ble, nsub, nadd]
  split <;> omega

theorem fsub_nan_right (a x : Nat) (hx : x < 2 ^ 32) (hn : isNaN x = true) : fsub a x = nan := by
  unfold fsub; simp only [force_eq]
  exact fadd_nan_right a _ (isNaN_neg x hx hn)


theorem neg_posfin (c : Nat) (hc : c < 0x7F800000) :
    neg c = c + 0x80000000 ∧ isNaN (c + 0x80000000) = false ∧ isInf (c + 0x80000000) = false ∧
    isNeg (c + 0x80000000) = true ∧ mant (c + 0x80000000) = mantR c ∧
    expo (c + 0x80000000) = (bexpR c : Int) - 1000 := by
  obtain ⟨c1, c2, c3, c4, c5⟩ := posfin c hc
  have hE : expField (c + 0x80000000) = expField c := by
    rw [ConvFast.expField_eq, ConvFast.expField_eq]; omega
  have hF : fracField (c + 0x80000000) = fracField c := by unfold fracField; omega
  refine ⟨?_, ?_, ?_, ?_, ?_, ?_⟩
  · rw [← negR_eq]; unfold negR; rw [sel_ble, nadd, if_neg (by omega)]
  · unfold isNaN at c1 ⊢; rw [hE, hF]; exact c1
  · unfold isInf at c2 ⊢; rw [hE, hF]; exact c2
  · exact decide_eq_true (Nat.le_add_left _ _)
  · rw [← c4]; unfold mant; rw [hE, hF]
  · rw [← c5]; unfold expo; rw [hE]

/-- the sum of `X` and `−Y` units of `2^(E−1000)`, rounded: the rounded difference with the sign of the larger, `+0` when
they are equal -/
theorem roundPack_diff (X Y E : Nat) :
    (if ((X : Int) + -(Y : Int) == 0) = true then 0
      else roundPack (decide ((X : Int) + -(Y : Int) < 0)) ((X : Int) + -(Y : Int)).natAbs ((E : Int) - 1000)) =
    if Y ≤ X then rpU (X - Y) E else 0x80000000 + rpU (Y - X) E := by
  by_cases hle : Y ≤ X
  · rw [if_pos hle, ← roundPack_eq_rpU]
    by_cases h0 : X = Y
    · subst h0
      rw [if_pos (by rw [beq_iff_eq]; omega), Nat.sub_self, ConvFast.roundPack_zero]; rfl
    · rw [if_neg (by rw [beq_iff_eq]; omega), decide_eq_false (by omega),
        show ((X : Int) + -(Y : Int)).natAbs = X - Y by omega]
  · rw [if_neg hle, if_neg (by rw [beq_iff_eq]; omega), decide_eq_true (by omega),
      show ((X : Int) + -(Y : Int)).natAbs = Y - X by omega, roundPack_sign, roundPack_eq_rpU]; rfl

theorem mul_pow_split (m : Nat) {A E : Nat} (h1 : 851 ≤ E) (h2 : E ≤ A) :
    m * 2 ^ (A - 851) = m * 2 ^ (A - E) * 2 ^ (E - 851) := by
  rw [Nat.mul_assoc, ← Nat.pow_add, show A - E + (E - 851) = A - 851 by omega]

theorem fsub_pval (a c : Nat) (ha : a < 0x7F800000) (hc : c < 0x7F800000) :
    fsub a c = if pval c ≤ pval a then rpU (pval a - pval c) 851
      else 0x80000000 + rpU (pval c - pval a) 851 := by
  obtain ⟨a1, a2, a3, a4, a5⟩ := posfin a ha
  obtain ⟨n0, n1, n2, n3, n4, n5⟩ := neg_posfin c hc
  unfold fsub
  rw [force_eq, n0]
  unfold fadd
  simp only [force_eq, forceI_eq, a1, a2, a3, a4, a5, n1, n2, n3, n4, n5, Bool.or_self, Bool.false_eq_true,
    if_false, if_true, Bool.false_and]
  have ea := bexpR_ge a
  have ec := bexpR_ge c
  unfold pval
  generalize bexpR a = A at *
  generalize bexpR c = C at *
  generalize mantR a = ma
  generalize mantR c = mc
  clear a1 a2 a3 a4 a5 n0 n1 n2 n3 n4 n5
  -- both operands in units of the smaller exponent `E`
  obtain ⟨E, hE, h1, hA, hC⟩ : ∃ E, min A C = E ∧ 851 ≤ E ∧ E ≤ A ∧ E ≤ C :=
    ⟨_, rfl, by omega, by omega, by omega⟩
  rw [show min ((A : Int) - 1000) ((C : Int) - 1000) = (E : Int) - 1000 by omega,
    show ((A : Int) - 1000 - ((E : Int) - 1000)).toNat = A - E by omega,
    show ((C : Int) - 1000 - ((E : Int) - 1000)).toNat = C - E by omega,
    Nat.shiftLeft_eq, Nat.shiftLeft_eq, mul_pow_split ma h1 hA, mul_pow_split mc h1 hC, roundPack_diff,
    ← Nat.sub_mul, ← Nat.sub_mul, rpU_scale, rpU_scale, show 851 + (E - 851) = E by omega]
  simp only [Nat.mul_le_mul_right_iff (Nat.two_pow_pos (E - 851))]

end Dds.EncBcSites
