/-
C03 (BC1–BC5): range facts (every 8-bit model value is a `u8`), the variants, and the per-pixel equality
`Bc.px = BcSpec.px` for every format.
-/
import DdsModel.Proofs.Bc
import DdsModel.Proofs.ListLemmas
namespace Dds.Bc
open Dds.BcSpec (rnd quant leWord)

theorem w8_lt (x : Nat) : w8 x < 256 := Nat.mod_lt _ (by decide)

def RgbaLt (c : Rgba) : Prop := c.1 < 256 ∧ c.2.1 < 256 ∧ c.2.2.1 < 256 ∧ c.2.2.2 < 256

theorem lut4_P {α : Type} (P : α → Prop) (c0 c1 c2 c3 : α) (k : Nat)
    (h0 : P c0) (h1 : P c1) (h2 : P c2) (h3 : P c3) : P (lut4 c0 c1 c2 c3 k) := by
  unfold lut4; split <;> assumption

theorem toN8_lt (c : B565) : RgbaLt (toRgba c.toN8) := ⟨w8_lt _, w8_lt _, w8_lt _, Nat.lt_succ_self 255⟩
theorem oneThird_lt (s c : B565) : RgbaLt (toRgba (s.oneThird c)) := ⟨w8_lt _, w8_lt _, w8_lt _, Nat.lt_succ_self 255⟩
theorem mid_lt (s c : B565) : RgbaLt (toRgba (s.mid c)) := ⟨w8_lt _, w8_lt _, w8_lt _, Nat.lt_succ_self 255⟩

theorem bc1Px_lt (blk : Nat → Nat) (p : Nat) : RgbaLt (bc1Px blk p) := by
  unfold bc1Px
  apply lut4_P
  · exact toN8_lt _
  · exact toN8_lt _
  · split
    · exact oneThird_lt _ _
    · exact mid_lt _ _
  · split
    · exact oneThird_lt _ _
    · exact ⟨by decide, by decide, by decide, by decide⟩

theorem bc1NoDefaultPx_lt (blk : Nat → Nat) (p : Nat) : RgbaLt (bc1NoDefaultPx blk p) := by
  unfold bc1NoDefaultPx
  apply lut4_P
  · exact toN8_lt _
  · exact toN8_lt _
  · exact oneThird_lt _ _
  · exact oneThird_lt _ _

theorem bc4u8_lt (blk : Nat → Nat) (hb : ∀ i, blk i < 256) (p : Nat) : bc4uPx (bc4uOps .u8) blk p < 256 := by
  have h0 := hb 0; have h1 := hb 1
  simp only [bc4uPx]
  generalize decide (blk 0 > blk 1) = six
  generalize bc4Index blk p = k
  unfold bc4Lut
  split <;> cases six <;> (try simp only [if_true, if_false, Bool.false_eq_true]) <;> first
    | exact h0
    | exact h1
    | exact w8_lt _
    | exact Nat.lt_succ_self 255
    | exact Nat.zero_lt_succ 255

theorem bc2Alpha_lt (blk : Nat → Nat) (p : Nat) : bc2Alpha blk p < 256 := w8_lt _
theorem straight_lt (c a : Nat) : straight c a < 256 := w8_lt _

theorem toU8_lt (a : Nat) : F32.toU8 a < 256 := by
  simp only [F32.toU8]
  split
  · decide
  · split
    · decide
    · omega

theorem calcB_lt (r g : Nat) : calcB r g < 256 := toU8_lt _

/-- DXT2/DXT4: the decoder's division equals the documented formula -/
theorem straight_eq (c a : Nat) (hc : c < 256) : straight c a = BcSpec.straight c a := by
  unfold straight BcSpec.straight
  have hw : w16 (c * 255) = c * 255 := by unfold w16; omega
  rw [hw]
  by_cases h : a = 0
  · simp only [h, if_true]
    rw [Nat.mul_div_cancel c (by decide : 0 < 255)]
    unfold w8; rw [Nat.min_def]; split <;> omega
  · simp only [h, if_false]
    generalize c * 255 / a = q
    unfold w8; rw [Nat.min_def, Nat.min_def]; split <;> split <;> omega

theorem map_widen_eq (pr : Prec) (l l' : List Nat) (h : l = l') (hlt : ∀ v, v ∈ l → v < 256) :
    l.map (widen pr) = l'.map (BcSpec.widen pr) := by
  subst h
  apply List.map_congr_left
  intro v hv
  have := hlt v hv
  exact widen_fin pr v (by omega)

theorem bc3Alpha_eq (blk : Nat → Nat) (hb : ∀ i, blk i < 256) (p : Nat) (hp : p < 16) :
    bc4uPx (bc4uOps .u8) blk p = rnd (255 * BcSpec.bc4uVal blk 0 p) := bc4uPx_eq .u8 blk hb p hp

theorem colorUpper_eq (blk : Nat → Nat) (hb : ∀ i, blk i < 256) (p : Nat) :
    bc1NoDefaultPx (upper blk) p = BcSpec.colorPx false blk 8 p := by
  rw [bc1NoDefaultPx_eq (upper blk) (upper_lt blk hb) p, colorPx_upper]

theorem px8_eq (f : Fmt) (hf : f ≠ .bc3n) (blk : Nat → Nat) (hb : ∀ i, blk i < 256) (p : Nat) (hp : p < 16) :
    px8 f blk p = BcSpec.px8 f blk p := by
  have hc := colorUpper_eq blk hb p
  have ha2 := bc2Alpha_eq blk hb p hp
  have ha3 := bc3Alpha_eq blk hb p hp
  have hcl := bc1NoDefaultPx_lt (upper blk) p
  cases f <;> simp only [px8, BcSpec.px8, l4, bc2Px, bc3Px, setA, toStraight, ne_eq, not_true_eq_false] at hf ⊢
  · rw [bc1Px_eq blk hb p]
  · rw [hc, ha2]
  · rw [hc]
  · rw [straight_eq _ _ hcl.1, straight_eq _ _ hcl.2.1, straight_eq _ _ hcl.2.2.1, hc, ha2]
  · rw [hc, ha3]
  · rw [hc]
  · rw [straight_eq _ _ hcl.1, straight_eq _ _ hcl.2.1, straight_eq _ _ hcl.2.2.1, hc, ha3]
  · rw [hc, ha3]

/-- BC3n: R (from alpha) and G agree with the specification; B is `calc_b` of those two -/
theorem px8_bc3n (blk : Nat → Nat) (hb : ∀ i, blk i < 256) (p : Nat) (hp : p < 16) :
    px8 .bc3n blk p =
      [rnd (255 * BcSpec.bc4uVal blk 0 p), (BcSpec.colorPx false blk 8 p).2.1,
       calcB (rnd (255 * BcSpec.bc4uVal blk 0 p)) (BcSpec.colorPx false blk 8 p).2.1] := by
  simp only [px8, bc3Px, setA]
  rw [colorUpper_eq blk hb p, bc3Alpha_eq blk hb p hp]


theorem px8_lt (f : Fmt) (blk : Nat → Nat) (hb : ∀ i, blk i < 256) (p : Nat) :
    ∀ v, v ∈ px8 f blk p → v < 256 := by
  have h1 := bc1Px_lt blk p
  have hcl := bc1NoDefaultPx_lt (upper blk) p
  have h2l := bc2Alpha_lt blk p
  have h3l := bc4u8_lt blk hb p
  cases f <;> simp only [px8, l4, bc2Px, bc3Px, setA, toStraight]
  case bc1 => exact forall_mem4 h1.1 h1.2.1 h1.2.2.1 h1.2.2.2
  case bc2 => exact forall_mem4 hcl.1 hcl.2.1 hcl.2.2.1 h2l
  case bc2rgb => exact forall_mem3 hcl.1 hcl.2.1 hcl.2.2.1
  case bc2p => exact forall_mem4 (straight_lt _ _) (straight_lt _ _) (straight_lt _ _) h2l
  case bc3 => exact forall_mem4 hcl.1 hcl.2.1 hcl.2.2.1 h3l
  case bc3rgb => exact forall_mem3 hcl.1 hcl.2.1 hcl.2.2.1
  case bc3p => exact forall_mem4 (straight_lt _ _) (straight_lt _ _) (straight_lt _ _) h3l
  case rxgb => exact forall_mem3 h3l hcl.2.1 hcl.2.2.1
  case bc3n => exact forall_mem3 h3l hcl.2.1 (calcB_lt _ _)
  all_goals (intro v hv; cases hv)

theorem px_eq (f : Fmt) (hf : f ≠ .bc3n) (pr : Prec) (blk : Nat → Nat) (hb : ∀ i, blk i < 256)
    (p : Nat) (hp : p < 16) : px f pr blk p = BcSpec.px f pr blk p := by
  have hu := upper_lt blk hb
  have hc := consts_fin pr
  cases f
  case bc4u => simp only [px, pxWith, stdConv, BcSpec.px]; rw [bc4uPx_eq pr blk hb p hp]
  case bc4s => simp only [px, pxWith, stdConv, BcSpec.px]; rw [bc4sPx_eq pr blk hb p hp]
  case bc5u =>
    simp only [px, pxWith, stdConv, BcSpec.px]
    rw [bc4uPx_eq pr blk hb p hp, bc4uPx_eq pr (upper blk) hu p hp, bc4uVal_upper, hc.1]
  case bc5s =>
    simp only [px, pxWith, stdConv, BcSpec.px]
    rw [bc4sPx_eq pr blk hb p hp, bc4sPx_eq pr (upper blk) hu p hp, bc4sVal_upper, hc.2.2.2.2]
  all_goals
    simp only [px, pxWith, stdConv, BcSpec.px]
    exact map_widen_eq pr _ _ (px8_eq _ hf blk hb p hp) (px8_lt _ blk hb p)

theorem decodeBlock_eq (f : Fmt) (hf : f ≠ .bc3n) (pr : Prec) (blk : Nat → Nat) (hb : ∀ i, blk i < 256) :
    decodeBlock f pr blk = BcSpec.decodeBlock f pr blk := by
  unfold decodeBlock decodeBlockWith BcSpec.decodeBlock
  apply List.map_congr_left
  intro p hp
  rw [List.mem_range] at hp
  exact px_eq f hf pr blk hb p hp

end Dds.Bc
