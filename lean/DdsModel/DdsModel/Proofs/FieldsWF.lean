/- Well-formedness predicate of the pinned format table (decided over the whole table in `Theorems/C04.lean`). -/
import DdsModel.Uncompressed
namespace Dds.Unc

def rangesDisjoint (a b : Field) : Bool := a.off + a.width ≤ b.off || b.off + b.width ≤ a.off

def pairwiseDisjoint : List Field → Bool
  | [] => true
  | f :: fs => fs.all (rangesDisjoint f) && pairwiseDisjoint fs

/-- the widths each kind of field can have (DXGI) -/
def kindWidthOk (c : Color) (f : Field) : Bool :=
  match f.kind with
  | .unorm => [1, 2, 4, 5, 6, 8, 10, 16].contains f.width
  | .snorm => f.width == 8 || f.width == 16
  | .half => f.width == 16
  | .f11 => f.width == 11
  | .f10 => f.width == 10
  | .f32 => f.width == 32
  | .xr => f.width == 10
  | .mant => f.width == 9
  | .exp => f.width == 5
  | .yuv => c == .yuv f.width

/-- number of fields that give component `c` to pixel `p` -/
def countFor (fm : Fmt) (c : Comp) (p : Nat) : Nat :=
  (fm.fields.filter fun f => f.comp == c && (f.px == none || f.px == some p)).length

/-- which components every pixel must get from exactly one field; all others from none, except
that blue may be absent in an RGB format (then it is the default) -/
def compsOk (fm : Fmt) (p : Nat) : Bool :=
  let one (c : Comp) := countFor fm c p == 1
  let zero (c : Comp) := countFor fm c p == 0
  match fm.color with
  | .direct =>
    zero .Y && zero .U && zero .V && zero .E &&
    (match fm.native with
     | .gray => one .R && zero .G && zero .B && zero .A
     | .alpha => one .A && zero .R && zero .G && zero .B
     | .rgb => one .R && one .G && (one .B || zero .B) && zero .A
     | .rgba => one .R && one .G && one .B && one .A)
  | .yuv _ =>
    one .Y && one .U && one .V && zero .R && zero .G && zero .B && zero .E &&
    (if fm.native == .rgba then one .A else fm.native == .rgb && zero .A)
  | .sharedExp => one .R && one .G && one .B && one .E && zero .A && zero .Y && zero .U && zero .V &&
    fm.native == .rgb

def wellformed (fm : Fmt) : Bool :=
  -- every field lies inside the unit, has a documented width and belongs to an existing pixel
  fm.fields.all (fun f => f.off + f.width ≤ 8 * fm.unitBytes && kindWidthOk fm.color f &&
    (match f.px with | none => true | some p => p < fm.pxPerUnit)) &&
  pairwiseDisjoint fm.fields &&
  -- every pixel of the unit gets every component it needs exactly once
  (List.range fm.pxPerUnit).all (compsOk fm) &&
  (fm.pxPerUnit == 1 || fm.pxPerUnit == 2 || fm.pxPerUnit == 8) &&
  -- absent blue is 0.5 exactly for the two-channel SNORM formats, 0 otherwise
  ((fm.blue == .half) == (fm.color == .direct && fm.native == .rgb && countFor fm .B 0 == 0 &&
      fm.fields.all (·.kind == .snorm))) && fm.blue != .one &&
  -- bi-planar: luma in the plane-1 element, chroma in the plane-2 element
  (match fm.planar with
   | none => true
   | some (p1, p2) => p1 + p2 == fm.unitBytes && fm.pxPerUnit == 1 &&
     fm.fields.all fun f => if f.comp == .Y then f.off + f.width ≤ 8 * p1 else 8 * p1 ≤ f.off)

def countWhere (p : Fmt → Bool) : Nat := (formats.filter p).length

end Dds.Unc
