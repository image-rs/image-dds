/-
Helper lemmas for the struct-level builder methods of `Dx9Header` / `Dx10Header`
(`Header.applyStructOps`, C09).
-/
import DdsModel.Proofs.HeaderTables
namespace Dds

/-- `WF` without the one cross-field clause a struct-level chain can break (3D texture ⇒ array size 1) -/
def Header.WF0 : Header → Prop
  | .dx9 h => (Header.dx9 h).WF
  | .dx10 h => h.width < U32 ∧ h.height < U32 ∧ optLt h.depth U32 ∧ 1 ≤ h.mipmapCount ∧
      h.mipmapCount < U32 ∧ dxgiValid h.dxgiFormat = true ∧ h.miscFlag < U32 ∧ h.arraySize < U32

def Header.ArrayOk : Header → Prop
  | .dx9 _ => True
  | .dx10 h => h.resourceDimension = .tex3D → h.arraySize = 1

instance (h : Header) : Decidable h.ArrayOk := by
  cases h <;> unfold Header.ArrayOk <;> exact inferInstance

theorem Header.WF_iff (h : Header) : h.WF ↔ h.WF0 ∧ h.ArrayOk := by
  cases h with
  | dx9 x => simp [Header.WF0, Header.ArrayOk]
  | dx10 x =>
    simp only [Header.WF, Header.WF0, Header.ArrayOk]
    constructor
    · rintro ⟨a, b, c, d, e, f, g, h, i⟩; exact ⟨⟨a, b, c, d, e, f, g, h⟩, i⟩
    · rintro ⟨⟨a, b, c, d, e, f, g, h⟩, i⟩; exact ⟨a, b, c, d, e, f, g, h, i⟩

theorem cubeFacesCaps_lt (caps2 f : Nat) :
    ((caps2 &&& (CAPS2_KNOWN - CAPS2_ALL_FACES)) ||| CAPS2_CUBE_MAP ||| ((f % 64) <<< 10)) < U32 := by
  have h1 : caps2 &&& (CAPS2_KNOWN - CAPS2_ALL_FACES) < 2 ^ 32 :=
    Nat.lt_of_le_of_lt Nat.and_le_right (by decide)
  have h2 : CAPS2_CUBE_MAP < 2 ^ 32 := by decide
  have h3 : (f % 64) <<< 10 < 2 ^ 32 := by
    rw [Nat.shiftLeft_eq]
    have : f % 64 < 64 := Nat.mod_lt _ (by decide)
    omega
  show _ < 2 ^ 32
  exact Nat.or_lt_two_pow (Nat.or_lt_two_pow h1 h2) h3

theorem Header.applyStructOp_WF0 (h : Header) (op : StructOp) (h' : Header) (hwf : h.WF0) (hr : op.InRange)
    (ha : h.applyStructOp op = some h') : h'.WF0 := by
  cases h with
  | dx9 x =>
    obtain ⟨a, b, c, d, e, f, g⟩ := hwf
    cases op <;> simp only [Header.applyStructOp, Dx9Header.applyStructOp, Option.map_some, Option.map_none,
      Option.some.injEq, reduceCtorEq] at ha <;> subst ha <;> simp only [StructOp.InRange] at hr
    · exact ⟨hr.1, hr.2, trivial, d, e, f, g⟩
    · exact ⟨hr.1, hr.2.1, hr.2.2, d, e, f, g⟩
    · exact ⟨a, b, c, hr.1, hr.2, f, g⟩
    · exact ⟨a, b, c, d, e, cubeFacesCaps_lt _ _, g⟩
    · exact ⟨a, b, c, d, e, f, hr⟩
  | dx10 x =>
    obtain ⟨a, b, c, d, e, f, g, i⟩ := hwf
    cases op <;> simp only [Header.applyStructOp, Dx10Header.applyStructOp, Option.map_some, Option.map_none,
      Option.some.injEq, reduceCtorEq] at ha <;> subst ha <;> simp only [StructOp.InRange] at hr
    · exact ⟨hr.1, hr.2, trivial, d, e, f, g, i⟩
    · exact ⟨hr.1, hr.2.1, hr.2.2, d, e, f, g, i⟩
    · exact ⟨a, b, c, hr.1, hr.2, f, g, i⟩
    · exact ⟨a, b, c, d, e, hr, g, i⟩
    · exact ⟨a, b, c, d, e, f, g, i⟩
    · exact ⟨a, b, c, d, e, f, hr, i⟩
    · exact ⟨a, b, c, d, e, f, g, hr⟩
    · exact ⟨a, b, c, d, e, f, g, i⟩

theorem Header.applyStructOps_eq_foldlM (h : Header) (ops : List StructOp) :
    h.applyStructOps ops = ops.foldlM Header.applyStructOp h := by
  induction ops generalizing h with
  | nil => rfl
  | cons op ops ih =>
    rw [Header.applyStructOps, List.foldlM_cons]
    cases h.applyStructOp op
    · rfl
    · exact ih _

theorem Header.applyStructOps_WF0 (ops : List StructOp) {h h' : Header} (hwf : h.WF0)
    (hr : ∀ op ∈ ops, op.InRange) (ha : h.applyStructOps ops = some h') : h'.WF0 :=
  foldlM_some_inv Header.applyStructOp_WF0 ops hwf hr (Header.applyStructOps_eq_foldlM h ops ▸ ha)

end Dds
