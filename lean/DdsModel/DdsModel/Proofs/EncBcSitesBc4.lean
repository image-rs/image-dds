/-
C15, bc4.rs sites (`EncBcSites.lean`): `1.0 - x` is antitone on [0, 1]; `(K·x) as u8 + (K·(1.0 − x)) as u8 ≤ K` for
K = 255, 254 (monotone × antitone + the checked cut points `halfCuts K`, `decide +kernel`), hence the `debug_assert!(min < max)` of
`EndPoints::quantize` / `new_inter6` holds and the `u8` subtractions do not underflow, for EVERY pair of patterns.
-/
import DdsModel.Proofs.EncBcSites
namespace Dds.EncBcSites
open Dds Dds.CF32 Dds.ConvFast Dds.F32Mono Dds.F32Thr
open Dds.EncTotal.QuantBits (NegR toNatSat_neg fmul_neg)


theorem one_lt_posInf : one < 0x7F800000 := by decide

theorem fsub_one_le (x : Nat) (hx : x ≤ one) : fsub one x = rpU (pval one - pval x) 851 := by
  rw [fsub_pval one x one_lt_posInf (Nat.lt_of_le_of_lt hx one_lt_posInf), if_pos (pval_mono hx)]

theorem fsub_one_anti {x y : Nat} (hxy : x ≤ y) (hy : y ≤ one) : fsub one y ≤ fsub one x ∧ fsub one x ≤ one := by
  have hx : x ≤ one := Nat.le_trans hxy hy
  have h0 : fsub one 0 = one := by decide +kernel
  constructor
  · rw [fsub_one_le x hx, fsub_one_le y hy]
    apply rpU_mono_m
    have := pval_mono hxy
    omega
  · have hp0 : pval 0 = 0 := by decide +kernel
    have h := rpU_mono_m 851 (show pval one - pval x ≤ pval one - pval 0 by omega)
    rw [← fsub_one_le x hx, ← fsub_one_le 0 (Nat.zero_le _), h0] at h
    exact h

theorem fsub_one_gt (x : Nat) (h1 : one < x) (h2 : x ≤ 0x7F800000) : NegR (fsub one x) := by
  by_cases hi : x = 0x7F800000
  · subst hi
    have : fsub one 0x7F800000 = 0xFF800000 := by decide +kernel
    rw [this]; exact ⟨by decide, by decide⟩
  · have hx : x < 0x7F800000 := by omega
    have hp : pval one < pval (one + 1) := by decide +kernel
    have hm : pval (one + 1) ≤ pval x := pval_mono (by omega)
    rw [fsub_pval one x one_lt_posInf hx, if_neg (by omega)]
    have := rpU_le (pval x - pval one) 851
    exact ⟨by simp only [signBit]; omega, by simp only [signBit, posInf]; omega⟩


theorem roundK_eq (k x : Nat) : roundK k x = pipe k half 255 x := by
  unfold roundK pipe; rw [fmul_comm]

theorem roundK_nan (k x : Nat) (h : isNaN x = true) : roundK k x = 0 := by
  rw [roundK_eq]; exact pipe_nan k half 255 x h

theorem roundK_mono (k a b : Nat) (hk : k < 0x7F800000) (hk0 : 0 < k) (ha : a < 2 ^ 32) (hb : b < 2 ^ 32)
    (hna : isNaN a = false) (hnb : isNaN b = false) (h : key a ≤ key b) : roundK k a ≤ roundK k b := by
  rw [roundK_eq, roundK_eq]; exact pipe_mono_key k 255 a b hk hk0 ha hb hna hnb h

theorem floorK_nan (k x : Nat) (h : isNaN x = true) : floorK k x = 0 := by
  unfold floorK; rw [fmul_nan_right k x h]; exact toNatSat_nan _ _ isNaN_nan

theorem floorK_neg (k x : Nat) (hk : k < 0x7F800000) (hk0 : 0 < k) (h : NegR x) : floorK k x = 0 := by
  unfold floorK; rw [fmul_comm]
  exact toNatSat_neg _ _ (fmul_neg x k h hk (isZero_false k hk hk0))

theorem floorK_mono_nonneg (k a b : Nat) (hk : k < 0x7F800000) (hk0 : 0 < k) (hab : a ≤ b) (hb : b ≤ 0x7F800000) :
    floorK k a ≤ floorK k b := by
  unfold floorK; rw [fmul_comm k a, fmul_comm k b]
  obtain ⟨m1, m2⟩ := fmul_mono_nonneg hab hb hk hk0
  exact toNatSat_mono_nonneg 255 m1 m2

theorem floorK_zero (k : Nat) (hk : k < 0x7F800000) : floorK k 0 = 0 := by
  unfold floorK
  have h0 : pval 0 = 0 := by decide +kernel
  rw [fmul_comm, fmul_pval 0 k (by decide) hk, h0, Nat.zero_mul, rpU_zero]
  decide

theorem floorK_mono (k a b : Nat) (hk : k < 0x7F800000) (hk0 : 0 < k) (ha : a < 2 ^ 32) (hb : b < 2 ^ 32)
    (hna : isNaN a = false) (hnb : isNaN b = false) (h : key a ≤ key b) : floorK k a ≤ floorK k b := by
  rcases cls a ha hna with ha' | ha'
  · rcases cls b hb hnb with hb' | hb'
    · rw [key_pos a ha', key_pos b hb'] at h
      exact floorK_mono_nonneg k a b hk hk0 (by omega) hb'
    · have := key_neg b hb'
      rw [key_pos a ha'] at h
      have ha0 : a = 0 := by omega
      rw [ha0, floorK_zero k hk]; exact Nat.zero_le _
  · rw [floorK_neg k a hk hk0 ha']; exact Nat.zero_le _

theorem ceilTermK_nan (k x : Nat) (hx : x < 2 ^ 32) (h : isNaN x = true) : ceilTermK k x = 0 := by
  unfold ceilTermK; rw [fsub_nan_right one x hx h, fmul_nan_right k nan isNaN_nan]
  exact toNatSat_nan _ _ isNaN_nan

theorem ceilTermK_anti (k x y : Nat) (hk : k < 0x7F800000) (hk0 : 0 < k) (hxy : x ≤ y) (hy : y ≤ one) :
    ceilTermK k y ≤ ceilTermK k x := by
  unfold ceilTermK
  obtain ⟨a1, a2⟩ := fsub_one_anti hxy hy
  rw [fmul_comm k, fmul_comm k]
  obtain ⟨m1, m2⟩ := fmul_mono_nonneg a1 (Nat.le_trans a2 (Nat.le_of_lt one_lt_posInf)) hk hk0
  exact toNatSat_mono_nonneg 255 m1 m2

theorem ceilTermK_gt (k x : Nat) (hk : k < 0x7F800000) (hk0 : 0 < k) (h1 : one < x) (h2 : x ≤ 0x7F800000) :
    ceilTermK k x = 0 := by
  unfold ceilTermK; rw [fmul_comm]
  exact toNatSat_neg _ _ (fmul_neg _ k (fsub_one_gt x h1 h2) hk (isZero_false k hk hk0))

/-! ### checked cut points: `f` monotone, `g` antitone ⇒ `f x + g x ≤ K` on every interval between cuts -/

def chkCuts (f g : Nat → Nat) (K : Nat) : Nat → List Nat → Nat → Bool
  | lo, [], top => decide (f top + g lo ≤ K)
  | lo, c :: cs, top => decide (c ≤ top) && decide (f (c - 1) + g lo ≤ K) && chkCuts f g K c cs top

theorem chkCuts_sound (f g : Nat → Nat) (K top : Nat) (hf : ∀ a b, a ≤ b → b ≤ top → f a ≤ f b)
    (hg : ∀ a b, a ≤ b → b ≤ top → g b ≤ g a) :
    ∀ (l : List Nat) (lo : Nat), chkCuts f g K lo l top = true → ∀ x, lo ≤ x → x ≤ top → f x + g x ≤ K
  | [], lo, h, x, h1, h2 => by
    unfold chkCuts at h
    have := of_decide_eq_true h
    have := hf x top h2 (Nat.le_refl _)
    have := hg lo x h1 h2
    omega
  | c :: cs, lo, h, x, h1, h2 => by
    unfold chkCuts at h
    simp only [Bool.and_eq_true, decide_eq_true_eq] at h
    obtain ⟨⟨hc, hs⟩, hr⟩ := h
    by_cases hx : x < c
    · have := hf x (c - 1) (by omega) (by omega)
      have := hg lo x h1 h2
      omega
    · exact chkCuts_sound f g K top hf hg cs c hr x (by omega) h2

/-- the cut points for `floor(K·x)` against `floor(K·(1 − x))`: cut `j` is the binary32 nearest `(j − ½)/K`, where
the two terms are `j − 1` and `K − j`, each half a unit away from a step -/
def halfCuts (K : Nat) : List Nat := (List.range' 1 K).map fun j => rndR (2 * j - 1) (2 * K)

theorem k255_lt : k255 < 0x7F800000 := by decide
theorem k254_lt : k254 < 0x7F800000 := by decide

theorem chk255 : chkCuts (floorK k255) (ceilTermK k255) 255 0 (halfCuts 255) one = true := by decide +kernel
theorem chk254 : chkCuts (floorK k254) (ceilTermK k254) 254 0 (halfCuts 254) one = true := by decide +kernel


theorem sum_unit (k kN : Nat) (cuts : List Nat) (hk : k < 0x7F800000) (hk0 : 0 < k)
    (hc : chkCuts (floorK k) (ceilTermK k) kN 0 cuts one = true) (x : Nat) (hx : x ≤ one) :
    floorK k x + ceilTermK k x ≤ kN :=
  chkCuts_sound (floorK k) (ceilTermK k) kN one
    (fun a b hab hb => floorK_mono_nonneg k a b hk hk0 hab (Nat.le_trans hb (Nat.le_of_lt one_lt_posInf)))
    (fun a b hab hb => ceilTermK_anti k a b hk hk0 hab hb) cuts 0 hc x (Nat.zero_le _) hx

theorem k255_pos : 0 < k255 := by decide
theorem k254_pos : 0 < k254 := by decide

/-- unorm: every non-NaN pattern -/
theorem sum255 (x : Nat) (hx : x < 2 ^ 32) (hn : isNaN x = false) : floorK k255 x + ceilTermK k255 x ≤ 255 := by
  rcases cls x hx hn with h | h
  · by_cases h1 : x ≤ one
    · exact sum_unit k255 255 _ k255_lt k255_pos chk255 x h1
    · rw [ceilTermK_gt k255 x k255_lt k255_pos (by omega) h]
      have := toNatSat_le_cap (fmul k255 x) 255
      unfold floorK; omega
  · rw [floorK_neg k255 x k255_lt k255_pos h]
    have := toNatSat_le_cap (fmul k255 (fsub one x)) 255
    unfold ceilTermK; omega

/-- snorm: the clamped values -/
theorem sum254 (x : Nat) (h : x = signBit ∨ x ≤ one) : floorK k254 x + ceilTermK k254 x ≤ 254 := by
  rcases h with h | h
  · subst h; decide +kernel
  · exact sum_unit k254 254 _ k254_lt k254_pos chk254 x h


theorem endsNorm_some (k kN mn mx : Nat) (H1 : roundK k mn ≤ roundK k mx)
    (H2 : floorK k mn + ceilTermK k mx ≤ kN) (H3 : roundK k mx ≤ kN) (hkN : 1 ≤ kN) :
    ∃ a b, endsNorm k kN mn mx = some (a, b) ∧ a < b ∧ b ≤ kN := by
  unfold endsNorm assertLt
  generalize roundK k mn = r1 at *
  generalize roundK k mx = r2 at *
  generalize floorK k mn = f1 at *
  generalize ceilTermK k mx = c2 at *
  by_cases e : r1 = r2
  · rw [if_pos e, if_neg (by omega)]
    by_cases e2 : f1 = kN - c2
    · rw [if_pos e2]
      by_cases e3 : f1 = 0
      · rw [if_pos e3, if_pos (by omega)]; exact ⟨0, 1, rfl, by omega, by omega⟩
      · rw [if_neg e3, if_pos (by omega)]; exact ⟨_, _, rfl, by omega, by omega⟩
    · rw [if_neg e2, if_pos (by omega)]; exact ⟨_, _, rfl, by omega, by omega⟩
  · rw [if_neg e, if_pos (by omega)]; exact ⟨_, _, rfl, by omega, by omega⟩

/-- the hypotheses of `endsNorm_some` for an ordered pair -/
theorem ends_hyps (k kN mn mx : Nat) (hk : k < 0x7F800000) (hk0 : 0 < k) (hmn : mn < 2 ^ 32) (hmx : mx < 2 ^ 32)
    (hc : Ordered mn mx) (hsum : isNaN mx = false → floorK k mx + ceilTermK k mx ≤ kN) :
    roundK k mn ≤ roundK k mx ∧ floorK k mn + ceilTermK k mx ≤ kN := by
  rcases hc with ⟨n1, n2⟩ | ⟨n1, n2, hkey⟩
  · rw [roundK_nan k mn n1, roundK_nan k mx n2, floorK_nan k mn n1, ceilTermK_nan k mx hmx n2]
    exact ⟨Nat.le_refl _, Nat.zero_le _⟩
  · refine ⟨roundK_mono k mn mx hk hk0 hmn hmx n1 n2 hkey, ?_⟩
    have := floorK_mono k mn mx hk hk0 hmn hmx n1 n2 hkey
    have := hsum n2
    omega

theorem roundK_le_unit (k kN x : Nat) (hk : k < 0x7F800000) (hk0 : 0 < k) (hone : roundK k one = kN) (hx : x ≤ one) :
    roundK k x ≤ kN := by
  rw [← hone, roundK_eq, roundK_eq]
  exact pipe_mono hk hk0 (by decide) hx (Nat.le_of_lt one_lt_posInf)

theorem roundK254_one : roundK k254 one = 254 := by decide +kernel
theorem roundK254_negz : roundK k254 signBit = 0 := by decide +kernel


theorem s8FromNorm_some (x : Nat) (h : x ≤ 254) : s8FromNorm x = some ((x + 1 + 128) % 256) := by
  unfold s8FromNorm; rw [if_pos h]

/-- `EndPoints::quantize` for every pair of patterns -/
theorem quantizeEnds_some (t1 t2 snorm : Bool) (e0 e1 : Nat) (h0 : e0 < 2 ^ 32) (h1 : e1 < 2 ^ 32) :
    ∃ c0 c1, quantizeEnds t1 t2 snorm e0 e1 = some (c0, c1) ∧ c0 < 256 ∧ c1 < 256 ∧ c0 ≠ c1 ∧
      (snorm = false → c1 < c0) ∧ (snorm = true → asI8 c0 ≠ asI8 c1) := by
  obtain ⟨b0, b1, hc⟩ := fminmax_spec t1 t2 e0 e1 h0 h1
  unfold quantizeEnds
  generalize fminT t1 e0 e1 = mn at *
  generalize fmaxT t2 e0 e1 = mx at *
  cases snorm
  · -- unorm: no clamp
    rw [if_neg Bool.false_ne_true]
    obtain ⟨H1, H2⟩ := ends_hyps k255 255 mn mx k255_lt k255_pos b0 b1 hc (fun hn => sum255 mx b1 hn)
    obtain ⟨a, b, he, hab, hb⟩ := endsNorm_some k255 255 mn mx H1 H2
      (by unfold roundK; exact toNatSat_le_cap _ _) (by decide)
    rw [he]
    exact ⟨b, a, rfl, by omega, by omega, by omega, fun _ => hab, nofun⟩
  · rw [if_pos rfl]
    -- snorm: `f32::clamp(0.0, 1.0)` first
    have hcl := hc.clamp b0 b1
    obtain ⟨hb0, _, _⟩ := fclamp01_spec mn b0
    obtain ⟨hb1, x1, x2⟩ := fclamp01_spec mx b1
    have hunit : isNaN (fclamp mx 0 one) = false → fclamp mx 0 one = signBit ∨ fclamp mx 0 one ≤ one :=
      fun hn => (x2 (x1.symm.trans hn)).1
    have H3 : roundK k254 (fclamp mx 0 one) ≤ 254 := by
      by_cases hn : isNaN (fclamp mx 0 one) = true
      · rw [roundK_nan _ _ hn]; exact Nat.zero_le _
      · rcases hunit ((Bool.not_eq_true _).mp hn) with e | e
        · rw [e, roundK254_negz]; exact Nat.zero_le _
        · exact roundK_le_unit k254 254 _ k254_lt k254_pos roundK254_one e
    generalize fclamp mn 0 one = mn' at *
    generalize fclamp mx 0 one = mx' at *
    obtain ⟨H1, H2⟩ := ends_hyps k254 254 mn' mx' k254_lt k254_pos hb0 hb1 hcl (fun hn => sum254 mx' (hunit hn))
    obtain ⟨a, b, he, hab, hb⟩ := endsNorm_some k254 254 mn' mx' H1 H2 H3 (by decide)
    rw [he]
    simp only [s8FromNorm_some b hb, s8FromNorm_some a (by omega)]
    have hne : (b + 1 + 128) % 256 ≠ (a + 1 + 128) % 256 := by omega
    rw [if_neg hne]
    refine ⟨_, _, rfl, Nat.mod_lt _ (by decide), Nat.mod_lt _ (by decide), hne, nofun, fun _ => ?_⟩
    unfold asI8
    split <;> split <;> omega

/-- `EndPoints::new_inter6` for every pair of patterns -/
theorem newInter6_some (t1 t2 snorm : Bool) (e0 e1 : Nat) (h0 : e0 < 2 ^ 32) (h1 : e1 < 2 ^ 32) :
    ∃ c0 c1, newInter6 t1 t2 snorm e0 e1 = some (c0, c1) ∧ c0 < 256 ∧ c1 < 256 ∧
      (snorm = false → c1 < c0) ∧ (snorm = true → asI8 c1 < asI8 c0) := by
  obtain ⟨c0, c1, he, a0, a1, _, hu, hs⟩ := quantizeEnds_some t1 t2 snorm e0 e1 h0 h1
  unfold newInter6
  rw [he]
  cases snorm
  · dsimp only
    rw [Bool.false_and, if_neg Bool.false_ne_true]
    exact ⟨c0, c1, rfl, a0, a1, hu, nofun⟩
  · have hs' := hs rfl
    dsimp only
    rw [Bool.true_and]
    by_cases hle : asI8 c0 ≤ asI8 c1
    · rw [if_pos (decide_eq_true hle)]
      exact ⟨c1, c0, rfl, a1, a0, nofun, fun _ => by omega⟩
    · rw [if_neg (fun h => hle (of_decide_eq_true h))]
      exact ⟨c0, c1, rfl, a0, a1, nofun, fun _ => by omega⟩

/-- the single-colour path: `value = (min + max) * 0.5` of clamped block values is again in `[+0, 1]`, and
`new_closest` passes the assertion of `s8::from_norm` -/
theorem singleValue_le (mn mx : Nat) (h1 : mn ≤ one) (h2 : mx ≤ one) : singleValue mn mx ≤ one := by
  unfold singleValue
  have l1 : mn < 0x7F800000 := Nat.lt_of_le_of_lt h1 one_lt_posInf
  have l2 : mx < 0x7F800000 := Nat.lt_of_le_of_lt h2 one_lt_posInf
  have e2 : fadd one one = two := by decide +kernel
  have hs : fadd mn mx ≤ two := by
    rw [← e2, fadd_pval mn mx l1 l2, fadd_pval one one one_lt_posInf one_lt_posInf]
    apply rpU_mono_m
    have := pval_mono h1
    have := pval_mono h2
    omega
  have e1 : fmul two half = one := by decide +kernel
  rw [← e1]
  exact (fmul_mono_nonneg hs (by decide) (by decide) (by decide)).1

theorem newClosest_some (snorm : Bool) (v : Nat) (hv : v ≤ one) :
    ∃ c0 c1, newClosest snorm v = some (c0, c1) ∧ c0 < 256 ∧ c1 < 256 := by
  unfold newClosest
  cases snorm
  · rw [if_neg Bool.false_ne_true]
    have := toNatSat_le_cap (fadd (fmul k255 v) half) 255
    exact ⟨_, _, rfl, by omega, by decide⟩
  · rw [if_pos rfl]
    have h := roundK_le_unit k254 254 v k254_lt k254_pos roundK254_one hv
    unfold roundK at h
    rw [s8FromNorm_some _ h, s8FromNorm_some 0 (by decide)]
    exact ⟨_, _, rfl, Nat.mod_lt _ (by decide), by decide⟩

/-- `reference_brute_force`: the loop bounds -/
theorem brute_ok (blockMin blockMax mn : Nat) (h : mn < bruteMinMax blockMax) :
    ∃ lo, bruteInnerLo (bruteMaxMin blockMin) mn = some lo ∧ mn < lo ∧
      ∀ mx, lo ≤ mx → newInter6Unorm mx mn = some (mx, mn) := by
  have hb : bruteMinMax blockMax ≤ 255 := by unfold bruteMinMax; exact toNatSat_le_cap _ _
  unfold bruteInnerLo U8
  rw [if_pos (by omega)]
  refine ⟨_, rfl, by omega, fun mx hmx => ?_⟩
  unfold newInter6Unorm
  rw [if_pos (by omega)]

/-- `Inter6Palette::closest`: the index is in range for every `blend` -/
theorem inter6Closest_some (pixel factor1 add1 : Nat) :
    ∃ b v, inter6Closest pixel factor1 add1 = some (b, v) ∧ b ≤ 7 ∧ indexValueOk v = true := by
  unfold inter6Closest
  generalize toNatSat (fadd (fmul pixel factor1) add1) 255 = t
  have hb : min t 7 ≤ 7 := Nat.min_le_right _ _
  generalize min t 7 = b at *
  have : b = 0 ∨ b = 1 ∨ b = 2 ∨ b = 3 ∨ b = 4 ∨ b = 5 ∨ b = 6 ∨ b = 7 := by omega
  rcases this with rfl | rfl | rfl | rfl | rfl | rfl | rfl | rfl <;> exact ⟨_, _, rfl, by decide, by decide⟩

end Dds.EncBcSites
