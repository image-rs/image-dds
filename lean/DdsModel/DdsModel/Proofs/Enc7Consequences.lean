/-
C13 / BC7 encoder: the distance bounds and palette facts that instantiate `closest_argmin` for `closest_rgb / rgba / alpha`, and the
consequences: content that IS a palette entry is reproduced exactly by writer ∘ closest (mode 6), and opacity of
written blocks.
-/
import DdsModel.Proofs.Enc7Closest
import DdsModel.Proofs.Enc7Writer
namespace Dds.Enc7
open Dds Dds.BcTables


theorem sqDiff_le (a b : Nat) (ha : a ≤ 255) (hb : b ≤ 255) : sqDiff a b ≤ 65025 := by
  unfold sqDiff
  rcases Nat.le_total a b with h | h
  · have e : a - b = 0 := by omega
    have : (b - a) * (b - a) ≤ 255 * 255 := Nat.mul_le_mul (by omega) (by omega)
    rw [e]; omega
  · have e : b - a = 0 := by omega
    have : (a - b) * (a - b) ≤ 255 * 255 := Nat.mul_le_mul (by omega) (by omega)
    rw [e]; omega

theorem sqDiff_self (a : Nat) : sqDiff a a = 0 := by simp [sqDiff]

theorem sqDiff_eq_zero (a b : Nat) (h : sqDiff a b = 0) : a = b := by
  unfold sqDiff at h
  have h1 : (a - b) * (a - b) = 0 := by omega
  have h2 : (b - a) * (b - a) = 0 := by omega
  have h1' : a - b = 0 := by rcases Nat.mul_eq_zero.mp h1 with h | h <;> exact h
  have h2' : b - a = 0 := by rcases Nat.mul_eq_zero.mp h2 with h | h <;> exact h
  omega

theorem interpolate_lt (W e0 e1 k : Nat) : interpolate W e0 e1 k < 256 := by
  unfold interpolate; exact Nat.mod_lt _ (by decide)

theorem interpolate_zero (W e0 e1 : Nat) (hW : W = 2 ∨ W = 3 ∨ W = 4) (h0 : e0 < 256) : interpolate W e0 e1 0 = e0 := by
  rcases hW with h | h | h <;> subst h <;>
    simp only [interpolate, weight, WEIGHTS_2, WEIGHTS_3, WEIGHTS_4, List.getD_cons_zero, Nat.reduceEqDiff, if_true,
      if_false, U16, U8, Nat.zero_mul, Nat.zero_mod, Nat.add_zero, Nat.shiftRight_eq_div_pow] <;> omega

theorem interpolate_max (W e0 e1 : Nat) (hW : W = 2 ∨ W = 3 ∨ W = 4) (h1 : e1 < 256) :
    interpolate W e0 e1 (2 ^ W - 1) = e1 := by
  rcases hW with h | h | h <;> subst h <;>
    simp only [interpolate, weight, WEIGHTS_2, WEIGHTS_3, WEIGHTS_4, Nat.reduceEqDiff, if_true, Nat.reducePow,
      Nat.reduceSub, List.getD_cons_succ, List.getD_cons_zero,
      if_false, U16, U8, Nat.zero_mul, Nat.zero_mod, Nat.zero_add, Nat.shiftRight_eq_div_pow, Nat.reduceAdd,
      Nat.reduceMod] <;> omega

/-! ### the palette list of `closest_*` = the interpolation table -/

theorem palette_length {α : Type} (I : Nat) (interp : α → α → Nat → α) (e0 e1 : α) (hI : I = 2 ∨ I = 3 ∨ I = 4) :
    (palette I interp e0 e1).length = 2 ^ I := by
  rcases hI with h | h | h <;> subst h <;> simp [palette]

/-- entry `j`: the end entries are the endpoints themselves, the inner ones `interp e0 e1 j` -/
theorem palette_getD {α : Type} (I : Nat) (interp : α → α → Nat → α) (e0 e1 d : α) (j : Nat)
    (hI : I = 2 ∨ I = 3 ∨ I = 4) (hj : j < 2 ^ I) :
    (palette I interp e0 e1).getD j d = if j = 0 then e0 else if j = 2 ^ I - 1 then e1 else interp e0 e1 j := by
  have h2 : 2 ≤ 2 ^ I := by rcases hI with rfl | rfl | rfl <;> decide
  unfold palette
  rw [Nat.one_shiftLeft, List.append_assoc, List.getD_eq_getElem?_getD]
  cases j with
  | zero => rfl
  | succ j =>
    rw [List.singleton_append, List.getElem?_cons_succ, if_neg (Nat.succ_ne_zero j)]
    by_cases hl : j + 1 = 2 ^ I - 1
    · rw [if_pos hl, List.getElem?_append_right (by simp; omega)]
      simp only [List.length_map, List.length_range, show j - (2 ^ I - 2) = 0 by omega]
      rfl
    · rw [if_neg hl, List.getElem?_append_left (by simp; omega)]
      simp [show j < 2 ^ I - 2 by omega]

/-- where interpolation at the two end indexes gives back the endpoints, the palette IS the interpolation table -/
theorem palette_getD_interp {α : Type} (I : Nat) (interp : α → α → Nat → α) (e0 e1 d : α) (j : Nat)
    (hI : I = 2 ∨ I = 3 ∨ I = 4) (hj : j < 2 ^ I) (h0 : interp e0 e1 0 = e0) (h1 : interp e0 e1 (2 ^ I - 1) = e1) :
    (palette I interp e0 e1).getD j d = interp e0 e1 j := by
  rw [palette_getD I _ _ _ _ j hI hj]
  split
  · next h => rw [h, h0]
  · split
    · next h => rw [h, h1]
    · rfl

/-- for byte endpoints given as 4-lists the palette IS the table `j ↦ interpolate_rgba(e0, e1, j)` -/
theorem paletteRgba_getD (I : Nat) (a0 a1 a2 a3 b0 b1 b2 b3 j : Nat) (hI : I = 2 ∨ I = 3 ∨ I = 4) (hj : j < 2 ^ I)
    (ha : a0 < 256 ∧ a1 < 256 ∧ a2 < 256 ∧ a3 < 256) (hb : b0 < 256 ∧ b1 < 256 ∧ b2 < 256 ∧ b3 < 256) :
    (palette I (interpolateRgba I) [a0, a1, a2, a3] [b0, b1, b2, b3]).getD j [] =
      interpolateRgba I [a0, a1, a2, a3] [b0, b1, b2, b3] j :=
  palette_getD_interp I _ _ _ _ j hI hj
    (by simp only [interpolateRgba, px4e, interpolate_zero I _ _ hI ha.1, interpolate_zero I _ _ hI ha.2.1,
      interpolate_zero I _ _ hI ha.2.2.1, interpolate_zero I _ _ hI ha.2.2.2])
    (by simp only [interpolateRgba, px4e, interpolate_max I _ _ hI hb.1, interpolate_max I _ _ hI hb.2.1,
      interpolate_max I _ _ hI hb.2.2.1, interpolate_max I _ _ hI hb.2.2.2])

theorem paletteRgb_getD (I : Nat) (a0 a1 a2 b0 b1 b2 j : Nat) (hI : I = 2 ∨ I = 3 ∨ I = 4) (hj : j < 2 ^ I)
    (ha : a0 < 256 ∧ a1 < 256 ∧ a2 < 256) (hb : b0 < 256 ∧ b1 < 256 ∧ b2 < 256) :
    (palette I (interpolateRgb I) [a0, a1, a2] [b0, b1, b2]).getD j [] =
      interpolateRgb I [a0, a1, a2] [b0, b1, b2] j :=
  palette_getD_interp I _ _ _ _ j hI hj
    (by simp only [interpolateRgb, px3e, interpolate_zero I _ _ hI ha.1, interpolate_zero I _ _ hI ha.2.1,
      interpolate_zero I _ _ hI ha.2.2])
    (by simp only [interpolateRgb, px3e, interpolate_max I _ _ hI hb.1, interpolate_max I _ _ hI hb.2.1,
      interpolate_max I _ _ hI hb.2.2])

theorem paletteAlpha_getD (I a b j : Nat) (hI : I = 2 ∨ I = 3 ∨ I = 4) (hj : j < 2 ^ I) (ha : a < 256) (hb : b < 256) :
    (palette I (interpolateAlpha I) a b).getD j 0 = interpolateAlpha I a b j :=
  palette_getD_interp I _ _ _ _ j hI hj (interpolate_zero I _ _ hI ha) (interpolate_max I _ _ hI hb)

theorem palette_mem {α : Type} (I : Nat) (interp : α → α → Nat → α) (e0 e1 : α) (P : α → Prop)
    (h0 : P e0) (h1 : P e1) (hi : ∀ k, P (interp e0 e1 k)) : ∀ c ∈ palette I interp e0 e1, P c := by
  intro c hc
  simp only [palette, List.mem_append, List.mem_singleton, List.mem_map] at hc
  rcases hc with (h | ⟨k, _, rfl⟩) | h
  · rw [h]; exact h0
  · exact hi _
  · rw [h]; exact h1

def Byte4 (c : List Nat) : Prop := ∀ k, k < 4 → px c k ≤ 255
def Byte3 (c : List Nat) : Prop := ∀ k, k < 3 → px c k ≤ 255

theorem distSqRgba_le (p c : List Nat) (hp : Byte4 p) (hc : Byte4 c) : distSqRgba p c ≤ 260100 := by
  unfold distSqRgba
  have := sqDiff_le _ _ (hp 0 (by decide)) (hc 0 (by decide))
  have := sqDiff_le _ _ (hp 1 (by decide)) (hc 1 (by decide))
  have := sqDiff_le _ _ (hp 2 (by decide)) (hc 2 (by decide))
  have := sqDiff_le _ _ (hp 3 (by decide)) (hc 3 (by decide))
  omega

theorem distSqRgb_le (p c : List Nat) (hp : Byte3 p) (hc : Byte3 c) : distSqRgb p c ≤ 195075 := by
  unfold distSqRgb
  have := sqDiff_le _ _ (hp 0 (by decide)) (hc 0 (by decide))
  have := sqDiff_le _ _ (hp 1 (by decide)) (hc 1 (by decide))
  have := sqDiff_le _ _ (hp 2 (by decide)) (hc 2 (by decide))
  omega

theorem byte4_interp (W : Nat) (e0 e1 : List Nat) (k : Nat) : Byte4 (interpolateRgba W e0 e1 k) := by
  intro c hc
  have : c = 0 ∨ c = 1 ∨ c = 2 ∨ c = 3 := by omega
  rcases this with h | h | h | h <;> subst h <;> simp only [interpolateRgba, px4e] <;>
    exact Nat.le_of_lt_succ (interpolate_lt _ _ _ _)

theorem byte3_interp (W : Nat) (e0 e1 : List Nat) (k : Nat) : Byte3 (interpolateRgb W e0 e1 k) := by
  intro c hc
  have : c = 0 ∨ c = 1 ∨ c = 2 := by omega
  rcases this with h | h | h <;> subst h <;> simp only [interpolateRgb, px3e] <;>
    exact Nat.le_of_lt_succ (interpolate_lt _ _ _ _)


theorem closestRgba_argmin (I : Nat) (e0 e1 : List Nat) (pixels : List (List Nat)) (hI : I = 2 ∨ I = 3 ∨ I = 4)
    (h0 : Byte4 e0) (h1 : Byte4 e1) (hp : ∀ p ∈ pixels, Byte4 p) (hn : pixels.length ≤ 16) :
    ArgminSpec I distSqRgba (palette I (interpolateRgba I) e0 e1) pixels [] 260100 (closestRgba I e0 e1 pixels) :=
  closest_argmin I distSqRgba (palette I (interpolateRgba I) e0 e1) pixels [] 260100 hI
    (palette_length I _ e0 e1 hI) hn
    (fun p hpm c hc => distSqRgba_le p c (hp p hpm)
      (palette_mem I (interpolateRgba I) e0 e1 Byte4 h0 h1 (fun k => byte4_interp I e0 e1 k) c hc))
    (by decide)

theorem closestRgb_argmin (I : Nat) (e0 e1 : List Nat) (pixels : List (List Nat)) (hI : I = 2 ∨ I = 3 ∨ I = 4)
    (h0 : Byte3 e0) (h1 : Byte3 e1) (hp : ∀ p ∈ pixels, Byte3 p) (hn : pixels.length ≤ 16) :
    ArgminSpec I distSqRgb (palette I (interpolateRgb I) e0 e1) pixels [] 195075 (closestRgb I e0 e1 pixels) :=
  closest_argmin I distSqRgb (palette I (interpolateRgb I) e0 e1) pixels [] 195075 hI
    (palette_length I _ e0 e1 hI) hn
    (fun p hpm c hc => distSqRgb_le p c (hp p hpm)
      (palette_mem I (interpolateRgb I) e0 e1 Byte3 h0 h1 (fun k => byte3_interp I e0 e1 k) c hc))
    (by decide)

theorem closestAlpha_argmin (I : Nat) (e0 e1 : Nat) (pixels : List Nat) (hI : I = 2 ∨ I = 3 ∨ I = 4)
    (h0 : e0 ≤ 255) (h1 : e1 ≤ 255) (hp : ∀ p ∈ pixels, p ≤ 255) (hn : pixels.length ≤ 16) :
    ArgminSpec I sqDiff (palette I (interpolateAlpha I) e0 e1) pixels 0 65025 (closestAlpha I e0 e1 pixels) :=
  closest_argmin I sqDiff (palette I (interpolateAlpha I) e0 e1) pixels 0 65025 hI
    (palette_length I _ e0 e1 hI) hn
    (fun p hpm c hc => sqDiff_le p c (hp p hpm)
      (palette_mem I (interpolateAlpha I) e0 e1 (· ≤ 255) h0 h1
        (fun k => Nat.le_of_lt_succ (interpolate_lt _ _ _ _)) c hc))
    (by decide)


theorem distSqRgba_self (p : List Nat) : distSqRgba p p = 0 := by simp [distSqRgba, sqDiff_self]

theorem eq_of_distSqRgba_zero (a0 a1 a2 a3 b0 b1 b2 b3 : Nat) (h : distSqRgba [a0, a1, a2, a3] [b0, b1, b2, b3] = 0) :
    [a0, a1, a2, a3] = [b0, b1, b2, b3] := by
  simp only [distSqRgba, px4e] at h
  have h0 := sqDiff_eq_zero a0 b0 (by omega)
  have h1 := sqDiff_eq_zero a1 b1 (by omega)
  have h2 := sqDiff_eq_zero a2 b2 (by omega)
  have h3 := sqDiff_eq_zero a3 b3 (by omega)
  subst h0 h1 h2 h3; rfl

theorem pPromoteCh7_lt (v p : Nat) (hv : v < 2 ^ 7) (hp : p < 2) : pPromoteCh 7 v p < 256 := by
  rw [pPromoteCh7, Bc7.withP_eq v hv p hp]; omega

theorem mode6_roundtrip (rgba : List (List Nat)) (p : List Nat) (x : Nat)
    (hE : ∀ e, e < 2 → ∀ c, c < 4 → px (ep rgba e) c < 2 ^ 7) (hP : ∀ k, k < 2 → px p k < 2) (hx : x < 2 ^ 64) :
    Bc7.decodeBlock (mode6 rgba p x) = (List.range 16).map fun i =>
      interpolateRgba 4 (pPromoteRgba 7 (ep rgba 0) (px p 0)) (pPromoteRgba 7 (ep rgba 1) (px p 1)) (get 4 x i) :=
  writer_roundtrip ⟨6, 0, 0, 0, rgba, [], p, x, 0⟩
    ⟨(by decide : 6 < 8), (by decide : 0 < 64), (by decide : 0 < 4), (by decide : 0 < 2), hE,
      fun _ _ => Nat.two_pow_pos 7, hP, hx, (by decide : 0 < 1)⟩

/-- every pixel that IS an entry of the mode-6 palette of `(e0, p0), (e1, p1)` comes back exactly -/
theorem mode6_exact (e0 e1 : List Nat) (p0 p1 : Nat) (pixels : List (List Nat)) (hlen : pixels.length = 16)
    (he0 : ∀ c, c < 4 → px e0 c < 2 ^ 7) (he1 : ∀ c, c < 4 → px e1 c < 2 ^ 7) (hp0 : p0 < 2) (hp1 : p1 < 2)
    (hpx : ∀ p ∈ pixels, ∃ k, k < 16 ∧ p = interpolateRgba 4 (pPromoteRgba 7 e0 p0) (pPromoteRgba 7 e1 p1) k) :
    Bc7.decodeBlock (mode6 [e0, e1] [p0, p1]
      (closestRgba 4 (pPromoteRgba 7 e0 p0) (pPromoteRgba 7 e1 p1) pixels).1) = pixels := by
  have hb0 : Byte4 (pPromoteRgba 7 e0 p0) := by
    intro c hc
    have : c = 0 ∨ c = 1 ∨ c = 2 ∨ c = 3 := by omega
    rcases this with h | h | h | h <;> subst h <;> simp only [pPromoteRgba, px4e] <;>
      exact Nat.le_of_lt_succ (pPromoteCh7_lt _ _ (he0 _ (by decide)) hp0)
  have hb1 : Byte4 (pPromoteRgba 7 e1 p1) := by
    intro c hc
    have : c = 0 ∨ c = 1 ∨ c = 2 ∨ c = 3 := by omega
    rcases this with h | h | h | h <;> subst h <;> simp only [pPromoteRgba, px4e] <;>
      exact Nat.le_of_lt_succ (pPromoteCh7_lt _ _ (he1 _ (by decide)) hp1)
  have hpb : ∀ p ∈ pixels, Byte4 p := by
    intro p hp
    obtain ⟨k, _, rfl⟩ := hpx p hp
    exact byte4_interp 4 _ _ k
  obtain ⟨hper, _, _, hlt⟩ := closestRgba_argmin 4 _ _ pixels (by decide) hb0 hb1 hpb (by omega)
  have hE : ∀ e, e < 2 → ∀ c, c < 4 → px (ep [e0, e1] e) c < 2 ^ 7 := fun e he => by
    rcases (by omega : e = 0 ∨ e = 1) with rfl | rfl
    · exact he0
    · exact he1
  have hP : ∀ k, k < 2 → px [p0, p1] k < 2 := fun k hk => by
    rcases (by omega : k = 0 ∨ k = 1) with rfl | rfl
    · exact hp0
    · exact hp1
  rw [mode6_roundtrip [e0, e1] [p0, p1] _ hE hP (by simpa using hlt)]
  apply List.ext_getElem
  · simp [hlen]
  · intro i h1 h2
    have hi : i < pixels.length := h2
    obtain ⟨hk, hmin, _⟩ := hper i hi
    have hmem : pixels.getD i [] ∈ pixels := getD_mem hi []
    obtain ⟨k, hk16, hpk⟩ := hpx _ hmem
    have hgi : pixels[i] = pixels.getD i [] := by
      simp [List.getD_eq_getElem?_getD, List.getElem?_eq_getElem hi]
    simp only [List.getElem_map, List.getElem_range, ep, px, List.getD_cons_zero, List.getD_cons_succ]
    rw [hgi]
    have hbyte : ∀ (e : List Nat) (p : Nat), (∀ c, c < 4 → px e c < 2 ^ 7) → p < 2 →
        pPromoteCh 7 (px e 0) p < 256 ∧ pPromoteCh 7 (px e 1) p < 256 ∧ pPromoteCh 7 (px e 2) p < 256 ∧
          pPromoteCh 7 (px e 3) p < 256 :=
      fun e p he hp => ⟨pPromoteCh7_lt _ _ (he 0 (by decide)) hp, pPromoteCh7_lt _ _ (he 1 (by decide)) hp,
        pPromoteCh7_lt _ _ (he 2 (by decide)) hp, pPromoteCh7_lt _ _ (he 3 (by decide)) hp⟩
    have hpal : ∀ j, j < 2 ^ 4 → (palette 4 (interpolateRgba 4) (pPromoteRgba 7 e0 p0) (pPromoteRgba 7 e1 p1)).getD j [] =
        interpolateRgba 4 (pPromoteRgba 7 e0 p0) (pPromoteRgba 7 e1 p1) j :=
      fun j hj => paletteRgba_getD 4 _ _ _ _ _ _ _ _ j (by decide) hj (hbyte e0 p0 he0 hp0) (hbyte e1 p1 he1 hp1)
    have hm := hmin k hk16
    rw [hpal _ hk, hpal k hk16, ← hpk, distSqRgba_self] at hm
    have hz : distSqRgba (pixels.getD i []) (interpolateRgba 4 (pPromoteRgba 7 e0 p0) (pPromoteRgba 7 e1 p1)
        (get 4 (closestRgba 4 (pPromoteRgba 7 e0 p0) (pPromoteRgba 7 e1 p1) pixels).1 i)) = 0 := by omega
    generalize get 4 (closestRgba 4 (pPromoteRgba 7 e0 p0) (pPromoteRgba 7 e1 p1) pixels).1 i = kk at hz ⊢
    rw [hpk] at hz ⊢
    exact (eq_of_distSqRgba_zero _ _ _ _ _ _ _ _ hz).symm


def alphaAt (block : List (List Nat)) (i : Nat) : Nat := px (block.getD i []) 3

/-- the alpha endpoints the writer receives decode to 255 -/
def AlphaOnes (f : Fields) : Prop :=
  f.mode ≤ 3 ∨
  (f.mode = 4 ∧ f.rotation = 0 ∧ px f.alpha 0 = 63 ∧ px f.alpha 1 = 63) ∨
  (f.mode = 5 ∧ f.rotation = 0 ∧ px f.alpha 0 = 255 ∧ px f.alpha 1 = 255) ∨
  (f.mode = 6 ∧ px (ep f.endpoints 0) 3 = 127 ∧ px (ep f.endpoints 1) 3 = 127 ∧ px f.pBits 0 = 1 ∧ px f.pBits 1 = 1) ∨
  (f.mode = 7 ∧ ∀ e, e < 4 → px (ep f.endpoints e) 3 = 31 ∧ px f.pBits e = 1)

instance (f : Fields) : Decidable (AlphaOnes f) := by unfold AlphaOnes; exact inferInstance

theorem writer_opaque (f : Fields) (h : f.WF) (ha : AlphaOnes f) (i : Nat) (hi : i < 16) :
    alphaAt (Bc7.decodeBlock (write f)) i = 255 := by
  rw [writer_roundtrip f h, alphaAt, getD_map_range _ _ hi]
  obtain ⟨mode, part, rot, im, E, A, P, x, x2⟩ := f
  obtain ⟨hm, hpart, hrot, him, hE, hA, hP, hx, hx2⟩ := h
  simp only at hm hpart hrot him hE hA hP hx hx2
  simp only [AlphaOnes] at ha
  have e63 : promoteCh 6 63 = 255 := by decide
  have e255 : promoteCh 8 255 = 255 := by decide
  have e127 : pPromoteCh 7 127 1 = 255 := by decide
  have e31 : pPromoteCh 5 31 1 = 255 := by decide
  rcases ha with h03 | ⟨h4, hr, a0, a1⟩ | ⟨h5, hr, a0, a1⟩ | ⟨h6, a0, a1, p0, p1⟩ | ⟨h7, hall⟩
  · have hm' : mode = 0 ∨ mode = 1 ∨ mode = 2 ∨ mode = 3 := by omega
    rcases hm' with h | h | h | h <;> subst h <;>
      simp only [intended, Nat.reduceEqDiff, if_true, if_false, interpolateRgb, List.cons_append, List.nil_append, px4e]
  · subst h4 hr
    simp only [modeShape, Nat.reduceEqDiff, if_true, if_false, Nat.reduceMul] at hx hx2
    have him' : im = 0 ∨ im = 1 := by omega
    rcases him' with h | h <;> subst h <;>
      simp only [intended, Nat.reduceEqDiff, if_true, if_false, interpolateRgb, List.cons_append, List.nil_append,
        rotApply, px4e, interpolateAlpha, a0, a1, e63, Nat.zero_ne_one]
    · exact interpolate_255 3 _ (by decide) (get_lt 3 x2 i (by decide))
    · exact interpolate_255 2 _ (by decide) (get_lt 2 x i (by decide))
  · subst h5 hr
    simp only [intended, Nat.reduceEqDiff, if_true, if_false, interpolateRgb, List.cons_append, List.nil_append,
      rotApply, px4e, interpolateAlpha, a0, a1, e255]
    exact interpolate_255 2 _ (by decide) (get_lt 2 x2 i (by decide))
  · subst h6
    simp only [intended, subsetOf, Nat.reduceEqDiff, if_true, if_false, interpolateRgba, pPromoteRgba, px4e,
      Nat.mul_zero, Nat.zero_add, a0, a1, p0, p1, e127, or_self]
    exact interpolate_255 4 _ (by decide) (get_lt 4 x i (by decide))
  · subst h7
    have hs : subset2Index (implP2 part) i ≤ 1 := by
      have hp : part < 64 := by simpa [modeShape] using hpart
      rw [← (subsetIndex_eq part i hp hi).1]
      exact Nat.le_of_lt_succ (specSubset_lt 2 part i (by decide) hp hi)
    simp only [intended, subsetOf, Nat.reduceEqDiff, if_true, if_false, interpolateRgba, pPromoteRgba, px4e, or_true,
      or_false]
    generalize subset2Index (implP2 part) i = s at hs ⊢
    have hs' : s = 0 ∨ s = 1 := by omega
    rcases hs' with h | h <;> subst h <;>
      simp only [Nat.reduceMul, Nat.reduceAdd, Nat.mul_zero, Nat.zero_add, (hall 0 (by decide)).1, (hall 1 (by decide)).1,
        (hall 2 (by decide)).1, (hall 3 (by decide)).1, (hall 0 (by decide)).2, (hall 1 (by decide)).2,
        (hall 2 (by decide)).2, (hall 3 (by decide)).2, e31] <;>
      exact interpolate_255 2 _ (by decide) (get_lt 2 x i (by decide))

end Dds.Enc7
