/-
C13 / BC7 writer: `compress_p1 / p2 / p3` against the decoder's `Indexes::new_p1 / p2 / p3`, for the code's
partition tables (all 64 + 64 partitions): the decoder gets the NORMALISED list back, in which every index of subset
`s` is inverted exactly when the writer reports `swap_s`.

The three functions are one scheme — `ensure_msb_zero` for each subset in turn (`ensureAll`), then
`compress_single_index` for each anchor — and are proved as instances of `compress_spec`, whose side conditions on the
code's partition tables (masks, anchors) are one evaluated checker (`stepsOK`).  What the writer uses is `Compresses`.
-/
import DdsModel.Proofs.Enc7Index
import DdsModel.Proofs.Bc7GlueCommon
namespace Dds.Enc7
open Dds Dds.BcTables Dds.Bc7


def maskOK (I m : Nat) (S : Nat → Bool) : Bool :=
  decide (m < 2 ^ (16 * I)) && (List.range 16).all fun i => fld m (i * I) I == (if S i then 2 ^ I - 1 else 0)

theorem maskOK_sound (I m : Nat) (S : Nat → Bool) (h : maskOK I m S = true) : IsMask I m S := by
  simp only [maskOK, Bool.and_eq_true, decide_eq_true_eq, List.all_eq_true, List.mem_range, beq_iff_eq] at h
  exact ⟨h.1, h.2⟩

def mask2 (I : Nat) (map : Nat × Nat) : Nat := if I = 2 then bitsRepeat2 map.1 else bitsRepeat3 map.1


/-- `ensure_msb_zero` for one subset after the other: `steps` lists (subset, its anchor pixel, its mask); the result
is the normalised word and the swap flag of every subset -/
def ensureAll (I : Nat) : Nat → List (Nat × Nat × Nat) → Nat × (Nat → Bool)
  | x, [] => (x, fun _ => false)
  | x, (j, a, m) :: steps =>
    let r := ensureMsbZero I x a m
    let t := ensureAll I r.1 steps
    (t.1, fun s => if s = j then r.2 else t.2 s)

/-- With the mask of each subset `j` covering exactly the pixels `sub i = j`, and its anchor inside it: the anchors'
top bits end up 0, and the indexes of the subsets whose flag is set are inverted. -/
theorem ensureAll_spec (I : Nat) (sub : Nat → Nat) (hI : I = 2 ∨ I = 3 ∨ I = 4) (steps : List (Nat × Nat × Nat))
    (x : Nat) (hx : x < 2 ^ (16 * I)) (hj : steps.Pairwise (fun s t => s.1 ≠ t.1))
    (hs : ∀ st ∈ steps, st.2.1 < 16 ∧ sub st.2.1 = st.1 ∧ IsMask I st.2.2 (fun i => sub i == st.1)) :
    (ensureAll I x steps).1 < 2 ^ (16 * I) ∧
    (∀ st ∈ steps, (ensureAll I x steps).1.testBit (st.2.1 * I + I - 1) = false) ∧
    (∀ s, (∀ st ∈ steps, st.1 ≠ s) → (ensureAll I x steps).2 s = false) ∧
    ∀ i, i < 16 → get I (ensureAll I x steps).1 i =
      if (ensureAll I x steps).2 (sub i) then 2 ^ I - 1 - get I x i else get I x i := by
  induction steps generalizing x with
  | nil => exact ⟨hx, fun _ h => (List.not_mem_nil h).elim, fun _ _ => rfl, fun _ _ => rfl⟩
  | cons st steps ih =>
    obtain ⟨j, a, m⟩ := st
    obtain ⟨hj1, hj2⟩ := List.pairwise_cons.mp hj
    obtain ⟨ha, hsa, hm⟩ := hs _ (List.mem_cons_self ..)
    obtain ⟨r1, r2, r3⟩ := ensure_step I x a m _ hI ha hx hm (by simp [hsa])
    obtain ⟨t1, t2, t3, t4⟩ := ih _ r1 hj2 fun st h => hs st (List.mem_cons_of_mem _ h)
    have tj : (ensureAll I (ensureMsbZero I x a m).1 steps).2 j = false := t3 j fun st h => hj1 st h |>.symm
    refine ⟨t1, ?_, ?_, ?_⟩
    · intro st h
      rcases List.mem_cons.mp h with rfl | h
      · have := t4 a ha
        rw [hsa, tj] at this
        rw [show (ensureAll I x ((j, a, m) :: steps)).1 = (ensureAll I (ensureMsbZero I x a m).1 steps).1 from rfl,
          testBit_of_get_eq I _ _ a hI this]
        exact r2
      · exact t2 st h
    · intro s h
      show (if s = j then _ else _) = false
      rw [if_neg (fun e => h _ (List.mem_cons_self ..) e.symm)]
      exact t3 s fun st h' => h st (List.mem_cons_of_mem _ h')
    · intro i hi
      show get I (ensureAll I (ensureMsbZero I x a m).1 steps).1 i = if (if sub i = j then _ else _) = true then _ else _
      rw [t4 i hi, r3 i hi]
      by_cases e : sub i = j
      · simp [e, tj]
      · simp [e]

/-- everything `compress_spec` asks of the `ensure_msb_zero` steps (subset, anchor pixel, mask) and of the anchors handed to
`compress_single_index` (highest first): distinct subsets, each anchor a pixel of its subset, each mask the mask of its
subset, the anchors descending, below 16 and among the steps' -/
def stepsOK (I : Nat) (sub : Nat → Nat) (steps : List (Nat × Nat × Nat)) (as : List Nat) : Bool :=
  decide (steps.Pairwise fun s t => s.1 ≠ t.1) &&
  steps.all (fun st => decide (st.2.1 < 16) && sub st.2.1 == st.1 && maskOK I st.2.2 fun i => sub i == st.1) &&
  decide (as.Pairwise (· > ·)) && as.all (fun a => decide (a < 16) && (steps.map (·.2.1)).contains a) && !as.isEmpty

/-- normalise, then drop the anchors' top bits: the decoder's `Indexes::new_p*` with the same anchors reads the normalised
word back -/
theorem compress_spec (I : Nat) (sub : Nat → Nat) (hI : I = 2 ∨ I = 3 ∨ I = 4) (steps : List (Nat × Nat × Nat))
    (as : List Nat) (x : Nat) (rest : List (Nat × Nat)) (hx : x < 2 ^ (16 * I)) (h : stepsOK I sub steps as = true) :
    as.foldl (compressSingleIndex I) (ensureAll I x steps).1 < 2 ^ (16 * I - as.length) ∧
    newP I (fv ((as.foldl (compressSingleIndex I) (ensureAll I x steps).1, 16 * I - as.length) :: rest)) as =
      (⟨(ensureAll I x steps).1, I, getMask I⟩, fv rest) ∧
    ∀ i, i < 16 → get I (ensureAll I x steps).1 i =
      if (ensureAll I x steps).2 (sub i) then 2 ^ I - 1 - get I x i else get I x i := by
  simp only [stepsOK, Bool.and_eq_true, decide_eq_true_eq, List.all_eq_true, beq_iff_eq, List.contains_iff_mem,
    Bool.not_eq_true', List.isEmpty_eq_false_iff] at h
  obtain ⟨⟨⟨⟨hj, hs⟩, hd⟩, ha⟩, h0⟩ := h
  obtain ⟨t1, t2, _, t4⟩ := ensureAll_spec I sub hI steps x hx hj fun st hst =>
    ⟨(hs st hst).1.1, (hs st hst).1.2, maskOK_sound _ _ _ (hs st hst).2⟩
  obtain ⟨c1, c2⟩ := newP_compress I _ as rest hI hd (fun a h => (ha a h).1) (List.length_pos_iff.mpr h0) t1 fun a h => by
    obtain ⟨st, hst, e⟩ := List.mem_map.mp (ha a h).2
    exact e ▸ t2 st hst
  exact ⟨c1, c2, t4⟩

/-- the subset-ordered anchors of `compress_p3` -/
def s1Index (map : Nat × Nat × Nat) : Nat := if subset3Index map map.2.1 = 2 then map.2.2 else map.2.1
def s2Index (map : Nat × Nat × Nat) : Nat := if subset3Index map map.2.1 = 2 then map.2.1 else map.2.2

/-- subset, anchor and mask of the two `ensure_msb_zero` calls of `compress_p2` -/
def steps2 (I : Nat) (map : Nat × Nat) : List (Nat × Nat × Nat) :=
  [(0, 0, mask2 I map ^^^ INDEXES_MASK I), (1, map.2, mask2 I map)]

/-- subset, anchor and mask of the three `ensure_msb_zero` calls of `compress_p3` -/
def steps3 (I : Nat) (map : Nat × Nat × Nat) : List (Nat × Nat × Nat) :=
  [(0, 0, getMask3 I map 0), (1, s1Index map, getMask3 I map 1), (2, s2Index map, getMask3 I map 2)]

/-- the code's two tables, both index widths -/
def partOK (part : Nat) : Bool :=
  [2, 3].all fun I =>
    stepsOK I (subset2Index (implP2 part)) (steps2 I (implP2 part)) [(implP2 part).2, 0] &&
    stepsOK I (subset3Index (implP3 part)) (steps3 I (implP3 part)) [(implP3 part).2.2, (implP3 part).2.1, 0]

theorem partOK_all : ∀ part, part < 64 → partOK part = true := by decide +kernel

theorem oneOK (I : Nat) (hI : I = 2 ∨ I = 3 ∨ I = 4) : stepsOK I (fun _ => 0) [(0, 0, INDEXES_MASK I)] [0] = true := by
  rcases hI with rfl | rfl | rfl <;> decide +kernel

/-- What the writer needs of `compress_p1 / p2 / p3`: the compressed list `c` fits its width, and the decoder's
`Indexes::new_p*` (`readIdx`) reads from it, whatever follows, per pixel the index of `x`, inverted in the subsets `fl`
flags; `sub` is the code's subset table, which is the specification's. -/
structure Compresses (ns I part x : Nat) (c : Nat × Nat) (fl : Nat → Bool) (sub : Nat → Nat) : Prop where
  fits : c.1 < 2 ^ c.2
  bits : c.2 = 16 * I - ns
  read : ∀ rest i, i < 16 → Bc7.getIndex (readIdx ns I part (fv (c :: rest))) i =
    if fl (sub i) then 2 ^ I - 1 - get I x i else get I x i
  subset : ∀ i, i < 16 → specSubset ns part i = sub i

theorem compresses_of {ns I part x : Nat} {c : Nat × Nat} {fl : Nat → Bool} {sub : Nat → Nat} {y : Nat}
    (hI : I = 2 ∨ I = 3 ∨ I = 4) (hfit : c.1 < 2 ^ c.2) (hbits : c.2 = 16 * I - ns)
    (hnew : ∀ rest, readIdx ns I part (fv (c :: rest)) = ⟨y, I, getMask I⟩)
    (hget : ∀ i, i < 16 → get I y i = if fl (sub i) then 2 ^ I - 1 - get I x i else get I x i)
    (hsub : ∀ i, i < 16 → specSubset ns part i = sub i) : Compresses ns I part x c fl sub :=
  ⟨hfit, hbits, fun rest i hi => by rw [hnew rest, getIndex_eq_get I y i hI]; exact hget i hi, hsub⟩

theorem compresses1 (I x part : Nat) (hI : I = 2 ∨ I = 3 ∨ I = 4) (hx : x < 2 ^ (16 * I)) :
    Compresses 1 I part x (compressP1 I x).1 (ensureAll I x [(0, 0, INDEXES_MASK I)]).2 fun _ => 0 :=
  have h (rest) := compress_spec I (fun _ => 0) hI _ [0] x rest hx (oneOK I hI)
  compresses_of hI (h []).1 rfl (fun rest => congrArg Prod.fst (h rest).2.1) (h []).2.2 fun i _ => Bc7.specSubset1 part i

theorem compresses2 (I x part : Nat) (hI : I = 2 ∨ I = 3) (hx : x < 2 ^ (16 * I)) (hp : part < 64) :
    Compresses 2 I part x (compressP2 I x (implP2 part)).1 (ensureAll I x (steps2 I (implP2 part))).2
      (subset2Index (implP2 part)) := by
  have hok : stepsOK I (subset2Index (implP2 part)) (steps2 I (implP2 part)) [(implP2 part).2, 0] = true := by
    have := partOK_all part hp
    simp only [partOK, List.all_eq_true, Bool.and_eq_true] at this
    exact (this I (by rcases hI with rfl | rfl <;> simp)).1
  have h (rest) := compress_spec I _ (by omega) _ _ x rest hx hok
  exact compresses_of (by omega) (h []).1 rfl (fun rest => congrArg Prod.fst (h rest).2.1) (h []).2.2
    fun i hi => (subset2Index_eq part i hp hi).symm

theorem compresses3 (I x part : Nat) (hI : I = 2 ∨ I = 3) (hx : x < 2 ^ (16 * I)) (hp : part < 64) :
    Compresses 3 I part x (compressP3 I x (implP3 part)).1 (ensureAll I x (steps3 I (implP3 part))).2
      (subset3Index (implP3 part)) := by
  have hok : stepsOK I (subset3Index (implP3 part)) (steps3 I (implP3 part))
      [(implP3 part).2.2, (implP3 part).2.1, 0] = true := by
    have := partOK_all part hp
    simp only [partOK, List.all_eq_true, Bool.and_eq_true] at this
    exact (this I (by rcases hI with rfl | rfl <;> simp)).2
  have h (rest) := compress_spec I _ (by omega) _ _ x rest hx hok
  exact compresses_of (by omega) (h []).1 rfl (fun rest => congrArg Prod.fst (h rest).2.1) (h []).2.2
    fun i hi => (subset3Index_eq part i hp hi).symm

end Dds.Enc7
