/-
C15: the binary32 UNORM quantisers `(x.min(1.0) * MAX + 0.5) as uN` on bit patterns stay at or
below `MAX` for EVERY pattern: NaN goes to 1.0 through `min`, negative values (−∞, −0.0 included)
give a non-positive product, `+ 0.5` is then at most 0.5 and the cast gives 0; on `[0, 1.0]` the
pipeline `(x * MAX + 0.5) as uN` is monotone (`F32Mono.pipe_mono`) and its value at 1.0 is `MAX`.
-/
import DdsModel.Proofs.SharedExpChan
import DdsModel.Proofs.EncQuant
namespace Dds.EncTotal.QuantBits
open Dds.CF32 Dds.EncTotal.SharedExp Dds.RoundPack
open Dds.ConvFast (posfin)
open Dds.F32Mono (pipe pipe_mono pval pval_mono toNatSat_pval)

/-- a negative non-NaN pattern: `-0.0` … `-∞` -/
def NegR (p : Nat) : Prop := signBit ≤ p ∧ p ≤ signBit + posInf

theorem negR_flags (p : Nat) (h : NegR p) : isNaN p = false ∧ isNeg p = true := by
  obtain ⟨h1, h2⟩ := h
  constructor
  · apply Bool.eq_false_iff.mpr
    rw [Ne, isNaN_iff]
    simp only [signBit, posInf] at h1 h2
    omega
  · unfold isNeg; simpa using h1

theorem toNatSat_neg (p M : Nat) (h : NegR p) : toNatSat p M = 0 :=
  toNatSat_of_neg p M (negR_flags p h).1 (negR_flags p h).2

theorem roundPack_true_negR (m : Nat) (e : Int) : NegR (roundPack true m e) := by
  rw [roundPack_eq]
  exact roundPackG_true 23 126 m e

/-- a negative (or `-0.0`, `-∞`) operand times a positive finite non-zero constant is negative
(or `-0.0`, `-∞`), never NaN -/
theorem fmul_neg (x kp : Nat) (hx : NegR x) (hk : kp < posInf) (hk0 : isZero kp = false) :
    NegR (fmul x kp) := by
  obtain ⟨a1, a2⟩ := negR_flags x hx
  obtain ⟨b1, b2, b3, _, _⟩ := posfin kp hk
  by_cases hi : isInf x = true
  · rw [fmul_inf_left x kp hi b1 hk0, a2, b3]
    exact ⟨by decide, by decide⟩
  · rw [fmul_fin x kp a1 (by simpa using hi) b1 b2, a2, b3]
    exact roundPack_true_negR _ _

theorem toNatSat_small (x M : Nat) (h : x ≤ half) : toNatSat x M = 0 := by
  have h1 : pval x ≤ pval half := pval_mono h
  rw [show pval half = 2 ^ 148 by decide +kernel] at h1
  rw [toNatSat_pval x M (Nat.lt_of_le_of_lt h (by decide)),
    Nat.div_eq_of_lt (Nat.lt_of_le_of_lt h1 (by decide))]
  exact Nat.min_zero M

/-- a non-positive, non-NaN `p` plus 0.5 is negative, a zero, or at most 0.5 -/
theorem fadd_neg_half (p : Nat) (hp : NegR p) : NegR (fadd p half) ∨ fadd p half ≤ half := by
  obtain ⟨a1, a2⟩ := negR_flags p hp
  obtain ⟨b1, b2, b3, b4, b5⟩ := half_facts
  by_cases hi : isInf p = true
  · rw [fadd_inf_left p half a1 hi b1 b2]; exact Or.inl hp
  rw [fadd_fin p half a1 (by simpa using hi) b1 b2]
  simp only [a2, b3, b4, b5, if_true, Bool.false_eq_true, if_false, Bool.and_false]
  generalize he : min (expo p) (-24) = e
  have hB : 2 ^ 23 <<< (-24 - e).toNat = 2 ^ 23 * 2 ^ (-24 - e).toNat := Nat.shiftLeft_eq _ _
  generalize mant p <<< (expo p - e).toNat = A
  generalize 2 ^ 23 <<< (-24 - e).toNat = B at *
  by_cases h0 : (-(A : Int) + (B : Int) == 0) = true
  · rw [if_pos h0]; exact Or.inr (Nat.zero_le _)
  rw [if_neg h0]
  have hne : -(A : Int) + (B : Int) ≠ 0 := by simpa using h0
  by_cases hneg : -(A : Int) + (B : Int) < 0
  · simp only [hneg, decide_true]
    exact Or.inl (roundPack_true_negR _ _)
  · simp only [hneg, decide_false]
    have hle : (-(A : Int) + (B : Int)).natAbs ≤ 2 ^ 23 * 2 ^ (-24 - e).toNat := by omega
    rw [roundPack_eq]
    exact Or.inr (roundPackG_le_half 23 126 _ e (by omega) (by decide) (by omega) hle)

/-- `(x * K + 0.5) as uN` of a non-positive, non-NaN `x` (`K` positive finite) is 0 -/
theorem pipe_of_negR (K mx x : Nat) (hK : K < posInf) (hK0 : 0 < K) (hx : NegR x) :
    pipe K half mx x = 0 := by
  have hz : isZero K = false := by
    unfold isZero
    simp only [signBit, posInf, beq_eq_false_iff_ne] at hK ⊢
    omega
  rcases fadd_neg_half _ (fmul_neg x K hx hK hz) with h | h
  · exact toNatSat_neg _ _ h
  · exact toNatSat_small _ _ h

theorem fmin_of_nan (x : Nat) (h : isNaN x = true) : fmin x one = one := by
  unfold fmin; rw [if_pos h]

/-- `min` of a non-NaN pattern and 1.0, through the order key -/
theorem fmin_one_key (x : Nat) (hn : isNaN x = false) :
    fmin x one = if (one : Int) < key x then one else x :=
  fmin_key x one hn (by decide)

theorem fmin_of_le_one (x : Nat) (hx : x ≤ one) : fmin x one = x := by
  rw [fmin_one_key x (isNaN_of_le x (Nat.le_trans hx (by decide))),
    key_of_lt x (Nat.lt_of_le_of_lt hx (by decide)), if_neg (by omega)]

theorem fmin_of_ge_one (x : Nat) (h1 : one ≤ x) (h2 : x ≤ posInf) : fmin x one = one := by
  rw [fmin_one_key x (isNaN_of_le x h2), key_of_lt x (Nat.lt_of_le_of_lt h2 (by decide))]
  split
  · rfl
  · omega

theorem fmin_of_negR (x : Nat) (hx : NegR x) : fmin x one = x := by
  have : (0 : Int) < (one : Nat) := by decide
  rw [fmin_one_key x (negR_flags x hx).1, key_of_ge x hx.1, if_neg (by omega)]

theorem fmin_one_cases (x : Nat) (hx : x < 2 ^ 32) :
    fmin x one = one ∨ (fmin x one = x ∧ (NegR x ∨ x ≤ one)) := by
  by_cases hn : isNaN x = true
  · exact Or.inl (fmin_of_nan x hn)
  by_cases hs : x < signBit
  · have hle : x ≤ posInf := by
      have := mt (isNaN_iff x).mpr hn
      simp only [signBit, posInf] at hs ⊢
      omega
    by_cases h1 : x ≤ one
    · exact Or.inr ⟨fmin_of_le_one x h1, Or.inr h1⟩
    · exact Or.inl (fmin_of_ge_one x (by omega) hle)
  · have hN : NegR x := by
      have := mt (isNaN_iff x).mpr hn
      unfold NegR
      simp only [signBit, posInf] at hs ⊢
      omega
    exact Or.inr ⟨fmin_of_negR x hN, Or.inl hN⟩

/-- `L` is the value of the pipeline at `x = 1.0`, which NaN and everything above 1.0 are mapped
to and below which the pipeline is monotone -/
theorem unorm_le (K cap L x : Nat) (hx : x < 2 ^ 32) (hK : K < posInf) (hK0 : 0 < K)
    (hone : pipe K half cap one = L) : unorm K cap x ≤ L := by
  show pipe K half cap (fmin x one) ≤ L
  rcases fmin_one_cases x hx with h | ⟨h, hneg | hpos⟩ <;> rw [h]
  · exact Nat.le_of_eq hone
  · rw [pipe_of_negR K cap x hK hK0 hneg]; exact Nat.zero_le _
  · exact hone ▸ pipe_mono hK hK0 (by decide) hpos (by decide)

theorem n2_le (x : Nat) (hx : x < 2 ^ 32) : n2 x ≤ 3 :=
  unorm_le k3 255 3 x hx (by decide) (by decide) (by decide +kernel)

theorem n4_le (x : Nat) (hx : x < 2 ^ 32) : n4 x ≤ 15 :=
  unorm_le k15 255 15 x hx (by decide) (by decide) (by decide +kernel)

theorem n5_le (x : Nat) (hx : x < 2 ^ 32) : n5 x ≤ 31 :=
  unorm_le k31 255 31 x hx (by decide) (by decide) (by decide +kernel)

theorem n6_le (x : Nat) (hx : x < 2 ^ 32) : n6 x ≤ 63 :=
  unorm_le k63 255 63 x hx (by decide) (by decide) (by decide +kernel)

theorem n10_le (x : Nat) (hx : x < 2 ^ 32) : n10 x ≤ 1023 :=
  unorm_le k1023 65535 1023 x hx (by decide) (by decide) (by decide +kernel)

theorem norm254_le (x : Nat) (hx : x < 2 ^ 32) : unorm k254 255 x ≤ 254 :=
  unorm_le k254 255 254 x hx (by decide) (by decide) (by decide +kernel)

theorem n1_le (x : Nat) : n1 x ≤ 1 := by
  unfold n1; split <;> omega

/-- `s8::from_uf32`: the `debug_assert!(x <= 254)` holds, `x + 1` does not overflow `u8` -/
theorem s8_some (x : Nat) (hx : x < 2 ^ 32) : ∃ v, s8 x = some v ∧ v < 2 ^ 8 := by
  have h := norm254_le x hx
  unfold s8 snormFromNorm
  rw [if_pos (by omega)]
  exact ⟨_, rfl, Nat.mod_lt _ (by omega)⟩

theorem shl_eq (bits v s w : Nat) (hv : v < 2 ^ w) (hw : s + w ≤ bits) : shl bits v s = v <<< s := by
  unfold shl
  apply Nat.mod_eq_of_lt
  exact lt_pow_mono _ (s + w) bits (shiftLeft_lt_pow v s w hv) hw

theorem encode_b5g6r5 (r g b a : Nat) (hr : r < 2 ^ 32) (hg : g < 2 ^ 32) (hb : b < 2 ^ 32) :
    encode "B5G6R5_UNORM" r g b a = some (pack [(n5 b, 5), (n6 g, 6), (n5 r, 5)]) ∧
    pack [(n5 b, 5), (n6 g, 6), (n5 r, 5)] < 2 ^ 16 := by
  have h1 : n5 b < 2 ^ 5 := Nat.lt_succ_of_le (n5_le b hb)
  have h2 : n6 g < 2 ^ 6 := Nat.lt_succ_of_le (n6_le g hg)
  have h3 : n5 r < 2 ^ 5 := Nat.lt_succ_of_le (n5_le r hr)
  constructor
  · unfold encode
    simp only [shl_eq 16 _ 5 6 h2 (by omega), shl_eq 16 _ 11 5 h3 (by omega), pack,
      Nat.shiftLeft_or_distrib, ← Nat.shiftLeft_add, Nat.zero_shiftLeft, Nat.or_zero, Nat.or_assoc]
  · exact pack_lt _ (fits_cons h1 (fits_cons h2 (fits_cons h3 fits_nil)))

theorem encode_b5g5r5a1 (r g b a : Nat) (hr : r < 2 ^ 32) (hg : g < 2 ^ 32) (hb : b < 2 ^ 32) :
    encode "B5G5R5A1_UNORM" r g b a = some (pack [(n5 b, 5), (n5 g, 5), (n5 r, 5), (n1 a, 1)]) ∧
    pack [(n5 b, 5), (n5 g, 5), (n5 r, 5), (n1 a, 1)] < 2 ^ 16 := by
  have h1 : n5 b < 2 ^ 5 := Nat.lt_succ_of_le (n5_le b hb)
  have h2 : n5 g < 2 ^ 5 := Nat.lt_succ_of_le (n5_le g hg)
  have h3 : n5 r < 2 ^ 5 := Nat.lt_succ_of_le (n5_le r hr)
  have h4 : n1 a < 2 ^ 1 := Nat.lt_succ_of_le (n1_le a)
  constructor
  · unfold encode
    simp only [shl_eq 16 _ 5 5 h2 (by omega), shl_eq 16 _ 10 5 h3 (by omega),
      shl_eq 16 _ 15 1 h4 (by omega), pack, Nat.shiftLeft_or_distrib, ← Nat.shiftLeft_add,
      Nat.zero_shiftLeft, Nat.or_zero, Nat.or_assoc]
  · exact pack_lt _ (fits_cons h1 (fits_cons h2 (fits_cons h3 (fits_cons h4 fits_nil))))

theorem encode_b4g4r4a4 (r g b a : Nat) (hr : r < 2 ^ 32) (hg : g < 2 ^ 32) (hb : b < 2 ^ 32)
    (ha : a < 2 ^ 32) :
    encode "B4G4R4A4_UNORM" r g b a = some (pack [(n4 b, 4), (n4 g, 4), (n4 r, 4), (n4 a, 4)]) ∧
    pack [(n4 b, 4), (n4 g, 4), (n4 r, 4), (n4 a, 4)] < 2 ^ 16 ∧
    encode "A4B4G4R4_UNORM" r g b a = some (pack [(n4 a, 4), (n4 b, 4), (n4 g, 4), (n4 r, 4)]) ∧
    pack [(n4 a, 4), (n4 b, 4), (n4 g, 4), (n4 r, 4)] < 2 ^ 16 := by
  have h1 : n4 b < 2 ^ 4 := Nat.lt_succ_of_le (n4_le b hb)
  have h2 : n4 g < 2 ^ 4 := Nat.lt_succ_of_le (n4_le g hg)
  have h3 : n4 r < 2 ^ 4 := Nat.lt_succ_of_le (n4_le r hr)
  have h4 : n4 a < 2 ^ 4 := Nat.lt_succ_of_le (n4_le a ha)
  refine ⟨?_, ?_, ?_, ?_⟩
  · unfold encode
    simp only [shl_eq 16 _ 4 4 h2 (by omega), shl_eq 16 _ 8 4 h3 (by omega),
      shl_eq 16 _ 12 4 h4 (by omega), pack, Nat.shiftLeft_or_distrib, ← Nat.shiftLeft_add,
      Nat.zero_shiftLeft, Nat.or_zero, Nat.or_assoc]
  · exact pack_lt _ (fits_cons h1 (fits_cons h2 (fits_cons h3 (fits_cons h4 fits_nil))))
  · unfold encode
    simp only [shl_eq 16 _ 4 4 h1 (by omega), shl_eq 16 _ 8 4 h2 (by omega),
      shl_eq 16 _ 12 4 h3 (by omega), pack, Nat.shiftLeft_or_distrib, ← Nat.shiftLeft_add,
      Nat.zero_shiftLeft, Nat.or_zero, Nat.or_assoc]
  · exact pack_lt _ (fits_cons h4 (fits_cons h1 (fits_cons h2 (fits_cons h3 fits_nil))))

theorem encode_r10g10b10a2 (r g b a : Nat) (hr : r < 2 ^ 32) (hg : g < 2 ^ 32) (hb : b < 2 ^ 32)
    (ha : a < 2 ^ 32) :
    encode "R10G10B10A2_UNORM" r g b a =
      some (pack [(n10 r, 10), (n10 g, 10), (n10 b, 10), (n2 a, 2)]) ∧
    pack [(n10 r, 10), (n10 g, 10), (n10 b, 10), (n2 a, 2)] < 2 ^ 32 := by
  have h1 : n10 r < 2 ^ 10 := Nat.lt_succ_of_le (n10_le r hr)
  have h2 : n10 g < 2 ^ 10 := Nat.lt_succ_of_le (n10_le g hg)
  have h3 : n10 b < 2 ^ 10 := Nat.lt_succ_of_le (n10_le b hb)
  have h4 : n2 a < 2 ^ 2 := Nat.lt_succ_of_le (n2_le a ha)
  constructor
  · unfold encode
    simp only [shl_eq 32 _ 30 2 h4 (by omega), shl_eq 32 _ 20 10 h3 (by omega),
      shl_eq 32 _ 10 10 h2 (by omega), pack, Nat.shiftLeft_or_distrib, ← Nat.shiftLeft_add,
      Nat.zero_shiftLeft, Nat.or_zero]
    -- the source writes the fields from the top down
    congr 1
    generalize n2 a <<< 30 = A
    generalize n10 b <<< 20 = B
    generalize n10 g <<< 10 = G
    generalize n10 r = R
    rw [Nat.or_comm (A ||| B ||| G) R, Nat.or_comm (A ||| B) G, Nat.or_comm A B]
  · exact pack_lt _ (fits_cons h1 (fits_cons h2 (fits_cons h3 (fits_cons h4 fits_nil))))

theorem encode_rgba8_snorm (r g b a : Nat) (hr : r < 2 ^ 32) (hg : g < 2 ^ 32) (hb : b < 2 ^ 32)
    (ha : a < 2 ^ 32) :
    ∃ r' g' b' a', s8 r = some r' ∧ s8 g = some g' ∧ s8 b = some b' ∧ s8 a = some a' ∧
      encode "R8G8B8A8_SNORM" r g b a = some (pack [(r', 8), (g', 8), (b', 8), (a', 8)]) ∧
      pack [(r', 8), (g', 8), (b', 8), (a', 8)] < 2 ^ 32 := by
  obtain ⟨r', e1, h1⟩ := s8_some r hr
  obtain ⟨g', e2, h2⟩ := s8_some g hg
  obtain ⟨b', e3, h3⟩ := s8_some b hb
  obtain ⟨a', e4, h4⟩ := s8_some a ha
  refine ⟨r', g', b', a', e1, e2, e3, e4, ?_, ?_⟩
  · unfold encode
    simp only [e1, e2, e3, e4, pack, Nat.shiftLeft_or_distrib, ← Nat.shiftLeft_add,
      Nat.zero_shiftLeft, Nat.or_zero, Nat.or_assoc]
  · exact pack_lt _ (fits_cons h1 (fits_cons h2 (fits_cons h3 (fits_cons h4 fits_nil))))

end Dds.EncTotal.QuantBits
