/-
Specification side of C04 on integers: `roundF32 (mkRat N D)` and `toCode max (mkRat N D)` evaluated with the
kernel-accelerated primitives (the rational specification itself goes through normalised `Rat` fractions, `Int`
and `Decidable` instances, which the kernel evaluates by unfolding).  Every equality is proved for ALL arguments.
-/
import DdsModel.Proofs.ConvFast
import DdsModel.ConvSpec
import DdsModel.Proofs.Quant
import DdsModel.Proofs.NearestCode
namespace Dds.ConvFast
open Dds Dds.CF32 Dds.Spec
open Dds.F32.Raw (sel nadd nsub nmul ndiv nmod npow nshl sel_ble sel_blt sel_beq ble_dec blt_dec beq_dec sel_dec)
open Dds.F32.Fast (lg lg_eq)

theorem pow2_eq : CF32.pow2 = F32.pow2 := rfl


/-- `roundF32 (N / D)`: the reduced fraction `n / d`, `k` more bits so that the quotient has 34 or 35, a sticky bit -/
def rndR (N D : Nat) : Nat :=
  sel (Nat.beq D 0) 0
    (let g := Nat.gcd D N
     let n := Nat.div N g
     let d := Nat.div D g
     let k := Nat.sub (Nat.add (lgA d) 34) (lgA n)
     sel (Nat.ble k 999)
       (let num := Nat.shiftLeft n k
        rpH (Nat.add (Nat.mul 2 (Nat.div num d)) (Nat.sub 1 (Nat.sub 1 (Nat.mod num d)))) (Nat.sub 999 k) 34)
       (roundF32 (mkRat N D)))

theorem roundF32_unfold (q : Rat) : roundF32 q =
    if (q.num == 0) = true then 0 else
      roundPack (decide (q.num < 0))
        (2 * (q.num.natAbs <<< (Nat.log2 q.den + 34 - Nat.log2 q.num.natAbs) / q.den) +
          if (q.num.natAbs <<< (Nat.log2 q.den + 34 - Nat.log2 q.num.natAbs) % q.den == 0) = true then 0 else 1)
        (-((Nat.log2 q.den + 34 - Nat.log2 q.num.natAbs : Nat) : Int) - 1) := by
  unfold roundF32
  simp only [force_eq, forceI_eq]

theorem rndR_eq (N D : Nat) : rndR N D = roundF32 (mkRat N D) := by
  unfold rndR
  rw [sel_beq]
  by_cases hD : D = 0
  · rw [if_pos hD, hD, Rat.mkRat_zero]; rfl
  · rw [if_neg hD]
    have h1 : (N : Int) / ((D.gcd N : Nat) : Int) = ((N / D.gcd N : Nat) : Int) := (Int.natCast_ediv _ _).symm
    have hu : roundF32 (mkRat N D) = _ := roundF32_unfold (mkRat N D)
    rw [Rat.num_mkRat, Rat.den_mkRat, if_neg hD, if_neg hD, Int.natAbs_natCast, h1, Int.natAbs_natCast] at hu
    simp only [lgA_eq, nadd, nsub, nmul, ndiv, nmod, nshl, sel_ble]
    generalize N / D.gcd N = n at *
    generalize D / D.gcd N = d at *
    by_cases hk : Nat.log2 d + 34 - Nat.log2 n ≤ 999
    · rw [if_pos hk, rpH_eq, hu]
      generalize Nat.log2 d + 34 - Nat.log2 n = k at *
      have e3 : (((999 - k : Nat) : Int) - 1000) = -(k : Int) - 1 := by omega
      have e4 : 1 - (1 - n <<< k % d) = if (n <<< k % d == 0) = true then 0 else 1 := by
        simp only [beq_iff_eq]; split <;> omega
      rw [e3, e4]
      by_cases hn0 : n = 0
      · subst hn0
        have e1 : (((0 : Nat) : Int) == 0) = true := rfl
        rw [if_pos e1, Nat.zero_shiftLeft, Nat.zero_div, Nat.zero_mod]
        exact roundPack_zero false _
      · have e1 : ¬ (((n : Nat) : Int) == 0) = true := by simp; omega
        have e2 : ¬ (((n : Nat) : Int) < 0) := by omega
        rw [if_neg e1, decide_eq_false e2]
    · rw [if_neg hk]

theorem roundF32_neg (q : Rat) (h : 0 < q.num) : roundF32 (-q) = signBit + roundF32 q := by
  rw [roundF32_unfold, roundF32_unfold, Rat.neg_num, Rat.neg_den, Int.natAbs_neg]
  have e1 : ¬ ((-q.num == 0) = true) := by intro h'; have := eq_of_beq h'; omega
  have e2 : ¬ ((q.num == 0) = true) := by intro h'; have := eq_of_beq h'; omega
  have e3 : -q.num < 0 := by omega
  have e4 : ¬ q.num < 0 := by omega
  rw [if_neg e1, if_neg e2, decide_eq_true e3, decide_eq_false e4, roundPack_sign]

theorem num_mkRat_nat (N D : Nat) (hD : D ≠ 0) : (mkRat N D).num = ((N / D.gcd N : Nat) : Int) := by
  rw [Rat.num_mkRat, if_neg hD, Int.natAbs_natCast]
  exact (Int.natCast_ediv _ _).symm

theorem num_mkRat_pos (N D : Nat) (hD : D ≠ 0) (hN : N ≠ 0) : 0 < (mkRat N D).num := by
  rw [num_mkRat_nat N D hD]
  have hg : 0 < D.gcd N := Nat.gcd_pos_of_pos_left _ (Nat.pos_of_ne_zero hD)
  have : D.gcd N ≤ N := Nat.le_of_dvd (Nat.pos_of_ne_zero hN) (Nat.gcd_dvd_right D N)
  have : 0 < N / D.gcd N := Nat.div_pos this hg
  omega


theorem mkRat_nonneg (N D : Nat) : 0 ≤ mkRat N D := by
  by_cases hD : D = 0
  · rw [hD, Rat.mkRat_zero]; exact Rat.le_refl
  · rw [← Rat.num_nonneg, num_mkRat_nat N D hD]; exact Int.natCast_nonneg _

theorem clamp01_nonpos (q : Rat) (h : q ≤ 0) : clamp01 q = 0 := by
  unfold clamp01
  have h1 : ¬ (1 : Rat) ≤ q := by
    intro h'
    have : (1 : Rat) ≤ 0 := Rat.le_trans h' h
    exact absurd this (by decide)
  rw [Rat.min_def, if_neg h1, Rat.max_def]
  split
  · rename_i h0; exact Rat.le_antisymm h h0
  · rfl

theorem toCode_nonpos (mx : Nat) (q : Rat) (h : q ≤ 0) : toCode mx q = 0 := by
  unfold toCode nearest
  rw [clamp01_nonpos q h, Rat.mul_zero, Rat.zero_add]
  decide +kernel

theorem toCode_neg_mkRat (mx N D : Nat) : toCode mx (-(mkRat N D)) = 0 := by
  apply toCode_nonpos
  have := mkRat_nonneg N D
  rw [← Rat.neg_le_neg_iff, Rat.neg_neg]
  exact this

theorem mkRat_eq_natDiv (N D : Nat) : mkRat N D = (N : Rat) / (D : Rat) := by
  rw [Rat.mkRat_eq_div]; rfl

theorem one_le_mkRat (N D : Nat) (hD : D ≠ 0) : (1 : Rat) ≤ mkRat N D ↔ D ≤ N := by
  rw [← Rat.not_lt, mkRat_eq_natDiv, Rat.div_lt_iff (Rat.natCast_pos.mpr (Nat.pos_of_ne_zero hD)), Rat.one_mul,
    Rat.natCast_lt_natCast]
  omega

theorem floor_mkRat (A B : Nat) (hB : B ≠ 0) : (mkRat A B).floor = ((A / B : Nat) : Int) := by
  rw [mkRat_eq_natDiv, floor_natCast_div A B (Nat.pos_of_ne_zero hB)]

/-- nearest code (tie up) of the clamped fraction `N / D` -/
def codeR (mx N D : Nat) : Nat :=
  sel (Nat.ble D N) mx (Nat.div (Nat.add (Nat.mul (Nat.mul 2 mx) N) D) (Nat.mul 2 D))

theorem toCode_mkRat (mx N D : Nat) (hD : D ≠ 0) : toCode mx (mkRat N D) = ((codeR mx N D : Nat) : Int) := by
  have hD' := Nat.pos_of_ne_zero hD
  have hq : clamp01 (mkRat N D) = ((min N D : Nat) : Rat) / (D : Rat) := by
    rw [mkRat_eq_natDiv]; exact clamp01_ratio (N : Int) D hD'
  rw [(toCode_isTie_ratio (mx := mx) hD' hq).1, Quant.qRatio_min mx N D hD']
  unfold codeR
  rw [sel_ble, nadd, nmul, nmul, nmul, ndiv]

end Dds.ConvFast
