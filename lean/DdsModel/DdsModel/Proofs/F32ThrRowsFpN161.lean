/-
`fp::n16` / `n16::from_f32`: `(x * 65535.0 + 0.5) as u16`: threshold table, codes 8193 … 16384,
checked by kernel evaluation of `chkList` (`Proofs/F32Thr.lean`).  GENERATED by tools/gen_f32thr.py (the
script is not trusted: every entry is validated here).  Entry `2t + d`: `t` = first pattern whose result is ≥ k,
`d = 1` iff `t` is still below the exact tie `(2k−1)/(2·65535)` (its result is one code too high).
-/
import DdsModel.Proofs.F32Thr
namespace Dds.F32Thr.FpN16
-- the elaborator's default recursion depth does not suffice for a list literal of 2048 numerals
set_option maxRecDepth 100000

@[irreducible] def c4 : List Nat :=
  [2080376065, 2080378113, 2080380161, 2080382209, 2080384257, 2080386305, 2080388353, 2080390401, 2080392449,
   2080394497, 2080396545, 2080398593, 2080400641, 2080402689, 2080404737, 2080406785, 2080408833, 2080410881,
   2080412929, 2080414977, 2080417025, 2080419073, 2080421121, 2080423169, 2080425217, 2080427265, 2080429313,
   2080431361, 2080433409, 2080435457, 2080437505, 2080439553, 2080441602, 2080443650, 2080445698, 2080447746,
   2080449794, 2080451842, 2080453890, 2080455938, 2080457986, 2080460034, 2080462082, 2080464130, 2080466178,
   2080468226, 2080470274, 2080472322, 2080474370, 2080476418, 2080478466, 2080480514, 2080482562, 2080484610,
   2080486658, 2080488706, 2080490754, 2080492802, 2080494850, 2080496898, 2080498946, 2080500994, 2080503042,
   2080505090, 2080507139, 2080509187, 2080511235, 2080513283, 2080515331, 2080517379, 2080519427, 2080521475,
   2080523523, 2080525571, 2080527619, 2080529667, 2080531715, 2080533763, 2080535811, 2080537859, 2080539907,
   2080541955, 2080544003, 2080546051, 2080548099, 2080550147, 2080552195, 2080554243, 2080556291, 2080558339,
   2080560387, 2080562435, 2080564483, 2080566531, 2080568579, 2080570627, 2080572676, 2080574724, 2080576772,
   2080578820, 2080580868, 2080582916, 2080584964, 2080587012, 2080589060, 2080591108, 2080593156, 2080595204,
   2080597252, 2080599300, 2080601348, 2080603396, 2080605444, 2080607492, 2080609540, 2080611588, 2080613636,
   2080615684, 2080617732, 2080619780, 2080621828, 2080623876, 2080625924, 2080627972, 2080630020, 2080632068,
   2080634116, 2080636164, 2080638213, 2080640261, 2080642309, 2080644357, 2080646405, 2080648453, 2080650501,
   2080652549, 2080654597, 2080656645, 2080658693, 2080660741, 2080662789, 2080664837, 2080666885, 2080668933,
   2080670981, 2080673029, 2080675077, 2080677125, 2080679173, 2080681221, 2080683269, 2080685317, 2080687365,
   2080689413, 2080691461, 2080693509, 2080695557, 2080697605, 2080699653, 2080701701, 2080703750, 2080705798,
   2080707846, 2080709894, 2080711942, 2080713990, 2080716038, 2080718086, 2080720134, 2080722182, 2080724230,
   2080726278, 2080728326, 2080730374, 2080732422, 2080734470, 2080736518, 2080738566, 2080740614, 2080742662,
   2080744710, 2080746758, 2080748806, 2080750854, 2080752902, 2080754950, 2080756998, 2080759046, 2080761094,
   2080763142, 2080765190, 2080767238, 2080769287, 2080771335, 2080773383, 2080775431, 2080777479, 2080779527,
   2080781575, 2080783623, 2080785671, 2080787719, 2080789767, 2080791815, 2080793863, 2080795911, 2080797959,
   2080800007, 2080802055, 2080804103, 2080806151, 2080808199, 2080810247, 2080812295, 2080814343, 2080816391,
   2080818439, 2080820487, 2080822535, 2080824583, 2080826631, 2080828679, 2080830727, 2080832775, 2080834824,
   2080836872, 2080838920, 2080840968, 2080843016, 2080845064, 2080847112, 2080849160, 2080851208, 2080853256,
   2080855304, 2080857352, 2080859400, 2080861448, 2080863496, 2080865544, 2080867592, 2080869640, 2080871688,
   2080873736, 2080875784, 2080877832, 2080879880, 2080881928, 2080883976, 2080886024, 2080888072, 2080890120,
   2080892168, 2080894216, 2080896264, 2080898312, 2080900361, 2080902409, 2080904457, 2080906505, 2080908553,
   2080910601, 2080912649, 2080914697, 2080916745, 2080918793, 2080920841, 2080922889, 2080924937, 2080926985,
   2080929033, 2080931081, 2080933129, 2080935177, 2080937225, 2080939273, 2080941321, 2080943369, 2080945417,
   2080947465, 2080949513, 2080951561, 2080953609, 2080955657, 2080957705, 2080959753, 2080961801, 2080963849,
   2080965898, 2080967946, 2080969994, 2080972042, 2080974090, 2080976138, 2080978186, 2080980234, 2080982282,
   2080984330, 2080986378, 2080988426, 2080990474, 2080992522, 2080994570, 2080996618, 2080998666, 2081000714,
   2081002762, 2081004810, 2081006858, 2081008906, 2081010954, 2081013002, 2081015050, 2081017098, 2081019146,
   2081021194, 2081023242, 2081025290, 2081027338, 2081029386, 2081031435, 2081033483, 2081035531, 2081037579,
   2081039627, 2081041675, 2081043723, 2081045771, 2081047819, 2081049867, 2081051915, 2081053963, 2081056011,
   2081058059, 2081060107, 2081062155, 2081064203, 2081066251, 2081068299, 2081070347, 2081072395, 2081074443,
   2081076491, 2081078539, 2081080587, 2081082635, 2081084683, 2081086731, 2081088779, 2081090827, 2081092875,
   2081094923, 2081096972, 2081099020, 2081101068, 2081103116, 2081105164, 2081107212, 2081109260, 2081111308,
   2081113356, 2081115404, 2081117452, 2081119500, 2081121548, 2081123596, 2081125644, 2081127692, 2081129740,
   2081131788, 2081133836, 2081135884, 2081137932, 2081139980, 2081142028, 2081144076, 2081146124, 2081148172,
   2081150220, 2081152268, 2081154316, 2081156364, 2081158412, 2081160460, 2081162509, 2081164557, 2081166605,
   2081168653, 2081170701, 2081172749, 2081174797, 2081176845, 2081178893, 2081180941, 2081182989, 2081185037,
   2081187085, 2081189133, 2081191181, 2081193229, 2081195277, 2081197325, 2081199373, 2081201421, 2081203469,
   2081205517, 2081207565, 2081209613, 2081211661, 2081213709, 2081215757, 2081217805, 2081219853, 2081221901,
   2081223949, 2081225997, 2081228046, 2081230094, 2081232142, 2081234190, 2081236238, 2081238286, 2081240334,
   2081242382, 2081244430, 2081246478, 2081248526, 2081250574, 2081252622, 2081254670, 2081256718, 2081258766,
   2081260814, 2081262862, 2081264910, 2081266958, 2081269006, 2081271054, 2081273102, 2081275150, 2081277198,
   2081279246, 2081281294, 2081283342, 2081285390, 2081287438, 2081289486, 2081291534, 2081293583, 2081295631,
   2081297679, 2081299727, 2081301775, 2081303823, 2081305871, 2081307919, 2081309967, 2081312015, 2081314063,
   2081316111, 2081318159, 2081320207, 2081322255, 2081324303, 2081326351, 2081328399, 2081330447, 2081332495,
   2081334543, 2081336591, 2081338639, 2081340687, 2081342735, 2081344783, 2081346831, 2081348879, 2081350927,
   2081352975, 2081355023, 2081357071, 2081359120, 2081361168, 2081363216, 2081365264, 2081367312, 2081369360,
   2081371408, 2081373456, 2081375504, 2081377552, 2081379600, 2081381648, 2081383696, 2081385744, 2081387792,
   2081389840, 2081391888, 2081393936, 2081395984, 2081398032, 2081400080, 2081402128, 2081404176, 2081406224,
   2081408272, 2081410320, 2081412368, 2081414416, 2081416464, 2081418512, 2081420560, 2081422608, 2081424657,
   2081426705, 2081428753, 2081430801, 2081432849, 2081434897, 2081436945, 2081438993, 2081441041, 2081443089,
   2081445137, 2081447185, 2081449233, 2081451281, 2081453329, 2081455377, 2081457425, 2081459473, 2081461521,
   2081463569, 2081465617, 2081467665, 2081469713, 2081471761, 2081473809, 2081475857, 2081477905, 2081479953,
   2081482001, 2081484049, 2081486097, 2081488145, 2081490194, 2081492242, 2081494290, 2081496338, 2081498386,
   2081500434, 2081502482, 2081504530, 2081506578, 2081508626, 2081510674, 2081512722, 2081514770, 2081516818,
   2081518866, 2081520914, 2081522962, 2081525010, 2081527058, 2081529106, 2081531154, 2081533202, 2081535250,
   2081537298, 2081539346, 2081541394, 2081543442, 2081545490, 2081547538, 2081549586, 2081551634, 2081553682,
   2081555731, 2081557779, 2081559827, 2081561875, 2081563923, 2081565971, 2081568019, 2081570067, 2081572115,
   2081574163, 2081576211, 2081578259, 2081580307, 2081582355, 2081584403, 2081586451, 2081588499, 2081590547,
   2081592595, 2081594643, 2081596691, 2081598739, 2081600787, 2081602835, 2081604883, 2081606931, 2081608979,
   2081611027, 2081613075, 2081615123, 2081617171, 2081619219, 2081621268, 2081623316, 2081625364, 2081627412,
   2081629460, 2081631508, 2081633556, 2081635604, 2081637652, 2081639700, 2081641748, 2081643796, 2081645844,
   2081647892, 2081649940, 2081651988, 2081654036, 2081656084, 2081658132, 2081660180, 2081662228, 2081664276,
   2081666324, 2081668372, 2081670420, 2081672468, 2081674516, 2081676564, 2081678612, 2081680660, 2081682708,
   2081684756, 2081686805, 2081688853, 2081690901, 2081692949, 2081694997, 2081697045, 2081699093, 2081701141,
   2081703189, 2081705237, 2081707285, 2081709333, 2081711381, 2081713429, 2081715477, 2081717525, 2081719573,
   2081721621, 2081723669, 2081725717, 2081727765, 2081729813, 2081731861, 2081733909, 2081735957, 2081738005,
   2081740053, 2081742101, 2081744149, 2081746197, 2081748245, 2081750293, 2081752342, 2081754390, 2081756438,
   2081758486, 2081760534, 2081762582, 2081764630, 2081766678, 2081768726, 2081770774, 2081772822, 2081774870,
   2081776918, 2081778966, 2081781014, 2081783062, 2081785110, 2081787158, 2081789206, 2081791254, 2081793302,
   2081795350, 2081797398, 2081799446, 2081801494, 2081803542, 2081805590, 2081807638, 2081809686, 2081811734,
   2081813782, 2081815830, 2081817879, 2081819927, 2081821975, 2081824023, 2081826071, 2081828119, 2081830167,
   2081832215, 2081834263, 2081836311, 2081838359, 2081840407, 2081842455, 2081844503, 2081846551, 2081848599,
   2081850647, 2081852695, 2081854743, 2081856791, 2081858839, 2081860887, 2081862935, 2081864983, 2081867031,
   2081869079, 2081871127, 2081873175, 2081875223, 2081877271, 2081879319, 2081881367, 2081883416, 2081885464,
   2081887512, 2081889560, 2081891608, 2081893656, 2081895704, 2081897752, 2081899800, 2081901848, 2081903896,
   2081905944, 2081907992, 2081910040, 2081912088, 2081914136, 2081916184, 2081918232, 2081920280, 2081922328,
   2081924376, 2081926424, 2081928472, 2081930520, 2081932568, 2081934616, 2081936664, 2081938712, 2081940760,
   2081942808, 2081944856, 2081946904, 2081948953, 2081951001, 2081953049, 2081955097, 2081957145, 2081959193,
   2081961241, 2081963289, 2081965337, 2081967385, 2081969433, 2081971481, 2081973529, 2081975577, 2081977625,
   2081979673, 2081981721, 2081983769, 2081985817, 2081987865, 2081989913, 2081991961, 2081994009, 2081996057,
   2081998105, 2082000153, 2082002201, 2082004249, 2082006297, 2082008345, 2082010393, 2082012441, 2082014490,
   2082016538, 2082018586, 2082020634, 2082022682, 2082024730, 2082026778, 2082028826, 2082030874, 2082032922,
   2082034970, 2082037018, 2082039066, 2082041114, 2082043162, 2082045210, 2082047258, 2082049306, 2082051354,
   2082053402, 2082055450, 2082057498, 2082059546, 2082061594, 2082063642, 2082065690, 2082067738, 2082069786,
   2082071834, 2082073882, 2082075930, 2082077978, 2082080027, 2082082075, 2082084123, 2082086171, 2082088219,
   2082090267, 2082092315, 2082094363, 2082096411, 2082098459, 2082100507, 2082102555, 2082104603, 2082106651,
   2082108699, 2082110747, 2082112795, 2082114843, 2082116891, 2082118939, 2082120987, 2082123035, 2082125083,
   2082127131, 2082129179, 2082131227, 2082133275, 2082135323, 2082137371, 2082139419, 2082141467, 2082143515,
   2082145564, 2082147612, 2082149660, 2082151708, 2082153756, 2082155804, 2082157852, 2082159900, 2082161948,
   2082163996, 2082166044, 2082168092, 2082170140, 2082172188, 2082174236, 2082176284, 2082178332, 2082180380,
   2082182428, 2082184476, 2082186524, 2082188572, 2082190620, 2082192668, 2082194716, 2082196764, 2082198812,
   2082200860, 2082202908, 2082204956, 2082207004, 2082209052, 2082211101, 2082213149, 2082215197, 2082217245,
   2082219293, 2082221341, 2082223389, 2082225437, 2082227485, 2082229533, 2082231581, 2082233629, 2082235677,
   2082237725, 2082239773, 2082241821, 2082243869, 2082245917, 2082247965, 2082250013, 2082252061, 2082254109,
   2082256157, 2082258205, 2082260253, 2082262301, 2082264349, 2082266397, 2082268445, 2082270493, 2082272541,
   2082274589, 2082276638, 2082278686, 2082280734, 2082282782, 2082284830, 2082286878, 2082288926, 2082290974,
   2082293022, 2082295070, 2082297118, 2082299166, 2082301214, 2082303262, 2082305310, 2082307358, 2082309406,
   2082311454, 2082313502, 2082315550, 2082317598, 2082319646, 2082321694, 2082323742, 2082325790, 2082327838,
   2082329886, 2082331934, 2082333982, 2082336030, 2082338078, 2082340126, 2082342175, 2082344223, 2082346271,
   2082348319, 2082350367, 2082352415, 2082354463, 2082356511, 2082358559, 2082360607, 2082362655, 2082364703,
   2082366751, 2082368799, 2082370847, 2082372895, 2082374943, 2082376991, 2082379039, 2082381087, 2082383135,
   2082385183, 2082387231, 2082389279, 2082391327, 2082393375, 2082395423, 2082397471, 2082399519, 2082401567,
   2082403615, 2082405663, 2082407712, 2082409760, 2082411808, 2082413856, 2082415904, 2082417952, 2082420000,
   2082422048, 2082424096, 2082426144, 2082428192, 2082430240, 2082432288, 2082434336, 2082436384, 2082438432,
   2082440480, 2082442528, 2082444576, 2082446624, 2082448672, 2082450720, 2082452768, 2082454816, 2082456864,
   2082458912, 2082460960, 2082463008, 2082465056, 2082467104, 2082469152, 2082471200, 2082473249, 2082475297,
   2082477345, 2082479393, 2082481441, 2082483489, 2082485537, 2082487585, 2082489633, 2082491681, 2082493729,
   2082495777, 2082497825, 2082499873, 2082501921, 2082503969, 2082506017, 2082508065, 2082510113, 2082512161,
   2082514209, 2082516257, 2082518305, 2082520353, 2082522401, 2082524449, 2082526497, 2082528545, 2082530593,
   2082532641, 2082534689, 2082536737, 2082538786, 2082540834, 2082542882, 2082544930, 2082546978, 2082549026,
   2082551074, 2082553122, 2082555170, 2082557218, 2082559266, 2082561314, 2082563362, 2082565410, 2082567458,
   2082569506, 2082571554, 2082573602, 2082575650, 2082577698, 2082579746, 2082581794, 2082583842, 2082585890,
   2082587938, 2082589986, 2082592034, 2082594082, 2082596130, 2082598178, 2082600226, 2082602274, 2082604323,
   2082606371, 2082608419, 2082610467, 2082612515, 2082614563, 2082616611, 2082618659, 2082620707, 2082622755,
   2082624803, 2082626851, 2082628899, 2082630947, 2082632995, 2082635043, 2082637091, 2082639139, 2082641187,
   2082643235, 2082645283, 2082647331, 2082649379, 2082651427, 2082653475, 2082655523, 2082657571, 2082659619,
   2082661667, 2082663715, 2082665763, 2082667811, 2082669860, 2082671908, 2082673956, 2082676004, 2082678052,
   2082680100, 2082682148, 2082684196, 2082686244, 2082688292, 2082690340, 2082692388, 2082694436, 2082696484,
   2082698532, 2082700580, 2082702628, 2082704676, 2082706724, 2082708772, 2082710820, 2082712868, 2082714916,
   2082716964, 2082719012, 2082721060, 2082723108, 2082725156, 2082727204, 2082729252, 2082731300, 2082733348,
   2082735397, 2082737445, 2082739493, 2082741541, 2082743589, 2082745637, 2082747685, 2082749733, 2082751781,
   2082753829, 2082755877, 2082757925, 2082759973, 2082762021, 2082764069, 2082766117, 2082768165, 2082770213,
   2082772261, 2082774309, 2082776357, 2082778405, 2082780453, 2082782501, 2082784549, 2082786597, 2082788645,
   2082790693, 2082792741, 2082794789, 2082796837, 2082798885, 2082800934, 2082802982, 2082805030, 2082807078,
   2082809126, 2082811174, 2082813222, 2082815270, 2082817318, 2082819366, 2082821414, 2082823462, 2082825510,
   2082827558, 2082829606, 2082831654, 2082833702, 2082835750, 2082837798, 2082839846, 2082841894, 2082843942,
   2082845990, 2082848038, 2082850086, 2082852134, 2082854182, 2082856230, 2082858278, 2082860326, 2082862374,
   2082864422, 2082866471, 2082868519, 2082870567, 2082872615, 2082874663, 2082876711, 2082878759, 2082880807,
   2082882855, 2082884903, 2082886951, 2082888999, 2082891047, 2082893095, 2082895143, 2082897191, 2082899239,
   2082901287, 2082903335, 2082905383, 2082907431, 2082909479, 2082911527, 2082913575, 2082915623, 2082917671,
   2082919719, 2082921767, 2082923815, 2082925863, 2082927911, 2082929959, 2082932008, 2082934056, 2082936104,
   2082938152, 2082940200, 2082942248, 2082944296, 2082946344, 2082948392, 2082950440, 2082952488, 2082954536,
   2082956584, 2082958632, 2082960680, 2082962728, 2082964776, 2082966824, 2082968872, 2082970920, 2082972968,
   2082975016, 2082977064, 2082979112, 2082981160, 2082983208, 2082985256, 2082987304, 2082989352, 2082991400,
   2082993448, 2082995496, 2082997545, 2082999593, 2083001641, 2083003689, 2083005737, 2083007785, 2083009833,
   2083011881, 2083013929, 2083015977, 2083018025, 2083020073, 2083022121, 2083024169, 2083026217, 2083028265,
   2083030313, 2083032361, 2083034409, 2083036457, 2083038505, 2083040553, 2083042601, 2083044649, 2083046697,
   2083048745, 2083050793, 2083052841, 2083054889, 2083056937, 2083058985, 2083061033, 2083063082, 2083065130,
   2083067178, 2083069226, 2083071274, 2083073322, 2083075370, 2083077418, 2083079466, 2083081514, 2083083562,
   2083085610, 2083087658, 2083089706, 2083091754, 2083093802, 2083095850, 2083097898, 2083099946, 2083101994,
   2083104042, 2083106090, 2083108138, 2083110186, 2083112234, 2083114282, 2083116330, 2083118378, 2083120426,
   2083122474, 2083124522, 2083126570, 2083128619, 2083130667, 2083132715, 2083134763, 2083136811, 2083138859,
   2083140907, 2083142955, 2083145003, 2083147051, 2083149099, 2083151147, 2083153195, 2083155243, 2083157291,
   2083159339, 2083161387, 2083163435, 2083165483, 2083167531, 2083169579, 2083171627, 2083173675, 2083175723,
   2083177771, 2083179819, 2083181867, 2083183915, 2083185963, 2083188011, 2083190059, 2083192107, 2083194156,
   2083196204, 2083198252, 2083200300, 2083202348, 2083204396, 2083206444, 2083208492, 2083210540, 2083212588,
   2083214636, 2083216684, 2083218732, 2083220780, 2083222828, 2083224876, 2083226924, 2083228972, 2083231020,
   2083233068, 2083235116, 2083237164, 2083239212, 2083241260, 2083243308, 2083245356, 2083247404, 2083249452,
   2083251500, 2083253548, 2083255596, 2083257644, 2083259693, 2083261741, 2083263789, 2083265837, 2083267885,
   2083269933, 2083271981, 2083274029, 2083276077, 2083278125, 2083280173, 2083282221, 2083284269, 2083286317,
   2083288365, 2083290413, 2083292461, 2083294509, 2083296557, 2083298605, 2083300653, 2083302701, 2083304749,
   2083306797, 2083308845, 2083310893, 2083312941, 2083314989, 2083317037, 2083319085, 2083321133, 2083323181,
   2083325230, 2083327278, 2083329326, 2083331374, 2083333422, 2083335470, 2083337518, 2083339566, 2083341614,
   2083343662, 2083345710, 2083347758, 2083349806, 2083351854, 2083353902, 2083355950, 2083357998, 2083360046,
   2083362094, 2083364142, 2083366190, 2083368238, 2083370286, 2083372334, 2083374382, 2083376430, 2083378478,
   2083380526, 2083382574, 2083384622, 2083386670, 2083388718, 2083390767, 2083392815, 2083394863, 2083396911,
   2083398959, 2083401007, 2083403055, 2083405103, 2083407151, 2083409199, 2083411247, 2083413295, 2083415343,
   2083417391, 2083419439, 2083421487, 2083423535, 2083425583, 2083427631, 2083429679, 2083431727, 2083433775,
   2083435823, 2083437871, 2083439919, 2083441967, 2083444015, 2083446063, 2083448111, 2083450159, 2083452207,
   2083454255, 2083456304, 2083458352, 2083460400, 2083462448, 2083464496, 2083466544, 2083468592, 2083470640,
   2083472688, 2083474736, 2083476784, 2083478832, 2083480880, 2083482928, 2083484976, 2083487024, 2083489072,
   2083491120, 2083493168, 2083495216, 2083497264, 2083499312, 2083501360, 2083503408, 2083505456, 2083507504,
   2083509552, 2083511600, 2083513648, 2083515696, 2083517744, 2083519792, 2083521841, 2083523889, 2083525937,
   2083527985, 2083530033, 2083532081, 2083534129, 2083536177, 2083538225, 2083540273, 2083542321, 2083544369,
   2083546417, 2083548465, 2083550513, 2083552561, 2083554609, 2083556657, 2083558705, 2083560753, 2083562801,
   2083564849, 2083566897, 2083568945, 2083570993, 2083573041, 2083575089, 2083577137, 2083579185, 2083581233,
   2083583281, 2083585329, 2083587378, 2083589426, 2083591474, 2083593522, 2083595570, 2083597618, 2083599666,
   2083601714, 2083603762, 2083605810, 2083607858, 2083609906, 2083611954, 2083614002, 2083616050, 2083618098,
   2083620146, 2083622194, 2083624242, 2083626290, 2083628338, 2083630386, 2083632434, 2083634482, 2083636530,
   2083638578, 2083640626, 2083642674, 2083644722, 2083646770, 2083648818, 2083650866, 2083652915, 2083654963,
   2083657011, 2083659059, 2083661107, 2083663155, 2083665203, 2083667251, 2083669299, 2083671347, 2083673395,
   2083675443, 2083677491, 2083679539, 2083681587, 2083683635, 2083685683, 2083687731, 2083689779, 2083691827,
   2083693875, 2083695923, 2083697971, 2083700019, 2083702067, 2083704115, 2083706163, 2083708211, 2083710259,
   2083712307, 2083714355, 2083716403, 2083718452, 2083720500, 2083722548, 2083724596, 2083726644, 2083728692,
   2083730740, 2083732788, 2083734836, 2083736884, 2083738932, 2083740980, 2083743028, 2083745076, 2083747124,
   2083749172, 2083751220, 2083753268, 2083755316, 2083757364, 2083759412, 2083761460, 2083763508, 2083765556,
   2083767604, 2083769652, 2083771700, 2083773748, 2083775796, 2083777844, 2083779892, 2083781940, 2083783989,
   2083786037, 2083788085, 2083790133, 2083792181, 2083794229, 2083796277, 2083798325, 2083800373, 2083802421,
   2083804469, 2083806517, 2083808565, 2083810613, 2083812661, 2083814709, 2083816757, 2083818805, 2083820853,
   2083822901, 2083824949, 2083826997, 2083829045, 2083831093, 2083833141, 2083835189, 2083837237, 2083839285,
   2083841333, 2083843381, 2083845429, 2083847477, 2083849526, 2083851574, 2083853622, 2083855670, 2083857718,
   2083859766, 2083861814, 2083863862, 2083865910, 2083867958, 2083870006, 2083872054, 2083874102, 2083876150,
   2083878198, 2083880246, 2083882294, 2083884342, 2083886390, 2083888438, 2083890486, 2083892534, 2083894582,
   2083896630, 2083898678, 2083900726, 2083902774, 2083904822, 2083906870, 2083908918, 2083910966, 2083913014,
   2083915063, 2083917111, 2083919159, 2083921207, 2083923255, 2083925303, 2083927351, 2083929399, 2083931447,
   2083933495, 2083935543, 2083937591, 2083939639, 2083941687, 2083943735, 2083945783, 2083947831, 2083949879,
   2083951927, 2083953975, 2083956023, 2083958071, 2083960119, 2083962167, 2083964215, 2083966263, 2083968311,
   2083970359, 2083972407, 2083974455, 2083976503, 2083978551, 2083980600, 2083982648, 2083984696, 2083986744,
   2083988792, 2083990840, 2083992888, 2083994936, 2083996984, 2083999032, 2084001080, 2084003128, 2084005176,
   2084007224, 2084009272, 2084011320, 2084013368, 2084015416, 2084017464, 2084019512, 2084021560, 2084023608,
   2084025656, 2084027704, 2084029752, 2084031800, 2084033848, 2084035896, 2084037944, 2084039992, 2084042040,
   2084044088, 2084046137, 2084048185, 2084050233, 2084052281, 2084054329, 2084056377, 2084058425, 2084060473,
   2084062521, 2084064569, 2084066617, 2084068665, 2084070713, 2084072761, 2084074809, 2084076857, 2084078905,
   2084080953, 2084083001, 2084085049, 2084087097, 2084089145, 2084091193, 2084093241, 2084095289, 2084097337,
   2084099385, 2084101433, 2084103481, 2084105529, 2084107577, 2084109625, 2084111674, 2084113722, 2084115770,
   2084117818, 2084119866, 2084121914, 2084123962, 2084126010, 2084128058, 2084130106, 2084132154, 2084134202,
   2084136250, 2084138298, 2084140346, 2084142394, 2084144442, 2084146490, 2084148538, 2084150586, 2084152634,
   2084154682, 2084156730, 2084158778, 2084160826, 2084162874, 2084164922, 2084166970, 2084169018, 2084171066,
   2084173114, 2084175162, 2084177211, 2084179259, 2084181307, 2084183355, 2084185403, 2084187451, 2084189499,
   2084191547, 2084193595, 2084195643, 2084197691, 2084199739, 2084201787, 2084203835, 2084205883, 2084207931,
   2084209979, 2084212027, 2084214075, 2084216123, 2084218171, 2084220219, 2084222267, 2084224315, 2084226363,
   2084228411, 2084230459, 2084232507, 2084234555, 2084236603, 2084238651, 2084240699, 2084242748, 2084244796,
   2084246844, 2084248892, 2084250940, 2084252988, 2084255036, 2084257084, 2084259132, 2084261180, 2084263228,
   2084265276, 2084267324, 2084269372, 2084271420, 2084273468, 2084275516, 2084277564, 2084279612, 2084281660,
   2084283708, 2084285756, 2084287804, 2084289852, 2084291900, 2084293948, 2084295996, 2084298044, 2084300092,
   2084302140, 2084304188, 2084306236, 2084308285, 2084310333, 2084312381, 2084314429, 2084316477, 2084318525,
   2084320573, 2084322621, 2084324669, 2084326717, 2084328765, 2084330813, 2084332861, 2084334909, 2084336957,
   2084339005, 2084341053, 2084343101, 2084345149, 2084347197, 2084349245, 2084351293, 2084353341, 2084355389,
   2084357437, 2084359485, 2084361533, 2084363581, 2084365629, 2084367677, 2084369725, 2084371773, 2084373822,
   2084375870, 2084377918, 2084379966, 2084382014, 2084384062, 2084386110, 2084388158, 2084390206, 2084392254,
   2084394302, 2084396350, 2084398398, 2084400446, 2084402494, 2084404542, 2084406590, 2084408638, 2084410686,
   2084412734, 2084414782, 2084416830, 2084418878, 2084420926, 2084422974, 2084425022, 2084427070, 2084429118,
   2084431166, 2084433214, 2084435262, 2084437310, 2084439359, 2084441407, 2084443455, 2084445503, 2084447551,
   2084449599, 2084451647, 2084453695, 2084455743, 2084457791, 2084459839, 2084461887, 2084463935, 2084465983,
   2084468031, 2084470079, 2084472127, 2084474175, 2084476223, 2084478271, 2084480319, 2084482367, 2084484415,
   2084486463, 2084488511, 2084490559, 2084492607, 2084494655, 2084496703, 2084498751, 2084500799, 2084502847,
   2084504896, 2084506944, 2084508992, 2084511040, 2084513088, 2084515136, 2084517184, 2084519232, 2084521280,
   2084523328, 2084525376, 2084527424, 2084529472, 2084531520, 2084533568, 2084535616, 2084537664, 2084539712,
   2084541760, 2084543808, 2084545856, 2084547904, 2084549952, 2084552000, 2084554048, 2084556096, 2084558144,
   2084560192, 2084562240, 2084564288, 2084566336, 2084568384]
theorem c4_ok :
    chkList (pipeF 1199570688 65535) 65535 2139095040 8193 1040186624 4096 c4
      10241 1042284192 5120 = true := by decide +kernel
theorem c4_len : 8193 + c4.length = 10241 := (chkList_end c4_ok).1
theorem c4_last : lastS 1040186624 c4 = 1042284192 := (chkList_end c4_ok).2.1

@[irreducible] def c5 : List Nat :=
  [2084570433, 2084572481, 2084574529, 2084576577, 2084578625, 2084580673, 2084582721, 2084584769, 2084586817,
   2084588865, 2084590913, 2084592961, 2084595009, 2084597057, 2084599105, 2084601153, 2084603201, 2084605249,
   2084607297, 2084609345, 2084611393, 2084613441, 2084615489, 2084617537, 2084619585, 2084621633, 2084623681,
   2084625729, 2084627777, 2084629825, 2084631873, 2084633921, 2084635970, 2084638018, 2084640066, 2084642114,
   2084644162, 2084646210, 2084648258, 2084650306, 2084652354, 2084654402, 2084656450, 2084658498, 2084660546,
   2084662594, 2084664642, 2084666690, 2084668738, 2084670786, 2084672834, 2084674882, 2084676930, 2084678978,
   2084681026, 2084683074, 2084685122, 2084687170, 2084689218, 2084691266, 2084693314, 2084695362, 2084697410,
   2084699458, 2084701507, 2084703555, 2084705603, 2084707651, 2084709699, 2084711747, 2084713795, 2084715843,
   2084717891, 2084719939, 2084721987, 2084724035, 2084726083, 2084728131, 2084730179, 2084732227, 2084734275,
   2084736323, 2084738371, 2084740419, 2084742467, 2084744515, 2084746563, 2084748611, 2084750659, 2084752707,
   2084754755, 2084756803, 2084758851, 2084760899, 2084762947, 2084764995, 2084767044, 2084769092, 2084771140,
   2084773188, 2084775236, 2084777284, 2084779332, 2084781380, 2084783428, 2084785476, 2084787524, 2084789572,
   2084791620, 2084793668, 2084795716, 2084797764, 2084799812, 2084801860, 2084803908, 2084805956, 2084808004,
   2084810052, 2084812100, 2084814148, 2084816196, 2084818244, 2084820292, 2084822340, 2084824388, 2084826436,
   2084828484, 2084830532, 2084832581, 2084834629, 2084836677, 2084838725, 2084840773, 2084842821, 2084844869,
   2084846917, 2084848965, 2084851013, 2084853061, 2084855109, 2084857157, 2084859205, 2084861253, 2084863301,
   2084865349, 2084867397, 2084869445, 2084871493, 2084873541, 2084875589, 2084877637, 2084879685, 2084881733,
   2084883781, 2084885829, 2084887877, 2084889925, 2084891973, 2084894021, 2084896069, 2084898118, 2084900166,
   2084902214, 2084904262, 2084906310, 2084908358, 2084910406, 2084912454, 2084914502, 2084916550, 2084918598,
   2084920646, 2084922694, 2084924742, 2084926790, 2084928838, 2084930886, 2084932934, 2084934982, 2084937030,
   2084939078, 2084941126, 2084943174, 2084945222, 2084947270, 2084949318, 2084951366, 2084953414, 2084955462,
   2084957510, 2084959558, 2084961606, 2084963655, 2084965703, 2084967751, 2084969799, 2084971847, 2084973895,
   2084975943, 2084977991, 2084980039, 2084982087, 2084984135, 2084986183, 2084988231, 2084990279, 2084992327,
   2084994375, 2084996423, 2084998471, 2085000519, 2085002567, 2085004615, 2085006663, 2085008711, 2085010759,
   2085012807, 2085014855, 2085016903, 2085018951, 2085020999, 2085023047, 2085025095, 2085027143, 2085029192,
   2085031240, 2085033288, 2085035336, 2085037384, 2085039432, 2085041480, 2085043528, 2085045576, 2085047624,
   2085049672, 2085051720, 2085053768, 2085055816, 2085057864, 2085059912, 2085061960, 2085064008, 2085066056,
   2085068104, 2085070152, 2085072200, 2085074248, 2085076296, 2085078344, 2085080392, 2085082440, 2085084488,
   2085086536, 2085088584, 2085090632, 2085092680, 2085094729, 2085096777, 2085098825, 2085100873, 2085102921,
   2085104969, 2085107017, 2085109065, 2085111113, 2085113161, 2085115209, 2085117257, 2085119305, 2085121353,
   2085123401, 2085125449, 2085127497, 2085129545, 2085131593, 2085133641, 2085135689, 2085137737, 2085139785,
   2085141833, 2085143881, 2085145929, 2085147977, 2085150025, 2085152073, 2085154121, 2085156169, 2085158217,
   2085160266, 2085162314, 2085164362, 2085166410, 2085168458, 2085170506, 2085172554, 2085174602, 2085176650,
   2085178698, 2085180746, 2085182794, 2085184842, 2085186890, 2085188938, 2085190986, 2085193034, 2085195082,
   2085197130, 2085199178, 2085201226, 2085203274, 2085205322, 2085207370, 2085209418, 2085211466, 2085213514,
   2085215562, 2085217610, 2085219658, 2085221706, 2085223754, 2085225803, 2085227851, 2085229899, 2085231947,
   2085233995, 2085236043, 2085238091, 2085240139, 2085242187, 2085244235, 2085246283, 2085248331, 2085250379,
   2085252427, 2085254475, 2085256523, 2085258571, 2085260619, 2085262667, 2085264715, 2085266763, 2085268811,
   2085270859, 2085272907, 2085274955, 2085277003, 2085279051, 2085281099, 2085283147, 2085285195, 2085287243,
   2085289291, 2085291340, 2085293388, 2085295436, 2085297484, 2085299532, 2085301580, 2085303628, 2085305676,
   2085307724, 2085309772, 2085311820, 2085313868, 2085315916, 2085317964, 2085320012, 2085322060, 2085324108,
   2085326156, 2085328204, 2085330252, 2085332300, 2085334348, 2085336396, 2085338444, 2085340492, 2085342540,
   2085344588, 2085346636, 2085348684, 2085350732, 2085352780, 2085354828, 2085356877, 2085358925, 2085360973,
   2085363021, 2085365069, 2085367117, 2085369165, 2085371213, 2085373261, 2085375309, 2085377357, 2085379405,
   2085381453, 2085383501, 2085385549, 2085387597, 2085389645, 2085391693, 2085393741, 2085395789, 2085397837,
   2085399885, 2085401933, 2085403981, 2085406029, 2085408077, 2085410125, 2085412173, 2085414221, 2085416269,
   2085418317, 2085420365, 2085422414, 2085424462, 2085426510, 2085428558, 2085430606, 2085432654, 2085434702,
   2085436750, 2085438798, 2085440846, 2085442894, 2085444942, 2085446990, 2085449038, 2085451086, 2085453134,
   2085455182, 2085457230, 2085459278, 2085461326, 2085463374, 2085465422, 2085467470, 2085469518, 2085471566,
   2085473614, 2085475662, 2085477710, 2085479758, 2085481806, 2085483854, 2085485902, 2085487951, 2085489999,
   2085492047, 2085494095, 2085496143, 2085498191, 2085500239, 2085502287, 2085504335, 2085506383, 2085508431,
   2085510479, 2085512527, 2085514575, 2085516623, 2085518671, 2085520719, 2085522767, 2085524815, 2085526863,
   2085528911, 2085530959, 2085533007, 2085535055, 2085537103, 2085539151, 2085541199, 2085543247, 2085545295,
   2085547343, 2085549391, 2085551439, 2085553488, 2085555536, 2085557584, 2085559632, 2085561680, 2085563728,
   2085565776, 2085567824, 2085569872, 2085571920, 2085573968, 2085576016, 2085578064, 2085580112, 2085582160,
   2085584208, 2085586256, 2085588304, 2085590352, 2085592400, 2085594448, 2085596496, 2085598544, 2085600592,
   2085602640, 2085604688, 2085606736, 2085608784, 2085610832, 2085612880, 2085614928, 2085616976, 2085619025,
   2085621073, 2085623121, 2085625169, 2085627217, 2085629265, 2085631313, 2085633361, 2085635409, 2085637457,
   2085639505, 2085641553, 2085643601, 2085645649, 2085647697, 2085649745, 2085651793, 2085653841, 2085655889,
   2085657937, 2085659985, 2085662033, 2085664081, 2085666129, 2085668177, 2085670225, 2085672273, 2085674321,
   2085676369, 2085678417, 2085680465, 2085682513, 2085684562, 2085686610, 2085688658, 2085690706, 2085692754,
   2085694802, 2085696850, 2085698898, 2085700946, 2085702994, 2085705042, 2085707090, 2085709138, 2085711186,
   2085713234, 2085715282, 2085717330, 2085719378, 2085721426, 2085723474, 2085725522, 2085727570, 2085729618,
   2085731666, 2085733714, 2085735762, 2085737810, 2085739858, 2085741906, 2085743954, 2085746002, 2085748050,
   2085750099, 2085752147, 2085754195, 2085756243, 2085758291, 2085760339, 2085762387, 2085764435, 2085766483,
   2085768531, 2085770579, 2085772627, 2085774675, 2085776723, 2085778771, 2085780819, 2085782867, 2085784915,
   2085786963, 2085789011, 2085791059, 2085793107, 2085795155, 2085797203, 2085799251, 2085801299, 2085803347,
   2085805395, 2085807443, 2085809491, 2085811539, 2085813587, 2085815636, 2085817684, 2085819732, 2085821780,
   2085823828, 2085825876, 2085827924, 2085829972, 2085832020, 2085834068, 2085836116, 2085838164, 2085840212,
   2085842260, 2085844308, 2085846356, 2085848404, 2085850452, 2085852500, 2085854548, 2085856596, 2085858644,
   2085860692, 2085862740, 2085864788, 2085866836, 2085868884, 2085870932, 2085872980, 2085875028, 2085877076,
   2085879124, 2085881173, 2085883221, 2085885269, 2085887317, 2085889365, 2085891413, 2085893461, 2085895509,
   2085897557, 2085899605, 2085901653, 2085903701, 2085905749, 2085907797, 2085909845, 2085911893, 2085913941,
   2085915989, 2085918037, 2085920085, 2085922133, 2085924181, 2085926229, 2085928277, 2085930325, 2085932373,
   2085934421, 2085936469, 2085938517, 2085940565, 2085942613, 2085944661, 2085946710, 2085948758, 2085950806,
   2085952854, 2085954902, 2085956950, 2085958998, 2085961046, 2085963094, 2085965142, 2085967190, 2085969238,
   2085971286, 2085973334, 2085975382, 2085977430, 2085979478, 2085981526, 2085983574, 2085985622, 2085987670,
   2085989718, 2085991766, 2085993814, 2085995862, 2085997910, 2085999958, 2086002006, 2086004054, 2086006102,
   2086008150, 2086010198, 2086012247, 2086014295, 2086016343, 2086018391, 2086020439, 2086022487, 2086024535,
   2086026583, 2086028631, 2086030679, 2086032727, 2086034775, 2086036823, 2086038871, 2086040919, 2086042967,
   2086045015, 2086047063, 2086049111, 2086051159, 2086053207, 2086055255, 2086057303, 2086059351, 2086061399,
   2086063447, 2086065495, 2086067543, 2086069591, 2086071639, 2086073687, 2086075735, 2086077784, 2086079832,
   2086081880, 2086083928, 2086085976, 2086088024, 2086090072, 2086092120, 2086094168, 2086096216, 2086098264,
   2086100312, 2086102360, 2086104408, 2086106456, 2086108504, 2086110552, 2086112600, 2086114648, 2086116696,
   2086118744, 2086120792, 2086122840, 2086124888, 2086126936, 2086128984, 2086131032, 2086133080, 2086135128,
   2086137176, 2086139224, 2086141272, 2086143321, 2086145369, 2086147417, 2086149465, 2086151513, 2086153561,
   2086155609, 2086157657, 2086159705, 2086161753, 2086163801, 2086165849, 2086167897, 2086169945, 2086171993,
   2086174041, 2086176089, 2086178137, 2086180185, 2086182233, 2086184281, 2086186329, 2086188377, 2086190425,
   2086192473, 2086194521, 2086196569, 2086198617, 2086200665, 2086202713, 2086204761, 2086206809, 2086208858,
   2086210906, 2086212954, 2086215002, 2086217050, 2086219098, 2086221146, 2086223194, 2086225242, 2086227290,
   2086229338, 2086231386, 2086233434, 2086235482, 2086237530, 2086239578, 2086241626, 2086243674, 2086245722,
   2086247770, 2086249818, 2086251866, 2086253914, 2086255962, 2086258010, 2086260058, 2086262106, 2086264154,
   2086266202, 2086268250, 2086270298, 2086272346, 2086274395, 2086276443, 2086278491, 2086280539, 2086282587,
   2086284635, 2086286683, 2086288731, 2086290779, 2086292827, 2086294875, 2086296923, 2086298971, 2086301019,
   2086303067, 2086305115, 2086307163, 2086309211, 2086311259, 2086313307, 2086315355, 2086317403, 2086319451,
   2086321499, 2086323547, 2086325595, 2086327643, 2086329691, 2086331739, 2086333787, 2086335835, 2086337883,
   2086339932, 2086341980, 2086344028, 2086346076, 2086348124, 2086350172, 2086352220, 2086354268, 2086356316,
   2086358364, 2086360412, 2086362460, 2086364508, 2086366556, 2086368604, 2086370652, 2086372700, 2086374748,
   2086376796, 2086378844, 2086380892, 2086382940, 2086384988, 2086387036, 2086389084, 2086391132, 2086393180,
   2086395228, 2086397276, 2086399324, 2086401372, 2086403420, 2086405469, 2086407517, 2086409565, 2086411613,
   2086413661, 2086415709, 2086417757, 2086419805, 2086421853, 2086423901, 2086425949, 2086427997, 2086430045,
   2086432093, 2086434141, 2086436189, 2086438237, 2086440285, 2086442333, 2086444381, 2086446429, 2086448477,
   2086450525, 2086452573, 2086454621, 2086456669, 2086458717, 2086460765, 2086462813, 2086464861, 2086466909,
   2086468957, 2086471006, 2086473054, 2086475102, 2086477150, 2086479198, 2086481246, 2086483294, 2086485342,
   2086487390, 2086489438, 2086491486, 2086493534, 2086495582, 2086497630, 2086499678, 2086501726, 2086503774,
   2086505822, 2086507870, 2086509918, 2086511966, 2086514014, 2086516062, 2086518110, 2086520158, 2086522206,
   2086524254, 2086526302, 2086528350, 2086530398, 2086532446, 2086534494, 2086536543, 2086538591, 2086540639,
   2086542687, 2086544735, 2086546783, 2086548831, 2086550879, 2086552927, 2086554975, 2086557023, 2086559071,
   2086561119, 2086563167, 2086565215, 2086567263, 2086569311, 2086571359, 2086573407, 2086575455, 2086577503,
   2086579551, 2086581599, 2086583647, 2086585695, 2086587743, 2086589791, 2086591839, 2086593887, 2086595935,
   2086597983, 2086600031, 2086602080, 2086604128, 2086606176, 2086608224, 2086610272, 2086612320, 2086614368,
   2086616416, 2086618464, 2086620512, 2086622560, 2086624608, 2086626656, 2086628704, 2086630752, 2086632800,
   2086634848, 2086636896, 2086638944, 2086640992, 2086643040, 2086645088, 2086647136, 2086649184, 2086651232,
   2086653280, 2086655328, 2086657376, 2086659424, 2086661472, 2086663520, 2086665568, 2086667617, 2086669665,
   2086671713, 2086673761, 2086675809, 2086677857, 2086679905, 2086681953, 2086684001, 2086686049, 2086688097,
   2086690145, 2086692193, 2086694241, 2086696289, 2086698337, 2086700385, 2086702433, 2086704481, 2086706529,
   2086708577, 2086710625, 2086712673, 2086714721, 2086716769, 2086718817, 2086720865, 2086722913, 2086724961,
   2086727009, 2086729057, 2086731105, 2086733154, 2086735202, 2086737250, 2086739298, 2086741346, 2086743394,
   2086745442, 2086747490, 2086749538, 2086751586, 2086753634, 2086755682, 2086757730, 2086759778, 2086761826,
   2086763874, 2086765922, 2086767970, 2086770018, 2086772066, 2086774114, 2086776162, 2086778210, 2086780258,
   2086782306, 2086784354, 2086786402, 2086788450, 2086790498, 2086792546, 2086794594, 2086796642, 2086798691,
   2086800739, 2086802787, 2086804835, 2086806883, 2086808931, 2086810979, 2086813027, 2086815075, 2086817123,
   2086819171, 2086821219, 2086823267, 2086825315, 2086827363, 2086829411, 2086831459, 2086833507, 2086835555,
   2086837603, 2086839651, 2086841699, 2086843747, 2086845795, 2086847843, 2086849891, 2086851939, 2086853987,
   2086856035, 2086858083, 2086860131, 2086862179, 2086864228, 2086866276, 2086868324, 2086870372, 2086872420,
   2086874468, 2086876516, 2086878564, 2086880612, 2086882660, 2086884708, 2086886756, 2086888804, 2086890852,
   2086892900, 2086894948, 2086896996, 2086899044, 2086901092, 2086903140, 2086905188, 2086907236, 2086909284,
   2086911332, 2086913380, 2086915428, 2086917476, 2086919524, 2086921572, 2086923620, 2086925668, 2086927716,
   2086929765, 2086931813, 2086933861, 2086935909, 2086937957, 2086940005, 2086942053, 2086944101, 2086946149,
   2086948197, 2086950245, 2086952293, 2086954341, 2086956389, 2086958437, 2086960485, 2086962533, 2086964581,
   2086966629, 2086968677, 2086970725, 2086972773, 2086974821, 2086976869, 2086978917, 2086980965, 2086983013,
   2086985061, 2086987109, 2086989157, 2086991205, 2086993253, 2086995302, 2086997350, 2086999398, 2087001446,
   2087003494, 2087005542, 2087007590, 2087009638, 2087011686, 2087013734, 2087015782, 2087017830, 2087019878,
   2087021926, 2087023974, 2087026022, 2087028070, 2087030118, 2087032166, 2087034214, 2087036262, 2087038310,
   2087040358, 2087042406, 2087044454, 2087046502, 2087048550, 2087050598, 2087052646, 2087054694, 2087056742,
   2087058790, 2087060839, 2087062887, 2087064935, 2087066983, 2087069031, 2087071079, 2087073127, 2087075175,
   2087077223, 2087079271, 2087081319, 2087083367, 2087085415, 2087087463, 2087089511, 2087091559, 2087093607,
   2087095655, 2087097703, 2087099751, 2087101799, 2087103847, 2087105895, 2087107943, 2087109991, 2087112039,
   2087114087, 2087116135, 2087118183, 2087120231, 2087122279, 2087124327, 2087126376, 2087128424, 2087130472,
   2087132520, 2087134568, 2087136616, 2087138664, 2087140712, 2087142760, 2087144808, 2087146856, 2087148904,
   2087150952, 2087153000, 2087155048, 2087157096, 2087159144, 2087161192, 2087163240, 2087165288, 2087167336,
   2087169384, 2087171432, 2087173480, 2087175528, 2087177576, 2087179624, 2087181672, 2087183720, 2087185768,
   2087187816, 2087189864, 2087191913, 2087193961, 2087196009, 2087198057, 2087200105, 2087202153, 2087204201,
   2087206249, 2087208297, 2087210345, 2087212393, 2087214441, 2087216489, 2087218537, 2087220585, 2087222633,
   2087224681, 2087226729, 2087228777, 2087230825, 2087232873, 2087234921, 2087236969, 2087239017, 2087241065,
   2087243113, 2087245161, 2087247209, 2087249257, 2087251305, 2087253353, 2087255401, 2087257450, 2087259498,
   2087261546, 2087263594, 2087265642, 2087267690, 2087269738, 2087271786, 2087273834, 2087275882, 2087277930,
   2087279978, 2087282026, 2087284074, 2087286122, 2087288170, 2087290218, 2087292266, 2087294314, 2087296362,
   2087298410, 2087300458, 2087302506, 2087304554, 2087306602, 2087308650, 2087310698, 2087312746, 2087314794,
   2087316842, 2087318890, 2087320938, 2087322987, 2087325035, 2087327083, 2087329131, 2087331179, 2087333227,
   2087335275, 2087337323, 2087339371, 2087341419, 2087343467, 2087345515, 2087347563, 2087349611, 2087351659,
   2087353707, 2087355755, 2087357803, 2087359851, 2087361899, 2087363947, 2087365995, 2087368043, 2087370091,
   2087372139, 2087374187, 2087376235, 2087378283, 2087380331, 2087382379, 2087384427, 2087386475, 2087388524,
   2087390572, 2087392620, 2087394668, 2087396716, 2087398764, 2087400812, 2087402860, 2087404908, 2087406956,
   2087409004, 2087411052, 2087413100, 2087415148, 2087417196, 2087419244, 2087421292, 2087423340, 2087425388,
   2087427436, 2087429484, 2087431532, 2087433580, 2087435628, 2087437676, 2087439724, 2087441772, 2087443820,
   2087445868, 2087447916, 2087449964, 2087452012, 2087454061, 2087456109, 2087458157, 2087460205, 2087462253,
   2087464301, 2087466349, 2087468397, 2087470445, 2087472493, 2087474541, 2087476589, 2087478637, 2087480685,
   2087482733, 2087484781, 2087486829, 2087488877, 2087490925, 2087492973, 2087495021, 2087497069, 2087499117,
   2087501165, 2087503213, 2087505261, 2087507309, 2087509357, 2087511405, 2087513453, 2087515501, 2087517549,
   2087519598, 2087521646, 2087523694, 2087525742, 2087527790, 2087529838, 2087531886, 2087533934, 2087535982,
   2087538030, 2087540078, 2087542126, 2087544174, 2087546222, 2087548270, 2087550318, 2087552366, 2087554414,
   2087556462, 2087558510, 2087560558, 2087562606, 2087564654, 2087566702, 2087568750, 2087570798, 2087572846,
   2087574894, 2087576942, 2087578990, 2087581038, 2087583086, 2087585135, 2087587183, 2087589231, 2087591279,
   2087593327, 2087595375, 2087597423, 2087599471, 2087601519, 2087603567, 2087605615, 2087607663, 2087609711,
   2087611759, 2087613807, 2087615855, 2087617903, 2087619951, 2087621999, 2087624047, 2087626095, 2087628143,
   2087630191, 2087632239, 2087634287, 2087636335, 2087638383, 2087640431, 2087642479, 2087644527, 2087646575,
   2087648623, 2087650672, 2087652720, 2087654768, 2087656816, 2087658864, 2087660912, 2087662960, 2087665008,
   2087667056, 2087669104, 2087671152, 2087673200, 2087675248, 2087677296, 2087679344, 2087681392, 2087683440,
   2087685488, 2087687536, 2087689584, 2087691632, 2087693680, 2087695728, 2087697776, 2087699824, 2087701872,
   2087703920, 2087705968, 2087708016, 2087710064, 2087712112, 2087714160, 2087716209, 2087718257, 2087720305,
   2087722353, 2087724401, 2087726449, 2087728497, 2087730545, 2087732593, 2087734641, 2087736689, 2087738737,
   2087740785, 2087742833, 2087744881, 2087746929, 2087748977, 2087751025, 2087753073, 2087755121, 2087757169,
   2087759217, 2087761265, 2087763313, 2087765361, 2087767409, 2087769457, 2087771505, 2087773553, 2087775601,
   2087777649, 2087779697, 2087781746, 2087783794, 2087785842, 2087787890, 2087789938, 2087791986, 2087794034,
   2087796082, 2087798130, 2087800178, 2087802226, 2087804274, 2087806322, 2087808370, 2087810418, 2087812466,
   2087814514, 2087816562, 2087818610, 2087820658, 2087822706, 2087824754, 2087826802, 2087828850, 2087830898,
   2087832946, 2087834994, 2087837042, 2087839090, 2087841138, 2087843186, 2087845234, 2087847283, 2087849331,
   2087851379, 2087853427, 2087855475, 2087857523, 2087859571, 2087861619, 2087863667, 2087865715, 2087867763,
   2087869811, 2087871859, 2087873907, 2087875955, 2087878003, 2087880051, 2087882099, 2087884147, 2087886195,
   2087888243, 2087890291, 2087892339, 2087894387, 2087896435, 2087898483, 2087900531, 2087902579, 2087904627,
   2087906675, 2087908723, 2087910771, 2087912820, 2087914868, 2087916916, 2087918964, 2087921012, 2087923060,
   2087925108, 2087927156, 2087929204, 2087931252, 2087933300, 2087935348, 2087937396, 2087939444, 2087941492,
   2087943540, 2087945588, 2087947636, 2087949684, 2087951732, 2087953780, 2087955828, 2087957876, 2087959924,
   2087961972, 2087964020, 2087966068, 2087968116, 2087970164, 2087972212, 2087974260, 2087976308, 2087978357,
   2087980405, 2087982453, 2087984501, 2087986549, 2087988597, 2087990645, 2087992693, 2087994741, 2087996789,
   2087998837, 2088000885, 2088002933, 2088004981, 2088007029, 2088009077, 2088011125, 2088013173, 2088015221,
   2088017269, 2088019317, 2088021365, 2088023413, 2088025461, 2088027509, 2088029557, 2088031605, 2088033653,
   2088035701, 2088037749, 2088039797, 2088041845, 2088043894, 2088045942, 2088047990, 2088050038, 2088052086,
   2088054134, 2088056182, 2088058230, 2088060278, 2088062326, 2088064374, 2088066422, 2088068470, 2088070518,
   2088072566, 2088074614, 2088076662, 2088078710, 2088080758, 2088082806, 2088084854, 2088086902, 2088088950,
   2088090998, 2088093046, 2088095094, 2088097142, 2088099190, 2088101238, 2088103286, 2088105334, 2088107382,
   2088109431, 2088111479, 2088113527, 2088115575, 2088117623, 2088119671, 2088121719, 2088123767, 2088125815,
   2088127863, 2088129911, 2088131959, 2088134007, 2088136055, 2088138103, 2088140151, 2088142199, 2088144247,
   2088146295, 2088148343, 2088150391, 2088152439, 2088154487, 2088156535, 2088158583, 2088160631, 2088162679,
   2088164727, 2088166775, 2088168823, 2088170871, 2088172919, 2088174968, 2088177016, 2088179064, 2088181112,
   2088183160, 2088185208, 2088187256, 2088189304, 2088191352, 2088193400, 2088195448, 2088197496, 2088199544,
   2088201592, 2088203640, 2088205688, 2088207736, 2088209784, 2088211832, 2088213880, 2088215928, 2088217976,
   2088220024, 2088222072, 2088224120, 2088226168, 2088228216, 2088230264, 2088232312, 2088234360, 2088236408,
   2088238456, 2088240505, 2088242553, 2088244601, 2088246649, 2088248697, 2088250745, 2088252793, 2088254841,
   2088256889, 2088258937, 2088260985, 2088263033, 2088265081, 2088267129, 2088269177, 2088271225, 2088273273,
   2088275321, 2088277369, 2088279417, 2088281465, 2088283513, 2088285561, 2088287609, 2088289657, 2088291705,
   2088293753, 2088295801, 2088297849, 2088299897, 2088301945, 2088303993, 2088306042, 2088308090, 2088310138,
   2088312186, 2088314234, 2088316282, 2088318330, 2088320378, 2088322426, 2088324474, 2088326522, 2088328570,
   2088330618, 2088332666, 2088334714, 2088336762, 2088338810, 2088340858, 2088342906, 2088344954, 2088347002,
   2088349050, 2088351098, 2088353146, 2088355194, 2088357242, 2088359290, 2088361338, 2088363386, 2088365434,
   2088367482, 2088369530, 2088371579, 2088373627, 2088375675, 2088377723, 2088379771, 2088381819, 2088383867,
   2088385915, 2088387963, 2088390011, 2088392059, 2088394107, 2088396155, 2088398203, 2088400251, 2088402299,
   2088404347, 2088406395, 2088408443, 2088410491, 2088412539, 2088414587, 2088416635, 2088418683, 2088420731,
   2088422779, 2088424827, 2088426875, 2088428923, 2088430971, 2088433019, 2088435067, 2088437116, 2088439164,
   2088441212, 2088443260, 2088445308, 2088447356, 2088449404, 2088451452, 2088453500, 2088455548, 2088457596,
   2088459644, 2088461692, 2088463740, 2088465788, 2088467836, 2088469884, 2088471932, 2088473980, 2088476028,
   2088478076, 2088480124, 2088482172, 2088484220, 2088486268, 2088488316, 2088490364, 2088492412, 2088494460,
   2088496508, 2088498556, 2088500604, 2088502653, 2088504701, 2088506749, 2088508797, 2088510845, 2088512893,
   2088514941, 2088516989, 2088519037, 2088521085, 2088523133, 2088525181, 2088527229, 2088529277, 2088531325,
   2088533373, 2088535421, 2088537469, 2088539517, 2088541565, 2088543613, 2088545661, 2088547709, 2088549757,
   2088551805, 2088553853, 2088555901, 2088557949, 2088559997, 2088562045, 2088564093, 2088566141, 2088568190,
   2088570238, 2088572286, 2088574334, 2088576382, 2088578430, 2088580478, 2088582526, 2088584574, 2088586622,
   2088588670, 2088590718, 2088592766, 2088594814, 2088596862, 2088598910, 2088600958, 2088603006, 2088605054,
   2088607102, 2088609150, 2088611198, 2088613246, 2088615294, 2088617342, 2088619390, 2088621438, 2088623486,
   2088625534, 2088627582, 2088629630, 2088631678, 2088633727, 2088635775, 2088637823, 2088639871, 2088641919,
   2088643967, 2088646015, 2088648063, 2088650111, 2088652159, 2088654207, 2088656255, 2088658303, 2088660351,
   2088662399, 2088664447, 2088666495, 2088668543, 2088670591, 2088672639, 2088674687, 2088676735, 2088678783,
   2088680831, 2088682879, 2088684927, 2088686975, 2088689023, 2088691071, 2088693119, 2088695167, 2088697215,
   2088699264, 2088701312, 2088703360, 2088705408, 2088707456, 2088709504, 2088711552, 2088713600, 2088715648,
   2088717696, 2088719744, 2088721792, 2088723840, 2088725888, 2088727936, 2088729984, 2088732032, 2088734080,
   2088736128, 2088738176, 2088740224, 2088742272, 2088744320, 2088746368, 2088748416, 2088750464, 2088752512,
   2088754560, 2088756608, 2088758656, 2088760704, 2088762752]
theorem c5_ok :
    chkList (pipeF 1199570688 65535) 65535 2139095040 10241 1042284192 5120 c5
      12289 1044381376 6144 = true := by decide +kernel
theorem c5_len : 10241 + c5.length = 12289 := (chkList_end c5_ok).1
theorem c5_last : lastS 1042284192 c5 = 1044381376 := (chkList_end c5_ok).2.1

@[irreducible] def c6 : List Nat :=
  [2088764801, 2088766849, 2088768897, 2088770945, 2088772993, 2088775041, 2088777089, 2088779137, 2088781185,
   2088783233, 2088785281, 2088787329, 2088789377, 2088791425, 2088793473, 2088795521, 2088797569, 2088799617,
   2088801665, 2088803713, 2088805761, 2088807809, 2088809857, 2088811905, 2088813953, 2088816001, 2088818049,
   2088820097, 2088822145, 2088824193, 2088826241, 2088828289, 2088830338, 2088832386, 2088834434, 2088836482,
   2088838530, 2088840578, 2088842626, 2088844674, 2088846722, 2088848770, 2088850818, 2088852866, 2088854914,
   2088856962, 2088859010, 2088861058, 2088863106, 2088865154, 2088867202, 2088869250, 2088871298, 2088873346,
   2088875394, 2088877442, 2088879490, 2088881538, 2088883586, 2088885634, 2088887682, 2088889730, 2088891778,
   2088893826, 2088895875, 2088897923, 2088899971, 2088902019, 2088904067, 2088906115, 2088908163, 2088910211,
   2088912259, 2088914307, 2088916355, 2088918403, 2088920451, 2088922499, 2088924547, 2088926595, 2088928643,
   2088930691, 2088932739, 2088934787, 2088936835, 2088938883, 2088940931, 2088942979, 2088945027, 2088947075,
   2088949123, 2088951171, 2088953219, 2088955267, 2088957315, 2088959363, 2088961412, 2088963460, 2088965508,
   2088967556, 2088969604, 2088971652, 2088973700, 2088975748, 2088977796, 2088979844, 2088981892, 2088983940,
   2088985988, 2088988036, 2088990084, 2088992132, 2088994180, 2088996228, 2088998276, 2089000324, 2089002372,
   2089004420, 2089006468, 2089008516, 2089010564, 2089012612, 2089014660, 2089016708, 2089018756, 2089020804,
   2089022852, 2089024900, 2089026949, 2089028997, 2089031045, 2089033093, 2089035141, 2089037189, 2089039237,
   2089041285, 2089043333, 2089045381, 2089047429, 2089049477, 2089051525, 2089053573, 2089055621, 2089057669,
   2089059717, 2089061765, 2089063813, 2089065861, 2089067909, 2089069957, 2089072005, 2089074053, 2089076101,
   2089078149, 2089080197, 2089082245, 2089084293, 2089086341, 2089088389, 2089090437, 2089092486, 2089094534,
   2089096582, 2089098630, 2089100678, 2089102726, 2089104774, 2089106822, 2089108870, 2089110918, 2089112966,
   2089115014, 2089117062, 2089119110, 2089121158, 2089123206, 2089125254, 2089127302, 2089129350, 2089131398,
   2089133446, 2089135494, 2089137542, 2089139590, 2089141638, 2089143686, 2089145734, 2089147782, 2089149830,
   2089151878, 2089153926, 2089155974, 2089158023, 2089160071, 2089162119, 2089164167, 2089166215, 2089168263,
   2089170311, 2089172359, 2089174407, 2089176455, 2089178503, 2089180551, 2089182599, 2089184647, 2089186695,
   2089188743, 2089190791, 2089192839, 2089194887, 2089196935, 2089198983, 2089201031, 2089203079, 2089205127,
   2089207175, 2089209223, 2089211271, 2089213319, 2089215367, 2089217415, 2089219463, 2089221511, 2089223560,
   2089225608, 2089227656, 2089229704, 2089231752, 2089233800, 2089235848, 2089237896, 2089239944, 2089241992,
   2089244040, 2089246088, 2089248136, 2089250184, 2089252232, 2089254280, 2089256328, 2089258376, 2089260424,
   2089262472, 2089264520, 2089266568, 2089268616, 2089270664, 2089272712, 2089274760, 2089276808, 2089278856,
   2089280904, 2089282952, 2089285000, 2089287048, 2089289097, 2089291145, 2089293193, 2089295241, 2089297289,
   2089299337, 2089301385, 2089303433, 2089305481, 2089307529, 2089309577, 2089311625, 2089313673, 2089315721,
   2089317769, 2089319817, 2089321865, 2089323913, 2089325961, 2089328009, 2089330057, 2089332105, 2089334153,
   2089336201, 2089338249, 2089340297, 2089342345, 2089344393, 2089346441, 2089348489, 2089350537, 2089352585,
   2089354634, 2089356682, 2089358730, 2089360778, 2089362826, 2089364874, 2089366922, 2089368970, 2089371018,
   2089373066, 2089375114, 2089377162, 2089379210, 2089381258, 2089383306, 2089385354, 2089387402, 2089389450,
   2089391498, 2089393546, 2089395594, 2089397642, 2089399690, 2089401738, 2089403786, 2089405834, 2089407882,
   2089409930, 2089411978, 2089414026, 2089416074, 2089418122, 2089420171, 2089422219, 2089424267, 2089426315,
   2089428363, 2089430411, 2089432459, 2089434507, 2089436555, 2089438603, 2089440651, 2089442699, 2089444747,
   2089446795, 2089448843, 2089450891, 2089452939, 2089454987, 2089457035, 2089459083, 2089461131, 2089463179,
   2089465227, 2089467275, 2089469323, 2089471371, 2089473419, 2089475467, 2089477515, 2089479563, 2089481611,
   2089483659, 2089485708, 2089487756, 2089489804, 2089491852, 2089493900, 2089495948, 2089497996, 2089500044,
   2089502092, 2089504140, 2089506188, 2089508236, 2089510284, 2089512332, 2089514380, 2089516428, 2089518476,
   2089520524, 2089522572, 2089524620, 2089526668, 2089528716, 2089530764, 2089532812, 2089534860, 2089536908,
   2089538956, 2089541004, 2089543052, 2089545100, 2089547148, 2089549196, 2089551245, 2089553293, 2089555341,
   2089557389, 2089559437, 2089561485, 2089563533, 2089565581, 2089567629, 2089569677, 2089571725, 2089573773,
   2089575821, 2089577869, 2089579917, 2089581965, 2089584013, 2089586061, 2089588109, 2089590157, 2089592205,
   2089594253, 2089596301, 2089598349, 2089600397, 2089602445, 2089604493, 2089606541, 2089608589, 2089610637,
   2089612685, 2089614733, 2089616782, 2089618830, 2089620878, 2089622926, 2089624974, 2089627022, 2089629070,
   2089631118, 2089633166, 2089635214, 2089637262, 2089639310, 2089641358, 2089643406, 2089645454, 2089647502,
   2089649550, 2089651598, 2089653646, 2089655694, 2089657742, 2089659790, 2089661838, 2089663886, 2089665934,
   2089667982, 2089670030, 2089672078, 2089674126, 2089676174, 2089678222, 2089680270, 2089682319, 2089684367,
   2089686415, 2089688463, 2089690511, 2089692559, 2089694607, 2089696655, 2089698703, 2089700751, 2089702799,
   2089704847, 2089706895, 2089708943, 2089710991, 2089713039, 2089715087, 2089717135, 2089719183, 2089721231,
   2089723279, 2089725327, 2089727375, 2089729423, 2089731471, 2089733519, 2089735567, 2089737615, 2089739663,
   2089741711, 2089743759, 2089745807, 2089747856, 2089749904, 2089751952, 2089754000, 2089756048, 2089758096,
   2089760144, 2089762192, 2089764240, 2089766288, 2089768336, 2089770384, 2089772432, 2089774480, 2089776528,
   2089778576, 2089780624, 2089782672, 2089784720, 2089786768, 2089788816, 2089790864, 2089792912, 2089794960,
   2089797008, 2089799056, 2089801104, 2089803152, 2089805200, 2089807248, 2089809296, 2089811344, 2089813393,
   2089815441, 2089817489, 2089819537, 2089821585, 2089823633, 2089825681, 2089827729, 2089829777, 2089831825,
   2089833873, 2089835921, 2089837969, 2089840017, 2089842065, 2089844113, 2089846161, 2089848209, 2089850257,
   2089852305, 2089854353, 2089856401, 2089858449, 2089860497, 2089862545, 2089864593, 2089866641, 2089868689,
   2089870737, 2089872785, 2089874833, 2089876881, 2089878930, 2089880978, 2089883026, 2089885074, 2089887122,
   2089889170, 2089891218, 2089893266, 2089895314, 2089897362, 2089899410, 2089901458, 2089903506, 2089905554,
   2089907602, 2089909650, 2089911698, 2089913746, 2089915794, 2089917842, 2089919890, 2089921938, 2089923986,
   2089926034, 2089928082, 2089930130, 2089932178, 2089934226, 2089936274, 2089938322, 2089940370, 2089942418,
   2089944467, 2089946515, 2089948563, 2089950611, 2089952659, 2089954707, 2089956755, 2089958803, 2089960851,
   2089962899, 2089964947, 2089966995, 2089969043, 2089971091, 2089973139, 2089975187, 2089977235, 2089979283,
   2089981331, 2089983379, 2089985427, 2089987475, 2089989523, 2089991571, 2089993619, 2089995667, 2089997715,
   2089999763, 2090001811, 2090003859, 2090005907, 2090007955, 2090010004, 2090012052, 2090014100, 2090016148,
   2090018196, 2090020244, 2090022292, 2090024340, 2090026388, 2090028436, 2090030484, 2090032532, 2090034580,
   2090036628, 2090038676, 2090040724, 2090042772, 2090044820, 2090046868, 2090048916, 2090050964, 2090053012,
   2090055060, 2090057108, 2090059156, 2090061204, 2090063252, 2090065300, 2090067348, 2090069396, 2090071444,
   2090073492, 2090075541, 2090077589, 2090079637, 2090081685, 2090083733, 2090085781, 2090087829, 2090089877,
   2090091925, 2090093973, 2090096021, 2090098069, 2090100117, 2090102165, 2090104213, 2090106261, 2090108309,
   2090110357, 2090112405, 2090114453, 2090116501, 2090118549, 2090120597, 2090122645, 2090124693, 2090126741,
   2090128789, 2090130837, 2090132885, 2090134933, 2090136981, 2090139029, 2090141078, 2090143126, 2090145174,
   2090147222, 2090149270, 2090151318, 2090153366, 2090155414, 2090157462, 2090159510, 2090161558, 2090163606,
   2090165654, 2090167702, 2090169750, 2090171798, 2090173846, 2090175894, 2090177942, 2090179990, 2090182038,
   2090184086, 2090186134, 2090188182, 2090190230, 2090192278, 2090194326, 2090196374, 2090198422, 2090200470,
   2090202518, 2090204566, 2090206615, 2090208663, 2090210711, 2090212759, 2090214807, 2090216855, 2090218903,
   2090220951, 2090222999, 2090225047, 2090227095, 2090229143, 2090231191, 2090233239, 2090235287, 2090237335,
   2090239383, 2090241431, 2090243479, 2090245527, 2090247575, 2090249623, 2090251671, 2090253719, 2090255767,
   2090257815, 2090259863, 2090261911, 2090263959, 2090266007, 2090268055, 2090270103, 2090272152, 2090274200,
   2090276248, 2090278296, 2090280344, 2090282392, 2090284440, 2090286488, 2090288536, 2090290584, 2090292632,
   2090294680, 2090296728, 2090298776, 2090300824, 2090302872, 2090304920, 2090306968, 2090309016, 2090311064,
   2090313112, 2090315160, 2090317208, 2090319256, 2090321304, 2090323352, 2090325400, 2090327448, 2090329496,
   2090331544, 2090333592, 2090335640, 2090337689, 2090339737, 2090341785, 2090343833, 2090345881, 2090347929,
   2090349977, 2090352025, 2090354073, 2090356121, 2090358169, 2090360217, 2090362265, 2090364313, 2090366361,
   2090368409, 2090370457, 2090372505, 2090374553, 2090376601, 2090378649, 2090380697, 2090382745, 2090384793,
   2090386841, 2090388889, 2090390937, 2090392985, 2090395033, 2090397081, 2090399129, 2090401177, 2090403226,
   2090405274, 2090407322, 2090409370, 2090411418, 2090413466, 2090415514, 2090417562, 2090419610, 2090421658,
   2090423706, 2090425754, 2090427802, 2090429850, 2090431898, 2090433946, 2090435994, 2090438042, 2090440090,
   2090442138, 2090444186, 2090446234, 2090448282, 2090450330, 2090452378, 2090454426, 2090456474, 2090458522,
   2090460570, 2090462618, 2090464666, 2090466714, 2090468763, 2090470811, 2090472859, 2090474907, 2090476955,
   2090479003, 2090481051, 2090483099, 2090485147, 2090487195, 2090489243, 2090491291, 2090493339, 2090495387,
   2090497435, 2090499483, 2090501531, 2090503579, 2090505627, 2090507675, 2090509723, 2090511771, 2090513819,
   2090515867, 2090517915, 2090519963, 2090522011, 2090524059, 2090526107, 2090528155, 2090530203, 2090532251,
   2090534300, 2090536348, 2090538396, 2090540444, 2090542492, 2090544540, 2090546588, 2090548636, 2090550684,
   2090552732, 2090554780, 2090556828, 2090558876, 2090560924, 2090562972, 2090565020, 2090567068, 2090569116,
   2090571164, 2090573212, 2090575260, 2090577308, 2090579356, 2090581404, 2090583452, 2090585500, 2090587548,
   2090589596, 2090591644, 2090593692, 2090595740, 2090597788, 2090599837, 2090601885, 2090603933, 2090605981,
   2090608029, 2090610077, 2090612125, 2090614173, 2090616221, 2090618269, 2090620317, 2090622365, 2090624413,
   2090626461, 2090628509, 2090630557, 2090632605, 2090634653, 2090636701, 2090638749, 2090640797, 2090642845,
   2090644893, 2090646941, 2090648989, 2090651037, 2090653085, 2090655133, 2090657181, 2090659229, 2090661277,
   2090663325, 2090665374, 2090667422, 2090669470, 2090671518, 2090673566, 2090675614, 2090677662, 2090679710,
   2090681758, 2090683806, 2090685854, 2090687902, 2090689950, 2090691998, 2090694046, 2090696094, 2090698142,
   2090700190, 2090702238, 2090704286, 2090706334, 2090708382, 2090710430, 2090712478, 2090714526, 2090716574,
   2090718622, 2090720670, 2090722718, 2090724766, 2090726814, 2090728862, 2090730911, 2090732959, 2090735007,
   2090737055, 2090739103, 2090741151, 2090743199, 2090745247, 2090747295, 2090749343, 2090751391, 2090753439,
   2090755487, 2090757535, 2090759583, 2090761631, 2090763679, 2090765727, 2090767775, 2090769823, 2090771871,
   2090773919, 2090775967, 2090778015, 2090780063, 2090782111, 2090784159, 2090786207, 2090788255, 2090790303,
   2090792351, 2090794399, 2090796448, 2090798496, 2090800544, 2090802592, 2090804640, 2090806688, 2090808736,
   2090810784, 2090812832, 2090814880, 2090816928, 2090818976, 2090821024, 2090823072, 2090825120, 2090827168,
   2090829216, 2090831264, 2090833312, 2090835360, 2090837408, 2090839456, 2090841504, 2090843552, 2090845600,
   2090847648, 2090849696, 2090851744, 2090853792, 2090855840, 2090857888, 2090859936, 2090861985, 2090864033,
   2090866081, 2090868129, 2090870177, 2090872225, 2090874273, 2090876321, 2090878369, 2090880417, 2090882465,
   2090884513, 2090886561, 2090888609, 2090890657, 2090892705, 2090894753, 2090896801, 2090898849, 2090900897,
   2090902945, 2090904993, 2090907041, 2090909089, 2090911137, 2090913185, 2090915233, 2090917281, 2090919329,
   2090921377, 2090923425, 2090925473, 2090927522, 2090929570, 2090931618, 2090933666, 2090935714, 2090937762,
   2090939810, 2090941858, 2090943906, 2090945954, 2090948002, 2090950050, 2090952098, 2090954146, 2090956194,
   2090958242, 2090960290, 2090962338, 2090964386, 2090966434, 2090968482, 2090970530, 2090972578, 2090974626,
   2090976674, 2090978722, 2090980770, 2090982818, 2090984866, 2090986914, 2090988962, 2090991010, 2090993059,
   2090995107, 2090997155, 2090999203, 2091001251, 2091003299, 2091005347, 2091007395, 2091009443, 2091011491,
   2091013539, 2091015587, 2091017635, 2091019683, 2091021731, 2091023779, 2091025827, 2091027875, 2091029923,
   2091031971, 2091034019, 2091036067, 2091038115, 2091040163, 2091042211, 2091044259, 2091046307, 2091048355,
   2091050403, 2091052451, 2091054499, 2091056547, 2091058596, 2091060644, 2091062692, 2091064740, 2091066788,
   2091068836, 2091070884, 2091072932, 2091074980, 2091077028, 2091079076, 2091081124, 2091083172, 2091085220,
   2091087268, 2091089316, 2091091364, 2091093412, 2091095460, 2091097508, 2091099556, 2091101604, 2091103652,
   2091105700, 2091107748, 2091109796, 2091111844, 2091113892, 2091115940, 2091117988, 2091120036, 2091122084,
   2091124133, 2091126181, 2091128229, 2091130277, 2091132325, 2091134373, 2091136421, 2091138469, 2091140517,
   2091142565, 2091144613, 2091146661, 2091148709, 2091150757, 2091152805, 2091154853, 2091156901, 2091158949,
   2091160997, 2091163045, 2091165093, 2091167141, 2091169189, 2091171237, 2091173285, 2091175333, 2091177381,
   2091179429, 2091181477, 2091183525, 2091185573, 2091187621, 2091189670, 2091191718, 2091193766, 2091195814,
   2091197862, 2091199910, 2091201958, 2091204006, 2091206054, 2091208102, 2091210150, 2091212198, 2091214246,
   2091216294, 2091218342, 2091220390, 2091222438, 2091224486, 2091226534, 2091228582, 2091230630, 2091232678,
   2091234726, 2091236774, 2091238822, 2091240870, 2091242918, 2091244966, 2091247014, 2091249062, 2091251110,
   2091253158, 2091255207, 2091257255, 2091259303, 2091261351, 2091263399, 2091265447, 2091267495, 2091269543,
   2091271591, 2091273639, 2091275687, 2091277735, 2091279783, 2091281831, 2091283879, 2091285927, 2091287975,
   2091290023, 2091292071, 2091294119, 2091296167, 2091298215, 2091300263, 2091302311, 2091304359, 2091306407,
   2091308455, 2091310503, 2091312551, 2091314599, 2091316647, 2091318695, 2091320744, 2091322792, 2091324840,
   2091326888, 2091328936, 2091330984, 2091333032, 2091335080, 2091337128, 2091339176, 2091341224, 2091343272,
   2091345320, 2091347368, 2091349416, 2091351464, 2091353512, 2091355560, 2091357608, 2091359656, 2091361704,
   2091363752, 2091365800, 2091367848, 2091369896, 2091371944, 2091373992, 2091376040, 2091378088, 2091380136,
   2091382184, 2091384232, 2091386281, 2091388329, 2091390377, 2091392425, 2091394473, 2091396521, 2091398569,
   2091400617, 2091402665, 2091404713, 2091406761, 2091408809, 2091410857, 2091412905, 2091414953, 2091417001,
   2091419049, 2091421097, 2091423145, 2091425193, 2091427241, 2091429289, 2091431337, 2091433385, 2091435433,
   2091437481, 2091439529, 2091441577, 2091443625, 2091445673, 2091447721, 2091449769, 2091451818, 2091453866,
   2091455914, 2091457962, 2091460010, 2091462058, 2091464106, 2091466154, 2091468202, 2091470250, 2091472298,
   2091474346, 2091476394, 2091478442, 2091480490, 2091482538, 2091484586, 2091486634, 2091488682, 2091490730,
   2091492778, 2091494826, 2091496874, 2091498922, 2091500970, 2091503018, 2091505066, 2091507114, 2091509162,
   2091511210, 2091513258, 2091515306, 2091517355, 2091519403, 2091521451, 2091523499, 2091525547, 2091527595,
   2091529643, 2091531691, 2091533739, 2091535787, 2091537835, 2091539883, 2091541931, 2091543979, 2091546027,
   2091548075, 2091550123, 2091552171, 2091554219, 2091556267, 2091558315, 2091560363, 2091562411, 2091564459,
   2091566507, 2091568555, 2091570603, 2091572651, 2091574699, 2091576747, 2091578795, 2091580843, 2091582892,
   2091584940, 2091586988, 2091589036, 2091591084, 2091593132, 2091595180, 2091597228, 2091599276, 2091601324,
   2091603372, 2091605420, 2091607468, 2091609516, 2091611564, 2091613612, 2091615660, 2091617708, 2091619756,
   2091621804, 2091623852, 2091625900, 2091627948, 2091629996, 2091632044, 2091634092, 2091636140, 2091638188,
   2091640236, 2091642284, 2091644332, 2091646380, 2091648429, 2091650477, 2091652525, 2091654573, 2091656621,
   2091658669, 2091660717, 2091662765, 2091664813, 2091666861, 2091668909, 2091670957, 2091673005, 2091675053,
   2091677101, 2091679149, 2091681197, 2091683245, 2091685293, 2091687341, 2091689389, 2091691437, 2091693485,
   2091695533, 2091697581, 2091699629, 2091701677, 2091703725, 2091705773, 2091707821, 2091709869, 2091711917,
   2091713966, 2091716014, 2091718062, 2091720110, 2091722158, 2091724206, 2091726254, 2091728302, 2091730350,
   2091732398, 2091734446, 2091736494, 2091738542, 2091740590, 2091742638, 2091744686, 2091746734, 2091748782,
   2091750830, 2091752878, 2091754926, 2091756974, 2091759022, 2091761070, 2091763118, 2091765166, 2091767214,
   2091769262, 2091771310, 2091773358, 2091775406, 2091777454, 2091779503, 2091781551, 2091783599, 2091785647,
   2091787695, 2091789743, 2091791791, 2091793839, 2091795887, 2091797935, 2091799983, 2091802031, 2091804079,
   2091806127, 2091808175, 2091810223, 2091812271, 2091814319, 2091816367, 2091818415, 2091820463, 2091822511,
   2091824559, 2091826607, 2091828655, 2091830703, 2091832751, 2091834799, 2091836847, 2091838895, 2091840943,
   2091842991, 2091845040, 2091847088, 2091849136, 2091851184, 2091853232, 2091855280, 2091857328, 2091859376,
   2091861424, 2091863472, 2091865520, 2091867568, 2091869616, 2091871664, 2091873712, 2091875760, 2091877808,
   2091879856, 2091881904, 2091883952, 2091886000, 2091888048, 2091890096, 2091892144, 2091894192, 2091896240,
   2091898288, 2091900336, 2091902384, 2091904432, 2091906480, 2091908528, 2091910577, 2091912625, 2091914673,
   2091916721, 2091918769, 2091920817, 2091922865, 2091924913, 2091926961, 2091929009, 2091931057, 2091933105,
   2091935153, 2091937201, 2091939249, 2091941297, 2091943345, 2091945393, 2091947441, 2091949489, 2091951537,
   2091953585, 2091955633, 2091957681, 2091959729, 2091961777, 2091963825, 2091965873, 2091967921, 2091969969,
   2091972017, 2091974065, 2091976114, 2091978162, 2091980210, 2091982258, 2091984306, 2091986354, 2091988402,
   2091990450, 2091992498, 2091994546, 2091996594, 2091998642, 2092000690, 2092002738, 2092004786, 2092006834,
   2092008882, 2092010930, 2092012978, 2092015026, 2092017074, 2092019122, 2092021170, 2092023218, 2092025266,
   2092027314, 2092029362, 2092031410, 2092033458, 2092035506, 2092037554, 2092039602, 2092041651, 2092043699,
   2092045747, 2092047795, 2092049843, 2092051891, 2092053939, 2092055987, 2092058035, 2092060083, 2092062131,
   2092064179, 2092066227, 2092068275, 2092070323, 2092072371, 2092074419, 2092076467, 2092078515, 2092080563,
   2092082611, 2092084659, 2092086707, 2092088755, 2092090803, 2092092851, 2092094899, 2092096947, 2092098995,
   2092101043, 2092103091, 2092105139, 2092107188, 2092109236, 2092111284, 2092113332, 2092115380, 2092117428,
   2092119476, 2092121524, 2092123572, 2092125620, 2092127668, 2092129716, 2092131764, 2092133812, 2092135860,
   2092137908, 2092139956, 2092142004, 2092144052, 2092146100, 2092148148, 2092150196, 2092152244, 2092154292,
   2092156340, 2092158388, 2092160436, 2092162484, 2092164532, 2092166580, 2092168628, 2092170676, 2092172725,
   2092174773, 2092176821, 2092178869, 2092180917, 2092182965, 2092185013, 2092187061, 2092189109, 2092191157,
   2092193205, 2092195253, 2092197301, 2092199349, 2092201397, 2092203445, 2092205493, 2092207541, 2092209589,
   2092211637, 2092213685, 2092215733, 2092217781, 2092219829, 2092221877, 2092223925, 2092225973, 2092228021,
   2092230069, 2092232117, 2092234165, 2092236213, 2092238262, 2092240310, 2092242358, 2092244406, 2092246454,
   2092248502, 2092250550, 2092252598, 2092254646, 2092256694, 2092258742, 2092260790, 2092262838, 2092264886,
   2092266934, 2092268982, 2092271030, 2092273078, 2092275126, 2092277174, 2092279222, 2092281270, 2092283318,
   2092285366, 2092287414, 2092289462, 2092291510, 2092293558, 2092295606, 2092297654, 2092299702, 2092301750,
   2092303799, 2092305847, 2092307895, 2092309943, 2092311991, 2092314039, 2092316087, 2092318135, 2092320183,
   2092322231, 2092324279, 2092326327, 2092328375, 2092330423, 2092332471, 2092334519, 2092336567, 2092338615,
   2092340663, 2092342711, 2092344759, 2092346807, 2092348855, 2092350903, 2092352951, 2092354999, 2092357047,
   2092359095, 2092361143, 2092363191, 2092365239, 2092367287, 2092369336, 2092371384, 2092373432, 2092375480,
   2092377528, 2092379576, 2092381624, 2092383672, 2092385720, 2092387768, 2092389816, 2092391864, 2092393912,
   2092395960, 2092398008, 2092400056, 2092402104, 2092404152, 2092406200, 2092408248, 2092410296, 2092412344,
   2092414392, 2092416440, 2092418488, 2092420536, 2092422584, 2092424632, 2092426680, 2092428728, 2092430776,
   2092432824, 2092434873, 2092436921, 2092438969, 2092441017, 2092443065, 2092445113, 2092447161, 2092449209,
   2092451257, 2092453305, 2092455353, 2092457401, 2092459449, 2092461497, 2092463545, 2092465593, 2092467641,
   2092469689, 2092471737, 2092473785, 2092475833, 2092477881, 2092479929, 2092481977, 2092484025, 2092486073,
   2092488121, 2092490169, 2092492217, 2092494265, 2092496313, 2092498361, 2092500410, 2092502458, 2092504506,
   2092506554, 2092508602, 2092510650, 2092512698, 2092514746, 2092516794, 2092518842, 2092520890, 2092522938,
   2092524986, 2092527034, 2092529082, 2092531130, 2092533178, 2092535226, 2092537274, 2092539322, 2092541370,
   2092543418, 2092545466, 2092547514, 2092549562, 2092551610, 2092553658, 2092555706, 2092557754, 2092559802,
   2092561850, 2092563898, 2092565947, 2092567995, 2092570043, 2092572091, 2092574139, 2092576187, 2092578235,
   2092580283, 2092582331, 2092584379, 2092586427, 2092588475, 2092590523, 2092592571, 2092594619, 2092596667,
   2092598715, 2092600763, 2092602811, 2092604859, 2092606907, 2092608955, 2092611003, 2092613051, 2092615099,
   2092617147, 2092619195, 2092621243, 2092623291, 2092625339, 2092627387, 2092629435, 2092631484, 2092633532,
   2092635580, 2092637628, 2092639676, 2092641724, 2092643772, 2092645820, 2092647868, 2092649916, 2092651964,
   2092654012, 2092656060, 2092658108, 2092660156, 2092662204, 2092664252, 2092666300, 2092668348, 2092670396,
   2092672444, 2092674492, 2092676540, 2092678588, 2092680636, 2092682684, 2092684732, 2092686780, 2092688828,
   2092690876, 2092692924, 2092694972, 2092697021, 2092699069, 2092701117, 2092703165, 2092705213, 2092707261,
   2092709309, 2092711357, 2092713405, 2092715453, 2092717501, 2092719549, 2092721597, 2092723645, 2092725693,
   2092727741, 2092729789, 2092731837, 2092733885, 2092735933, 2092737981, 2092740029, 2092742077, 2092744125,
   2092746173, 2092748221, 2092750269, 2092752317, 2092754365, 2092756413, 2092758461, 2092760509, 2092762558,
   2092764606, 2092766654, 2092768702, 2092770750, 2092772798, 2092774846, 2092776894, 2092778942, 2092780990,
   2092783038, 2092785086, 2092787134, 2092789182, 2092791230, 2092793278, 2092795326, 2092797374, 2092799422,
   2092801470, 2092803518, 2092805566, 2092807614, 2092809662, 2092811710, 2092813758, 2092815806, 2092817854,
   2092819902, 2092821950, 2092823998, 2092826046, 2092828095, 2092830143, 2092832191, 2092834239, 2092836287,
   2092838335, 2092840383, 2092842431, 2092844479, 2092846527, 2092848575, 2092850623, 2092852671, 2092854719,
   2092856767, 2092858815, 2092860863, 2092862911, 2092864959, 2092867007, 2092869055, 2092871103, 2092873151,
   2092875199, 2092877247, 2092879295, 2092881343, 2092883391, 2092885439, 2092887487, 2092889535, 2092891583,
   2092893632, 2092895680, 2092897728, 2092899776, 2092901824, 2092903872, 2092905920, 2092907968, 2092910016,
   2092912064, 2092914112, 2092916160, 2092918208, 2092920256, 2092922304, 2092924352, 2092926400, 2092928448,
   2092930496, 2092932544, 2092934592, 2092936640, 2092938688, 2092940736, 2092942784, 2092944832, 2092946880,
   2092948928, 2092950976, 2092953024, 2092955072, 2092957120]
theorem c6_ok :
    chkList (pipeF 1199570688 65535) 65535 2139095040 12289 1044381376 6144 c6
      14337 1046478560 7168 = true := by decide +kernel
theorem c6_len : 12289 + c6.length = 14337 := (chkList_end c6_ok).1
theorem c6_last : lastS 1044381376 c6 = 1046478560 := (chkList_end c6_ok).2.1

@[irreducible] def c7 : List Nat :=
  [2092959169, 2092961217, 2092963265, 2092965313, 2092967361, 2092969409, 2092971457, 2092973505, 2092975553,
   2092977601, 2092979649, 2092981697, 2092983745, 2092985793, 2092987841, 2092989889, 2092991937, 2092993985,
   2092996033, 2092998081, 2093000129, 2093002177, 2093004225, 2093006273, 2093008321, 2093010369, 2093012417,
   2093014465, 2093016513, 2093018561, 2093020609, 2093022657, 2093024706, 2093026754, 2093028802, 2093030850,
   2093032898, 2093034946, 2093036994, 2093039042, 2093041090, 2093043138, 2093045186, 2093047234, 2093049282,
   2093051330, 2093053378, 2093055426, 2093057474, 2093059522, 2093061570, 2093063618, 2093065666, 2093067714,
   2093069762, 2093071810, 2093073858, 2093075906, 2093077954, 2093080002, 2093082050, 2093084098, 2093086146,
   2093088194, 2093090243, 2093092291, 2093094339, 2093096387, 2093098435, 2093100483, 2093102531, 2093104579,
   2093106627, 2093108675, 2093110723, 2093112771, 2093114819, 2093116867, 2093118915, 2093120963, 2093123011,
   2093125059, 2093127107, 2093129155, 2093131203, 2093133251, 2093135299, 2093137347, 2093139395, 2093141443,
   2093143491, 2093145539, 2093147587, 2093149635, 2093151683, 2093153731, 2093155780, 2093157828, 2093159876,
   2093161924, 2093163972, 2093166020, 2093168068, 2093170116, 2093172164, 2093174212, 2093176260, 2093178308,
   2093180356, 2093182404, 2093184452, 2093186500, 2093188548, 2093190596, 2093192644, 2093194692, 2093196740,
   2093198788, 2093200836, 2093202884, 2093204932, 2093206980, 2093209028, 2093211076, 2093213124, 2093215172,
   2093217220, 2093219268, 2093221317, 2093223365, 2093225413, 2093227461, 2093229509, 2093231557, 2093233605,
   2093235653, 2093237701, 2093239749, 2093241797, 2093243845, 2093245893, 2093247941, 2093249989, 2093252037,
   2093254085, 2093256133, 2093258181, 2093260229, 2093262277, 2093264325, 2093266373, 2093268421, 2093270469,
   2093272517, 2093274565, 2093276613, 2093278661, 2093280709, 2093282757, 2093284805, 2093286854, 2093288902,
   2093290950, 2093292998, 2093295046, 2093297094, 2093299142, 2093301190, 2093303238, 2093305286, 2093307334,
   2093309382, 2093311430, 2093313478, 2093315526, 2093317574, 2093319622, 2093321670, 2093323718, 2093325766,
   2093327814, 2093329862, 2093331910, 2093333958, 2093336006, 2093338054, 2093340102, 2093342150, 2093344198,
   2093346246, 2093348294, 2093350342, 2093352391, 2093354439, 2093356487, 2093358535, 2093360583, 2093362631,
   2093364679, 2093366727, 2093368775, 2093370823, 2093372871, 2093374919, 2093376967, 2093379015, 2093381063,
   2093383111, 2093385159, 2093387207, 2093389255, 2093391303, 2093393351, 2093395399, 2093397447, 2093399495,
   2093401543, 2093403591, 2093405639, 2093407687, 2093409735, 2093411783, 2093413831, 2093415879, 2093417928,
   2093419976, 2093422024, 2093424072, 2093426120, 2093428168, 2093430216, 2093432264, 2093434312, 2093436360,
   2093438408, 2093440456, 2093442504, 2093444552, 2093446600, 2093448648, 2093450696, 2093452744, 2093454792,
   2093456840, 2093458888, 2093460936, 2093462984, 2093465032, 2093467080, 2093469128, 2093471176, 2093473224,
   2093475272, 2093477320, 2093479368, 2093481416, 2093483465, 2093485513, 2093487561, 2093489609, 2093491657,
   2093493705, 2093495753, 2093497801, 2093499849, 2093501897, 2093503945, 2093505993, 2093508041, 2093510089,
   2093512137, 2093514185, 2093516233, 2093518281, 2093520329, 2093522377, 2093524425, 2093526473, 2093528521,
   2093530569, 2093532617, 2093534665, 2093536713, 2093538761, 2093540809, 2093542857, 2093544905, 2093546953,
   2093549002, 2093551050, 2093553098, 2093555146, 2093557194, 2093559242, 2093561290, 2093563338, 2093565386,
   2093567434, 2093569482, 2093571530, 2093573578, 2093575626, 2093577674, 2093579722, 2093581770, 2093583818,
   2093585866, 2093587914, 2093589962, 2093592010, 2093594058, 2093596106, 2093598154, 2093600202, 2093602250,
   2093604298, 2093606346, 2093608394, 2093610442, 2093612490, 2093614539, 2093616587, 2093618635, 2093620683,
   2093622731, 2093624779, 2093626827, 2093628875, 2093630923, 2093632971, 2093635019, 2093637067, 2093639115,
   2093641163, 2093643211, 2093645259, 2093647307, 2093649355, 2093651403, 2093653451, 2093655499, 2093657547,
   2093659595, 2093661643, 2093663691, 2093665739, 2093667787, 2093669835, 2093671883, 2093673931, 2093675979,
   2093678027, 2093680076, 2093682124, 2093684172, 2093686220, 2093688268, 2093690316, 2093692364, 2093694412,
   2093696460, 2093698508, 2093700556, 2093702604, 2093704652, 2093706700, 2093708748, 2093710796, 2093712844,
   2093714892, 2093716940, 2093718988, 2093721036, 2093723084, 2093725132, 2093727180, 2093729228, 2093731276,
   2093733324, 2093735372, 2093737420, 2093739468, 2093741516, 2093743564, 2093745613, 2093747661, 2093749709,
   2093751757, 2093753805, 2093755853, 2093757901, 2093759949, 2093761997, 2093764045, 2093766093, 2093768141,
   2093770189, 2093772237, 2093774285, 2093776333, 2093778381, 2093780429, 2093782477, 2093784525, 2093786573,
   2093788621, 2093790669, 2093792717, 2093794765, 2093796813, 2093798861, 2093800909, 2093802957, 2093805005,
   2093807053, 2093809101, 2093811150, 2093813198, 2093815246, 2093817294, 2093819342, 2093821390, 2093823438,
   2093825486, 2093827534, 2093829582, 2093831630, 2093833678, 2093835726, 2093837774, 2093839822, 2093841870,
   2093843918, 2093845966, 2093848014, 2093850062, 2093852110, 2093854158, 2093856206, 2093858254, 2093860302,
   2093862350, 2093864398, 2093866446, 2093868494, 2093870542, 2093872590, 2093874638, 2093876687, 2093878735,
   2093880783, 2093882831, 2093884879, 2093886927, 2093888975, 2093891023, 2093893071, 2093895119, 2093897167,
   2093899215, 2093901263, 2093903311, 2093905359, 2093907407, 2093909455, 2093911503, 2093913551, 2093915599,
   2093917647, 2093919695, 2093921743, 2093923791, 2093925839, 2093927887, 2093929935, 2093931983, 2093934031,
   2093936079, 2093938127, 2093940175, 2093942224, 2093944272, 2093946320, 2093948368, 2093950416, 2093952464,
   2093954512, 2093956560, 2093958608, 2093960656, 2093962704, 2093964752, 2093966800, 2093968848, 2093970896,
   2093972944, 2093974992, 2093977040, 2093979088, 2093981136, 2093983184, 2093985232, 2093987280, 2093989328,
   2093991376, 2093993424, 2093995472, 2093997520, 2093999568, 2094001616, 2094003664, 2094005712, 2094007761,
   2094009809, 2094011857, 2094013905, 2094015953, 2094018001, 2094020049, 2094022097, 2094024145, 2094026193,
   2094028241, 2094030289, 2094032337, 2094034385, 2094036433, 2094038481, 2094040529, 2094042577, 2094044625,
   2094046673, 2094048721, 2094050769, 2094052817, 2094054865, 2094056913, 2094058961, 2094061009, 2094063057,
   2094065105, 2094067153, 2094069201, 2094071249, 2094073298, 2094075346, 2094077394, 2094079442, 2094081490,
   2094083538, 2094085586, 2094087634, 2094089682, 2094091730, 2094093778, 2094095826, 2094097874, 2094099922,
   2094101970, 2094104018, 2094106066, 2094108114, 2094110162, 2094112210, 2094114258, 2094116306, 2094118354,
   2094120402, 2094122450, 2094124498, 2094126546, 2094128594, 2094130642, 2094132690, 2094134738, 2094136786,
   2094138835, 2094140883, 2094142931, 2094144979, 2094147027, 2094149075, 2094151123, 2094153171, 2094155219,
   2094157267, 2094159315, 2094161363, 2094163411, 2094165459, 2094167507, 2094169555, 2094171603, 2094173651,
   2094175699, 2094177747, 2094179795, 2094181843, 2094183891, 2094185939, 2094187987, 2094190035, 2094192083,
   2094194131, 2094196179, 2094198227, 2094200275, 2094202323, 2094204372, 2094206420, 2094208468, 2094210516,
   2094212564, 2094214612, 2094216660, 2094218708, 2094220756, 2094222804, 2094224852, 2094226900, 2094228948,
   2094230996, 2094233044, 2094235092, 2094237140, 2094239188, 2094241236, 2094243284, 2094245332, 2094247380,
   2094249428, 2094251476, 2094253524, 2094255572, 2094257620, 2094259668, 2094261716, 2094263764, 2094265812,
   2094267860, 2094269909, 2094271957, 2094274005, 2094276053, 2094278101, 2094280149, 2094282197, 2094284245,
   2094286293, 2094288341, 2094290389, 2094292437, 2094294485, 2094296533, 2094298581, 2094300629, 2094302677,
   2094304725, 2094306773, 2094308821, 2094310869, 2094312917, 2094314965, 2094317013, 2094319061, 2094321109,
   2094323157, 2094325205, 2094327253, 2094329301, 2094331349, 2094333397, 2094335446, 2094337494, 2094339542,
   2094341590, 2094343638, 2094345686, 2094347734, 2094349782, 2094351830, 2094353878, 2094355926, 2094357974,
   2094360022, 2094362070, 2094364118, 2094366166, 2094368214, 2094370262, 2094372310, 2094374358, 2094376406,
   2094378454, 2094380502, 2094382550, 2094384598, 2094386646, 2094388694, 2094390742, 2094392790, 2094394838,
   2094396886, 2094398934, 2094400983, 2094403031, 2094405079, 2094407127, 2094409175, 2094411223, 2094413271,
   2094415319, 2094417367, 2094419415, 2094421463, 2094423511, 2094425559, 2094427607, 2094429655, 2094431703,
   2094433751, 2094435799, 2094437847, 2094439895, 2094441943, 2094443991, 2094446039, 2094448087, 2094450135,
   2094452183, 2094454231, 2094456279, 2094458327, 2094460375, 2094462423, 2094464471, 2094466520, 2094468568,
   2094470616, 2094472664, 2094474712, 2094476760, 2094478808, 2094480856, 2094482904, 2094484952, 2094487000,
   2094489048, 2094491096, 2094493144, 2094495192, 2094497240, 2094499288, 2094501336, 2094503384, 2094505432,
   2094507480, 2094509528, 2094511576, 2094513624, 2094515672, 2094517720, 2094519768, 2094521816, 2094523864,
   2094525912, 2094527960, 2094530008, 2094532057, 2094534105, 2094536153, 2094538201, 2094540249, 2094542297,
   2094544345, 2094546393, 2094548441, 2094550489, 2094552537, 2094554585, 2094556633, 2094558681, 2094560729,
   2094562777, 2094564825, 2094566873, 2094568921, 2094570969, 2094573017, 2094575065, 2094577113, 2094579161,
   2094581209, 2094583257, 2094585305, 2094587353, 2094589401, 2094591449, 2094593497, 2094595545, 2094597594,
   2094599642, 2094601690, 2094603738, 2094605786, 2094607834, 2094609882, 2094611930, 2094613978, 2094616026,
   2094618074, 2094620122, 2094622170, 2094624218, 2094626266, 2094628314, 2094630362, 2094632410, 2094634458,
   2094636506, 2094638554, 2094640602, 2094642650, 2094644698, 2094646746, 2094648794, 2094650842, 2094652890,
   2094654938, 2094656986, 2094659034, 2094661082, 2094663131, 2094665179, 2094667227, 2094669275, 2094671323,
   2094673371, 2094675419, 2094677467, 2094679515, 2094681563, 2094683611, 2094685659, 2094687707, 2094689755,
   2094691803, 2094693851, 2094695899, 2094697947, 2094699995, 2094702043, 2094704091, 2094706139, 2094708187,
   2094710235, 2094712283, 2094714331, 2094716379, 2094718427, 2094720475, 2094722523, 2094724571, 2094726619,
   2094728668, 2094730716, 2094732764, 2094734812, 2094736860, 2094738908, 2094740956, 2094743004, 2094745052,
   2094747100, 2094749148, 2094751196, 2094753244, 2094755292, 2094757340, 2094759388, 2094761436, 2094763484,
   2094765532, 2094767580, 2094769628, 2094771676, 2094773724, 2094775772, 2094777820, 2094779868, 2094781916,
   2094783964, 2094786012, 2094788060, 2094790108, 2094792156, 2094794205, 2094796253, 2094798301, 2094800349,
   2094802397, 2094804445, 2094806493, 2094808541, 2094810589, 2094812637, 2094814685, 2094816733, 2094818781,
   2094820829, 2094822877, 2094824925, 2094826973, 2094829021, 2094831069, 2094833117, 2094835165, 2094837213,
   2094839261, 2094841309, 2094843357, 2094845405, 2094847453, 2094849501, 2094851549, 2094853597, 2094855645,
   2094857693, 2094859742, 2094861790, 2094863838, 2094865886, 2094867934, 2094869982, 2094872030, 2094874078,
   2094876126, 2094878174, 2094880222, 2094882270, 2094884318, 2094886366, 2094888414, 2094890462, 2094892510,
   2094894558, 2094896606, 2094898654, 2094900702, 2094902750, 2094904798, 2094906846, 2094908894, 2094910942,
   2094912990, 2094915038, 2094917086, 2094919134, 2094921182, 2094923230, 2094925279, 2094927327, 2094929375,
   2094931423, 2094933471, 2094935519, 2094937567, 2094939615, 2094941663, 2094943711, 2094945759, 2094947807,
   2094949855, 2094951903, 2094953951, 2094955999, 2094958047, 2094960095, 2094962143, 2094964191, 2094966239,
   2094968287, 2094970335, 2094972383, 2094974431, 2094976479, 2094978527, 2094980575, 2094982623, 2094984671,
   2094986719, 2094988767, 2094990816, 2094992864, 2094994912, 2094996960, 2094999008, 2095001056, 2095003104,
   2095005152, 2095007200, 2095009248, 2095011296, 2095013344, 2095015392, 2095017440, 2095019488, 2095021536,
   2095023584, 2095025632, 2095027680, 2095029728, 2095031776, 2095033824, 2095035872, 2095037920, 2095039968,
   2095042016, 2095044064, 2095046112, 2095048160, 2095050208, 2095052256, 2095054304, 2095056353, 2095058401,
   2095060449, 2095062497, 2095064545, 2095066593, 2095068641, 2095070689, 2095072737, 2095074785, 2095076833,
   2095078881, 2095080929, 2095082977, 2095085025, 2095087073, 2095089121, 2095091169, 2095093217, 2095095265,
   2095097313, 2095099361, 2095101409, 2095103457, 2095105505, 2095107553, 2095109601, 2095111649, 2095113697,
   2095115745, 2095117793, 2095119841, 2095121890, 2095123938, 2095125986, 2095128034, 2095130082, 2095132130,
   2095134178, 2095136226, 2095138274, 2095140322, 2095142370, 2095144418, 2095146466, 2095148514, 2095150562,
   2095152610, 2095154658, 2095156706, 2095158754, 2095160802, 2095162850, 2095164898, 2095166946, 2095168994,
   2095171042, 2095173090, 2095175138, 2095177186, 2095179234, 2095181282, 2095183330, 2095185378, 2095187427,
   2095189475, 2095191523, 2095193571, 2095195619, 2095197667, 2095199715, 2095201763, 2095203811, 2095205859,
   2095207907, 2095209955, 2095212003, 2095214051, 2095216099, 2095218147, 2095220195, 2095222243, 2095224291,
   2095226339, 2095228387, 2095230435, 2095232483, 2095234531, 2095236579, 2095238627, 2095240675, 2095242723,
   2095244771, 2095246819, 2095248867, 2095250915, 2095252964, 2095255012, 2095257060, 2095259108, 2095261156,
   2095263204, 2095265252, 2095267300, 2095269348, 2095271396, 2095273444, 2095275492, 2095277540, 2095279588,
   2095281636, 2095283684, 2095285732, 2095287780, 2095289828, 2095291876, 2095293924, 2095295972, 2095298020,
   2095300068, 2095302116, 2095304164, 2095306212, 2095308260, 2095310308, 2095312356, 2095314404, 2095316452,
   2095318501, 2095320549, 2095322597, 2095324645, 2095326693, 2095328741, 2095330789, 2095332837, 2095334885,
   2095336933, 2095338981, 2095341029, 2095343077, 2095345125, 2095347173, 2095349221, 2095351269, 2095353317,
   2095355365, 2095357413, 2095359461, 2095361509, 2095363557, 2095365605, 2095367653, 2095369701, 2095371749,
   2095373797, 2095375845, 2095377893, 2095379941, 2095381989, 2095384038, 2095386086, 2095388134, 2095390182,
   2095392230, 2095394278, 2095396326, 2095398374, 2095400422, 2095402470, 2095404518, 2095406566, 2095408614,
   2095410662, 2095412710, 2095414758, 2095416806, 2095418854, 2095420902, 2095422950, 2095424998, 2095427046,
   2095429094, 2095431142, 2095433190, 2095435238, 2095437286, 2095439334, 2095441382, 2095443430, 2095445478,
   2095447526, 2095449575, 2095451623, 2095453671, 2095455719, 2095457767, 2095459815, 2095461863, 2095463911,
   2095465959, 2095468007, 2095470055, 2095472103, 2095474151, 2095476199, 2095478247, 2095480295, 2095482343,
   2095484391, 2095486439, 2095488487, 2095490535, 2095492583, 2095494631, 2095496679, 2095498727, 2095500775,
   2095502823, 2095504871, 2095506919, 2095508967, 2095511015, 2095513063, 2095515112, 2095517160, 2095519208,
   2095521256, 2095523304, 2095525352, 2095527400, 2095529448, 2095531496, 2095533544, 2095535592, 2095537640,
   2095539688, 2095541736, 2095543784, 2095545832, 2095547880, 2095549928, 2095551976, 2095554024, 2095556072,
   2095558120, 2095560168, 2095562216, 2095564264, 2095566312, 2095568360, 2095570408, 2095572456, 2095574504,
   2095576552, 2095578600, 2095580649, 2095582697, 2095584745, 2095586793, 2095588841, 2095590889, 2095592937,
   2095594985, 2095597033, 2095599081, 2095601129, 2095603177, 2095605225, 2095607273, 2095609321, 2095611369,
   2095613417, 2095615465, 2095617513, 2095619561, 2095621609, 2095623657, 2095625705, 2095627753, 2095629801,
   2095631849, 2095633897, 2095635945, 2095637993, 2095640041, 2095642089, 2095644137, 2095646186, 2095648234,
   2095650282, 2095652330, 2095654378, 2095656426, 2095658474, 2095660522, 2095662570, 2095664618, 2095666666,
   2095668714, 2095670762, 2095672810, 2095674858, 2095676906, 2095678954, 2095681002, 2095683050, 2095685098,
   2095687146, 2095689194, 2095691242, 2095693290, 2095695338, 2095697386, 2095699434, 2095701482, 2095703530,
   2095705578, 2095707626, 2095709674, 2095711723, 2095713771, 2095715819, 2095717867, 2095719915, 2095721963,
   2095724011, 2095726059, 2095728107, 2095730155, 2095732203, 2095734251, 2095736299, 2095738347, 2095740395,
   2095742443, 2095744491, 2095746539, 2095748587, 2095750635, 2095752683, 2095754731, 2095756779, 2095758827,
   2095760875, 2095762923, 2095764971, 2095767019, 2095769067, 2095771115, 2095773163, 2095775211, 2095777260,
   2095779308, 2095781356, 2095783404, 2095785452, 2095787500, 2095789548, 2095791596, 2095793644, 2095795692,
   2095797740, 2095799788, 2095801836, 2095803884, 2095805932, 2095807980, 2095810028, 2095812076, 2095814124,
   2095816172, 2095818220, 2095820268, 2095822316, 2095824364, 2095826412, 2095828460, 2095830508, 2095832556,
   2095834604, 2095836652, 2095838700, 2095840748, 2095842797, 2095844845, 2095846893, 2095848941, 2095850989,
   2095853037, 2095855085, 2095857133, 2095859181, 2095861229, 2095863277, 2095865325, 2095867373, 2095869421,
   2095871469, 2095873517, 2095875565, 2095877613, 2095879661, 2095881709, 2095883757, 2095885805, 2095887853,
   2095889901, 2095891949, 2095893997, 2095896045, 2095898093, 2095900141, 2095902189, 2095904237, 2095906285,
   2095908334, 2095910382, 2095912430, 2095914478, 2095916526, 2095918574, 2095920622, 2095922670, 2095924718,
   2095926766, 2095928814, 2095930862, 2095932910, 2095934958, 2095937006, 2095939054, 2095941102, 2095943150,
   2095945198, 2095947246, 2095949294, 2095951342, 2095953390, 2095955438, 2095957486, 2095959534, 2095961582,
   2095963630, 2095965678, 2095967726, 2095969774, 2095971822, 2095973871, 2095975919, 2095977967, 2095980015,
   2095982063, 2095984111, 2095986159, 2095988207, 2095990255, 2095992303, 2095994351, 2095996399, 2095998447,
   2096000495, 2096002543, 2096004591, 2096006639, 2096008687, 2096010735, 2096012783, 2096014831, 2096016879,
   2096018927, 2096020975, 2096023023, 2096025071, 2096027119, 2096029167, 2096031215, 2096033263, 2096035311,
   2096037359, 2096039408, 2096041456, 2096043504, 2096045552, 2096047600, 2096049648, 2096051696, 2096053744,
   2096055792, 2096057840, 2096059888, 2096061936, 2096063984, 2096066032, 2096068080, 2096070128, 2096072176,
   2096074224, 2096076272, 2096078320, 2096080368, 2096082416, 2096084464, 2096086512, 2096088560, 2096090608,
   2096092656, 2096094704, 2096096752, 2096098800, 2096100848, 2096102896, 2096104945, 2096106993, 2096109041,
   2096111089, 2096113137, 2096115185, 2096117233, 2096119281, 2096121329, 2096123377, 2096125425, 2096127473,
   2096129521, 2096131569, 2096133617, 2096135665, 2096137713, 2096139761, 2096141809, 2096143857, 2096145905,
   2096147953, 2096150001, 2096152049, 2096154097, 2096156145, 2096158193, 2096160241, 2096162289, 2096164337,
   2096166385, 2096168433, 2096170482, 2096172530, 2096174578, 2096176626, 2096178674, 2096180722, 2096182770,
   2096184818, 2096186866, 2096188914, 2096190962, 2096193010, 2096195058, 2096197106, 2096199154, 2096201202,
   2096203250, 2096205298, 2096207346, 2096209394, 2096211442, 2096213490, 2096215538, 2096217586, 2096219634,
   2096221682, 2096223730, 2096225778, 2096227826, 2096229874, 2096231922, 2096233970, 2096236019, 2096238067,
   2096240115, 2096242163, 2096244211, 2096246259, 2096248307, 2096250355, 2096252403, 2096254451, 2096256499,
   2096258547, 2096260595, 2096262643, 2096264691, 2096266739, 2096268787, 2096270835, 2096272883, 2096274931,
   2096276979, 2096279027, 2096281075, 2096283123, 2096285171, 2096287219, 2096289267, 2096291315, 2096293363,
   2096295411, 2096297459, 2096299507, 2096301556, 2096303604, 2096305652, 2096307700, 2096309748, 2096311796,
   2096313844, 2096315892, 2096317940, 2096319988, 2096322036, 2096324084, 2096326132, 2096328180, 2096330228,
   2096332276, 2096334324, 2096336372, 2096338420, 2096340468, 2096342516, 2096344564, 2096346612, 2096348660,
   2096350708, 2096352756, 2096354804, 2096356852, 2096358900, 2096360948, 2096362996, 2096365044, 2096367093,
   2096369141, 2096371189, 2096373237, 2096375285, 2096377333, 2096379381, 2096381429, 2096383477, 2096385525,
   2096387573, 2096389621, 2096391669, 2096393717, 2096395765, 2096397813, 2096399861, 2096401909, 2096403957,
   2096406005, 2096408053, 2096410101, 2096412149, 2096414197, 2096416245, 2096418293, 2096420341, 2096422389,
   2096424437, 2096426485, 2096428533, 2096430581, 2096432630, 2096434678, 2096436726, 2096438774, 2096440822,
   2096442870, 2096444918, 2096446966, 2096449014, 2096451062, 2096453110, 2096455158, 2096457206, 2096459254,
   2096461302, 2096463350, 2096465398, 2096467446, 2096469494, 2096471542, 2096473590, 2096475638, 2096477686,
   2096479734, 2096481782, 2096483830, 2096485878, 2096487926, 2096489974, 2096492022, 2096494070, 2096496118,
   2096498167, 2096500215, 2096502263, 2096504311, 2096506359, 2096508407, 2096510455, 2096512503, 2096514551,
   2096516599, 2096518647, 2096520695, 2096522743, 2096524791, 2096526839, 2096528887, 2096530935, 2096532983,
   2096535031, 2096537079, 2096539127, 2096541175, 2096543223, 2096545271, 2096547319, 2096549367, 2096551415,
   2096553463, 2096555511, 2096557559, 2096559607, 2096561655, 2096563704, 2096565752, 2096567800, 2096569848,
   2096571896, 2096573944, 2096575992, 2096578040, 2096580088, 2096582136, 2096584184, 2096586232, 2096588280,
   2096590328, 2096592376, 2096594424, 2096596472, 2096598520, 2096600568, 2096602616, 2096604664, 2096606712,
   2096608760, 2096610808, 2096612856, 2096614904, 2096616952, 2096619000, 2096621048, 2096623096, 2096625144,
   2096627192, 2096629241, 2096631289, 2096633337, 2096635385, 2096637433, 2096639481, 2096641529, 2096643577,
   2096645625, 2096647673, 2096649721, 2096651769, 2096653817, 2096655865, 2096657913, 2096659961, 2096662009,
   2096664057, 2096666105, 2096668153, 2096670201, 2096672249, 2096674297, 2096676345, 2096678393, 2096680441,
   2096682489, 2096684537, 2096686585, 2096688633, 2096690681, 2096692729, 2096694778, 2096696826, 2096698874,
   2096700922, 2096702970, 2096705018, 2096707066, 2096709114, 2096711162, 2096713210, 2096715258, 2096717306,
   2096719354, 2096721402, 2096723450, 2096725498, 2096727546, 2096729594, 2096731642, 2096733690, 2096735738,
   2096737786, 2096739834, 2096741882, 2096743930, 2096745978, 2096748026, 2096750074, 2096752122, 2096754170,
   2096756218, 2096758266, 2096760315, 2096762363, 2096764411, 2096766459, 2096768507, 2096770555, 2096772603,
   2096774651, 2096776699, 2096778747, 2096780795, 2096782843, 2096784891, 2096786939, 2096788987, 2096791035,
   2096793083, 2096795131, 2096797179, 2096799227, 2096801275, 2096803323, 2096805371, 2096807419, 2096809467,
   2096811515, 2096813563, 2096815611, 2096817659, 2096819707, 2096821755, 2096823803, 2096825852, 2096827900,
   2096829948, 2096831996, 2096834044, 2096836092, 2096838140, 2096840188, 2096842236, 2096844284, 2096846332,
   2096848380, 2096850428, 2096852476, 2096854524, 2096856572, 2096858620, 2096860668, 2096862716, 2096864764,
   2096866812, 2096868860, 2096870908, 2096872956, 2096875004, 2096877052, 2096879100, 2096881148, 2096883196,
   2096885244, 2096887292, 2096889340, 2096891389, 2096893437, 2096895485, 2096897533, 2096899581, 2096901629,
   2096903677, 2096905725, 2096907773, 2096909821, 2096911869, 2096913917, 2096915965, 2096918013, 2096920061,
   2096922109, 2096924157, 2096926205, 2096928253, 2096930301, 2096932349, 2096934397, 2096936445, 2096938493,
   2096940541, 2096942589, 2096944637, 2096946685, 2096948733, 2096950781, 2096952829, 2096954877, 2096956926,
   2096958974, 2096961022, 2096963070, 2096965118, 2096967166, 2096969214, 2096971262, 2096973310, 2096975358,
   2096977406, 2096979454, 2096981502, 2096983550, 2096985598, 2096987646, 2096989694, 2096991742, 2096993790,
   2096995838, 2096997886, 2096999934, 2097001982, 2097004030, 2097006078, 2097008126, 2097010174, 2097012222,
   2097014270, 2097016318, 2097018366, 2097020414, 2097022463, 2097024511, 2097026559, 2097028607, 2097030655,
   2097032703, 2097034751, 2097036799, 2097038847, 2097040895, 2097042943, 2097044991, 2097047039, 2097049087,
   2097051135, 2097053183, 2097055231, 2097057279, 2097059327, 2097061375, 2097063423, 2097065471, 2097067519,
   2097069567, 2097071615, 2097073663, 2097075711, 2097077759, 2097079807, 2097081855, 2097083903, 2097085951,
   2097088000, 2097090048, 2097092096, 2097094144, 2097096192, 2097098240, 2097100288, 2097102336, 2097104384,
   2097106432, 2097108480, 2097110528, 2097112576, 2097114624, 2097116672, 2097118720, 2097120768, 2097122816,
   2097124864, 2097126912, 2097128960, 2097131008, 2097133056, 2097135104, 2097137152, 2097139200, 2097141248,
   2097143296, 2097145344, 2097147392, 2097149440, 2097151488]
theorem c7_ok :
    chkList (pipeF 1199570688 65535) 65535 2139095040 14337 1046478560 7168 c7
      16385 1048575744 8192 = true := by decide +kernel
theorem c7_len : 14337 + c7.length = 16385 := (chkList_end c7_ok).1
theorem c7_last : lastS 1046478560 c7 = 1048575744 := (chkList_end c7_ok).2.1

end Dds.F32Thr.FpN16
