/-
Complete evaluation of the `f32`-evaluated conversions with small domains (the constants, UNORM/SNORM up to 10 bits,
XR_BIAS, the 10- and 11-bit floats) against the rational specification rounded by `roundF32` / `toCode`, through the
checkers of `Proofs/ConvF16Chk.lean` where the expression has a fast form.
-/
import DdsModel.Proofs.ConvF16Chk
namespace Dds.ConvProofs
open Dds Dds.Conv Dds.Spec Dds.CF32 Dds.ConvFast
open Dds.F32.Raw (sel sel_beq)

/-- the `f32` constants of `formats.rs` are the correctly rounded values of their defining
expressions (Rust evaluates `const` float expressions in IEEE arithmetic; every sub-expression
here is exact except the final division / the decimal literal) -/
theorem constants_ok :
    kThird = roundF32 (1 / 3) ∧ k1_n4 = roundF32 (1 / 45) ∧ k1_n5 = roundF32 (1 / 93) ∧
    k1_n6 = roundF32 (1 / 315) ∧ k1_n8 = roundF32 (1 / 765) ∧ k1_n10 = roundF32 (1 / 86955) ∧
    k1_s8 = roundF32 (1 / 7874) ∧ k1_s16 = roundF32 (1 / 4783982) ∧ c0_n16 = roundF32 (1 / 65536) ∧
    c1_n16 = roundF32 (65537 / 281474976710656) ∧ kXr = roundF32 (1 / 510) ∧
    k255 = roundF32 (1 / 255) ∧ k1023 = roundF32 (1 / 1023) ∧ k65535 = roundF32 (1 / 65535) ∧
    kDenorm16 = roundF32 (65535 / 16777216) ∧ kY = roundF32 (1164383 / 1000000) ∧
    kRV = roundF32 (1596027 / 1000000) ∧ kGU = roundF32 (391762 / 1000000) ∧
    kGV = roundF32 (812968 / 1000000) ∧ kBU = roundF32 (2017232 / 1000000) := by decide +kernel

theorem n1f32_ok : ∀ x, x < 2 → n1f32 x = roundF32 (unorm 1 x) := forall_lt_of_allRange (d := 0) (by decide +kernel)
theorem n2f32_ok : ∀ x, x < 4 → n2f32 x = roundF32 (unorm 2 x) := forall_lt_of_allRange (d := 0) (by decide +kernel)
theorem n4f32_ok : ∀ x, x < 16 → n4f32 x = roundF32 (unorm 4 x) := mulK_unorm 4 3 k1_n4 15 0 rfl (by decide +kernel)
theorem n5f32_ok : ∀ x, x < 32 → n5f32 x = roundF32 (unorm 5 x) := mulK_unorm 5 3 k1_n5 31 0 rfl (by decide +kernel)
theorem n6f32_ok : ∀ x, x < 64 → n6f32 x = roundF32 (unorm 6 x) := mulK_unorm 6 5 k1_n6 63 0 rfl (by decide +kernel)
theorem n8f32_ok : ∀ x, x < 256 → n8f32 x = roundF32 (unorm 8 x) := mulK_unorm 8 3 k1_n8 255 2 rfl (by decide +kernel)
theorem n10f32_ok : ∀ x, x < 1024 → n10f32 x = roundF32 (unorm 10 x) :=
  mulK_unorm 10 85 k1_n10 1023 4 rfl (by decide +kernel)
theorem s8f32_ok : ∀ x, x < 256 → s8f32 x = roundF32 (snorm 8 x) :=
  mulK_snorm 8 128 31 k1_s8 2 rfl rfl (by decide) (by decide +kernel)
/-- `xr10::f32` divides and converts a signed integer, for which `Proofs/ConvFast.lean` has no fast form: the model
itself is evaluated -/
theorem xr10f32_ok : ∀ x, x < 1024 → xr10f32 x = roundF32 (xr x) := forall_lt_of_allRange (d := 5) (by decide +kernel)

/-- small floats: finite codes decode to exactly their value (which is representable, so
`roundF32` is the identity on it), `exp = 31` to `+inf` / NaN, and at the integer precisions to the
nearest code of the clamped value (tie up), infinity to the maximum and NaN to 0 -/
def okSmall (mb : Nat) (signed : Bool) (x : Nat) : Bool :=
  match smallFloat mb signed x with
  | some v =>
    smallF32 mb signed x == (if v == 0 then (if signed && (x >>> (mb + 5)) % 2 == 1 then signBit else 0)
      else roundF32 v) &&
    ((smallN8 mb signed x : Int) == toCode 255 v) && ((smallN16 mb signed x : Int) == toCode 65535 v)
  | none =>
    let neg := signed && (x >>> (mb + 5)) % 2 == 1
    if x % 2 ^ mb == 0 then
      smallF32 mb signed x == (if neg then negInf else posInf) &&
      smallN8 mb signed x == (if neg then 0 else 255) && smallN16 mb signed x == (if neg then 0 else 65535)
    else isNaN (smallF32 mb signed x) && smallN8 mb signed x == 0 && smallN16 mb signed x == 0

theorem roundF32_zero : roundF32 0 = 0 := by decide +kernel

/-- for a code without sign bit `okSmall` is what `chkSmall` checks; `exp = 31` needs no evaluation -/
theorem okSmall_of_chk (mb x : Nat) (h : chkSmallU mb x = true) :
    okSmall mb false x = true := by
  unfold okSmall
  rw [smallFloat_eq, smallF32_eq, smallN8_eq, smallN16_eq]
  have hn : hNeg mb false x = false := rfl
  simp only [hn, Bool.false_eq_true, if_false, Bool.false_and, hMant_eq]
  by_cases he : hExp mb x = 31
  · rw [if_pos he, he]
    unfold hF32 hN8 hN16
    simp only [sel_beq, show ¬ (31 = 0) by decide, if_false, if_true]
    by_cases h0 : hMant mb x = 0
    · simp only [h0, if_true, beq_self_eq_true, Bool.and_self]
    · simp only [h0, if_false, beq_self_eq_true, Bool.and_true, beq_iff_eq]
      decide
  · rw [if_neg he]
    have hc : chkSmall mb 0 x = true := by
      rw [chkSmallU, Bool.or_eq_true] at h
      exact h.resolve_left (fun h' => he (Nat.eq_of_beq_eq_true h'))
    obtain ⟨c1, c2, c3⟩ := chkSmall_sound mb 0 x hc
    simp only [c1, c2, c3, Int.natCast_zero, Int.add_zero, beq_self_eq_true, Bool.and_true]
    split
    · rename_i h0
      rw [eq_of_beq h0, roundF32_zero]
      exact beq_self_eq_true _
    · exact beq_self_eq_true _

theorem fp10_ok : ∀ x, x < 1024 → okSmall 5 false x = true := fun x hx =>
  okSmall_of_chk 5 x (allRange_lt (p := chkSmallU 5) (d := 4) (by decide +kernel) x hx)
theorem fp11_ok : ∀ x, x < 2048 → okSmall 6 false x = true := fun x hx =>
  okSmall_of_chk 6 x (allRange_lt (p := chkSmallU 6) (d := 5) (by decide +kernel) x hx)

end Dds.ConvProofs
