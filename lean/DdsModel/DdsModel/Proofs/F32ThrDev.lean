/-
What a checked threshold table (`Proofs/F32Thr.lean`) says about its exceptional entries `2t + 1`, in the vocabulary
of the specification (`Rat`): the pattern `t` is the LARGEST float below the exact tie `(2k − 1)/(2L)` of the code
`k` it produces (so the nearest code is `k − 1`), and it is within the tie tolerance `2^-12/255` of that tie.
-/
import DdsModel.Proofs.F32Thr
namespace Dds.F32Thr
open Dds Dds.CF32 Dds.ConvFast Dds.F32Mono Dds.Spec

theorem cast_two_k (k : Nat) (hk : 1 ≤ k) : ((2 * k - 1 : Nat) : Rat) + 1 = 2 * (k : Rat) := by
  have h : 2 * k - 1 + 1 = 2 * k := by omega
  have := congrArg (Nat.cast : Nat → Rat) h
  rw [Rat.natCast_add, Rat.natCast_mul] at this
  exact this

theorem tie_half (k L : Nat) (hk : 1 ≤ k) (hL : 0 < L) :
    (k : Rat) / (L : Rat) = ((2 * k - 1 : Nat) : Rat) / ((2 * L : Nat) : Rat) + 1 / (2 * (L : Rat)) := by
  have h1 := cast_two_k k hk
  have hL' : (0 : Rat) < (L : Rat) := Rat.natCast_pos.mpr hL
  rw [Rat.natCast_mul]
  generalize ((2 * k - 1 : Nat) : Rat) = a at *
  generalize (k : Rat) = kk at *
  generalize (L : Rat) = l at *
  have : ((2 : Nat) : Rat) = 2 := rfl
  rw [this]
  grind

theorem natDiv_add_inv (N D T : Nat) (hD : 0 < D) (hT : 0 < T) :
    (N : Rat) / (D : Rat) + 1 / (T : Rat) = ((N * T + D : Nat) : Rat) / ((D * T : Nat) : Rat) := by
  have hD' : (0 : Rat) < (D : Rat) := Rat.natCast_pos.mpr hD
  have hT' : (0 : Rat) < (T : Rat) := Rat.natCast_pos.mpr hT
  rw [Rat.natCast_add, Rat.natCast_mul, Rat.natCast_mul]
  generalize (N : Rat) = n at *
  generalize (D : Rat) = d at *
  generalize (T : Rat) = t at *
  grind

/-- a value just below the tie of the code `k` (within `2^-12/255`) makes `k` admissible -/
theorem admissible_of (L k : Nat) (q : Rat) (hk : 1 ≤ k) (hL : 0 < L) (hq0 : 0 ≤ q) (hq1 : q < 1)
    (h1 : q < ((2 * k - 1 : Nat) : Rat) / ((2 * L : Nat) : Rat))
    (h2 : ((2 * k - 1 : Nat) : Rat) / ((2 * L : Nat) : Rat) ≤ q + 1 / 1044480) : admissible L q k = true := by
  unfold admissible clamp01
  have hm : min 1 q = q := by
    rw [Rat.min_def, if_neg (by rw [Rat.not_le]; exact hq1)]
  have hx : max 0 q = q := by
    rw [Rat.max_def, if_pos hq0]
  rw [hm, hx, tie_half k L hk hL]
  generalize ((2 * k - 1 : Nat) : Rat) / ((2 * L : Nat) : Rat) = tie at *
  have hL' : (0 : Rat) < (L : Rat) := Rat.natCast_pos.mpr hL
  have hl : (0 : Rat) ≤ 1 / (2 * (L : Rat)) := by
    apply Rat.le_of_lt
    rw [Rat.div_def]
    exact Rat.mul_pos (by decide) (Rat.inv_pos.mpr (Rat.mul_pos (by decide) hL'))
  generalize 1 / (2 * (L : Rat)) = hl' at *
  apply decide_eq_true
  constructor <;> grind

theorem adm_arith (k L N P : Nat) (k1 : 1 ≤ k) (k2 : k ≤ L) (hs2 : 2 * L * N < (2 * k - 1) * P)
    (hadm : 1044480 * ((2 * k - 1) * P - 2 * L * N) ≤ 2 * L * P) :
    N * 1 < 1 * P ∧ (2 * k - 1) * (P * 1044480) ≤ (N * 1044480 + P) * (2 * L) := by
  have hkL : (2 * k - 1) * P ≤ (2 * L - 1) * P := Nat.mul_le_mul_right _ (by omega)
  have e4 : (2 * L - 1) * P = 2 * L * P - P := by rw [Nat.sub_mul, Nat.one_mul]
  have e5 : (2 * k - 1) * (P * 1044480) = 1044480 * ((2 * k - 1) * P) := by
    rw [← Nat.mul_assoc, Nat.mul_comm]
  have e6 : (N * 1044480 + P) * (2 * L) = 1044480 * (2 * L * N) + 2 * L * P := by
    rw [Nat.add_mul, Nat.mul_comm P, Nat.mul_right_comm, Nat.mul_comm (N * (2 * L)), Nat.mul_comm N]
  constructor
  · have h : 2 * L * N < 2 * L * P := by omega
    have := Nat.lt_of_mul_lt_mul_left h
    omega
  · rw [e5, e6]
    generalize (2 * k - 1) * P = X at *
    generalize 2 * L * N = Y at *
    generalize 2 * L * P = Z at *
    omega

theorem dev_facts {f : Nat → Nat} {L top se n : Nat} {tbl : List Nat} (htop : top ≤ 0x7F800000)
    (hmono : ∀ a b, a ≤ b → b < top → f a ≤ f b) (hle : ∀ b, b < top → f b ≤ L)
    (hc : chkList f L top 1 0 0 tbl (L + 1) se n = true) (b : Nat) (hm : b ∈ devOf tbl) :
    b + 1 < top ∧ (f b : Int) = toCode L (toRat b) + 1 ∧ 1 ≤ f b ∧
    toRat b < ((2 * f b - 1 : Nat) : Rat) / ((2 * L : Nat) : Rat) ∧
    ((2 * f b - 1 : Nat) : Rat) / ((2 * L : Nat) : Rat) ≤ toRat (b + 1) ∧
    admissible L (toRat b) (f b) = true := by
  obtain ⟨k, k1, k2, e⟩ := mem_entry hc ((mem_devOf tbl b).mp hm)
  rw [(table_ok hc).1] at k2
  have e1 : (2 * b + 1) / 2 = b := by omega
  have e2 : (2 * b + 1) % 2 = 1 := by omega
  rw [e1, e2] at e
  have hbt : b + 1 < top := e.s_fin
  have hmain := thr_main htop hmono hle hc b (by omega)
  rw [if_pos hm] at hmain
  -- the code of the entry is the result
  have hD : (2 : Nat) ^ 149 ≠ 0 := Nat.pos_iff_ne_zero.mp (Nat.two_pow_pos 149)
  have hDp := Nat.two_pow_pos 149
  have hcode : toCode L (toRat b) = ((codeR L (pval b) (2 ^ 149) : Nat) : Int) := by
    rw [toRat_pval b (by omega), toCode_mkRat L (pval b) (2 ^ 149) hD]
  have hs2 := e.s2
  have e3 : b + 1 - 1 = b := by omega
  rw [e3] at hs2
  have hk : f b = k := by
    have hlt : ¬ k ≤ codeR L (pval b) (2 ^ 149) := by
      rw [le_codeR_iff L _ _ k hDp k1 k2]
      omega
    have := e.p1
    rw [hcode] at hmain
    omega
  have hL : 0 < 2 * L := by omega
  refine ⟨hbt, hmain, by omega, ?_, ?_, ?_⟩
  · rw [hk, toRat_natDiv b (by omega), natDiv_lt_natDiv _ _ _ _ hDp hL, Nat.mul_comm (pval b)]
    exact hs2
  · rw [hk, toRat_natDiv (b + 1) (by omega), natDiv_le_natDiv _ _ _ _ hL hDp, Nat.mul_comm (pval (b + 1))]
    exact e.s1
  · have hadm : 1044480 * ((2 * k - 1) * 2 ^ 149 - 2 * L * pval b) ≤ 2 * L * 2 ^ 149 := by
      rcases e.adm with h0 | h0
      · omega
      · exact h0
    obtain ⟨a1, a2⟩ := adm_arith k L (pval b) (2 ^ 149) k1 k2 hs2 hadm
    rw [hk]
    apply admissible_of L k _ k1 (by omega)
    · rw [toRat_pval b (by omega)]; exact mkRat_nonneg _ _
    · have : (1 : Rat) = ((1 : Nat) : Rat) / ((1 : Nat) : Rat) := by decide +kernel
      rw [toRat_natDiv b (by omega), this, natDiv_lt_natDiv _ _ _ _ hDp (by decide)]
      exact a1
    · rw [toRat_natDiv b (by omega), natDiv_lt_natDiv _ _ _ _ hDp hL, Nat.mul_comm (pval b)]
      exact hs2
    · have hT : (1 : Rat) / 1044480 = 1 / ((1044480 : Nat) : Rat) := by decide +kernel
      rw [toRat_natDiv b (by omega), hT, natDiv_add_inv _ _ _ hDp (by decide),
        natDiv_le_natDiv _ _ _ _ hL (Nat.mul_pos hDp (by decide))]
      exact a2

theorem PipeQ.dev_facts {K cap L top : Nat} {tbl : List Nat} (h : PipeQ K cap L top tbl) (b : Nat)
    (hm : b ∈ devOf tbl) :
    b + 1 < top ∧ (pipe K half cap b : Int) = toCode L (toRat b) + 1 ∧ 1 ≤ pipe K half cap b ∧
    toRat b < ((2 * pipe K half cap b - 1 : Nat) : Rat) / ((2 * L : Nat) : Rat) ∧
    ((2 * pipe K half cap b - 1 : Nat) : Rat) / ((2 * L : Nat) : Rat) ≤ toRat (b + 1) ∧
    admissible L (toRat b) (pipe K half cap b) = true := by
  obtain ⟨se, n, hc⟩ := h.hc
  exact F32Thr.dev_facts h.htop (fun _ _ => h.mono) (fun _ => h.le) hc b hm

theorem pipe_zero (K mx : Nat) (hK : K < 0x7F800000) : pipe K half mx 0 = 0 := by
  unfold pipe
  have h0 : pval 0 = 0 := by decide +kernel
  have hh : rpU (pval half) 851 = half := by decide +kernel
  rw [fmul_pval 0 K (by decide) hK, h0, Nat.zero_mul, rpU_zero, fadd_pval 0 half (by decide) (by decide), h0,
    Nat.zero_add, hh]
  exact Dds.EncTotal.QuantBits.toNatSat_small _ _ (Nat.le_refl _)

open Dds.EncTotal.QuantBits in
/-- the order is that of the VALUES (`key`, `−0 = +0`): negative inputs (and `−0`, `−∞`) give 0, the non-negative half
line is `pipe_mono` -/
theorem pipe_mono_key (K mx a b : Nat) (hK : K < 0x7F800000) (hK0 : 0 < K) (ha : a < 2 ^ 32) (hb : b < 2 ^ 32)
    (hna : isNaN a = false) (hnb : isNaN b = false) (h : key a ≤ key b) : pipe K half mx a ≤ pipe K half mx b := by
  have negz : ∀ x, NegR x → pipe K half mx x = 0 := fun x hx => pipe_of_negR K mx x hK hK0 hx
  have negk : ∀ x, NegR x → key x ≤ 0 := by
    intro x hx
    obtain ⟨_, n2⟩ := negR_flags x hx
    unfold key; rw [n2]; simp only [if_true]; omega
  have posk : ∀ x, x ≤ 0x7F800000 → key x = (x : Int) := fun x hx => Dds.EncTotal.SharedExp.key_of_lt x (by
    simp only [signBit]; omega)
  have cls : ∀ x, x < 2 ^ 32 → isNaN x = false → x ≤ 0x7F800000 ∨ NegR x := by
    intro x hx hn
    rcases classify x hx with h | h | h | ⟨h, _⟩ | h
    · left; omega
    · left; omega
    · rw [hn] at h; exact absurd h (by decide)
    · right; exact h
    · right; subst h; exact ⟨by decide, by decide⟩
  rcases cls a ha hna with ha' | ha'
  · rcases cls b hb hnb with hb' | hb'
    · rw [posk a ha', posk b hb'] at h
      exact pipe_mono hK hK0 (by decide) (by omega) hb'
    · -- `0 ≤ key a ≤ key b ≤ 0`: `a = +0`
      have := negk b hb'
      rw [posk a ha'] at h
      have ha0 : a = 0 := by omega
      rw [ha0, pipe_zero K mx hK]
      exact Nat.zero_le _
  · rw [negz a ha']; exact Nat.zero_le _

end Dds.F32Thr
