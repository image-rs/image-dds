/- Helper lemmas about the interpreter of `Stream.lean` (C06, C07). Path lemmas are in
`Proofs/StreamPaths.lean`, property theorems in `Theorems/C06.lean`, `Theorems/C07.lean`. -/
import DdsModel.Stream
namespace Dds.Stream
open Dds

/-! ### `read_exact` does not depend on the short-read pattern -/

theorem readSpec_split {e : Env} {pos n k : Nat} (hk : 0 < k) (hkn : k ≤ n) (hl : pos + k ≤ e.lim) :
    readSpec e (pos + k) (n - k) = readSpec e pos n := by
  unfold readSpec
  rw [if_neg (by omega : n ≠ 0)]
  by_cases hfit : pos + n ≤ e.lim
  · rw [if_pos hfit, if_pos (by omega : pos + k + (n - k) ≤ e.lim)]
    split <;> congr 1 <;> omega
  · rw [if_neg hfit, if_neg (by omega : n - k ≠ 0), if_neg (by omega : ¬ pos + k + (n - k) ≤ e.lim),
      if_pos (by omega : pos < e.lim)]
    congr 1
    split <;> omega

theorem readExact_eq (e : Env) : ∀ (pat : List Nat) (pos n : Nat),
    readExact e pat pos n = readSpec e pos n := by
  intro pat
  induction pat with
  | nil => intro pos n; rfl
  | cons c pat ih =>
    intro pos n
    unfold readExact
    split
    · next hn => rw [hn]; rfl
    · split
      · exact ih pos n
      · split
        · next hn _ hl => unfold readSpec; rw [if_neg hn, if_neg (by omega), if_neg (by omega)]
        · next hn hc hl =>
          rw [ih]
          -- `mn` unfolds to `min`, which `omega` knows
          exact readSpec_split (k := min (min c n) (e.lim - pos)) (by omega) (by omega) (by omega)

/-! ### the interpreter does not depend on the short-read patterns -/

theorem interp_pats (e : Env) : ∀ (ops : List Op) (ps qs : List (List Nat)) (st : St),
    interp e ps ops st = interp e qs ops st := by
  intro ops
  induction ops with
  | nil => intro ps qs st; rfl
  | cons o ops ih =>
    intro ps qs st
    cases o with
    | panic => rfl
    | alloc n => simp only [interp, ih ps qs]
    | skip n => simp only [interp, ih ps qs]
    | read n => simp only [interp, readExact_eq, ih ps.tail qs.tail]

theorem lim_le_len (e : Env) : e.lim ≤ e.len := by
  unfold Env.lim; simp only
  cases e.fault <;> cases e.eofOnce <;> simp only <;> (repeat' split) <;> omega

theorem lim_le_fault {e : Env} {f : Nat} (h : e.fault = some f) : e.lim ≤ f := by
  unfold Env.lim; rw [h]; simp only
  cases e.eofOnce <;> simp only <;> (repeat' split) <;> omega

/-- `io_skip_exact` for a positive count that fits `i64` -/
theorem skipExact_pos {e : Env} {pos n : Nat} (h0 : n ≠ 0) (hn : n ≤ I64MAX) :
    skipExact e pos n =
      if seekFails e (pos + n) = true then (false, pos)
      else if seekLand e pos (pos + n) = satAdd64 pos n then (true, seekLand e pos (pos + n))
      else (false, seekLand e pos (pos + n)) := by
  have hnU : n < U64 := by unfold I64MAX at hn; unfold U64; omega
  unfold skipExact
  simp only [Nat.mod_eq_of_lt hnU]
  rw [if_neg h0, if_neg (by omega)]

theorem skipExact_zero (e : Env) (pos : Nat) : skipExact e pos 0 = (true, pos) := rfl

theorem satAdd64_eq {a b : Nat} (h : a + b < U64) : satAdd64 a b = a + b := if_pos h

theorem skipExact_ok {e : Env} {pos n : Nat} (hn : n ≤ I64MAX) (hfit : pos + n ≤ e.lim)
    (hlen : e.len < U64) : skipExact e pos n = (true, pos + n) := by
  have hl := lim_le_len e
  by_cases h0 : n = 0
  · subst h0; exact skipExact_zero e pos
  · rw [skipExact_pos h0 hn]
    have hsf : seekFails e (pos + n) = false := by
      unfold seekFails
      cases hf : e.fault with
      | none => rfl
      | some f => have := lim_le_fault hf; simp only [decide_eq_false_iff_not]; omega
    have hland : seekLand e pos (pos + n) = pos + n := by
      unfold seekLand; rw [if_neg (by omega)]
    rw [hsf, hland, satAdd64_eq (by omega), if_neg Bool.false_ne_true, if_pos rfl]

theorem readSpec_ok {e : Env} {pos n : Nat} (hfit : pos + n ≤ e.lim) :
    readSpec e pos n = (true, pos + n) := by
  unfold readSpec
  by_cases h0 : n = 0
  · rw [if_pos h0, h0]; rfl
  · rw [if_neg h0, if_pos hfit]

/-- `o` cannot take the reader past offset `b`: a read stops at the first offset the stream does not
deliver, a seek at a hard error, or at the end of a stream whose `seek` clamps -/
def Env.Stops (e : Env) (b : Nat) : Op → Prop
  | .read _ => e.lim ≤ b
  | .skip _ => e.fault = some b ∨ (e.clampSeek = true ∧ b = e.len)
  | _ => True

theorem Env.stops_fault {e : Env} {f : Nat} (h : e.fault = some f) : ∀ o, e.Stops f o
  | .read _ => lim_le_fault h
  | .skip _ => .inl h
  | .alloc _ => trivial
  | .panic => trivial

theorem Env.stops_len {e : Env} (h : e.clampSeek = true) : ∀ o, e.Stops e.len o
  | .read _ => lim_le_len e
  | .skip _ => .inr ⟨h, rfl⟩
  | .alloc _ => trivial
  | .panic => trivial

theorem skipExact_true {e : Env} {pos n : Nat} (hn : n ≤ I64MAX) (hU : pos + n < U64)
    (h : (skipExact e pos n).1 = true) : (skipExact e pos n).2 = pos + n ∧
      ∀ b, e.Stops b (.skip n) → pos ≤ b → pos + n ≤ b := by
  by_cases h0 : n = 0
  · subst h0; exact ⟨rfl, fun b _ hp => hp⟩
  · rw [skipExact_pos h0 hn, satAdd64_eq hU] at h ⊢
    split at h
    · cases h
    · next hsf =>
      split at h
      · next hland =>
        rw [if_neg hsf, if_pos hland]
        refine ⟨hland, fun b hs hp => Nat.le_of_not_lt fun hlt => ?_⟩
        rcases hs with hf | ⟨hc, rfl⟩
        · unfold seekFails at hsf; rw [hf] at hsf; exact hsf (decide_eq_true hlt)
        · unfold seekLand at hland; rw [if_pos ⟨hc, hlt⟩] at hland; split at hland <;> omega
      · cases h

theorem readSpec_true {e : Env} {pos n : Nat} (h : (readSpec e pos n).1 = true) :
    (readSpec e pos n).2 = pos + n ∧ ∀ b, e.Stops b (.read n) → pos ≤ b → pos + n ≤ b := by
  unfold readSpec at h ⊢
  split
  · next h0 => rw [h0]; exact ⟨rfl, fun b _ hp => hp⟩
  · rw [if_neg ‹_›] at h
    split
    · next hf => exact ⟨rfl, fun b (hb : e.lim ≤ b) _ => Nat.le_trans hf hb⟩
    · rw [if_neg ‹_›] at h; cases h

@[simp] theorem moved_pos (st : St) (p : Nat) (ev : Nat → Ev) : (st.moved p ev).pos = p := rfl
@[simp] theorem moved_budget (st : St) (p : Nat) (ev : Nat → Ev) : (st.moved p ev).budget = st.budget := rfl
@[simp] theorem moved_calls (st : St) (p : Nat) (ev : Nat → Ev) : (st.moved p ev).calls = st.calls := rfl
theorem moved_same (st : St) (ev : Nat → Ev) : st.moved st.pos ev = st := by
  unfold St.moved; simp

def noPanic : List Op → Prop
  | [] => True
  | .panic :: _ => False
  | _ :: t => noPanic t

theorem ioOnly_noPanic : ∀ {ops : List Op}, ioOnly ops → noPanic ops
  | [], _ => trivial
  | .skip _ :: t, h => ioOnly_noPanic (ops := t) h
  | .read _ :: t, h => ioOnly_noPanic (ops := t) h
  | .alloc _ :: _, h => h.elim
  | .panic :: _, h => h.elim

theorem allocFirst_noPanic : ∀ {ops : List Op}, allocFirst ops → noPanic ops
  | [], _ => trivial
  | .alloc _ :: t, h => allocFirst_noPanic (ops := t) h
  | .skip n :: t, h => ioOnly_noPanic (ops := .skip n :: t) h
  | .read n :: t, h => ioOnly_noPanic (ops := .read n :: t) h
  | .panic :: _, h => h.elim

theorem ioOnly_allocFirst : ∀ {ops : List Op}, ioOnly ops → allocFirst ops
  | [], _ => trivial
  | .skip _ :: _, h => h
  | .read _ :: _, h => h
  | .alloc _ :: _, h => h.elim
  | .panic :: _, h => h.elim

theorem ioOnly_need : ∀ {ops : List Op}, ioOnly ops → need ops = 0
  | [], _ => rfl
  | .skip _ :: t, h => ioOnly_need (ops := t) h
  | .read _ :: t, h => ioOnly_need (ops := t) h
  | .alloc _ :: _, h => h.elim
  | .panic :: _, h => h.elim

theorem ioOnly_append : ∀ {a b : List Op}, ioOnly a → ioOnly b → ioOnly (a ++ b)
  | [], _, _, hb => hb
  | .skip _ :: t, _, ha, hb => ioOnly_append (a := t) ha hb
  | .read _ :: t, _, ha, hb => ioOnly_append (a := t) ha hb
  | .alloc _ :: _, _, ha, _ => ha.elim
  | .panic :: _, _, ha, _ => ha.elim

/-- bytes `o` moves the reader by -/
def Op.moved : Op → Nat
  | .skip n => n
  | .read n => n
  | _ => 0

/-- bytes `o` asks the allocator for -/
def Op.req : Op → Nat
  | .alloc n => n
  | _ => 0

theorem span_cons (o : Op) (t : List Op) : span (o :: t) = o.moved + span t := by
  cases o <;> simp only [span, Op.moved, Nat.zero_add]

theorem need_cons (o : Op) (t : List Op) : need (o :: t) = o.req + need t := by
  cases o <;> simp only [need, Op.req, Nat.zero_add]

theorem span_append (a b : List Op) : span (a ++ b) = span a + span b := by
  induction a with
  | nil => simp only [List.nil_append, span, Nat.zero_add]
  | cons o t ih => rw [List.cons_append, span_cons, span_cons, ih, Nat.add_assoc]

theorem need_append (a b : List Op) : need (a ++ b) = need a + need b := by
  induction a with
  | nil => simp only [List.nil_append, need, Nat.zero_add]
  | cons o t ih => rw [List.cons_append, need_cons, need_cons, ih, Nat.add_assoc]

theorem moved_le_span {o : Op} : ∀ {ops : List Op}, o ∈ ops → o.moved ≤ span ops
  | p :: t, h => by
    rw [span_cons]
    rcases List.mem_cons.1 h with rfl | h
    · exact Nat.le_add_right _ _
    · exact Nat.le_trans (moved_le_span h) (Nat.le_add_left _ _)

theorem interp_skip (e : Env) (ps : List (List Nat)) (n : Nat) (ops : List Op) (st : St) :
    interp e ps (.skip n :: ops) st =
      if (skipExact e st.pos n).1 = true then interp e ps ops (st.moved (skipExact e st.pos n).2 .seek)
      else (.ioError, st.moved (skipExact e st.pos n).2 .seek) := by
  simp only [interp]

theorem interp_read (e : Env) (ps : List (List Nat)) (n : Nat) (ops : List Op) (st : St) :
    interp e ps (.read n :: ops) st =
      if (readSpec e st.pos n).1 = true then interp e ps.tail ops (st.moved (readSpec e st.pos n).2 .read)
      else (.ioError, st.moved (readSpec e st.pos n).2 .read) := by
  simp only [interp, readExact_eq]

theorem interp_alloc (e : Env) (hok : ∀ n, e.allocOk n = true) (ps : List (List Nat)) (n : Nat)
    (ops : List Op) (st : St) (h : n ≤ st.budget) :
    interp e ps (.alloc n :: ops) st =
      interp e ps ops { st with budget := st.budget - n % U64, calls := n % U64 :: st.calls } := by
  have hmod : n % U64 ≤ n := Nat.mod_le _ _
  simp only [interp]
  rw [if_neg (by omega), hok, if_pos rfl]

/-! ### what a result says about the stream -/

/-- What the result `r` of running `ops` from reader position `pos` with budget `bud` tells, whatever
the stream and the allocator do: the reader moved by `span ops` over nothing that stops one of the
operations; or the stream does not deliver all of these bytes; or the budget does not cover the need
(unless the allocator refused). -/
inductive Outcome (e : Env) (ops : List Op) (pos bud : Nat) (r : Res × St) : Prop
  | ok (hr : r.1 = .ok) (hpos : r.2.pos = pos + span ops)
      (hstop : ∀ b, (∀ o ∈ ops, e.Stops b o) → pos ≤ b → pos + span ops ≤ b)
  | io (hr : r.1 = .ioError) (hlim : e.len < U64 → e.lim < pos + span ops)
  | mem (hr : r.1 = .memLimit) (hbud : (∀ n, e.allocOk n = true) → bud < need ops)

theorem Outcome.cons {e : Env} {o : Op} {ops : List Op} {pos bud bud' : Nat} {r : Res × St}
    (h : Outcome e ops (pos + o.moved) bud' r)
    (hs : ∀ b, e.Stops b o → pos ≤ b → pos + o.moved ≤ b) (hb : bud ≤ bud' + o.req) :
    Outcome e (o :: ops) pos bud r := by
  cases h with
  | ok hr hpos hstop =>
    refine .ok hr (by rw [span_cons, hpos, Nat.add_assoc]) fun b hall hp => ?_
    rw [span_cons, ← Nat.add_assoc]
    exact hstop b (fun o' ho' => hall o' (List.mem_cons_of_mem _ ho')) (hs b (hall o (List.mem_cons_self ..)) hp)
  | io hr hlim => exact .io hr (by rw [span_cons, ← Nat.add_assoc]; exact hlim)
  | mem hr hbud => exact .mem hr fun hok => by have := hbud hok; rw [need_cons]; omega

/-- Only a seek can overflow: its distance has to fit `i64` and its target `u64`; reads need no bound. -/
theorem interp_outcome (e : Env) : ∀ (ops : List Op) (ps : List (List Nat)) (st : St), noPanic ops →
    (∀ n, .skip n ∈ ops → n ≤ I64MAX ∧ st.pos + span ops < U64) →
    Outcome e ops st.pos st.budget (interp e ps ops st) := by
  intro ops
  induction ops with
  | nil => intro ps st _ _; exact .ok rfl rfl fun b _ hp => hp
  | cons o ops ih =>
    intro ps st hnp hsk
    have hsk' : ∀ n, .skip n ∈ ops → n ≤ I64MAX ∧ st.pos + o.moved + span ops < U64 := by
      intro n hn
      have := hsk n (List.mem_cons_of_mem _ hn)
      rwa [span_cons, ← Nat.add_assoc] at this
    cases o with
    | panic => exact hnp.elim
    | alloc n =>
      have hmod : n % U64 ≤ n := Nat.mod_le _ _
      simp only [interp]
      split
      · exact .mem rfl fun _ => by simp only [need]; omega
      · split
        · exact (ih ps { st with budget := st.budget - n % U64, calls := n % U64 :: st.calls } hnp hsk').cons
            (o := .alloc n) (fun _ _ hp => hp) (by show st.budget ≤ st.budget - n % U64 + n; omega)
        · next hno => exact .mem rfl fun hok => absurd (hok _) hno
    | skip n =>
      obtain ⟨hn, hU⟩ := hsk n (List.mem_cons_self ..)
      simp only [span] at hU
      rw [interp_skip]
      split
      · next hr =>
        obtain ⟨hp, hs⟩ := skipExact_true hn (by omega) hr
        rw [hp]
        exact (ih ps (st.moved (st.pos + n) .seek) hnp hsk').cons (o := .skip n) hs (Nat.le_add_right _ _)
      · next hr =>
        refine .io rfl fun hlen => Nat.lt_of_not_le fun hfit => hr ?_
        simp only [span] at hfit
        rw [skipExact_ok hn (by omega) hlen]
    | read n =>
      rw [interp_read]
      split
      · next hr =>
        obtain ⟨hp, hs⟩ := readSpec_true hr
        rw [hp]
        exact (ih ps.tail (st.moved (st.pos + n) .read) hnp hsk').cons (o := .read n) hs (Nat.le_add_right _ _)
      · next hr =>
        refine .io rfl fun _ => Nat.lt_of_not_le fun hfit => hr ?_
        simp only [span] at hfit
        rw [readSpec_ok (by omega)]

/-- Either everything succeeded and the reader moved by exactly `span ops`, or the result is an
I/O error. In particular there is no success with a different position and no other error. -/
theorem interp_ok_or_io (e : Env) (hok : ∀ n, e.allocOk n = true) :
    ∀ (ops : List Op) (ps : List (List Nat)) (st : St), noPanic ops → need ops ≤ st.budget →
      span ops ≤ I64MAX → st.pos + span ops < U64 →
      (interp e ps ops st).1 = .ioError ∨
      ((interp e ps ops st).1 = .ok ∧ (interp e ps ops st).2.pos = st.pos + span ops) :=
  fun ops ps st hnp hneed hspan hU =>
    match interp_outcome e ops ps st hnp fun _ hn => ⟨Nat.le_trans (moved_le_span hn) hspan, hU⟩ with
    | .ok hr hpos _ => .inr ⟨hr, hpos⟩
    | .io hr _ => .inl hr
    | .mem _ hbud => absurd (hbud hok) (Nat.not_lt.2 hneed)

/-- on a stream that is long enough and fault-free nothing fails -/
theorem interp_ok (e : Env) (hok : ∀ n, e.allocOk n = true) (hlen : e.len < U64) :
    ∀ (ops : List Op) (ps : List (List Nat)) (st : St), noPanic ops → need ops ≤ st.budget →
      span ops ≤ I64MAX → st.pos + span ops ≤ e.lim →
      (interp e ps ops st).1 = .ok ∧ (interp e ps ops st).2.pos = st.pos + span ops :=
  fun ops ps st hnp hneed hspan hfit =>
    match interp_outcome e ops ps st hnp fun _ hn => ⟨Nat.le_trans (moved_le_span hn) hspan,
        Nat.lt_of_le_of_lt (Nat.le_trans hfit (lim_le_len e)) hlen⟩ with
    | .ok hr hpos _ => ⟨hr, hpos⟩
    | .io _ hlim => absurd (hlim hlen) (Nat.not_lt.2 hfit)
    | .mem _ hbud => absurd (hbud hok) (Nat.not_lt.2 hneed)

/-- a hard error inside the bytes the decode has to pass over is returned as an I/O error -/
theorem interp_fault (e : Env) (hok : ∀ n, e.allocOk n = true) {f : Nat} (hf : e.fault = some f) :
    ∀ (ops : List Op) (ps : List (List Nat)) (st : St), noPanic ops → need ops ≤ st.budget →
      span ops ≤ I64MAX → st.pos + span ops < U64 → st.pos ≤ f → f < st.pos + span ops →
      (interp e ps ops st).1 = .ioError :=
  fun ops ps st hnp hneed hspan hU h1 h2 =>
    match interp_outcome e ops ps st hnp fun _ hn => ⟨Nat.le_trans (moved_le_span hn) hspan, hU⟩ with
    | .ok _ _ hstop => absurd (hstop f (fun o _ => Env.stops_fault hf o) h1) (Nat.not_le.2 h2)
    | .io hr _ => hr
    | .mem _ hbud => absurd (hbud hok) (Nat.not_lt.2 hneed)

/-- the end of a stream whose `seek` clamps, inside the bytes the decode has to pass over, is
returned as an I/O error -/
theorem interp_eof_clamp (e : Env) (hok : ∀ n, e.allocOk n = true) (hc : e.clampSeek = true) :
    ∀ (ops : List Op) (ps : List (List Nat)) (st : St), noPanic ops → need ops ≤ st.budget →
      span ops ≤ I64MAX → st.pos + span ops < U64 → st.pos ≤ e.len → e.len < st.pos + span ops →
      (interp e ps ops st).1 = .ioError :=
  fun ops ps st hnp hneed hspan hU h1 h2 =>
    match interp_outcome e ops ps st hnp fun _ hn => ⟨Nat.le_trans (moved_le_span hn) hspan, hU⟩ with
    | .ok _ _ hstop => absurd (hstop e.len (fun o _ => Env.stops_len hc o) h1) (Nat.not_le.2 h2)
    | .io hr _ => hr
    | .mem _ hbud => absurd (hbud hok) (Nat.not_lt.2 hneed)

/-! ### errors other than I/O errors -/

theorem interp_ioOnly (e : Env) : ∀ (ops : List Op) (ps : List (List Nat)) (st : St), ioOnly ops →
    (interp e ps ops st).1 = .ok ∨ (interp e ps ops st).1 = .ioError := by
  intro ops
  induction ops with
  | nil => intro ps st _; exact .inl rfl
  | cons o ops ih =>
    intro ps st h
    cases o with
    | panic => exact h.elim
    | alloc n => exact h.elim
    | skip n => simp only [interp]; split; exact ih ps _ h; exact .inr rfl
    | read n => simp only [interp]; split; exact ih _ _ h; exact .inr rfl

/-- With every allocation before the first reader operation, a run either gets through all of them
(so the budget covers the need), or it ends in `memLimit` with the reader untouched: same position,
no reader call logged; and unless the allocator refused, the budget is below the need. -/
theorem interp_allocFirst (e : Env) : ∀ (ops : List Op) (ps : List (List Nat)) (st : St),
    allocFirst ops →
    (((interp e ps ops st).1 = .ok ∨ (interp e ps ops st).1 = .ioError) ∧
      (need ops < U64 → need ops ≤ st.budget)) ∨
    ((interp e ps ops st).1 = .memLimit ∧ (interp e ps ops st).2.pos = st.pos ∧
      (interp e ps ops st).2.log = st.log ∧ ((∀ n, e.allocOk n = true) → st.budget < need ops)) := by
  intro ops
  induction ops with
  | nil => intro ps st _; exact .inl ⟨.inl rfl, fun _ => Nat.zero_le _⟩
  | cons o ops ih =>
    intro ps st h
    cases o with
    | panic => exact h.elim
    | skip n => exact .inl ⟨interp_ioOnly e _ ps st h, fun _ => ioOnly_need (ops := .skip n :: ops) h ▸ Nat.zero_le _⟩
    | read n => exact .inl ⟨interp_ioOnly e _ ps st h, fun _ => ioOnly_need (ops := .read n :: ops) h ▸ Nat.zero_le _⟩
    | alloc n =>
      have hmod : n % U64 ≤ n := Nat.mod_le _ _
      simp only [interp, need]
      split
      · exact .inr ⟨rfl, rfl, rfl, fun _ => by omega⟩
      · split
        · rcases ih ps { st with budget := st.budget - n % U64, calls := n % U64 :: st.calls } h with
            ⟨h1, h2⟩ | ⟨h1, h2, h3, h4⟩
          · refine .inl ⟨h1, fun hU => ?_⟩
            have hn : n % U64 = n := Nat.mod_eq_of_lt (by omega)
            have : need ops ≤ st.budget - n % U64 := h2 (by omega)
            omega
          · exact .inr ⟨h1, h2, h3, fun hok => by have : st.budget - n % U64 < need ops := h4 hok; omega⟩
        · next hno => exact .inr ⟨rfl, rfl, rfl, fun hok => absurd (hok _) hno⟩

theorem interp_mem_iff (e : Env) (hok : ∀ n, e.allocOk n = true) (ops : List Op) (ps : List (List Nat))
    (st : St) (h : allocFirst ops) (hU : need ops < U64) :
    (interp e ps ops st).1 = .memLimit ↔ st.budget < need ops := by
  rcases interp_allocFirst e ops ps st h with ⟨h1, h2⟩ | ⟨h1, _, _, h4⟩
  · have := h2 hU
    rcases h1 with h1 | h1 <;> rw [h1] <;> simp <;> omega
  · simp [h1, h4 hok]

/-! ### the budget (C07) -/

def total : List Nat → Nat
  | [] => 0
  | a :: t => a + total t

/-- what has been handed to the allocator plus what is left of the budget is constant -/
theorem interp_budget (e : Env) : ∀ (ops : List Op) (ps : List (List Nat)) (st : St),
    total (interp e ps ops st).2.calls + (interp e ps ops st).2.budget = total st.calls + st.budget := by
  intro ops
  induction ops with
  | nil => intro ps st; rfl
  | cons o ops ih =>
    intro ps st
    cases o with
    | panic => rfl
    | alloc n =>
      simp only [interp]
      split
      · rfl
      · split
        · rw [ih]; simp only [total]; omega
        · simp only [total]; omega
    | skip n => simp only [interp]; split; exact ih ps _; rfl
    | read n => simp only [interp]; split; exact ih _ _; rfl

/-- a request above the remaining budget is refused before the allocator is called -/
theorem interp_over_budget (e : Env) (ps : List (List Nat)) (n : Nat) (ops : List Op) (st : St)
    (h : st.budget < n % U64) : interp e ps (.alloc n :: ops) st = (.memLimit, st) := by
  simp only [interp]; rw [if_pos h]

end Dds.Stream
