/- The implementation-shaped row helpers address the unit / chroma sample of the
pixel's own cell, for every width and height. -/
import DdsModel.Uncompressed
namespace Dds.Unc

theorem pairs_length {α} (g : Nat → α × α) (n : Nat) : (pairs g n).length = 2 * n := by
  induction n with
  | zero => rfl
  | succ n ih => simp only [pairs, List.length_append, ih, List.length_cons, List.length_nil]; omega

theorem pairs_get {α} (g : Nat → α × α) (n x : Nat) (h : x < 2 * n) :
    (pairs g n)[x]? = some (if x % 2 = 0 then (g (x / 2)).1 else (g (x / 2)).2) := by
  induction n with
  | zero => omega
  | succ n ih =>
    simp only [pairs]
    by_cases hx : x < 2 * n
    · rw [List.getElem?_append_left (by rw [pairs_length]; exact hx)]
      exact ih hx
    · rw [List.getElem?_append_right (by rw [pairs_length]; omega), pairs_length]
      by_cases h0 : x = 2 * n
      · subst h0
        rw [Nat.sub_self, if_pos (by omega), show 2 * n / 2 = n by omega]; rfl
      · have h1 : x = 2 * n + 1 := by omega
        subst h1
        rw [show 2 * n + 1 - 2 * n = 1 by omega, if_neg (by omega), show (2 * n + 1) / 2 = n by omega]; rfl

/-- `process_2x1_blocks_helper`: pixel `x` is pixel `x % 2` of block `x / 2`, odd widths included -/
theorem process2x1_get {α} (g : Nat → α × α) (w x : Nat) (h : x < w) :
    (process2x1 g w)[x]? = some (if x % 2 = 0 then (g (x / 2)).1 else (g (x / 2)).2) := by
  unfold process2x1
  by_cases hx : x < 2 * (w / 2)
  · rw [List.getElem?_append_left (by rw [pairs_length]; exact hx)]
    exact pairs_get g _ x hx
  · rw [List.getElem?_append_right (by rw [pairs_length]; omega), pairs_length]
    have hw : w % 2 = 1 := by omega
    rw [show x - 2 * (w / 2) = 0 by omega, if_pos (beq_iff_eq.mpr hw), if_pos (by omega),
      show (w + 1) / 2 - 1 = x / 2 by omega]; rfl

theorem process2x1_length {α} (g : Nat → α × α) (w : Nat) : (process2x1 g w).length = w := by
  unfold process2x1
  rw [List.length_append, pairs_length]
  by_cases hw : w % 2 = 1
  · rw [if_pos (beq_iff_eq.mpr hw), List.length_singleton]; omega
  · rw [if_neg (fun h => hw (beq_iff_eq.mp h)), List.length_nil]; omega

/-- `process_bi_planar_helper`: luma `x` is paired with chroma `x / 2`, odd widths included -/
theorem biPlanarRow_get {α} (f : Nat → Nat → α) (luma chroma : Nat → Nat) (w x : Nat) (h : x < w) :
    (biPlanarRow f luma chroma w)[x]? = some (f (luma x) (chroma (x / 2))) := by
  unfold biPlanarRow
  by_cases hx : x < 2 * (w / 2)
  · rw [List.getElem?_append_left (by rw [pairs_length]; exact hx), pairs_get _ _ x hx]
    by_cases h0 : x % 2 = 0
    · rw [if_pos h0, show 2 * (x / 2) = x by omega]
    · rw [if_neg h0, show 2 * (x / 2) + 1 = x by omega]
  · rw [List.getElem?_append_right (by rw [pairs_length]; omega), pairs_length]
    have hxw : x = w / 2 * 2 := by omega
    have h1 : w - w / 2 * 2 > 0 := by omega
    have h2 : w / 2 = x / 2 := by omega
    have h3 : x - 2 * (w / 2) = 0 := by omega
    simp only [h1, if_true, h3, List.getElem?_cons_zero]
    rw [← hxw, h2]

theorem biPlanarRow_length {α} (f : Nat → Nat → α) (luma chroma : Nat → Nat) (w : Nat) :
    (biPlanarRow f luma chroma w).length = w := by
  unfold biPlanarRow
  rw [List.length_append, pairs_length]
  by_cases hw : w - w / 2 * 2 > 0
  · rw [if_pos hw, List.length_singleton]; omega
  · rw [if_neg hw, List.length_nil]; omega

/-- state of the plane-2 loop of `for_each_bi_planar` after `k` chroma lines -/
theorem biPlanarRows_aux {α} (row : Nat → Nat → α) (h k : Nat) :
    (List.range k).foldl (fun acc uv =>
      let acc := if acc.length < h then acc ++ [row acc.length uv] else acc
      if acc.length < h then acc ++ [row acc.length uv] else acc) []
    = (List.range (min (2 * k) h)).map fun y => row y (y / 2) := by
  induction k with
  | zero => simp
  | succ k ih =>
    rw [List.range_succ, List.foldl_append, ih]
    simp only [List.foldl_cons, List.foldl_nil, List.length_map, List.length_range]
    by_cases h1 : 2 * k < h
    · have m1 : min (2 * k) h = 2 * k := by omega
      rw [m1]
      simp only [h1, if_true, List.length_append, List.length_map, List.length_range,
        List.length_cons, List.length_nil]
      have d1 : 2 * k / 2 = k := by omega
      by_cases h2 : 2 * k + 1 < h
      · have m2 : min (2 * (k + 1)) h = 2 * k + 1 + 1 := by omega
        have d2 : (2 * k + 1) / 2 = k := by omega
        simp only [Nat.zero_add, h2, if_true, m2]
        rw [List.range_succ, List.range_succ, List.map_append, List.map_append]
        simp [d1, d2]
      · have m2 : min (2 * (k + 1)) h = 2 * k + 1 := by omega
        simp only [Nat.zero_add, h2, if_false, m2]
        rw [List.range_succ, List.map_append]
        simp [d1]
    · have m1 : min (2 * k) h = h := by omega
      have m2 : min (2 * (k + 1)) h = h := by omega
      rw [m1, m2]
      simp

/-- `for_each_bi_planar`: luma row `y` is decoded with chroma line `y / 2`, exactly `height` rows are
produced, odd heights included -/
theorem biPlanarRows_eq {α} (row : Nat → Nat → α) (h : Nat) :
    biPlanarRows row h ((h + 1) / 2) = (List.range h).map fun y => row y (y / 2) := by
  unfold biPlanarRows
  rw [biPlanarRows_aux]
  have : min (2 * ((h + 1) / 2)) h = h := by omega
  rw [this]

theorem blocks8_length {α} (g : Nat → List α) (hg : ∀ i, (g i).length = 8) (w n : Nat) :
    (blocks8 g w n).length = min (8 * n) w := by
  induction n with
  | zero => simp [blocks8]
  | succ n ih =>
    simp only [blocks8, List.length_append, ih, List.length_take, hg]
    omega

theorem blocks8_get {α} (g : Nat → List α) (hg : ∀ i, (g i).length = 8) (w n x : Nat)
    (h : x < min (8 * n) w) : (blocks8 g w n)[x]? = (g (x / 8))[x % 8]? := by
  induction n with
  | zero => omega
  | succ n ih =>
    simp only [blocks8]
    by_cases hx : x < min (8 * n) w
    · rw [List.getElem?_append_left (by rw [blocks8_length g hg]; exact hx)]
      exact ih hx
    · rw [List.getElem?_append_right (by rw [blocks8_length g hg]; omega), blocks8_length g hg]
      have h1 : min (8 * n) w = 8 * n := by omega
      have h2 : x / 8 = n := by omega
      have h3 : x % 8 = x - 8 * n := by omega
      rw [h1, List.getElem?_take, h2, h3, if_pos (by omega)]

/-- `process_8x1_blocks_helper` (R1_UNORM): pixel `x` is pixel `x % 8` of byte `x / 8`, widths that
are not a multiple of 8 included -/
theorem process8x1_get {α} (g : Nat → List α) (hg : ∀ i, (g i).length = 8) (w x : Nat) (h : x < w) :
    (process8x1 g w)[x]? = (g (x / 8))[x % 8]? := by
  unfold process8x1
  exact blocks8_get g hg w _ x (by omega)

theorem process8x1_length {α} (g : Nat → List α) (hg : ∀ i, (g i).length = 8) (w : Nat) :
    (process8x1 g w).length = w := by
  unfold process8x1
  rw [blocks8_length g hg]; omega

end Dds.Unc
