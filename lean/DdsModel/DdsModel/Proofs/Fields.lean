/-
A number as the concatenation of bit fields, first field lowest: `fv fs`.  What is written field by field is read back
field by field (`rd_fv`, `shr_fv_append`); OR-ing a value into the empty place above a field list appends a field
(`or_shl_fv`), which is the step of every packing loop of the encoders (`BitStream::write_u64`, the three `IndexList::set`,
`AlphaMap::set_opaque_if`, `bc2_alpha`).  `run n B g` are `n` fields of `B` bits, the digits `g 0 … g (n - 1)`.
-/
import DdsModel.Bc7Spec
import DdsModel.Proofs.NatLemmas
namespace Dds.Enc7
open Dds Dds.Bc7Spec

/-- value of a field list, first field lowest: `v₀ + 2^n₀ · (v₁ + 2^n₁ · (…))` -/
def fv : List (Nat × Nat) → Nat
  | [] => 0
  | f :: fs => f.1 + 2 ^ f.2 * fv fs

def width : List (Nat × Nat) → Nat
  | [] => 0
  | f :: fs => f.2 + width fs

/-- every value fits its width (the `debug_assert!(value < (1 << bits))` of `write_u64`) and `bits < 64` -/
def FieldsOK (fs : List (Nat × Nat)) : Prop := ∀ f ∈ fs, f.1 < 2 ^ f.2 ∧ f.2 < 64

theorem fieldsOK_nil : FieldsOK [] := by intro f hf; cases hf
theorem fieldsOK_cons {f : Nat × Nat} {fs : List (Nat × Nat)} :
    FieldsOK (f :: fs) ↔ (f.1 < 2 ^ f.2 ∧ f.2 < 64) ∧ FieldsOK fs := List.forall_mem_cons
theorem fieldsOK_append {a b : List (Nat × Nat)} : FieldsOK (a ++ b) ↔ FieldsOK a ∧ FieldsOK b :=
  List.forall_mem_append
theorem fieldsOK_one (v n : Nat) (hv : v < 2 ^ n) (hn : n < 64) : FieldsOK [(v, n)] :=
  fieldsOK_cons.mpr ⟨⟨hv, hn⟩, fieldsOK_nil⟩

theorem fv_cons (v n : Nat) (fs : List (Nat × Nat)) : fv ((v, n) :: fs) = v + 2 ^ n * fv fs := rfl
theorem fv_nil : fv [] = 0 := rfl

theorem width_append (a b : List (Nat × Nat)) : width (a ++ b) = width a + width b := by
  induction a with
  | nil => simp [width]
  | cons f fs ih => simp only [List.cons_append, width, ih]; omega

theorem fv_append (a b : List (Nat × Nat)) : fv (a ++ b) = fv a + 2 ^ width a * fv b := by
  induction a with
  | nil => simp [fv, width]
  | cons f fs ih => simp only [List.cons_append, fv, width, ih, Nat.pow_add, Nat.mul_add, Nat.mul_assoc, Nat.add_assoc]

theorem fv_lt (fs : List (Nat × Nat)) (h : FieldsOK fs) : fv fs < 2 ^ width fs := by
  induction fs with
  | nil => simp [fv, width]
  | cons f fs ih =>
    obtain ⟨⟨h1, _⟩, h2⟩ := fieldsOK_cons.mp h
    have ih := ih h2
    simp only [fv, width, Nat.pow_add]
    have : 2 ^ f.2 * fv fs + 2 ^ f.2 ≤ 2 ^ f.2 * 2 ^ width fs := by
      rw [← Nat.mul_succ]; exact Nat.mul_le_mul_left _ ih
    omega



/-- a field appended on top -/
theorem fv_snoc (fs : List (Nat × Nat)) (v n : Nat) : fv (fs ++ [(v, n)]) = fv fs + v * 2 ^ width fs := by
  rw [fv_append, fv_cons, fv_nil, Nat.mul_zero, Nat.add_zero, Nat.mul_comm]

/-- OR-ing a value into the still empty place above a field list appends a field -/
theorem or_shl_fv (fs : List (Nat × Nat)) (v n : Nat) (h : FieldsOK fs) :
    fv fs ||| v <<< width fs = fv (fs ++ [(v, n)]) := by
  rw [fv_snoc, or_shl_eq_add _ _ _ (fv_lt fs h)]

theorem fieldsOK_snoc {fs : List (Nat × Nat)} {v n : Nat} (h : FieldsOK fs) (hv : v < 2 ^ n) (hn : n < 64) :
    FieldsOK (fs ++ [(v, n)]) := fieldsOK_append.mpr ⟨h, fieldsOK_one v n hv hn⟩

/-- the appended value fits under the new total width -/
theorem shl_lt_of_snoc {fs : List (Nat × Nat)} {v n : Nat} (h : FieldsOK (fs ++ [(v, n)])) :
    v <<< width fs < 2 ^ (width fs + n) := by
  have := fv_lt _ h
  rw [fv_snoc, width_append] at this
  rw [Nat.shiftLeft_eq]; simp only [width, Nat.add_zero] at this; omega

/-- a fold over `0 .. n` whose state follows the sequence `a` -/
theorem foldl_range_eq {β : Type} (a : Nat → β) (step : β → Nat → β) (N : Nat)
    (hs : ∀ k, k < N → step (a k) k = a (k + 1)) : ∀ n, n ≤ N → (List.range n).foldl step (a 0) = a n
  | 0, _ => rfl
  | n + 1, h => by
    rw [List.range_succ, List.foldl_append, foldl_range_eq a step N hs n (by omega)]
    exact hs n (by omega)

theorem shr_fv_append (a b : List (Nat × Nat)) (ha : FieldsOK a) {p : Nat} (q : Nat) (hp : p = width a + q) :
    fv (a ++ b) >>> p = fv b >>> q := by
  rw [hp, Nat.shiftRight_add, fv_append, Nat.shiftRight_eq_div_pow (_ + _), Nat.add_mul_div_left _ _ (Nat.two_pow_pos _),
    Nat.div_eq_of_lt (fv_lt a ha), Nat.zero_add]

theorem rd_fv_append (a b : List (Nat × Nat)) (ha : FieldsOK a) {p : Nat} (q n : Nat) (hp : p = width a + q) :
    rd (fv (a ++ b)) p n = rd (fv b) q n := by
  rw [rd, rd, ← Nat.shiftRight_eq_div_pow, ← Nat.shiftRight_eq_div_pow, shr_fv_append a b ha q hp]

theorem rd_fv_cons (v n : Nat) (fs : List (Nat × Nat)) (hv : v < 2 ^ n) : rd (fv ((v, n) :: fs)) 0 n = v := by
  rw [rd, Nat.pow_zero, Nat.div_one, fv_cons, Nat.add_mul_mod_self_left, Nat.mod_eq_of_lt hv]

theorem rd_fv (fs : List (Nat × Nat)) (i v n : Nat) {pos : Nat} (h : FieldsOK fs) (hi : fs[i]? = some (v, n))
    (hp : width (fs.take i) = pos) : rd (fv fs) pos n = v := by
  subst hp
  induction fs generalizing i with
  | nil => cases hi
  | cons f fs ih =>
    obtain ⟨hf, hfs⟩ := fieldsOK_cons.mp h
    cases i with
    | zero => cases hi; exact rd_fv_cons _ _ _ hf.1
    | succ i => exact (rd_fv_append [f] fs (fieldsOK_cons.mpr ⟨hf, fieldsOK_nil⟩) _ n rfl).trans (ih i hfs hi)

theorem rd_fv_map {α : Type} (l : List α) (g : α → Nat) (B : Nat) (rest : List (Nat × Nat)) (i : Nat) (x : α)
    (hB : B < 64) (h : ∀ y ∈ l, g y < 2 ^ B) (hi : l[i]? = some x) :
    rd (fv (l.map (fun y => (g y, B)) ++ rest)) (i * B) B = g x := by
  induction l generalizing i with
  | nil => cases hi
  | cons y l ih =>
    have hy := h y (List.mem_cons_self ..)
    cases i with
    | zero => cases hi; rw [Nat.zero_mul]; exact rd_fv_cons _ _ _ hy
    | succ i =>
      exact (rd_fv_append [(g y, B)] _ (fieldsOK_one _ _ hy hB) (i * B) B (by rw [Nat.succ_mul, Nat.add_comm]; rfl)).trans
        (ih i (fun z hz => h z (List.mem_cons_of_mem _ hz)) hi)

theorem width_map {α : Type} (l : List α) (g : α → Nat) (B : Nat) : width (l.map fun y => (g y, B)) = l.length * B := by
  induction l with
  | nil => simp [width]
  | cons a l ih => simp only [List.map_cons, width, ih, List.length_cons, Nat.succ_mul]; omega

/-! ### runs of equally wide fields: what `write_endpoints_*` write per channel -/

def run (n B : Nat) (g : Nat → Nat) : List (Nat × Nat) := (List.range n).map fun e => (g e, B)

theorem fieldsOK_run (n B : Nat) (g : Nat → Nat) (hB : B < 64) (h : ∀ e, e < n → g e < 2 ^ B) :
    FieldsOK (run n B g) := by
  intro f hf
  obtain ⟨e, he, rfl⟩ := List.mem_map.mp hf
  exact ⟨h e (List.mem_range.mp he), hB⟩

theorem width_run (n B : Nat) (g : Nat → Nat) : width (run n B g) = n * B := by
  rw [run, width_map, List.length_range]

theorem rd_run (n B : Nat) (g : Nat → Nat) (rest : List (Nat × Nat)) (e : Nat) (hB : B < 64)
    (h : ∀ e, e < n → g e < 2 ^ B) (he : e < n) : rd (fv (run n B g ++ rest)) (e * B) B = g e :=
  rd_fv_map (List.range n) g B rest e e hB (fun y hy => h y (List.mem_range.mp hy)) (by simp [he])

theorem run_succ (n B : Nat) (g : Nat → Nat) : run (n + 1) B g = run n B g ++ [(g n, B)] := by
  simp only [run, List.range_succ, List.map_append, List.map_cons, List.map_nil]

end Dds.Enc7
