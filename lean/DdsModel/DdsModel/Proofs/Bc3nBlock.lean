/-
BC3n (`BC3_UNORM_NORMAL`): with `calcB = z8` on all pairs (`Proofs/Bc3nAll.lean`) the exception `f ≠ .bc3n`
of `Proofs/BcPixels.lean` disappears: pixel and block equality for EVERY format of the BC1–BC5 model.
-/
import DdsModel.Proofs.Bc3nAll
import DdsModel.Proofs.BcPixels
namespace Dds.Bc
open Dds.BcSpec (rnd)

/-- BC3n at 8 bit: R (BC3 alpha), G (BC3 green) and B (`calc_b`) equal the specification -/
theorem px8_bc3n_eq (blk : Nat → Nat) (hb : ∀ i, blk i < 256) (p : Nat) (hp : p < 16) :
    px8 .bc3n blk p = BcSpec.px8 .bc3n blk p := by
  rw [px8_bc3n blk hb p hp]
  have ha : rnd (255 * BcSpec.bc4uVal blk 0 p) < 256 := by
    rw [← bc3Alpha_eq blk hb p hp]; exact bc4u8_lt blk hb p
  have hg : (BcSpec.colorPx false blk 8 p).2.1 < 256 := by
    rw [← colorUpper_eq blk hb p]; exact (bc1NoDefaultPx_lt (upper blk) p).2.1
  rw [Bc3n.calcB_eq_z8 _ _ ha hg]
  rfl

theorem px_eq_all (f : Fmt) (pr : Prec) (blk : Nat → Nat) (hb : ∀ i, blk i < 256) (p : Nat) (hp : p < 16) :
    px f pr blk p = BcSpec.px f pr blk p := by
  by_cases hf : f = .bc3n
  · subst hf
    simp only [px, pxWith, stdConv, BcSpec.px]
    exact map_widen_eq pr _ _ (px8_bc3n_eq blk hb p hp) (px8_lt _ blk hb p)
  · exact px_eq f hf pr blk hb p hp

theorem decodeBlock_eq_all (f : Fmt) (pr : Prec) (blk : Nat → Nat) (hb : ∀ i, blk i < 256) :
    decodeBlock f pr blk = BcSpec.decodeBlock f pr blk := by
  unfold decodeBlock decodeBlockWith BcSpec.decodeBlock
  apply List.map_congr_left
  intro p hp
  rw [List.mem_range] at hp
  exact px_eq_all f pr blk hb p hp

end Dds.Bc
