/-
`fp::n16` / `n16::from_f32`: `(x * 65535.0 + 0.5) as u16`: threshold table, codes 49153 … 57344,
checked by kernel evaluation of `chkList` (`Proofs/F32Thr.lean`).  GENERATED by tools/gen_f32thr.py (the
script is not trusted: every entry is validated here).  Entry `2t + d`: `t` = first pattern whose result is ≥ k,
`d = 1` iff `t` is still below the exact tie `(2k−1)/(2·65535)` (its result is one code too high).
-/
import DdsModel.Proofs.F32Thr
namespace Dds.F32Thr.FpN16
-- the elaborator's default recursion depth does not suffice for a list literal of 2048 numerals
set_option maxRecDepth 100000

@[irreducible] def c24 : List Nat :=
  [2122318465, 2122318977, 2122319489, 2122320001, 2122320513, 2122321025, 2122321537, 2122322049, 2122322561,
   2122323073, 2122323585, 2122324097, 2122324609, 2122325121, 2122325633, 2122326145, 2122326657, 2122327169,
   2122327681, 2122328193, 2122328705, 2122329217, 2122329729, 2122330241, 2122330753, 2122331265, 2122331777,
   2122332289, 2122332801, 2122333313, 2122333825, 2122334337, 2122334849, 2122335361, 2122335873, 2122336385,
   2122336897, 2122337409, 2122337921, 2122338433, 2122338945, 2122339457, 2122339969, 2122340481, 2122340993,
   2122341505, 2122342017, 2122342529, 2122343041, 2122343553, 2122344065, 2122344577, 2122345089, 2122345601,
   2122346113, 2122346625, 2122347137, 2122347649, 2122348161, 2122348673, 2122349185, 2122349697, 2122350209,
   2122350721, 2122351233, 2122351745, 2122352257, 2122352769, 2122353281, 2122353793, 2122354305, 2122354817,
   2122355329, 2122355841, 2122356353, 2122356865, 2122357377, 2122357889, 2122358401, 2122358913, 2122359425,
   2122359937, 2122360449, 2122360961, 2122361473, 2122361985, 2122362497, 2122363009, 2122363521, 2122364033,
   2122364545, 2122365057, 2122365569, 2122366081, 2122366593, 2122367105, 2122367617, 2122368129, 2122368641,
   2122369153, 2122369665, 2122370177, 2122370689, 2122371201, 2122371713, 2122372225, 2122372737, 2122373249,
   2122373761, 2122374273, 2122374785, 2122375297, 2122375809, 2122376321, 2122376833, 2122377345, 2122377857,
   2122378369, 2122378881, 2122379393, 2122379905, 2122380417, 2122380929, 2122381441, 2122381953, 2122382465,
   2122382977, 2122383490, 2122384002, 2122384514, 2122385026, 2122385538, 2122386050, 2122386562, 2122387074,
   2122387586, 2122388098, 2122388610, 2122389122, 2122389634, 2122390146, 2122390658, 2122391170, 2122391682,
   2122392194, 2122392706, 2122393218, 2122393730, 2122394242, 2122394754, 2122395266, 2122395778, 2122396290,
   2122396802, 2122397314, 2122397826, 2122398338, 2122398850, 2122399362, 2122399874, 2122400386, 2122400898,
   2122401410, 2122401922, 2122402434, 2122402946, 2122403458, 2122403970, 2122404482, 2122404994, 2122405506,
   2122406018, 2122406530, 2122407042, 2122407554, 2122408066, 2122408578, 2122409090, 2122409602, 2122410114,
   2122410626, 2122411138, 2122411650, 2122412162, 2122412674, 2122413186, 2122413698, 2122414210, 2122414722,
   2122415234, 2122415746, 2122416258, 2122416770, 2122417282, 2122417794, 2122418306, 2122418818, 2122419330,
   2122419842, 2122420354, 2122420866, 2122421378, 2122421890, 2122422402, 2122422914, 2122423426, 2122423938,
   2122424450, 2122424962, 2122425474, 2122425986, 2122426498, 2122427010, 2122427522, 2122428034, 2122428546,
   2122429058, 2122429570, 2122430082, 2122430594, 2122431106, 2122431618, 2122432130, 2122432642, 2122433154,
   2122433666, 2122434178, 2122434690, 2122435202, 2122435714, 2122436226, 2122436738, 2122437250, 2122437762,
   2122438274, 2122438786, 2122439298, 2122439810, 2122440322, 2122440834, 2122441346, 2122441858, 2122442370,
   2122442882, 2122443394, 2122443906, 2122444418, 2122444930, 2122445442, 2122445954, 2122446466, 2122446978,
   2122447490, 2122448002, 2122448514, 2122449027, 2122449539, 2122450051, 2122450563, 2122451075, 2122451587,
   2122452099, 2122452611, 2122453123, 2122453635, 2122454147, 2122454659, 2122455171, 2122455683, 2122456195,
   2122456707, 2122457219, 2122457731, 2122458243, 2122458755, 2122459267, 2122459779, 2122460291, 2122460803,
   2122461315, 2122461827, 2122462339, 2122462851, 2122463363, 2122463875, 2122464387, 2122464899, 2122465411,
   2122465923, 2122466435, 2122466947, 2122467459, 2122467971, 2122468483, 2122468995, 2122469507, 2122470019,
   2122470531, 2122471043, 2122471555, 2122472067, 2122472579, 2122473091, 2122473603, 2122474115, 2122474627,
   2122475139, 2122475651, 2122476163, 2122476675, 2122477187, 2122477699, 2122478211, 2122478723, 2122479235,
   2122479747, 2122480259, 2122480771, 2122481283, 2122481795, 2122482307, 2122482819, 2122483331, 2122483843,
   2122484355, 2122484867, 2122485379, 2122485891, 2122486403, 2122486915, 2122487427, 2122487939, 2122488451,
   2122488963, 2122489475, 2122489987, 2122490499, 2122491011, 2122491523, 2122492035, 2122492547, 2122493059,
   2122493571, 2122494083, 2122494595, 2122495107, 2122495619, 2122496131, 2122496643, 2122497155, 2122497667,
   2122498179, 2122498691, 2122499203, 2122499715, 2122500227, 2122500739, 2122501251, 2122501763, 2122502275,
   2122502787, 2122503299, 2122503811, 2122504323, 2122504835, 2122505347, 2122505859, 2122506371, 2122506883,
   2122507395, 2122507907, 2122508419, 2122508931, 2122509443, 2122509955, 2122510467, 2122510979, 2122511491,
   2122512003, 2122512515, 2122513027, 2122513539, 2122514051, 2122514564, 2122515076, 2122515588, 2122516100,
   2122516612, 2122517124, 2122517636, 2122518148, 2122518660, 2122519172, 2122519684, 2122520196, 2122520708,
   2122521220, 2122521732, 2122522244, 2122522756, 2122523268, 2122523780, 2122524292, 2122524804, 2122525316,
   2122525828, 2122526340, 2122526852, 2122527364, 2122527876, 2122528388, 2122528900, 2122529412, 2122529924,
   2122530436, 2122530948, 2122531460, 2122531972, 2122532484, 2122532996, 2122533508, 2122534020, 2122534532,
   2122535044, 2122535556, 2122536068, 2122536580, 2122537092, 2122537604, 2122538116, 2122538628, 2122539140,
   2122539652, 2122540164, 2122540676, 2122541188, 2122541700, 2122542212, 2122542724, 2122543236, 2122543748,
   2122544260, 2122544772, 2122545284, 2122545796, 2122546308, 2122546820, 2122547332, 2122547844, 2122548356,
   2122548868, 2122549380, 2122549892, 2122550404, 2122550916, 2122551428, 2122551940, 2122552452, 2122552964,
   2122553476, 2122553988, 2122554500, 2122555012, 2122555524, 2122556036, 2122556548, 2122557060, 2122557572,
   2122558084, 2122558596, 2122559108, 2122559620, 2122560132, 2122560644, 2122561156, 2122561668, 2122562180,
   2122562692, 2122563204, 2122563716, 2122564228, 2122564740, 2122565252, 2122565764, 2122566276, 2122566788,
   2122567300, 2122567812, 2122568324, 2122568836, 2122569348, 2122569860, 2122570372, 2122570884, 2122571396,
   2122571908, 2122572420, 2122572932, 2122573444, 2122573956, 2122574468, 2122574980, 2122575492, 2122576004,
   2122576516, 2122577028, 2122577540, 2122578052, 2122578564, 2122579076, 2122579588, 2122580101, 2122580613,
   2122581125, 2122581637, 2122582149, 2122582661, 2122583173, 2122583685, 2122584197, 2122584709, 2122585221,
   2122585733, 2122586245, 2122586757, 2122587269, 2122587781, 2122588293, 2122588805, 2122589317, 2122589829,
   2122590341, 2122590853, 2122591365, 2122591877, 2122592389, 2122592901, 2122593413, 2122593925, 2122594437,
   2122594949, 2122595461, 2122595973, 2122596485, 2122596997, 2122597509, 2122598021, 2122598533, 2122599045,
   2122599557, 2122600069, 2122600581, 2122601093, 2122601605, 2122602117, 2122602629, 2122603141, 2122603653,
   2122604165, 2122604677, 2122605189, 2122605701, 2122606213, 2122606725, 2122607237, 2122607749, 2122608261,
   2122608773, 2122609285, 2122609797, 2122610309, 2122610821, 2122611333, 2122611845, 2122612357, 2122612869,
   2122613381, 2122613893, 2122614405, 2122614917, 2122615429, 2122615941, 2122616453, 2122616965, 2122617477,
   2122617989, 2122618501, 2122619013, 2122619525, 2122620037, 2122620549, 2122621061, 2122621573, 2122622085,
   2122622597, 2122623109, 2122623621, 2122624133, 2122624645, 2122625157, 2122625669, 2122626181, 2122626693,
   2122627205, 2122627717, 2122628229, 2122628741, 2122629253, 2122629765, 2122630277, 2122630789, 2122631301,
   2122631813, 2122632325, 2122632837, 2122633349, 2122633861, 2122634373, 2122634885, 2122635397, 2122635909,
   2122636421, 2122636933, 2122637445, 2122637957, 2122638469, 2122638981, 2122639493, 2122640005, 2122640517,
   2122641029, 2122641541, 2122642053, 2122642565, 2122643077, 2122643589, 2122644101, 2122644613, 2122645125,
   2122645638, 2122646150, 2122646662, 2122647174, 2122647686, 2122648198, 2122648710, 2122649222, 2122649734,
   2122650246, 2122650758, 2122651270, 2122651782, 2122652294, 2122652806, 2122653318, 2122653830, 2122654342,
   2122654854, 2122655366, 2122655878, 2122656390, 2122656902, 2122657414, 2122657926, 2122658438, 2122658950,
   2122659462, 2122659974, 2122660486, 2122660998, 2122661510, 2122662022, 2122662534, 2122663046, 2122663558,
   2122664070, 2122664582, 2122665094, 2122665606, 2122666118, 2122666630, 2122667142, 2122667654, 2122668166,
   2122668678, 2122669190, 2122669702, 2122670214, 2122670726, 2122671238, 2122671750, 2122672262, 2122672774,
   2122673286, 2122673798, 2122674310, 2122674822, 2122675334, 2122675846, 2122676358, 2122676870, 2122677382,
   2122677894, 2122678406, 2122678918, 2122679430, 2122679942, 2122680454, 2122680966, 2122681478, 2122681990,
   2122682502, 2122683014, 2122683526, 2122684038, 2122684550, 2122685062, 2122685574, 2122686086, 2122686598,
   2122687110, 2122687622, 2122688134, 2122688646, 2122689158, 2122689670, 2122690182, 2122690694, 2122691206,
   2122691718, 2122692230, 2122692742, 2122693254, 2122693766, 2122694278, 2122694790, 2122695302, 2122695814,
   2122696326, 2122696838, 2122697350, 2122697862, 2122698374, 2122698886, 2122699398, 2122699910, 2122700422,
   2122700934, 2122701446, 2122701958, 2122702470, 2122702982, 2122703494, 2122704006, 2122704518, 2122705030,
   2122705542, 2122706054, 2122706566, 2122707078, 2122707590, 2122708102, 2122708614, 2122709126, 2122709638,
   2122710150, 2122710662, 2122711175, 2122711687, 2122712199, 2122712711, 2122713223, 2122713735, 2122714247,
   2122714759, 2122715271, 2122715783, 2122716295, 2122716807, 2122717319, 2122717831, 2122718343, 2122718855,
   2122719367, 2122719879, 2122720391, 2122720903, 2122721415, 2122721927, 2122722439, 2122722951, 2122723463,
   2122723975, 2122724487, 2122724999, 2122725511, 2122726023, 2122726535, 2122727047, 2122727559, 2122728071,
   2122728583, 2122729095, 2122729607, 2122730119, 2122730631, 2122731143, 2122731655, 2122732167, 2122732679,
   2122733191, 2122733703, 2122734215, 2122734727, 2122735239, 2122735751, 2122736263, 2122736775, 2122737287,
   2122737799, 2122738311, 2122738823, 2122739335, 2122739847, 2122740359, 2122740871, 2122741383, 2122741895,
   2122742407, 2122742919, 2122743431, 2122743943, 2122744455, 2122744967, 2122745479, 2122745991, 2122746503,
   2122747015, 2122747527, 2122748039, 2122748551, 2122749063, 2122749575, 2122750087, 2122750599, 2122751111,
   2122751623, 2122752135, 2122752647, 2122753159, 2122753671, 2122754183, 2122754695, 2122755207, 2122755719,
   2122756231, 2122756743, 2122757255, 2122757767, 2122758279, 2122758791, 2122759303, 2122759815, 2122760327,
   2122760839, 2122761351, 2122761863, 2122762375, 2122762887, 2122763399, 2122763911, 2122764423, 2122764935,
   2122765447, 2122765959, 2122766471, 2122766983, 2122767495, 2122768007, 2122768519, 2122769031, 2122769543,
   2122770055, 2122770567, 2122771079, 2122771591, 2122772103, 2122772615, 2122773127, 2122773639, 2122774151,
   2122774663, 2122775175, 2122775687, 2122776199, 2122776712, 2122777224, 2122777736, 2122778248, 2122778760,
   2122779272, 2122779784, 2122780296, 2122780808, 2122781320, 2122781832, 2122782344, 2122782856, 2122783368,
   2122783880, 2122784392, 2122784904, 2122785416, 2122785928, 2122786440, 2122786952, 2122787464, 2122787976,
   2122788488, 2122789000, 2122789512, 2122790024, 2122790536, 2122791048, 2122791560, 2122792072, 2122792584,
   2122793096, 2122793608, 2122794120, 2122794632, 2122795144, 2122795656, 2122796168, 2122796680, 2122797192,
   2122797704, 2122798216, 2122798728, 2122799240, 2122799752, 2122800264, 2122800776, 2122801288, 2122801800,
   2122802312, 2122802824, 2122803336, 2122803848, 2122804360, 2122804872, 2122805384, 2122805896, 2122806408,
   2122806920, 2122807432, 2122807944, 2122808456, 2122808968, 2122809480, 2122809992, 2122810504, 2122811016,
   2122811528, 2122812040, 2122812552, 2122813064, 2122813576, 2122814088, 2122814600, 2122815112, 2122815624,
   2122816136, 2122816648, 2122817160, 2122817672, 2122818184, 2122818696, 2122819208, 2122819720, 2122820232,
   2122820744, 2122821256, 2122821768, 2122822280, 2122822792, 2122823304, 2122823816, 2122824328, 2122824840,
   2122825352, 2122825864, 2122826376, 2122826888, 2122827400, 2122827912, 2122828424, 2122828936, 2122829448,
   2122829960, 2122830472, 2122830984, 2122831496, 2122832008, 2122832520, 2122833032, 2122833544, 2122834056,
   2122834568, 2122835080, 2122835592, 2122836104, 2122836616, 2122837128, 2122837640, 2122838152, 2122838664,
   2122839176, 2122839688, 2122840200, 2122840712, 2122841224, 2122841736, 2122842249, 2122842761, 2122843273,
   2122843785, 2122844297, 2122844809, 2122845321, 2122845833, 2122846345, 2122846857, 2122847369, 2122847881,
   2122848393, 2122848905, 2122849417, 2122849929, 2122850441, 2122850953, 2122851465, 2122851977, 2122852489,
   2122853001, 2122853513, 2122854025, 2122854537, 2122855049, 2122855561, 2122856073, 2122856585, 2122857097,
   2122857609, 2122858121, 2122858633, 2122859145, 2122859657, 2122860169, 2122860681, 2122861193, 2122861705,
   2122862217, 2122862729, 2122863241, 2122863753, 2122864265, 2122864777, 2122865289, 2122865801, 2122866313,
   2122866825, 2122867337, 2122867849, 2122868361, 2122868873, 2122869385, 2122869897, 2122870409, 2122870921,
   2122871433, 2122871945, 2122872457, 2122872969, 2122873481, 2122873993, 2122874505, 2122875017, 2122875529,
   2122876041, 2122876553, 2122877065, 2122877577, 2122878089, 2122878601, 2122879113, 2122879625, 2122880137,
   2122880649, 2122881161, 2122881673, 2122882185, 2122882697, 2122883209, 2122883721, 2122884233, 2122884745,
   2122885257, 2122885769, 2122886281, 2122886793, 2122887305, 2122887817, 2122888329, 2122888841, 2122889353,
   2122889865, 2122890377, 2122890889, 2122891401, 2122891913, 2122892425, 2122892937, 2122893449, 2122893961,
   2122894473, 2122894985, 2122895497, 2122896009, 2122896521, 2122897033, 2122897545, 2122898057, 2122898569,
   2122899081, 2122899593, 2122900105, 2122900617, 2122901129, 2122901641, 2122902153, 2122902665, 2122903177,
   2122903689, 2122904201, 2122904713, 2122905225, 2122905737, 2122906249, 2122906761, 2122907273, 2122907786,
   2122908298, 2122908810, 2122909322, 2122909834, 2122910346, 2122910858, 2122911370, 2122911882, 2122912394,
   2122912906, 2122913418, 2122913930, 2122914442, 2122914954, 2122915466, 2122915978, 2122916490, 2122917002,
   2122917514, 2122918026, 2122918538, 2122919050, 2122919562, 2122920074, 2122920586, 2122921098, 2122921610,
   2122922122, 2122922634, 2122923146, 2122923658, 2122924170, 2122924682, 2122925194, 2122925706, 2122926218,
   2122926730, 2122927242, 2122927754, 2122928266, 2122928778, 2122929290, 2122929802, 2122930314, 2122930826,
   2122931338, 2122931850, 2122932362, 2122932874, 2122933386, 2122933898, 2122934410, 2122934922, 2122935434,
   2122935946, 2122936458, 2122936970, 2122937482, 2122937994, 2122938506, 2122939018, 2122939530, 2122940042,
   2122940554, 2122941066, 2122941578, 2122942090, 2122942602, 2122943114, 2122943626, 2122944138, 2122944650,
   2122945162, 2122945674, 2122946186, 2122946698, 2122947210, 2122947722, 2122948234, 2122948746, 2122949258,
   2122949770, 2122950282, 2122950794, 2122951306, 2122951818, 2122952330, 2122952842, 2122953354, 2122953866,
   2122954378, 2122954890, 2122955402, 2122955914, 2122956426, 2122956938, 2122957450, 2122957962, 2122958474,
   2122958986, 2122959498, 2122960010, 2122960522, 2122961034, 2122961546, 2122962058, 2122962570, 2122963082,
   2122963594, 2122964106, 2122964618, 2122965130, 2122965642, 2122966154, 2122966666, 2122967178, 2122967690,
   2122968202, 2122968714, 2122969226, 2122969738, 2122970250, 2122970762, 2122971274, 2122971786, 2122972298,
   2122972810, 2122973323, 2122973835, 2122974347, 2122974859, 2122975371, 2122975883, 2122976395, 2122976907,
   2122977419, 2122977931, 2122978443, 2122978955, 2122979467, 2122979979, 2122980491, 2122981003, 2122981515,
   2122982027, 2122982539, 2122983051, 2122983563, 2122984075, 2122984587, 2122985099, 2122985611, 2122986123,
   2122986635, 2122987147, 2122987659, 2122988171, 2122988683, 2122989195, 2122989707, 2122990219, 2122990731,
   2122991243, 2122991755, 2122992267, 2122992779, 2122993291, 2122993803, 2122994315, 2122994827, 2122995339,
   2122995851, 2122996363, 2122996875, 2122997387, 2122997899, 2122998411, 2122998923, 2122999435, 2122999947,
   2123000459, 2123000971, 2123001483, 2123001995, 2123002507, 2123003019, 2123003531, 2123004043, 2123004555,
   2123005067, 2123005579, 2123006091, 2123006603, 2123007115, 2123007627, 2123008139, 2123008651, 2123009163,
   2123009675, 2123010187, 2123010699, 2123011211, 2123011723, 2123012235, 2123012747, 2123013259, 2123013771,
   2123014283, 2123014795, 2123015307, 2123015819, 2123016331, 2123016843, 2123017355, 2123017867, 2123018379,
   2123018891, 2123019403, 2123019915, 2123020427, 2123020939, 2123021451, 2123021963, 2123022475, 2123022987,
   2123023499, 2123024011, 2123024523, 2123025035, 2123025547, 2123026059, 2123026571, 2123027083, 2123027595,
   2123028107, 2123028619, 2123029131, 2123029643, 2123030155, 2123030667, 2123031179, 2123031691, 2123032203,
   2123032715, 2123033227, 2123033739, 2123034251, 2123034763, 2123035275, 2123035787, 2123036299, 2123036811,
   2123037323, 2123037835, 2123038347, 2123038860, 2123039372, 2123039884, 2123040396, 2123040908, 2123041420,
   2123041932, 2123042444, 2123042956, 2123043468, 2123043980, 2123044492, 2123045004, 2123045516, 2123046028,
   2123046540, 2123047052, 2123047564, 2123048076, 2123048588, 2123049100, 2123049612, 2123050124, 2123050636,
   2123051148, 2123051660, 2123052172, 2123052684, 2123053196, 2123053708, 2123054220, 2123054732, 2123055244,
   2123055756, 2123056268, 2123056780, 2123057292, 2123057804, 2123058316, 2123058828, 2123059340, 2123059852,
   2123060364, 2123060876, 2123061388, 2123061900, 2123062412, 2123062924, 2123063436, 2123063948, 2123064460,
   2123064972, 2123065484, 2123065996, 2123066508, 2123067020, 2123067532, 2123068044, 2123068556, 2123069068,
   2123069580, 2123070092, 2123070604, 2123071116, 2123071628, 2123072140, 2123072652, 2123073164, 2123073676,
   2123074188, 2123074700, 2123075212, 2123075724, 2123076236, 2123076748, 2123077260, 2123077772, 2123078284,
   2123078796, 2123079308, 2123079820, 2123080332, 2123080844, 2123081356, 2123081868, 2123082380, 2123082892,
   2123083404, 2123083916, 2123084428, 2123084940, 2123085452, 2123085964, 2123086476, 2123086988, 2123087500,
   2123088012, 2123088524, 2123089036, 2123089548, 2123090060, 2123090572, 2123091084, 2123091596, 2123092108,
   2123092620, 2123093132, 2123093644, 2123094156, 2123094668, 2123095180, 2123095692, 2123096204, 2123096716,
   2123097228, 2123097740, 2123098252, 2123098764, 2123099276, 2123099788, 2123100300, 2123100812, 2123101324,
   2123101836, 2123102348, 2123102860, 2123103372, 2123103884, 2123104397, 2123104909, 2123105421, 2123105933,
   2123106445, 2123106957, 2123107469, 2123107981, 2123108493, 2123109005, 2123109517, 2123110029, 2123110541,
   2123111053, 2123111565, 2123112077, 2123112589, 2123113101, 2123113613, 2123114125, 2123114637, 2123115149,
   2123115661, 2123116173, 2123116685, 2123117197, 2123117709, 2123118221, 2123118733, 2123119245, 2123119757,
   2123120269, 2123120781, 2123121293, 2123121805, 2123122317, 2123122829, 2123123341, 2123123853, 2123124365,
   2123124877, 2123125389, 2123125901, 2123126413, 2123126925, 2123127437, 2123127949, 2123128461, 2123128973,
   2123129485, 2123129997, 2123130509, 2123131021, 2123131533, 2123132045, 2123132557, 2123133069, 2123133581,
   2123134093, 2123134605, 2123135117, 2123135629, 2123136141, 2123136653, 2123137165, 2123137677, 2123138189,
   2123138701, 2123139213, 2123139725, 2123140237, 2123140749, 2123141261, 2123141773, 2123142285, 2123142797,
   2123143309, 2123143821, 2123144333, 2123144845, 2123145357, 2123145869, 2123146381, 2123146893, 2123147405,
   2123147917, 2123148429, 2123148941, 2123149453, 2123149965, 2123150477, 2123150989, 2123151501, 2123152013,
   2123152525, 2123153037, 2123153549, 2123154061, 2123154573, 2123155085, 2123155597, 2123156109, 2123156621,
   2123157133, 2123157645, 2123158157, 2123158669, 2123159181, 2123159693, 2123160205, 2123160717, 2123161229,
   2123161741, 2123162253, 2123162765, 2123163277, 2123163789, 2123164301, 2123164813, 2123165325, 2123165837,
   2123166349, 2123166861, 2123167373, 2123167885, 2123168397, 2123168909, 2123169421, 2123169934, 2123170446,
   2123170958, 2123171470, 2123171982, 2123172494, 2123173006, 2123173518, 2123174030, 2123174542, 2123175054,
   2123175566, 2123176078, 2123176590, 2123177102, 2123177614, 2123178126, 2123178638, 2123179150, 2123179662,
   2123180174, 2123180686, 2123181198, 2123181710, 2123182222, 2123182734, 2123183246, 2123183758, 2123184270,
   2123184782, 2123185294, 2123185806, 2123186318, 2123186830, 2123187342, 2123187854, 2123188366, 2123188878,
   2123189390, 2123189902, 2123190414, 2123190926, 2123191438, 2123191950, 2123192462, 2123192974, 2123193486,
   2123193998, 2123194510, 2123195022, 2123195534, 2123196046, 2123196558, 2123197070, 2123197582, 2123198094,
   2123198606, 2123199118, 2123199630, 2123200142, 2123200654, 2123201166, 2123201678, 2123202190, 2123202702,
   2123203214, 2123203726, 2123204238, 2123204750, 2123205262, 2123205774, 2123206286, 2123206798, 2123207310,
   2123207822, 2123208334, 2123208846, 2123209358, 2123209870, 2123210382, 2123210894, 2123211406, 2123211918,
   2123212430, 2123212942, 2123213454, 2123213966, 2123214478, 2123214990, 2123215502, 2123216014, 2123216526,
   2123217038, 2123217550, 2123218062, 2123218574, 2123219086, 2123219598, 2123220110, 2123220622, 2123221134,
   2123221646, 2123222158, 2123222670, 2123223182, 2123223694, 2123224206, 2123224718, 2123225230, 2123225742,
   2123226254, 2123226766, 2123227278, 2123227790, 2123228302, 2123228814, 2123229326, 2123229838, 2123230350,
   2123230862, 2123231374, 2123231886, 2123232398, 2123232910, 2123233422, 2123233934, 2123234446, 2123234958,
   2123235471, 2123235983, 2123236495, 2123237007, 2123237519, 2123238031, 2123238543, 2123239055, 2123239567,
   2123240079, 2123240591, 2123241103, 2123241615, 2123242127, 2123242639, 2123243151, 2123243663, 2123244175,
   2123244687, 2123245199, 2123245711, 2123246223, 2123246735, 2123247247, 2123247759, 2123248271, 2123248783,
   2123249295, 2123249807, 2123250319, 2123250831, 2123251343, 2123251855, 2123252367, 2123252879, 2123253391,
   2123253903, 2123254415, 2123254927, 2123255439, 2123255951, 2123256463, 2123256975, 2123257487, 2123257999,
   2123258511, 2123259023, 2123259535, 2123260047, 2123260559, 2123261071, 2123261583, 2123262095, 2123262607,
   2123263119, 2123263631, 2123264143, 2123264655, 2123265167, 2123265679, 2123266191, 2123266703, 2123267215,
   2123267727, 2123268239, 2123268751, 2123269263, 2123269775, 2123270287, 2123270799, 2123271311, 2123271823,
   2123272335, 2123272847, 2123273359, 2123273871, 2123274383, 2123274895, 2123275407, 2123275919, 2123276431,
   2123276943, 2123277455, 2123277967, 2123278479, 2123278991, 2123279503, 2123280015, 2123280527, 2123281039,
   2123281551, 2123282063, 2123282575, 2123283087, 2123283599, 2123284111, 2123284623, 2123285135, 2123285647,
   2123286159, 2123286671, 2123287183, 2123287695, 2123288207, 2123288719, 2123289231, 2123289743, 2123290255,
   2123290767, 2123291279, 2123291791, 2123292303, 2123292815, 2123293327, 2123293839, 2123294351, 2123294863,
   2123295375, 2123295887, 2123296399, 2123296911, 2123297423, 2123297935, 2123298447, 2123298959, 2123299471,
   2123299983, 2123300495, 2123301008, 2123301520, 2123302032, 2123302544, 2123303056, 2123303568, 2123304080,
   2123304592, 2123305104, 2123305616, 2123306128, 2123306640, 2123307152, 2123307664, 2123308176, 2123308688,
   2123309200, 2123309712, 2123310224, 2123310736, 2123311248, 2123311760, 2123312272, 2123312784, 2123313296,
   2123313808, 2123314320, 2123314832, 2123315344, 2123315856, 2123316368, 2123316880, 2123317392, 2123317904,
   2123318416, 2123318928, 2123319440, 2123319952, 2123320464, 2123320976, 2123321488, 2123322000, 2123322512,
   2123323024, 2123323536, 2123324048, 2123324560, 2123325072, 2123325584, 2123326096, 2123326608, 2123327120,
   2123327632, 2123328144, 2123328656, 2123329168, 2123329680, 2123330192, 2123330704, 2123331216, 2123331728,
   2123332240, 2123332752, 2123333264, 2123333776, 2123334288, 2123334800, 2123335312, 2123335824, 2123336336,
   2123336848, 2123337360, 2123337872, 2123338384, 2123338896, 2123339408, 2123339920, 2123340432, 2123340944,
   2123341456, 2123341968, 2123342480, 2123342992, 2123343504, 2123344016, 2123344528, 2123345040, 2123345552,
   2123346064, 2123346576, 2123347088, 2123347600, 2123348112, 2123348624, 2123349136, 2123349648, 2123350160,
   2123350672, 2123351184, 2123351696, 2123352208, 2123352720, 2123353232, 2123353744, 2123354256, 2123354768,
   2123355280, 2123355792, 2123356304, 2123356816, 2123357328, 2123357840, 2123358352, 2123358864, 2123359376,
   2123359888, 2123360400, 2123360912, 2123361424, 2123361936, 2123362448, 2123362960, 2123363472, 2123363984,
   2123364496, 2123365008, 2123365520, 2123366032, 2123366545]
theorem c24_ok :
    chkList (pipeF 1199570688 65535) 65535 2139095040 49153 1061158977 24577 c24
      51201 1061683273 25601 = true := by decide +kernel
theorem c24_len : 49153 + c24.length = 51201 := (chkList_end c24_ok).1
theorem c24_last : lastS 1061158977 c24 = 1061683273 := (chkList_end c24_ok).2.1

@[irreducible] def c25 : List Nat :=
  [2123367057, 2123367569, 2123368081, 2123368593, 2123369105, 2123369617, 2123370129, 2123370641, 2123371153,
   2123371665, 2123372177, 2123372689, 2123373201, 2123373713, 2123374225, 2123374737, 2123375249, 2123375761,
   2123376273, 2123376785, 2123377297, 2123377809, 2123378321, 2123378833, 2123379345, 2123379857, 2123380369,
   2123380881, 2123381393, 2123381905, 2123382417, 2123382929, 2123383441, 2123383953, 2123384465, 2123384977,
   2123385489, 2123386001, 2123386513, 2123387025, 2123387537, 2123388049, 2123388561, 2123389073, 2123389585,
   2123390097, 2123390609, 2123391121, 2123391633, 2123392145, 2123392657, 2123393169, 2123393681, 2123394193,
   2123394705, 2123395217, 2123395729, 2123396241, 2123396753, 2123397265, 2123397777, 2123398289, 2123398801,
   2123399313, 2123399825, 2123400337, 2123400849, 2123401361, 2123401873, 2123402385, 2123402897, 2123403409,
   2123403921, 2123404433, 2123404945, 2123405457, 2123405969, 2123406481, 2123406993, 2123407505, 2123408017,
   2123408529, 2123409041, 2123409553, 2123410065, 2123410577, 2123411089, 2123411601, 2123412113, 2123412625,
   2123413137, 2123413649, 2123414161, 2123414673, 2123415185, 2123415697, 2123416209, 2123416721, 2123417233,
   2123417745, 2123418257, 2123418769, 2123419281, 2123419793, 2123420305, 2123420817, 2123421329, 2123421841,
   2123422353, 2123422865, 2123423377, 2123423889, 2123424401, 2123424913, 2123425425, 2123425937, 2123426449,
   2123426961, 2123427473, 2123427985, 2123428497, 2123429009, 2123429521, 2123430033, 2123430545, 2123431057,
   2123431569, 2123432082, 2123432594, 2123433106, 2123433618, 2123434130, 2123434642, 2123435154, 2123435666,
   2123436178, 2123436690, 2123437202, 2123437714, 2123438226, 2123438738, 2123439250, 2123439762, 2123440274,
   2123440786, 2123441298, 2123441810, 2123442322, 2123442834, 2123443346, 2123443858, 2123444370, 2123444882,
   2123445394, 2123445906, 2123446418, 2123446930, 2123447442, 2123447954, 2123448466, 2123448978, 2123449490,
   2123450002, 2123450514, 2123451026, 2123451538, 2123452050, 2123452562, 2123453074, 2123453586, 2123454098,
   2123454610, 2123455122, 2123455634, 2123456146, 2123456658, 2123457170, 2123457682, 2123458194, 2123458706,
   2123459218, 2123459730, 2123460242, 2123460754, 2123461266, 2123461778, 2123462290, 2123462802, 2123463314,
   2123463826, 2123464338, 2123464850, 2123465362, 2123465874, 2123466386, 2123466898, 2123467410, 2123467922,
   2123468434, 2123468946, 2123469458, 2123469970, 2123470482, 2123470994, 2123471506, 2123472018, 2123472530,
   2123473042, 2123473554, 2123474066, 2123474578, 2123475090, 2123475602, 2123476114, 2123476626, 2123477138,
   2123477650, 2123478162, 2123478674, 2123479186, 2123479698, 2123480210, 2123480722, 2123481234, 2123481746,
   2123482258, 2123482770, 2123483282, 2123483794, 2123484306, 2123484818, 2123485330, 2123485842, 2123486354,
   2123486866, 2123487378, 2123487890, 2123488402, 2123488914, 2123489426, 2123489938, 2123490450, 2123490962,
   2123491474, 2123491986, 2123492498, 2123493010, 2123493522, 2123494034, 2123494546, 2123495058, 2123495570,
   2123496082, 2123496594, 2123497106, 2123497619, 2123498131, 2123498643, 2123499155, 2123499667, 2123500179,
   2123500691, 2123501203, 2123501715, 2123502227, 2123502739, 2123503251, 2123503763, 2123504275, 2123504787,
   2123505299, 2123505811, 2123506323, 2123506835, 2123507347, 2123507859, 2123508371, 2123508883, 2123509395,
   2123509907, 2123510419, 2123510931, 2123511443, 2123511955, 2123512467, 2123512979, 2123513491, 2123514003,
   2123514515, 2123515027, 2123515539, 2123516051, 2123516563, 2123517075, 2123517587, 2123518099, 2123518611,
   2123519123, 2123519635, 2123520147, 2123520659, 2123521171, 2123521683, 2123522195, 2123522707, 2123523219,
   2123523731, 2123524243, 2123524755, 2123525267, 2123525779, 2123526291, 2123526803, 2123527315, 2123527827,
   2123528339, 2123528851, 2123529363, 2123529875, 2123530387, 2123530899, 2123531411, 2123531923, 2123532435,
   2123532947, 2123533459, 2123533971, 2123534483, 2123534995, 2123535507, 2123536019, 2123536531, 2123537043,
   2123537555, 2123538067, 2123538579, 2123539091, 2123539603, 2123540115, 2123540627, 2123541139, 2123541651,
   2123542163, 2123542675, 2123543187, 2123543699, 2123544211, 2123544723, 2123545235, 2123545747, 2123546259,
   2123546771, 2123547283, 2123547795, 2123548307, 2123548819, 2123549331, 2123549843, 2123550355, 2123550867,
   2123551379, 2123551891, 2123552403, 2123552915, 2123553427, 2123553939, 2123554451, 2123554963, 2123555475,
   2123555987, 2123556499, 2123557011, 2123557523, 2123558035, 2123558547, 2123559059, 2123559571, 2123560083,
   2123560595, 2123561107, 2123561619, 2123562131, 2123562643, 2123563156, 2123563668, 2123564180, 2123564692,
   2123565204, 2123565716, 2123566228, 2123566740, 2123567252, 2123567764, 2123568276, 2123568788, 2123569300,
   2123569812, 2123570324, 2123570836, 2123571348, 2123571860, 2123572372, 2123572884, 2123573396, 2123573908,
   2123574420, 2123574932, 2123575444, 2123575956, 2123576468, 2123576980, 2123577492, 2123578004, 2123578516,
   2123579028, 2123579540, 2123580052, 2123580564, 2123581076, 2123581588, 2123582100, 2123582612, 2123583124,
   2123583636, 2123584148, 2123584660, 2123585172, 2123585684, 2123586196, 2123586708, 2123587220, 2123587732,
   2123588244, 2123588756, 2123589268, 2123589780, 2123590292, 2123590804, 2123591316, 2123591828, 2123592340,
   2123592852, 2123593364, 2123593876, 2123594388, 2123594900, 2123595412, 2123595924, 2123596436, 2123596948,
   2123597460, 2123597972, 2123598484, 2123598996, 2123599508, 2123600020, 2123600532, 2123601044, 2123601556,
   2123602068, 2123602580, 2123603092, 2123603604, 2123604116, 2123604628, 2123605140, 2123605652, 2123606164,
   2123606676, 2123607188, 2123607700, 2123608212, 2123608724, 2123609236, 2123609748, 2123610260, 2123610772,
   2123611284, 2123611796, 2123612308, 2123612820, 2123613332, 2123613844, 2123614356, 2123614868, 2123615380,
   2123615892, 2123616404, 2123616916, 2123617428, 2123617940, 2123618452, 2123618964, 2123619476, 2123619988,
   2123620500, 2123621012, 2123621524, 2123622036, 2123622548, 2123623060, 2123623572, 2123624084, 2123624596,
   2123625108, 2123625620, 2123626132, 2123626644, 2123627156, 2123627668, 2123628180, 2123628693, 2123629205,
   2123629717, 2123630229, 2123630741, 2123631253, 2123631765, 2123632277, 2123632789, 2123633301, 2123633813,
   2123634325, 2123634837, 2123635349, 2123635861, 2123636373, 2123636885, 2123637397, 2123637909, 2123638421,
   2123638933, 2123639445, 2123639957, 2123640469, 2123640981, 2123641493, 2123642005, 2123642517, 2123643029,
   2123643541, 2123644053, 2123644565, 2123645077, 2123645589, 2123646101, 2123646613, 2123647125, 2123647637,
   2123648149, 2123648661, 2123649173, 2123649685, 2123650197, 2123650709, 2123651221, 2123651733, 2123652245,
   2123652757, 2123653269, 2123653781, 2123654293, 2123654805, 2123655317, 2123655829, 2123656341, 2123656853,
   2123657365, 2123657877, 2123658389, 2123658901, 2123659413, 2123659925, 2123660437, 2123660949, 2123661461,
   2123661973, 2123662485, 2123662997, 2123663509, 2123664021, 2123664533, 2123665045, 2123665557, 2123666069,
   2123666581, 2123667093, 2123667605, 2123668117, 2123668629, 2123669141, 2123669653, 2123670165, 2123670677,
   2123671189, 2123671701, 2123672213, 2123672725, 2123673237, 2123673749, 2123674261, 2123674773, 2123675285,
   2123675797, 2123676309, 2123676821, 2123677333, 2123677845, 2123678357, 2123678869, 2123679381, 2123679893,
   2123680405, 2123680917, 2123681429, 2123681941, 2123682453, 2123682965, 2123683477, 2123683989, 2123684501,
   2123685013, 2123685525, 2123686037, 2123686549, 2123687061, 2123687573, 2123688085, 2123688597, 2123689109,
   2123689621, 2123690133, 2123690645, 2123691157, 2123691669, 2123692181, 2123692693, 2123693205, 2123693717,
   2123694230, 2123694742, 2123695254, 2123695766, 2123696278, 2123696790, 2123697302, 2123697814, 2123698326,
   2123698838, 2123699350, 2123699862, 2123700374, 2123700886, 2123701398, 2123701910, 2123702422, 2123702934,
   2123703446, 2123703958, 2123704470, 2123704982, 2123705494, 2123706006, 2123706518, 2123707030, 2123707542,
   2123708054, 2123708566, 2123709078, 2123709590, 2123710102, 2123710614, 2123711126, 2123711638, 2123712150,
   2123712662, 2123713174, 2123713686, 2123714198, 2123714710, 2123715222, 2123715734, 2123716246, 2123716758,
   2123717270, 2123717782, 2123718294, 2123718806, 2123719318, 2123719830, 2123720342, 2123720854, 2123721366,
   2123721878, 2123722390, 2123722902, 2123723414, 2123723926, 2123724438, 2123724950, 2123725462, 2123725974,
   2123726486, 2123726998, 2123727510, 2123728022, 2123728534, 2123729046, 2123729558, 2123730070, 2123730582,
   2123731094, 2123731606, 2123732118, 2123732630, 2123733142, 2123733654, 2123734166, 2123734678, 2123735190,
   2123735702, 2123736214, 2123736726, 2123737238, 2123737750, 2123738262, 2123738774, 2123739286, 2123739798,
   2123740310, 2123740822, 2123741334, 2123741846, 2123742358, 2123742870, 2123743382, 2123743894, 2123744406,
   2123744918, 2123745430, 2123745942, 2123746454, 2123746966, 2123747478, 2123747990, 2123748502, 2123749014,
   2123749526, 2123750038, 2123750550, 2123751062, 2123751574, 2123752086, 2123752598, 2123753110, 2123753622,
   2123754134, 2123754646, 2123755158, 2123755670, 2123756182, 2123756694, 2123757206, 2123757718, 2123758230,
   2123758742, 2123759254, 2123759767, 2123760279, 2123760791, 2123761303, 2123761815, 2123762327, 2123762839,
   2123763351, 2123763863, 2123764375, 2123764887, 2123765399, 2123765911, 2123766423, 2123766935, 2123767447,
   2123767959, 2123768471, 2123768983, 2123769495, 2123770007, 2123770519, 2123771031, 2123771543, 2123772055,
   2123772567, 2123773079, 2123773591, 2123774103, 2123774615, 2123775127, 2123775639, 2123776151, 2123776663,
   2123777175, 2123777687, 2123778199, 2123778711, 2123779223, 2123779735, 2123780247, 2123780759, 2123781271,
   2123781783, 2123782295, 2123782807, 2123783319, 2123783831, 2123784343, 2123784855, 2123785367, 2123785879,
   2123786391, 2123786903, 2123787415, 2123787927, 2123788439, 2123788951, 2123789463, 2123789975, 2123790487,
   2123790999, 2123791511, 2123792023, 2123792535, 2123793047, 2123793559, 2123794071, 2123794583, 2123795095,
   2123795607, 2123796119, 2123796631, 2123797143, 2123797655, 2123798167, 2123798679, 2123799191, 2123799703,
   2123800215, 2123800727, 2123801239, 2123801751, 2123802263, 2123802775, 2123803287, 2123803799, 2123804311,
   2123804823, 2123805335, 2123805847, 2123806359, 2123806871, 2123807383, 2123807895, 2123808407, 2123808919,
   2123809431, 2123809943, 2123810455, 2123810967, 2123811479, 2123811991, 2123812503, 2123813015, 2123813527,
   2123814039, 2123814551, 2123815063, 2123815575, 2123816087, 2123816599, 2123817111, 2123817623, 2123818135,
   2123818647, 2123819159, 2123819671, 2123820183, 2123820695, 2123821207, 2123821719, 2123822231, 2123822743,
   2123823255, 2123823767, 2123824279, 2123824791, 2123825304, 2123825816, 2123826328, 2123826840, 2123827352,
   2123827864, 2123828376, 2123828888, 2123829400, 2123829912, 2123830424, 2123830936, 2123831448, 2123831960,
   2123832472, 2123832984, 2123833496, 2123834008, 2123834520, 2123835032, 2123835544, 2123836056, 2123836568,
   2123837080, 2123837592, 2123838104, 2123838616, 2123839128, 2123839640, 2123840152, 2123840664, 2123841176,
   2123841688, 2123842200, 2123842712, 2123843224, 2123843736, 2123844248, 2123844760, 2123845272, 2123845784,
   2123846296, 2123846808, 2123847320, 2123847832, 2123848344, 2123848856, 2123849368, 2123849880, 2123850392,
   2123850904, 2123851416, 2123851928, 2123852440, 2123852952, 2123853464, 2123853976, 2123854488, 2123855000,
   2123855512, 2123856024, 2123856536, 2123857048, 2123857560, 2123858072, 2123858584, 2123859096, 2123859608,
   2123860120, 2123860632, 2123861144, 2123861656, 2123862168, 2123862680, 2123863192, 2123863704, 2123864216,
   2123864728, 2123865240, 2123865752, 2123866264, 2123866776, 2123867288, 2123867800, 2123868312, 2123868824,
   2123869336, 2123869848, 2123870360, 2123870872, 2123871384, 2123871896, 2123872408, 2123872920, 2123873432,
   2123873944, 2123874456, 2123874968, 2123875480, 2123875992, 2123876504, 2123877016, 2123877528, 2123878040,
   2123878552, 2123879064, 2123879576, 2123880088, 2123880600, 2123881112, 2123881624, 2123882136, 2123882648,
   2123883160, 2123883672, 2123884184, 2123884696, 2123885208, 2123885720, 2123886232, 2123886744, 2123887256,
   2123887768, 2123888280, 2123888792, 2123889304, 2123889816, 2123890328, 2123890841, 2123891353, 2123891865,
   2123892377, 2123892889, 2123893401, 2123893913, 2123894425, 2123894937, 2123895449, 2123895961, 2123896473,
   2123896985, 2123897497, 2123898009, 2123898521, 2123899033, 2123899545, 2123900057, 2123900569, 2123901081,
   2123901593, 2123902105, 2123902617, 2123903129, 2123903641, 2123904153, 2123904665, 2123905177, 2123905689,
   2123906201, 2123906713, 2123907225, 2123907737, 2123908249, 2123908761, 2123909273, 2123909785, 2123910297,
   2123910809, 2123911321, 2123911833, 2123912345, 2123912857, 2123913369, 2123913881, 2123914393, 2123914905,
   2123915417, 2123915929, 2123916441, 2123916953, 2123917465, 2123917977, 2123918489, 2123919001, 2123919513,
   2123920025, 2123920537, 2123921049, 2123921561, 2123922073, 2123922585, 2123923097, 2123923609, 2123924121,
   2123924633, 2123925145, 2123925657, 2123926169, 2123926681, 2123927193, 2123927705, 2123928217, 2123928729,
   2123929241, 2123929753, 2123930265, 2123930777, 2123931289, 2123931801, 2123932313, 2123932825, 2123933337,
   2123933849, 2123934361, 2123934873, 2123935385, 2123935897, 2123936409, 2123936921, 2123937433, 2123937945,
   2123938457, 2123938969, 2123939481, 2123939993, 2123940505, 2123941017, 2123941529, 2123942041, 2123942553,
   2123943065, 2123943577, 2123944089, 2123944601, 2123945113, 2123945625, 2123946137, 2123946649, 2123947161,
   2123947673, 2123948185, 2123948697, 2123949209, 2123949721, 2123950233, 2123950745, 2123951257, 2123951769,
   2123952281, 2123952793, 2123953305, 2123953817, 2123954329, 2123954841, 2123955353, 2123955865, 2123956378,
   2123956890, 2123957402, 2123957914, 2123958426, 2123958938, 2123959450, 2123959962, 2123960474, 2123960986,
   2123961498, 2123962010, 2123962522, 2123963034, 2123963546, 2123964058, 2123964570, 2123965082, 2123965594,
   2123966106, 2123966618, 2123967130, 2123967642, 2123968154, 2123968666, 2123969178, 2123969690, 2123970202,
   2123970714, 2123971226, 2123971738, 2123972250, 2123972762, 2123973274, 2123973786, 2123974298, 2123974810,
   2123975322, 2123975834, 2123976346, 2123976858, 2123977370, 2123977882, 2123978394, 2123978906, 2123979418,
   2123979930, 2123980442, 2123980954, 2123981466, 2123981978, 2123982490, 2123983002, 2123983514, 2123984026,
   2123984538, 2123985050, 2123985562, 2123986074, 2123986586, 2123987098, 2123987610, 2123988122, 2123988634,
   2123989146, 2123989658, 2123990170, 2123990682, 2123991194, 2123991706, 2123992218, 2123992730, 2123993242,
   2123993754, 2123994266, 2123994778, 2123995290, 2123995802, 2123996314, 2123996826, 2123997338, 2123997850,
   2123998362, 2123998874, 2123999386, 2123999898, 2124000410, 2124000922, 2124001434, 2124001946, 2124002458,
   2124002970, 2124003482, 2124003994, 2124004506, 2124005018, 2124005530, 2124006042, 2124006554, 2124007066,
   2124007578, 2124008090, 2124008602, 2124009114, 2124009626, 2124010138, 2124010650, 2124011162, 2124011674,
   2124012186, 2124012698, 2124013210, 2124013722, 2124014234, 2124014746, 2124015258, 2124015770, 2124016282,
   2124016794, 2124017306, 2124017818, 2124018330, 2124018842, 2124019354, 2124019866, 2124020378, 2124020890,
   2124021402, 2124021915, 2124022427, 2124022939, 2124023451, 2124023963, 2124024475, 2124024987, 2124025499,
   2124026011, 2124026523, 2124027035, 2124027547, 2124028059, 2124028571, 2124029083, 2124029595, 2124030107,
   2124030619, 2124031131, 2124031643, 2124032155, 2124032667, 2124033179, 2124033691, 2124034203, 2124034715,
   2124035227, 2124035739, 2124036251, 2124036763, 2124037275, 2124037787, 2124038299, 2124038811, 2124039323,
   2124039835, 2124040347, 2124040859, 2124041371, 2124041883, 2124042395, 2124042907, 2124043419, 2124043931,
   2124044443, 2124044955, 2124045467, 2124045979, 2124046491, 2124047003, 2124047515, 2124048027, 2124048539,
   2124049051, 2124049563, 2124050075, 2124050587, 2124051099, 2124051611, 2124052123, 2124052635, 2124053147,
   2124053659, 2124054171, 2124054683, 2124055195, 2124055707, 2124056219, 2124056731, 2124057243, 2124057755,
   2124058267, 2124058779, 2124059291, 2124059803, 2124060315, 2124060827, 2124061339, 2124061851, 2124062363,
   2124062875, 2124063387, 2124063899, 2124064411, 2124064923, 2124065435, 2124065947, 2124066459, 2124066971,
   2124067483, 2124067995, 2124068507, 2124069019, 2124069531, 2124070043, 2124070555, 2124071067, 2124071579,
   2124072091, 2124072603, 2124073115, 2124073627, 2124074139, 2124074651, 2124075163, 2124075675, 2124076187,
   2124076699, 2124077211, 2124077723, 2124078235, 2124078747, 2124079259, 2124079771, 2124080283, 2124080795,
   2124081307, 2124081819, 2124082331, 2124082843, 2124083355, 2124083867, 2124084379, 2124084891, 2124085403,
   2124085915, 2124086427, 2124086939, 2124087452, 2124087964, 2124088476, 2124088988, 2124089500, 2124090012,
   2124090524, 2124091036, 2124091548, 2124092060, 2124092572, 2124093084, 2124093596, 2124094108, 2124094620,
   2124095132, 2124095644, 2124096156, 2124096668, 2124097180, 2124097692, 2124098204, 2124098716, 2124099228,
   2124099740, 2124100252, 2124100764, 2124101276, 2124101788, 2124102300, 2124102812, 2124103324, 2124103836,
   2124104348, 2124104860, 2124105372, 2124105884, 2124106396, 2124106908, 2124107420, 2124107932, 2124108444,
   2124108956, 2124109468, 2124109980, 2124110492, 2124111004, 2124111516, 2124112028, 2124112540, 2124113052,
   2124113564, 2124114076, 2124114588, 2124115100, 2124115612, 2124116124, 2124116636, 2124117148, 2124117660,
   2124118172, 2124118684, 2124119196, 2124119708, 2124120220, 2124120732, 2124121244, 2124121756, 2124122268,
   2124122780, 2124123292, 2124123804, 2124124316, 2124124828, 2124125340, 2124125852, 2124126364, 2124126876,
   2124127388, 2124127900, 2124128412, 2124128924, 2124129436, 2124129948, 2124130460, 2124130972, 2124131484,
   2124131996, 2124132508, 2124133020, 2124133532, 2124134044, 2124134556, 2124135068, 2124135580, 2124136092,
   2124136604, 2124137116, 2124137628, 2124138140, 2124138652, 2124139164, 2124139676, 2124140188, 2124140700,
   2124141212, 2124141724, 2124142236, 2124142748, 2124143260, 2124143772, 2124144284, 2124144796, 2124145308,
   2124145820, 2124146332, 2124146844, 2124147356, 2124147868, 2124148380, 2124148892, 2124149404, 2124149916,
   2124150428, 2124150940, 2124151452, 2124151964, 2124152476, 2124152989, 2124153501, 2124154013, 2124154525,
   2124155037, 2124155549, 2124156061, 2124156573, 2124157085, 2124157597, 2124158109, 2124158621, 2124159133,
   2124159645, 2124160157, 2124160669, 2124161181, 2124161693, 2124162205, 2124162717, 2124163229, 2124163741,
   2124164253, 2124164765, 2124165277, 2124165789, 2124166301, 2124166813, 2124167325, 2124167837, 2124168349,
   2124168861, 2124169373, 2124169885, 2124170397, 2124170909, 2124171421, 2124171933, 2124172445, 2124172957,
   2124173469, 2124173981, 2124174493, 2124175005, 2124175517, 2124176029, 2124176541, 2124177053, 2124177565,
   2124178077, 2124178589, 2124179101, 2124179613, 2124180125, 2124180637, 2124181149, 2124181661, 2124182173,
   2124182685, 2124183197, 2124183709, 2124184221, 2124184733, 2124185245, 2124185757, 2124186269, 2124186781,
   2124187293, 2124187805, 2124188317, 2124188829, 2124189341, 2124189853, 2124190365, 2124190877, 2124191389,
   2124191901, 2124192413, 2124192925, 2124193437, 2124193949, 2124194461, 2124194973, 2124195485, 2124195997,
   2124196509, 2124197021, 2124197533, 2124198045, 2124198557, 2124199069, 2124199581, 2124200093, 2124200605,
   2124201117, 2124201629, 2124202141, 2124202653, 2124203165, 2124203677, 2124204189, 2124204701, 2124205213,
   2124205725, 2124206237, 2124206749, 2124207261, 2124207773, 2124208285, 2124208797, 2124209309, 2124209821,
   2124210333, 2124210845, 2124211357, 2124211869, 2124212381, 2124212893, 2124213405, 2124213917, 2124214429,
   2124214941, 2124215453, 2124215965, 2124216477, 2124216989, 2124217501, 2124218013, 2124218526, 2124219038,
   2124219550, 2124220062, 2124220574, 2124221086, 2124221598, 2124222110, 2124222622, 2124223134, 2124223646,
   2124224158, 2124224670, 2124225182, 2124225694, 2124226206, 2124226718, 2124227230, 2124227742, 2124228254,
   2124228766, 2124229278, 2124229790, 2124230302, 2124230814, 2124231326, 2124231838, 2124232350, 2124232862,
   2124233374, 2124233886, 2124234398, 2124234910, 2124235422, 2124235934, 2124236446, 2124236958, 2124237470,
   2124237982, 2124238494, 2124239006, 2124239518, 2124240030, 2124240542, 2124241054, 2124241566, 2124242078,
   2124242590, 2124243102, 2124243614, 2124244126, 2124244638, 2124245150, 2124245662, 2124246174, 2124246686,
   2124247198, 2124247710, 2124248222, 2124248734, 2124249246, 2124249758, 2124250270, 2124250782, 2124251294,
   2124251806, 2124252318, 2124252830, 2124253342, 2124253854, 2124254366, 2124254878, 2124255390, 2124255902,
   2124256414, 2124256926, 2124257438, 2124257950, 2124258462, 2124258974, 2124259486, 2124259998, 2124260510,
   2124261022, 2124261534, 2124262046, 2124262558, 2124263070, 2124263582, 2124264094, 2124264606, 2124265118,
   2124265630, 2124266142, 2124266654, 2124267166, 2124267678, 2124268190, 2124268702, 2124269214, 2124269726,
   2124270238, 2124270750, 2124271262, 2124271774, 2124272286, 2124272798, 2124273310, 2124273822, 2124274334,
   2124274846, 2124275358, 2124275870, 2124276382, 2124276894, 2124277406, 2124277918, 2124278430, 2124278942,
   2124279454, 2124279966, 2124280478, 2124280990, 2124281502, 2124282014, 2124282526, 2124283038, 2124283550,
   2124284063, 2124284575, 2124285087, 2124285599, 2124286111, 2124286623, 2124287135, 2124287647, 2124288159,
   2124288671, 2124289183, 2124289695, 2124290207, 2124290719, 2124291231, 2124291743, 2124292255, 2124292767,
   2124293279, 2124293791, 2124294303, 2124294815, 2124295327, 2124295839, 2124296351, 2124296863, 2124297375,
   2124297887, 2124298399, 2124298911, 2124299423, 2124299935, 2124300447, 2124300959, 2124301471, 2124301983,
   2124302495, 2124303007, 2124303519, 2124304031, 2124304543, 2124305055, 2124305567, 2124306079, 2124306591,
   2124307103, 2124307615, 2124308127, 2124308639, 2124309151, 2124309663, 2124310175, 2124310687, 2124311199,
   2124311711, 2124312223, 2124312735, 2124313247, 2124313759, 2124314271, 2124314783, 2124315295, 2124315807,
   2124316319, 2124316831, 2124317343, 2124317855, 2124318367, 2124318879, 2124319391, 2124319903, 2124320415,
   2124320927, 2124321439, 2124321951, 2124322463, 2124322975, 2124323487, 2124323999, 2124324511, 2124325023,
   2124325535, 2124326047, 2124326559, 2124327071, 2124327583, 2124328095, 2124328607, 2124329119, 2124329631,
   2124330143, 2124330655, 2124331167, 2124331679, 2124332191, 2124332703, 2124333215, 2124333727, 2124334239,
   2124334751, 2124335263, 2124335775, 2124336287, 2124336799, 2124337311, 2124337823, 2124338335, 2124338847,
   2124339359, 2124339871, 2124340383, 2124340895, 2124341407, 2124341919, 2124342431, 2124342943, 2124343455,
   2124343967, 2124344479, 2124344991, 2124345503, 2124346015, 2124346527, 2124347039, 2124347551, 2124348063,
   2124348575, 2124349087, 2124349600, 2124350112, 2124350624, 2124351136, 2124351648, 2124352160, 2124352672,
   2124353184, 2124353696, 2124354208, 2124354720, 2124355232, 2124355744, 2124356256, 2124356768, 2124357280,
   2124357792, 2124358304, 2124358816, 2124359328, 2124359840, 2124360352, 2124360864, 2124361376, 2124361888,
   2124362400, 2124362912, 2124363424, 2124363936, 2124364448, 2124364960, 2124365472, 2124365984, 2124366496,
   2124367008, 2124367520, 2124368032, 2124368544, 2124369056, 2124369568, 2124370080, 2124370592, 2124371104,
   2124371616, 2124372128, 2124372640, 2124373152, 2124373664, 2124374176, 2124374688, 2124375200, 2124375712,
   2124376224, 2124376736, 2124377248, 2124377760, 2124378272, 2124378784, 2124379296, 2124379808, 2124380320,
   2124380832, 2124381344, 2124381856, 2124382368, 2124382880, 2124383392, 2124383904, 2124384416, 2124384928,
   2124385440, 2124385952, 2124386464, 2124386976, 2124387488, 2124388000, 2124388512, 2124389024, 2124389536,
   2124390048, 2124390560, 2124391072, 2124391584, 2124392096, 2124392608, 2124393120, 2124393632, 2124394144,
   2124394656, 2124395168, 2124395680, 2124396192, 2124396704, 2124397216, 2124397728, 2124398240, 2124398752,
   2124399264, 2124399776, 2124400288, 2124400800, 2124401312, 2124401824, 2124402336, 2124402848, 2124403360,
   2124403872, 2124404384, 2124404896, 2124405408, 2124405920, 2124406432, 2124406944, 2124407456, 2124407968,
   2124408480, 2124408992, 2124409504, 2124410016, 2124410528, 2124411040, 2124411552, 2124412064, 2124412576,
   2124413088, 2124413600, 2124414112, 2124414624, 2124415137]
theorem c25_ok :
    chkList (pipeF 1199570688 65535) 65535 2139095040 51201 1061683273 25601 c25
      53249 1062207569 26625 = true := by decide +kernel
theorem c25_len : 51201 + c25.length = 53249 := (chkList_end c25_ok).1
theorem c25_last : lastS 1061683273 c25 = 1062207569 := (chkList_end c25_ok).2.1

@[irreducible] def c26 : List Nat :=
  [2124415649, 2124416161, 2124416673, 2124417185, 2124417697, 2124418209, 2124418721, 2124419233, 2124419745,
   2124420257, 2124420769, 2124421281, 2124421793, 2124422305, 2124422817, 2124423329, 2124423841, 2124424353,
   2124424865, 2124425377, 2124425889, 2124426401, 2124426913, 2124427425, 2124427937, 2124428449, 2124428961,
   2124429473, 2124429985, 2124430497, 2124431009, 2124431521, 2124432033, 2124432545, 2124433057, 2124433569,
   2124434081, 2124434593, 2124435105, 2124435617, 2124436129, 2124436641, 2124437153, 2124437665, 2124438177,
   2124438689, 2124439201, 2124439713, 2124440225, 2124440737, 2124441249, 2124441761, 2124442273, 2124442785,
   2124443297, 2124443809, 2124444321, 2124444833, 2124445345, 2124445857, 2124446369, 2124446881, 2124447393,
   2124447905, 2124448417, 2124448929, 2124449441, 2124449953, 2124450465, 2124450977, 2124451489, 2124452001,
   2124452513, 2124453025, 2124453537, 2124454049, 2124454561, 2124455073, 2124455585, 2124456097, 2124456609,
   2124457121, 2124457633, 2124458145, 2124458657, 2124459169, 2124459681, 2124460193, 2124460705, 2124461217,
   2124461729, 2124462241, 2124462753, 2124463265, 2124463777, 2124464289, 2124464801, 2124465313, 2124465825,
   2124466337, 2124466849, 2124467361, 2124467873, 2124468385, 2124468897, 2124469409, 2124469921, 2124470433,
   2124470945, 2124471457, 2124471969, 2124472481, 2124472993, 2124473505, 2124474017, 2124474529, 2124475041,
   2124475553, 2124476065, 2124476577, 2124477089, 2124477601, 2124478113, 2124478625, 2124479137, 2124479649,
   2124480161, 2124480674, 2124481186, 2124481698, 2124482210, 2124482722, 2124483234, 2124483746, 2124484258,
   2124484770, 2124485282, 2124485794, 2124486306, 2124486818, 2124487330, 2124487842, 2124488354, 2124488866,
   2124489378, 2124489890, 2124490402, 2124490914, 2124491426, 2124491938, 2124492450, 2124492962, 2124493474,
   2124493986, 2124494498, 2124495010, 2124495522, 2124496034, 2124496546, 2124497058, 2124497570, 2124498082,
   2124498594, 2124499106, 2124499618, 2124500130, 2124500642, 2124501154, 2124501666, 2124502178, 2124502690,
   2124503202, 2124503714, 2124504226, 2124504738, 2124505250, 2124505762, 2124506274, 2124506786, 2124507298,
   2124507810, 2124508322, 2124508834, 2124509346, 2124509858, 2124510370, 2124510882, 2124511394, 2124511906,
   2124512418, 2124512930, 2124513442, 2124513954, 2124514466, 2124514978, 2124515490, 2124516002, 2124516514,
   2124517026, 2124517538, 2124518050, 2124518562, 2124519074, 2124519586, 2124520098, 2124520610, 2124521122,
   2124521634, 2124522146, 2124522658, 2124523170, 2124523682, 2124524194, 2124524706, 2124525218, 2124525730,
   2124526242, 2124526754, 2124527266, 2124527778, 2124528290, 2124528802, 2124529314, 2124529826, 2124530338,
   2124530850, 2124531362, 2124531874, 2124532386, 2124532898, 2124533410, 2124533922, 2124534434, 2124534946,
   2124535458, 2124535970, 2124536482, 2124536994, 2124537506, 2124538018, 2124538530, 2124539042, 2124539554,
   2124540066, 2124540578, 2124541090, 2124541602, 2124542114, 2124542626, 2124543138, 2124543650, 2124544162,
   2124544674, 2124545186, 2124545698, 2124546211, 2124546723, 2124547235, 2124547747, 2124548259, 2124548771,
   2124549283, 2124549795, 2124550307, 2124550819, 2124551331, 2124551843, 2124552355, 2124552867, 2124553379,
   2124553891, 2124554403, 2124554915, 2124555427, 2124555939, 2124556451, 2124556963, 2124557475, 2124557987,
   2124558499, 2124559011, 2124559523, 2124560035, 2124560547, 2124561059, 2124561571, 2124562083, 2124562595,
   2124563107, 2124563619, 2124564131, 2124564643, 2124565155, 2124565667, 2124566179, 2124566691, 2124567203,
   2124567715, 2124568227, 2124568739, 2124569251, 2124569763, 2124570275, 2124570787, 2124571299, 2124571811,
   2124572323, 2124572835, 2124573347, 2124573859, 2124574371, 2124574883, 2124575395, 2124575907, 2124576419,
   2124576931, 2124577443, 2124577955, 2124578467, 2124578979, 2124579491, 2124580003, 2124580515, 2124581027,
   2124581539, 2124582051, 2124582563, 2124583075, 2124583587, 2124584099, 2124584611, 2124585123, 2124585635,
   2124586147, 2124586659, 2124587171, 2124587683, 2124588195, 2124588707, 2124589219, 2124589731, 2124590243,
   2124590755, 2124591267, 2124591779, 2124592291, 2124592803, 2124593315, 2124593827, 2124594339, 2124594851,
   2124595363, 2124595875, 2124596387, 2124596899, 2124597411, 2124597923, 2124598435, 2124598947, 2124599459,
   2124599971, 2124600483, 2124600995, 2124601507, 2124602019, 2124602531, 2124603043, 2124603555, 2124604067,
   2124604579, 2124605091, 2124605603, 2124606115, 2124606627, 2124607139, 2124607651, 2124608163, 2124608675,
   2124609187, 2124609699, 2124610211, 2124610723, 2124611235, 2124611748, 2124612260, 2124612772, 2124613284,
   2124613796, 2124614308, 2124614820, 2124615332, 2124615844, 2124616356, 2124616868, 2124617380, 2124617892,
   2124618404, 2124618916, 2124619428, 2124619940, 2124620452, 2124620964, 2124621476, 2124621988, 2124622500,
   2124623012, 2124623524, 2124624036, 2124624548, 2124625060, 2124625572, 2124626084, 2124626596, 2124627108,
   2124627620, 2124628132, 2124628644, 2124629156, 2124629668, 2124630180, 2124630692, 2124631204, 2124631716,
   2124632228, 2124632740, 2124633252, 2124633764, 2124634276, 2124634788, 2124635300, 2124635812, 2124636324,
   2124636836, 2124637348, 2124637860, 2124638372, 2124638884, 2124639396, 2124639908, 2124640420, 2124640932,
   2124641444, 2124641956, 2124642468, 2124642980, 2124643492, 2124644004, 2124644516, 2124645028, 2124645540,
   2124646052, 2124646564, 2124647076, 2124647588, 2124648100, 2124648612, 2124649124, 2124649636, 2124650148,
   2124650660, 2124651172, 2124651684, 2124652196, 2124652708, 2124653220, 2124653732, 2124654244, 2124654756,
   2124655268, 2124655780, 2124656292, 2124656804, 2124657316, 2124657828, 2124658340, 2124658852, 2124659364,
   2124659876, 2124660388, 2124660900, 2124661412, 2124661924, 2124662436, 2124662948, 2124663460, 2124663972,
   2124664484, 2124664996, 2124665508, 2124666020, 2124666532, 2124667044, 2124667556, 2124668068, 2124668580,
   2124669092, 2124669604, 2124670116, 2124670628, 2124671140, 2124671652, 2124672164, 2124672676, 2124673188,
   2124673700, 2124674212, 2124674724, 2124675236, 2124675748, 2124676260, 2124676772, 2124677285, 2124677797,
   2124678309, 2124678821, 2124679333, 2124679845, 2124680357, 2124680869, 2124681381, 2124681893, 2124682405,
   2124682917, 2124683429, 2124683941, 2124684453, 2124684965, 2124685477, 2124685989, 2124686501, 2124687013,
   2124687525, 2124688037, 2124688549, 2124689061, 2124689573, 2124690085, 2124690597, 2124691109, 2124691621,
   2124692133, 2124692645, 2124693157, 2124693669, 2124694181, 2124694693, 2124695205, 2124695717, 2124696229,
   2124696741, 2124697253, 2124697765, 2124698277, 2124698789, 2124699301, 2124699813, 2124700325, 2124700837,
   2124701349, 2124701861, 2124702373, 2124702885, 2124703397, 2124703909, 2124704421, 2124704933, 2124705445,
   2124705957, 2124706469, 2124706981, 2124707493, 2124708005, 2124708517, 2124709029, 2124709541, 2124710053,
   2124710565, 2124711077, 2124711589, 2124712101, 2124712613, 2124713125, 2124713637, 2124714149, 2124714661,
   2124715173, 2124715685, 2124716197, 2124716709, 2124717221, 2124717733, 2124718245, 2124718757, 2124719269,
   2124719781, 2124720293, 2124720805, 2124721317, 2124721829, 2124722341, 2124722853, 2124723365, 2124723877,
   2124724389, 2124724901, 2124725413, 2124725925, 2124726437, 2124726949, 2124727461, 2124727973, 2124728485,
   2124728997, 2124729509, 2124730021, 2124730533, 2124731045, 2124731557, 2124732069, 2124732581, 2124733093,
   2124733605, 2124734117, 2124734629, 2124735141, 2124735653, 2124736165, 2124736677, 2124737189, 2124737701,
   2124738213, 2124738725, 2124739237, 2124739749, 2124740261, 2124740773, 2124741285, 2124741797, 2124742309,
   2124742822, 2124743334, 2124743846, 2124744358, 2124744870, 2124745382, 2124745894, 2124746406, 2124746918,
   2124747430, 2124747942, 2124748454, 2124748966, 2124749478, 2124749990, 2124750502, 2124751014, 2124751526,
   2124752038, 2124752550, 2124753062, 2124753574, 2124754086, 2124754598, 2124755110, 2124755622, 2124756134,
   2124756646, 2124757158, 2124757670, 2124758182, 2124758694, 2124759206, 2124759718, 2124760230, 2124760742,
   2124761254, 2124761766, 2124762278, 2124762790, 2124763302, 2124763814, 2124764326, 2124764838, 2124765350,
   2124765862, 2124766374, 2124766886, 2124767398, 2124767910, 2124768422, 2124768934, 2124769446, 2124769958,
   2124770470, 2124770982, 2124771494, 2124772006, 2124772518, 2124773030, 2124773542, 2124774054, 2124774566,
   2124775078, 2124775590, 2124776102, 2124776614, 2124777126, 2124777638, 2124778150, 2124778662, 2124779174,
   2124779686, 2124780198, 2124780710, 2124781222, 2124781734, 2124782246, 2124782758, 2124783270, 2124783782,
   2124784294, 2124784806, 2124785318, 2124785830, 2124786342, 2124786854, 2124787366, 2124787878, 2124788390,
   2124788902, 2124789414, 2124789926, 2124790438, 2124790950, 2124791462, 2124791974, 2124792486, 2124792998,
   2124793510, 2124794022, 2124794534, 2124795046, 2124795558, 2124796070, 2124796582, 2124797094, 2124797606,
   2124798118, 2124798630, 2124799142, 2124799654, 2124800166, 2124800678, 2124801190, 2124801702, 2124802214,
   2124802726, 2124803238, 2124803750, 2124804262, 2124804774, 2124805286, 2124805798, 2124806310, 2124806822,
   2124807334, 2124807846, 2124808359, 2124808871, 2124809383, 2124809895, 2124810407, 2124810919, 2124811431,
   2124811943, 2124812455, 2124812967, 2124813479, 2124813991, 2124814503, 2124815015, 2124815527, 2124816039,
   2124816551, 2124817063, 2124817575, 2124818087, 2124818599, 2124819111, 2124819623, 2124820135, 2124820647,
   2124821159, 2124821671, 2124822183, 2124822695, 2124823207, 2124823719, 2124824231, 2124824743, 2124825255,
   2124825767, 2124826279, 2124826791, 2124827303, 2124827815, 2124828327, 2124828839, 2124829351, 2124829863,
   2124830375, 2124830887, 2124831399, 2124831911, 2124832423, 2124832935, 2124833447, 2124833959, 2124834471,
   2124834983, 2124835495, 2124836007, 2124836519, 2124837031, 2124837543, 2124838055, 2124838567, 2124839079,
   2124839591, 2124840103, 2124840615, 2124841127, 2124841639, 2124842151, 2124842663, 2124843175, 2124843687,
   2124844199, 2124844711, 2124845223, 2124845735, 2124846247, 2124846759, 2124847271, 2124847783, 2124848295,
   2124848807, 2124849319, 2124849831, 2124850343, 2124850855, 2124851367, 2124851879, 2124852391, 2124852903,
   2124853415, 2124853927, 2124854439, 2124854951, 2124855463, 2124855975, 2124856487, 2124856999, 2124857511,
   2124858023, 2124858535, 2124859047, 2124859559, 2124860071, 2124860583, 2124861095, 2124861607, 2124862119,
   2124862631, 2124863143, 2124863655, 2124864167, 2124864679, 2124865191, 2124865703, 2124866215, 2124866727,
   2124867239, 2124867751, 2124868263, 2124868775, 2124869287, 2124869799, 2124870311, 2124870823, 2124871335,
   2124871847, 2124872359, 2124872871, 2124873383, 2124873896, 2124874408, 2124874920, 2124875432, 2124875944,
   2124876456, 2124876968, 2124877480, 2124877992, 2124878504, 2124879016, 2124879528, 2124880040, 2124880552,
   2124881064, 2124881576, 2124882088, 2124882600, 2124883112, 2124883624, 2124884136, 2124884648, 2124885160,
   2124885672, 2124886184, 2124886696, 2124887208, 2124887720, 2124888232, 2124888744, 2124889256, 2124889768,
   2124890280, 2124890792, 2124891304, 2124891816, 2124892328, 2124892840, 2124893352, 2124893864, 2124894376,
   2124894888, 2124895400, 2124895912, 2124896424, 2124896936, 2124897448, 2124897960, 2124898472, 2124898984,
   2124899496, 2124900008, 2124900520, 2124901032, 2124901544, 2124902056, 2124902568, 2124903080, 2124903592,
   2124904104, 2124904616, 2124905128, 2124905640, 2124906152, 2124906664, 2124907176, 2124907688, 2124908200,
   2124908712, 2124909224, 2124909736, 2124910248, 2124910760, 2124911272, 2124911784, 2124912296, 2124912808,
   2124913320, 2124913832, 2124914344, 2124914856, 2124915368, 2124915880, 2124916392, 2124916904, 2124917416,
   2124917928, 2124918440, 2124918952, 2124919464, 2124919976, 2124920488, 2124921000, 2124921512, 2124922024,
   2124922536, 2124923048, 2124923560, 2124924072, 2124924584, 2124925096, 2124925608, 2124926120, 2124926632,
   2124927144, 2124927656, 2124928168, 2124928680, 2124929192, 2124929704, 2124930216, 2124930728, 2124931240,
   2124931752, 2124932264, 2124932776, 2124933288, 2124933800, 2124934312, 2124934824, 2124935336, 2124935848,
   2124936360, 2124936872, 2124937384, 2124937896, 2124938408, 2124938920, 2124939433, 2124939945, 2124940457,
   2124940969, 2124941481, 2124941993, 2124942505, 2124943017, 2124943529, 2124944041, 2124944553, 2124945065,
   2124945577, 2124946089, 2124946601, 2124947113, 2124947625, 2124948137, 2124948649, 2124949161, 2124949673,
   2124950185, 2124950697, 2124951209, 2124951721, 2124952233, 2124952745, 2124953257, 2124953769, 2124954281,
   2124954793, 2124955305, 2124955817, 2124956329, 2124956841, 2124957353, 2124957865, 2124958377, 2124958889,
   2124959401, 2124959913, 2124960425, 2124960937, 2124961449, 2124961961, 2124962473, 2124962985, 2124963497,
   2124964009, 2124964521, 2124965033, 2124965545, 2124966057, 2124966569, 2124967081, 2124967593, 2124968105,
   2124968617, 2124969129, 2124969641, 2124970153, 2124970665, 2124971177, 2124971689, 2124972201, 2124972713,
   2124973225, 2124973737, 2124974249, 2124974761, 2124975273, 2124975785, 2124976297, 2124976809, 2124977321,
   2124977833, 2124978345, 2124978857, 2124979369, 2124979881, 2124980393, 2124980905, 2124981417, 2124981929,
   2124982441, 2124982953, 2124983465, 2124983977, 2124984489, 2124985001, 2124985513, 2124986025, 2124986537,
   2124987049, 2124987561, 2124988073, 2124988585, 2124989097, 2124989609, 2124990121, 2124990633, 2124991145,
   2124991657, 2124992169, 2124992681, 2124993193, 2124993705, 2124994217, 2124994729, 2124995241, 2124995753,
   2124996265, 2124996777, 2124997289, 2124997801, 2124998313, 2124998825, 2124999337, 2124999849, 2125000361,
   2125000873, 2125001385, 2125001897, 2125002409, 2125002921, 2125003433, 2125003945, 2125004457, 2125004970,
   2125005482, 2125005994, 2125006506, 2125007018, 2125007530, 2125008042, 2125008554, 2125009066, 2125009578,
   2125010090, 2125010602, 2125011114, 2125011626, 2125012138, 2125012650, 2125013162, 2125013674, 2125014186,
   2125014698, 2125015210, 2125015722, 2125016234, 2125016746, 2125017258, 2125017770, 2125018282, 2125018794,
   2125019306, 2125019818, 2125020330, 2125020842, 2125021354, 2125021866, 2125022378, 2125022890, 2125023402,
   2125023914, 2125024426, 2125024938, 2125025450, 2125025962, 2125026474, 2125026986, 2125027498, 2125028010,
   2125028522, 2125029034, 2125029546, 2125030058, 2125030570, 2125031082, 2125031594, 2125032106, 2125032618,
   2125033130, 2125033642, 2125034154, 2125034666, 2125035178, 2125035690, 2125036202, 2125036714, 2125037226,
   2125037738, 2125038250, 2125038762, 2125039274, 2125039786, 2125040298, 2125040810, 2125041322, 2125041834,
   2125042346, 2125042858, 2125043370, 2125043882, 2125044394, 2125044906, 2125045418, 2125045930, 2125046442,
   2125046954, 2125047466, 2125047978, 2125048490, 2125049002, 2125049514, 2125050026, 2125050538, 2125051050,
   2125051562, 2125052074, 2125052586, 2125053098, 2125053610, 2125054122, 2125054634, 2125055146, 2125055658,
   2125056170, 2125056682, 2125057194, 2125057706, 2125058218, 2125058730, 2125059242, 2125059754, 2125060266,
   2125060778, 2125061290, 2125061802, 2125062314, 2125062826, 2125063338, 2125063850, 2125064362, 2125064874,
   2125065386, 2125065898, 2125066410, 2125066922, 2125067434, 2125067946, 2125068458, 2125068970, 2125069482,
   2125069994, 2125070507, 2125071019, 2125071531, 2125072043, 2125072555, 2125073067, 2125073579, 2125074091,
   2125074603, 2125075115, 2125075627, 2125076139, 2125076651, 2125077163, 2125077675, 2125078187, 2125078699,
   2125079211, 2125079723, 2125080235, 2125080747, 2125081259, 2125081771, 2125082283, 2125082795, 2125083307,
   2125083819, 2125084331, 2125084843, 2125085355, 2125085867, 2125086379, 2125086891, 2125087403, 2125087915,
   2125088427, 2125088939, 2125089451, 2125089963, 2125090475, 2125090987, 2125091499, 2125092011, 2125092523,
   2125093035, 2125093547, 2125094059, 2125094571, 2125095083, 2125095595, 2125096107, 2125096619, 2125097131,
   2125097643, 2125098155, 2125098667, 2125099179, 2125099691, 2125100203, 2125100715, 2125101227, 2125101739,
   2125102251, 2125102763, 2125103275, 2125103787, 2125104299, 2125104811, 2125105323, 2125105835, 2125106347,
   2125106859, 2125107371, 2125107883, 2125108395, 2125108907, 2125109419, 2125109931, 2125110443, 2125110955,
   2125111467, 2125111979, 2125112491, 2125113003, 2125113515, 2125114027, 2125114539, 2125115051, 2125115563,
   2125116075, 2125116587, 2125117099, 2125117611, 2125118123, 2125118635, 2125119147, 2125119659, 2125120171,
   2125120683, 2125121195, 2125121707, 2125122219, 2125122731, 2125123243, 2125123755, 2125124267, 2125124779,
   2125125291, 2125125803, 2125126315, 2125126827, 2125127339, 2125127851, 2125128363, 2125128875, 2125129387,
   2125129899, 2125130411, 2125130923, 2125131435, 2125131947, 2125132459, 2125132971, 2125133483, 2125133995,
   2125134507, 2125135019, 2125135531, 2125136044, 2125136556, 2125137068, 2125137580, 2125138092, 2125138604,
   2125139116, 2125139628, 2125140140, 2125140652, 2125141164, 2125141676, 2125142188, 2125142700, 2125143212,
   2125143724, 2125144236, 2125144748, 2125145260, 2125145772, 2125146284, 2125146796, 2125147308, 2125147820,
   2125148332, 2125148844, 2125149356, 2125149868, 2125150380, 2125150892, 2125151404, 2125151916, 2125152428,
   2125152940, 2125153452, 2125153964, 2125154476, 2125154988, 2125155500, 2125156012, 2125156524, 2125157036,
   2125157548, 2125158060, 2125158572, 2125159084, 2125159596, 2125160108, 2125160620, 2125161132, 2125161644,
   2125162156, 2125162668, 2125163180, 2125163692, 2125164204, 2125164716, 2125165228, 2125165740, 2125166252,
   2125166764, 2125167276, 2125167788, 2125168300, 2125168812, 2125169324, 2125169836, 2125170348, 2125170860,
   2125171372, 2125171884, 2125172396, 2125172908, 2125173420, 2125173932, 2125174444, 2125174956, 2125175468,
   2125175980, 2125176492, 2125177004, 2125177516, 2125178028, 2125178540, 2125179052, 2125179564, 2125180076,
   2125180588, 2125181100, 2125181612, 2125182124, 2125182636, 2125183148, 2125183660, 2125184172, 2125184684,
   2125185196, 2125185708, 2125186220, 2125186732, 2125187244, 2125187756, 2125188268, 2125188780, 2125189292,
   2125189804, 2125190316, 2125190828, 2125191340, 2125191852, 2125192364, 2125192876, 2125193388, 2125193900,
   2125194412, 2125194924, 2125195436, 2125195948, 2125196460, 2125196972, 2125197484, 2125197996, 2125198508,
   2125199020, 2125199532, 2125200044, 2125200556, 2125201068, 2125201581, 2125202093, 2125202605, 2125203117,
   2125203629, 2125204141, 2125204653, 2125205165, 2125205677, 2125206189, 2125206701, 2125207213, 2125207725,
   2125208237, 2125208749, 2125209261, 2125209773, 2125210285, 2125210797, 2125211309, 2125211821, 2125212333,
   2125212845, 2125213357, 2125213869, 2125214381, 2125214893, 2125215405, 2125215917, 2125216429, 2125216941,
   2125217453, 2125217965, 2125218477, 2125218989, 2125219501, 2125220013, 2125220525, 2125221037, 2125221549,
   2125222061, 2125222573, 2125223085, 2125223597, 2125224109, 2125224621, 2125225133, 2125225645, 2125226157,
   2125226669, 2125227181, 2125227693, 2125228205, 2125228717, 2125229229, 2125229741, 2125230253, 2125230765,
   2125231277, 2125231789, 2125232301, 2125232813, 2125233325, 2125233837, 2125234349, 2125234861, 2125235373,
   2125235885, 2125236397, 2125236909, 2125237421, 2125237933, 2125238445, 2125238957, 2125239469, 2125239981,
   2125240493, 2125241005, 2125241517, 2125242029, 2125242541, 2125243053, 2125243565, 2125244077, 2125244589,
   2125245101, 2125245613, 2125246125, 2125246637, 2125247149, 2125247661, 2125248173, 2125248685, 2125249197,
   2125249709, 2125250221, 2125250733, 2125251245, 2125251757, 2125252269, 2125252781, 2125253293, 2125253805,
   2125254317, 2125254829, 2125255341, 2125255853, 2125256365, 2125256877, 2125257389, 2125257901, 2125258413,
   2125258925, 2125259437, 2125259949, 2125260461, 2125260973, 2125261485, 2125261997, 2125262509, 2125263021,
   2125263533, 2125264045, 2125264557, 2125265069, 2125265581, 2125266093, 2125266605, 2125267118, 2125267630,
   2125268142, 2125268654, 2125269166, 2125269678, 2125270190, 2125270702, 2125271214, 2125271726, 2125272238,
   2125272750, 2125273262, 2125273774, 2125274286, 2125274798, 2125275310, 2125275822, 2125276334, 2125276846,
   2125277358, 2125277870, 2125278382, 2125278894, 2125279406, 2125279918, 2125280430, 2125280942, 2125281454,
   2125281966, 2125282478, 2125282990, 2125283502, 2125284014, 2125284526, 2125285038, 2125285550, 2125286062,
   2125286574, 2125287086, 2125287598, 2125288110, 2125288622, 2125289134, 2125289646, 2125290158, 2125290670,
   2125291182, 2125291694, 2125292206, 2125292718, 2125293230, 2125293742, 2125294254, 2125294766, 2125295278,
   2125295790, 2125296302, 2125296814, 2125297326, 2125297838, 2125298350, 2125298862, 2125299374, 2125299886,
   2125300398, 2125300910, 2125301422, 2125301934, 2125302446, 2125302958, 2125303470, 2125303982, 2125304494,
   2125305006, 2125305518, 2125306030, 2125306542, 2125307054, 2125307566, 2125308078, 2125308590, 2125309102,
   2125309614, 2125310126, 2125310638, 2125311150, 2125311662, 2125312174, 2125312686, 2125313198, 2125313710,
   2125314222, 2125314734, 2125315246, 2125315758, 2125316270, 2125316782, 2125317294, 2125317806, 2125318318,
   2125318830, 2125319342, 2125319854, 2125320366, 2125320878, 2125321390, 2125321902, 2125322414, 2125322926,
   2125323438, 2125323950, 2125324462, 2125324974, 2125325486, 2125325998, 2125326510, 2125327022, 2125327534,
   2125328046, 2125328558, 2125329070, 2125329582, 2125330094, 2125330606, 2125331118, 2125331630, 2125332142,
   2125332655, 2125333167, 2125333679, 2125334191, 2125334703, 2125335215, 2125335727, 2125336239, 2125336751,
   2125337263, 2125337775, 2125338287, 2125338799, 2125339311, 2125339823, 2125340335, 2125340847, 2125341359,
   2125341871, 2125342383, 2125342895, 2125343407, 2125343919, 2125344431, 2125344943, 2125345455, 2125345967,
   2125346479, 2125346991, 2125347503, 2125348015, 2125348527, 2125349039, 2125349551, 2125350063, 2125350575,
   2125351087, 2125351599, 2125352111, 2125352623, 2125353135, 2125353647, 2125354159, 2125354671, 2125355183,
   2125355695, 2125356207, 2125356719, 2125357231, 2125357743, 2125358255, 2125358767, 2125359279, 2125359791,
   2125360303, 2125360815, 2125361327, 2125361839, 2125362351, 2125362863, 2125363375, 2125363887, 2125364399,
   2125364911, 2125365423, 2125365935, 2125366447, 2125366959, 2125367471, 2125367983, 2125368495, 2125369007,
   2125369519, 2125370031, 2125370543, 2125371055, 2125371567, 2125372079, 2125372591, 2125373103, 2125373615,
   2125374127, 2125374639, 2125375151, 2125375663, 2125376175, 2125376687, 2125377199, 2125377711, 2125378223,
   2125378735, 2125379247, 2125379759, 2125380271, 2125380783, 2125381295, 2125381807, 2125382319, 2125382831,
   2125383343, 2125383855, 2125384367, 2125384879, 2125385391, 2125385903, 2125386415, 2125386927, 2125387439,
   2125387951, 2125388463, 2125388975, 2125389487, 2125389999, 2125390511, 2125391023, 2125391535, 2125392047,
   2125392559, 2125393071, 2125393583, 2125394095, 2125394607, 2125395119, 2125395631, 2125396143, 2125396655,
   2125397167, 2125397679, 2125398192, 2125398704, 2125399216, 2125399728, 2125400240, 2125400752, 2125401264,
   2125401776, 2125402288, 2125402800, 2125403312, 2125403824, 2125404336, 2125404848, 2125405360, 2125405872,
   2125406384, 2125406896, 2125407408, 2125407920, 2125408432, 2125408944, 2125409456, 2125409968, 2125410480,
   2125410992, 2125411504, 2125412016, 2125412528, 2125413040, 2125413552, 2125414064, 2125414576, 2125415088,
   2125415600, 2125416112, 2125416624, 2125417136, 2125417648, 2125418160, 2125418672, 2125419184, 2125419696,
   2125420208, 2125420720, 2125421232, 2125421744, 2125422256, 2125422768, 2125423280, 2125423792, 2125424304,
   2125424816, 2125425328, 2125425840, 2125426352, 2125426864, 2125427376, 2125427888, 2125428400, 2125428912,
   2125429424, 2125429936, 2125430448, 2125430960, 2125431472, 2125431984, 2125432496, 2125433008, 2125433520,
   2125434032, 2125434544, 2125435056, 2125435568, 2125436080, 2125436592, 2125437104, 2125437616, 2125438128,
   2125438640, 2125439152, 2125439664, 2125440176, 2125440688, 2125441200, 2125441712, 2125442224, 2125442736,
   2125443248, 2125443760, 2125444272, 2125444784, 2125445296, 2125445808, 2125446320, 2125446832, 2125447344,
   2125447856, 2125448368, 2125448880, 2125449392, 2125449904, 2125450416, 2125450928, 2125451440, 2125451952,
   2125452464, 2125452976, 2125453488, 2125454000, 2125454512, 2125455024, 2125455536, 2125456048, 2125456560,
   2125457072, 2125457584, 2125458096, 2125458608, 2125459120, 2125459632, 2125460144, 2125460656, 2125461168,
   2125461680, 2125462192, 2125462704, 2125463216, 2125463729]
theorem c26_ok :
    chkList (pipeF 1199570688 65535) 65535 2139095040 53249 1062207569 26625 c26
      55297 1062731865 27649 = true := by decide +kernel
theorem c26_len : 53249 + c26.length = 55297 := (chkList_end c26_ok).1
theorem c26_last : lastS 1062207569 c26 = 1062731865 := (chkList_end c26_ok).2.1

@[irreducible] def c27 : List Nat :=
  [2125464241, 2125464753, 2125465265, 2125465777, 2125466289, 2125466801, 2125467313, 2125467825, 2125468337,
   2125468849, 2125469361, 2125469873, 2125470385, 2125470897, 2125471409, 2125471921, 2125472433, 2125472945,
   2125473457, 2125473969, 2125474481, 2125474993, 2125475505, 2125476017, 2125476529, 2125477041, 2125477553,
   2125478065, 2125478577, 2125479089, 2125479601, 2125480113, 2125480625, 2125481137, 2125481649, 2125482161,
   2125482673, 2125483185, 2125483697, 2125484209, 2125484721, 2125485233, 2125485745, 2125486257, 2125486769,
   2125487281, 2125487793, 2125488305, 2125488817, 2125489329, 2125489841, 2125490353, 2125490865, 2125491377,
   2125491889, 2125492401, 2125492913, 2125493425, 2125493937, 2125494449, 2125494961, 2125495473, 2125495985,
   2125496497, 2125497009, 2125497521, 2125498033, 2125498545, 2125499057, 2125499569, 2125500081, 2125500593,
   2125501105, 2125501617, 2125502129, 2125502641, 2125503153, 2125503665, 2125504177, 2125504689, 2125505201,
   2125505713, 2125506225, 2125506737, 2125507249, 2125507761, 2125508273, 2125508785, 2125509297, 2125509809,
   2125510321, 2125510833, 2125511345, 2125511857, 2125512369, 2125512881, 2125513393, 2125513905, 2125514417,
   2125514929, 2125515441, 2125515953, 2125516465, 2125516977, 2125517489, 2125518001, 2125518513, 2125519025,
   2125519537, 2125520049, 2125520561, 2125521073, 2125521585, 2125522097, 2125522609, 2125523121, 2125523633,
   2125524145, 2125524657, 2125525169, 2125525681, 2125526193, 2125526705, 2125527217, 2125527729, 2125528241,
   2125528753, 2125529266, 2125529778, 2125530290, 2125530802, 2125531314, 2125531826, 2125532338, 2125532850,
   2125533362, 2125533874, 2125534386, 2125534898, 2125535410, 2125535922, 2125536434, 2125536946, 2125537458,
   2125537970, 2125538482, 2125538994, 2125539506, 2125540018, 2125540530, 2125541042, 2125541554, 2125542066,
   2125542578, 2125543090, 2125543602, 2125544114, 2125544626, 2125545138, 2125545650, 2125546162, 2125546674,
   2125547186, 2125547698, 2125548210, 2125548722, 2125549234, 2125549746, 2125550258, 2125550770, 2125551282,
   2125551794, 2125552306, 2125552818, 2125553330, 2125553842, 2125554354, 2125554866, 2125555378, 2125555890,
   2125556402, 2125556914, 2125557426, 2125557938, 2125558450, 2125558962, 2125559474, 2125559986, 2125560498,
   2125561010, 2125561522, 2125562034, 2125562546, 2125563058, 2125563570, 2125564082, 2125564594, 2125565106,
   2125565618, 2125566130, 2125566642, 2125567154, 2125567666, 2125568178, 2125568690, 2125569202, 2125569714,
   2125570226, 2125570738, 2125571250, 2125571762, 2125572274, 2125572786, 2125573298, 2125573810, 2125574322,
   2125574834, 2125575346, 2125575858, 2125576370, 2125576882, 2125577394, 2125577906, 2125578418, 2125578930,
   2125579442, 2125579954, 2125580466, 2125580978, 2125581490, 2125582002, 2125582514, 2125583026, 2125583538,
   2125584050, 2125584562, 2125585074, 2125585586, 2125586098, 2125586610, 2125587122, 2125587634, 2125588146,
   2125588658, 2125589170, 2125589682, 2125590194, 2125590706, 2125591218, 2125591730, 2125592242, 2125592754,
   2125593266, 2125593778, 2125594290, 2125594803, 2125595315, 2125595827, 2125596339, 2125596851, 2125597363,
   2125597875, 2125598387, 2125598899, 2125599411, 2125599923, 2125600435, 2125600947, 2125601459, 2125601971,
   2125602483, 2125602995, 2125603507, 2125604019, 2125604531, 2125605043, 2125605555, 2125606067, 2125606579,
   2125607091, 2125607603, 2125608115, 2125608627, 2125609139, 2125609651, 2125610163, 2125610675, 2125611187,
   2125611699, 2125612211, 2125612723, 2125613235, 2125613747, 2125614259, 2125614771, 2125615283, 2125615795,
   2125616307, 2125616819, 2125617331, 2125617843, 2125618355, 2125618867, 2125619379, 2125619891, 2125620403,
   2125620915, 2125621427, 2125621939, 2125622451, 2125622963, 2125623475, 2125623987, 2125624499, 2125625011,
   2125625523, 2125626035, 2125626547, 2125627059, 2125627571, 2125628083, 2125628595, 2125629107, 2125629619,
   2125630131, 2125630643, 2125631155, 2125631667, 2125632179, 2125632691, 2125633203, 2125633715, 2125634227,
   2125634739, 2125635251, 2125635763, 2125636275, 2125636787, 2125637299, 2125637811, 2125638323, 2125638835,
   2125639347, 2125639859, 2125640371, 2125640883, 2125641395, 2125641907, 2125642419, 2125642931, 2125643443,
   2125643955, 2125644467, 2125644979, 2125645491, 2125646003, 2125646515, 2125647027, 2125647539, 2125648051,
   2125648563, 2125649075, 2125649587, 2125650099, 2125650611, 2125651123, 2125651635, 2125652147, 2125652659,
   2125653171, 2125653683, 2125654195, 2125654707, 2125655219, 2125655731, 2125656243, 2125656755, 2125657267,
   2125657779, 2125658291, 2125658803, 2125659315, 2125659827, 2125660340, 2125660852, 2125661364, 2125661876,
   2125662388, 2125662900, 2125663412, 2125663924, 2125664436, 2125664948, 2125665460, 2125665972, 2125666484,
   2125666996, 2125667508, 2125668020, 2125668532, 2125669044, 2125669556, 2125670068, 2125670580, 2125671092,
   2125671604, 2125672116, 2125672628, 2125673140, 2125673652, 2125674164, 2125674676, 2125675188, 2125675700,
   2125676212, 2125676724, 2125677236, 2125677748, 2125678260, 2125678772, 2125679284, 2125679796, 2125680308,
   2125680820, 2125681332, 2125681844, 2125682356, 2125682868, 2125683380, 2125683892, 2125684404, 2125684916,
   2125685428, 2125685940, 2125686452, 2125686964, 2125687476, 2125687988, 2125688500, 2125689012, 2125689524,
   2125690036, 2125690548, 2125691060, 2125691572, 2125692084, 2125692596, 2125693108, 2125693620, 2125694132,
   2125694644, 2125695156, 2125695668, 2125696180, 2125696692, 2125697204, 2125697716, 2125698228, 2125698740,
   2125699252, 2125699764, 2125700276, 2125700788, 2125701300, 2125701812, 2125702324, 2125702836, 2125703348,
   2125703860, 2125704372, 2125704884, 2125705396, 2125705908, 2125706420, 2125706932, 2125707444, 2125707956,
   2125708468, 2125708980, 2125709492, 2125710004, 2125710516, 2125711028, 2125711540, 2125712052, 2125712564,
   2125713076, 2125713588, 2125714100, 2125714612, 2125715124, 2125715636, 2125716148, 2125716660, 2125717172,
   2125717684, 2125718196, 2125718708, 2125719220, 2125719732, 2125720244, 2125720756, 2125721268, 2125721780,
   2125722292, 2125722804, 2125723316, 2125723828, 2125724340, 2125724852, 2125725364, 2125725877, 2125726389,
   2125726901, 2125727413, 2125727925, 2125728437, 2125728949, 2125729461, 2125729973, 2125730485, 2125730997,
   2125731509, 2125732021, 2125732533, 2125733045, 2125733557, 2125734069, 2125734581, 2125735093, 2125735605,
   2125736117, 2125736629, 2125737141, 2125737653, 2125738165, 2125738677, 2125739189, 2125739701, 2125740213,
   2125740725, 2125741237, 2125741749, 2125742261, 2125742773, 2125743285, 2125743797, 2125744309, 2125744821,
   2125745333, 2125745845, 2125746357, 2125746869, 2125747381, 2125747893, 2125748405, 2125748917, 2125749429,
   2125749941, 2125750453, 2125750965, 2125751477, 2125751989, 2125752501, 2125753013, 2125753525, 2125754037,
   2125754549, 2125755061, 2125755573, 2125756085, 2125756597, 2125757109, 2125757621, 2125758133, 2125758645,
   2125759157, 2125759669, 2125760181, 2125760693, 2125761205, 2125761717, 2125762229, 2125762741, 2125763253,
   2125763765, 2125764277, 2125764789, 2125765301, 2125765813, 2125766325, 2125766837, 2125767349, 2125767861,
   2125768373, 2125768885, 2125769397, 2125769909, 2125770421, 2125770933, 2125771445, 2125771957, 2125772469,
   2125772981, 2125773493, 2125774005, 2125774517, 2125775029, 2125775541, 2125776053, 2125776565, 2125777077,
   2125777589, 2125778101, 2125778613, 2125779125, 2125779637, 2125780149, 2125780661, 2125781173, 2125781685,
   2125782197, 2125782709, 2125783221, 2125783733, 2125784245, 2125784757, 2125785269, 2125785781, 2125786293,
   2125786805, 2125787317, 2125787829, 2125788341, 2125788853, 2125789365, 2125789877, 2125790389, 2125790901,
   2125791414, 2125791926, 2125792438, 2125792950, 2125793462, 2125793974, 2125794486, 2125794998, 2125795510,
   2125796022, 2125796534, 2125797046, 2125797558, 2125798070, 2125798582, 2125799094, 2125799606, 2125800118,
   2125800630, 2125801142, 2125801654, 2125802166, 2125802678, 2125803190, 2125803702, 2125804214, 2125804726,
   2125805238, 2125805750, 2125806262, 2125806774, 2125807286, 2125807798, 2125808310, 2125808822, 2125809334,
   2125809846, 2125810358, 2125810870, 2125811382, 2125811894, 2125812406, 2125812918, 2125813430, 2125813942,
   2125814454, 2125814966, 2125815478, 2125815990, 2125816502, 2125817014, 2125817526, 2125818038, 2125818550,
   2125819062, 2125819574, 2125820086, 2125820598, 2125821110, 2125821622, 2125822134, 2125822646, 2125823158,
   2125823670, 2125824182, 2125824694, 2125825206, 2125825718, 2125826230, 2125826742, 2125827254, 2125827766,
   2125828278, 2125828790, 2125829302, 2125829814, 2125830326, 2125830838, 2125831350, 2125831862, 2125832374,
   2125832886, 2125833398, 2125833910, 2125834422, 2125834934, 2125835446, 2125835958, 2125836470, 2125836982,
   2125837494, 2125838006, 2125838518, 2125839030, 2125839542, 2125840054, 2125840566, 2125841078, 2125841590,
   2125842102, 2125842614, 2125843126, 2125843638, 2125844150, 2125844662, 2125845174, 2125845686, 2125846198,
   2125846710, 2125847222, 2125847734, 2125848246, 2125848758, 2125849270, 2125849782, 2125850294, 2125850806,
   2125851318, 2125851830, 2125852342, 2125852854, 2125853366, 2125853878, 2125854390, 2125854902, 2125855414,
   2125855926, 2125856438, 2125856951, 2125857463, 2125857975, 2125858487, 2125858999, 2125859511, 2125860023,
   2125860535, 2125861047, 2125861559, 2125862071, 2125862583, 2125863095, 2125863607, 2125864119, 2125864631,
   2125865143, 2125865655, 2125866167, 2125866679, 2125867191, 2125867703, 2125868215, 2125868727, 2125869239,
   2125869751, 2125870263, 2125870775, 2125871287, 2125871799, 2125872311, 2125872823, 2125873335, 2125873847,
   2125874359, 2125874871, 2125875383, 2125875895, 2125876407, 2125876919, 2125877431, 2125877943, 2125878455,
   2125878967, 2125879479, 2125879991, 2125880503, 2125881015, 2125881527, 2125882039, 2125882551, 2125883063,
   2125883575, 2125884087, 2125884599, 2125885111, 2125885623, 2125886135, 2125886647, 2125887159, 2125887671,
   2125888183, 2125888695, 2125889207, 2125889719, 2125890231, 2125890743, 2125891255, 2125891767, 2125892279,
   2125892791, 2125893303, 2125893815, 2125894327, 2125894839, 2125895351, 2125895863, 2125896375, 2125896887,
   2125897399, 2125897911, 2125898423, 2125898935, 2125899447, 2125899959, 2125900471, 2125900983, 2125901495,
   2125902007, 2125902519, 2125903031, 2125903543, 2125904055, 2125904567, 2125905079, 2125905591, 2125906103,
   2125906615, 2125907127, 2125907639, 2125908151, 2125908663, 2125909175, 2125909687, 2125910199, 2125910711,
   2125911223, 2125911735, 2125912247, 2125912759, 2125913271, 2125913783, 2125914295, 2125914807, 2125915319,
   2125915831, 2125916343, 2125916855, 2125917367, 2125917879, 2125918391, 2125918903, 2125919415, 2125919927,
   2125920439, 2125920951, 2125921463, 2125921975, 2125922488, 2125923000, 2125923512, 2125924024, 2125924536,
   2125925048, 2125925560, 2125926072, 2125926584, 2125927096, 2125927608, 2125928120, 2125928632, 2125929144,
   2125929656, 2125930168, 2125930680, 2125931192, 2125931704, 2125932216, 2125932728, 2125933240, 2125933752,
   2125934264, 2125934776, 2125935288, 2125935800, 2125936312, 2125936824, 2125937336, 2125937848, 2125938360,
   2125938872, 2125939384, 2125939896, 2125940408, 2125940920, 2125941432, 2125941944, 2125942456, 2125942968,
   2125943480, 2125943992, 2125944504, 2125945016, 2125945528, 2125946040, 2125946552, 2125947064, 2125947576,
   2125948088, 2125948600, 2125949112, 2125949624, 2125950136, 2125950648, 2125951160, 2125951672, 2125952184,
   2125952696, 2125953208, 2125953720, 2125954232, 2125954744, 2125955256, 2125955768, 2125956280, 2125956792,
   2125957304, 2125957816, 2125958328, 2125958840, 2125959352, 2125959864, 2125960376, 2125960888, 2125961400,
   2125961912, 2125962424, 2125962936, 2125963448, 2125963960, 2125964472, 2125964984, 2125965496, 2125966008,
   2125966520, 2125967032, 2125967544, 2125968056, 2125968568, 2125969080, 2125969592, 2125970104, 2125970616,
   2125971128, 2125971640, 2125972152, 2125972664, 2125973176, 2125973688, 2125974200, 2125974712, 2125975224,
   2125975736, 2125976248, 2125976760, 2125977272, 2125977784, 2125978296, 2125978808, 2125979320, 2125979832,
   2125980344, 2125980856, 2125981368, 2125981880, 2125982392, 2125982904, 2125983416, 2125983928, 2125984440,
   2125984952, 2125985464, 2125985976, 2125986488, 2125987000, 2125987512, 2125988025, 2125988537, 2125989049,
   2125989561, 2125990073, 2125990585, 2125991097, 2125991609, 2125992121, 2125992633, 2125993145, 2125993657,
   2125994169, 2125994681, 2125995193, 2125995705, 2125996217, 2125996729, 2125997241, 2125997753, 2125998265,
   2125998777, 2125999289, 2125999801, 2126000313, 2126000825, 2126001337, 2126001849, 2126002361, 2126002873,
   2126003385, 2126003897, 2126004409, 2126004921, 2126005433, 2126005945, 2126006457, 2126006969, 2126007481,
   2126007993, 2126008505, 2126009017, 2126009529, 2126010041, 2126010553, 2126011065, 2126011577, 2126012089,
   2126012601, 2126013113, 2126013625, 2126014137, 2126014649, 2126015161, 2126015673, 2126016185, 2126016697,
   2126017209, 2126017721, 2126018233, 2126018745, 2126019257, 2126019769, 2126020281, 2126020793, 2126021305,
   2126021817, 2126022329, 2126022841, 2126023353, 2126023865, 2126024377, 2126024889, 2126025401, 2126025913,
   2126026425, 2126026937, 2126027449, 2126027961, 2126028473, 2126028985, 2126029497, 2126030009, 2126030521,
   2126031033, 2126031545, 2126032057, 2126032569, 2126033081, 2126033593, 2126034105, 2126034617, 2126035129,
   2126035641, 2126036153, 2126036665, 2126037177, 2126037689, 2126038201, 2126038713, 2126039225, 2126039737,
   2126040249, 2126040761, 2126041273, 2126041785, 2126042297, 2126042809, 2126043321, 2126043833, 2126044345,
   2126044857, 2126045369, 2126045881, 2126046393, 2126046905, 2126047417, 2126047929, 2126048441, 2126048953,
   2126049465, 2126049977, 2126050489, 2126051001, 2126051513, 2126052025, 2126052537, 2126053049, 2126053562,
   2126054074, 2126054586, 2126055098, 2126055610, 2126056122, 2126056634, 2126057146, 2126057658, 2126058170,
   2126058682, 2126059194, 2126059706, 2126060218, 2126060730, 2126061242, 2126061754, 2126062266, 2126062778,
   2126063290, 2126063802, 2126064314, 2126064826, 2126065338, 2126065850, 2126066362, 2126066874, 2126067386,
   2126067898, 2126068410, 2126068922, 2126069434, 2126069946, 2126070458, 2126070970, 2126071482, 2126071994,
   2126072506, 2126073018, 2126073530, 2126074042, 2126074554, 2126075066, 2126075578, 2126076090, 2126076602,
   2126077114, 2126077626, 2126078138, 2126078650, 2126079162, 2126079674, 2126080186, 2126080698, 2126081210,
   2126081722, 2126082234, 2126082746, 2126083258, 2126083770, 2126084282, 2126084794, 2126085306, 2126085818,
   2126086330, 2126086842, 2126087354, 2126087866, 2126088378, 2126088890, 2126089402, 2126089914, 2126090426,
   2126090938, 2126091450, 2126091962, 2126092474, 2126092986, 2126093498, 2126094010, 2126094522, 2126095034,
   2126095546, 2126096058, 2126096570, 2126097082, 2126097594, 2126098106, 2126098618, 2126099130, 2126099642,
   2126100154, 2126100666, 2126101178, 2126101690, 2126102202, 2126102714, 2126103226, 2126103738, 2126104250,
   2126104762, 2126105274, 2126105786, 2126106298, 2126106810, 2126107322, 2126107834, 2126108346, 2126108858,
   2126109370, 2126109882, 2126110394, 2126110906, 2126111418, 2126111930, 2126112442, 2126112954, 2126113466,
   2126113978, 2126114490, 2126115002, 2126115514, 2126116026, 2126116538, 2126117050, 2126117562, 2126118074,
   2126118586, 2126119099, 2126119611, 2126120123, 2126120635, 2126121147, 2126121659, 2126122171, 2126122683,
   2126123195, 2126123707, 2126124219, 2126124731, 2126125243, 2126125755, 2126126267, 2126126779, 2126127291,
   2126127803, 2126128315, 2126128827, 2126129339, 2126129851, 2126130363, 2126130875, 2126131387, 2126131899,
   2126132411, 2126132923, 2126133435, 2126133947, 2126134459, 2126134971, 2126135483, 2126135995, 2126136507,
   2126137019, 2126137531, 2126138043, 2126138555, 2126139067, 2126139579, 2126140091, 2126140603, 2126141115,
   2126141627, 2126142139, 2126142651, 2126143163, 2126143675, 2126144187, 2126144699, 2126145211, 2126145723,
   2126146235, 2126146747, 2126147259, 2126147771, 2126148283, 2126148795, 2126149307, 2126149819, 2126150331,
   2126150843, 2126151355, 2126151867, 2126152379, 2126152891, 2126153403, 2126153915, 2126154427, 2126154939,
   2126155451, 2126155963, 2126156475, 2126156987, 2126157499, 2126158011, 2126158523, 2126159035, 2126159547,
   2126160059, 2126160571, 2126161083, 2126161595, 2126162107, 2126162619, 2126163131, 2126163643, 2126164155,
   2126164667, 2126165179, 2126165691, 2126166203, 2126166715, 2126167227, 2126167739, 2126168251, 2126168763,
   2126169275, 2126169787, 2126170299, 2126170811, 2126171323, 2126171835, 2126172347, 2126172859, 2126173371,
   2126173883, 2126174395, 2126174907, 2126175419, 2126175931, 2126176443, 2126176955, 2126177467, 2126177979,
   2126178491, 2126179003, 2126179515, 2126180027, 2126180539, 2126181051, 2126181563, 2126182075, 2126182587,
   2126183099, 2126183611, 2126184123, 2126184636, 2126185148, 2126185660, 2126186172, 2126186684, 2126187196,
   2126187708, 2126188220, 2126188732, 2126189244, 2126189756, 2126190268, 2126190780, 2126191292, 2126191804,
   2126192316, 2126192828, 2126193340, 2126193852, 2126194364, 2126194876, 2126195388, 2126195900, 2126196412,
   2126196924, 2126197436, 2126197948, 2126198460, 2126198972, 2126199484, 2126199996, 2126200508, 2126201020,
   2126201532, 2126202044, 2126202556, 2126203068, 2126203580, 2126204092, 2126204604, 2126205116, 2126205628,
   2126206140, 2126206652, 2126207164, 2126207676, 2126208188, 2126208700, 2126209212, 2126209724, 2126210236,
   2126210748, 2126211260, 2126211772, 2126212284, 2126212796, 2126213308, 2126213820, 2126214332, 2126214844,
   2126215356, 2126215868, 2126216380, 2126216892, 2126217404, 2126217916, 2126218428, 2126218940, 2126219452,
   2126219964, 2126220476, 2126220988, 2126221500, 2126222012, 2126222524, 2126223036, 2126223548, 2126224060,
   2126224572, 2126225084, 2126225596, 2126226108, 2126226620, 2126227132, 2126227644, 2126228156, 2126228668,
   2126229180, 2126229692, 2126230204, 2126230716, 2126231228, 2126231740, 2126232252, 2126232764, 2126233276,
   2126233788, 2126234300, 2126234812, 2126235324, 2126235836, 2126236348, 2126236860, 2126237372, 2126237884,
   2126238396, 2126238908, 2126239420, 2126239932, 2126240444, 2126240956, 2126241468, 2126241980, 2126242492,
   2126243004, 2126243516, 2126244028, 2126244540, 2126245052, 2126245564, 2126246076, 2126246588, 2126247100,
   2126247612, 2126248124, 2126248636, 2126249148, 2126249660, 2126250173, 2126250685, 2126251197, 2126251709,
   2126252221, 2126252733, 2126253245, 2126253757, 2126254269, 2126254781, 2126255293, 2126255805, 2126256317,
   2126256829, 2126257341, 2126257853, 2126258365, 2126258877, 2126259389, 2126259901, 2126260413, 2126260925,
   2126261437, 2126261949, 2126262461, 2126262973, 2126263485, 2126263997, 2126264509, 2126265021, 2126265533,
   2126266045, 2126266557, 2126267069, 2126267581, 2126268093, 2126268605, 2126269117, 2126269629, 2126270141,
   2126270653, 2126271165, 2126271677, 2126272189, 2126272701, 2126273213, 2126273725, 2126274237, 2126274749,
   2126275261, 2126275773, 2126276285, 2126276797, 2126277309, 2126277821, 2126278333, 2126278845, 2126279357,
   2126279869, 2126280381, 2126280893, 2126281405, 2126281917, 2126282429, 2126282941, 2126283453, 2126283965,
   2126284477, 2126284989, 2126285501, 2126286013, 2126286525, 2126287037, 2126287549, 2126288061, 2126288573,
   2126289085, 2126289597, 2126290109, 2126290621, 2126291133, 2126291645, 2126292157, 2126292669, 2126293181,
   2126293693, 2126294205, 2126294717, 2126295229, 2126295741, 2126296253, 2126296765, 2126297277, 2126297789,
   2126298301, 2126298813, 2126299325, 2126299837, 2126300349, 2126300861, 2126301373, 2126301885, 2126302397,
   2126302909, 2126303421, 2126303933, 2126304445, 2126304957, 2126305469, 2126305981, 2126306493, 2126307005,
   2126307517, 2126308029, 2126308541, 2126309053, 2126309565, 2126310077, 2126310589, 2126311101, 2126311613,
   2126312125, 2126312637, 2126313149, 2126313661, 2126314173, 2126314685, 2126315197, 2126315710, 2126316222,
   2126316734, 2126317246, 2126317758, 2126318270, 2126318782, 2126319294, 2126319806, 2126320318, 2126320830,
   2126321342, 2126321854, 2126322366, 2126322878, 2126323390, 2126323902, 2126324414, 2126324926, 2126325438,
   2126325950, 2126326462, 2126326974, 2126327486, 2126327998, 2126328510, 2126329022, 2126329534, 2126330046,
   2126330558, 2126331070, 2126331582, 2126332094, 2126332606, 2126333118, 2126333630, 2126334142, 2126334654,
   2126335166, 2126335678, 2126336190, 2126336702, 2126337214, 2126337726, 2126338238, 2126338750, 2126339262,
   2126339774, 2126340286, 2126340798, 2126341310, 2126341822, 2126342334, 2126342846, 2126343358, 2126343870,
   2126344382, 2126344894, 2126345406, 2126345918, 2126346430, 2126346942, 2126347454, 2126347966, 2126348478,
   2126348990, 2126349502, 2126350014, 2126350526, 2126351038, 2126351550, 2126352062, 2126352574, 2126353086,
   2126353598, 2126354110, 2126354622, 2126355134, 2126355646, 2126356158, 2126356670, 2126357182, 2126357694,
   2126358206, 2126358718, 2126359230, 2126359742, 2126360254, 2126360766, 2126361278, 2126361790, 2126362302,
   2126362814, 2126363326, 2126363838, 2126364350, 2126364862, 2126365374, 2126365886, 2126366398, 2126366910,
   2126367422, 2126367934, 2126368446, 2126368958, 2126369470, 2126369982, 2126370494, 2126371006, 2126371518,
   2126372030, 2126372542, 2126373054, 2126373566, 2126374078, 2126374590, 2126375102, 2126375614, 2126376126,
   2126376638, 2126377150, 2126377662, 2126378174, 2126378686, 2126379198, 2126379710, 2126380222, 2126380734,
   2126381247, 2126381759, 2126382271, 2126382783, 2126383295, 2126383807, 2126384319, 2126384831, 2126385343,
   2126385855, 2126386367, 2126386879, 2126387391, 2126387903, 2126388415, 2126388927, 2126389439, 2126389951,
   2126390463, 2126390975, 2126391487, 2126391999, 2126392511, 2126393023, 2126393535, 2126394047, 2126394559,
   2126395071, 2126395583, 2126396095, 2126396607, 2126397119, 2126397631, 2126398143, 2126398655, 2126399167,
   2126399679, 2126400191, 2126400703, 2126401215, 2126401727, 2126402239, 2126402751, 2126403263, 2126403775,
   2126404287, 2126404799, 2126405311, 2126405823, 2126406335, 2126406847, 2126407359, 2126407871, 2126408383,
   2126408895, 2126409407, 2126409919, 2126410431, 2126410943, 2126411455, 2126411967, 2126412479, 2126412991,
   2126413503, 2126414015, 2126414527, 2126415039, 2126415551, 2126416063, 2126416575, 2126417087, 2126417599,
   2126418111, 2126418623, 2126419135, 2126419647, 2126420159, 2126420671, 2126421183, 2126421695, 2126422207,
   2126422719, 2126423231, 2126423743, 2126424255, 2126424767, 2126425279, 2126425791, 2126426303, 2126426815,
   2126427327, 2126427839, 2126428351, 2126428863, 2126429375, 2126429887, 2126430399, 2126430911, 2126431423,
   2126431935, 2126432447, 2126432959, 2126433471, 2126433983, 2126434495, 2126435007, 2126435519, 2126436031,
   2126436543, 2126437055, 2126437567, 2126438079, 2126438591, 2126439103, 2126439615, 2126440127, 2126440639,
   2126441151, 2126441663, 2126442175, 2126442687, 2126443199, 2126443711, 2126444223, 2126444735, 2126445247,
   2126445759, 2126446271, 2126446784, 2126447296, 2126447808, 2126448320, 2126448832, 2126449344, 2126449856,
   2126450368, 2126450880, 2126451392, 2126451904, 2126452416, 2126452928, 2126453440, 2126453952, 2126454464,
   2126454976, 2126455488, 2126456000, 2126456512, 2126457024, 2126457536, 2126458048, 2126458560, 2126459072,
   2126459584, 2126460096, 2126460608, 2126461120, 2126461632, 2126462144, 2126462656, 2126463168, 2126463680,
   2126464192, 2126464704, 2126465216, 2126465728, 2126466240, 2126466752, 2126467264, 2126467776, 2126468288,
   2126468800, 2126469312, 2126469824, 2126470336, 2126470848, 2126471360, 2126471872, 2126472384, 2126472896,
   2126473408, 2126473920, 2126474432, 2126474944, 2126475456, 2126475968, 2126476480, 2126476992, 2126477504,
   2126478016, 2126478528, 2126479040, 2126479552, 2126480064, 2126480576, 2126481088, 2126481600, 2126482112,
   2126482624, 2126483136, 2126483648, 2126484160, 2126484672, 2126485184, 2126485696, 2126486208, 2126486720,
   2126487232, 2126487744, 2126488256, 2126488768, 2126489280, 2126489792, 2126490304, 2126490816, 2126491328,
   2126491840, 2126492352, 2126492864, 2126493376, 2126493888, 2126494400, 2126494912, 2126495424, 2126495936,
   2126496448, 2126496960, 2126497472, 2126497984, 2126498496, 2126499008, 2126499520, 2126500032, 2126500544,
   2126501056, 2126501568, 2126502080, 2126502592, 2126503104, 2126503616, 2126504128, 2126504640, 2126505152,
   2126505664, 2126506176, 2126506688, 2126507200, 2126507712, 2126508224, 2126508736, 2126509248, 2126509760,
   2126510272, 2126510784, 2126511296, 2126511808, 2126512321]
theorem c27_ok :
    chkList (pipeF 1199570688 65535) 65535 2139095040 55297 1062731865 27649 c27
      57345 1063256161 28673 = true := by decide +kernel
theorem c27_len : 55297 + c27.length = 57345 := (chkList_end c27_ok).1
theorem c27_last : lastS 1062731865 c27 = 1063256161 := (chkList_end c27_ok).2.1

end Dds.F32Thr.FpN16
