/-
C15, `s16::from_uf32`: facts about the software binary64 of `ConvF64.lean`, on bit patterns (`Nat`): the operators by
class of their operands, and `roundPack` (= `roundPackG 52 1022` of `Proofs/RoundPack.lean`) rounds nothing off when
the significand has at most 53 bits and the value is normal (`roundPack_exact`).
-/
import DdsModel.Proofs.RoundPack
namespace Dds.CF64
open Dds.CF32 (force_eq forceI_eq)
open Dds.RoundPack


theorem expField_eq (b : Nat) : expField b = b / 4503599627370496 % 2048 := by
  unfold expField; rw [Nat.shiftRight_eq_div_pow]

theorem fracField_eq (b : Nat) : fracField b = b % 4503599627370496 := rfl

theorem posfin_flags (p : Nat) (h : p < posInf) :
    isNaN p = false ∧ isInf p = false ∧ isNeg p = false := by
  have he : expField p ≠ 2047 := by rw [expField_eq]; simp only [posInf] at h; omega
  refine ⟨?_, ?_, ?_⟩
  · unfold isNaN; simp [he]
  · unfold isInf; simp [he]
  · unfold isNeg signBit; simp only [posInf] at h; simp; omega

theorem mant_lt (p : Nat) : mant p < 2 ^ 53 := by
  unfold mant
  have : fracField p < 4503599627370496 := by rw [fracField_eq]; omega
  split <;> omega

theorem mant_normal (p : Nat) (h : 1 ≤ expField p) :
    mant p = fracField p + 4503599627370496 ∧ expo p = (expField p : Int) - 1075 := by
  have h0 : (expField p == 0) = false := by simp; omega
  unfold mant expo
  simp [h0]

theorem mant_subnormal (p : Nat) (h : expField p = 0) :
    mant p = fracField p ∧ expo p = -1074 := by
  unfold mant expo
  simp [h]

theorem pat_fields (E : Int) (M : Nat) (hE1 : -1022 ≤ E) (hE2 : E ≤ 1023) (hM1 : 2 ^ 52 ≤ M)
    (hM2 : M < 2 ^ 53) :
    patG 52 1022 E M < posInf ∧ mant (patG 52 1022 E M) = M ∧ expo (patG 52 1022 E M) = E - 52 := by
  unfold patG
  generalize hk : (E + (1022 : Nat)).toNat = k
  have hlt : k * 2 ^ 52 + M < posInf := by simp only [posInf]; omega
  have hEf : expField (k * 2 ^ 52 + M) = k + 1 := by
    rw [expField_eq, show (k * 2 ^ 52 + M) / 4503599627370496 = k + 1 by omega]; omega
  have hFf : fracField (k * 2 ^ 52 + M) = M - 2 ^ 52 := by
    rw [fracField_eq]; omega
  obtain ⟨m1, m2⟩ := mant_normal _ (show 1 ≤ expField (k * 2 ^ 52 + M) by omega)
  refine ⟨hlt, ?_, ?_⟩
  · rw [m1, hFf]; omega
  · rw [m2, hEf]; omega


theorem fmul_fin (a b : Nat) (ha : isNaN a = false) (ha' : isInf a = false)
    (hb : isNaN b = false) (hb' : isInf b = false) :
    fmul a b = roundPack (isNeg a != isNeg b) (mant a * mant b) (expo a + expo b) := by
  unfold fmul
  simp only [force_eq, ha, ha', hb, hb', Bool.or_self, Bool.false_eq_true, if_false]

theorem fmul_inf_left (a b : Nat) (ha : isInf a = true) (hb : isNaN b = false)
    (hb0 : isZero b = false) :
    fmul a b = if isNeg a != isNeg b then negInf else posInf := by
  have hn : isNaN a = false := by
    unfold isInf at ha
    unfold isNaN
    simp only [Bool.and_eq_true, beq_iff_eq] at ha
    simp [ha.1, ha.2]
  have hz : isZero a = false := by
    unfold isInf at ha
    unfold isZero signBit
    simp only [Bool.and_eq_true, beq_iff_eq, expField_eq] at ha
    simp only [beq_eq_false_iff_ne, ne_eq]
    omega
  unfold fmul
  simp only [force_eq, hn, ha, hb, hb0, hz, Bool.or_self, Bool.true_or, Bool.false_eq_true,
    if_false, if_true]

theorem fadd_fin (a b : Nat) (ha : isNaN a = false) (ha' : isInf a = false)
    (hb : isNaN b = false) (hb' : isInf b = false) :
    fadd a b =
      (let e := min (expo a) (expo b)
       let A : Int := (mant a <<< (expo a - e).toNat : Nat)
       let B : Int := (mant b <<< (expo b - e).toNat : Nat)
       let S := (if isNeg a then -A else A) + (if isNeg b then -B else B)
       if S == 0 then (if isNeg a && isNeg b then signBit else 0)
       else roundPack (S < 0) S.natAbs e) := by
  unfold fadd
  simp only [force_eq, forceI_eq, ha, ha', hb, hb', Bool.or_self, Bool.false_eq_true, if_false]

theorem fadd_inf_left (a b : Nat) (ha : isNaN a = false) (ha' : isInf a = true)
    (hb : isNaN b = false) (hb' : isInf b = false) : fadd a b = a := by
  unfold fadd
  simp only [force_eq, ha, ha', hb, hb', Bool.or_self, Bool.false_eq_true, if_false, if_true,
    Bool.false_and]

theorem toNatSat_of_neg (x max : Nat) (hn : isNaN x = false) (hneg : isNeg x = true) :
    toNatSat x max = 0 := by
  unfold toNatSat
  simp only [force_eq, hn, hneg, Bool.false_eq_true, if_false, if_true]

theorem toNatSat_posfin (x max : Nat) (hx : x < posInf) (he : expo x < 0) :
    toNatSat x max = min (mant x / 2 ^ (-expo x).toNat) max := by
  obtain ⟨a1, a2, a3⟩ := posfin_flags x hx
  unfold toNatSat
  simp only [force_eq, a1, a2, a3, Bool.false_eq_true, if_false, show ¬ expo x ≥ 0 by omega,
    Nat.shiftRight_eq_div_pow]
  split <;> omega


/-- **exactness.**  A value `a·2^t·2^e` whose significand `a` has at most 53 bits and whose binade
`E = ⌊log2 a⌋ + t + e` is in the normal range is represented exactly: the result has the
significand `a` shifted to 53 bits and the exponent of its last place is `E − 52`; nothing is
rounded off. -/
theorem roundPack_exact (a t : Nat) (e : Int) (ha : a ≠ 0) (ha53 : a < 2 ^ 53)
    (hlo : -1022 ≤ (Nat.log2 a : Int) + t + e) (hhi : (Nat.log2 a : Int) + t + e ≤ 1023) :
    ∃ P, roundPack false (a * 2 ^ t) e = P ∧ P < posInf ∧ mant P = a * 2 ^ (52 - Nat.log2 a) ∧
      expo P = (Nat.log2 a : Int) + t + e - 52 := by
  obtain ⟨r, r1, r2⟩ := roundPackG_exact 52 1022 a t e ha ha53 hlo hhi
  exact ⟨_, roundPack_eq .. ▸ r, pat_fields _ _ hlo hhi r1 r2⟩


/-- a negative non-NaN pattern: `-0.0` … `-∞` -/
def NegR (p : Nat) : Prop := signBit ≤ p ∧ p ≤ signBit + posInf

theorem negR_flags (p : Nat) (h : NegR p) : isNaN p = false ∧ isNeg p = true := by
  obtain ⟨h1, h2⟩ := h
  constructor
  · apply Bool.eq_false_iff.mpr
    unfold isNaN
    rw [expField_eq, fracField_eq]
    simp only [signBit, posInf] at h1 h2
    simp only [Bool.and_eq_true, beq_iff_eq, bne_iff_ne, ne_eq]
    omega
  · unfold isNeg; simpa using h1

theorem toNatSat_neg (p M : Nat) (h : NegR p) : toNatSat p M = 0 :=
  toNatSat_of_neg p M (negR_flags p h).1 (negR_flags p h).2

theorem roundPack_true_negR (m : Nat) (e : Int) : NegR (roundPack true m e) := by
  rw [roundPack_eq]
  exact roundPackG_true 52 1022 m e


theorem k65534_facts : k65534 < posInf ∧ mant k65534 = 65534 * 2 ^ 37 ∧ expo k65534 = -37 ∧
    isZero k65534 = false := by decide

theorem half_facts : isNaN half = false ∧ isInf half = false ∧ isNeg half = false ∧
    mant half = 2 ^ 52 ∧ expo half = -53 := by decide


theorem fmul_pos (x kp : Nat) (hx : x < posInf) (hk : kp < posInf) :
    fmul x kp = roundPack false (mant x * mant kp) (expo x + expo kp) := by
  obtain ⟨a1, a2, a3⟩ := posfin_flags x hx
  obtain ⟨b1, b2, b3⟩ := posfin_flags kp hk
  rw [fmul_fin x kp a1 a2 b1 b2, a3, b3]
  rfl

theorem fmul_neg (x kp : Nat) (hx : NegR x) (hk : kp < posInf) (hk0 : isZero kp = false) :
    NegR (fmul x kp) := by
  obtain ⟨a1, a2⟩ := negR_flags x hx
  obtain ⟨b1, b2, b3⟩ := posfin_flags kp hk
  by_cases hi : isInf x = true
  · rw [fmul_inf_left x kp hi b1 hk0, a2, b3]
    exact ⟨by decide, by decide⟩
  · rw [fmul_fin x kp a1 (by simpa using hi) b1 b2, a2, b3]
    exact roundPack_true_negR _ _


/-- `p + 0.5` for a non-negative finite `p`: the operands are aligned at the smaller exponent,
added exactly, and the sum is rounded once -/
theorem fadd_half (p : Nat) (hp : p < posInf) :
    fadd p half = roundPack false
      (mant p <<< (expo p - min (expo p) (-53)).toNat +
        2 ^ 52 <<< (-53 - min (expo p) (-53)).toNat) (min (expo p) (-53)) := by
  obtain ⟨a1, a2, a3⟩ := posfin_flags p hp
  obtain ⟨b1, b2, b3, b4, b5⟩ := half_facts
  rw [fadd_fin p half a1 a2 b1 b2]
  simp only [a3, b3, b4, b5, Bool.false_eq_true, if_false]
  have hB : 0 < 2 ^ 52 <<< (-53 - min (expo p) (-53)).toNat := by
    rw [Nat.shiftLeft_eq]; exact Nat.mul_pos (Nat.two_pow_pos _) (Nat.two_pow_pos _)
  generalize 2 ^ 52 <<< (-53 - min (expo p) (-53)).toNat = B at *
  generalize mant p <<< (expo p - min (expo p) (-53)).toNat = A at *
  rw [if_neg (by simp; omega), show ((A : Int) + (B : Int)).natAbs = A + B by omega,
    decide_eq_false (by omega)]

theorem fadd_neg_half (p : Nat) (hp : NegR p) : NegR (fadd p half) ∨ fadd p half ≤ half := by
  obtain ⟨a1, a2⟩ := negR_flags p hp
  obtain ⟨b1, b2, b3, b4, b5⟩ := half_facts
  by_cases hi : isInf p = true
  · rw [fadd_inf_left p half a1 hi b1 b2]; exact Or.inl hp
  rw [fadd_fin p half a1 (by simpa using hi) b1 b2]
  simp only [a2, b3, b4, b5, if_true, Bool.false_eq_true, if_false, Bool.and_false]
  generalize he : min (expo p) (-53) = e
  have hB : 2 ^ 52 <<< (-53 - e).toNat = 2 ^ 52 * 2 ^ (-53 - e).toNat := Nat.shiftLeft_eq _ _
  generalize mant p <<< (expo p - e).toNat = A
  generalize 2 ^ 52 <<< (-53 - e).toNat = B at *
  by_cases h0 : (-(A : Int) + (B : Int) == 0) = true
  · rw [if_pos h0]; exact Or.inr (Nat.zero_le _)
  rw [if_neg h0]
  have hne : -(A : Int) + (B : Int) ≠ 0 := by simpa using h0
  by_cases hneg : -(A : Int) + (B : Int) < 0
  · simp only [hneg, decide_true]
    exact Or.inl (roundPack_true_negR _ _)
  · simp only [hneg, decide_false]
    have hle : (-(A : Int) + (B : Int)).natAbs ≤ 2 ^ 52 * 2 ^ (-53 - e).toNat := by omega
    rw [roundPack_eq]
    exact Or.inr (roundPackG_le_half 52 1022 _ e (by omega) (by decide) (by omega) hle)


theorem toNatSat_lt_one (x M : Nat) (h : x < one) : toNatSat x M = 0 := by
  have hx : x < posInf := Nat.lt_trans h (by decide)
  have hexp : expo x ≤ -53 := by
    have hXle : expField x ≤ 1022 := by
      rw [expField_eq]; simp only [one] at h; omega
    by_cases hX : 1 ≤ expField x
    · rw [(mant_normal x hX).2]; omega
    · rw [(mant_subnormal x (by omega)).2]; omega
  rw [toNatSat_posfin x M hx (by omega), Nat.div_eq_of_lt
    (Nat.lt_of_lt_of_le (mant_lt x) (Nat.pow_le_pow_right (by omega) (by omega)))]
  exact Nat.zero_min M

end Dds.CF64
