/-
C04, fp16: from the checked facts about the 31 744 non-negative finite halves (`chkHalf`) to the statements about
all 65 536 half bit patterns (sign, ±0, ±∞, NaN) in terms of the model `Conv.small*` and the specification
`Spec.smallFloat`.  Symbolic; the kernel evaluation is in `Proofs/ConvF16H.lean`.
-/
import DdsModel.Proofs.ConvF16Chk
namespace Dds.ConvFast
open Dds Dds.CF32 Dds.Spec Dds.Conv
open Dds.F32.Raw (sel lz lz_eq nadd nsub nmul ndiv nmod npow nshl sel_ble sel_blt sel_beq ble_dec blt_dec beq_dec sel_dec)

theorem sat_le (b : Nat) : (if b ≥ posInf then posInf else b) ≤ posInf := by
  split <;> omega

theorem roundPack_false_le (m : Nat) (e : Int) : roundPack false m e ≤ posInf := by
  by_cases hm : m = 0
  · rw [hm, roundPack_zero]; decide
  · rw [roundPack_pos m e hm]
    exact sat_le _

theorem roundF32_le (q : Rat) (h : 0 ≤ q.num) : roundF32 q ≤ posInf := by
  rw [roundF32_unfold]
  split
  · decide
  · have : ¬ q.num < 0 := by omega
    rw [decide_eq_false this]
    exact roundPack_false_le _ _

theorem neg_of_le (r : Nat) (h : r ≤ posInf) : neg r = signBit + r := by
  unfold neg isNeg
  simp only [posInf, signBit] at *
  have : ¬ r ≥ 2147483648 := by omega
  simp only [this, decide_false, Bool.false_eq_true, if_false]
  omega

/-- fields of a 16-bit pattern; exponent and mantissa are those of the pattern without its sign bit -/
theorem half_fields (x : Nat) (hx : x < 65536) :
    hExp 10 x = x % 32768 / 1024 ∧ hMant 10 x = x % 32768 % 1024 ∧ (hNeg 10 true x = true ↔ 32768 ≤ x) ∧
    hExp 10 (x % 32768) = hExp 10 x ∧ hMant 10 (x % 32768) = hMant 10 x := by
  have e1 : ∀ y, hExp 10 y = y / 1024 % 32 := fun y => by
    unfold hExp; rw [nshr, Nat.shiftRight_eq_div_pow]; rfl
  have e2 : ∀ y, hMant 10 y = y % 1024 := fun _ => rfl
  have e3 : hNeg 10 true x = decide (x / 32768 % 2 = 1) := by
    unfold hNeg; rw [Bool.true_and, nshr, Nat.shiftRight_eq_div_pow, beq_dec]; rfl
  rw [e1, e1, e2, e2, e3, decide_eq_true_eq]
  omega

section
variable (H : ∀ y, y < 31744 → chkHalf y = true)
include H

/-- `fp16::f32`: a finite half gives the binary32 of exactly its value (a zero keeps its sign), `±∞` gives `±∞`,
a NaN gives a NaN -/
theorem half_f32_of (x : Nat) (hx : x < 65536) :
    match smallFloat 10 true x with
    | some v => smallF32 10 true x = if v = 0 then (if x < 32768 then 0 else signBit) else roundF32 v
    | none => if x % 1024 = 0 then smallF32 10 true x = (if x < 32768 then posInf else negInf)
        else isNaN (smallF32 10 true x) = true := by
  obtain ⟨f1, f2, f3, g1, g2⟩ := half_fields x hx
  rw [smallFloat_eq, smallF32_eq]
  by_cases he : hExp 10 x = 31
  · rw [if_pos he]
    simp only
    have hm : hMant 10 x = x % 1024 := by omega
    rw [he, hm]
    unfold hF32
    simp only [sel_beq, show ¬ (31 = 0) by decide, if_false, if_true]
    by_cases h0 : x % 1024 = 0
    · rw [if_pos h0, if_pos h0]
      by_cases hn : hNeg 10 true x = true
      · have : ¬ x < 32768 := by have := f3.mp hn; omega
        rw [if_pos hn, if_neg this]; decide
      · have : x < 32768 := by
          have : ¬ 32768 ≤ x := fun h => hn (f3.mpr h)
          omega
        rw [if_neg hn, if_pos this]
    · rw [if_neg h0, if_neg h0]
      split <;> decide
  · rw [if_neg he]
    simp only
    have hy : x % 32768 < 31744 := by omega
    obtain ⟨c1, -, -⟩ := chkSmall_sound 10 _ _ (H _ hy)
    rw [g1, g2] at c1
    have hD := hMagD_ne 10 (hExp 10 x)
    generalize hMagN 10 (hExp 10 x) (hMant 10 x) = N at *
    generalize hMagD 10 (hExp 10 x) = D at *
    rw [c1]
    by_cases hN : N = 0
    · have hz : mkRat (N : Int) D = 0 := by rw [hN]; exact Rat.zero_mkRat D
      rw [hz]
      by_cases hn : hNeg 10 true x = true
      · have : ¬ x < 32768 := by have := f3.mp hn; omega
        rw [if_pos hn, if_pos hn, if_pos Rat.neg_zero, if_neg this]; decide
      · have : x < 32768 := by
          have : ¬ 32768 ≤ x := fun h => hn (f3.mpr h)
          omega
        rw [if_neg hn, if_neg hn, if_pos rfl, if_pos this]; decide
    · have hnz : mkRat (N : Int) D ≠ 0 := (Rat.mkRat_ne_zero hD).mpr (by omega)
      have hpos := num_mkRat_pos N D hD hN
      by_cases hn : hNeg 10 true x = true
      · rw [if_pos hn, if_pos hn]
        have : ¬ (-(mkRat (N : Int) D) = 0) := by
          intro h
          apply hnz
          have := congrArg (fun q => -q) h
          simpa [Rat.neg_neg] using this
        rw [if_neg this, roundF32_neg _ hpos]
        exact neg_of_le _ (roundF32_le _ (by omega))
      · rw [if_neg hn, if_neg hn, if_neg hnz]

/-- `fp16::n8`: nearest 8-bit code of the value clamped to [0, 1] (tie up); `+∞` gives 255, `−∞` and NaN give 0 -/
theorem half_n8_of (x : Nat) (hx : x < 65536) :
    ((smallN8 10 true x : Nat) : Int) = match smallFloat 10 true x with
      | some v => toCode 255 v
      | none => if x % 1024 = 0 ∧ x < 32768 then 255 else 0 := by
  obtain ⟨f1, f2, f3, g1, g2⟩ := half_fields x hx
  rw [smallFloat_eq, smallN8_eq]
  by_cases he : hExp 10 x = 31
  · rw [if_pos he]
    simp only
    have hm : hMant 10 x = x % 1024 := by omega
    rw [he, hm]
    unfold hN8
    simp only [sel_beq, if_true]
    by_cases hn : hNeg 10 true x = true
    · have : ¬ x < 32768 := by have := f3.mp hn; omega
      rw [if_pos hn, if_neg (fun h => this h.2)]; rfl
    · have : x < 32768 := by
        have : ¬ 32768 ≤ x := fun h => hn (f3.mpr h)
        omega
      rw [if_neg hn]
      by_cases h0 : x % 1024 = 0
      · rw [if_pos h0, if_pos ⟨h0, this⟩]; rfl
      · rw [if_neg h0, if_neg (fun h => h0 h.1)]; rfl
  · rw [if_neg he]
    simp only
    have hy : x % 32768 < 31744 := by omega
    obtain ⟨-, c2, -⟩ := chkSmall_sound 10 _ _ (H _ hy)
    rw [g1, g2] at c2
    by_cases hn : hNeg 10 true x = true
    · rw [if_pos hn, if_pos hn, toCode_neg_mkRat]; rfl
    · rw [if_neg hn, if_neg hn, c2]

/-- `fp16::n16`: nearest 16-bit code of the value clamped to [0, 1] (tie up) EXCEPT for the four halves
`0x3801 … 0x3804`, whose code is one too high; `+∞` gives 65535, `−∞` and NaN give 0 -/
theorem half_n16_of (x : Nat) (hx : x < 65536) :
    ((smallN16 10 true x : Nat) : Int) = match smallFloat 10 true x with
      | some v => toCode 65535 v + (if 14337 ≤ x ∧ x ≤ 14340 then 1 else 0)
      | none => if x % 1024 = 0 ∧ x < 32768 then 65535 else 0 := by
  obtain ⟨f1, f2, f3, g1, g2⟩ := half_fields x hx
  rw [smallFloat_eq, smallN16_eq]
  by_cases he : hExp 10 x = 31
  · rw [if_pos he]
    simp only
    have hm : hMant 10 x = x % 1024 := by omega
    rw [he, hm]
    unfold hN16
    simp only [sel_beq, show ¬ (31 = 0) by decide, if_false, if_true]
    by_cases hn : hNeg 10 true x = true
    · have : ¬ x < 32768 := by have := f3.mp hn; omega
      rw [if_pos hn, if_neg (fun h => this h.2)]; rfl
    · have : x < 32768 := by
        have : ¬ 32768 ≤ x := fun h => hn (f3.mpr h)
        omega
      rw [if_neg hn]
      by_cases h0 : x % 1024 = 0
      · rw [if_pos h0, if_pos ⟨h0, this⟩]; rfl
      · rw [if_neg h0, if_neg (fun h => h0 h.1)]; rfl
  · rw [if_neg he]
    simp only
    have hy : x % 32768 < 31744 := by omega
    obtain ⟨-, -, c3⟩ := chkSmall_sound 10 _ _ (H _ hy)
    have hd : ((devR (x % 32768) : Nat) : Int) = if 14337 ≤ x % 32768 ∧ x % 32768 ≤ 14340 then 1 else 0 := by
      rw [devR_eq]; split <;> rfl
    rw [g1, g2, hd] at c3
    by_cases hn : hNeg 10 true x = true
    · have h32 : 32768 ≤ x := f3.mp hn
      have : ¬ (14337 ≤ x ∧ x ≤ 14340) := by omega
      rw [if_pos hn, if_pos hn, toCode_neg_mkRat, if_neg this]; rfl
    · have h32 : x < 32768 := by
        have : ¬ 32768 ≤ x := fun h => hn (f3.mpr h)
        omega
      have hxy : x % 32768 = x := Nat.mod_eq_of_lt h32
      rw [hxy] at c3
      rw [if_neg hn, if_neg hn, c3]

end
end Dds.ConvFast
