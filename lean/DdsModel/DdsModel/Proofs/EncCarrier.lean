/-
C12 carrier independence: every encoder of a plain format computes the format's `universal!` closure of
`as_rgba_f32` of the pixel (`pixelCodes_eq_uni`), and `as_rgba_f32` does not depend on the carrier
(`asRgba_*`).  The integer encoders (`Encoder::copy`, `color_convert!`, the hand-written B8G8R8* ones) are described
for the comparison by the channel selection and the quantiser they must agree with (`simpleTable`); which encoder runs
is read off `Quant.pickEncoder` over the encoder table by `decide +kernel` (`pathOk_table`, `block_uni_table`), the
agreement itself is one string-free lemma (`conv_eq_simple`: both sides are the same selection `layout` mapped over
the pixel's values, stored as they are resp. widened and quantised back) instantiated with the whole-domain scalar
facts of `Proofs/EncCarrierScalar.lean` / `Proofs/EncCarrierChk.lean`.
-/
import DdsModel.Proofs.EncCarrierScalar
import DdsModel.Proofs.ConvFloat
import DdsModel.Proofs.ConvF16All
namespace Dds.EncCarrier
open Dds Dds.CF32 Dds.Conv Dds.Quant Dds.EncTotal


/-- which channel of the RGBA `f32` pixel (or the constant `0xFF`) feeds a stored element -/
inductive Src | r | g | b | a | ff
  deriving DecidableEq, Repr

def Src.get (p : Rgba) : Src → Nat
  | .r => p.r | .g => p.g | .b => p.b | .a => p.a | .ff => 0

/-- the quantiser mapped over the selected channels -/
inductive QK | n8 | s8 | n16 | s16 | id32
  deriving DecidableEq, Repr

def QK.app : QK → Nat → Option Nat
  | .n8, x => some (QuantF32.n8 x)
  | .s8, x => QuantBits.s8 x
  | .n16, x => some (QuantF32.n16 x)
  | .s16, x => QuantBits.s16 x
  | .id32, x => some x

def elem (qk : QK) (p : Rgba) : Src → Option Nat
  | .ff => some 0xFF
  | s => qk.app (s.get p)

def mapS (f : Src → Option Nat) : List Src → Option (List Nat)
  | [] => some []
  | x :: rest =>
    match f x, mapS f rest with
    | some y, some ys => some (y :: ys)
    | _, _ => none

theorem mapS_eq_map (f : Src → Option Nat) (g : Src → Nat) :
    ∀ l : List Src, (∀ s ∈ l, f s = some (g s)) → mapS f l = some (l.map g)
  | [], _ => rfl
  | x :: rest, h => by
    unfold mapS
    rw [h x List.mem_cons_self, mapS_eq_map f g rest fun s hs => h s (List.mem_cons_of_mem _ hs)]
    rfl

def simple (qk : QK) (srcs : List Src) (p : Rgba) : Option (List Nat) := mapS (elem qk p) srcs

/-- the `universal!` closures of the 16 formats that also have an integer encoder -/
def simpleTable : List (String × QK × List Src) :=
  [("R8G8B8_UNORM", .n8, [.r, .g, .b]), ("B8G8R8_UNORM", .n8, [.b, .g, .r]),
   ("R8G8B8A8_UNORM", .n8, [.r, .g, .b, .a]), ("R8G8B8A8_SNORM", .s8, [.r, .g, .b, .a]),
   ("B8G8R8A8_UNORM", .n8, [.b, .g, .r, .a]), ("B8G8R8X8_UNORM", .n8, [.b, .g, .r, .ff]),
   ("R8_UNORM", .n8, [.r]), ("R8_SNORM", .s8, [.r]), ("A8_UNORM", .n8, [.a]),
   ("R16_UNORM", .n16, [.r]), ("R16_SNORM", .s16, [.r]),
   ("R16G16B16A16_UNORM", .n16, [.r, .g, .b, .a]), ("R16G16B16A16_SNORM", .s16, [.r, .g, .b, .a]),
   ("R32_FLOAT", .id32, [.r]), ("R32G32B32_FLOAT", .id32, [.r, .g, .b]),
   ("R32G32B32A32_FLOAT", .id32, [.r, .g, .b, .a])]

def simpleOf (name : String) : Option (QK × List Src) := (simpleTable.find? (·.1 == name)).map (·.2)

theorem simpleTable_uni : ∀ e ∈ simpleTable, ∀ (Q : Ext) (p : Rgba), uni Q e.1 p = simple e.2.1 e.2.2 p := by
  unfold simpleTable
  simp only [List.forall_mem_cons]
  exact ⟨fun _ _ => rfl, fun _ _ => rfl, fun _ _ => rfl, fun _ _ => rfl, fun _ _ => rfl, fun _ _ => rfl,
    fun _ _ => rfl, fun _ _ => rfl, fun _ _ => rfl, fun _ _ => rfl, fun _ _ => rfl, fun _ _ => rfl,
    fun _ _ => rfl, fun _ _ => rfl, fun _ _ => rfl, fun _ _ => rfl, fun _ h => absurd h List.not_mem_nil⟩

theorem uni_simple (Q : Ext) (name : String) (qk : QK) (srcs : List Src) (h : simpleOf name = some (qk, srcs))
    (p : Rgba) : uni Q name p = simple qk srcs p := by
  obtain ⟨e, he, h2⟩ := Option.map_eq_some_iff.mp h
  have hn : e.1 = name := eq_of_beq (List.find?_some (p := fun x : String × QK × List Src => x.1 == name) he)
  have := simpleTable_uni e (List.mem_of_find?_eq_some he) Q p
  rwa [hn, h2] at this

/-- the selection an integer encoder with target `t` and the fix-ups produces -/
def layout (t : Chan) (swap x8 : Bool) : List Src :=
  let l : List Src := match t with
    | .gray => [.r] | .alpha => [.a] | .rgb => [.r, .g, .b] | .rgba => [.r, .g, .b, .a]
  let l := if swap then (match l with | x :: y :: z :: rest => z :: y :: x :: rest | l => l) else l
  if x8 then (match l with | x :: y :: z :: _ :: rest => x :: y :: z :: .ff :: rest | l => l) else l

/-- the quantiser an integer encoder at precision `p` must agree with -/
def qkOf : Prec → Bool → QK
  | .u8, false => .n8 | .u8, true => .s8
  | .u16, false => .n16 | .u16, true => .s16
  | .f32, _ => .id32

/-- number of values of a precision (F32: bit patterns) -/
def precBound : Prec → Nat
  | .u8 => 256 | .u16 => 65536 | .f32 => 2 ^ 32


/-- the value an integer encoder stores for the source `s`: the channel of `convert_channels(px, Rgba)` at the
carrier's own precision (absent channels filled with `ZERO` / `ONE`), or the constant `0xFF` -/
def Src.val (p : Prec) (px : Pix) (s : Src) : Nat :=
  match s, convertChannels p .rgba px with
  | .ff, _ => 0xFF
  | .r, .rgba x _ _ _ => x
  | .g, .rgba _ x _ _ => x
  | .b, .rgba _ _ x _ => x
  | .a, .rgba _ _ _ x => x
  | _, _ => 0

/-- the integer encoder stores the layout's selection of these values -/
theorem convCodes_layout (p : Prec) (t : Chan) (sw x8 : Bool) (px : Pix) :
    convCodes p t sw x8 false px = (layout t sw x8).map (Src.val p px) := by
  cases px <;> cases t <;> cases sw <;> cases x8 <;> rfl

/-- … and what `as_rgba_f32` makes of the widened pixel is the widening of the same values, because `ZERO` and `ONE`
widen to `0.0` and `1.0` -/
theorem get_toRgba (p : Prec) (F : Nat → Nat) (h1 : F (normOne p) = CF32.one) (h0 : F 0 = 0) (px : Pix) (s : Src)
    (hs : s ≠ .ff) : s.get (toRgba (px.map F)) = F (s.val p px) := by
  cases px <;> cases s <;> first | exact absurd rfl hs | rfl | exact h1.symm | exact h0.symm

theorem val_lt (p : Prec) (n : Nat) (d1 : normOne p < n) (d0 : 0 < n) (px : Pix) (hpx : px.below n) (s : Src)
    (hs : s ≠ .ff) : s.val p px < n := by
  cases px <;> cases s <;>
    first | exact absurd rfl hs | exact hpx | exact hpx.1 | exact hpx.2.1 | exact hpx.2.2 | exact hpx.2.2.1 |
      exact hpx.2.2.2 | exact d1 | exact d0

theorem elem_of_ne (qk : QK) (p : Rgba) (s : Src) (hs : s ≠ .ff) : elem qk p s = qk.app (s.get p) := by
  cases s <;> first | exact absurd rfl hs | rfl

theorem ff_not_mem_layout (t : Chan) (sw : Bool) : Src.ff ∉ layout t sw false := by
  cases t <;> cases sw <;> decide

/-- string-free core: if the quantiser `qk` undoes the widening `F` on the domain, the integer encoder with target
`t` and fix-ups `(swap, x8, snorm)` stores what the closure `simple qk (layout t swap x8)` computes from the RGBA
`f32` pixel -/
theorem conv_eq_simple (p : Prec) (F : Nat → Nat) (n : Nat) (sn : Bool) (qk : QK)
    (hq : ∀ x, x < n → qk.app (F x) = some (if sn then snormOf p x else x))
    (h1 : F (normOne p) = CF32.one) (h0 : F 0 = 0) (d1 : normOne p < n) (d0 : 0 < n)
    (t : Chan) (sw x8 : Bool) (hx : (x8 && sn) = false) (px : Pix) (hpx : px.below n) :
    some (convCodes p t sw x8 sn px) = simple qk (layout t sw x8) (toRgba (px.map F)) := by
  have key : ∀ s, s ≠ .ff → elem qk (toRgba (px.map F)) s = some (if sn then snormOf p (s.val p px) else s.val p px) :=
    fun s hs => by rw [elem_of_ne _ _ _ hs, get_toRgba p F h1 h0 px s hs, hq _ (val_lt p n d1 d0 px hpx s hs)]
  symm
  cases sn
  · rw [convCodes_layout]
    refine mapS_eq_map _ _ _ fun s _ => ?_
    by_cases hs : s = .ff
    · subst hs; rfl
    · exact key s hs
  · have hx8 : x8 = false := by cases x8 <;> first | rfl | exact absurd hx (by decide)
    subst hx8
    have e : convCodes p t sw false true px = (convCodes p t sw false false px).map (snormOf p) := rfl
    rw [e, convCodes_layout, List.map_map]
    exact mapS_eq_map _ _ _ fun s hm => key s fun hs => ff_not_mem_layout t sw (hs ▸ hm)

/-! ### the F32 carrier of the oracle: the nearest binary32 to `v/255`, `w/65535` (C04) -/

theorem n8f32_nearest (v : Nat) (hv : v < 256) : n8f32 v = roundF32 (Spec.unorm 8 v) :=
  Dds.ConvProofs.n8f32_ok v hv

theorem n16f32_nearest (w : Nat) (hw : w < 65536) : n16f32 w = roundF32 (Spec.unorm 16 w) :=
  Dds.ConvFast.n16f32_all w hw


theorem chan_map (f : Nat → Nat) (px : Pix) : (px.map f).chan = px.chan := by cases px <;> rfl

theorem map_map (f g : Nat → Nat) (px : Pix) : (px.map f).map g = px.map fun x => g (f x) := by cases px <;> rfl

theorem map_congr (f g : Nat → Nat) (n : Nat) (h : ∀ x, x < n → f x = g x) (px : Pix) (hpx : px.below n) :
    px.map f = px.map g := by
  cases px with
  | gray x => exact congrArg Pix.gray (h x hpx)
  | alpha x => exact congrArg Pix.alpha (h x hpx)
  | rgb r g b => show Pix.rgb _ _ _ = Pix.rgb _ _ _; rw [h r hpx.1, h g hpx.2.1, h b hpx.2.2]
  | rgba r g b a => show Pix.rgba _ _ _ _ = Pix.rgba _ _ _ _; rw [h r hpx.1, h g hpx.2.1, h b hpx.2.2.1, h a hpx.2.2.2]

/-- the U16 carrier `257·v` of 8-bit values gives the same RGBA `f32` pixel as the U8 carrier -/
theorem asRgba_u16_of_u8 (px : Pix) (h : px.below 256) :
    asRgbaF32 .u16 (px.map (· * 257)) = asRgbaF32 .u8 px := by
  show toRgba ((px.map (· * 257)).map n16f32) = toRgba (px.map n8f32)
  rw [map_map, map_congr _ n8f32 256 n16f32_257 px h]

theorem asRgba_f32_of_u8 (px : Pix) : asRgbaF32 .f32 (px.map n8f32) = asRgbaF32 .u8 px := by
  cases px <;> rfl

theorem asRgba_f32_of_u16 (px : Pix) : asRgbaF32 .f32 (px.map n16f32) = asRgbaF32 .u16 px := by
  cases px <;> rfl

theorem toF32_one (p : Prec) : toF32 p (normOne p) = CF32.one := by
  cases p
  · exact norm_images.1
  · exact norm_images.2.1
  · rfl

theorem toF32_zero (p : Prec) : toF32 p 0 = 0 := by
  cases p
  · exact norm_images.2.2.1
  · exact norm_images.2.2.2
  · rfl

theorem asRgba_gray_rgb (p : Prec) (g : Nat) : asRgbaF32 p (.rgb g g g) = asRgbaF32 p (.gray g) := rfl

theorem asRgba_gray_rgba (p : Prec) (g : Nat) : asRgbaF32 p (.rgba g g g (normOne p)) = asRgbaF32 p (.gray g) := by
  show toRgba (.rgba (toF32 p g) (toF32 p g) (toF32 p g) (toF32 p (normOne p))) = toRgba (.gray (toF32 p g))
  rw [toF32_one]; rfl

theorem asRgba_rgb_rgba (p : Prec) (r g b : Nat) :
    asRgbaF32 p (.rgba r g b (normOne p)) = asRgbaF32 p (.rgb r g b) := by
  show toRgba (.rgba (toF32 p r) (toF32 p g) (toF32 p b) (toF32 p (normOne p))) =
    toRgba (.rgb (toF32 p r) (toF32 p g) (toF32 p b))
  rw [toF32_one]; rfl

theorem asRgba_alpha_rgba (p : Prec) (a : Nat) : asRgbaF32 p (.rgba 0 0 0 a) = asRgbaF32 p (.alpha a) := by
  show toRgba (.rgba (toF32 p 0) (toF32 p 0) (toF32 p 0) (toF32 p a)) = toRgba (.alpha (toF32 p a))
  rw [toF32_zero]; rfl


/-- the encoder picked for (`name`, `ch`, `p`) is the universal one, or an integer encoder whose target / fix-ups /
SNORM flag are those of the closure `simpleOf name` -/
def pathOk (name : String) (p : Prec) (ch : Chan) : Bool :=
  match pathOf name ⟨ch, p⟩ with
  | .uni => true
  | .copy => decide (simpleOf name = some (qkOf p false, layout ch false false))
  | .conv t sw x8 sn =>
    !(x8 && sn) && !(sn && decide (p = .f32)) && decide (simpleOf name = some (qkOf p sn, layout t sw x8))
  | .bad => false

/-- `pathOk` on a list of formats, all 12 colour formats -/
def pathOkOn (names : List String) : Bool :=
  names.all fun name => [Prec.u8, .u16, .f32].all fun p => [Chan.gray, .alpha, .rgb, .rgba].all fun ch => pathOk name p ch

theorem pathOk_table : pathOkOn plainNames = true := by decide +kernel

theorem pathOk_all (name : String) (h : name ∈ plainNames) (p : Prec) (ch : Chan) : pathOk name p ch = true := by
  have h1 := List.all_eq_true.mp pathOk_table name h
  have h2 := List.all_eq_true.mp h1 p (by cases p <;> decide)
  exact List.all_eq_true.mp h2 ch (by cases ch <;> decide)

theorem qk_spec (p : Prec) (sn : Bool) (hs : (sn && decide (p = .f32)) = false) (x : Nat) (hx : x < precBound p) :
    (qkOf p sn).app (toF32 p x) = some (if sn then snormOf p x else x) := by
  cases p <;> cases sn
  · simp only [qkOf, QK.app, toF32, Bool.false_eq_true, if_false]; rw [n8_n8f32 x hx]
  · simp only [qkOf, QK.app, toF32, if_true, snormOf]; exact s8_n8f32 x hx
  · simp only [qkOf, QK.app, toF32, Bool.false_eq_true, if_false]; rw [n16_n16f32 x hx]
  · simp only [qkOf, QK.app, toF32, if_true, snormOf]; exact s16_n16f32 x hx
  · simp only [qkOf, QK.app, toF32, Bool.false_eq_true, if_false, id]
  · simp at hs

theorem normOne_lt (p : Prec) : normOne p < precBound p := by cases p <;> decide
theorem precBound_pos (p : Prec) : 0 < precBound p := by cases p <;> decide

theorem convCodes_self (p : Prec) (px : Pix) : convCodes p px.chan false false false px = px.vals := by
  cases px <;> rfl

/-- NORMAL FORM: whichever encoder `pick_encoder` selects for the colour format of the image, the stored elements
of a pixel are the `universal!` closure of `as_rgba_f32` of the pixel -/
theorem pixelCodes_eq_uni (Q : Ext) (name : String) (p : Prec) (px : Pix) (hok : pathOk name p px.chan = true)
    (hpx : px.below (precBound p)) : pixelCodes Q name p px = uni Q name (asRgbaF32 p px) := by
  unfold pixelCodes
  unfold pathOk at hok
  generalize pathOf name ⟨px.chan, p⟩ = path at hok
  cases path with
  | uni => rfl
  | bad => simp at hok
  | copy =>
    simp only [decide_eq_true_eq] at hok
    rw [uni_simple Q name _ _ hok]
    show some px.vals = _
    rw [← convCodes_self p px]
    exact conv_eq_simple p (toF32 p) (precBound p) false _ (qk_spec p false (by simp)) (toF32_one p) (toF32_zero p)
      (normOne_lt p) (precBound_pos p) px.chan false false (by simp) px hpx
  | conv t sw x8 sn =>
    simp only [Bool.and_eq_true, Bool.not_eq_true', decide_eq_true_eq] at hok
    obtain ⟨⟨h1, h2⟩, h3⟩ := hok
    rw [uni_simple Q name _ _ h3]
    exact conv_eq_simple p (toF32 p) (precBound p) sn _ (qk_spec p sn h2) (toF32_one p) (toF32_zero p)
      (normOne_lt p) (precBound_pos p) t sw x8 h1 px hpx

theorem below_map (f : Nat → Nat) (n m : Nat) (h : ∀ x, x < n → f x < m) (px : Pix) (hpx : px.below n) :
    (px.map f).below m := by
  cases px with
  | gray g => exact h g hpx
  | alpha a => exact h a hpx
  | rgb r g b => exact ⟨h r hpx.1, h g hpx.2.1, h b hpx.2.2⟩
  | rgba r g b a => exact ⟨h r hpx.1, h g hpx.2.1, h b hpx.2.2.1, h a hpx.2.2.2⟩

theorem pixelCodes_normal (Q : Ext) (name : String) (hn : name ∈ plainNames) (p : Prec) (px : Pix)
    (hpx : px.below (precBound p)) : pixelCodes Q name p px = uni Q name (asRgbaF32 p px) :=
  pixelCodes_eq_uni Q name p px (pathOk_all name hn p px.chan) hpx

/-- 8-bit values: the U16 (`257·v`) and F32 (`n8::f32 v`) carriers store what the U8 carrier stores -/
theorem codes_u8 (Q : Ext) (name : String) (hn : name ∈ plainNames) (px : Pix) (hpx : px.below 256) :
    pixelCodes Q name .u16 (px.map n8_n16) = pixelCodes Q name .u8 px ∧
    pixelCodes Q name .f32 (px.map n8f32) = pixelCodes Q name .u8 px := by
  have b16 : (px.map n8_n16).below (precBound .u16) :=
    below_map _ 256 65536 (fun x hx => by unfold n8_n16; omega) px hpx
  have b32 : (px.map n8f32).below (precBound .f32) := below_map _ 256 (2 ^ 32) n8f32_lt px hpx
  rw [pixelCodes_normal Q name hn .u16 _ b16, pixelCodes_normal Q name hn .f32 _ b32,
    pixelCodes_normal Q name hn .u8 px hpx, asRgba_f32_of_u8]
  have e : px.map n8_n16 = px.map (· * 257) := rfl
  rw [e, asRgba_u16_of_u8 px hpx]
  exact ⟨rfl, rfl⟩

/-- 16-bit values: the F32 carrier (`n16::f32 w`) stores what the U16 carrier stores -/
theorem codes_u16 (Q : Ext) (name : String) (hn : name ∈ plainNames) (px : Pix) (hpx : px.below 65536) :
    pixelCodes Q name .f32 (px.map n16f32) = pixelCodes Q name .u16 px := by
  have b32 : (px.map n16f32).below (precBound .f32) := below_map _ 65536 (2 ^ 32) n16f32_lt px hpx
  rw [pixelCodes_normal Q name hn .f32 _ b32, pixelCodes_normal Q name hn .u16 px hpx, asRgba_f32_of_u16]

theorem normOne_lt' (p : Prec) : normOne p < precBound p := normOne_lt p

/-- the same colour in a wider channel layout stores the same elements -/
theorem codes_channels (Q : Ext) (name : String) (hn : name ∈ plainNames) (p : Prec) (r g b a : Nat)
    (hr : r < precBound p) (hg : g < precBound p) (hb : b < precBound p) (ha : a < precBound p) :
    pixelCodes Q name p (.rgb g g g) = pixelCodes Q name p (.gray g) ∧
    pixelCodes Q name p (.rgba g g g (normOne p)) = pixelCodes Q name p (.gray g) ∧
    pixelCodes Q name p (.rgba r g b (normOne p)) = pixelCodes Q name p (.rgb r g b) ∧
    pixelCodes Q name p (.rgba 0 0 0 a) = pixelCodes Q name p (.alpha a) := by
  have h1 := normOne_lt p
  have h0 := precBound_pos p
  rw [pixelCodes_normal Q name hn p (.rgb g g g) ⟨hg, hg, hg⟩,
    pixelCodes_normal Q name hn p (.gray g) hg,
    pixelCodes_normal Q name hn p (.rgba g g g (normOne p)) ⟨hg, hg, hg, h1⟩,
    pixelCodes_normal Q name hn p (.rgba r g b (normOne p)) ⟨hr, hg, hb, h1⟩,
    pixelCodes_normal Q name hn p (.rgb r g b) ⟨hr, hg, hb⟩,
    pixelCodes_normal Q name hn p (.rgba 0 0 0 a) ⟨h0, h0, h0, ha⟩,
    pixelCodes_normal Q name hn p (.alpha a) ha,
    asRgba_gray_rgb, asRgba_gray_rgba, asRgba_rgb_rgba, asRgba_alpha_rgba]
  exact ⟨rfl, rfl, rfl, rfl⟩

/-! ### sub-sampled and bi-planar formats: universal encoders only -/

theorem block_uni_table : (blockNames.all fun name => [Prec.u8, .u16, .f32].all fun p =>
    [Chan.gray, .alpha, .rgb, .rgba].all fun ch => decide (pathOf name ⟨ch, p⟩ = .uni)) = true := by decide +kernel

theorem block_uni (name : String) (h : name ∈ blockNames) (p : Prec) (ch : Chan) : pathOf name ⟨ch, p⟩ = .uni := by
  have h1 := List.all_eq_true.mp block_uni_table name h
  have h2 := List.all_eq_true.mp h1 p (by cases p <;> decide)
  exact of_decide_eq_true (List.all_eq_true.mp h2 ch (by cases ch <;> decide))

theorem blockCodes_eq_uni (Q : Ext) (name : String) (h : name ∈ blockNames) (p : Prec) (ch : Chan) (pxs : List Pix) :
    blockCodes Q name p ch pxs = uniBlock Q name (pxs.map (asRgbaF32 p)) := by
  unfold blockCodes
  rw [block_uni name h p ch]

theorem map_asRgba_u16_of_u8 (pxs : List Pix) (h : ∀ px ∈ pxs, px.below 256) :
    (pxs.map (Pix.map n8_n16)).map (asRgbaF32 .u16) = pxs.map (asRgbaF32 .u8) := by
  rw [List.map_map]
  apply List.map_congr_left
  intro px hm
  exact asRgba_u16_of_u8 px (h px hm)

theorem map_asRgba_f32_of_u8 (pxs : List Pix) :
    (pxs.map (Pix.map n8f32)).map (asRgbaF32 .f32) = pxs.map (asRgbaF32 .u8) := by
  rw [List.map_map]
  apply List.map_congr_left
  intro px _
  exact asRgba_f32_of_u8 px

theorem map_asRgba_f32_of_u16 (pxs : List Pix) :
    (pxs.map (Pix.map n16f32)).map (asRgbaF32 .f32) = pxs.map (asRgbaF32 .u16) := by
  rw [List.map_map]
  apply List.map_congr_left
  intro px _
  exact asRgba_f32_of_u16 px

end Dds.EncCarrier
