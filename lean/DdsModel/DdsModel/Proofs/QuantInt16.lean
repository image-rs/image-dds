/-
The 16-bit integer paths of formats.rs (multiply, add, shift) are the closed form `qRatio` of the quantiser.
-/
import DdsModel.Proofs.Quant
namespace Dds.Quant

/-- `n16::n8`: with `k = (x + 128) / 257` both sides are `k` -/
theorem n16_n8_eq (x : Nat) (hx : x < 65536) : n16_n8 x = qRatio 255 x 65535 := by
  unfold n16_n8 qRatio
  rw [Nat.shiftRight_eq_div_pow]
  omega

/-- `s16::from_n16`: `x·65534 + 65534 = 65536·x + (65534 − 2x)`, and `2·x·65534 + 65535 = 131070·x + (65535 − 2x)`:
both quotients are `x` up to `x = 32767` and `x − 1` above -/
theorem s16_norm_from_n16_eq (x : Nat) (hx : x < 65536) : s16_norm_from_n16 x = qRatio 65534 x 65535 := by
  unfold s16_norm_from_n16 qRatio
  by_cases h : x < 32768
  · have a : (x * 65534 + 65534) >>> 16 = x := by omega
    have b : (2 * x * 65534 + 65535) / (2 * 65535) = x := by omega
    rw [a, b]
  · have a : (x * 65534 + 65534) >>> 16 = x - 1 := by omega
    have b : (2 * x * 65534 + 65535) / (2 * 65535) = x - 1 := by omega
    rw [a, b]

theorem snormNorm16_le (c : Nat) : snormNorm 16 c ≤ 65534 := by
  unfold snormNorm
  omega

/-- `s16::n16`: `t·65538 + 2 = 65536·t + 2(t + 1)` and `2·t·65535 + 65534 = 131068·t + (2t + 65534)`:
both quotients are `t` below `t = 32767` and `t + 1` from there on -/
theorem s16_n16_eq (c : Nat) : s16_n16 c = qRatio 65535 (snormNorm 16 c) 65534 := by
  have ht := snormNorm16_le c
  unfold s16_n16 qRatio
  generalize snormNorm 16 c = t at *
  by_cases h : t < 32767
  · have a : (t * 65538 + 2) >>> 16 = t := by omega
    have b : (2 * t * 65535 + 65534) / (2 * 65534) = t := by omega
    rw [a, b]
  · have a : (t * 65538 + 2) >>> 16 = t + 1 := by omega
    have b : (2 * t * 65535 + 65534) / (2 * 65534) = t + 1 := by omega
    rw [a, b]

/-- A multiply-add-divide `(t·p + q) / r` equals the quantiser `qRatio L t D` on `t ≤ D` as soon as it does at both
ends of each of the `L + 1` steps of `qRatio L · D` (step `k` is `lo k ≤ t ≤ hi k`), because `t·p + q` is monotone. -/
theorem div_eq_qRatio_of_steps (p q r L D : Nat) (hL : 0 < L) (hD : 0 < D)
    (h : ∀ k, k ≤ L → r * k ≤ (2 * D * k - D + (2 * L - 1)) / (2 * L) * p + q ∧
      min D ((2 * D * (k + 1) - D - 1) / (2 * L)) * p + q < r * k + r) :
    ∀ t, t ≤ D → (t * p + q) / r = qRatio L t D := by
  intro t ht
  obtain ⟨h1, h2⟩ := h _ (qRatio_le D L t hD ht)
  unfold qRatio at *
  have a1 := Nat.div_mul_le_self (2 * t * L + D) (2 * D)
  have a2 := Nat.lt_div_mul_add (a := 2 * t * L + D) (b := 2 * D) (by omega)
  generalize (2 * t * L + D) / (2 * D) = k at *
  have e1 : k * (2 * D) = 2 * (D * k) := by ac_rfl
  have e2 : 2 * D * k = 2 * (D * k) := by ac_rfl
  have e3 : 2 * D * (k + 1) = 2 * (D * k) + 2 * D := by rw [Nat.mul_add, Nat.mul_one, e2]
  have e4 : 2 * t * L = 2 * (t * L) := by ac_rfl
  have e5 : (t + 1) * (2 * L) = 2 * (t * L) + 2 * L := by rw [Nat.succ_mul]; ac_rfl
  have e6 : t * (2 * L) = 2 * (t * L) := by ac_rfl
  rw [e1, e4] at a1 a2
  have lo : (2 * D * k - D + (2 * L - 1)) / (2 * L) ≤ t := by
    rw [← Nat.lt_succ_iff, Nat.div_lt_iff_lt_mul (by omega), e2, e5]; omega
  have hi : t ≤ min D ((2 * D * (k + 1) - D - 1) / (2 * L)) := by
    rw [Nat.le_min, Nat.le_div_iff_mul_le (by omega), e3, e6]; omega
  have := Nat.mul_le_mul_right p lo
  have := Nat.mul_le_mul_right p hi
  apply div_eq_of_bounds
  all_goals rw [Nat.mul_comm k r]
  all_goals omega

/-- `s16::n8`: the constants 65282 and 8388354 approximate `255 / 65534` and `1/2` on 24 fractional bits; that the
error never crosses an integer is a fact about these constants, evaluated at the ends of the 256 steps -/
theorem s16_n8_shift : ∀ t, t ≤ 65534 → (t * 65282 + 8388354) >>> 24 = qRatio 255 t 65534 := by
  intro t ht
  rw [Nat.shiftRight_eq_div_pow]
  exact div_eq_qRatio_of_steps 65282 8388354 (2 ^ 24) 255 65534 (by decide) (by decide)
    (forall_le_of_allRange (d := 2) (by decide +kernel)) t ht

theorem s16_n8_eq (c : Nat) : s16_n8 c = qRatio 255 (snormNorm 16 c) 65534 :=
  s16_n8_shift _ (snormNorm16_le c)

end Dds.Quant
