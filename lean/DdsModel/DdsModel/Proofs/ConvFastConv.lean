/-
The conversions of `formats.rs` that evaluate in `f32` — `(x as f32 * K0) * K1` (`n4 … n10`, `s8`, `s16`), `n16::f32`,
the small floats `fp16`/`fp11`/`fp10` and R9G9B9E5 at all three precisions — on the kernel-friendly operations of
`Proofs/ConvFast.lean`, each proved equal to the model function of `Conv.lean` for ALL arguments, and their rational
specifications as explicit fractions.
-/
import DdsModel.Proofs.ConvFastSpec
import DdsModel.Proofs.F32ThrFast
import DdsModel.Proofs.F32Err
import DdsModel.Conv
import DdsModel.Proofs.ConvInt
namespace Dds.ConvFast
open Dds Dds.CF32 Dds.Spec Dds.Conv
open Dds.F32Mono (pipe)
open Dds.F32Thr (pipeF pipeF_eq)
open Dds.F32.Raw (sel lz lz_eq nadd nsub nmul ndiv nmod npow nshl sel_ble sel_blt sel_beq ble_dec blt_dec beq_dec sel_dec)


/-- `(x as f32 * K0) * K1`: the first product, of two integers below `2^24`, is `(x·K0) as f32` (`fmul_ofNat`) -/
def mulKR (x k0 k1 : Nat) : Nat :=
  sel (Nat.beq (Nat.add (Nat.div x 16777216) (Nat.div k0 16777216)) 0)
    (mulR (ofNatR (Nat.mul x k0)) k1) (mulR (mulR (ofNatR x) (ofNatR k0)) k1)

theorem mulKR_eq (x k0 k1 : Nat) : mulKR x k0 k1 = mulK x k0 k1 := by
  unfold mulKR mulK
  rw [mulR_eq, mulR_eq, mulR_eq, ofNatR_eq, ofNatR_eq, ofNatR_eq, sel_beq, nadd, ndiv, ndiv, nmul]
  split
  · rw [F32Err.fmul_ofNat x k0 (by omega) (by omega)]
  · rfl

def n16R (x : Nat) : Nat :=
  lz (ofNatR x) fun t => addR (mulR t c0_n16) (mulR t c1_n16)

theorem n16R_eq (x : Nat) : n16R x = n16f32 x := by
  unfold n16R n16f32
  rw [lz_eq, addR_eq, mulR_eq, mulR_eq, ofNatR_eq]

theorem unorm_eq (n v D : Nat) (hD : 2 ^ n - 1 = D) : unorm n v = mkRat v D := by
  unfold unorm
  rw [hD, mkRat_eq_natDiv]

theorem unorm16_eq (v : Nat) : unorm 16 v = mkRat v 65535 := unorm_eq 16 v 65535 rfl

/-- SNORM with `2^(n-1) = P`: the numerator is `sN::norm`, `(v + P) mod 2P` less one (saturating) -/
theorem snorm_eq (n v P : Nat) (hP : 2 ^ (n - 1) = P) (hP2 : 2 ^ n = 2 * P) (h1 : 1 < P) (hv : v < 2 * P) :
    snorm n v = mkRat (((v + P) % (2 * P) - 1 : Nat) : Int) (2 * P - 2) := by
  have hn : 2 ≤ n := by
    rcases Nat.lt_or_ge n 2 with h | h
    · have : n - 1 = 0 := by omega
      rw [this] at hP
      omega
    · exact h
  rw [ConvProofs.snorm_eq n v hn (by rw [hP2]; exact hv), Quant.snormNorm, Quant.snormLevels, hP, hP2]
  exact (mkRat_eq_natDiv _ _).symm

theorem snorm16_eq (v : Nat) (hv : v < 65536) : snorm 16 v = mkRat (s16norm v) 65534 :=
  snorm_eq 16 v 32768 rfl rfl (by decide) hv

/-! ### small floats: 5 exponent bits, `mb` mantissa bits (`fp16`: 10 and a sign, `fp11`: 6, `fp10`: 5) -/

def hExp (mb x : Nat) : Nat := Nat.mod (Nat.shiftRight x mb) 32
def hMant (mb x : Nat) : Nat := Nat.mod x (Nat.pow 2 mb)
def hNeg (mb : Nat) (signed : Bool) (x : Nat) : Bool :=
  signed && Nat.beq (Nat.mod (Nat.shiftRight x (Nat.add mb 5)) 2) 1

theorem hExp_eq (mb x : Nat) : (x >>> mb) % 32 = hExp mb x := rfl
theorem hMant_eq (mb x : Nat) : x % 2 ^ mb = hMant mb x := rfl
theorem hNeg_eq (mb : Nat) (signed : Bool) (x : Nat) :
    (signed && (x >>> (mb + 5)) % 2 == 1) = hNeg mb signed x := by
  unfold hNeg
  rw [beq_dec]
  rfl

/-- `two_powi(a − b)` -/
def twoPowiR (a b : Nat) : Nat := Nat.shiftLeft (Nat.sub (Nat.add a 127) b) 23

theorem twoPowiR_eq (a b : Nat) : twoPowiR a b = twoPowi ((a : Int) - (b : Int)) := by
  unfold twoPowiR twoPowi
  rw [nshl, nsub, nadd]
  congr 1
  omega

/-- `smallNormal mb exp mant` -/
def normR (mb exp mant : Nat) : Nat :=
  mulR (addR (ofNatR mant) (ofNatR (Nat.pow 2 mb))) (twoPowiR exp (Nat.add 15 mb))

theorem normR_eq (mb exp mant : Nat) : normR mb exp mant = smallNormal mb exp mant := by
  unfold normR smallNormal
  rw [mulR_eq, addR_eq, ofNatR_eq, ofNatR_eq, twoPowiR_eq]
  rfl

/-- magnitude of `fpN::f32` -/
def hF32 (mb exp mant : Nat) : Nat :=
  sel (Nat.beq exp 0) (mulR (ofNatR mant) (twoPowiR 0 (Nat.add 14 mb)))
    (sel (Nat.beq exp 31) (sel (Nat.beq mant 0) posInf nan) (normR mb exp mant))

theorem hF32_eq (mb exp mant : Nat) : hF32 mb exp mant =
    (if (exp == 0) = true then fmul (ofNat mant) (twoPowi (-((14 + mb : Nat) : Int)))
      else if (exp != 31) = true then smallNormal mb exp mant
      else if (mant == 0) = true then posInf else nan) := by
  unfold hF32
  have : -((14 + mb : Nat) : Int) = ((0 : Nat) : Int) - ((14 + mb : Nat) : Int) := by omega
  rw [sel_beq, sel_beq, sel_beq, mulR_eq, ofNatR_eq, normR_eq, twoPowiR_eq, this]
  simp only [beq_iff_eq, bne_iff_ne, ne_eq, ite_not]
  rfl

theorem smallF32_eq (mb : Nat) (signed : Bool) (x : Nat) : smallF32 mb signed x =
    if hNeg mb signed x = true then neg (hF32 mb (hExp mb x) (hMant mb x)) else hF32 mb (hExp mb x) (hMant mb x) := by
  rw [hF32_eq, ← hExp_eq, ← hMant_eq, ← hNeg_eq]
  rfl

/-- `(v * MAX + 0.5) as uN` -/
def scaleR (v mx : Nat) : Nat := pipeF (ofNatR mx) mx v

theorem scaleR_eq (v mx : Nat) : scaleR v mx = toNatSat (fadd (fmul v (ofNat mx)) half) mx := by
  unfold scaleR
  rw [pipeF_eq, ofNatR_eq]
  rfl

/-- `fpN::n8` of a non-negative code -/
def hN8 (mb exp mant : Nat) : Nat :=
  sel (Nat.beq exp 31) (sel (Nat.beq mant 0) 255 0) (scaleR (normR mb exp mant) 255)

theorem hN8_eq (mb exp mant : Nat) : hN8 mb exp mant =
    (if (exp != 31) = true then toNatSat (fadd (fmul (smallNormal mb exp mant) (ofNat 255)) half) 255
      else if (mant == 0) = true then 255 else 0) := by
  unfold hN8
  rw [sel_beq, sel_beq, scaleR_eq, normR_eq]
  simp only [beq_iff_eq, bne_iff_ne, ne_eq, ite_not]

theorem smallN8_eq (mb : Nat) (signed : Bool) (x : Nat) :
    smallN8 mb signed x = if hNeg mb signed x = true then 0 else hN8 mb (hExp mb x) (hMant mb x) := by
  rw [hN8_eq, ← hExp_eq, ← hMant_eq, ← hNeg_eq]
  rfl

/-- `fpN::n16` of a non-negative code -/
def hN16 (mb exp mant : Nat) : Nat :=
  sel (Nat.beq exp 0)
    (sel (Nat.beq mb 10) (pipeF kDenorm16 65535 (ofNatR mant))
      (sel (Nat.beq mb 6) (fp11DenormN16 mant) (fp10DenormN16 mant)))
    (sel (Nat.beq exp 31) (sel (Nat.beq mant 0) 65535 0) (scaleR (normR mb exp mant) 65535))

theorem hN16_eq (mb exp mant : Nat) : hN16 mb exp mant =
    (if (exp == 0) = true then
        (if (mb == 10) = true then toNatSat (fadd (fmul (ofNat mant) kDenorm16) half) 65535
          else if (mb == 6) = true then fp11DenormN16 mant else fp10DenormN16 mant)
      else if (exp != 31) = true then
        toNatSat (fadd (fmul (smallNormal mb exp mant) (ofNat 65535)) half) 65535
      else if (mant == 0) = true then 65535 else 0) := by
  unfold hN16
  rw [sel_beq, sel_beq, sel_beq, sel_beq, sel_beq, pipeF_eq, ofNatR_eq, scaleR_eq, normR_eq]
  unfold pipe
  simp only [beq_iff_eq, bne_iff_ne, ne_eq, ite_not]

theorem smallN16_eq (mb : Nat) (signed : Bool) (x : Nat) :
    smallN16 mb signed x = if hNeg mb signed x = true then 0 else hN16 mb (hExp mb x) (hMant mb x) := by
  rw [hN16_eq, ← hExp_eq, ← hMant_eq, ← hNeg_eq]
  rfl

/-! ### `M · 2^(a − b)` as a fraction -/

def scaleN (M a b : Nat) : Nat := sel (Nat.ble b a) (Nat.mul M (Nat.pow 2 (Nat.sub a b))) M
def scaleD (a b : Nat) : Nat := sel (Nat.ble b a) 1 (Nat.pow 2 (Nat.sub b a))

theorem scaleD_ne (a b : Nat) : scaleD a b ≠ 0 := by
  unfold scaleD
  rw [sel_ble, npow, nsub]
  have : 0 < 2 ^ (b - a) := Nat.pow_pos (by decide)
  split <;> omega

theorem natCast_mul_pow2_sub (M a b : Nat) :
    (M : Rat) * CF32.pow2 ((a : Int) - (b : Int)) = mkRat (scaleN M a b) (scaleD a b) := by
  unfold scaleN scaleD
  rw [sel_ble, sel_ble, nmul, npow, npow, nsub, nsub, pow2_eq, F32.Fast.natCast_mul_pow2]
  by_cases h : b ≤ a
  · have h0 : (0 : Int) ≤ (a : Int) - (b : Int) := by omega
    have h1 : ((a : Int) - (b : Int)).toNat = a - b := by omega
    rw [if_pos h0, if_pos h, if_pos h, h1]
  · have h0 : ¬ (0 : Int) ≤ (a : Int) - (b : Int) := by omega
    have h1 : (-((a : Int) - (b : Int))).toNat = b - a := by omega
    rw [if_neg h0, if_neg h, if_neg h, h1]

/-! the value of a small float as a fraction: a subnormal has the scale of exponent 1 and no hidden bit -/

/-- numerator of the magnitude (`exp < 31`) -/
def hMagN (mb exp mant : Nat) : Nat :=
  scaleN (sel (Nat.beq exp 0) mant (Nat.add (Nat.pow 2 mb) mant)) (sel (Nat.beq exp 0) 1 exp) (Nat.add 15 mb)
/-- denominator of the magnitude -/
def hMagD (mb exp : Nat) : Nat := scaleD (sel (Nat.beq exp 0) 1 exp) (Nat.add 15 mb)

theorem hMagD_ne (mb exp : Nat) : hMagD mb exp ≠ 0 := scaleD_ne _ _

theorem smallFloat_eq (mb : Nat) (signed : Bool) (x : Nat) : smallFloat mb signed x =
    if hExp mb x = 31 then none else
      some (if hNeg mb signed x = true then -(mkRat (hMagN mb (hExp mb x) (hMant mb x)) (hMagD mb (hExp mb x)))
        else mkRat (hMagN mb (hExp mb x) (hMant mb x)) (hMagD mb (hExp mb x))) := by
  unfold smallFloat
  simp only [hExp_eq, hMant_eq, hNeg_eq, beq_iff_eq]
  have : (if hExp mb x = 0 then ((hMant mb x : Nat) : Rat) * CF32.pow2 (-((14 + mb : Nat) : Int))
      else ((2 ^ mb + hMant mb x : Nat) : Rat) * CF32.pow2 ((hExp mb x : Int) - ((15 + mb : Nat) : Int))) =
      mkRat (hMagN mb (hExp mb x) (hMant mb x)) (hMagD mb (hExp mb x)) := by
    unfold hMagN hMagD
    rw [sel_beq, sel_beq, nadd, nadd, npow]
    generalize hExp mb x = e
    generalize hMant mb x = m
    by_cases h0 : e = 0
    · have : -((14 + mb : Nat) : Int) = ((1 : Nat) : Int) - ((15 + mb : Nat) : Int) := by omega
      rw [if_pos h0, if_pos h0, if_pos h0, this, natCast_mul_pow2_sub]
    · rw [if_neg h0, if_neg h0, if_neg h0, natCast_mul_pow2_sub]
  rw [this]


def sharedF32R (exp mant : Nat) : Nat := mulR (ofNatR mant) (twoPowiR exp 24)
def sharedN8R (exp mant : Nat) : Nat := pipeF (mulR (twoPowiR exp 24) (ofNatR 255)) 255 (ofNatR mant)
def sharedN16R (exp mant : Nat) : Nat := pipeF (mulR (twoPowiR exp 24) (ofNatR 65535)) 65535 (ofNatR mant)

theorem sharedR_eq (exp mant : Nat) : sharedF32R exp mant = sharedF32 exp mant ∧
    sharedN8R exp mant = sharedN8 exp mant ∧ sharedN16R exp mant = sharedN16 exp mant := by
  unfold sharedF32R sharedN8R sharedN16R
  rw [pipeF_eq, pipeF_eq, mulR_eq, mulR_eq, mulR_eq, ofNatR_eq, ofNatR_eq, ofNatR_eq, twoPowiR_eq]
  exact ⟨rfl, rfl, rfl⟩

theorem sharedExp_eq (exp mant : Nat) : sharedExp exp mant = mkRat (scaleN mant exp 24) (scaleD exp 24) :=
  natCast_mul_pow2_sub mant exp 24

end Dds.ConvFast
