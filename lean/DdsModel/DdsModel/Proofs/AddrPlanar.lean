/-
Bi-planar family of the addressing model (C05), for every sub-sampling `(ssx, ssy)` with `ssx, ssy ≥ 1`.

One row: `process_bi_planar_helper` and `ChannelConversionBuffer::process_bi_planar` meet one
contract (`PlRowSpec`), composed from column windows as on the block side (`PlRowSpec.shift`).
The line loops of `for_each_bi_planar_rect` are characterised by membership (`mem_planarRect`);
`for_each_bi_planar` is the rectangle decode of the whole surface (`planarFull_eq_rect`).
-/
import DdsModel.Proofs.AddrBlock
namespace Dds.Addr
open Dds


/-- contract of one `process_bi_planar` call on a row of `width` pixels whose first pixel sits at
position `offset` inside its macro pixel: every run stays in the row, reads luma sample `col + t` of
the plane-1 slice for output pixel `col + t`, feeds slots `px .. px+n` of ONE macro pixel
(`px + n ≤ ssx`), and that macro pixel is chroma sample `cx` of the plane-2 slice with
`cx·ssx ≤ offset + col` and `offset + col + n ≤ (cx+1)·ssx`, i.e. `cx = (offset + c) / ssx` for every
pixel `c` of the run; every pixel of the row is written.  (Only the offset run of a row of no pixels
is empty.) -/
structure PlRowSpec (ssx offset width yoff : Nat) (runs : List PlRun) : Prop where
  sound : ∀ r ∈ runs, r.row = 0 ∧ r.ly = 0 ∧ r.cy = 0 ∧ r.yoff = yoff ∧ r.col + r.n ≤ width ∧ r.lx = r.col ∧
    r.px + r.n ≤ ssx ∧ r.cx * ssx ≤ offset + r.col ∧ offset + r.col + r.n ≤ (r.cx + 1) * ssx ∧
    (offset = 0 → 0 < r.n)
  cover : ∀ c, c < width → ∃ r ∈ runs, r.col ≤ c ∧ c < r.col + r.n

/-- A contract for `w'` pixels that start on a macro-pixel boundary, used for the pixels
`[dc, dc + w')` of a row at `offset` whose chroma sample `du` starts at pixel `dc`. -/
theorem PlRowSpec.shift {ssx w' width offset yoff dc du : Nat} {A : List PlRun}
    (hA : PlRowSpec ssx 0 w' yoff A) (hw : dc + w' ≤ width) (hu : 0 < w' → du * ssx = offset + dc) :
    (∀ r ∈ A.map (PlRun.shift 0 dc dc 0 du 0), r.row = 0 ∧ r.ly = 0 ∧ r.cy = 0 ∧ r.yoff = yoff ∧
      r.col + r.n ≤ width ∧ r.lx = r.col ∧ r.px + r.n ≤ ssx ∧ r.cx * ssx ≤ offset + r.col ∧
      offset + r.col + r.n ≤ (r.cx + 1) * ssx ∧ (offset = 0 → 0 < r.n)) ∧
    (∀ c, dc ≤ c → c < dc + w' → ∃ r ∈ A.map (PlRun.shift 0 dc dc 0 du 0), r.col ≤ c ∧ c < r.col + r.n) := by
  constructor
  · intro r hr
    obtain ⟨r0, hr0, rfl⟩ := List.mem_map.1 hr
    have s := hA.sound r0 hr0
    have e1 : (r0.cx + du) * ssx = r0.cx * ssx + du * ssx := Nat.add_mul _ _ _
    have e2 : (r0.cx + du + 1) * ssx = r0.cx * ssx + du * ssx + ssx := by rw [Nat.succ_mul, e1]
    have e3 : (r0.cx + 1) * ssx = r0.cx * ssx + ssx := Nat.succ_mul _ _
    have := hu (by omega)
    simp only [PlRun.shift]
    omega
  · intro c h1 h2
    obtain ⟨r0, hr0, s⟩ := hA.cover (c - dc) (by omega)
    refine ⟨_, List.mem_map_of_mem hr0, ?_⟩
    simp only [PlRun.shift]
    omega

/-- offset part handled separately, the rest shifted by one chroma sample -/
theorem PlRowSpec.split {ssx width offset yoff ow : Nat} {A B : List PlRun}
    (how : ow ≤ width) (hfull : 0 < width - ow → offset + ow = ssx)
    (hA : PlRowSpec ssx offset ow yoff A) (hB : PlRowSpec ssx 0 (width - ow) yoff B) :
    PlRowSpec ssx offset width yoff (A ++ B.map (PlRun.shift 0 ow ow 0 1 0)) := by
  obtain ⟨sB, cB⟩ := hB.shift (offset := offset) (width := width) (dc := ow) (du := 1) (by omega)
    (fun h => by rw [Nat.one_mul, hfull h])
  constructor
  · intro r hr
    rcases List.mem_append.1 hr with hr | hr
    · have s := hA.sound r hr
      omega
    · exact sB r hr
  · intro c hc
    by_cases h : c < ow
    · obtain ⟨r, hr, s⟩ := hA.cover c h
      exact ⟨r, List.mem_append_left _ hr, s⟩
    · obtain ⟨r, hr, s⟩ := cB c (by omega) (by omega)
      exact ⟨r, List.mem_append_right _ hr, s⟩

/-- conversion chunks of a row that starts on a macro-pixel boundary -/
theorem PlRowSpec.chunks {ssx width yoff pref : Nat} (hpref : 0 < pref) (hdvd : pref % ssx = 0)
    (f : Nat → List PlRun)
    (hf : ∀ cs, cs ∈ stepStarts width pref → PlRowSpec ssx 0 (min (cs + pref) width - cs) yoff (f cs)) :
    PlRowSpec ssx 0 width yoff
      ((stepStarts width pref).flatMap fun cs => (f cs).map (PlRun.shift 0 cs cs 0 (cs / ssx) 0)) := by
  have sh := fun cs (hcs : cs ∈ stepStarts width pref) =>
    (hf cs hcs).shift (offset := 0) (width := width) (dc := cs) (du := cs / ssx)
      (by have := stepStart_lt hpref hcs; omega) (fun _ => by rw [stepStart_aligned hdvd hcs, Nat.zero_add])
  constructor
  · intro r hr
    obtain ⟨cs, hcs, hr⟩ := List.mem_flatMap.1 hr
    exact (sh cs hcs).1 r hr
  · intro c hc
    obtain ⟨cs, hcs, h1, h2⟩ := stepStarts_tiles hpref hc
    obtain ⟨r, hr, s⟩ := (sh cs hcs).2 c h1 (by omega)
    exact ⟨r, List.mem_flatMap.2 ⟨cs, hcs, hr⟩, s⟩

/-- `process_bi_planar_helper` on a row that starts on a macro-pixel boundary: full macro pixels, rest -/
theorem planarHelper_zero_spec (ssx width yoff : Nat) (hs : 0 < ssx) :
    PlRowSpec ssx 0 width yoff (planarHelper ssx 0 width yoff) := by
  have hmem : ∀ r, r ∈ planarHelper ssx 0 width yoff ↔
      (∃ x, x < width / ssx ∧ (⟨0, x * ssx, ssx, x * ssx, 0, x, 0, 0, yoff⟩ : PlRun) = r) ∨
      (0 < width - width / ssx * ssx ∧ r = ⟨0, width / ssx * ssx, width - width / ssx * ssx,
        width / ssx * ssx, 0, width / ssx, 0, 0, yoff⟩) := by
    intro r
    by_cases hl : 0 < width - width / ssx * ssx <;>
      simp only [planarHelper, hl, gt_iff_lt, Nat.lt_irrefl, if_true, if_false, List.nil_append, List.mem_append,
        List.mem_map, List.mem_range, List.mem_singleton, List.not_mem_nil, true_and, false_and, Nat.zero_add]
  have q1 := Nat.div_mul_le_self width ssx
  have q2 : width < width / ssx * ssx + ssx := Nat.lt_div_mul_add hs
  constructor
  · intro r hr
    rcases (hmem r).1 hr with ⟨x, hx, rfl⟩ | ⟨hl, rfl⟩
    · have := Nat.mul_le_mul_right ssx (show x + 1 ≤ width / ssx from hx)
      have e : (x + 1) * ssx = x * ssx + ssx := Nat.succ_mul _ _
      dsimp only
      omega
    · have e : (width / ssx + 1) * ssx = width / ssx * ssx + ssx := Nat.succ_mul _ _
      dsimp only
      omega
  · intro c hc
    have c1 := Nat.div_mul_le_self c ssx
    have c2 : c < c / ssx * ssx + ssx := Nat.lt_div_mul_add hs
    by_cases hp : c / ssx < width / ssx
    · refine ⟨_, (hmem _).2 (Or.inl ⟨c / ssx, hp, rfl⟩), ?_⟩
      dsimp only
      omega
    · have := Nat.mul_le_mul_right ssx (Nat.le_of_not_lt hp)
      refine ⟨_, (hmem _).2 (Or.inr ⟨by omega, rfl⟩), ?_⟩
      dsimp only
      omega

theorem PlRun.shift_shift (a b c d e f a' b' c' d' e' f' : Nat) (r : PlRun) :
    PlRun.shift a b c d e f (PlRun.shift a' b' c' d' e' f' r) =
      PlRun.shift (a' + a) (b' + b) (c' + c) (d' + d) (e' + e) (f' + f) r := by
  simp only [PlRun.shift, Nat.add_assoc]

theorem planarHelper_pos_eq (ssx offset width yoff : Nat) (ho : 0 < offset) :
    planarHelper ssx offset width yoff =
      ⟨0, 0, min (ssx - offset) width, 0, 0, 0, 0, 0, yoff⟩ ::
        (planarHelper ssx 0 (width - min (ssx - offset) width) yoff).map
          (PlRun.shift 0 (min (ssx - offset) width) (min (ssx - offset) width) 0 1 0) := by
  simp only [planarHelper, gt_iff_lt, ho, if_true, Nat.lt_irrefl, if_false, List.nil_append, List.cons_append,
    List.map_append, List.map_map, List.map_cons, List.map_nil, apply_ite (List.map _), Function.comp_def,
    PlRun.shift, Nat.zero_add, Nat.add_comm _ (min (ssx - offset) width), Nat.add_comm _ 1]

/-- `process_bi_planar_helper::<SSX, ..>` for every `SSX ≥ 1` and every offset `< SSX` -/
theorem planarHelper_spec (ssx offset width yoff : Nat) (hs : 0 < ssx) (ho : offset < ssx) :
    PlRowSpec ssx offset width yoff (planarHelper ssx offset width yoff) := by
  rcases Nat.eq_zero_or_pos offset with rfl | h0
  · exact planarHelper_zero_spec ssx width yoff hs
  · rw [planarHelper_pos_eq _ _ _ _ h0]
    refine PlRowSpec.split (A := [_]) (Nat.min_le_right _ _) (by omega) ⟨fun r hr => ?_, fun c hc => ?_⟩
      (planarHelper_zero_spec ssx _ yoff hs)
    · obtain rfl := List.mem_singleton.1 hr
      dsimp only
      omega
    · exact ⟨_, List.mem_singleton.2 rfl, Nat.zero_le _, by dsimp only; omega⟩

/-- the chunks after an offset part of `ow` pixels are the chunks of the remaining row, moved by `ow`
pixels and one chroma sample -/
theorem plFlatMap_shift (l : List Nat) (f : Nat → List PlRun) (g : Nat → Nat) (ow : Nat) :
    (l.flatMap fun cs => (f cs).map (PlRun.shift 0 (ow + cs) (ow + cs) 0 (1 + g cs) 0)) =
    (l.flatMap fun cs => (f cs).map (PlRun.shift 0 cs cs 0 (g cs) 0)).map (PlRun.shift 0 ow ow 0 1 0) := by
  simp only [List.map_flatMap, List.map_map, Function.comp_def, PlRun.shift_shift, Nat.add_comm ow,
    Nat.add_comm 1]

/-- `ChannelConversionBuffer::process_bi_planar`, with or without conversion.  With conversion the
buffer must hold one macro pixel (`ssx ≤ 3072 / native_bpp`), else `step_by(0)` panics. -/
theorem convPlanar_spec (conv : Bool) (nbpp ssx offset width yoff : Nat) (hs : 0 < ssx) (ho : offset < ssx)
    (hbuf : conv = true → ssx ≤ BUFFER_BYTES / nbpp) :
    PlRowSpec ssx offset width yoff (convPlanar conv nbpp ssx offset width yoff) := by
  unfold convPlanar
  cases conv with
  | false => exact planarHelper_spec ssx offset width yoff hs ho
  | true =>
    obtain ⟨hp1, hp2, _⟩ := roundDown_props hs (hbuf rfl)
    have hchunks := fun W' => PlRowSpec.chunks (width := W') (yoff := yoff) hp1 hp2 _ fun cs _ =>
      planarHelper_zero_spec ssx (min (cs + roundDown (BUFFER_BYTES / nbpp) ssx) W' - cs) yoff hs
    by_cases h0 : offset = 0
    · subst h0
      simp only [Bool.not_true, Bool.false_eq_true, ne_eq, not_true_eq_false, if_false, List.nil_append,
        Nat.zero_add]
      exact hchunks width
    · simp only [Bool.not_true, Bool.false_eq_true, ne_eq, h0, not_false_eq_true, if_true, if_false]
      rw [plFlatMap_shift]
      exact PlRowSpec.split (Nat.min_le_right _ _) (by omega) (planarHelper_spec ssx offset _ yoff hs ho)
        (hchunks _)


/-- The `for y_offset` loop of `for_each_bi_planar_rect`, entered with `y = b + y_offset`: rows before
the rectangle are skipped (`y += 1; continue`), the loop stops after it (`break`); row `Y` gets the
`y` argument `Y - b`.  The counter comes back as `y'`. -/
theorem planarRectInner_spec (conv : Bool) (nbpp : Nat) (g : PlGeom) (k b : Nat) :
    ∀ todo yoff y, y = b + yoff →
      ∃ rows y', planarRectInner conv nbpp g k todo yoff y = (rows, y') ∧
        y ≤ y' ∧ y' ≤ y + todo ∧ (y' = y + todo ∨ g.oy + g.h ≤ y') ∧
        ∀ r, r ∈ rows ↔
          ∃ Y, y ≤ Y ∧ Y < y + todo ∧ g.oy ≤ Y ∧ Y < g.oy + g.h ∧
            r ∈ (convPlanar conv nbpp g.ssx (g.ox % g.ssx) g.w (Y - b)).map
              (PlRun.shift (Y - g.oy) 0 g.ox (g.oy + (Y - g.oy)) (g.ox / g.ssx) (g.uvBefore + k)) := by
  intro todo
  induction todo with
  | zero =>
    exact fun yoff y _ => ⟨[], y, rfl, Nat.le_refl _, Nat.le_refl _, Or.inl rfl,
      fun r => ⟨fun h => (nomatch h), fun ⟨Y, _⟩ => by omega⟩⟩
  | succ todo ih =>
    intro yoff y hy
    obtain ⟨rows, y', e, a1, a2, a3, ih2⟩ := ih (yoff + 1) (y + 1) (by omega)
    rw [planarRectInner, e]
    split
    · refine ⟨rows, y', rfl, by omega, by omega, by omega, fun r => (ih2 r).trans ⟨?_, ?_⟩⟩ <;>
        exact fun ⟨Y, h1, h2, h3, h4, h⟩ => ⟨Y, by omega, by omega, h3, h4, h⟩
    split
    · exact ⟨[], y, rfl, Nat.le_refl _, Nat.le_add_right _ _, Or.inr (by omega),
        fun r => ⟨fun h => (nomatch h), fun ⟨Y, _⟩ => by omega⟩⟩
    · obtain rfl : yoff = y - b := by omega
      refine ⟨_, y', rfl, by omega, by omega, by omega, fun r => ?_⟩
      rw [List.mem_append, ih2 r]
      constructor
      · rintro (h | ⟨Y, h1, h2, h3, h4, h⟩)
        · exact ⟨y, Nat.le_refl _, by omega, by omega, by omega, h⟩
        · exact ⟨Y, by omega, by omega, h3, h4, h⟩
      · rintro ⟨Y, h1, h2, h3, h4, h⟩
        rcases Nat.eq_or_lt_of_le h1 with rfl | h1
        · exact Or.inl h
        · exact Or.inr ⟨Y, h1, by omega, h3, h4, h⟩

/-- The `while let Some(uv_line)` loop of `for_each_bi_planar_rect`.  Invariant of the running
counter: `y = (uv_before + k)·ssy` at the start of the `k`-th chroma line read, or the rectangle is
exhausted. -/
theorem planarRectLoop_spec (conv : Bool) (nbpp : Nat) (g : PlGeom) :
    ∀ todo k y, (y = (g.uvBefore + k) * g.ssy ∨ (g.oy + g.h ≤ y ∧ g.oy + g.h ≤ (g.uvBefore + k) * g.ssy)) →
      ∀ r, r ∈ planarRectLoop conv nbpp g todo k y ↔
        ∃ k' Y, k ≤ k' ∧ k' < k + todo ∧ (g.uvBefore + k') * g.ssy ≤ Y ∧ Y < (g.uvBefore + k') * g.ssy + g.ssy ∧
          g.oy ≤ Y ∧ Y < g.oy + g.h ∧
          r ∈ (convPlanar conv nbpp g.ssx (g.ox % g.ssx) g.w (Y - (g.uvBefore + k') * g.ssy)).map
            (PlRun.shift (Y - g.oy) 0 g.ox (g.oy + (Y - g.oy)) (g.ox / g.ssx) (g.uvBefore + k')) := by
  intro todo
  induction todo with
  | zero => exact fun k y _ r => ⟨fun h => (nomatch h), fun ⟨k', _, _, _, _⟩ => by omega⟩
  | succ todo ih =>
    intro k y hinv r
    obtain ⟨rows, y', e, a1, a2, a3, i2⟩ := planarRectInner_spec conv nbpp g k y g.ssy 0 y rfl
    have e' : (g.uvBefore + (k + 1)) * g.ssy = (g.uvBefore + k) * g.ssy + g.ssy := Nat.succ_mul _ _
    rw [planarRectLoop, e, List.mem_append, i2 r, ih (k + 1) y' (by omega) r]
    constructor
    · rintro (⟨Y, h1, h2, h3, h4, h⟩ | ⟨k', Y, h1, h2, h⟩)
      · obtain rfl : y = (g.uvBefore + k) * g.ssy := by omega
        exact ⟨k, Y, Nat.le_refl _, by omega, h1, h2, h3, h4, h⟩
      · exact ⟨k', Y, by omega, by omega, h⟩
    · rintro ⟨k', Y, h1, h2, h3, h4, h5, h6, h⟩
      rcases Nat.eq_or_lt_of_le h1 with rfl | h1
      · obtain rfl : y = (g.uvBefore + k) * g.ssy := by omega
        exact Or.inl ⟨Y, h3, h4, h5, h6, h⟩
      · exact Or.inr ⟨k', Y, h1, by omega, h3, h4, h5, h6, h⟩

/-- chroma lines read by `for_each_bi_planar_rect` (no underflow in `uv_after` / `uv_lines`) -/
theorem uvLines_eq (g : PlGeom) (hs : 0 < g.ssy) (hh : 0 < g.h) (hy : g.oy + g.h ≤ g.H) :
    g.uvBefore < divCeil (g.oy + g.h) g.ssy ∧ divCeil (g.oy + g.h) g.ssy ≤ divCeil g.H g.ssy ∧
    g.uvBefore + g.uvLines = divCeil (g.oy + g.h) g.ssy := by
  have a : g.uvBefore < divCeil (g.oy + g.h) g.ssy := div_lt_divCeil hs hh
  have b := divCeil_mono hs hy
  refine ⟨a, b, ?_⟩
  unfold PlGeom.uvLines PlGeom.uvAfter
  omega

/-- **`for_each_bi_planar_rect`, exact membership**: the runs of the rectangle decode are exactly the
runs of `process_bi_planar(offset = ox % ssx, width = w, y = (oy+j) % ssy)` for every row `j < h`,
written to output row `j` from luma line `oy + j` (columns from `ox`) and chroma line
`(oy + j) / ssy` (samples from `ox / ssx`). -/
theorem mem_planarRect (conv : Bool) (nbpp : Nat) (g : PlGeom) (hsy : 0 < g.ssy) (hy : g.oy + g.h ≤ g.H)
    (r : PlRun) :
    r ∈ planarRect conv nbpp g ↔
      ∃ j, j < g.h ∧ r ∈ (convPlanar conv nbpp g.ssx (g.ox % g.ssx) g.w ((g.oy + j) % g.ssy)).map
        (PlRun.shift j 0 g.ox (g.oy + j) (g.ox / g.ssx) ((g.oy + j) / g.ssy)) := by
  refine (planarRectLoop_spec conv nbpp g g.uvLines 0 (g.uvBefore * g.ssy) (Or.inl rfl) r).trans ⟨?_, ?_⟩
  · rintro ⟨k, Y, -, -, h1, h2, h3, h4, h⟩
    have e1 : Y / g.ssy = g.uvBefore + k := Nat.div_eq_of_lt_le h1 (by rw [Nat.succ_mul]; exact h2)
    rw [Nat.add_sub_cancel' h3, ← e1, ← Nat.mod_eq_sub_div_mul] at h
    exact ⟨Y - g.oy, by omega, by rwa [Nat.add_sub_cancel' h3]⟩
  · rintro ⟨j, hj, h⟩
    have d1 := Nat.div_mul_le_self (g.oy + j) g.ssy
    have d2 : g.oy + j < (g.oy + j) / g.ssy * g.ssy + g.ssy := Nat.lt_div_mul_add hsy
    have hge : g.uvBefore ≤ (g.oy + j) / g.ssy := Nat.div_le_div_right (Nat.le_add_right _ _)
    have e : g.uvBefore + ((g.oy + j) / g.ssy - g.uvBefore) = (g.oy + j) / g.ssy := by omega
    have hlt : (g.oy + j) / g.ssy < divCeil (g.oy + g.h) g.ssy := by rw [lt_divCeil_iff hsy]; omega
    have := (uvLines_eq g hsy (by omega) hy).2.2
    refine ⟨(g.oy + j) / g.ssy - g.uvBefore, g.oy + j, Nat.zero_le _, by omega, ?_⟩
    rw [e, ← Nat.mod_eq_sub_div_mul, Nat.add_sub_cancel_left]
    exact ⟨d1, d2, Nat.le_add_right _ _, by omega, h⟩

/-- `for_each_bi_planar` is `for_each_bi_planar_rect` on the whole surface -/
theorem planarFull_eq_rect (conv : Bool) (nbpp ssx ssy W H : Nat) :
    planarFull conv nbpp ssx ssy W H = planarRect conv nbpp ⟨ssx, ssy, H, 0, 0, W, H⟩ := by
  have inner : ∀ c todo yoff y, planarFullInner conv nbpp ssx W H c todo yoff y =
      planarRectInner conv nbpp ⟨ssx, ssy, H, 0, 0, W, H⟩ c todo yoff y := by
    intro c todo
    induction todo with
    | zero => intro yoff y; rfl
    | succ todo ih =>
      intro yoff y
      simp only [planarFullInner, planarRectInner, ih, PlGeom.uvBefore, Nat.not_lt_zero, if_false, Nat.zero_add,
        Nat.sub_zero, Nat.zero_mod, Nat.zero_div]
  have loop : ∀ todo c y, planarFullLoop conv nbpp ssx ssy W H todo c y =
      planarRectLoop conv nbpp ⟨ssx, ssy, H, 0, 0, W, H⟩ todo c y := by
    intro todo
    induction todo with
    | zero => intro c y; rfl
    | succ todo ih => intro c y; simp only [planarFullLoop, planarRectLoop, inner, ih]
  simp only [planarFull, planarRect, loop, PlGeom.uvLines, PlGeom.uvAfter, PlGeom.uvBefore, Nat.zero_div,
    Nat.zero_add, Nat.sub_self, Nat.sub_zero, Nat.zero_mul]


/-- every run lies inside the `w × h` view, reads the luma samples of the crop at `(ox, oy)`, feeds
one macro pixel, and that macro pixel / chroma line / `y` argument are those of the crop -/
def PlCropSound (ssx ssy ox oy w h : Nat) (runs : List PlRun) : Prop :=
  ∀ r ∈ runs, r.row < h ∧ r.col + r.n ≤ w ∧ r.lx = ox + r.col ∧ r.ly = oy + r.row ∧ r.px + r.n ≤ ssx ∧
    r.cx * ssx ≤ ox + r.col ∧ ox + r.col + r.n ≤ (r.cx + 1) * ssx ∧
    r.cy = (oy + r.row) / ssy ∧ r.yoff = (oy + r.row) % ssy

def PlCropCover (w h : Nat) (runs : List PlRun) : Prop :=
  ∀ i j, i < w → j < h → ∃ r ∈ runs, r.covers j i = true

theorem plCovers_iff (r : PlRun) (row col : Nat) :
    r.covers row col = true ↔ r.row = row ∧ r.col ≤ col ∧ col < r.col + r.n := by
  simp only [PlRun.covers, Bool.and_eq_true, beq_iff_eq, decide_eq_true_eq, and_assoc]

theorem lastWritePl_crop {ssx ssy ox oy w h : Nat} {runs : List PlRun}
    (hs : PlCropSound ssx ssy ox oy w h runs) (hc : PlCropCover w h runs) (i j : Nat) (hi : i < w) (hj : j < h) :
    lastWritePl ssx runs j i = some (ox + i, oy + j, (ox + i) / ssx, (oy + j) / ssy, (oy + j) % ssy) := by
  refine find_last_map (fun r hr hcov => ?_) (hc i j hi hj)
  obtain ⟨_, _, h3, h4, h5, h6, h7, h8, h9⟩ := hs r hr
  obtain ⟨c1, c2, c3⟩ := (plCovers_iff r j i).1 hcov
  have e0 : (r.px + (i - r.col)) / ssx = 0 := Nat.div_eq_of_lt (by omega)
  have e1 : (ox + i) / ssx = r.cx := Nat.div_eq_of_lt_le (by omega) (by omega)
  rw [PlRun.srcAt, h3, h4, h8, h9, c1, e0, e1, Nat.add_zero, Nat.add_assoc, Nat.add_sub_cancel' c2]

theorem lastWritePl_outside {ssx ssy ox oy w h : Nat} {runs : List PlRun}
    (hs : PlCropSound ssx ssy ox oy w h runs) (row col : Nat) (ho : ¬ (col < w ∧ row < h)) :
    lastWritePl ssx runs row col = none := by
  refine find_last_none fun r hr => ?_
  obtain ⟨h1, h2, _⟩ := hs r hr
  rw [← Bool.not_eq_true, plCovers_iff]
  omega

/-- hypotheses of the assembled bi-planar theorems: positive sub-sampling; with conversion the
3072-byte buffer holds at least one macro pixel (else `step_by(0)` panics). -/
structure PlOk (ssx ssy : Nat) (conv : Bool) (nbpp : Nat) : Prop where
  sx : 0 < ssx
  sy : 0 < ssy
  buf : conv = true → ssx ≤ BUFFER_BYTES / nbpp

theorem planarRect_crop (conv : Bool) (nbpp : Nat) (g : PlGeom) (ok : PlOk g.ssx g.ssy conv nbpp)
    (hy : g.oy + g.h ≤ g.H) :
    PlCropSound g.ssx g.ssy g.ox g.oy g.w g.h (planarRect conv nbpp g) ∧
    PlCropCover g.w g.h (planarRect conv nbpp g) := by
  have sp := fun yoff =>
    convPlanar_spec conv nbpp g.ssx (g.ox % g.ssx) g.w yoff ok.sx (Nat.mod_lt _ ok.sx) ok.buf
  constructor
  · intro r hr
    obtain ⟨j, hj, hr⟩ := (mem_planarRect conv nbpp g ok.sy hy r).1 hr
    obtain ⟨r0, hr0, rfl⟩ := List.mem_map.1 hr
    have s := (sp _).sound r0 hr0
    have d1 := Nat.div_add_mod g.ox g.ssx
    have e0 : g.ox / g.ssx * g.ssx = g.ssx * (g.ox / g.ssx) := Nat.mul_comm _ _
    have e1 : (r0.cx + g.ox / g.ssx) * g.ssx = r0.cx * g.ssx + g.ox / g.ssx * g.ssx := Nat.add_mul _ _ _
    have e2 : (r0.cx + g.ox / g.ssx + 1) * g.ssx = r0.cx * g.ssx + g.ox / g.ssx * g.ssx + g.ssx := by
      rw [Nat.succ_mul, e1]
    have e3 : (r0.cx + 1) * g.ssx = r0.cx * g.ssx + g.ssx := Nat.succ_mul _ _
    simp only [PlRun.shift, s.1, s.2.1, s.2.2.1, s.2.2.2.1, Nat.zero_add, true_and, and_true]
    omega
  · intro i j hi hj
    obtain ⟨r0, hr0, c⟩ := (sp ((g.oy + j) % g.ssy)).cover i hi
    have s := (sp _).sound r0 hr0
    refine ⟨_, (mem_planarRect conv nbpp g ok.sy hy _).2 ⟨j, hj, List.mem_map_of_mem hr0⟩,
      (plCovers_iff _ _ _).2 ?_⟩
    simp only [PlRun.shift]
    omega

theorem planarFull_crop (conv : Bool) (nbpp ssx ssy W H : Nat) (ok : PlOk ssx ssy conv nbpp) :
    PlCropSound ssx ssy 0 0 W H (planarFull conv nbpp ssx ssy W H) ∧
    PlCropCover W H (planarFull conv nbpp ssx ssy W H) := by
  rw [planarFull_eq_rect]
  exact planarRect_crop conv nbpp ⟨ssx, ssy, H, 0, 0, W, H⟩ ok (Nat.le_of_eq (Nat.zero_add H))

end Dds.Addr
