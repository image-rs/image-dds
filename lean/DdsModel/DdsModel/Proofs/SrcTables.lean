/- The DXGI rows translated from the source (`SrcTables.lean`): the range pattern of `DxgiFormat::try_from` and the
named constants describe the same codes. -/
import DdsModel.SrcTables
namespace Dds.SrcTables

/-- `DxgiFormat::try_from(v).is_ok()`: `v` lies in one of the accepted runs -/
def codeAccepted (v : Nat) : Bool := dxgiValidRanges.any fun r => decide (r.1 ≤ v) && decide (v ≤ r.2)

theorem dxgiValidRanges_lt : ∀ r ∈ dxgiValidRanges, r.2 < 256 := by decide

/-- every accepted code fits the `u8` of `DxgiFormat(u8)`: `value as u8` in `try_from` does not truncate -/
theorem codeAccepted_lt {v : Nat} (h : codeAccepted v = true) : v < 256 := by
  obtain ⟨r, hr, h⟩ := List.any_eq_true.mp h
  have := dxgiValidRanges_lt r hr
  simp only [Bool.and_eq_true, decide_eq_true_eq] at h
  omega

theorem dxgiValidRanges_named : ∀ r ∈ dxgiValidRanges, ∀ c ∈ List.range' r.1 (r.2 + 1 - r.1),
    dxgiNamed.any (·.code == c) = true := by decide +kernel

theorem dxgiNamed_accepted : ∀ r ∈ dxgiNamed, codeAccepted r.code = true := by decide +kernel

theorem codeAccepted_eq_named (v : Nat) : codeAccepted v = dxgiNamed.any (·.code == v) := by
  rw [Bool.eq_iff_iff, codeAccepted, List.any_eq_true, List.any_eq_true]
  constructor
  · rintro ⟨r, hr, h⟩
    simp only [Bool.and_eq_true, decide_eq_true_eq] at h
    exact List.any_eq_true.mp (dxgiValidRanges_named r hr v (List.mem_range'_1.mpr (by omega)))
  · rintro ⟨row, hrow, h⟩
    rw [← eq_of_beq h]
    exact List.any_eq_true.mp (dxgiNamed_accepted row hrow)

theorem dxgiNamed_nodup : (dxgiNamed.map (·.code)).Nodup := by decide +kernel

end Dds.SrcTables
