/-
C15, R9G9B9E5: `rgb9995f::from_f32` never trips a `debug_assert!`, every mantissa is at most 511
and the exponent at most 31, for every triple of binary32 bit patterns.
-/
import DdsModel.Proofs.SharedExpChan
import DdsModel.Proofs.EncQuant
namespace Dds.EncTotal.SharedExp
open Dds.CF32
open Dds.ConvFast (expField_eq)

/-- for `exp ≤ 32` neither `i8` operation overflows and `two_powi` gets an exponent in
`[-8, 24]`: the scale is `2^(24−exp)` -/
theorem scaleOf_eq (exp : Nat) (h : exp ≤ 32) : scaleOf exp = some (twoPowi (24 - exp)) := by
  unfold scaleOf asI8
  have h1 : exp % 256 = exp := by omega
  simp only [h1, show exp < 128 by omega, if_true]
  rw [if_neg (by omega), if_neg (by omega), if_neg (by omega)]
  congr 2
  omega

/-- a clamped channel below the maximum `mx` is a zero or a positive pattern whose exponent
field does not exceed the maximum's -/
theorem chan_cases (c mx : Nat) (hc : Clamped c) (hm : mag c ≤ mx) (hmx : mx ≤ c65408) :
    (c = 0 ∨ c = signBit) ∨ (1 ≤ c ∧ c ≤ c65408 ∧ expField c ≤ expField mx) := by
  rcases hc with h | h
  · left; right; exact h
  · by_cases h0 : c = 0
    · left; left; exact h0
    · right
      have hm' : mag c = c := by
        unfold mag; apply Nat.mod_eq_of_lt; simp only [c65408, signBit] at *; omega
      rw [hm'] at hm
      refine ⟨by omega, h, ?_⟩
      rw [expField_eq, expField_eq]
      simp only [c65408] at *
      omega

theorem fields_range (tie : Nat → Bool) (r g b : Nat) :
    ∃ rm gm bm e, fields tie r g b = some (rm, gm, bm, e) ∧
      rm ≤ 511 ∧ gm ≤ 511 ∧ bm ≤ 511 ∧ e ≤ 31 := by
  unfold fields
  dsimp only
  have cr := clamp_spec (tie 0) r
  have cg := clamp_spec (tie 1) g
  have cb := clamp_spec (tie 2) b
  generalize clamp0Max (tie 0) r = r' at *
  generalize clamp0Max (tie 1) g = g' at *
  generalize clamp0Max (tie 2) b = b' at *
  obtain ⟨c1, m1r, m1g⟩ := fmax_clamped (tie 3) r' g' cr cg
  obtain ⟨cm, m2, m2b⟩ := fmax_clamped (tie 4) _ b' c1 cb
  have mr : mag r' ≤ mag (fmax (tie 4) (fmax (tie 3) r' g') b') := Nat.le_trans m1r m2
  have mg : mag g' ≤ mag (fmax (tie 4) (fmax (tie 3) r' g') b') := Nat.le_trans m1g m2
  generalize fmax (tie 4) (fmax (tie 3) r' g') b' = mx at *
  clear m1r m1g m2 c1
  by_cases hz : (isZero mx || isSubnormal mx) = true
  · rw [if_pos hz]
    exact ⟨0, 0, 0, 0, rfl, by omega, by omega, by omega, by omega⟩
  rw [if_neg hz]
  -- the maximum is a positive normal pattern up to 65408.0
  obtain ⟨_, _, hmC, hmm⟩ := clamped_facts mx cm
  have hmx : 8388608 ≤ mx ∧ mx ≤ c65408 := by
    simp only [Bool.or_eq_true, not_or, isZero, isSubnormal, Bool.and_eq_true, beq_iff_eq,
      bne_iff_ne, ne_eq, not_and, Decidable.not_not] at hz
    obtain ⟨z1, z2⟩ := hz
    have hmag : mag mx = mx := by
      rcases hmm with h | h
      · exact absurd h z1
      · exact h.symm
    rw [hmag] at hmC
    rw [expField_eq, fracField_eq] at z2
    refine ⟨?_, hmC⟩
    apply Classical.byContradiction
    intro hlt
    have e0 : mx / 8388608 % 256 = 0 := by omega
    have := z2 e0
    unfold mag at hmag
    omega
  have hmagmx : mag mx = mx := by
    unfold mag; apply Nat.mod_eq_of_lt; simp only [c65408, signBit] at *; omega
  rw [hmagmx] at mr mg m2b
  have hraw : mx >>> 23 &&& 255 = expField mx := by
    rw [show (255 : Nat) = 2 ^ 8 - 1 from rfl, Nat.and_two_pow_sub_one_eq_mod]; rfl
  rw [hraw]
  have hR1 : 1 ≤ expField mx := by rw [expField_eq]; simp only [c65408] at hmx; omega
  have hR2 : expField mx ≤ 142 := by rw [expField_eq]; simp only [c65408] at hmx; omega
  generalize hexp : (max ((expField mx : Int) - 127 + 16) 0).toNat = exp
  have he31 : exp ≤ 31 := by omega
  have heX : expField mx ≤ exp + 111 := by omega
  rw [if_neg (by omega), scaleOf_eq exp (by omega)]
  dsimp only
  have first : ∀ c, Clamped c → mag c ≤ mx → mantOf c (twoPowi (24 - exp)) ≤ 512 ∧
      (exp = 31 → mantOf c (twoPowi (24 - exp)) ≤ 511) ∧
      mantOf c (twoPowi (24 - ((exp + 1 : Nat) : Int))) ≤ 256 := by
    intro c hc hm
    rcases chan_cases c mx hc hm hmx.2 with h0 | ⟨h1, h2, h3⟩
    · rw [mantOf_zero c _ h0 (by omega) (by omega), mantOf_zero c _ h0 (by omega) (by omega)]
      exact ⟨by omega, fun _ => by omega, by omega⟩
    · refine ⟨mantOf_le_first c exp h1 h2 he31 (by omega), ?_,
        mantOf_le_second c (exp + 1) h1 h2 (by omega) (by omega)⟩
      intro h31
      subst h31
      exact mantOf_le_top c h2
  obtain ⟨r1, r2, r3⟩ := first r' cr mr
  obtain ⟨g1, g2, g3⟩ := first g' cg mg
  obtain ⟨b1, b2, b3⟩ := first b' cb m2b
  by_cases h512 : (mantOf r' (twoPowi (24 - exp)) == 512 || mantOf g' (twoPowi (24 - exp)) == 512 ||
      mantOf b' (twoPowi (24 - exp)) == 512) = true
  · -- second pass: the exponent is below 31, the mantissas come back to at most 256
    rw [if_pos h512]
    have hne : exp ≠ 31 := by
      intro h31
      have := r2 h31; have := g2 h31; have := b2 h31
      simp only [Bool.or_eq_true, beq_iff_eq] at h512
      omega
    rw [if_neg (by omega), scaleOf_eq (exp + 1) (by omega)]
    dsimp only
    unfold finish
    rw [if_pos ⟨by omega, by omega, by omega⟩]
    exact ⟨_, _, _, _, rfl, by omega, by omega, by omega, by omega⟩
  · rw [if_neg h512]
    simp only [Bool.or_eq_true, beq_iff_eq, not_or] at h512
    unfold finish
    rw [if_pos ⟨by omega, by omega, by omega⟩]
    exact ⟨_, _, _, _, rfl, by omega, by omega, by omega, he31⟩

theorem shl32_eq (v s w : Nat) (hv : v < 2 ^ w) (hw : s + w ≤ 32) : shl32 v s = v <<< s := by
  unfold shl32
  apply Nat.mod_eq_of_lt
  exact lt_pow_mono _ (s + w) 32 (shiftLeft_lt_pow v s w hv) hw

/-- with mantissas of at most 9 bits and an exponent of at most 5 bits no `u32` shift drops a
bit, and the word is the field packing `pack` of C15 -/
theorem word_eq_pack (rm gm bm e : Nat) (hg : gm ≤ 511) (hb : bm ≤ 511) (he : e ≤ 31) :
    word (rm, gm, bm, e) = pack [(rm, 9), (gm, 9), (bm, 9), (e, 5)] := by
  unfold word
  dsimp only
  rw [shl32_eq gm 9 9 (by omega) (by omega), shl32_eq bm 18 9 (by omega) (by omega),
    shl32_eq e 27 5 (by omega) (by omega)]
  simp only [pack, Nat.shiftLeft_or_distrib, ← Nat.shiftLeft_add, Nat.zero_shiftLeft, Nat.or_zero,
    Nat.or_assoc]

/-- **`rgb9995f::from_f32`, every input.**  For every triple of bit patterns — NaN of any
payload, the infinities, negative values, both zeros, subnormals, huge values — and every choice
of the zero `f32::max` returns on a `±0.0` tie: no `debug_assert!` fails and no `i8` operation
overflows (the result is `some`), `r_mant, g_mant, b_mant ≤ 511`, `exp ≤ 31`, and the returned
word is the packing of these four fields into 9 + 9 + 9 + 5 = 32 bits. -/
theorem fromF32_range (tie : Nat → Bool) (r g b : Nat) :
    ∃ rm gm bm e, fields tie r g b = some (rm, gm, bm, e) ∧
      rm ≤ 511 ∧ gm ≤ 511 ∧ bm ≤ 511 ∧ e ≤ 31 ∧
      fromF32 tie r g b = some (pack [(rm, 9), (gm, 9), (bm, 9), (e, 5)]) ∧
      pack [(rm, 9), (gm, 9), (bm, 9), (e, 5)] < 2 ^ 32 := by
  obtain ⟨rm, gm, bm, e, h, h1, h2, h3, h4⟩ := fields_range tie r g b
  refine ⟨rm, gm, bm, e, h, h1, h2, h3, h4, ?_, ?_⟩
  · unfold fromF32
    rw [h, Option.map_some, word_eq_pack rm gm bm e h2 h3 h4]
  · exact pack_lt _ (fits_cons (by omega) (fits_cons (by omega) (fits_cons (by omega)
      (fits_cons (by omega) fits_nil))))

end Dds.EncTotal.SharedExp
