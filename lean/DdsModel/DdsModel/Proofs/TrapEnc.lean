/-
C15 (encoder loops, part 1): the trapping mirrors of `TrapEnc.lean` return `some` of the write sizes of
`EncLen.lean` for every view that satisfies C20's invariant.
-/
import DdsModel.TrapEnc
import DdsModel.Proofs.EncLen
import DdsModel.Proofs.DivCeil
import DdsModel.Proofs.NatLemmas
import DdsModel.Proofs.TrapUnc
import DdsModel.Proofs.View
import DdsModel.Proofs.TrapWp
namespace Dds.TrapEnc
open Dds Dds.Trap

section
variable {Q : Nat → Prop}
@[wp ↓] theorem ret_mulU {a b : Nat} : Ret (mulU a b) Q ↔ a * b < 18446744073709551616 ∧ Q (a * b) := by
  unfold mulU; exact ret_guard
@[wp ↓] theorem ret_addU {a b : Nat} : Ret (addU a b) Q ↔ a + b < 18446744073709551616 ∧ Q (a + b) := by
  unfold addU; exact ret_guard
@[wp ↓] theorem ret_remU {a b : Nat} : Ret (remU a b) Q ↔ b ≠ 0 ∧ Q (a % b) := by unfold remU; exact ret_guard_not
@[wp ↓] theorem ret_divCeilU {a b : Nat} : Ret (divCeilU a b) Q ↔ b ≠ 0 ∧ Q (divCeil a b) := by
  unfold divCeilU; exact ret_guard_not
@[wp ↓] theorem ret_sliceTo {len e : Nat} : Ret (sliceTo len e) Q ↔ e ≤ len ∧ Q e := by unfold sliceTo; exact ret_guard
@[wp ↓] theorem ret_sliceFrom {len a : Nat} : Ret (sliceFrom len a) Q ↔ a ≤ len ∧ Q (len - a) := by
  unfold sliceFrom; exact ret_guard
@[wp ↓] theorem ret_sliceRange {len a b : Nat} : Ret (sliceRange len a b) Q ↔ (a ≤ b ∧ b ≤ len) ∧ Q (b - a) := by
  unfold sliceRange; exact ret_guard
end
section
variable {Q : Unit → Prop}
@[wp ↓] theorem ret_idxLen {len i : Nat} : Ret (idxLen len i) Q ↔ i < len ∧ Q () := by unfold idxLen; exact ret_guard
@[wp ↓] theorem ret_copyFromSliceT {dst src : Nat} : Ret (copyFromSliceT dst src) Q ↔ dst = src ∧ Q () := by
  unfold copyFromSliceT; exact ret_guard
@[wp ↓] theorem ret_allocT {n size : Nat} : Ret (allocT n size) Q ↔ n * size ≤ 9223372036854775807 ∧ Q () := by
  unfold allocT; exact ret_guard
end
@[wp ↓] theorem ret_chunksT {len n : Nat} {Q : List Nat → Prop} :
    Ret (chunksT len n) Q ↔ n ≠ 0 ∧ Q (chunkLens n len len) := by unfold chunksT; exact ret_guard_not
@[wp ↓] theorem ret_splitAtT {len mid : Nat} {Q : Nat × Nat → Prop} :
    Ret (splitAtT len mid) Q ↔ mid ≤ len ∧ Q (mid, len - mid) := by unfold splitAtT; exact ret_guard

/-! ## what is assumed of a view -/

/-- the views the public API can hand to an encoder: C20's invariant (`ImageView::new`, `new_with`, `cropped`
establish it: `C20.new_with_inv`, `C20.crop_spec`), the colour's bytes per pixel, and two facts about Rust values:
a slice has at most `isize::MAX` bytes and a `usize` is below `2^64`. -/
structure VOK (v : View) (c : Color) : Prop where
  inv : C20.Inv v
  bpp : v.bpp = c.bpp
  len : v.len ≤ I64MAX
  pitch : v.pitch < U64

/-- colours of the library: 1, 3 or 4 channels of 1, 2 or 4 bytes -/
def Color.OK (c : Color) : Prop := c.psize = 1 ∨ c.psize = 2 ∨ c.psize = 4

theorem Color.bpp_pos {c : Color} (h : c.OK) : 1 ≤ c.bpp ∧ c.bpp ≤ 16 := by
  have := TrapUnc.chanCount_le c.ch
  unfold Color.bpp
  rcases h with h | h | h <;> rw [h] <;> omega

theorem Color.psize_dvd_bpp (c : Color) (p : Nat) : p * c.bpp % c.psize = 0 := by
  unfold Color.bpp
  rw [← Nat.mul_assoc]; exact Nat.mul_mod_left ..

theorem VOK.bpp_pos {v : View} {c : Color} (hv : VOK v c) : 1 ≤ v.bpp ∧ v.bpp ≤ 16 := ⟨hv.inv.bpp_pos, hv.inv.bpp_le⟩

theorem VOK.bounds {v : View} {c : Color} (hv : VOK v c) :
    v.w < 4294967296 ∧ v.h < 4294967296 ∧ v.len ≤ 9223372036854775807 ∧ v.pitch < 18446744073709551616 :=
  ⟨hv.inv.w_lt, hv.inv.h_lt, hv.len, hv.pitch⟩

theorem VOK.rowBytes_le {v : View} {c : Color} (hv : VOK v c) : v.w * v.bpp ≤ 4294967295 * 16 :=
  Nat.mul_le_mul (Nat.le_of_lt_succ hv.inv.w_lt) hv.inv.bpp_le

theorem pixels_lt {v : View} {c : Color} (hv : VOK v c) : v.w * v.h < 18446744073709551616 :=
  Nat.lt_of_le_of_lt (Nat.mul_le_mul (Nat.le_of_lt_succ hv.inv.w_lt) (Nat.le_of_lt_succ hv.inv.h_lt)) (by decide)

/-! ## `chunks` -/

theorem map_const_range {α} (n : Nat) (x : α) : ((List.range n).map fun _ => x) = List.replicate n x := by
  rw [List.map_const', List.length_range]

/-- `data.chunks(buffer_pixels * bpp)` of `T` whole pixels = the chunks of `T` pixels by `buffer_pixels`, in bytes -/
theorem chunkLens_scale (n k : Nat) (hn : 1 ≤ n) (hk : 1 ≤ k) : ∀ (f T : Nat), T ≤ f →
    chunkLens (n * k) (T * k) (T * k) = (chunkLens n f T).map (· * k) :=
  fun f T h => Dds.chunkLens_scale n k hn hk f (T * k) T h (Nat.le_refl _)

theorem row_chunks {cp bpp : Nat} (hcp : 1 ≤ cp) (hb : 1 ≤ bpp) (w : Nat) :
    chunksT (w * bpp) (cp * bpp) = some ((chunkLens cp w w).map (· * bpp)) ∧
      (chunkLens cp w w).length = divCeil w cp ∧ (chunkLens cp w w).sum = w ∧
      ∀ q ∈ chunkLens cp w w, 1 ≤ q ∧ q ≤ cp := by
  refine ⟨?_, chunkLens_length cp hcp w w (Nat.le_refl _), chunkLens_sum cp hcp w w (Nat.le_refl _), fun q hq => ?_⟩
  · rw [chunksT_of_ne (Nat.mul_ne_zero (by omega) (by omega)),
      chunkLens_scale cp bpp hcp hb w w (Nat.le_refl _)]
  · have := chunkLens_le cp hcp _ _ q hq; omega

/-! ## the flushes of the strided path -/

/-- number of `process_chunk` calls of the strided path = `ceil((fill + w·h) / buffer_pixels)` -/
theorem chunksRowsAux_length (bufPx w : Nat) (hb : 1 ≤ bufPx) : ∀ (rows fill : Nat), fill ≤ bufPx →
    (chunksRowsAux bufPx w rows fill).length = divCeil (fill + w * rows) bufPx := by
  intro rows
  induction rows with
  | zero =>
    intro fill hf
    unfold chunksRowsAux
    rw [Nat.mul_zero, Nat.add_zero]
    split
    · rw [divCeil_eq_one ‹_› hf]; rfl
    · obtain rfl : fill = 0 := by omega
      rw [divCeil_zero]; rfl
  | succ rows ih =>
    intro fill hf
    obtain ⟨h1, h2⟩ := fillRow_sum bufPx hb (w + 1) w fill (by omega) hf
    rw [List.eq_replicate_of_mem (fillRow_all_full bufPx _ _ _), List.sum_replicate_nat] at h1
    unfold chunksRowsAux
    rw [List.length_append, ih _ h2, Nat.add_comm, ← divCeil_add_mul _ _ _ (by omega), Nat.mul_succ]
    congr 1; omega

/-- every chunk handed to `process_chunk` has between 1 and `buffer_pixels` pixels (strided path) -/
theorem chunksRowsAux_le (bufPx w : Nat) (hb : 1 ≤ bufPx) : ∀ (rows fill : Nat), fill ≤ bufPx →
    ∀ x ∈ chunksRowsAux bufPx w rows fill, 1 ≤ x ∧ x ≤ bufPx := by
  intro rows
  induction rows with
  | zero =>
    intro fill hf x hx
    unfold chunksRowsAux at hx
    split at hx
    · obtain rfl := List.mem_singleton.mp hx; omega
    · cases hx
  | succ rows ih =>
    intro fill hf x hx
    unfold chunksRowsAux at hx
    rcases List.mem_append.mp hx with hx | hx
    · have := fillRow_all_full bufPx _ _ _ x hx; omega
    · exact ih _ (fillRow_sum bufPx hb (w + 1) w fill (by omega) hf).2 x hx

/-! ## `ImageView::is_contiguous`, `ImageView::rows` -/

/-- `row_pitch * height` does not overflow — also for `height = 1` with an arbitrary pitch, and for pitches near
`isize::MAX` with `height = 2` — and the view is contiguous exactly when the pitch is the row length -/
theorem isContiguousT_eq {v : View} {c : Color} (hv : VOK v c) :
    isContiguousT v = some (decide (v.pitch = v.w * v.bpp)) := by
  obtain ⟨_, _, hl, hp⟩ := hv.bounds
  unfold isContiguousT
  by_cases he : v.w = 0 ∨ v.h = 0
  · obtain ⟨h1, h2, h3, h4⟩ := hv.inv.empty he
    rw [h1, h2, h3, h4, mulU_bind (by decide), pure_some', Nat.zero_mul, Nat.zero_mul]
  · have hlen := hv.inv.len_eq he
    rw [mulU_bind (geom_pitch_mul_h_lt hlen (by omega) hp (by omega)), pure_some']
    exact congrArg some (decide_eq_decide.mpr (geom_contig_iff hlen (by omega)))

/-- `rows()` yields `height` slices of `width * bpp` bytes (none for an empty view); no index arithmetic overflows
and every slice is inside the data -/
theorem rowsT_eq {v : View} {c : Color} (hv : VOK v c) : rowsT v = some (List.replicate v.h (v.w * v.bpp)) := by
  have hrow := hv.rowBytes_le
  obtain ⟨_, _, hl, _⟩ := hv.bounds
  unfold rowsT
  rw [mulU_bind (by omega)]
  by_cases he : v.w = 0 ∨ v.h = 0
  · rw [if_pos he, (hv.inv.empty he).2.1]; rfl
  · rw [if_neg he, mapT_eq_some _ (fun _ => v.w * v.bpp), List.map_const', List.length_range]
    intro y hy
    have hb := hv.inv.row_bound (List.mem_range.mp hy)
    rw [mulU_bind (by omega), addU_bind (by omega), sliceRange_of (by omega), Nat.add_sub_cancel_left]

theorem contiguous_len {v : View} {c : Color} (hv : VOK v c) (hc : v.pitch = v.w * v.bpp) :
    v.len = v.w * v.h * v.bpp := by
  by_cases he : v.w = 0 ∨ v.h = 0
  · obtain ⟨h1, _, _, h4⟩ := hv.inv.empty he
    rw [h4, h1, Nat.zero_mul, Nat.zero_mul]
  · rw [hv.inv.len_eq he, hc, Nat.mul_pred_add _ (by omega), Nat.mul_right_comm]

/-! ## `for_each_chunk`, strided branch -/

/-- what a `copy_to_buffer` closure must accept: `p` pixels of source into `p` pixels of buffer, `1 ≤ p ≤ buffer_pixels` -/
def CopyOK (copyT : Nat → Nat → Option Unit) (bp bpp epp : Nat) : Prop :=
  ∀ p, 1 ≤ p → p ≤ bp → copyT (p * bpp) (p * epp) = some ()

/-- one turn of the `while` loop that fills the staging buffer from a row of whole pixels -/
theorem fillRowT_succ {bp bpp epp : Nat} {copyT : Nat → Nat → Option Unit} (hbp : 1 ≤ bp) (hbpp : 1 ≤ bpp)
    (hbpl : bp < 18446744073709551616) (hbuf : bp * epp < 18446744073709551616) (hc : CopyOK copyT bp bpp epp)
    {fuel rowPx fill fl : Nat} (h0 : rowPx ≠ 0) (hfill : fill ≤ bp) (hrow : rowPx * bpp < 18446744073709551616)
    (hfl : fl = if fill = bp then 0 else fill) :
    fillRowT bp (bp * epp) bpp epp copyT (fuel + 1) (rowPx * bpp) fill =
      fillRowT bp (bp * epp) bpp epp copyT fuel ((rowPx - min rowPx (bp - fl)) * bpp) (fl + min rowPx (bp - fl)) >>=
        fun r => pure ((if fill = bp then [bp * epp] else []) ++ r.1, r.2) := by
  have hne : rowPx * bpp ≠ 0 := Nat.mul_ne_zero h0 (by omega)
  have hflt : fl < bp := by rw [hfl]; split <;> omega
  conv => lhs; unfold fillRowT
  simp only []
  rw [← hfl, if_neg hne, remU_bind (by omega), Nat.mul_mod_left, dbgP_bind rfl, div_bind (by omega),
    Nat.mul_div_cancel _ (by omega), subU_bind (by omega)]
  have hm : 1 ≤ min rowPx (bp - fl) := by rw [Nat.min_def]; split <;> omega
  have hml : min rowPx (bp - fl) ≤ rowPx := Nat.min_le_left _ _
  have hmb : min rowPx (bp - fl) ≤ bp - fl := Nat.min_le_right _ _
  generalize min rowPx (bp - fl) = wp at hm hml hmb
  have hsrc : wp * bpp ≤ rowPx * bpp := Nat.mul_le_mul_right _ hml
  have hdst : (fl + wp) * epp ≤ bp * epp := Nat.mul_le_mul_right _ (by omega)
  have hdst0 : fl * epp ≤ (fl + wp) * epp := Nat.mul_le_mul_right _ (by omega)
  rw [mulU_bind (by omega), sliceTo_bind hsrc, mulU_bind (by omega), addU_bind (by omega), mulU_bind (by omega),
    sliceRange_bind ⟨hdst0, hdst⟩, ← Nat.sub_mul, Nat.add_sub_cancel_left, hc wp hm (by omega), bind_some',
    addU_bind (by omega), mulU_bind (by omega), sliceFrom_bind hsrc, ← Nat.sub_mul]

theorem fillRow_succ (bp fuel : Nat) {rowPx fill fl : Nat} (h0 : rowPx ≠ 0) (hfl : fl = if fill = bp then 0 else fill) :
    fillRow bp (fuel + 1) rowPx fill =
      ((if fill = bp then [bp] else []) ++ (fillRow bp fuel (rowPx - min rowPx (bp - fl)) (fl + min rowPx (bp - fl))).1,
        (fillRow bp fuel (rowPx - min rowPx (bp - fl)) (fl + min rowPx (bp - fl))).2) := by
  subst hfl
  by_cases hf : fill = bp
  · rw [hf, fillRow_full bp fuel h0, if_pos rfl, if_pos rfl, Nat.sub_zero, Nat.zero_add]; rfl
  · rw [fillRow_room bp fuel h0 hf, if_neg hf, if_neg hf]; rfl

theorem fillRowT_eq {bp bpp epp : Nat} {copyT : Nat → Nat → Option Unit} (hbp : 1 ≤ bp) (hbpp : 1 ≤ bpp)
    (hbpl : bp < 18446744073709551616) (hbuf : bp * epp < 18446744073709551616) (hc : CopyOK copyT bp bpp epp) :
    ∀ (fuelT fuel rowPx fill : Nat), rowPx < fuelT → rowPx < fuel → fill ≤ bp →
      rowPx * bpp < 18446744073709551616 →
      fillRowT bp (bp * epp) bpp epp copyT fuelT (rowPx * bpp) fill =
        some ((fillRow bp fuel rowPx fill).1.map (· * epp), (fillRow bp fuel rowPx fill).2) := by
  intro fuelT
  induction fuelT with
  | zero => intro fuel rowPx fill h; omega
  | succ fuelT ih =>
    intro fuel rowPx fill hfuT hfu hfill hrow
    obtain ⟨fuel, rfl⟩ : ∃ g, fuel = g + 1 := ⟨fuel - 1, by omega⟩
    by_cases h0 : rowPx = 0
    · subst h0; rw [Nat.zero_mul]; rfl
    · have hfl : (if fill = bp then 0 else fill) < bp := by split <;> omega
      rw [fillRowT_succ hbp hbpp hbpl hbuf hc h0 hfill hrow rfl, fillRow_succ bp fuel h0 rfl]
      generalize (if fill = bp then 0 else fill) = fl at hfl
      rw [ih fuel _ _ (by omega) (by omega) (by omega)
        (Nat.lt_of_le_of_lt (Nat.mul_le_mul_right _ (Nat.sub_le _ _)) hrow), bind_some', pure_some', List.map_append]
      split <;> rfl

/-- all rows: the flushes are those of `EncLen.chunksRowsAux` without its final flush -/
theorem fillRowsT_eq {bp bpp epp w : Nat} {copyT : Nat → Nat → Option Unit} (hbp : 1 ≤ bp) (hbpp : 1 ≤ bpp)
    (hbpl : bp < 18446744073709551616) (hbuf : bp * epp < 18446744073709551616) (hrow : w * bpp < 18446744073709551616)
    (hc : CopyOK copyT bp bpp epp) :
    ∀ (rows fill : Nat), fill ≤ bp →
      ∃ F f', fillRowsT bp (bp * epp) bpp epp copyT (List.replicate rows (w * bpp)) fill =
          some (F.map (· * epp), f') ∧
        chunksRowsAux bp w rows fill = F ++ (if f' > 0 then [f'] else []) ∧ f' ≤ bp := by
  intro rows
  induction rows with
  | zero => exact fun fill hf => ⟨[], fill, rfl, rfl, hf⟩
  | succ rows ih =>
    intro fill hf
    obtain ⟨F, f', e1, e2, e3⟩ := ih _ (fillRow_sum bp hbp (w + 1) w fill (by omega) hf).2
    refine ⟨(fillRow bp (w + 1) w fill).1 ++ F, f', ?_, ?_, e3⟩
    · -- the fuel `row.len() + 1` of the mirror covers the `w + 1` of `EncLen.fillRow`
      have hfuel : w < w * bpp + 1 := Nat.lt_succ_of_le (Nat.le_mul_of_pos_right w hbpp)
      rw [List.replicate_succ, fillRowsT, fillRowT_eq hbp hbpp hbpl hbuf hc _ (w + 1) w fill hfuel (by omega) hf hrow,
        bind_some', e1, bind_some', pure_some', List.map_append]
    · rw [chunksRowsAux, e2, List.append_assoc]

/-! ## `for_each_chunk`, both branches -/

/-- pixels per `process_chunk` call: `EncLen.chunkLens` for a contiguous view, `EncLen.chunksRowsAux` for a strided one -/
def chunkPx (v : View) (bp : Nat) : List Nat :=
  if v.pitch = v.w * v.bpp then chunkLens bp (v.w * v.h) (v.w * v.h) else chunksRowsAux bp v.w v.h 0

theorem chunkPx_bounds {v : View} {bp : Nat} (hbp : 1 ≤ bp) : ∀ p ∈ chunkPx v bp, 1 ≤ p ∧ p ≤ bp := by
  intro p hp
  unfold chunkPx at hp
  split at hp
  · have := chunkLens_le bp hbp _ _ p hp; omega
  · exact chunksRowsAux_le bp v.w hbp v.h 0 (by omega) p hp

/-- the number of `process_chunk` calls is `ceil(pixels / buffer_pixels)` on both paths — what every caller computes
as `chunk_count` for its progress fraction -/
theorem chunkPx_length {v : View} {bp : Nat} (hbp : 1 ≤ bp) : (chunkPx v bp).length = divCeil (v.w * v.h) bp := by
  unfold chunkPx
  split
  · rw [chunkLens_length bp hbp _ _ (Nat.le_refl _)]
  · rw [chunksRowsAux_length bp v.w hbp v.h 0 (by omega), Nat.zero_add]

theorem chunkPx_map (v : View) (bp enc : Nat) :
    (chunkPx v bp).map (· * enc) =
      if v.pitch = v.w * v.bpp then chunksContig (v.w * v.h) bp enc else chunksRows v.w v.h bp enc := by
  unfold chunkPx chunksContig chunksRows
  split <;> rfl

theorem chunkCount_lt {v : View} {c : Color} (hv : VOK v c) {bp : Nat} (hbp : 1 ≤ bp) :
    divCeil (v.w * v.h) bp < 18446744073709551616 :=
  Nat.lt_of_le_of_lt (divCeil_le_self _ hbp) (pixels_lt hv)

theorem forEachChunkT_eq {v : View} {c : Color} (hv : VOK v c) {bufLen epp : Nat} {copyT : Nat → Nat → Option Unit}
    (hepp : 1 ≤ epp) (hbuf : epp ≤ bufLen) (hlen : bufLen ≤ 4294967296)
    (hc : CopyOK copyT (bufLen / epp) v.bpp epp) :
    forEachChunkT v bufLen epp copyT = some ((chunkPx v (bufLen / epp)).map (· * epp)) := by
  have hbp : 1 ≤ bufLen / epp := (Nat.one_le_div_iff (by omega)).2 hbuf
  have hmul : bufLen / epp * epp ≤ bufLen := Nat.div_mul_le_self _ _
  have hble : bufLen / epp ≤ bufLen := Nat.div_le_self _ _
  obtain ⟨hb1, hb16⟩ := hv.bpp_pos
  generalize hbpd : bufLen / epp = bp at *
  unfold forEachChunkT chunkPx
  rw [div_bind (by omega), hbpd, mulU_bind (by omega), sliceTo_bind hmul, isContiguousT_eq hv, bind_some']
  by_cases hcg : v.pitch = v.w * v.bpp
  · have hcs : bp * v.bpp ≤ 4294967296 * 16 := Nat.mul_le_mul (by omega) hb16
    rw [if_pos (decide_eq_true hcg), if_pos hcg, mulU_bind (by omega), contiguous_len hv hcg,
      (row_chunks hbp hb1 _).1, bind_some', mapT_map]
    intro p hp
    have hpb := chunkLens_le bp hbp _ _ p hp
    have hpe : p * epp ≤ bp * epp := Nat.mul_le_mul_right _ hpb.1
    rw [div_bind (by omega), Nat.mul_div_cancel _ (by omega), mulU_bind (by omega), sliceTo_bind hpe,
      hc p hpb.2 hpb.1, bind_some', pure_some']
  · have hrow := hv.rowBytes_le
    obtain ⟨F, f', e1, e2, e3⟩ := fillRowsT_eq (copyT := copyT) (w := v.w) hbp hb1 (by omega) (by omega) (by omega) hc
      v.h 0 (by omega)
    have : f' * epp ≤ bp * epp := Nat.mul_le_mul_right _ e3
    rw [if_neg (mt of_decide_eq_true hcg), if_neg hcg, rowsT_eq hv, bind_some', e1, bind_some', e2, finishT,
      List.map_append]
    dsimp only
    split
    · rw [mulU_bind (by omega), sliceTo_bind this, pure_some']; rfl
    · rw [pure_some', List.map_nil, List.append_nil]

/-! ## the callers of `for_each_chunk` -/

theorem mapIdxT_eq_map {α β} (f : Nat → α → Option β) (g : α → β) (l : List α)
    (h : ∀ i x, i < l.length → x ∈ l → f i x = some (g x)) : mapIdxT f l = some (l.map g) := by
  unfold mapIdxT
  rw [mapT_eq_some _ (fun p => g p.1)]
  · congr 1
    have : (fun p : α × Nat => g p.1) = g ∘ Prod.fst := rfl
    rw [this, ← List.map_map, List.zipIdx_map_fst]
  · intro p hp
    have hm := List.mem_zipIdx_iff_getElem?.mp hp
    obtain ⟨hi, hx⟩ := List.getElem?_eq_some_iff.mp hm
    exact h p.2 p.1 hi (hx ▸ List.getElem_mem hi)

/-- the reporting idiom is panic-free as long as the running index stays below the announced count -/
theorem progT_of {index count freq : Nat} (hf : freq ≠ 0) (hi : index < count) (hc : count < 18446744073709551616) :
    progT index count freq = some () := by
  unfold progT
  rw [remU_bind hf]
  dsimp only
  split
  · rw [dbgP_bind (by omega), addU_bind (by omega), pure_some']
  · rw [addU_bind (by omega), pure_some']

theorem progT_chunk {v : View} {c : Color} (hv : VOK v c) {bp : Nat} (hbp : 1 ≤ bp) {freq : Nat} (hf : freq ≠ 0)
    {i : Nat} (hi : i < (chunkPx v bp).length) : progT i (divCeil (v.w * v.h) bp) freq = some () :=
  progT_of hf (chunkPx_length (v := v) hbp ▸ hi) (chunkCount_lt hv hbp)

theorem toLeT_of {prim bytes : Nat} (h : prim = 1 ∨ bytes % prim = 0) : toLeT prim bytes = some () := by
  unfold toLeT
  split
  · rfl
  · exact dbgP_of (by omega)

theorem toLeT_mul {prim size : Nat} (h : prim = 1 ∨ size % prim = 0) (q : Nat) : toLeT prim (q * size) = some () :=
  toLeT_of (h.imp_right fun h => Nat.mod_eq_zero_of_dvd (Nat.dvd_trans (Nat.dvd_of_mod_eq_zero h) (Nat.dvd_mul_left _ _)))

/-- **`copy_directly`** (encoder.rs:257): one write of the whole data for a contiguous view, else the strided
`for_each_chunk` over the `COPY_BUFFER_BYTES` staging buffer -/
theorem copyDirectlyT_eq {v : View} {c : Color} (hv : VOK v c) (hc : c.OK)
    (hbuf : 16 ≤ SrcConsts.COPY_BUFFER_BYTES ∧ SrcConsts.COPY_BUFFER_BYTES ≤ 4294967296) :
    copyDirectlyT v c =
      some (if v.pitch = v.w * v.bpp then [v.w * v.h * v.bpp]
            else chunksRows v.w v.h (SrcConsts.COPY_BUFFER_BYTES / v.bpp) v.bpp) := by
  have hb := c.bpp_pos hc
  have hvb := hv.bpp
  have hps : c.psize ≠ 0 := by rcases hc with h | h | h <;> omega
  unfold copyDirectlyT
  rw [isContiguousT_eq hv, bind_some']
  by_cases hcg : v.pitch = v.w * v.bpp
  · rw [if_pos (decide_eq_true hcg), if_pos hcg, pure_some', contiguous_len hv hcg]
  · rw [if_neg (mt of_decide_eq_true hcg), ← hvb, forEachChunkT_eq hv (by omega) (by omega) hbuf.2
      (fun p _ _ => by rw [dbgP_bind rfl, copyFromSliceT_of_eq rfl]), bind_some', chunkPx_map, if_neg hcg,
      if_neg hcg, chunksRows, mapT_map _ _ (· * v.bpp)]
    intro p _
    rw [remU_bind hps, hvb, c.psize_dvd_bpp, dbgP_bind rfl, sliceNeToLeT, toLeT_of (Or.inr (c.psize_dvd_bpp p)),
      bind_some', pure_some']

/-- what the `f(partial, color, encoded)` closures of `uncompressed_untyped` need of the input colour: the precision
of the target (`ColorFormatSet::from_precision` / `ColorFormatSet::U8` + the `assert!` in `Encoder::encode`), and
an SNORM conversion exists only for 8 and 16 bit -/
def UntypedLine.Fits (k : UntypedLine) (c : Color) : Prop :=
  match k with
  | .convert t snorm => c.psize = t.psize ∧ (snorm = true → t.psize = 1 ∨ t.psize = 2)
  | .bgr n => c.psize = 1 ∧ (n = 3 ∨ n = 4)

theorem UntypedLine.bpe_pos {k : UntypedLine} {c : Color} (hc : c.OK) (hk : k.Fits c) : 1 ≤ k.bpe ∧ k.bpe ≤ 16 := by
  cases k with
  | convert t snorm =>
    have : t.OK := by unfold Color.OK; rw [← hk.1]; exact hc
    exact t.bpp_pos this
  | bgr n => have := hk.2; simp only [UntypedLine.bpe]; omega

theorem untypedLineT_eq {k : UntypedLine} {c : Color} (hc : c.OK) (hk : k.Fits c) (p : Nat) :
    untypedLineT k c (p * c.bpp) (p * k.bpe) = some () := by
  cases k with
  | convert t snorm =>
    obtain ⟨h1, h2⟩ := hk
    have e1 : p * c.bpp = p * (c.psize * TrapUnc.chanCount c.ch) := by unfold Color.bpp; rw [Nat.mul_comm c.psize]
    have e2 : p * t.bpp = p * (c.psize * TrapUnc.chanCount t.ch) := by unfold Color.bpp; rw [h1, Nat.mul_comm t.psize]
    have hto : toLeT t.psize (p * t.bpp) = some () := toLeT_of (Or.inr (t.psize_dvd_bpp p))
    unfold untypedLineT sliceNeToLeT
    simp only [UntypedLine.bpe]
    rw [dbgP_bind h1, e1, e2, TrapUnc.convertChannelsT_eq _ _ _ _ hc, bind_some', ← e2]
    cases snorm with
    | false => exact hto
    | true =>
      rw [if_pos rfl]
      rcases h2 rfl with h | h
      · rw [if_neg (by omega), dbgP_bind h, hto]
      · have hm : p * t.bpp % 2 = 0 := h ▸ t.psize_dvd_bpp p
        rw [if_pos h, TrapUnc.fromBytesT_of ⟨by omega, hm⟩, bind_some', pure_some', bind_some', hto]
  | bgr n =>
    obtain ⟨h1, h2⟩ := hk
    have e1 : p * c.bpp = p * (1 * TrapUnc.chanCount c.ch) := by unfold Color.bpp; rw [h1, Nat.mul_one, Nat.one_mul]
    unfold untypedLineT
    simp only [UntypedLine.bpe]
    rw [dbgP_bind h1, e1]
    rcases h2 with rfl | rfl
    · have e2 : p * 3 = p * (1 * TrapUnc.chanCount .rgb) := rfl
      rw [if_pos rfl, e2, TrapUnc.convertChannelsT_eq _ _ _ _ (Or.inl rfl), bind_some', ← e2,
        TrapUnc.fromBytesT_mul_bind (by omega), pure_some']
    · have e2 : p * 4 = p * (1 * TrapUnc.chanCount .rgba) := rfl
      rw [if_neg (by omega), e2, TrapUnc.convertChannelsT_eq _ _ _ _ (Or.inl rfl), bind_some', ← e2,
        TrapUnc.fromBytesT_mul_bind (by omega), pure_some']

/-- **`uncompressed_untyped`** (uncompressed.rs:157): the chunk sizes of `EncLen.lean`, contiguous or strided -/
theorem uncompressedUntypedT_eq {v : View} {c : Color} (hv : VOK v c) (hc : c.OK) {k : UntypedLine} (hk : k.Fits c)
    (hbuf : 16 ≤ SrcConsts.UNTYPED_BUFFER_BYTES ∧ SrcConsts.UNTYPED_BUFFER_BYTES ≤ 4294967296)
    (hfr : SrcConsts.UNC_REPORT_FREQUENCY ≠ 0) :
    uncompressedUntypedT v c k =
      some (if v.pitch = v.w * v.bpp then chunksContig (v.w * v.h) (SrcConsts.UNTYPED_BUFFER_BYTES / k.bpe) k.bpe
            else chunksRows v.w v.h (SrcConsts.UNTYPED_BUFFER_BYTES / k.bpe) k.bpe) := by
  have hb := k.bpe_pos hc hk
  have hbp : 1 ≤ SrcConsts.UNTYPED_BUFFER_BYTES / k.bpe := (Nat.one_le_div_iff (by omega)).2 (by omega)
  unfold uncompressedUntypedT
  simp only []
  rw [div_bind (by omega), divCeilU_bind (by omega), forEachChunkT_eq hv hb.1 (by omega) hbuf.2
    (fun p _ _ => hv.bpp ▸ untypedLineT_eq hc hk p), bind_some', ← chunkPx_map, mapIdxT_eq_map _ (fun x => x),
    List.map_id']
  intro i x hi _
  rw [progT_chunk hv hbp hfr (List.length_map (· * k.bpe) ▸ hi), bind_some', pure_some']

/-- `convert_to_rgba_f32` accepts `p` whole pixels into `p` pixels of `[f32; 4]` -/
theorem convertToRgbaF32T_eq {c : Color} (hc : c.OK) (p : Nat) : convertToRgbaF32T c (p * c.bpp) p = some () := by
  have hcc := TrapUnc.chanCount_le c.ch
  have e1 : p * c.bpp = p * (c.psize * TrapUnc.chanCount c.ch) := by unfold Color.bpp; rw [Nat.mul_comm c.psize]
  have hne : c.psize * TrapUnc.chanCount c.ch ≠ 0 :=
    Nat.mul_ne_zero (by rcases hc with h | h | h <;> omega) (by omega)
  unfold convertToRgbaF32T convertTToRgbaF32T
  rw [e1, remU_bind hne, Nat.mul_mod_left, dbgP_bind rfl, div_bind hne, Nat.mul_div_cancel _ (by omega), dbgP_bind rfl]
  split
  · next h4 =>
    have e2 : p * 16 = p * (4 * TrapUnc.chanCount .rgba) := rfl
    rw [h4, e2, TrapUnc.convertChannelsT_eq _ _ _ _ (Or.inr (Or.inr rfl))]
  · rw [TrapUnc.fromBytesT_mul_bind (Nat.pos_of_ne_zero hne), dbgP_of rfl]

/-- `as_rgba_f32` on `p` whole pixels returns `p` pixels, whether or not the input happens to be aligned -/
theorem asRgbaF32T_eq {c : Color} (hc : c.OK) (aligned : Bool) (p : Nat) : asRgbaF32T c aligned (p * c.bpp) p = some p := by
  unfold asRgbaF32T
  split
  · next hfast =>
    have : c.bpp = 16 := by unfold Color.bpp; rw [hfast.1, hfast.2.1]; rfl
    rw [this, Nat.mul_div_cancel _ (by omega)]
  · rw [convertToRgbaF32T_eq hc, bind_some', pure_some']

/-- **`uncompressed_universal`** (uncompressed.rs:19) for an encoded pixel of `size` bytes built from a primitive of
`prim` bytes -/
theorem uncompressedUniversalT_eq {v : View} {c : Color} (hv : VOK v c) (hc : c.OK) (aligned : Bool) {size prim : Nat}
    (hs : 1 ≤ size ∧ size ≤ 65536) (hp : prim = 1 ∨ (prim ≠ 0 ∧ size % prim = 0))
    (hbuf : 1 ≤ SrcConsts.UNIVERSAL_BUFFER_PIXELS ∧ SrcConsts.UNIVERSAL_BUFFER_PIXELS ≤ 4294967296)
    (hfr : SrcConsts.UNC_REPORT_FREQUENCY ≠ 0) :
    uncompressedUniversalT v c aligned size prim =
      some (if v.pitch = v.w * v.bpp then chunksContig (v.w * v.h) SrcConsts.UNIVERSAL_BUFFER_PIXELS size
            else chunksRows v.w v.h SrcConsts.UNIVERSAL_BUFFER_PIXELS size) := by
  unfold uncompressedUniversalT
  simp only []
  rw [divCeilU_bind (by omega), forEachChunkT_eq hv (Nat.le_refl 1) hbuf.1 hbuf.2
    (fun p _ hpb => by
      rw [Nat.div_one] at hpb
      rw [hv.bpp, Nat.mul_one, sliceTo_bind hpb, asRgbaF32T_eq hc, bind_some', dbgP_of rfl]),
    bind_some', Nat.div_one, ← chunkPx_map, mapIdxT_eq_map _ (· * size), List.map_map]
  · exact congrArg some (List.map_congr_left fun q _ => congrArg (· * size) (Nat.mul_one q))
  · intro i x hi hx
    obtain ⟨q, hq, rfl⟩ := List.mem_map.mp hx
    have hqs : q * 1 * size ≤ 4294967296 * 65536 :=
      Nat.mul_le_mul (by have := (chunkPx_bounds hbuf.1 q hq).2; omega) hs.2
    rw [progT_chunk hv hbuf.1 hfr (List.length_map (· * 1) ▸ hi), bind_some', mulU_bind (by omega),
      toLeT_mul (hp.imp_right And.right), bind_some', pure_some']

/-! ## `uncompressed_universal_dither` -/

theorem ditherProcessChunkT_eq {size prim p : Nat} (hs : size ≠ 0) (hp : prim = 1 ∨ size % prim = 0)
    (hpl : p ≤ 4294967296) : ditherProcessChunkT size prim p (p * size) p (p + 2) = some () := by
  unfold ditherProcessChunkT
  rw [TrapUnc.fromBytesT_mul_bind (Nat.pos_of_ne_zero hs), dbgP_bind rfl, dbgP_bind rfl, dbgP_bind rfl]
  simp only [Nat.min_self]
  rw [mapT_eq_some _ (fun _ => ()), bind_some', toLeT_mul hp]
  intro i hi
  have hi : i < p := List.mem_range.mp hi
  rw [addU_bind (by omega), subU_bind (by omega), idxLen_bind (by omega), idxLen_bind (by omega),
    addU_bind (by omega), idxLen_of_lt (by omega)]

/-- the chunk loop of one row on the chunks `L` (pixels) that remain, `error_offset` pixels into the error lines -/
theorem ditherRowT_eq {c : Color} (hc : c.OK) (aligned : Bool) {size prim bp eb E cnt cp : Nat} (hs : size ≠ 0)
    (hp : prim = 1 ∨ size % prim = 0) (hcpb : cp ≤ bp) (hcpe : cp ≤ eb / size) (hbp : bp ≤ 4294967296)
    (heb : eb < 18446744073709551616) (hE : E < 4611686018427387904) (hcnt : cnt < 18446744073709551616)
    (hfr : SrcConsts.UNC_REPORT_FREQUENCY ≠ 0) :
    ∀ (L : List Nat) (idx eo : Nat), (∀ q ∈ L, 1 ≤ q ∧ q ≤ cp) → 1 ≤ eo → eo + L.sum + 1 ≤ E → idx + L.length ≤ cnt →
      ditherRowT c aligned size prim bp eb E E cnt (L.map (· * c.bpp)) idx eo =
        some (L.map (· * size), idx + L.length) := by
  have hb := c.bpp_pos hc
  intro L
  induction L with
  | nil => intro idx eo _ _ _ _; rfl
  | cons q L ih =>
    intro idx eo hq heo hsum hidx
    have hq1 := hq q (List.mem_cons_self ..)
    rw [List.sum_cons] at hsum
    rw [List.length_cons] at hidx
    have hqs : q * size ≤ eb := Nat.mul_le_of_le_div _ _ _ (by omega)
    have e2 : eo + q + 1 - (eo - 1) = q + 2 := by omega
    rw [List.map_cons, ditherRowT, progT_of hfr (by omega) hcnt, bind_some', remU_bind (by omega), Nat.mul_mod_left,
      dbgP_bind rfl, div_bind (by omega), Nat.mul_div_cancel _ (by omega), sliceTo_bind (by omega),
      mulU_bind (by omega), sliceTo_bind hqs, asRgbaF32T_eq hc, bind_some', addU_bind (by omega),
      sliceRange_bind (by omega), Nat.add_sub_cancel_left, subU_bind heo, addU_bind (by omega), addU_bind (by omega),
      sliceRange_bind (by omega), e2, ditherProcessChunkT_eq hs hp (by omega), bind_some', addU_bind (by omega),
      toLeT_of (Or.inl rfl), bind_some',
      ih (idx + 1) (eo + q) (fun x hx => hq x (List.mem_cons_of_mem _ hx)) (by omega) (by omega) (by omega),
      bind_some', pure_some', List.map_cons, Nat.add_assoc, Nat.add_comm 1]
    rfl

/-- what the two row-chunking encoders (dither, sub-sample) compute before their row loop -/
theorem row_chunk_facts {v : View} {c : Color} (hv : VOK v c) (hc : c.OK) {cp : Nat} (hcp : 1 ≤ cp) (hcpl : cp ≤ 65536) :
    cp * c.bpp ≠ 0 ∧ cp * c.bpp < 18446744073709551616 ∧ v.w * c.bpp < 18446744073709551616 ∧
      divCeil (v.w * c.bpp) (cp * c.bpp) = divCeil v.w cp ∧ v.h * divCeil v.w cp < 18446744073709551616 := by
  have hb := c.bpp_pos hc
  obtain ⟨hw, hh, _, _⟩ := hv.bounds
  have hcs : cp * c.bpp ≤ 65536 * 16 := Nat.mul_le_mul hcpl hb.2
  have hrow := hv.rowBytes_le
  rw [hv.bpp] at hrow
  have hper : divCeil v.w cp ≤ v.w := divCeil_le_self _ hcp
  have hcnt : v.h * divCeil v.w cp ≤ 4294967295 * 4294967295 := Nat.mul_le_mul (by omega) (by omega)
  exact ⟨Nat.mul_ne_zero (by omega) (by omega), by omega, by omega, divCeil_mul_right _ hcp hb.1, by omega⟩

/-- all rows; both error lines have `E` elements, so the `swap` at the start of a row is invisible to the slicing -/
theorem ditherRowsT_eq {c : Color} (hc : c.OK) (aligned : Bool) {size prim bp eb E cnt cp w pad : Nat} (hs : size ≠ 0)
    (hp : prim = 1 ∨ size % prim = 0) (hcp : 1 ≤ cp) (hcpb : cp ≤ bp) (hcpe : cp ≤ eb / size)
    (hbp : bp ≤ 4294967296) (heb : eb < 18446744073709551616) (hE : E < 4611686018427387904)
    (hcnt : cnt < 18446744073709551616) (hfr : SrcConsts.UNC_REPORT_FREQUENCY ≠ 0)
    (hpad : SrcConsts.DITHER_ERROR_PADDING = pad) (hpad1 : 1 ≤ pad) (hEw : w + 2 * pad = E) :
    ∀ (n idx : Nat), idx + n * divCeil w cp ≤ cnt →
      ditherRowsT c aligned size prim bp eb (cp * c.bpp) cnt (w * c.bpp) (List.replicate n (w * c.bpp)) idx E E =
        some (List.replicate n ((chunkLens cp w w).map (· * size))).flatten := by
  obtain ⟨hch, hlen, hsum, hle⟩ := row_chunks hcp (c.bpp_pos hc).1 w
  intro n
  induction n with
  | zero => intro idx _; rfl
  | succ n ih =>
    intro idx hidx
    rw [Nat.succ_mul] at hidx
    rw [List.replicate_succ, ditherRowsT, dbgP_bind rfl, hch, bind_some', hpad,
      ditherRowT_eq hc aligned hs hp hcpb hcpe hbp heb hE hcnt hfr _ idx pad hle hpad1 (by omega) (by omega),
      bind_some', ih _ (by omega), bind_some', pure_some', List.replicate_succ, List.flatten_cons]

/-- **`uncompressed_universal_dither`** (uncompressed.rs:73) for an encoded pixel of `size` bytes, alignment `align`,
built from a primitive of `prim` bytes: every row is cut into chunks of `min(BUFFER_PIXELS, bytes / size)` pixels;
the two error lines are indexed inside their `width + 2·padding` elements — also for `width = 1` and `width = 0` -/
theorem ditherT_eq {v : View} {c : Color} (hv : VOK v c) (hc : c.OK) (aligned : Bool) {size align prim : Nat}
    (hs : 1 ≤ size ∧ size ≤ SrcConsts.DITHER_BUFFER_PIXELS * SrcConsts.DITHER_ENCODED_ELEM_BYTES)
    (ha : align ≤ SrcConsts.DITHER_ENCODED_ELEM_BYTES) (hp : prim = 1 ∨ size % prim = 0)
    (hbuf : 1 ≤ SrcConsts.DITHER_BUFFER_PIXELS ∧ SrcConsts.DITHER_BUFFER_PIXELS ≤ 65536 ∧
      SrcConsts.DITHER_ENCODED_ELEM_BYTES ≤ 65536 ∧ 1 ≤ SrcConsts.DITHER_ERROR_PADDING ∧
      SrcConsts.DITHER_ERROR_PADDING ≤ 65536)
    (hfr : SrcConsts.UNC_REPORT_FREQUENCY ≠ 0) :
    ditherT v c aligned size align prim =
      some (chunksPerRow v.w v.h
        (min SrcConsts.DITHER_BUFFER_PIXELS
          (SrcConsts.DITHER_BUFFER_PIXELS * SrcConsts.DITHER_ENCODED_ELEM_BYTES / size)) size) := by
  obtain ⟨hb1, hb2, he2, hp1, hp2⟩ := hbuf
  obtain ⟨hw, _, _, _⟩ := hv.bounds
  unfold ditherT chunksPerRow
  simp only []
  generalize hBP : SrcConsts.DITHER_BUFFER_PIXELS = BP at *
  generalize hEL : SrcConsts.DITHER_ENCODED_ELEM_BYTES = EL at *
  generalize hPAD : SrcConsts.DITHER_ERROR_PADDING = pad at *
  have hbe : BP * EL ≤ 65536 * 65536 := Nat.mul_le_mul hb2 he2
  have hq : 1 ≤ BP * EL / size := (Nat.one_le_div_iff (by omega)).2 hs.2
  have e1 : 2 * (v.w + pad * 2) - (v.w + pad * 2) = v.w + pad * 2 := by omega
  rw [dbgP_bind ha, mulU_bind (by omega), addU_bind (by omega), mulU_bind (by omega), allocT_bind (by omega),
    mulU_bind (by omega), addU_bind (by omega), splitAtT_of_le (by omega), bind_some', mulU_bind (by omega),
    div_bind (by omega), e1]
  have hcp1 : 1 ≤ min BP (BP * EL / size) := by rw [Nat.min_def]; split <;> omega
  have hcpb : min BP (BP * EL / size) ≤ BP := Nat.min_le_left _ _
  have hcpe : min BP (BP * EL / size) ≤ BP * EL / size := Nat.min_le_right _ _
  generalize min BP (BP * EL / size) = cp at *
  obtain ⟨_, hcs, hrow, hper, hcnt⟩ := row_chunk_facts hv hc hcp1 (by omega)
  rw [mulU_bind hcs, mulU_bind hrow, divCeilU_bind (by omega), hper, mulU_bind hcnt, rowsT_eq hv, bind_some', hv.bpp,
    ditherRowsT_eq (E := v.w + pad * 2) (pad := pad) hc aligned (by omega) hp hcp1 hcpb hcpe (by omega) (by omega)
      (by omega) hcnt hfr hPAD hp1 (by omega) v.h 0 (by rw [Nat.zero_add, Nat.mul_comm]; exact Nat.le_refl _),
    List.map_const', List.length_range]

end Dds.TrapEnc
