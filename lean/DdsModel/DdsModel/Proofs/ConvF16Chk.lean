/-
Checkers for the kernel evaluation of the `f32`-evaluated conversions over their whole domains (the sweeps are
`Proofs/ConvF16W0.lean`, `ConvF16W1.lean`, `ConvF16S.lean`, `ConvF16H.lean`, `ConvShared.lean` and `ConvFloat.lean`), and what a successful run
means in terms of the model (`Conv.lean`) and the specification (`ConvSpec.lean`).
-/
import DdsModel.Proofs.ConvFastConv
import DdsModel.Range

namespace Dds.ConvFast
open Dds Dds.CF32 Dds.Spec Dds.Conv
open Dds.F32.Raw (sel lz lz_eq nadd nsub nmul ndiv nmod npow nshl sel_ble sel_blt sel_beq ble_dec blt_dec beq_dec sel_dec)

/-! ### `(x as f32 * K0) * K1` is the correctly rounded `x / D` -/

def chkMulK (k0 k1 D x : Nat) : Bool := Nat.beq (mulKR x k0 k1) (rndR x D)

theorem chkMulK_sound {k0 k1 D x : Nat} (h : chkMulK k0 k1 D x = true) : mulK x k0 k1 = roundF32 (mkRat x D) := by
  rw [← mulKR_eq, ← rndR_eq]
  exact Nat.eq_of_beq_eq_true h

/-- UNORM codes `x ≤ D = 2^n − 1` -/
theorem mulK_unorm (n k0 k1 D d : Nat) (hD : 2 ^ n - 1 = D) (h : allRange (chkMulK k0 k1 D) d 0 (D + 1) = true)
    (x : Nat) (hx : x < D + 1) : mulK x k0 k1 = roundF32 (unorm n x) := by
  rw [unorm_eq n x D hD]
  exact chkMulK_sound (allRange_lt h x hx)

/-- SNORM codes `x < 2P = 2^n` through `sN::norm`, whose values are `0 … 2P − 2` -/
theorem mulK_snorm (n P k0 k1 d : Nat) (hP : 2 ^ (n - 1) = P) (hP2 : 2 ^ n = 2 * P) (h1 : 1 < P)
    (h : allRange (chkMulK k0 k1 (2 * P - 2)) d 0 (2 * P - 1) = true) (x : Nat) (hx : x < 2 * P) :
    mulK ((x + P) % (2 * P) - 1) k0 k1 = roundF32 (snorm n x) := by
  rw [snorm_eq n x P hP hP2 h1 hx]
  have := Nat.mod_lt (x + P) (show 0 < 2 * P by omega)
  exact chkMulK_sound (allRange_lt h _ (by omega))

/-! ### a 16-bit UNORM value `w` and its `f32` image `b = n16::f32(w)`

Besides `b = roundF32 (w / 65535)` (C04) the same evaluation of `b` serves the two facts C12 needs of it:
`n16::from_f32(b) = w`, and the SNORM16 quantiser of the exact value of `b` (`Proofs/EncCarrierChk.lean`). -/

/-- `2^149` -/
def D149 : Nat := 713623846352979940529142984724747568191373312
theorem D149_eq : D149 = 2 ^ 149 := by decide +kernel

/-- `b` is a finite non-negative pattern of value `a / 2^149 ≤ 1` and `⌊65534·a / 2^149 + ½⌋ = t` -/
def chkS16Val (b t : Nat) : Bool :=
  lz (Nat.mul (mantR b) (Nat.pow 2 (Nat.sub (bexpR b) 851))) fun a =>
    Nat.blt b 0x7F800000 && Nat.ble a D149 &&
      Nat.beq (Nat.div (Nat.add (Nat.mul (Nat.mul 2 a) 65534) D149) (Nat.mul 2 D149)) t

def chkW16 (w : Nat) : Bool :=
  lz (n16R w) fun b =>
    Nat.beq b (rndR w 65535) && Nat.beq (scaleR b 65535) w &&
      chkS16Val b (Nat.shiftRight (Nat.add (Nat.mul w 65534) 65534) 16)

theorem chkW16_sound (w : Nat) (h : chkW16 w = true) :
    n16f32 w = roundF32 (unorm 16 w) ∧ fpn16 (n16f32 w) = w ∧
      chkS16Val (n16f32 w) ((w * 65534 + 65534) >>> 16) = true := by
  unfold chkW16 at h
  simp only [lz_eq, Bool.and_eq_true, n16R_eq, scaleR_eq] at h
  obtain ⟨⟨h1, h2⟩, h3⟩ := h
  refine ⟨?_, Nat.eq_of_beq_eq_true h2, h3⟩
  rw [unorm_eq 16 w 65535 rfl, ← rndR_eq]
  exact Nat.eq_of_beq_eq_true h1

/-! ### small floats: the non-negative finite codes, all three precisions -/

/-- `dev` is the amount by which the 16-bit code exceeds the nearest one -/
def chkSmall (mb dev x : Nat) : Bool :=
  lz (hExp mb x) fun exp => lz (hMant mb x) fun mant =>
  lz (hMagN mb exp mant) fun N => lz (hMagD mb exp) fun D =>
    Nat.beq (hF32 mb exp mant) (rndR N D) && Nat.beq (hN8 mb exp mant) (codeR 255 N D) &&
      Nat.beq (hN16 mb exp mant) (Nat.add (codeR 65535 N D) dev)

theorem chkSmall_sound (mb dev x : Nat) (h : chkSmall mb dev x = true) :
    hF32 mb (hExp mb x) (hMant mb x) = roundF32 (mkRat (hMagN mb (hExp mb x) (hMant mb x)) (hMagD mb (hExp mb x))) ∧
    ((hN8 mb (hExp mb x) (hMant mb x) : Nat) : Int) =
      toCode 255 (mkRat (hMagN mb (hExp mb x) (hMant mb x)) (hMagD mb (hExp mb x))) ∧
    ((hN16 mb (hExp mb x) (hMant mb x) : Nat) : Int) =
      toCode 65535 (mkRat (hMagN mb (hExp mb x) (hMant mb x)) (hMagD mb (hExp mb x))) + (dev : Nat) := by
  unfold chkSmall at h
  simp only [lz_eq, Bool.and_eq_true] at h
  obtain ⟨⟨h1, h2⟩, h3⟩ := h
  have hD := hMagD_ne mb (hExp mb x)
  refine ⟨?_, ?_, ?_⟩
  · rw [← rndR_eq]; exact Nat.eq_of_beq_eq_true h1
  · rw [toCode_mkRat _ _ _ hD, Nat.eq_of_beq_eq_true h2]
  · rw [toCode_mkRat _ _ _ hD, Nat.eq_of_beq_eq_true h3, nadd, Int.natCast_add]

/-- a code without sign bit; `exp = 31` (infinity, NaN) needs no evaluation -/
def chkSmallU (mb x : Nat) : Bool := Nat.beq (hExp mb x) 31 || chkSmall mb 0 x

/-- the four halves `0x3801 … 0x3804` whose 16-bit code comes out one too high -/
def devR (y : Nat) : Nat := sel (Nat.ble 14337 y && Nat.ble y 14340) 1 0

theorem devR_eq (y : Nat) : devR y = if 14337 ≤ y ∧ y ≤ 14340 then 1 else 0 := by
  unfold devR
  rw [ble_dec, ble_dec, ← Bool.decide_and, sel_dec]

def chkHalf (y : Nat) : Bool := chkSmall 10 (devR y) y

/-! ### R9G9B9E5: code `i = 512·exp + mant`; the single pair (15, 257) is one 16-bit code too high -/

def chkShared (i : Nat) : Bool :=
  lz (Nat.div i 512) fun e => lz (Nat.mod i 512) fun m =>
  lz (scaleN m e 24) fun N => lz (scaleD e 24) fun D =>
    Nat.beq (sharedF32R e m) (rndR N D) && Nat.beq (sharedN8R e m) (codeR 255 N D) &&
      Nat.beq (sharedN16R e m) (Nat.add (codeR 65535 N D) (sel (Nat.beq i 7937) 1 0))

theorem chkShared_sound (e m : Nat) (hm : m < 512) (h : chkShared (e * 512 + m) = true) :
    sharedF32 e m = roundF32 (sharedExp e m) ∧ (sharedN8 e m : Int) = toCode 255 (sharedExp e m) ∧
    (sharedN16 e m : Int) = toCode 65535 (sharedExp e m) + (if e = 15 ∧ m = 257 then 1 else 0) := by
  unfold chkShared at h
  have h1 : (e * 512 + m) / 512 = e := by omega
  have h2 : (e * 512 + m) % 512 = m := by omega
  simp only [lz_eq, Bool.and_eq_true, ndiv, nmod, h1, h2] at h
  obtain ⟨⟨c1, c2⟩, c3⟩ := h
  obtain ⟨r1, r2, r3⟩ := sharedR_eq e m
  have hD := scaleD_ne e 24
  rw [sharedExp_eq, toCode_mkRat _ _ _ hD, toCode_mkRat _ _ _ hD, ← rndR_eq, ← r1, ← r2, ← r3]
  refine ⟨Nat.eq_of_beq_eq_true c1, by rw [Nat.eq_of_beq_eq_true c2], ?_⟩
  rw [Nat.eq_of_beq_eq_true c3, nadd, Int.natCast_add, sel_beq]
  have : (e * 512 + m = 7937) ↔ (e = 15 ∧ m = 257) := by omega
  simp only [this]
  split <;> rfl

end Dds.ConvFast
