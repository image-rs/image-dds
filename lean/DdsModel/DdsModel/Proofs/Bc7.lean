/-
Lemmas about the BC7 models (`Bc7.lean` implementation-shaped, `Bc7Spec.lean` specification-shaped).
-/
import DdsModel.Bc7
import DdsModel.Bc7Spec
import DdsModel.Proofs.BcTables
namespace Dds.Bc7
open Dds.BcTables Dds.Bc7Spec

theorem rd_lt (b p n : Nat) : rd b p n < 2 ^ n := Nat.mod_lt _ (Nat.two_pow_pos n)
theorem rd_eq_shift (b p n : Nat) : rd b p n = (b >>> p) % 2 ^ n := by
  simp [rd, Nat.shiftRight_eq_div_pow]

/-! ### bit stream reads are positional reads -/

theorem mask8_eq {n : Nat} (h0 : 0 < n) (h : n ≤ 8) : mask8 n = 2 ^ n - 1 := by
  have : n = 1 ∨ n = 2 ∨ n = 3 ∨ n = 4 ∨ n = 5 ∨ n = 6 ∨ n = 7 ∨ n = 8 := by omega
  rcases this with h | h | h | h | h | h | h | h <;> subst h <;> decide

theorem consumeBits_eq (n s : Nat) (h0 : 0 < n) (h : n ≤ 8) : consumeBits n s = (s % 2 ^ n, s >>> n) := by
  unfold consumeBits
  rw [mask8_eq h0 h, Nat.and_two_pow_sub_one_eq_mod]
  have hd : 2 ^ n ∣ U8 := by
    have : U8 = 2 ^ 8 := by decide
    rw [this]; exact Nat.pow_dvd_pow 2 h
  rw [Nat.mod_mod_of_dvd _ hd]

theorem consumeBits_at (n b p : Nat) (h0 : 0 < n) (h : n ≤ 8) :
    consumeBits n (b >>> p) = (rd b p n, b >>> (p + n)) := by
  rw [consumeBits_eq n _ h0 h, rd_eq_shift, Nat.shiftRight_add]

theorem consumeBit_eq (s : Nat) : consumeBit s = consumeBits 1 s := rfl

theorem consumeBit_at (b p : Nat) : consumeBit (b >>> p) = (rd b p 1, b >>> (p + 1)) :=
  consumeBits_at 1 b p (by decide) (by decide)

/-- `k` consecutive `c`-bit fields starting at bit `p` -/
def rdN : Nat → Nat → Nat → Nat → List Nat
  | 0, _, _, _ => []
  | k + 1, c, b, p => rd b p c :: rdN k c b (p + c)

theorem rdN_getD (k c b p i : Nat) (hi : i < k) : (rdN k c b p).getD i 0 = rd b (p + i * c) c := by
  induction k generalizing p i with
  | zero => omega
  | succ k ih =>
    cases i with
    | zero => simp [rdN]
    | succ i =>
      simp only [rdN, List.getD_cons_succ]
      rw [ih (p + c) i (by omega), Nat.succ_mul]
      congr 1; omega

theorem consumeN_at (k c b p : Nat) (h0 : 0 < c) (h : c ≤ 8) :
    consumeN k c (b >>> p) = (rdN k c b p, b >>> (p + k * c)) := by
  induction k generalizing p with
  | zero => simp [consumeN, rdN]
  | succ k ih =>
    simp only [consumeN, rdN]
    rw [consumeBits_at c b p h0 h]
    simp only []
    rw [ih (p + c), Nat.succ_mul]
    have e : p + c + k * c = p + (k * c + c) := by omega
    rw [e]

theorem consumeBitsEach_eq (k s : Nat) : consumeBitsEach k s = consumeN k 1 s := by
  induction k generalizing s with
  | zero => rfl
  | succ k ih => simp only [consumeBitsEach, consumeN, consumeBit_eq, ih]

theorem consumeBitsEach_at (k b p : Nat) :
    consumeBitsEach k (b >>> p) = (rdN k 1 b p, b >>> (p + k)) := by
  rw [consumeBitsEach_eq, consumeN_at k 1 b p (by decide) (by decide), Nat.mul_one]


theorem promote_eq_replicate :
    ∀ bits, bits < 8 → 4 ≤ bits → ∀ v, v < 2 ^ bits → promote v bits = expand bits v := by decide +kernel

theorem expand8 (v : Nat) (h : v < 256) : expand 8 v = v := by
  simp only [expand, Nat.reduceSub, Nat.reduceMul, Nat.reducePow]; omega

theorem withP_eq : ∀ v, v < 128 → ∀ p, p < 2 → withP v p = v * 2 + p := by decide +kernel

theorem expand_lt : ∀ bits, bits < 9 → 4 ≤ bits → ∀ v, v < 2 ^ bits → expand bits v < 256 := by decide +kernel

theorem weights_x4 :
    (∀ i, i < 4 → WEIGHTS_2.getD i 0 = 4 * specW2.getD i 0 ∧ specW2.getD i 0 ≤ 64) ∧
    (∀ i, i < 8 → WEIGHTS_3.getD i 0 = 4 * specW3.getD i 0 ∧ specW3.getD i 0 ≤ 64) ∧
    (∀ i, i < 16 → WEIGHTS_4.getD i 0 = 4 * specW4.getD i 0 ∧ specW4.getD i 0 ≤ 64) := by decide

/-- the two products of an interpolation are bounded by those for the endpoint 255; with these bounds the products
can be treated as opaque numbers and the rest is linear -/
theorem interp_terms (e0 e1 w : Nat) (h0 : e0 < 256) (h1 : e1 < 256) :
    (64 - w) * e0 ≤ (64 - w) * 255 ∧ w * e1 ≤ w * 255 :=
  ⟨Nat.mul_le_mul_left _ (by omega), Nat.mul_le_mul_left _ (by omega)⟩

/-- `((256-4w)*e0 + 4w*e1 + 128) >> 8` in `u16`, truncated to `u8`, is `((64-w)*e0 + w*e1 + 32) >> 6` -/
theorem lerp_eq_interp (e0 e1 w : Nat) (h0 : e0 < 256) (h1 : e1 < 256) (hw : w ≤ 64) :
    lerp e0 e1 (4 * w) = interp e0 e1 w := by
  obtain ⟨hp, hq⟩ := interp_terms e0 e1 w h0 h1
  have e : (256 + U16 - 4 * w) % U16 * e0 = 4 * ((64 - w) * e0) := by
    rw [← Nat.mul_assoc]; congr 1; simp only [U16]; omega
  simp only [lerp, interp, e, Nat.mul_assoc]
  simp only [U16, U8, Nat.shiftRight_eq_div_pow]
  generalize (64 - w) * e0 = p at hp ⊢
  generalize w * e1 = q at hq ⊢
  omega

theorem interp_lt (e0 e1 w : Nat) (h0 : e0 < 256) (h1 : e1 < 256) (hw : w ≤ 64) : interp e0 e1 w < 256 := by
  obtain ⟨hp, hq⟩ := interp_terms e0 e1 w h0 h1
  unfold interp
  omega


theorem tz_small : ∀ x, x < 256 → trailingZeros8 x = modeOf x := by decide +kernel

theorem modeOf_mod (b : Nat) : modeOf b = modeOf (b % 256) := by
  have h : ∀ m, m < 8 → (b % 256) % 2 ^ (m + 1) = b % 2 ^ (m + 1) := by
    intro m hm
    have : 2 ^ (m + 1) ∣ 256 := by
      have : (256 : Nat) = 2 ^ 8 := by decide
      rw [this]; exact Nat.pow_dvd_pow 2 (by omega)
    exact Nat.mod_mod_of_dvd _ this
  simp only [modeOf, List.range, List.range.loop, List.find?, h 0 (by omega), h 1 (by omega), h 2 (by omega),
    h 3 (by omega), h 4 (by omega), h 5 (by omega), h 6 (by omega), h 7 (by omega)]

theorem mode_by_trailing_zeros (b : Nat) : (extractMode b).1 = modeOf b := by
  rw [modeOf_mod]
  exact tz_small _ (Nat.mod_lt _ (by decide))

theorem mode8_zero (b : Nat) (h : b % 256 = 0) : decodeBlock b = List.replicate 16 [0, 0, 0, 0] := by
  have : (extractMode b).1 = 8 := by
    simp only [extractMode, U8, h]; decide
  simp [decodeBlock, this]

theorem U64_eq : U64 = 2 ^ 64 := by decide

/-- `(1 << k) - 1` in `u64` for `k < 64` -/
theorem mask64_eq (k : Nat) (h : k < 64) : ((1 <<< k) % U64 + U64 - 1) % U64 = 2 ^ k - 1 := by
  have h1 : 2 ^ k < 2 ^ 64 := Nat.pow_lt_pow_right (by decide) h
  have h2 : 0 < 2 ^ k := Nat.two_pow_pos k
  rw [Nat.one_shiftLeft, U64_eq]
  generalize 2 ^ k = t at *
  omega

theorem getMask_eq (k : Nat) (h : k < 64) : getMask k = 2 ^ k - 1 := mask64_eq k h

end Dds.Bc7
