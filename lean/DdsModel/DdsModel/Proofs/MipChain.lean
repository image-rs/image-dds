/- Helper lemmas for C16: straight-alpha samples, and invariants along a whole generated chain. -/
import DdsModel.Proofs.MipResize
import DdsModel.Proofs.MipPlan
namespace Dds.Mip

/-! ### straight-alpha samples -/

theorem saColour_range (p : Prec) (lo hi : Rat) (hg : p.Grid lo hi) (accC accA : Rat)
    (hpos : 0 < saAlpha p accA) (h1 : lo * accA ≤ accC) (h2 : accC ≤ hi * accA) :
    lo ≤ saColour p accC accA ∧ saColour p accC accA ≤ hi := by
  obtain ⟨ha, e⟩ := saColour_visible p accC accA hpos
  rw [e]
  exact quant_range' p lo hi _ hg ((rat_le_div_iff ha).mpr h1) ((rat_div_le_iff ha).mpr h2)

theorem saAlpha_range (p : Prec) (lo hi : Rat) (hg : p.Grid lo hi) (h0 : 0 ≤ lo) (accA : Rat)
    (h1 : lo ≤ accA) (h2 : accA ≤ hi) : lo ≤ saAlpha p accA ∧ saAlpha p accA ≤ hi := by
  cases p with
  | u8 => exact quant_range' _ lo hi _ hg h1 h2
  | u16 => exact quant_range' _ lo hi _ hg h1 h2
  | f32 =>
    unfold saAlpha; simp only
    by_cases hz : accA ≤ 0
    · rw [if_pos hz]; constructor <;> grind
    · rw [if_neg hz]; exact ⟨h1, h2⟩

theorem saAlpha_fix (p : Prec) (a : Rat) (hg : p.Grid a a) (h0 : 0 ≤ a) : saAlpha p a = a := by
  obtain ⟨h1, h2⟩ := saAlpha_range p a a hg h0 a Rat.le_refl Rat.le_refl
  exact Rat.le_antisymm h2 h1

theorem maxVal_pos (p : Prec) : 0 < p.maxVal := by cases p <;> decide

theorem grid_nat (p : Prec) (n : Nat) (h : (n : Rat) ≤ p.maxVal) : p.Grid n n :=
  Or.inr ⟨n, n, rfl, rfl, h⟩

theorem grid_zero (p : Prec) : p.Grid 0 0 := grid_nat p 0 (Rat.le_of_lt (maxVal_pos p))

theorem grid_max (p : Prec) : p.Grid p.maxVal p.maxVal := by
  cases p
  · exact grid_nat _ 255 Rat.le_refl
  · exact grid_nat _ 65535 Rat.le_refl
  · exact Or.inl rfl

/-- zero accumulated alpha: every precision writes the pixel (0,0,0,0) -/
theorem saColour_zero (p : Prec) (accC : Rat) : saColour p accC 0 = 0 := by
  have hq := quant_fix p 0 (grid_zero p)
  cases p with
  | u8 => rw [saColour_u8, if_pos (by grind), Rat.mul_zero]; exact hq
  | u16 => rw [saColour_u16, if_pos hq]
  | f32 => rw [saColour_f32, if_pos Rat.le_refl]

theorem Plane.at_map {α : Type} (l : List α) (F : α → Rat) (k : Nat) (hk : k < l.length) :
    Plane.at (l.map F) k = F (l[k]'hk) := by
  unfold Plane.at
  rw [List.getD_eq_getElem?_getD, List.getElem?_map, List.getElem?_eq_getElem hk]; rfl

/-! ### image level: which path `resize_into` takes -/

theorem resizeImg_plain (K : Kernel) (f : Filter) (p : Prec) (sa : Bool) (src : Img) (s : Sz)
    (h : sa = false ∨ src.planes.length ≠ 4) :
    resizeImg K f p sa src s =
      ⟨s.1, s.2, src.planes.map (resizePlane p (K.taps f src.w src.h s.1 s.2))⟩ := by
  unfold resizeImg
  rcases h with rfl | h
  · rfl
  · cases sa with
    | false => rfl
    | true =>
      match hp : src.planes, h with
      | [], _ => rfl
      | [_], _ => rfl
      | [_, _], _ => rfl
      | [_, _, _], _ => rfl
      | [_, _, _, _], h => exact absurd rfl h
      | _ :: _ :: _ :: _ :: _ :: _, _ => rfl

theorem resizeImg_sa (K : Kernel) (f : Filter) (p : Prec) (src : Img) (s : Sz) (r g b a : Plane)
    (h : src.planes = [r, g, b, a]) :
    resizeImg K f p true src s =
      (let ts := K.taps f src.w src.h s.1 s.2
       ⟨s.1, s.2, [resizeColourSA p ts r a, resizeColourSA p ts g a, resizeColourSA p ts b a,
                  resizeAlphaSA p ts a]⟩) := by
  unfold resizeImg; rw [h]

/-! ### plain path along a chain -/

/-- A property of one channel's plane (indexed by the pixel count) that every plain resize step
preserves holds for that channel of every generated level. -/
theorem chain_plain {K : Kernel} {f : Filter} {p : Prec} {sa : Bool} (Pp : Nat → Plane → Prop)
    (step : ∀ sw sh dw dh pl, Pp (sw * sh) pl → Pp (dw * dh) (resizePlane p (K.taps f sw sh dw dh) pl))
    (c : Nat) (src : Img) (hplain : sa = false ∨ src.planes.length ≠ 4) (pl0 : Plane)
    (h0 : src.planes[c]? = some pl0) (hp : Pp (src.w * src.h) pl0) (plan : List (Sz × Nat)) :
    ∀ l ∈ runPlan (resizeImg K f p sa) src plan [],
      ∃ pl, l.planes[c]? = some pl ∧ Pp (l.w * l.h) pl := by
  let P : Img → Prop := fun i =>
    i.planes.length = src.planes.length ∧ ∃ pl, i.planes[c]? = some pl ∧ Pp (i.w * i.h) pl
  intro l hl
  refine (runPlan_inv (S := P) (P := P) ?_ ⟨rfl, pl0, h0, hp⟩ plan l hl).2
  intro i s hi
  obtain ⟨hl, pl, hc, hpp⟩ := hi.elim id id
  rw [resizeImg_plain K f p sa i s (hplain.imp_right fun h => hl ▸ h)]
  exact ⟨by simp only [List.length_map]; exact hl, _,
    by simp only [List.getElem?_map, hc, Option.map_some], step i.w i.h s.1 s.2 pl hpp⟩

/-- two sources of the same size that agree on channel `c`: every generated level agrees on
channel `c` (plain path) -/
theorem chain_plain_rel {K : Kernel} {f : Filter} {p : Prec} {sa : Bool} (c : Nat) (src src' : Img)
    (hplain : sa = false ∨ (src.planes.length ≠ 4 ∧ src'.planes.length ≠ 4))
    (hw : src.w = src'.w) (hh : src.h = src'.h) (hc : src.planes[c]? = src'.planes[c]?)
    (plan : List (Sz × Nat)) :
    AllRel (fun l l' => l.w = l'.w ∧ l.h = l'.h ∧ l.planes[c]? = l'.planes[c]?)
      (runPlan (resizeImg K f p sa) src plan []) (runPlan (resizeImg K f p sa) src' plan []) := by
  let Rel : Img → Img → Prop := fun l l' =>
    (l.w = l'.w ∧ l.h = l'.h ∧ l.planes[c]? = l'.planes[c]?) ∧
      l.planes.length = src.planes.length ∧ l'.planes.length = src'.planes.length
  have key := runPlan_rel (S := Rel) (Rel := Rel) (R := resizeImg K f p sa) (R' := resizeImg K f p sa)
    (src := src) (src' := src') (by
      intro i i' s hi
      obtain ⟨⟨e1, e2, e3⟩, l1, l2⟩ := hi.elim id id
      rw [resizeImg_plain K f p sa i s (hplain.imp_right fun h => l1 ▸ h.1),
        resizeImg_plain K f p sa i' s (hplain.imp_right fun h => l2 ▸ h.2)]
      refine ⟨⟨rfl, rfl, ?_⟩, by simp only [List.length_map]; exact l1, by simp only [List.length_map]; exact l2⟩
      simp only [List.getElem?_map, e1, e2, e3])
    ⟨⟨hw, hh, hc⟩, rfl, rfl⟩ plan [] [] trivial
  exact AllRel.mono (fun _ _ h => h.1) key

/-! ### straight-alpha path along a chain -/

/-- the image is RGBA and colour plane `c` (0..2) together with the alpha plane satisfies `Q` -/
def SAInv (Q : Nat → Plane → Plane → Prop) (c : Nat) (i : Img) : Prop :=
  ∃ r g b a x, i.planes = [r, g, b, a] ∧ [r, g, b][c]? = some x ∧ Q (i.w * i.h) x a

/-- If the source satisfies `S`, every straight-alpha resize step turns `S` into `Q`, and `Q`
implies `S`, then every generated level satisfies `Q`. -/
theorem chain_sa {K : Kernel} {f : Filter} {p : Prec} (S Q : Nat → Plane → Plane → Prop)
    (hQS : ∀ n x a, Q n x a → S n x a)
    (step : ∀ sw sh dw dh x a, S (sw * sh) x a →
      Q (dw * dh) (resizeColourSA p (K.taps f sw sh dw dh) x a) (resizeAlphaSA p (K.taps f sw sh dw dh) a))
    (c : Nat) (src : Img) (hs : SAInv S c src) (plan : List (Sz × Nat)) :
    ∀ l ∈ runPlan (resizeImg K f p true) src plan [], SAInv Q c l := by
  apply runPlan_inv (S := SAInv S c) (P := SAInv Q c)
  · intro i s hi
    obtain ⟨r, g, b, a, x, h1, h2, h3⟩ : SAInv S c i :=
      hi.elim id fun ⟨r, g, b, a, x, h1, h2, h3⟩ => ⟨r, g, b, a, x, h1, h2, hQS _ _ _ h3⟩
    rw [resizeImg_sa K f p i s r g b a h1]
    refine ⟨_, _, _, _, resizeColourSA p (K.taps f i.w i.h s.1 s.2) x a, rfl, ?_, step i.w i.h s.1 s.2 x a h3⟩
    show ([r, g, b].map fun y => resizeColourSA p _ y a)[c]? = _
    rw [List.getElem?_map, h2]; rfl
  · exact hs

/-! ### the straight-alpha step for the four invariants used in `Theorems/C16.lean` -/

theorem resizeAlphaSA_const (p : Prec) {ts : List Taps} {n m : Nat} (ok : TapsOK ts n m) {a : Plane}
    (ha : a.length = n) {ca : Rat} (hg : p.Grid ca ca) (h0 : 0 ≤ ca) (hav : ∀ v ∈ a, v = ca) :
    ∀ v ∈ resizeAlphaSA p ts a, v = ca := by
  intro v hv
  obtain ⟨t, ht, rfl⟩ := List.mem_map.mp hv
  rw [ok.dot_const ht ha hav]
  exact saAlpha_fix p ca hg h0

/-- range invariant: alpha inside `[alo, ahi]`, colour of VISIBLE pixels (alpha > 0) inside `[lo, hi]` -/
def QRange (alo ahi lo hi : Rat) (n : Nat) (x a : Plane) : Prop :=
  x.length = n ∧ a.length = n ∧ (∀ v ∈ a, alo ≤ v ∧ v ≤ ahi) ∧
    ∀ k, k < n → 0 < a.at k → lo ≤ x.at k ∧ x.at k ≤ hi

theorem step_QRange (p : Prec) (alo ahi lo hi : Rat) (hga : p.Grid alo ahi) (h0 : 0 ≤ alo) (hg : p.Grid lo hi)
    (ts : List Taps) (n m : Nat) (ok : TapsOK ts n m) (nn : ∀ t ∈ ts, t.NonNeg) (x a : Plane)
    (h : QRange alo ahi lo hi n x a) :
    QRange alo ahi lo hi m (resizeColourSA p ts x a) (resizeAlphaSA p ts a) := by
  obtain ⟨hx, ha, hav, hxv⟩ := h
  have ha0 : ∀ v ∈ a, 0 ≤ v := fun v hv => Rat.le_trans h0 (hav v hv).1
  refine ⟨(List.length_map _).trans ok.len, (List.length_map _).trans ok.len, ?_, ?_⟩
  · intro v hv
    obtain ⟨t, ht, rfl⟩ := List.mem_map.mp hv
    have hb := dot_bounds t a.at alo ahi (nn t ht) (fun _ hiw _ => hav _ (ok.at_mem ht ha hiw))
    rw [ok.sum t ht, Rat.mul_one, Rat.mul_one] at hb
    exact saAlpha_range p alo ahi hga h0 _ hb.1 hb.2
  · intro k hk hpos
    have hk' : k < ts.length := by rw [ok.len]; exact hk
    unfold resizeAlphaSA at hpos
    rw [Plane.at_map ts _ k hk'] at hpos
    unfold resizeColourSA
    rw [Plane.at_map ts _ k hk']
    have ht : ts[k] ∈ ts := List.getElem_mem hk'
    obtain ⟨b1, b2⟩ := premul_bounds ts[k] n (ok.inRange _ ht) (nn _ ht) x a ha lo hi ha0 hxv
    exact saColour_range p lo hi hg _ _ hpos b1 b2

def QConst (cx ca : Rat) (n : Nat) (x a : Plane) : Prop :=
  x.length = n ∧ a.length = n ∧ (∀ v ∈ a, v = ca) ∧ ∀ v ∈ x, v = cx

theorem step_QConst (p : Prec) (cx ca : Rat) (hgx : p.Grid cx cx) (hga : p.Grid ca ca) (hpos : 0 < ca)
    (ts : List Taps) (n m : Nat) (ok : TapsOK ts n m) (x a : Plane) (h : QConst cx ca n x a) :
    QConst cx ca m (resizeColourSA p ts x a) (resizeAlphaSA p ts a) := by
  obtain ⟨hx, ha, hav, hxv⟩ := h
  refine ⟨(List.length_map _).trans ok.len, (List.length_map _).trans ok.len,
    resizeAlphaSA_const p ok ha hga (Rat.le_of_lt hpos) hav, ?_⟩
  intro v hv
  obtain ⟨t, ht, rfl⟩ := List.mem_map.mp hv
  have hC : dot t (fun i => x.at i * a.at i) = cx * ca := by
    rw [dot_const t _ (cx * ca) (fun iw hiw => by
      rw [hav _ (ok.at_mem ht ha hiw), hxv _ (ok.at_mem ht hx hiw)]), ok.sum t ht, Rat.mul_one]
  have hvis : 0 < saAlpha p ca := by rw [saAlpha_fix p ca hga (Rat.le_of_lt hpos)]; exact hpos
  rw [ok.dot_const ht ha hav, hC, (saColour_visible p _ ca hvis).2,
    Rat.mul_div_cancel (Rat.ne_of_gt hpos)]
  exact quant_fix p cx hgx

/-- fully transparent invariant (source: alpha all zero; generated: everything zero) -/
def SZero (n : Nat) (x a : Plane) : Prop := x.length = n ∧ a.length = n ∧ ∀ v ∈ a, v = 0
def QZero (n : Nat) (x a : Plane) : Prop := SZero n x a ∧ ∀ v ∈ x, v = 0

theorem step_QZero (p : Prec) (ts : List Taps) (n m : Nat) (ok : TapsOK ts n m) (x a : Plane) (h : SZero n x a) :
    QZero m (resizeColourSA p ts x a) (resizeAlphaSA p ts a) := by
  obtain ⟨hx, ha, hav⟩ := h
  refine ⟨⟨(List.length_map _).trans ok.len, (List.length_map _).trans ok.len,
    resizeAlphaSA_const p ok ha (grid_zero p) Rat.le_refl hav⟩, ?_⟩
  intro v hv
  obtain ⟨t, ht, rfl⟩ := List.mem_map.mp hv
  rw [ok.dot_const ht ha hav]
  exact saColour_zero p _

def QOpaque (p : Prec) (n : Nat) (x a : Plane) : Prop := x.length = n ∧ a.length = n ∧ ∀ v ∈ a, v = p.maxVal

theorem step_QOpaque (p : Prec) (ts : List Taps) (n m : Nat) (ok : TapsOK ts n m) (x a : Plane)
    (h : QOpaque p n x a) : QOpaque p m (resizeColourSA p ts x a) (resizeAlphaSA p ts a) := by
  obtain ⟨hx, ha, hav⟩ := h
  exact ⟨(List.length_map _).trans ok.len, (List.length_map _).trans ok.len,
    resizeAlphaSA_const p ok ha (grid_max p) (Rat.le_of_lt (maxVal_pos p)) hav⟩

end Dds.Mip
