/-
C13 — BC7 modes 4 / 5, constant separated channel (`compress_color_separate_alpha_with_rotation`, the
`stats.single_alpha()` branch): `Enc13.sepEndpoints A a` evaluates `Alpha::<A>::round / floor / ceil(a as f32 *
(1.0 / 255.0))` (`channel_round`, `channel_floor`, `channel_ceil`) in binary32 (`F32.lean`) and applies the guard
`round.promote().a == a`.  For ALL 256 values `a`, by kernel evaluation of the whole domain:
  * mode 5 (8-bit alpha): the exact branch is always taken, endpoints `(a, a)`;
  * mode 4 (6-bit alpha): the exact branch is taken iff `a` is the 8-bit promotion of a 6-bit value, and then both
    endpoints are that value; otherwise the endpoints are `(floor, ceil) = (f, f + 1)` with
    `promote f < a < promote (f + 1)`: the two representable neighbours.
(`channel_round::<6>` compares f32 distances; where two neighbours are equally far in exact arithmetic the guard fails
for both, so the float tie-break cannot matter — this is part of what the evaluation checks.)
-/
import DdsModel.Proofs.Enc13F32
namespace Dds.Enc13
open Dds Dds.Bc

/-! ### `sepEndpoints` on the integer operations of `Proofs/F32Raw.lean`

A difference may be negative (`Fast.sub`) and the comparison with the integer `max` keeps the reading of `F32.lean`;
every product, sum, conversion and comparison of two patterns is the integer one. -/
section
open Dds.F32 Dds.F32.Raw

/-- `1.0 / 255.0` -/
def k255 : Nat := 0x3B808081
/-- `0.9999` -/
def ceilLit : Nat := 0x3F7FF972

theorem sepConsts : F32.divLit 1 255 = k255 ∧ F32.divLit 9999 10000 = ceilLit := by decide +kernel

def toVecR (B c : Nat) : Nat := Raw.mul (rq (promoteAlpha B c) 1) k255

def channelRoundR (B v : Nat) : Nat :=
  if B = 8 then Raw.toU8 (Raw.add (Raw.mul v (rq 255 1)) halfLit)
  else
    let max := 2 ^ B - 1
    let v := fclamp01R v
    let nearest := Raw.toU8 (Raw.add (Raw.mul v (rq max 1)) halfLit)
    let err := Fast.sub (toVecR B nearest) v
    if nearest > 0 ∧ absLtR (Fast.sub (toVecR B (nearest - 1)) v) err = true then nearest - 1
    else if nearest < max ∧ absLtR (Fast.sub (toVecR B (nearest + 1)) v) err = true then nearest + 1
    else nearest

def channelFloorR (B v : Nat) : Nat :=
  if B = 8 then Raw.toU8 (Raw.mul v (rq 255 1))
  else
    let max := 2 ^ B - 1
    let v := fclamp01R v
    let floor := Raw.toU8 (Raw.mul v (rq max 1))
    if floor > 0 ∧ ltR v (toVecR B floor) = true then floor - 1
    else if floor < max ∧ ltR (toVecR B (floor + 1)) v = true then floor + 1
    else floor

def channelCeilR (B v : Nat) : Nat :=
  if B = 8 then Raw.toU8 (Raw.add (Raw.mul v (rq 255 1)) ceilLit)
  else
    let max := 2 ^ B - 1
    let v := fclamp01R v
    let s := Raw.add (Raw.mul v (rq max 1)) ceilLit
    let ceil := Raw.toU8 (if toRat s > (max : Rat) then rq max 1 else s)
    if ceil < max ∧ ltR (toVecR B ceil) v = true then ceil + 1
    else if ceil > 0 ∧ ltR v (toVecR B (ceil - 1)) = true then ceil - 1
    else ceil

def sepEndpointsR (A a : Nat) : (Nat × Nat) × Bool :=
  lz (Raw.mul (rq a 1) k255) fun v => singleAlpha A a (channelRoundR A v) (channelFloorR A v) (channelCeilR A v)

theorem sepEndpointsR_eq (A a : Nat) : sepEndpointsR A a = sepEndpoints A a := by
  unfold sepEndpointsR sepEndpoints channelRoundR channelFloorR channelCeilR channelRoundF32 channelFloorF32
    channelCeilF32 alphaF32 toVecR channelToVec
  simp only [lz_eq, Raw.mul_eq, Raw.add_eq, Raw.toU8_eq, rq_eq, Fast.ofNat_eq, Fast.sub_eq, fclamp01R_eq, ltR_eq, absLtR_eq,
    decide_eq_true_eq, gt_iff_lt, sepConsts.1, sepConsts.2, consts.2.1]

end

/-- the facts at one value, each `sepEndpoints` evaluated once -/
def sepCheckOf (e : Nat → Nat → (Nat × Nat) × Bool) (a : Nat) : Bool :=
  (match e 8 a with
   | ((f, c), ex) => f == a && c == a && ex) &&
  (match e 6 a with
   | ((f, c), true) => f == c && Bc7.promote f 6 == a
   | ((f, c), false) => c == f + 1 && decide (c ≤ 63) && decide (Bc7.promote f 6 < a) && decide (a < Bc7.promote c 6))

/-- 6-bit promotion is strictly increasing, so a value strictly between two neighbouring promotions is none -/
theorem promote6 : ∀ k, k < 64 → Bc7.promote k 6 = 4 * k + k / 16 := by decide +kernel

theorem sepCheck_all : ∀ a, a ≤ 255 → sepCheckOf sepEndpoints a = true := by
  rw [← funext fun A => funext (sepEndpointsR_eq A)]
  exact allRange_le (d := 3) (by decide +kernel)

theorem sepEndpoints_spec (a : Nat) (ha : a ≤ 255) :
    sepEndpoints 8 a = ((a, a), true) ∧
    ((sepEndpoints 6 a).2 = true →
      (sepEndpoints 6 a).1.1 = (sepEndpoints 6 a).1.2 ∧ Bc7.promote (sepEndpoints 6 a).1.1 6 = a) ∧
    ((sepEndpoints 6 a).2 = false →
      (sepEndpoints 6 a).1.2 = (sepEndpoints 6 a).1.1 + 1 ∧ (sepEndpoints 6 a).1.2 ≤ 63 ∧
      Bc7.promote (sepEndpoints 6 a).1.1 6 < a ∧ a < Bc7.promote (sepEndpoints 6 a).1.2 6 ∧
      ∀ k, k < 64 → Bc7.promote k 6 ≠ a) := by
  have h := sepCheck_all a ha
  unfold sepCheckOf at h
  generalize sepEndpoints 8 a = e8 at h ⊢
  generalize sepEndpoints 6 a = e6 at h ⊢
  obtain ⟨⟨f8, c8⟩, ex8⟩ := e8
  obtain ⟨⟨f6, c6⟩, ex6⟩ := e6
  cases ex6 <;>
    simp only [Bool.and_eq_true, beq_iff_eq, decide_eq_true_eq,
      Bool.true_eq_false, Bool.false_eq_true, false_imp_iff, forall_const] at h ⊢
  · obtain ⟨⟨⟨h1, h2⟩, h3⟩, ⟨⟨⟨g1, g2⟩, g3⟩, g4⟩⟩ := h
    subst h1 h2 h3
    refine ⟨rfl, trivial, g1, g2, g3, g4, fun k hk he => ?_⟩
    rw [promote6 f6 (by omega)] at g3
    rw [promote6 c6 (by omega)] at g4
    rw [promote6 k hk] at he
    rcases Nat.lt_or_ge f6 k with hlt | hle
    · have := Nat.div_le_div_right (c := 16) (show c6 ≤ k by omega)
      omega
    · have := Nat.div_le_div_right (c := 16) hle
      omega
  · obtain ⟨⟨⟨h1, h2⟩, h3⟩, g1, g2⟩ := h
    subst h1 h2 h3
    exact ⟨rfl, ⟨g1, g2⟩, trivial⟩

example : sepEndpoints 6 255 = ((63, 63), true) ∧ sepEndpoints 6 254 = ((62, 63), false) ∧
    sepEndpoints 6 2 = ((0, 1), false) ∧ sepEndpoints 8 100 = ((100, 100), true) := by decide +kernel

end Dds.Enc13
