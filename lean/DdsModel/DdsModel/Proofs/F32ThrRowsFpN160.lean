/-
`fp::n16` / `n16::from_f32`: `(x * 65535.0 + 0.5) as u16`: threshold table, codes 1 … 8192,
checked by kernel evaluation of `chkList` (`Proofs/F32Thr.lean`).  GENERATED by tools/gen_f32thr.py (the
script is not trusted: every entry is validated here).  Entry `2t + d`: `t` = first pattern whose result is ≥ k,
`d = 1` iff `t` is still below the exact tie `(2k−1)/(2·65535)` (its result is one code too high).
-/
import DdsModel.Proofs.F32Thr
namespace Dds.F32Thr.FpN16
-- the elaborator's default recursion depth does not suffice for a list literal of 2048 numerals
set_option maxRecDepth 100000

@[irreducible] def c0 : List Nat :=
  [1845494017, 1870659969, 1883242817, 1891631553, 1897922849, 1902117217, 1906311585, 1910505953, 1913651473,
   1915748657, 1917845841, 1919943025, 1922040209, 1924137393, 1926234577, 1928331761, 1929904393, 1930952985,
   1932001577, 1933050169, 1934098761, 1935147353, 1936195945, 1937244537, 1938293129, 1939341721, 1940390313,
   1941438905, 1942487497, 1943536089, 1944584681, 1945633273, 1946419461, 1946943757, 1947468053, 1947992349,
   1948516645, 1949040941, 1949565237, 1950089533, 1950613829, 1951138125, 1951662421, 1952186717, 1952711013,
   1953235309, 1953759605, 1954283901, 1954808197, 1955332493, 1955856789, 1956381085, 1956905381, 1957429677,
   1957953973, 1958478269, 1959002565, 1959526861, 1960051157, 1960575453, 1961099749, 1961624045, 1962148341,
   1962672637, 1963065603, 1963327751, 1963589899, 1963852047, 1964114195, 1964376343, 1964638491, 1964900639,
   1965162787, 1965424935, 1965687083, 1965949231, 1966211379, 1966473527, 1966735675, 1966997823, 1967259971,
   1967522119, 1967784267, 1968046415, 1968308563, 1968570711, 1968832859, 1969095007, 1969357155, 1969619303,
   1969881451, 1970143599, 1970405747, 1970667895, 1970930043, 1971192191, 1971454339, 1971716487, 1971978635,
   1972240783, 1972502931, 1972765079, 1973027227, 1973289375, 1973551523, 1973813671, 1974075819, 1974337967,
   1974600115, 1974862263, 1975124411, 1975386559, 1975648707, 1975910855, 1976173003, 1976435151, 1976697299,
   1976959447, 1977221595, 1977483743, 1977745891, 1978008039, 1978270187, 1978532335, 1978794483, 1979056631,
   1979318779, 1979580927, 1979777282, 1979908356, 1980039430, 1980170504, 1980301578, 1980432652, 1980563726,
   1980694800, 1980825874, 1980956948, 1981088022, 1981219096, 1981350170, 1981481244, 1981612318, 1981743392,
   1981874466, 1982005540, 1982136614, 1982267688, 1982398762, 1982529836, 1982660910, 1982791984, 1982923058,
   1983054132, 1983185206, 1983316280, 1983447354, 1983578428, 1983709502, 1983840576, 1983971650, 1984102724,
   1984233798, 1984364872, 1984495946, 1984627020, 1984758094, 1984889168, 1985020242, 1985151316, 1985282390,
   1985413464, 1985544538, 1985675612, 1985806686, 1985937760, 1986068834, 1986199908, 1986330982, 1986462056,
   1986593130, 1986724204, 1986855278, 1986986352, 1987117426, 1987248500, 1987379574, 1987510648, 1987641722,
   1987772796, 1987903870, 1988034944, 1988166018, 1988297092, 1988428166, 1988559240, 1988690314, 1988821388,
   1988952462, 1989083536, 1989214610, 1989345684, 1989476758, 1989607832, 1989738906, 1989869980, 1990001054,
   1990132128, 1990263202, 1990394276, 1990525350, 1990656424, 1990787498, 1990918572, 1991049646, 1991180720,
   1991311794, 1991442868, 1991573942, 1991705016, 1991836090, 1991967164, 1992098238, 1992229312, 1992360386,
   1992491460, 1992622534, 1992753608, 1992884682, 1993015756, 1993146830, 1993277904, 1993408978, 1993540052,
   1993671126, 1993802200, 1993933274, 1994064348, 1994195422, 1994326496, 1994457570, 1994588644, 1994719718,
   1994850792, 1994981866, 1995112940, 1995244014, 1995375088, 1995506162, 1995637236, 1995768310, 1995899384,
   1996030458, 1996161532, 1996292606, 1996423680, 1996521729, 1996587266, 1996652803, 1996718340, 1996783877,
   1996849414, 1996914951, 1996980488, 1997046025, 1997111562, 1997177099, 1997242636, 1997308173, 1997373710,
   1997439247, 1997504784, 1997570321, 1997635858, 1997701395, 1997766932, 1997832469, 1997898006, 1997963543,
   1998029080, 1998094617, 1998160154, 1998225691, 1998291228, 1998356765, 1998422302, 1998487839, 1998553376,
   1998618913, 1998684450, 1998749987, 1998815524, 1998881061, 1998946598, 1999012135, 1999077672, 1999143209,
   1999208746, 1999274283, 1999339820, 1999405357, 1999470894, 1999536431, 1999601968, 1999667505, 1999733042,
   1999798579, 1999864116, 1999929653, 1999995190, 2000060727, 2000126264, 2000191801, 2000257338, 2000322875,
   2000388412, 2000453949, 2000519486, 2000585023, 2000650560, 2000716097, 2000781634, 2000847171, 2000912708,
   2000978245, 2001043782, 2001109319, 2001174856, 2001240393, 2001305930, 2001371467, 2001437004, 2001502541,
   2001568078, 2001633615, 2001699152, 2001764689, 2001830226, 2001895763, 2001961300, 2002026837, 2002092374,
   2002157911, 2002223448, 2002288985, 2002354522, 2002420059, 2002485596, 2002551133, 2002616670, 2002682207,
   2002747744, 2002813281, 2002878818, 2002944355, 2003009892, 2003075429, 2003140966, 2003206503, 2003272040,
   2003337577, 2003403114, 2003468651, 2003534188, 2003599725, 2003665262, 2003730799, 2003796336, 2003861873,
   2003927410, 2003992947, 2004058484, 2004124021, 2004189558, 2004255095, 2004320632, 2004386169, 2004451706,
   2004517243, 2004582780, 2004648317, 2004713854, 2004779391, 2004844928, 2004910465, 2004976002, 2005041539,
   2005107076, 2005172613, 2005238150, 2005303687, 2005369224, 2005434761, 2005500298, 2005565835, 2005631372,
   2005696909, 2005762446, 2005827983, 2005893520, 2005959057, 2006024594, 2006090131, 2006155668, 2006221205,
   2006286742, 2006352279, 2006417816, 2006483353, 2006548890, 2006614427, 2006679964, 2006745501, 2006811038,
   2006876575, 2006942112, 2007007649, 2007073186, 2007138723, 2007204260, 2007269797, 2007335334, 2007400871,
   2007466408, 2007531945, 2007597482, 2007663019, 2007728556, 2007794093, 2007859630, 2007925167, 2007990704,
   2008056241, 2008121778, 2008187315, 2008252852, 2008318389, 2008383926, 2008449463, 2008515000, 2008580537,
   2008646074, 2008711611, 2008777148, 2008842685, 2008908222, 2008973759, 2009039296, 2009104833, 2009170370,
   2009235907, 2009301444, 2009366981, 2009432518, 2009498055, 2009563592, 2009629129, 2009694666, 2009760203,
   2009825740, 2009891277, 2009956814, 2010022351, 2010087888, 2010153425, 2010218962, 2010284499, 2010350036,
   2010415573, 2010481110, 2010546647, 2010612184, 2010677721, 2010743258, 2010808795, 2010874332, 2010939869,
   2011005406, 2011070943, 2011136480, 2011202017, 2011267554, 2011333091, 2011398628, 2011464165, 2011529702,
   2011595239, 2011660776, 2011726313, 2011791850, 2011857387, 2011922924, 2011988461, 2012053998, 2012119535,
   2012185072, 2012250609, 2012316146, 2012381683, 2012447220, 2012512757, 2012578294, 2012643831, 2012709368,
   2012774905, 2012840442, 2012905979, 2012971516, 2013037053, 2013102590, 2013168127, 2013233664, 2013282561,
   2013315329, 2013348098, 2013380866, 2013413635, 2013446403, 2013479172, 2013511940, 2013544709, 2013577477,
   2013610246, 2013643014, 2013675783, 2013708551, 2013741320, 2013774088, 2013806857, 2013839625, 2013872394,
   2013905162, 2013937931, 2013970699, 2014003468, 2014036236, 2014069005, 2014101773, 2014134542, 2014167310,
   2014200079, 2014232847, 2014265616, 2014298384, 2014331153, 2014363921, 2014396690, 2014429458, 2014462227,
   2014494995, 2014527764, 2014560532, 2014593301, 2014626069, 2014658838, 2014691606, 2014724375, 2014757143,
   2014789912, 2014822680, 2014855449, 2014888217, 2014920986, 2014953754, 2014986523, 2015019291, 2015052060,
   2015084828, 2015117597, 2015150365, 2015183134, 2015215902, 2015248671, 2015281439, 2015314208, 2015346976,
   2015379745, 2015412513, 2015445282, 2015478050, 2015510819, 2015543587, 2015576356, 2015609124, 2015641893,
   2015674661, 2015707430, 2015740198, 2015772967, 2015805735, 2015838504, 2015871272, 2015904041, 2015936809,
   2015969578, 2016002346, 2016035115, 2016067883, 2016100652, 2016133420, 2016166189, 2016198957, 2016231726,
   2016264494, 2016297263, 2016330031, 2016362800, 2016395568, 2016428337, 2016461105, 2016493874, 2016526642,
   2016559411, 2016592179, 2016624948, 2016657716, 2016690485, 2016723253, 2016756022, 2016788790, 2016821559,
   2016854327, 2016887096, 2016919864, 2016952633, 2016985401, 2017018170, 2017050938, 2017083707, 2017116475,
   2017149244, 2017182012, 2017214781, 2017247549, 2017280318, 2017313086, 2017345855, 2017378623, 2017411392,
   2017444160, 2017476929, 2017509697, 2017542466, 2017575234, 2017608003, 2017640771, 2017673540, 2017706308,
   2017739077, 2017771845, 2017804614, 2017837382, 2017870151, 2017902919, 2017935688, 2017968456, 2018001225,
   2018033993, 2018066762, 2018099530, 2018132299, 2018165067, 2018197836, 2018230604, 2018263373, 2018296141,
   2018328910, 2018361678, 2018394447, 2018427215, 2018459984, 2018492752, 2018525521, 2018558289, 2018591058,
   2018623826, 2018656595, 2018689363, 2018722132, 2018754900, 2018787669, 2018820437, 2018853206, 2018885974,
   2018918743, 2018951511, 2018984280, 2019017048, 2019049817, 2019082585, 2019115354, 2019148122, 2019180891,
   2019213659, 2019246428, 2019279196, 2019311965, 2019344733, 2019377502, 2019410270, 2019443039, 2019475807,
   2019508576, 2019541344, 2019574113, 2019606881, 2019639650, 2019672418, 2019705187, 2019737955, 2019770724,
   2019803492, 2019836261, 2019869029, 2019901798, 2019934566, 2019967335, 2020000103, 2020032872, 2020065640,
   2020098409, 2020131177, 2020163946, 2020196714, 2020229483, 2020262251, 2020295020, 2020327788, 2020360557,
   2020393325, 2020426094, 2020458862, 2020491631, 2020524399, 2020557168, 2020589936, 2020622705, 2020655473,
   2020688242, 2020721010, 2020753779, 2020786547, 2020819316, 2020852084, 2020884853, 2020917621, 2020950390,
   2020983158, 2021015927, 2021048695, 2021081464, 2021114232, 2021147001, 2021179769, 2021212538, 2021245306,
   2021278075, 2021310843, 2021343612, 2021376380, 2021409149, 2021441917, 2021474686, 2021507454, 2021540223,
   2021572991, 2021605760, 2021638528, 2021671297, 2021704065, 2021736834, 2021769602, 2021802371, 2021835139,
   2021867908, 2021900676, 2021933445, 2021966213, 2021998982, 2022031750, 2022064519, 2022097287, 2022130056,
   2022162824, 2022195593, 2022228361, 2022261130, 2022293898, 2022326667, 2022359435, 2022392204, 2022424972,
   2022457741, 2022490509, 2022523278, 2022556046, 2022588815, 2022621583, 2022654352, 2022687120, 2022719889,
   2022752657, 2022785426, 2022818194, 2022850963, 2022883731, 2022916500, 2022949268, 2022982037, 2023014805,
   2023047574, 2023080342, 2023113111, 2023145879, 2023178648, 2023211416, 2023244185, 2023276953, 2023309722,
   2023342490, 2023375259, 2023408027, 2023440796, 2023473564, 2023506333, 2023539101, 2023571870, 2023604638,
   2023637407, 2023670175, 2023702944, 2023735712, 2023768481, 2023801249, 2023834018, 2023866786, 2023899555,
   2023932323, 2023965092, 2023997860, 2024030629, 2024063397, 2024096166, 2024128934, 2024161703, 2024194471,
   2024227240, 2024260008, 2024292777, 2024325545, 2024358314, 2024391082, 2024423851, 2024456619, 2024489388,
   2024522156, 2024554925, 2024587693, 2024620462, 2024653230, 2024685999, 2024718767, 2024751536, 2024784304,
   2024817073, 2024849841, 2024882610, 2024915378, 2024948147, 2024980915, 2025013684, 2025046452, 2025079221,
   2025111989, 2025144758, 2025177526, 2025210295, 2025243063, 2025275832, 2025308600, 2025341369, 2025374137,
   2025406906, 2025439674, 2025472443, 2025505211, 2025537980, 2025570748, 2025603517, 2025636285, 2025669054,
   2025701822, 2025734591, 2025767359, 2025800128, 2025832896, 2025865665, 2025898433, 2025931202, 2025963970,
   2025996739, 2026029507, 2026062276, 2026095044, 2026127813, 2026160581, 2026193350, 2026226118, 2026258887,
   2026291655, 2026324424, 2026357192, 2026389961, 2026422729, 2026455498, 2026488266, 2026521035, 2026553803,
   2026586572, 2026619340, 2026652109, 2026684877, 2026717646, 2026750414, 2026783183, 2026815951, 2026848720,
   2026881488, 2026914257, 2026947025, 2026979794, 2027012562, 2027045331, 2027078099, 2027110868, 2027143636,
   2027176405, 2027209173, 2027241942, 2027274710, 2027307479, 2027340247, 2027373016, 2027405784, 2027438553,
   2027471321, 2027504090, 2027536858, 2027569627, 2027602395, 2027635164, 2027667932, 2027700701, 2027733469,
   2027766238, 2027799006, 2027831775, 2027864543, 2027897312, 2027930080, 2027962849, 2027995617, 2028028386,
   2028061154, 2028093923, 2028126691, 2028159460, 2028192228, 2028224997, 2028257765, 2028290534, 2028323302,
   2028356071, 2028388839, 2028421608, 2028454376, 2028487145, 2028519913, 2028552682, 2028585450, 2028618219,
   2028650987, 2028683756, 2028716524, 2028749293, 2028782061, 2028814830, 2028847598, 2028880367, 2028913135,
   2028945904, 2028978672, 2029011441, 2029044209, 2029076978, 2029109746, 2029142515, 2029175283, 2029208052,
   2029240820, 2029273589, 2029306357, 2029339126, 2029371894, 2029404663, 2029437431, 2029470200, 2029502968,
   2029535737, 2029568505, 2029601274, 2029634042, 2029666811, 2029699579, 2029732348, 2029765116, 2029797885,
   2029830653, 2029863422, 2029896190, 2029928959, 2029961727, 2029994496, 2030027264, 2030051585, 2030067969,
   2030084353, 2030100737, 2030117122, 2030133506, 2030149890, 2030166274, 2030182659, 2030199043, 2030215427,
   2030231811, 2030248196, 2030264580, 2030280964, 2030297348, 2030313733, 2030330117, 2030346501, 2030362885,
   2030379270, 2030395654, 2030412038, 2030428422, 2030444807, 2030461191, 2030477575, 2030493959, 2030510344,
   2030526728, 2030543112, 2030559496, 2030575881, 2030592265, 2030608649, 2030625033, 2030641418, 2030657802,
   2030674186, 2030690570, 2030706955, 2030723339, 2030739723, 2030756107, 2030772492, 2030788876, 2030805260,
   2030821644, 2030838029, 2030854413, 2030870797, 2030887181, 2030903566, 2030919950, 2030936334, 2030952718,
   2030969103, 2030985487, 2031001871, 2031018255, 2031034640, 2031051024, 2031067408, 2031083792, 2031100177,
   2031116561, 2031132945, 2031149329, 2031165714, 2031182098, 2031198482, 2031214866, 2031231251, 2031247635,
   2031264019, 2031280403, 2031296788, 2031313172, 2031329556, 2031345940, 2031362325, 2031378709, 2031395093,
   2031411477, 2031427862, 2031444246, 2031460630, 2031477014, 2031493399, 2031509783, 2031526167, 2031542551,
   2031558936, 2031575320, 2031591704, 2031608088, 2031624473, 2031640857, 2031657241, 2031673625, 2031690010,
   2031706394, 2031722778, 2031739162, 2031755547, 2031771931, 2031788315, 2031804699, 2031821084, 2031837468,
   2031853852, 2031870236, 2031886621, 2031903005, 2031919389, 2031935773, 2031952158, 2031968542, 2031984926,
   2032001310, 2032017695, 2032034079, 2032050463, 2032066847, 2032083232, 2032099616, 2032116000, 2032132384,
   2032148769, 2032165153, 2032181537, 2032197921, 2032214306, 2032230690, 2032247074, 2032263458, 2032279843,
   2032296227, 2032312611, 2032328995, 2032345380, 2032361764, 2032378148, 2032394532, 2032410917, 2032427301,
   2032443685, 2032460069, 2032476454, 2032492838, 2032509222, 2032525606, 2032541991, 2032558375, 2032574759,
   2032591143, 2032607528, 2032623912, 2032640296, 2032656680, 2032673065, 2032689449, 2032705833, 2032722217,
   2032738602, 2032754986, 2032771370, 2032787754, 2032804139, 2032820523, 2032836907, 2032853291, 2032869676,
   2032886060, 2032902444, 2032918828, 2032935213, 2032951597, 2032967981, 2032984365, 2033000750, 2033017134,
   2033033518, 2033049902, 2033066287, 2033082671, 2033099055, 2033115439, 2033131824, 2033148208, 2033164592,
   2033180976, 2033197361, 2033213745, 2033230129, 2033246513, 2033262898, 2033279282, 2033295666, 2033312050,
   2033328435, 2033344819, 2033361203, 2033377587, 2033393972, 2033410356, 2033426740, 2033443124, 2033459509,
   2033475893, 2033492277, 2033508661, 2033525046, 2033541430, 2033557814, 2033574198, 2033590583, 2033606967,
   2033623351, 2033639735, 2033656120, 2033672504, 2033688888, 2033705272, 2033721657, 2033738041, 2033754425,
   2033770809, 2033787194, 2033803578, 2033819962, 2033836346, 2033852731, 2033869115, 2033885499, 2033901883,
   2033918268, 2033934652, 2033951036, 2033967420, 2033983805, 2034000189, 2034016573, 2034032957, 2034049342,
   2034065726, 2034082110, 2034098494, 2034114879, 2034131263, 2034147647, 2034164031, 2034180416, 2034196800,
   2034213184, 2034229568, 2034245953, 2034262337, 2034278721, 2034295105, 2034311490, 2034327874, 2034344258,
   2034360642, 2034377027, 2034393411, 2034409795, 2034426179, 2034442564, 2034458948, 2034475332, 2034491716,
   2034508101, 2034524485, 2034540869, 2034557253, 2034573638, 2034590022, 2034606406, 2034622790, 2034639175,
   2034655559, 2034671943, 2034688327, 2034704712, 2034721096, 2034737480, 2034753864, 2034770249, 2034786633,
   2034803017, 2034819401, 2034835786, 2034852170, 2034868554, 2034884938, 2034901323, 2034917707, 2034934091,
   2034950475, 2034966860, 2034983244, 2034999628, 2035016012, 2035032397, 2035048781, 2035065165, 2035081549,
   2035097934, 2035114318, 2035130702, 2035147086, 2035163471, 2035179855, 2035196239, 2035212623, 2035229008,
   2035245392, 2035261776, 2035278160, 2035294545, 2035310929, 2035327313, 2035343697, 2035360082, 2035376466,
   2035392850, 2035409234, 2035425619, 2035442003, 2035458387, 2035474771, 2035491156, 2035507540, 2035523924,
   2035540308, 2035556693, 2035573077, 2035589461, 2035605845, 2035622230, 2035638614, 2035654998, 2035671382,
   2035687767, 2035704151, 2035720535, 2035736919, 2035753304, 2035769688, 2035786072, 2035802456, 2035818841,
   2035835225, 2035851609, 2035867993, 2035884378, 2035900762, 2035917146, 2035933530, 2035949915, 2035966299,
   2035982683, 2035999067, 2036015452, 2036031836, 2036048220, 2036064604, 2036080989, 2036097373, 2036113757,
   2036130141, 2036146526, 2036162910, 2036179294, 2036195678, 2036212063, 2036228447, 2036244831, 2036261215,
   2036277600, 2036293984, 2036310368, 2036326752, 2036343137, 2036359521, 2036375905, 2036392289, 2036408674,
   2036425058, 2036441442, 2036457826, 2036474211, 2036490595, 2036506979, 2036523363, 2036539748, 2036556132,
   2036572516, 2036588900, 2036605285, 2036621669, 2036638053, 2036654437, 2036670822, 2036687206, 2036703590,
   2036719974, 2036736359, 2036752743, 2036769127, 2036785511, 2036801896, 2036818280, 2036834664, 2036851048,
   2036867433, 2036883817, 2036900201, 2036916585, 2036932970, 2036949354, 2036965738, 2036982122, 2036998507,
   2037014891, 2037031275, 2037047659, 2037064044, 2037080428, 2037096812, 2037113196, 2037129581, 2037145965,
   2037162349, 2037178733, 2037195118, 2037211502, 2037227886, 2037244270, 2037260655, 2037277039, 2037293423,
   2037309807, 2037326192, 2037342576, 2037358960, 2037375344, 2037391729, 2037408113, 2037424497, 2037440881,
   2037457266, 2037473650, 2037490034, 2037506418, 2037522803, 2037539187, 2037555571, 2037571955, 2037588340,
   2037604724, 2037621108, 2037637492, 2037653877, 2037670261, 2037686645, 2037703029, 2037719414, 2037735798,
   2037752182, 2037768566, 2037784951, 2037801335, 2037817719, 2037834103, 2037850488, 2037866872, 2037883256,
   2037899640, 2037916025, 2037932409, 2037948793, 2037965177, 2037981562, 2037997946, 2038014330, 2038030714,
   2038047099, 2038063483, 2038079867, 2038096251, 2038112636, 2038129020, 2038145404, 2038161788, 2038178173,
   2038194557, 2038210941, 2038227325, 2038243710, 2038260094, 2038276478, 2038292862, 2038309247, 2038325631,
   2038342015, 2038358399, 2038374784, 2038391168, 2038407552, 2038423936, 2038440321, 2038456705, 2038473089,
   2038489473, 2038505858, 2038522242, 2038538626, 2038555010, 2038571395, 2038587779, 2038604163, 2038620547,
   2038636932, 2038653316, 2038669700, 2038686084, 2038702469, 2038718853, 2038735237, 2038751621, 2038768006,
   2038784390, 2038800774, 2038817158, 2038833543, 2038849927, 2038866311, 2038882695, 2038899080, 2038915464,
   2038931848, 2038948232, 2038964617, 2038981001, 2038997385, 2039013769, 2039030154, 2039046538, 2039062922,
   2039079306, 2039095691, 2039112075, 2039128459, 2039144843, 2039161228, 2039177612, 2039193996, 2039210380,
   2039226765, 2039243149, 2039259533, 2039275917, 2039292302, 2039308686, 2039325070, 2039341454, 2039357839,
   2039374223, 2039390607, 2039406991, 2039423376, 2039439760, 2039456144, 2039472528, 2039488913, 2039505297,
   2039521681, 2039538065, 2039554450, 2039570834, 2039587218, 2039603602, 2039619987, 2039636371, 2039652755,
   2039669139, 2039685524, 2039701908, 2039718292, 2039734676, 2039751061, 2039767445, 2039783829, 2039800213,
   2039816598, 2039832982, 2039849366, 2039865750, 2039882135, 2039898519, 2039914903, 2039931287, 2039947672,
   2039964056, 2039980440, 2039996824, 2040013209, 2040029593, 2040045977, 2040062361, 2040078746, 2040095130,
   2040111514, 2040127898, 2040144283, 2040160667, 2040177051, 2040193435, 2040209820, 2040226204, 2040242588,
   2040258972, 2040275357, 2040291741, 2040308125, 2040324509, 2040340894, 2040357278, 2040373662, 2040390046,
   2040406431, 2040422815, 2040439199, 2040455583, 2040471968, 2040488352, 2040504736, 2040521120, 2040537505,
   2040553889, 2040570273, 2040586657, 2040603042, 2040619426, 2040635810, 2040652194, 2040668579, 2040684963,
   2040701347, 2040717731, 2040734116, 2040750500, 2040766884, 2040783268, 2040799653, 2040816037, 2040832421,
   2040848805, 2040865190, 2040881574, 2040897958, 2040914342, 2040930727, 2040947111, 2040963495, 2040979879,
   2040996264, 2041012648, 2041029032, 2041045416, 2041061801, 2041078185, 2041094569, 2041110953, 2041127338,
   2041143722, 2041160106, 2041176490, 2041192875, 2041209259, 2041225643, 2041242027, 2041258412, 2041274796,
   2041291180, 2041307564, 2041323949, 2041340333, 2041356717, 2041373101, 2041389486, 2041405870, 2041422254,
   2041438638, 2041455023, 2041471407, 2041487791, 2041504175, 2041520560, 2041536944, 2041553328, 2041569712,
   2041586097, 2041602481, 2041618865, 2041635249, 2041651634, 2041668018, 2041684402, 2041700786, 2041717171,
   2041733555, 2041749939, 2041766323, 2041782708, 2041799092, 2041815476, 2041831860, 2041848245, 2041864629,
   2041881013, 2041897397, 2041913782, 2041930166, 2041946550, 2041962934, 2041979319, 2041995703, 2042012087,
   2042028471, 2042044856, 2042061240, 2042077624, 2042094008, 2042110393, 2042126777, 2042143161, 2042159545,
   2042175930, 2042192314, 2042208698, 2042225082, 2042241467, 2042257851, 2042274235, 2042290619, 2042307004,
   2042323388, 2042339772, 2042356156, 2042372541, 2042388925, 2042405309, 2042421693, 2042438078, 2042454462,
   2042470846, 2042487230, 2042503615, 2042519999, 2042536383, 2042552767, 2042569152, 2042585536, 2042601920,
   2042618304, 2042634689, 2042651073, 2042667457, 2042683841, 2042700226, 2042716610, 2042732994, 2042749378,
   2042765763, 2042782147, 2042798531, 2042814915, 2042831300, 2042847684, 2042864068, 2042880452, 2042896837,
   2042913221, 2042929605, 2042945989, 2042962374, 2042978758, 2042995142, 2043011526, 2043027911, 2043044295,
   2043060679, 2043077063, 2043093448, 2043109832, 2043126216, 2043142600, 2043158985, 2043175369, 2043191753,
   2043208137, 2043224522, 2043240906, 2043257290, 2043273674, 2043290059, 2043306443, 2043322827, 2043339211,
   2043355596, 2043371980, 2043388364, 2043404748, 2043421133, 2043437517, 2043453901, 2043470285, 2043486670,
   2043503054, 2043519438, 2043535822, 2043552207, 2043568591, 2043584975, 2043601359, 2043617744, 2043634128,
   2043650512, 2043666896, 2043683281, 2043699665, 2043716049, 2043732433, 2043748818, 2043765202, 2043781586,
   2043797970, 2043814355, 2043830739, 2043847123, 2043863507, 2043879892, 2043896276, 2043912660, 2043929044,
   2043945429, 2043961813, 2043978197, 2043994581, 2044010966, 2044027350, 2044043734, 2044060118, 2044076503,
   2044092887, 2044109271, 2044125655, 2044142040, 2044158424, 2044174808, 2044191192, 2044207577, 2044223961,
   2044240345, 2044256729, 2044273114, 2044289498, 2044305882, 2044322266, 2044338651, 2044355035, 2044371419,
   2044387803, 2044404188, 2044420572, 2044436956, 2044453340, 2044469725, 2044486109, 2044502493, 2044518877,
   2044535262, 2044551646, 2044568030, 2044584414, 2044600799, 2044617183, 2044633567, 2044649951, 2044666336,
   2044682720, 2044699104, 2044715488, 2044731873, 2044748257, 2044764641, 2044781025, 2044797410, 2044813794,
   2044830178, 2044846562, 2044862947, 2044879331, 2044895715, 2044912099, 2044928484, 2044944868, 2044961252,
   2044977636, 2044994021, 2045010405, 2045026789, 2045043173, 2045059558, 2045075942, 2045092326, 2045108710,
   2045125095, 2045141479, 2045157863, 2045174247, 2045190632, 2045207016, 2045223400, 2045239784, 2045256169,
   2045272553, 2045288937, 2045305321, 2045321706, 2045338090, 2045354474, 2045370858, 2045387243, 2045403627,
   2045420011, 2045436395, 2045452780, 2045469164, 2045485548, 2045501932, 2045518317, 2045534701, 2045551085,
   2045567469, 2045583854, 2045600238, 2045616622, 2045633006, 2045649391, 2045665775, 2045682159, 2045698543,
   2045714928, 2045731312, 2045747696, 2045764080, 2045780465, 2045796849, 2045813233, 2045829617, 2045846002,
   2045862386, 2045878770, 2045895154, 2045911539, 2045927923, 2045944307, 2045960691, 2045977076, 2045993460,
   2046009844, 2046026228, 2046042613, 2046058997, 2046075381, 2046091765, 2046108150, 2046124534, 2046140918,
   2046157302, 2046173687, 2046190071, 2046206455, 2046222839, 2046239224, 2046255608, 2046271992, 2046288376,
   2046304761, 2046321145, 2046337529, 2046353913, 2046370298, 2046386682, 2046403066, 2046419450, 2046435835,
   2046452219, 2046468603, 2046484987, 2046501372, 2046517756, 2046534140, 2046550524, 2046566909, 2046583293,
   2046599677, 2046616061, 2046632446, 2046648830, 2046665214, 2046681598, 2046697983, 2046714367, 2046730751,
   2046747135, 2046763520, 2046779904, 2046796288, 2046812672]
theorem c0_ok :
    chkList (pipeF 1199570688 65535) 65535 2139095040 1 0 0 c0
      2049 1023406336 1024 = true := by decide +kernel
theorem c0_len : 1 + c0.length = 2049 := (chkList_end c0_ok).1
theorem c0_last : lastS 0 c0 = 1023406336 := (chkList_end c0_ok).2.1

@[irreducible] def c1 : List Nat :=
  [2046824705, 2046832897, 2046841089, 2046849281, 2046857473, 2046865665, 2046873857, 2046882049, 2046890242,
   2046898434, 2046906626, 2046914818, 2046923010, 2046931202, 2046939394, 2046947586, 2046955779, 2046963971,
   2046972163, 2046980355, 2046988547, 2046996739, 2047004931, 2047013123, 2047021316, 2047029508, 2047037700,
   2047045892, 2047054084, 2047062276, 2047070468, 2047078660, 2047086853, 2047095045, 2047103237, 2047111429,
   2047119621, 2047127813, 2047136005, 2047144197, 2047152390, 2047160582, 2047168774, 2047176966, 2047185158,
   2047193350, 2047201542, 2047209734, 2047217927, 2047226119, 2047234311, 2047242503, 2047250695, 2047258887,
   2047267079, 2047275271, 2047283464, 2047291656, 2047299848, 2047308040, 2047316232, 2047324424, 2047332616,
   2047340808, 2047349001, 2047357193, 2047365385, 2047373577, 2047381769, 2047389961, 2047398153, 2047406345,
   2047414538, 2047422730, 2047430922, 2047439114, 2047447306, 2047455498, 2047463690, 2047471882, 2047480075,
   2047488267, 2047496459, 2047504651, 2047512843, 2047521035, 2047529227, 2047537419, 2047545612, 2047553804,
   2047561996, 2047570188, 2047578380, 2047586572, 2047594764, 2047602956, 2047611149, 2047619341, 2047627533,
   2047635725, 2047643917, 2047652109, 2047660301, 2047668493, 2047676686, 2047684878, 2047693070, 2047701262,
   2047709454, 2047717646, 2047725838, 2047734030, 2047742223, 2047750415, 2047758607, 2047766799, 2047774991,
   2047783183, 2047791375, 2047799567, 2047807760, 2047815952, 2047824144, 2047832336, 2047840528, 2047848720,
   2047856912, 2047865104, 2047873297, 2047881489, 2047889681, 2047897873, 2047906065, 2047914257, 2047922449,
   2047930641, 2047938834, 2047947026, 2047955218, 2047963410, 2047971602, 2047979794, 2047987986, 2047996178,
   2048004371, 2048012563, 2048020755, 2048028947, 2048037139, 2048045331, 2048053523, 2048061715, 2048069908,
   2048078100, 2048086292, 2048094484, 2048102676, 2048110868, 2048119060, 2048127252, 2048135445, 2048143637,
   2048151829, 2048160021, 2048168213, 2048176405, 2048184597, 2048192789, 2048200982, 2048209174, 2048217366,
   2048225558, 2048233750, 2048241942, 2048250134, 2048258326, 2048266519, 2048274711, 2048282903, 2048291095,
   2048299287, 2048307479, 2048315671, 2048323863, 2048332056, 2048340248, 2048348440, 2048356632, 2048364824,
   2048373016, 2048381208, 2048389400, 2048397593, 2048405785, 2048413977, 2048422169, 2048430361, 2048438553,
   2048446745, 2048454937, 2048463130, 2048471322, 2048479514, 2048487706, 2048495898, 2048504090, 2048512282,
   2048520474, 2048528667, 2048536859, 2048545051, 2048553243, 2048561435, 2048569627, 2048577819, 2048586011,
   2048594204, 2048602396, 2048610588, 2048618780, 2048626972, 2048635164, 2048643356, 2048651548, 2048659741,
   2048667933, 2048676125, 2048684317, 2048692509, 2048700701, 2048708893, 2048717085, 2048725278, 2048733470,
   2048741662, 2048749854, 2048758046, 2048766238, 2048774430, 2048782622, 2048790815, 2048799007, 2048807199,
   2048815391, 2048823583, 2048831775, 2048839967, 2048848159, 2048856352, 2048864544, 2048872736, 2048880928,
   2048889120, 2048897312, 2048905504, 2048913696, 2048921889, 2048930081, 2048938273, 2048946465, 2048954657,
   2048962849, 2048971041, 2048979233, 2048987426, 2048995618, 2049003810, 2049012002, 2049020194, 2049028386,
   2049036578, 2049044770, 2049052963, 2049061155, 2049069347, 2049077539, 2049085731, 2049093923, 2049102115,
   2049110307, 2049118500, 2049126692, 2049134884, 2049143076, 2049151268, 2049159460, 2049167652, 2049175844,
   2049184037, 2049192229, 2049200421, 2049208613, 2049216805, 2049224997, 2049233189, 2049241381, 2049249574,
   2049257766, 2049265958, 2049274150, 2049282342, 2049290534, 2049298726, 2049306918, 2049315111, 2049323303,
   2049331495, 2049339687, 2049347879, 2049356071, 2049364263, 2049372455, 2049380648, 2049388840, 2049397032,
   2049405224, 2049413416, 2049421608, 2049429800, 2049437992, 2049446185, 2049454377, 2049462569, 2049470761,
   2049478953, 2049487145, 2049495337, 2049503529, 2049511722, 2049519914, 2049528106, 2049536298, 2049544490,
   2049552682, 2049560874, 2049569066, 2049577259, 2049585451, 2049593643, 2049601835, 2049610027, 2049618219,
   2049626411, 2049634603, 2049642796, 2049650988, 2049659180, 2049667372, 2049675564, 2049683756, 2049691948,
   2049700140, 2049708333, 2049716525, 2049724717, 2049732909, 2049741101, 2049749293, 2049757485, 2049765677,
   2049773870, 2049782062, 2049790254, 2049798446, 2049806638, 2049814830, 2049823022, 2049831214, 2049839407,
   2049847599, 2049855791, 2049863983, 2049872175, 2049880367, 2049888559, 2049896751, 2049904944, 2049913136,
   2049921328, 2049929520, 2049937712, 2049945904, 2049954096, 2049962288, 2049970481, 2049978673, 2049986865,
   2049995057, 2050003249, 2050011441, 2050019633, 2050027825, 2050036018, 2050044210, 2050052402, 2050060594,
   2050068786, 2050076978, 2050085170, 2050093362, 2050101555, 2050109747, 2050117939, 2050126131, 2050134323,
   2050142515, 2050150707, 2050158899, 2050167092, 2050175284, 2050183476, 2050191668, 2050199860, 2050208052,
   2050216244, 2050224436, 2050232629, 2050240821, 2050249013, 2050257205, 2050265397, 2050273589, 2050281781,
   2050289973, 2050298166, 2050306358, 2050314550, 2050322742, 2050330934, 2050339126, 2050347318, 2050355510,
   2050363703, 2050371895, 2050380087, 2050388279, 2050396471, 2050404663, 2050412855, 2050421047, 2050429240,
   2050437432, 2050445624, 2050453816, 2050462008, 2050470200, 2050478392, 2050486584, 2050494777, 2050502969,
   2050511161, 2050519353, 2050527545, 2050535737, 2050543929, 2050552121, 2050560314, 2050568506, 2050576698,
   2050584890, 2050593082, 2050601274, 2050609466, 2050617658, 2050625851, 2050634043, 2050642235, 2050650427,
   2050658619, 2050666811, 2050675003, 2050683195, 2050691388, 2050699580, 2050707772, 2050715964, 2050724156,
   2050732348, 2050740540, 2050748732, 2050756925, 2050765117, 2050773309, 2050781501, 2050789693, 2050797885,
   2050806077, 2050814269, 2050822462, 2050830654, 2050838846, 2050847038, 2050855230, 2050863422, 2050871614,
   2050879806, 2050887999, 2050896191, 2050904383, 2050912575, 2050920767, 2050928959, 2050937151, 2050945343,
   2050953536, 2050961728, 2050969920, 2050978112, 2050986304, 2050994496, 2051002688, 2051010880, 2051019073,
   2051027265, 2051035457, 2051043649, 2051051841, 2051060033, 2051068225, 2051076417, 2051084610, 2051092802,
   2051100994, 2051109186, 2051117378, 2051125570, 2051133762, 2051141954, 2051150147, 2051158339, 2051166531,
   2051174723, 2051182915, 2051191107, 2051199299, 2051207491, 2051215684, 2051223876, 2051232068, 2051240260,
   2051248452, 2051256644, 2051264836, 2051273028, 2051281221, 2051289413, 2051297605, 2051305797, 2051313989,
   2051322181, 2051330373, 2051338565, 2051346758, 2051354950, 2051363142, 2051371334, 2051379526, 2051387718,
   2051395910, 2051404102, 2051412295, 2051420487, 2051428679, 2051436871, 2051445063, 2051453255, 2051461447,
   2051469639, 2051477832, 2051486024, 2051494216, 2051502408, 2051510600, 2051518792, 2051526984, 2051535176,
   2051543369, 2051551561, 2051559753, 2051567945, 2051576137, 2051584329, 2051592521, 2051600713, 2051608906,
   2051617098, 2051625290, 2051633482, 2051641674, 2051649866, 2051658058, 2051666250, 2051674443, 2051682635,
   2051690827, 2051699019, 2051707211, 2051715403, 2051723595, 2051731787, 2051739980, 2051748172, 2051756364,
   2051764556, 2051772748, 2051780940, 2051789132, 2051797324, 2051805517, 2051813709, 2051821901, 2051830093,
   2051838285, 2051846477, 2051854669, 2051862861, 2051871054, 2051879246, 2051887438, 2051895630, 2051903822,
   2051912014, 2051920206, 2051928398, 2051936591, 2051944783, 2051952975, 2051961167, 2051969359, 2051977551,
   2051985743, 2051993935, 2052002128, 2052010320, 2052018512, 2052026704, 2052034896, 2052043088, 2052051280,
   2052059472, 2052067665, 2052075857, 2052084049, 2052092241, 2052100433, 2052108625, 2052116817, 2052125009,
   2052133202, 2052141394, 2052149586, 2052157778, 2052165970, 2052174162, 2052182354, 2052190546, 2052198739,
   2052206931, 2052215123, 2052223315, 2052231507, 2052239699, 2052247891, 2052256083, 2052264276, 2052272468,
   2052280660, 2052288852, 2052297044, 2052305236, 2052313428, 2052321620, 2052329813, 2052338005, 2052346197,
   2052354389, 2052362581, 2052370773, 2052378965, 2052387157, 2052395350, 2052403542, 2052411734, 2052419926,
   2052428118, 2052436310, 2052444502, 2052452694, 2052460887, 2052469079, 2052477271, 2052485463, 2052493655,
   2052501847, 2052510039, 2052518231, 2052526424, 2052534616, 2052542808, 2052551000, 2052559192, 2052567384,
   2052575576, 2052583768, 2052591961, 2052600153, 2052608345, 2052616537, 2052624729, 2052632921, 2052641113,
   2052649305, 2052657498, 2052665690, 2052673882, 2052682074, 2052690266, 2052698458, 2052706650, 2052714842,
   2052723035, 2052731227, 2052739419, 2052747611, 2052755803, 2052763995, 2052772187, 2052780379, 2052788572,
   2052796764, 2052804956, 2052813148, 2052821340, 2052829532, 2052837724, 2052845916, 2052854109, 2052862301,
   2052870493, 2052878685, 2052886877, 2052895069, 2052903261, 2052911453, 2052919646, 2052927838, 2052936030,
   2052944222, 2052952414, 2052960606, 2052968798, 2052976990, 2052985183, 2052993375, 2053001567, 2053009759,
   2053017951, 2053026143, 2053034335, 2053042527, 2053050720, 2053058912, 2053067104, 2053075296, 2053083488,
   2053091680, 2053099872, 2053108064, 2053116257, 2053124449, 2053132641, 2053140833, 2053149025, 2053157217,
   2053165409, 2053173601, 2053181794, 2053189986, 2053198178, 2053206370, 2053214562, 2053222754, 2053230946,
   2053239138, 2053247331, 2053255523, 2053263715, 2053271907, 2053280099, 2053288291, 2053296483, 2053304675,
   2053312868, 2053321060, 2053329252, 2053337444, 2053345636, 2053353828, 2053362020, 2053370212, 2053378405,
   2053386597, 2053394789, 2053402981, 2053411173, 2053419365, 2053427557, 2053435749, 2053443942, 2053452134,
   2053460326, 2053468518, 2053476710, 2053484902, 2053493094, 2053501286, 2053509479, 2053517671, 2053525863,
   2053534055, 2053542247, 2053550439, 2053558631, 2053566823, 2053575016, 2053583208, 2053591400, 2053599592,
   2053607784, 2053615976, 2053624168, 2053632360, 2053640553, 2053648745, 2053656937, 2053665129, 2053673321,
   2053681513, 2053689705, 2053697897, 2053706090, 2053714282, 2053722474, 2053730666, 2053738858, 2053747050,
   2053755242, 2053763434, 2053771627, 2053779819, 2053788011, 2053796203, 2053804395, 2053812587, 2053820779,
   2053828971, 2053837164, 2053845356, 2053853548, 2053861740, 2053869932, 2053878124, 2053886316, 2053894508,
   2053902701, 2053910893, 2053919085, 2053927277, 2053935469, 2053943661, 2053951853, 2053960045, 2053968238,
   2053976430, 2053984622, 2053992814, 2054001006, 2054009198, 2054017390, 2054025582, 2054033775, 2054041967,
   2054050159, 2054058351, 2054066543, 2054074735, 2054082927, 2054091119, 2054099312, 2054107504, 2054115696,
   2054123888, 2054132080, 2054140272, 2054148464, 2054156656, 2054164849, 2054173041, 2054181233, 2054189425,
   2054197617, 2054205809, 2054214001, 2054222193, 2054230386, 2054238578, 2054246770, 2054254962, 2054263154,
   2054271346, 2054279538, 2054287730, 2054295923, 2054304115, 2054312307, 2054320499, 2054328691, 2054336883,
   2054345075, 2054353267, 2054361460, 2054369652, 2054377844, 2054386036, 2054394228, 2054402420, 2054410612,
   2054418804, 2054426997, 2054435189, 2054443381, 2054451573, 2054459765, 2054467957, 2054476149, 2054484341,
   2054492534, 2054500726, 2054508918, 2054517110, 2054525302, 2054533494, 2054541686, 2054549878, 2054558071,
   2054566263, 2054574455, 2054582647, 2054590839, 2054599031, 2054607223, 2054615415, 2054623608, 2054631800,
   2054639992, 2054648184, 2054656376, 2054664568, 2054672760, 2054680952, 2054689145, 2054697337, 2054705529,
   2054713721, 2054721913, 2054730105, 2054738297, 2054746489, 2054754682, 2054762874, 2054771066, 2054779258,
   2054787450, 2054795642, 2054803834, 2054812026, 2054820219, 2054828411, 2054836603, 2054844795, 2054852987,
   2054861179, 2054869371, 2054877563, 2054885756, 2054893948, 2054902140, 2054910332, 2054918524, 2054926716,
   2054934908, 2054943100, 2054951293, 2054959485, 2054967677, 2054975869, 2054984061, 2054992253, 2055000445,
   2055008637, 2055016830, 2055025022, 2055033214, 2055041406, 2055049598, 2055057790, 2055065982, 2055074174,
   2055082367, 2055090559, 2055098751, 2055106943, 2055115135, 2055123327, 2055131519, 2055139711, 2055147904,
   2055156096, 2055164288, 2055172480, 2055180672, 2055188864, 2055197056, 2055205248, 2055213441, 2055221633,
   2055229825, 2055238017, 2055246209, 2055254401, 2055262593, 2055270785, 2055278978, 2055287170, 2055295362,
   2055303554, 2055311746, 2055319938, 2055328130, 2055336322, 2055344515, 2055352707, 2055360899, 2055369091,
   2055377283, 2055385475, 2055393667, 2055401859, 2055410052, 2055418244, 2055426436, 2055434628, 2055442820,
   2055451012, 2055459204, 2055467396, 2055475589, 2055483781, 2055491973, 2055500165, 2055508357, 2055516549,
   2055524741, 2055532933, 2055541126, 2055549318, 2055557510, 2055565702, 2055573894, 2055582086, 2055590278,
   2055598470, 2055606663, 2055614855, 2055623047, 2055631239, 2055639431, 2055647623, 2055655815, 2055664007,
   2055672200, 2055680392, 2055688584, 2055696776, 2055704968, 2055713160, 2055721352, 2055729544, 2055737737,
   2055745929, 2055754121, 2055762313, 2055770505, 2055778697, 2055786889, 2055795081, 2055803274, 2055811466,
   2055819658, 2055827850, 2055836042, 2055844234, 2055852426, 2055860618, 2055868811, 2055877003, 2055885195,
   2055893387, 2055901579, 2055909771, 2055917963, 2055926155, 2055934348, 2055942540, 2055950732, 2055958924,
   2055967116, 2055975308, 2055983500, 2055991692, 2055999885, 2056008077, 2056016269, 2056024461, 2056032653,
   2056040845, 2056049037, 2056057229, 2056065422, 2056073614, 2056081806, 2056089998, 2056098190, 2056106382,
   2056114574, 2056122766, 2056130959, 2056139151, 2056147343, 2056155535, 2056163727, 2056171919, 2056180111,
   2056188303, 2056196496, 2056204688, 2056212880, 2056221072, 2056229264, 2056237456, 2056245648, 2056253840,
   2056262033, 2056270225, 2056278417, 2056286609, 2056294801, 2056302993, 2056311185, 2056319377, 2056327570,
   2056335762, 2056343954, 2056352146, 2056360338, 2056368530, 2056376722, 2056384914, 2056393107, 2056401299,
   2056409491, 2056417683, 2056425875, 2056434067, 2056442259, 2056450451, 2056458644, 2056466836, 2056475028,
   2056483220, 2056491412, 2056499604, 2056507796, 2056515988, 2056524181, 2056532373, 2056540565, 2056548757,
   2056556949, 2056565141, 2056573333, 2056581525, 2056589718, 2056597910, 2056606102, 2056614294, 2056622486,
   2056630678, 2056638870, 2056647062, 2056655255, 2056663447, 2056671639, 2056679831, 2056688023, 2056696215,
   2056704407, 2056712599, 2056720792, 2056728984, 2056737176, 2056745368, 2056753560, 2056761752, 2056769944,
   2056778136, 2056786329, 2056794521, 2056802713, 2056810905, 2056819097, 2056827289, 2056835481, 2056843673,
   2056851866, 2056860058, 2056868250, 2056876442, 2056884634, 2056892826, 2056901018, 2056909210, 2056917403,
   2056925595, 2056933787, 2056941979, 2056950171, 2056958363, 2056966555, 2056974747, 2056982940, 2056991132,
   2056999324, 2057007516, 2057015708, 2057023900, 2057032092, 2057040284, 2057048477, 2057056669, 2057064861,
   2057073053, 2057081245, 2057089437, 2057097629, 2057105821, 2057114014, 2057122206, 2057130398, 2057138590,
   2057146782, 2057154974, 2057163166, 2057171358, 2057179551, 2057187743, 2057195935, 2057204127, 2057212319,
   2057220511, 2057228703, 2057236895, 2057245088, 2057253280, 2057261472, 2057269664, 2057277856, 2057286048,
   2057294240, 2057302432, 2057310625, 2057318817, 2057327009, 2057335201, 2057343393, 2057351585, 2057359777,
   2057367969, 2057376162, 2057384354, 2057392546, 2057400738, 2057408930, 2057417122, 2057425314, 2057433506,
   2057441699, 2057449891, 2057458083, 2057466275, 2057474467, 2057482659, 2057490851, 2057499043, 2057507236,
   2057515428, 2057523620, 2057531812, 2057540004, 2057548196, 2057556388, 2057564580, 2057572773, 2057580965,
   2057589157, 2057597349, 2057605541, 2057613733, 2057621925, 2057630117, 2057638310, 2057646502, 2057654694,
   2057662886, 2057671078, 2057679270, 2057687462, 2057695654, 2057703847, 2057712039, 2057720231, 2057728423,
   2057736615, 2057744807, 2057752999, 2057761191, 2057769384, 2057777576, 2057785768, 2057793960, 2057802152,
   2057810344, 2057818536, 2057826728, 2057834921, 2057843113, 2057851305, 2057859497, 2057867689, 2057875881,
   2057884073, 2057892265, 2057900458, 2057908650, 2057916842, 2057925034, 2057933226, 2057941418, 2057949610,
   2057957802, 2057965995, 2057974187, 2057982379, 2057990571, 2057998763, 2058006955, 2058015147, 2058023339,
   2058031532, 2058039724, 2058047916, 2058056108, 2058064300, 2058072492, 2058080684, 2058088876, 2058097069,
   2058105261, 2058113453, 2058121645, 2058129837, 2058138029, 2058146221, 2058154413, 2058162606, 2058170798,
   2058178990, 2058187182, 2058195374, 2058203566, 2058211758, 2058219950, 2058228143, 2058236335, 2058244527,
   2058252719, 2058260911, 2058269103, 2058277295, 2058285487, 2058293680, 2058301872, 2058310064, 2058318256,
   2058326448, 2058334640, 2058342832, 2058351024, 2058359217, 2058367409, 2058375601, 2058383793, 2058391985,
   2058400177, 2058408369, 2058416561, 2058424754, 2058432946, 2058441138, 2058449330, 2058457522, 2058465714,
   2058473906, 2058482098, 2058490291, 2058498483, 2058506675, 2058514867, 2058523059, 2058531251, 2058539443,
   2058547635, 2058555828, 2058564020, 2058572212, 2058580404, 2058588596, 2058596788, 2058604980, 2058613172,
   2058621365, 2058629557, 2058637749, 2058645941, 2058654133, 2058662325, 2058670517, 2058678709, 2058686902,
   2058695094, 2058703286, 2058711478, 2058719670, 2058727862, 2058736054, 2058744246, 2058752439, 2058760631,
   2058768823, 2058777015, 2058785207, 2058793399, 2058801591, 2058809783, 2058817976, 2058826168, 2058834360,
   2058842552, 2058850744, 2058858936, 2058867128, 2058875320, 2058883513, 2058891705, 2058899897, 2058908089,
   2058916281, 2058924473, 2058932665, 2058940857, 2058949050, 2058957242, 2058965434, 2058973626, 2058981818,
   2058990010, 2058998202, 2059006394, 2059014587, 2059022779, 2059030971, 2059039163, 2059047355, 2059055547,
   2059063739, 2059071931, 2059080124, 2059088316, 2059096508, 2059104700, 2059112892, 2059121084, 2059129276,
   2059137468, 2059145661, 2059153853, 2059162045, 2059170237, 2059178429, 2059186621, 2059194813, 2059203005,
   2059211198, 2059219390, 2059227582, 2059235774, 2059243966, 2059252158, 2059260350, 2059268542, 2059276735,
   2059284927, 2059293119, 2059301311, 2059309503, 2059317695, 2059325887, 2059334079, 2059342272, 2059350464,
   2059358656, 2059366848, 2059375040, 2059383232, 2059391424, 2059399616, 2059407809, 2059416001, 2059424193,
   2059432385, 2059440577, 2059448769, 2059456961, 2059465153, 2059473346, 2059481538, 2059489730, 2059497922,
   2059506114, 2059514306, 2059522498, 2059530690, 2059538883, 2059547075, 2059555267, 2059563459, 2059571651,
   2059579843, 2059588035, 2059596227, 2059604420, 2059612612, 2059620804, 2059628996, 2059637188, 2059645380,
   2059653572, 2059661764, 2059669957, 2059678149, 2059686341, 2059694533, 2059702725, 2059710917, 2059719109,
   2059727301, 2059735494, 2059743686, 2059751878, 2059760070, 2059768262, 2059776454, 2059784646, 2059792838,
   2059801031, 2059809223, 2059817415, 2059825607, 2059833799, 2059841991, 2059850183, 2059858375, 2059866568,
   2059874760, 2059882952, 2059891144, 2059899336, 2059907528, 2059915720, 2059923912, 2059932105, 2059940297,
   2059948489, 2059956681, 2059964873, 2059973065, 2059981257, 2059989449, 2059997642, 2060005834, 2060014026,
   2060022218, 2060030410, 2060038602, 2060046794, 2060054986, 2060063179, 2060071371, 2060079563, 2060087755,
   2060095947, 2060104139, 2060112331, 2060120523, 2060128716, 2060136908, 2060145100, 2060153292, 2060161484,
   2060169676, 2060177868, 2060186060, 2060194253, 2060202445, 2060210637, 2060218829, 2060227021, 2060235213,
   2060243405, 2060251597, 2060259790, 2060267982, 2060276174, 2060284366, 2060292558, 2060300750, 2060308942,
   2060317134, 2060325327, 2060333519, 2060341711, 2060349903, 2060358095, 2060366287, 2060374479, 2060382671,
   2060390864, 2060399056, 2060407248, 2060415440, 2060423632, 2060431824, 2060440016, 2060448208, 2060456401,
   2060464593, 2060472785, 2060480977, 2060489169, 2060497361, 2060505553, 2060513745, 2060521938, 2060530130,
   2060538322, 2060546514, 2060554706, 2060562898, 2060571090, 2060579282, 2060587475, 2060595667, 2060603859,
   2060612051, 2060620243, 2060628435, 2060636627, 2060644819, 2060653012, 2060661204, 2060669396, 2060677588,
   2060685780, 2060693972, 2060702164, 2060710356, 2060718549, 2060726741, 2060734933, 2060743125, 2060751317,
   2060759509, 2060767701, 2060775893, 2060784086, 2060792278, 2060800470, 2060808662, 2060816854, 2060825046,
   2060833238, 2060841430, 2060849623, 2060857815, 2060866007, 2060874199, 2060882391, 2060890583, 2060898775,
   2060906967, 2060915160, 2060923352, 2060931544, 2060939736, 2060947928, 2060956120, 2060964312, 2060972504,
   2060980697, 2060988889, 2060997081, 2061005273, 2061013465, 2061021657, 2061029849, 2061038041, 2061046234,
   2061054426, 2061062618, 2061070810, 2061079002, 2061087194, 2061095386, 2061103578, 2061111771, 2061119963,
   2061128155, 2061136347, 2061144539, 2061152731, 2061160923, 2061169115, 2061177308, 2061185500, 2061193692,
   2061201884, 2061210076, 2061218268, 2061226460, 2061234652, 2061242845, 2061251037, 2061259229, 2061267421,
   2061275613, 2061283805, 2061291997, 2061300189, 2061308382, 2061316574, 2061324766, 2061332958, 2061341150,
   2061349342, 2061357534, 2061365726, 2061373919, 2061382111, 2061390303, 2061398495, 2061406687, 2061414879,
   2061423071, 2061431263, 2061439456, 2061447648, 2061455840, 2061464032, 2061472224, 2061480416, 2061488608,
   2061496800, 2061504993, 2061513185, 2061521377, 2061529569, 2061537761, 2061545953, 2061554145, 2061562337,
   2061570530, 2061578722, 2061586914, 2061595106, 2061603298, 2061611490, 2061619682, 2061627874, 2061636067,
   2061644259, 2061652451, 2061660643, 2061668835, 2061677027, 2061685219, 2061693411, 2061701604, 2061709796,
   2061717988, 2061726180, 2061734372, 2061742564, 2061750756, 2061758948, 2061767141, 2061775333, 2061783525,
   2061791717, 2061799909, 2061808101, 2061816293, 2061824485, 2061832678, 2061840870, 2061849062, 2061857254,
   2061865446, 2061873638, 2061881830, 2061890022, 2061898215, 2061906407, 2061914599, 2061922791, 2061930983,
   2061939175, 2061947367, 2061955559, 2061963752, 2061971944, 2061980136, 2061988328, 2061996520, 2062004712,
   2062012904, 2062021096, 2062029289, 2062037481, 2062045673, 2062053865, 2062062057, 2062070249, 2062078441,
   2062086633, 2062094826, 2062103018, 2062111210, 2062119402, 2062127594, 2062135786, 2062143978, 2062152170,
   2062160363, 2062168555, 2062176747, 2062184939, 2062193131, 2062201323, 2062209515, 2062217707, 2062225900,
   2062234092, 2062242284, 2062250476, 2062258668, 2062266860, 2062275052, 2062283244, 2062291437, 2062299629,
   2062307821, 2062316013, 2062324205, 2062332397, 2062340589, 2062348781, 2062356974, 2062365166, 2062373358,
   2062381550, 2062389742, 2062397934, 2062406126, 2062414318, 2062422511, 2062430703, 2062438895, 2062447087,
   2062455279, 2062463471, 2062471663, 2062479855, 2062488048, 2062496240, 2062504432, 2062512624, 2062520816,
   2062529008, 2062537200, 2062545392, 2062553585, 2062561777, 2062569969, 2062578161, 2062586353, 2062594545,
   2062602737, 2062610929, 2062619122, 2062627314, 2062635506, 2062643698, 2062651890, 2062660082, 2062668274,
   2062676466, 2062684659, 2062692851, 2062701043, 2062709235, 2062717427, 2062725619, 2062733811, 2062742003,
   2062750196, 2062758388, 2062766580, 2062774772, 2062782964, 2062791156, 2062799348, 2062807540, 2062815733,
   2062823925, 2062832117, 2062840309, 2062848501, 2062856693, 2062864885, 2062873077, 2062881270, 2062889462,
   2062897654, 2062905846, 2062914038, 2062922230, 2062930422, 2062938614, 2062946807, 2062954999, 2062963191,
   2062971383, 2062979575, 2062987767, 2062995959, 2063004151, 2063012344, 2063020536, 2063028728, 2063036920,
   2063045112, 2063053304, 2063061496, 2063069688, 2063077881, 2063086073, 2063094265, 2063102457, 2063110649,
   2063118841, 2063127033, 2063135225, 2063143418, 2063151610, 2063159802, 2063167994, 2063176186, 2063184378,
   2063192570, 2063200762, 2063208955, 2063217147, 2063225339, 2063233531, 2063241723, 2063249915, 2063258107,
   2063266299, 2063274492, 2063282684, 2063290876, 2063299068, 2063307260, 2063315452, 2063323644, 2063331836,
   2063340029, 2063348221, 2063356413, 2063364605, 2063372797, 2063380989, 2063389181, 2063397373, 2063405566,
   2063413758, 2063421950, 2063430142, 2063438334, 2063446526, 2063454718, 2063462910, 2063471103, 2063479295,
   2063487487, 2063495679, 2063503871, 2063512063, 2063520255, 2063528447, 2063536640, 2063544832, 2063553024,
   2063561216, 2063569408, 2063577600, 2063585792, 2063593984]
theorem c1_ok :
    chkList (pipeF 1199570688 65535) 65535 2139095040 2049 1023406336 1024 c1
      4097 1031796992 2048 = true := by decide +kernel
theorem c1_len : 2049 + c1.length = 4097 := (chkList_end c1_ok).1
theorem c1_last : lastS 1023406336 c1 = 1031796992 := (chkList_end c1_ok).2.1

@[irreducible] def c2 : List Nat :=
  [2063599873, 2063603969, 2063608065, 2063612161, 2063616257, 2063620353, 2063624449, 2063628545, 2063632641,
   2063636737, 2063640833, 2063644929, 2063649025, 2063653121, 2063657217, 2063661313, 2063665410, 2063669506,
   2063673602, 2063677698, 2063681794, 2063685890, 2063689986, 2063694082, 2063698178, 2063702274, 2063706370,
   2063710466, 2063714562, 2063718658, 2063722754, 2063726850, 2063730947, 2063735043, 2063739139, 2063743235,
   2063747331, 2063751427, 2063755523, 2063759619, 2063763715, 2063767811, 2063771907, 2063776003, 2063780099,
   2063784195, 2063788291, 2063792387, 2063796484, 2063800580, 2063804676, 2063808772, 2063812868, 2063816964,
   2063821060, 2063825156, 2063829252, 2063833348, 2063837444, 2063841540, 2063845636, 2063849732, 2063853828,
   2063857924, 2063862021, 2063866117, 2063870213, 2063874309, 2063878405, 2063882501, 2063886597, 2063890693,
   2063894789, 2063898885, 2063902981, 2063907077, 2063911173, 2063915269, 2063919365, 2063923461, 2063927558,
   2063931654, 2063935750, 2063939846, 2063943942, 2063948038, 2063952134, 2063956230, 2063960326, 2063964422,
   2063968518, 2063972614, 2063976710, 2063980806, 2063984902, 2063988998, 2063993095, 2063997191, 2064001287,
   2064005383, 2064009479, 2064013575, 2064017671, 2064021767, 2064025863, 2064029959, 2064034055, 2064038151,
   2064042247, 2064046343, 2064050439, 2064054535, 2064058632, 2064062728, 2064066824, 2064070920, 2064075016,
   2064079112, 2064083208, 2064087304, 2064091400, 2064095496, 2064099592, 2064103688, 2064107784, 2064111880,
   2064115976, 2064120072, 2064124169, 2064128265, 2064132361, 2064136457, 2064140553, 2064144649, 2064148745,
   2064152841, 2064156937, 2064161033, 2064165129, 2064169225, 2064173321, 2064177417, 2064181513, 2064185609,
   2064189706, 2064193802, 2064197898, 2064201994, 2064206090, 2064210186, 2064214282, 2064218378, 2064222474,
   2064226570, 2064230666, 2064234762, 2064238858, 2064242954, 2064247050, 2064251146, 2064255243, 2064259339,
   2064263435, 2064267531, 2064271627, 2064275723, 2064279819, 2064283915, 2064288011, 2064292107, 2064296203,
   2064300299, 2064304395, 2064308491, 2064312587, 2064316683, 2064320780, 2064324876, 2064328972, 2064333068,
   2064337164, 2064341260, 2064345356, 2064349452, 2064353548, 2064357644, 2064361740, 2064365836, 2064369932,
   2064374028, 2064378124, 2064382220, 2064386317, 2064390413, 2064394509, 2064398605, 2064402701, 2064406797,
   2064410893, 2064414989, 2064419085, 2064423181, 2064427277, 2064431373, 2064435469, 2064439565, 2064443661,
   2064447757, 2064451854, 2064455950, 2064460046, 2064464142, 2064468238, 2064472334, 2064476430, 2064480526,
   2064484622, 2064488718, 2064492814, 2064496910, 2064501006, 2064505102, 2064509198, 2064513294, 2064517391,
   2064521487, 2064525583, 2064529679, 2064533775, 2064537871, 2064541967, 2064546063, 2064550159, 2064554255,
   2064558351, 2064562447, 2064566543, 2064570639, 2064574735, 2064578831, 2064582928, 2064587024, 2064591120,
   2064595216, 2064599312, 2064603408, 2064607504, 2064611600, 2064615696, 2064619792, 2064623888, 2064627984,
   2064632080, 2064636176, 2064640272, 2064644368, 2064648465, 2064652561, 2064656657, 2064660753, 2064664849,
   2064668945, 2064673041, 2064677137, 2064681233, 2064685329, 2064689425, 2064693521, 2064697617, 2064701713,
   2064705809, 2064709905, 2064714002, 2064718098, 2064722194, 2064726290, 2064730386, 2064734482, 2064738578,
   2064742674, 2064746770, 2064750866, 2064754962, 2064759058, 2064763154, 2064767250, 2064771346, 2064775442,
   2064779539, 2064783635, 2064787731, 2064791827, 2064795923, 2064800019, 2064804115, 2064808211, 2064812307,
   2064816403, 2064820499, 2064824595, 2064828691, 2064832787, 2064836883, 2064840979, 2064845076, 2064849172,
   2064853268, 2064857364, 2064861460, 2064865556, 2064869652, 2064873748, 2064877844, 2064881940, 2064886036,
   2064890132, 2064894228, 2064898324, 2064902420, 2064906516, 2064910613, 2064914709, 2064918805, 2064922901,
   2064926997, 2064931093, 2064935189, 2064939285, 2064943381, 2064947477, 2064951573, 2064955669, 2064959765,
   2064963861, 2064967957, 2064972053, 2064976150, 2064980246, 2064984342, 2064988438, 2064992534, 2064996630,
   2065000726, 2065004822, 2065008918, 2065013014, 2065017110, 2065021206, 2065025302, 2065029398, 2065033494,
   2065037590, 2065041687, 2065045783, 2065049879, 2065053975, 2065058071, 2065062167, 2065066263, 2065070359,
   2065074455, 2065078551, 2065082647, 2065086743, 2065090839, 2065094935, 2065099031, 2065103127, 2065107224,
   2065111320, 2065115416, 2065119512, 2065123608, 2065127704, 2065131800, 2065135896, 2065139992, 2065144088,
   2065148184, 2065152280, 2065156376, 2065160472, 2065164568, 2065168664, 2065172761, 2065176857, 2065180953,
   2065185049, 2065189145, 2065193241, 2065197337, 2065201433, 2065205529, 2065209625, 2065213721, 2065217817,
   2065221913, 2065226009, 2065230105, 2065234201, 2065238298, 2065242394, 2065246490, 2065250586, 2065254682,
   2065258778, 2065262874, 2065266970, 2065271066, 2065275162, 2065279258, 2065283354, 2065287450, 2065291546,
   2065295642, 2065299738, 2065303835, 2065307931, 2065312027, 2065316123, 2065320219, 2065324315, 2065328411,
   2065332507, 2065336603, 2065340699, 2065344795, 2065348891, 2065352987, 2065357083, 2065361179, 2065365275,
   2065369372, 2065373468, 2065377564, 2065381660, 2065385756, 2065389852, 2065393948, 2065398044, 2065402140,
   2065406236, 2065410332, 2065414428, 2065418524, 2065422620, 2065426716, 2065430812, 2065434909, 2065439005,
   2065443101, 2065447197, 2065451293, 2065455389, 2065459485, 2065463581, 2065467677, 2065471773, 2065475869,
   2065479965, 2065484061, 2065488157, 2065492253, 2065496349, 2065500446, 2065504542, 2065508638, 2065512734,
   2065516830, 2065520926, 2065525022, 2065529118, 2065533214, 2065537310, 2065541406, 2065545502, 2065549598,
   2065553694, 2065557790, 2065561886, 2065565983, 2065570079, 2065574175, 2065578271, 2065582367, 2065586463,
   2065590559, 2065594655, 2065598751, 2065602847, 2065606943, 2065611039, 2065615135, 2065619231, 2065623327,
   2065627423, 2065631520, 2065635616, 2065639712, 2065643808, 2065647904, 2065652000, 2065656096, 2065660192,
   2065664288, 2065668384, 2065672480, 2065676576, 2065680672, 2065684768, 2065688864, 2065692960, 2065697057,
   2065701153, 2065705249, 2065709345, 2065713441, 2065717537, 2065721633, 2065725729, 2065729825, 2065733921,
   2065738017, 2065742113, 2065746209, 2065750305, 2065754401, 2065758497, 2065762594, 2065766690, 2065770786,
   2065774882, 2065778978, 2065783074, 2065787170, 2065791266, 2065795362, 2065799458, 2065803554, 2065807650,
   2065811746, 2065815842, 2065819938, 2065824034, 2065828131, 2065832227, 2065836323, 2065840419, 2065844515,
   2065848611, 2065852707, 2065856803, 2065860899, 2065864995, 2065869091, 2065873187, 2065877283, 2065881379,
   2065885475, 2065889571, 2065893668, 2065897764, 2065901860, 2065905956, 2065910052, 2065914148, 2065918244,
   2065922340, 2065926436, 2065930532, 2065934628, 2065938724, 2065942820, 2065946916, 2065951012, 2065955108,
   2065959205, 2065963301, 2065967397, 2065971493, 2065975589, 2065979685, 2065983781, 2065987877, 2065991973,
   2065996069, 2066000165, 2066004261, 2066008357, 2066012453, 2066016549, 2066020645, 2066024742, 2066028838,
   2066032934, 2066037030, 2066041126, 2066045222, 2066049318, 2066053414, 2066057510, 2066061606, 2066065702,
   2066069798, 2066073894, 2066077990, 2066082086, 2066086182, 2066090279, 2066094375, 2066098471, 2066102567,
   2066106663, 2066110759, 2066114855, 2066118951, 2066123047, 2066127143, 2066131239, 2066135335, 2066139431,
   2066143527, 2066147623, 2066151719, 2066155816, 2066159912, 2066164008, 2066168104, 2066172200, 2066176296,
   2066180392, 2066184488, 2066188584, 2066192680, 2066196776, 2066200872, 2066204968, 2066209064, 2066213160,
   2066217256, 2066221353, 2066225449, 2066229545, 2066233641, 2066237737, 2066241833, 2066245929, 2066250025,
   2066254121, 2066258217, 2066262313, 2066266409, 2066270505, 2066274601, 2066278697, 2066282793, 2066286890,
   2066290986, 2066295082, 2066299178, 2066303274, 2066307370, 2066311466, 2066315562, 2066319658, 2066323754,
   2066327850, 2066331946, 2066336042, 2066340138, 2066344234, 2066348330, 2066352427, 2066356523, 2066360619,
   2066364715, 2066368811, 2066372907, 2066377003, 2066381099, 2066385195, 2066389291, 2066393387, 2066397483,
   2066401579, 2066405675, 2066409771, 2066413867, 2066417964, 2066422060, 2066426156, 2066430252, 2066434348,
   2066438444, 2066442540, 2066446636, 2066450732, 2066454828, 2066458924, 2066463020, 2066467116, 2066471212,
   2066475308, 2066479404, 2066483501, 2066487597, 2066491693, 2066495789, 2066499885, 2066503981, 2066508077,
   2066512173, 2066516269, 2066520365, 2066524461, 2066528557, 2066532653, 2066536749, 2066540845, 2066544941,
   2066549038, 2066553134, 2066557230, 2066561326, 2066565422, 2066569518, 2066573614, 2066577710, 2066581806,
   2066585902, 2066589998, 2066594094, 2066598190, 2066602286, 2066606382, 2066610478, 2066614575, 2066618671,
   2066622767, 2066626863, 2066630959, 2066635055, 2066639151, 2066643247, 2066647343, 2066651439, 2066655535,
   2066659631, 2066663727, 2066667823, 2066671919, 2066676015, 2066680112, 2066684208, 2066688304, 2066692400,
   2066696496, 2066700592, 2066704688, 2066708784, 2066712880, 2066716976, 2066721072, 2066725168, 2066729264,
   2066733360, 2066737456, 2066741552, 2066745649, 2066749745, 2066753841, 2066757937, 2066762033, 2066766129,
   2066770225, 2066774321, 2066778417, 2066782513, 2066786609, 2066790705, 2066794801, 2066798897, 2066802993,
   2066807089, 2066811186, 2066815282, 2066819378, 2066823474, 2066827570, 2066831666, 2066835762, 2066839858,
   2066843954, 2066848050, 2066852146, 2066856242, 2066860338, 2066864434, 2066868530, 2066872626, 2066876723,
   2066880819, 2066884915, 2066889011, 2066893107, 2066897203, 2066901299, 2066905395, 2066909491, 2066913587,
   2066917683, 2066921779, 2066925875, 2066929971, 2066934067, 2066938163, 2066942260, 2066946356, 2066950452,
   2066954548, 2066958644, 2066962740, 2066966836, 2066970932, 2066975028, 2066979124, 2066983220, 2066987316,
   2066991412, 2066995508, 2066999604, 2067003700, 2067007797, 2067011893, 2067015989, 2067020085, 2067024181,
   2067028277, 2067032373, 2067036469, 2067040565, 2067044661, 2067048757, 2067052853, 2067056949, 2067061045,
   2067065141, 2067069237, 2067073334, 2067077430, 2067081526, 2067085622, 2067089718, 2067093814, 2067097910,
   2067102006, 2067106102, 2067110198, 2067114294, 2067118390, 2067122486, 2067126582, 2067130678, 2067134774,
   2067138871, 2067142967, 2067147063, 2067151159, 2067155255, 2067159351, 2067163447, 2067167543, 2067171639,
   2067175735, 2067179831, 2067183927, 2067188023, 2067192119, 2067196215, 2067200311, 2067204408, 2067208504,
   2067212600, 2067216696, 2067220792, 2067224888, 2067228984, 2067233080, 2067237176, 2067241272, 2067245368,
   2067249464, 2067253560, 2067257656, 2067261752, 2067265848, 2067269945, 2067274041, 2067278137, 2067282233,
   2067286329, 2067290425, 2067294521, 2067298617, 2067302713, 2067306809, 2067310905, 2067315001, 2067319097,
   2067323193, 2067327289, 2067331385, 2067335482, 2067339578, 2067343674, 2067347770, 2067351866, 2067355962,
   2067360058, 2067364154, 2067368250, 2067372346, 2067376442, 2067380538, 2067384634, 2067388730, 2067392826,
   2067396922, 2067401019, 2067405115, 2067409211, 2067413307, 2067417403, 2067421499, 2067425595, 2067429691,
   2067433787, 2067437883, 2067441979, 2067446075, 2067450171, 2067454267, 2067458363, 2067462459, 2067466556,
   2067470652, 2067474748, 2067478844, 2067482940, 2067487036, 2067491132, 2067495228, 2067499324, 2067503420,
   2067507516, 2067511612, 2067515708, 2067519804, 2067523900, 2067527996, 2067532093, 2067536189, 2067540285,
   2067544381, 2067548477, 2067552573, 2067556669, 2067560765, 2067564861, 2067568957, 2067573053, 2067577149,
   2067581245, 2067585341, 2067589437, 2067593533, 2067597630, 2067601726, 2067605822, 2067609918, 2067614014,
   2067618110, 2067622206, 2067626302, 2067630398, 2067634494, 2067638590, 2067642686, 2067646782, 2067650878,
   2067654974, 2067659070, 2067663167, 2067667263, 2067671359, 2067675455, 2067679551, 2067683647, 2067687743,
   2067691839, 2067695935, 2067700031, 2067704127, 2067708223, 2067712319, 2067716415, 2067720511, 2067724607,
   2067728704, 2067732800, 2067736896, 2067740992, 2067745088, 2067749184, 2067753280, 2067757376, 2067761472,
   2067765568, 2067769664, 2067773760, 2067777856, 2067781952, 2067786048, 2067790144, 2067794241, 2067798337,
   2067802433, 2067806529, 2067810625, 2067814721, 2067818817, 2067822913, 2067827009, 2067831105, 2067835201,
   2067839297, 2067843393, 2067847489, 2067851585, 2067855681, 2067859778, 2067863874, 2067867970, 2067872066,
   2067876162, 2067880258, 2067884354, 2067888450, 2067892546, 2067896642, 2067900738, 2067904834, 2067908930,
   2067913026, 2067917122, 2067921218, 2067925315, 2067929411, 2067933507, 2067937603, 2067941699, 2067945795,
   2067949891, 2067953987, 2067958083, 2067962179, 2067966275, 2067970371, 2067974467, 2067978563, 2067982659,
   2067986755, 2067990852, 2067994948, 2067999044, 2068003140, 2068007236, 2068011332, 2068015428, 2068019524,
   2068023620, 2068027716, 2068031812, 2068035908, 2068040004, 2068044100, 2068048196, 2068052292, 2068056389,
   2068060485, 2068064581, 2068068677, 2068072773, 2068076869, 2068080965, 2068085061, 2068089157, 2068093253,
   2068097349, 2068101445, 2068105541, 2068109637, 2068113733, 2068117829, 2068121926, 2068126022, 2068130118,
   2068134214, 2068138310, 2068142406, 2068146502, 2068150598, 2068154694, 2068158790, 2068162886, 2068166982,
   2068171078, 2068175174, 2068179270, 2068183366, 2068187463, 2068191559, 2068195655, 2068199751, 2068203847,
   2068207943, 2068212039, 2068216135, 2068220231, 2068224327, 2068228423, 2068232519, 2068236615, 2068240711,
   2068244807, 2068248903, 2068253000, 2068257096, 2068261192, 2068265288, 2068269384, 2068273480, 2068277576,
   2068281672, 2068285768, 2068289864, 2068293960, 2068298056, 2068302152, 2068306248, 2068310344, 2068314440,
   2068318537, 2068322633, 2068326729, 2068330825, 2068334921, 2068339017, 2068343113, 2068347209, 2068351305,
   2068355401, 2068359497, 2068363593, 2068367689, 2068371785, 2068375881, 2068379977, 2068384074, 2068388170,
   2068392266, 2068396362, 2068400458, 2068404554, 2068408650, 2068412746, 2068416842, 2068420938, 2068425034,
   2068429130, 2068433226, 2068437322, 2068441418, 2068445514, 2068449611, 2068453707, 2068457803, 2068461899,
   2068465995, 2068470091, 2068474187, 2068478283, 2068482379, 2068486475, 2068490571, 2068494667, 2068498763,
   2068502859, 2068506955, 2068511051, 2068515148, 2068519244, 2068523340, 2068527436, 2068531532, 2068535628,
   2068539724, 2068543820, 2068547916, 2068552012, 2068556108, 2068560204, 2068564300, 2068568396, 2068572492,
   2068576588, 2068580685, 2068584781, 2068588877, 2068592973, 2068597069, 2068601165, 2068605261, 2068609357,
   2068613453, 2068617549, 2068621645, 2068625741, 2068629837, 2068633933, 2068638029, 2068642125, 2068646222,
   2068650318, 2068654414, 2068658510, 2068662606, 2068666702, 2068670798, 2068674894, 2068678990, 2068683086,
   2068687182, 2068691278, 2068695374, 2068699470, 2068703566, 2068707662, 2068711759, 2068715855, 2068719951,
   2068724047, 2068728143, 2068732239, 2068736335, 2068740431, 2068744527, 2068748623, 2068752719, 2068756815,
   2068760911, 2068765007, 2068769103, 2068773199, 2068777296, 2068781392, 2068785488, 2068789584, 2068793680,
   2068797776, 2068801872, 2068805968, 2068810064, 2068814160, 2068818256, 2068822352, 2068826448, 2068830544,
   2068834640, 2068838736, 2068842833, 2068846929, 2068851025, 2068855121, 2068859217, 2068863313, 2068867409,
   2068871505, 2068875601, 2068879697, 2068883793, 2068887889, 2068891985, 2068896081, 2068900177, 2068904273,
   2068908370, 2068912466, 2068916562, 2068920658, 2068924754, 2068928850, 2068932946, 2068937042, 2068941138,
   2068945234, 2068949330, 2068953426, 2068957522, 2068961618, 2068965714, 2068969810, 2068973907, 2068978003,
   2068982099, 2068986195, 2068990291, 2068994387, 2068998483, 2069002579, 2069006675, 2069010771, 2069014867,
   2069018963, 2069023059, 2069027155, 2069031251, 2069035347, 2069039444, 2069043540, 2069047636, 2069051732,
   2069055828, 2069059924, 2069064020, 2069068116, 2069072212, 2069076308, 2069080404, 2069084500, 2069088596,
   2069092692, 2069096788, 2069100884, 2069104981, 2069109077, 2069113173, 2069117269, 2069121365, 2069125461,
   2069129557, 2069133653, 2069137749, 2069141845, 2069145941, 2069150037, 2069154133, 2069158229, 2069162325,
   2069166421, 2069170518, 2069174614, 2069178710, 2069182806, 2069186902, 2069190998, 2069195094, 2069199190,
   2069203286, 2069207382, 2069211478, 2069215574, 2069219670, 2069223766, 2069227862, 2069231958, 2069236055,
   2069240151, 2069244247, 2069248343, 2069252439, 2069256535, 2069260631, 2069264727, 2069268823, 2069272919,
   2069277015, 2069281111, 2069285207, 2069289303, 2069293399, 2069297495, 2069301592, 2069305688, 2069309784,
   2069313880, 2069317976, 2069322072, 2069326168, 2069330264, 2069334360, 2069338456, 2069342552, 2069346648,
   2069350744, 2069354840, 2069358936, 2069363032, 2069367129, 2069371225, 2069375321, 2069379417, 2069383513,
   2069387609, 2069391705, 2069395801, 2069399897, 2069403993, 2069408089, 2069412185, 2069416281, 2069420377,
   2069424473, 2069428569, 2069432666, 2069436762, 2069440858, 2069444954, 2069449050, 2069453146, 2069457242,
   2069461338, 2069465434, 2069469530, 2069473626, 2069477722, 2069481818, 2069485914, 2069490010, 2069494106,
   2069498203, 2069502299, 2069506395, 2069510491, 2069514587, 2069518683, 2069522779, 2069526875, 2069530971,
   2069535067, 2069539163, 2069543259, 2069547355, 2069551451, 2069555547, 2069559643, 2069563740, 2069567836,
   2069571932, 2069576028, 2069580124, 2069584220, 2069588316, 2069592412, 2069596508, 2069600604, 2069604700,
   2069608796, 2069612892, 2069616988, 2069621084, 2069625180, 2069629277, 2069633373, 2069637469, 2069641565,
   2069645661, 2069649757, 2069653853, 2069657949, 2069662045, 2069666141, 2069670237, 2069674333, 2069678429,
   2069682525, 2069686621, 2069690717, 2069694814, 2069698910, 2069703006, 2069707102, 2069711198, 2069715294,
   2069719390, 2069723486, 2069727582, 2069731678, 2069735774, 2069739870, 2069743966, 2069748062, 2069752158,
   2069756254, 2069760351, 2069764447, 2069768543, 2069772639, 2069776735, 2069780831, 2069784927, 2069789023,
   2069793119, 2069797215, 2069801311, 2069805407, 2069809503, 2069813599, 2069817695, 2069821791, 2069825888,
   2069829984, 2069834080, 2069838176, 2069842272, 2069846368, 2069850464, 2069854560, 2069858656, 2069862752,
   2069866848, 2069870944, 2069875040, 2069879136, 2069883232, 2069887328, 2069891425, 2069895521, 2069899617,
   2069903713, 2069907809, 2069911905, 2069916001, 2069920097, 2069924193, 2069928289, 2069932385, 2069936481,
   2069940577, 2069944673, 2069948769, 2069952865, 2069956962, 2069961058, 2069965154, 2069969250, 2069973346,
   2069977442, 2069981538, 2069985634, 2069989730, 2069993826, 2069997922, 2070002018, 2070006114, 2070010210,
   2070014306, 2070018402, 2070022499, 2070026595, 2070030691, 2070034787, 2070038883, 2070042979, 2070047075,
   2070051171, 2070055267, 2070059363, 2070063459, 2070067555, 2070071651, 2070075747, 2070079843, 2070083939,
   2070088036, 2070092132, 2070096228, 2070100324, 2070104420, 2070108516, 2070112612, 2070116708, 2070120804,
   2070124900, 2070128996, 2070133092, 2070137188, 2070141284, 2070145380, 2070149476, 2070153573, 2070157669,
   2070161765, 2070165861, 2070169957, 2070174053, 2070178149, 2070182245, 2070186341, 2070190437, 2070194533,
   2070198629, 2070202725, 2070206821, 2070210917, 2070215013, 2070219110, 2070223206, 2070227302, 2070231398,
   2070235494, 2070239590, 2070243686, 2070247782, 2070251878, 2070255974, 2070260070, 2070264166, 2070268262,
   2070272358, 2070276454, 2070280550, 2070284647, 2070288743, 2070292839, 2070296935, 2070301031, 2070305127,
   2070309223, 2070313319, 2070317415, 2070321511, 2070325607, 2070329703, 2070333799, 2070337895, 2070341991,
   2070346087, 2070350184, 2070354280, 2070358376, 2070362472, 2070366568, 2070370664, 2070374760, 2070378856,
   2070382952, 2070387048, 2070391144, 2070395240, 2070399336, 2070403432, 2070407528, 2070411624, 2070415721,
   2070419817, 2070423913, 2070428009, 2070432105, 2070436201, 2070440297, 2070444393, 2070448489, 2070452585,
   2070456681, 2070460777, 2070464873, 2070468969, 2070473065, 2070477161, 2070481258, 2070485354, 2070489450,
   2070493546, 2070497642, 2070501738, 2070505834, 2070509930, 2070514026, 2070518122, 2070522218, 2070526314,
   2070530410, 2070534506, 2070538602, 2070542698, 2070546795, 2070550891, 2070554987, 2070559083, 2070563179,
   2070567275, 2070571371, 2070575467, 2070579563, 2070583659, 2070587755, 2070591851, 2070595947, 2070600043,
   2070604139, 2070608235, 2070612332, 2070616428, 2070620524, 2070624620, 2070628716, 2070632812, 2070636908,
   2070641004, 2070645100, 2070649196, 2070653292, 2070657388, 2070661484, 2070665580, 2070669676, 2070673772,
   2070677869, 2070681965, 2070686061, 2070690157, 2070694253, 2070698349, 2070702445, 2070706541, 2070710637,
   2070714733, 2070718829, 2070722925, 2070727021, 2070731117, 2070735213, 2070739309, 2070743406, 2070747502,
   2070751598, 2070755694, 2070759790, 2070763886, 2070767982, 2070772078, 2070776174, 2070780270, 2070784366,
   2070788462, 2070792558, 2070796654, 2070800750, 2070804846, 2070808943, 2070813039, 2070817135, 2070821231,
   2070825327, 2070829423, 2070833519, 2070837615, 2070841711, 2070845807, 2070849903, 2070853999, 2070858095,
   2070862191, 2070866287, 2070870383, 2070874480, 2070878576, 2070882672, 2070886768, 2070890864, 2070894960,
   2070899056, 2070903152, 2070907248, 2070911344, 2070915440, 2070919536, 2070923632, 2070927728, 2070931824,
   2070935920, 2070940017, 2070944113, 2070948209, 2070952305, 2070956401, 2070960497, 2070964593, 2070968689,
   2070972785, 2070976881, 2070980977, 2070985073, 2070989169, 2070993265, 2070997361, 2071001457, 2071005554,
   2071009650, 2071013746, 2071017842, 2071021938, 2071026034, 2071030130, 2071034226, 2071038322, 2071042418,
   2071046514, 2071050610, 2071054706, 2071058802, 2071062898, 2071066994, 2071071091, 2071075187, 2071079283,
   2071083379, 2071087475, 2071091571, 2071095667, 2071099763, 2071103859, 2071107955, 2071112051, 2071116147,
   2071120243, 2071124339, 2071128435, 2071132531, 2071136628, 2071140724, 2071144820, 2071148916, 2071153012,
   2071157108, 2071161204, 2071165300, 2071169396, 2071173492, 2071177588, 2071181684, 2071185780, 2071189876,
   2071193972, 2071198068, 2071202165, 2071206261, 2071210357, 2071214453, 2071218549, 2071222645, 2071226741,
   2071230837, 2071234933, 2071239029, 2071243125, 2071247221, 2071251317, 2071255413, 2071259509, 2071263605,
   2071267702, 2071271798, 2071275894, 2071279990, 2071284086, 2071288182, 2071292278, 2071296374, 2071300470,
   2071304566, 2071308662, 2071312758, 2071316854, 2071320950, 2071325046, 2071329142, 2071333239, 2071337335,
   2071341431, 2071345527, 2071349623, 2071353719, 2071357815, 2071361911, 2071366007, 2071370103, 2071374199,
   2071378295, 2071382391, 2071386487, 2071390583, 2071394679, 2071398776, 2071402872, 2071406968, 2071411064,
   2071415160, 2071419256, 2071423352, 2071427448, 2071431544, 2071435640, 2071439736, 2071443832, 2071447928,
   2071452024, 2071456120, 2071460216, 2071464313, 2071468409, 2071472505, 2071476601, 2071480697, 2071484793,
   2071488889, 2071492985, 2071497081, 2071501177, 2071505273, 2071509369, 2071513465, 2071517561, 2071521657,
   2071525753, 2071529850, 2071533946, 2071538042, 2071542138, 2071546234, 2071550330, 2071554426, 2071558522,
   2071562618, 2071566714, 2071570810, 2071574906, 2071579002, 2071583098, 2071587194, 2071591290, 2071595387,
   2071599483, 2071603579, 2071607675, 2071611771, 2071615867, 2071619963, 2071624059, 2071628155, 2071632251,
   2071636347, 2071640443, 2071644539, 2071648635, 2071652731, 2071656827, 2071660924, 2071665020, 2071669116,
   2071673212, 2071677308, 2071681404, 2071685500, 2071689596, 2071693692, 2071697788, 2071701884, 2071705980,
   2071710076, 2071714172, 2071718268, 2071722364, 2071726461, 2071730557, 2071734653, 2071738749, 2071742845,
   2071746941, 2071751037, 2071755133, 2071759229, 2071763325, 2071767421, 2071771517, 2071775613, 2071779709,
   2071783805, 2071787901, 2071791998, 2071796094, 2071800190, 2071804286, 2071808382, 2071812478, 2071816574,
   2071820670, 2071824766, 2071828862, 2071832958, 2071837054, 2071841150, 2071845246, 2071849342, 2071853438,
   2071857535, 2071861631, 2071865727, 2071869823, 2071873919, 2071878015, 2071882111, 2071886207, 2071890303,
   2071894399, 2071898495, 2071902591, 2071906687, 2071910783, 2071914879, 2071918975, 2071923072, 2071927168,
   2071931264, 2071935360, 2071939456, 2071943552, 2071947648, 2071951744, 2071955840, 2071959936, 2071964032,
   2071968128, 2071972224, 2071976320, 2071980416, 2071984512]
theorem c2_ok :
    chkList (pipeF 1199570688 65535) 65535 2139095040 4097 1031796992 2048 c2
      6145 1035992256 3072 = true := by decide +kernel
theorem c2_len : 4097 + c2.length = 6145 := (chkList_end c2_ok).1
theorem c2_last : lastS 1031796992 c2 = 1035992256 := (chkList_end c2_ok).2.1

@[irreducible] def c3 : List Nat :=
  [2071988609, 2071992705, 2071996801, 2072000897, 2072004993, 2072009089, 2072013185, 2072017281, 2072021377,
   2072025473, 2072029569, 2072033665, 2072037761, 2072041857, 2072045953, 2072050049, 2072054146, 2072058242,
   2072062338, 2072066434, 2072070530, 2072074626, 2072078722, 2072082818, 2072086914, 2072091010, 2072095106,
   2072099202, 2072103298, 2072107394, 2072111490, 2072115586, 2072119683, 2072123779, 2072127875, 2072131971,
   2072136067, 2072140163, 2072144259, 2072148355, 2072152451, 2072156547, 2072160643, 2072164739, 2072168835,
   2072172931, 2072177027, 2072181123, 2072185220, 2072189316, 2072193412, 2072197508, 2072201604, 2072205700,
   2072209796, 2072213892, 2072217988, 2072222084, 2072226180, 2072230276, 2072234372, 2072238468, 2072242564,
   2072246660, 2072250757, 2072254853, 2072258949, 2072263045, 2072267141, 2072271237, 2072275333, 2072279429,
   2072283525, 2072287621, 2072291717, 2072295813, 2072299909, 2072304005, 2072308101, 2072312197, 2072316294,
   2072320390, 2072324486, 2072328582, 2072332678, 2072336774, 2072340870, 2072344966, 2072349062, 2072353158,
   2072357254, 2072361350, 2072365446, 2072369542, 2072373638, 2072377734, 2072381831, 2072385927, 2072390023,
   2072394119, 2072398215, 2072402311, 2072406407, 2072410503, 2072414599, 2072418695, 2072422791, 2072426887,
   2072430983, 2072435079, 2072439175, 2072443271, 2072447368, 2072451464, 2072455560, 2072459656, 2072463752,
   2072467848, 2072471944, 2072476040, 2072480136, 2072484232, 2072488328, 2072492424, 2072496520, 2072500616,
   2072504712, 2072508808, 2072512905, 2072517001, 2072521097, 2072525193, 2072529289, 2072533385, 2072537481,
   2072541577, 2072545673, 2072549769, 2072553865, 2072557961, 2072562057, 2072566153, 2072570249, 2072574345,
   2072578442, 2072582538, 2072586634, 2072590730, 2072594826, 2072598922, 2072603018, 2072607114, 2072611210,
   2072615306, 2072619402, 2072623498, 2072627594, 2072631690, 2072635786, 2072639882, 2072643979, 2072648075,
   2072652171, 2072656267, 2072660363, 2072664459, 2072668555, 2072672651, 2072676747, 2072680843, 2072684939,
   2072689035, 2072693131, 2072697227, 2072701323, 2072705419, 2072709516, 2072713612, 2072717708, 2072721804,
   2072725900, 2072729996, 2072734092, 2072738188, 2072742284, 2072746380, 2072750476, 2072754572, 2072758668,
   2072762764, 2072766860, 2072770956, 2072775053, 2072779149, 2072783245, 2072787341, 2072791437, 2072795533,
   2072799629, 2072803725, 2072807821, 2072811917, 2072816013, 2072820109, 2072824205, 2072828301, 2072832397,
   2072836493, 2072840590, 2072844686, 2072848782, 2072852878, 2072856974, 2072861070, 2072865166, 2072869262,
   2072873358, 2072877454, 2072881550, 2072885646, 2072889742, 2072893838, 2072897934, 2072902030, 2072906127,
   2072910223, 2072914319, 2072918415, 2072922511, 2072926607, 2072930703, 2072934799, 2072938895, 2072942991,
   2072947087, 2072951183, 2072955279, 2072959375, 2072963471, 2072967567, 2072971664, 2072975760, 2072979856,
   2072983952, 2072988048, 2072992144, 2072996240, 2073000336, 2073004432, 2073008528, 2073012624, 2073016720,
   2073020816, 2073024912, 2073029008, 2073033104, 2073037201, 2073041297, 2073045393, 2073049489, 2073053585,
   2073057681, 2073061777, 2073065873, 2073069969, 2073074065, 2073078161, 2073082257, 2073086353, 2073090449,
   2073094545, 2073098641, 2073102738, 2073106834, 2073110930, 2073115026, 2073119122, 2073123218, 2073127314,
   2073131410, 2073135506, 2073139602, 2073143698, 2073147794, 2073151890, 2073155986, 2073160082, 2073164178,
   2073168275, 2073172371, 2073176467, 2073180563, 2073184659, 2073188755, 2073192851, 2073196947, 2073201043,
   2073205139, 2073209235, 2073213331, 2073217427, 2073221523, 2073225619, 2073229715, 2073233812, 2073237908,
   2073242004, 2073246100, 2073250196, 2073254292, 2073258388, 2073262484, 2073266580, 2073270676, 2073274772,
   2073278868, 2073282964, 2073287060, 2073291156, 2073295252, 2073299349, 2073303445, 2073307541, 2073311637,
   2073315733, 2073319829, 2073323925, 2073328021, 2073332117, 2073336213, 2073340309, 2073344405, 2073348501,
   2073352597, 2073356693, 2073360789, 2073364886, 2073368982, 2073373078, 2073377174, 2073381270, 2073385366,
   2073389462, 2073393558, 2073397654, 2073401750, 2073405846, 2073409942, 2073414038, 2073418134, 2073422230,
   2073426326, 2073430423, 2073434519, 2073438615, 2073442711, 2073446807, 2073450903, 2073454999, 2073459095,
   2073463191, 2073467287, 2073471383, 2073475479, 2073479575, 2073483671, 2073487767, 2073491863, 2073495960,
   2073500056, 2073504152, 2073508248, 2073512344, 2073516440, 2073520536, 2073524632, 2073528728, 2073532824,
   2073536920, 2073541016, 2073545112, 2073549208, 2073553304, 2073557400, 2073561497, 2073565593, 2073569689,
   2073573785, 2073577881, 2073581977, 2073586073, 2073590169, 2073594265, 2073598361, 2073602457, 2073606553,
   2073610649, 2073614745, 2073618841, 2073622937, 2073627034, 2073631130, 2073635226, 2073639322, 2073643418,
   2073647514, 2073651610, 2073655706, 2073659802, 2073663898, 2073667994, 2073672090, 2073676186, 2073680282,
   2073684378, 2073688474, 2073692571, 2073696667, 2073700763, 2073704859, 2073708955, 2073713051, 2073717147,
   2073721243, 2073725339, 2073729435, 2073733531, 2073737627, 2073741723, 2073745819, 2073749915, 2073754011,
   2073758108, 2073762204, 2073766300, 2073770396, 2073774492, 2073778588, 2073782684, 2073786780, 2073790876,
   2073794972, 2073799068, 2073803164, 2073807260, 2073811356, 2073815452, 2073819548, 2073823645, 2073827741,
   2073831837, 2073835933, 2073840029, 2073844125, 2073848221, 2073852317, 2073856413, 2073860509, 2073864605,
   2073868701, 2073872797, 2073876893, 2073880989, 2073885085, 2073889182, 2073893278, 2073897374, 2073901470,
   2073905566, 2073909662, 2073913758, 2073917854, 2073921950, 2073926046, 2073930142, 2073934238, 2073938334,
   2073942430, 2073946526, 2073950622, 2073954719, 2073958815, 2073962911, 2073967007, 2073971103, 2073975199,
   2073979295, 2073983391, 2073987487, 2073991583, 2073995679, 2073999775, 2074003871, 2074007967, 2074012063,
   2074016159, 2074020256, 2074024352, 2074028448, 2074032544, 2074036640, 2074040736, 2074044832, 2074048928,
   2074053024, 2074057120, 2074061216, 2074065312, 2074069408, 2074073504, 2074077600, 2074081696, 2074085793,
   2074089889, 2074093985, 2074098081, 2074102177, 2074106273, 2074110369, 2074114465, 2074118561, 2074122657,
   2074126753, 2074130849, 2074134945, 2074139041, 2074143137, 2074147233, 2074151330, 2074155426, 2074159522,
   2074163618, 2074167714, 2074171810, 2074175906, 2074180002, 2074184098, 2074188194, 2074192290, 2074196386,
   2074200482, 2074204578, 2074208674, 2074212770, 2074216867, 2074220963, 2074225059, 2074229155, 2074233251,
   2074237347, 2074241443, 2074245539, 2074249635, 2074253731, 2074257827, 2074261923, 2074266019, 2074270115,
   2074274211, 2074278307, 2074282404, 2074286500, 2074290596, 2074294692, 2074298788, 2074302884, 2074306980,
   2074311076, 2074315172, 2074319268, 2074323364, 2074327460, 2074331556, 2074335652, 2074339748, 2074343844,
   2074347941, 2074352037, 2074356133, 2074360229, 2074364325, 2074368421, 2074372517, 2074376613, 2074380709,
   2074384805, 2074388901, 2074392997, 2074397093, 2074401189, 2074405285, 2074409381, 2074413478, 2074417574,
   2074421670, 2074425766, 2074429862, 2074433958, 2074438054, 2074442150, 2074446246, 2074450342, 2074454438,
   2074458534, 2074462630, 2074466726, 2074470822, 2074474918, 2074479015, 2074483111, 2074487207, 2074491303,
   2074495399, 2074499495, 2074503591, 2074507687, 2074511783, 2074515879, 2074519975, 2074524071, 2074528167,
   2074532263, 2074536359, 2074540455, 2074544552, 2074548648, 2074552744, 2074556840, 2074560936, 2074565032,
   2074569128, 2074573224, 2074577320, 2074581416, 2074585512, 2074589608, 2074593704, 2074597800, 2074601896,
   2074605992, 2074610089, 2074614185, 2074618281, 2074622377, 2074626473, 2074630569, 2074634665, 2074638761,
   2074642857, 2074646953, 2074651049, 2074655145, 2074659241, 2074663337, 2074667433, 2074671529, 2074675626,
   2074679722, 2074683818, 2074687914, 2074692010, 2074696106, 2074700202, 2074704298, 2074708394, 2074712490,
   2074716586, 2074720682, 2074724778, 2074728874, 2074732970, 2074737066, 2074741163, 2074745259, 2074749355,
   2074753451, 2074757547, 2074761643, 2074765739, 2074769835, 2074773931, 2074778027, 2074782123, 2074786219,
   2074790315, 2074794411, 2074798507, 2074802603, 2074806700, 2074810796, 2074814892, 2074818988, 2074823084,
   2074827180, 2074831276, 2074835372, 2074839468, 2074843564, 2074847660, 2074851756, 2074855852, 2074859948,
   2074864044, 2074868140, 2074872237, 2074876333, 2074880429, 2074884525, 2074888621, 2074892717, 2074896813,
   2074900909, 2074905005, 2074909101, 2074913197, 2074917293, 2074921389, 2074925485, 2074929581, 2074933677,
   2074937774, 2074941870, 2074945966, 2074950062, 2074954158, 2074958254, 2074962350, 2074966446, 2074970542,
   2074974638, 2074978734, 2074982830, 2074986926, 2074991022, 2074995118, 2074999214, 2075003311, 2075007407,
   2075011503, 2075015599, 2075019695, 2075023791, 2075027887, 2075031983, 2075036079, 2075040175, 2075044271,
   2075048367, 2075052463, 2075056559, 2075060655, 2075064751, 2075068848, 2075072944, 2075077040, 2075081136,
   2075085232, 2075089328, 2075093424, 2075097520, 2075101616, 2075105712, 2075109808, 2075113904, 2075118000,
   2075122096, 2075126192, 2075130288, 2075134385, 2075138481, 2075142577, 2075146673, 2075150769, 2075154865,
   2075158961, 2075163057, 2075167153, 2075171249, 2075175345, 2075179441, 2075183537, 2075187633, 2075191729,
   2075195825, 2075199922, 2075204018, 2075208114, 2075212210, 2075216306, 2075220402, 2075224498, 2075228594,
   2075232690, 2075236786, 2075240882, 2075244978, 2075249074, 2075253170, 2075257266, 2075261362, 2075265459,
   2075269555, 2075273651, 2075277747, 2075281843, 2075285939, 2075290035, 2075294131, 2075298227, 2075302323,
   2075306419, 2075310515, 2075314611, 2075318707, 2075322803, 2075326899, 2075330996, 2075335092, 2075339188,
   2075343284, 2075347380, 2075351476, 2075355572, 2075359668, 2075363764, 2075367860, 2075371956, 2075376052,
   2075380148, 2075384244, 2075388340, 2075392436, 2075396533, 2075400629, 2075404725, 2075408821, 2075412917,
   2075417013, 2075421109, 2075425205, 2075429301, 2075433397, 2075437493, 2075441589, 2075445685, 2075449781,
   2075453877, 2075457973, 2075462070, 2075466166, 2075470262, 2075474358, 2075478454, 2075482550, 2075486646,
   2075490742, 2075494838, 2075498934, 2075503030, 2075507126, 2075511222, 2075515318, 2075519414, 2075523510,
   2075527607, 2075531703, 2075535799, 2075539895, 2075543991, 2075548087, 2075552183, 2075556279, 2075560375,
   2075564471, 2075568567, 2075572663, 2075576759, 2075580855, 2075584951, 2075589047, 2075593144, 2075597240,
   2075601336, 2075605432, 2075609528, 2075613624, 2075617720, 2075621816, 2075625912, 2075630008, 2075634104,
   2075638200, 2075642296, 2075646392, 2075650488, 2075654584, 2075658681, 2075662777, 2075666873, 2075670969,
   2075675065, 2075679161, 2075683257, 2075687353, 2075691449, 2075695545, 2075699641, 2075703737, 2075707833,
   2075711929, 2075716025, 2075720121, 2075724218, 2075728314, 2075732410, 2075736506, 2075740602, 2075744698,
   2075748794, 2075752890, 2075756986, 2075761082, 2075765178, 2075769274, 2075773370, 2075777466, 2075781562,
   2075785658, 2075789755, 2075793851, 2075797947, 2075802043, 2075806139, 2075810235, 2075814331, 2075818427,
   2075822523, 2075826619, 2075830715, 2075834811, 2075838907, 2075843003, 2075847099, 2075851195, 2075855292,
   2075859388, 2075863484, 2075867580, 2075871676, 2075875772, 2075879868, 2075883964, 2075888060, 2075892156,
   2075896252, 2075900348, 2075904444, 2075908540, 2075912636, 2075916732, 2075920829, 2075924925, 2075929021,
   2075933117, 2075937213, 2075941309, 2075945405, 2075949501, 2075953597, 2075957693, 2075961789, 2075965885,
   2075969981, 2075974077, 2075978173, 2075982269, 2075986366, 2075990462, 2075994558, 2075998654, 2076002750,
   2076006846, 2076010942, 2076015038, 2076019134, 2076023230, 2076027326, 2076031422, 2076035518, 2076039614,
   2076043710, 2076047806, 2076051903, 2076055999, 2076060095, 2076064191, 2076068287, 2076072383, 2076076479,
   2076080575, 2076084671, 2076088767, 2076092863, 2076096959, 2076101055, 2076105151, 2076109247, 2076113343,
   2076117440, 2076121536, 2076125632, 2076129728, 2076133824, 2076137920, 2076142016, 2076146112, 2076150208,
   2076154304, 2076158400, 2076162496, 2076166592, 2076170688, 2076174784, 2076178880, 2076182977, 2076187073,
   2076191169, 2076195265, 2076199361, 2076203457, 2076207553, 2076211649, 2076215745, 2076219841, 2076223937,
   2076228033, 2076232129, 2076236225, 2076240321, 2076244417, 2076248514, 2076252610, 2076256706, 2076260802,
   2076264898, 2076268994, 2076273090, 2076277186, 2076281282, 2076285378, 2076289474, 2076293570, 2076297666,
   2076301762, 2076305858, 2076309954, 2076314051, 2076318147, 2076322243, 2076326339, 2076330435, 2076334531,
   2076338627, 2076342723, 2076346819, 2076350915, 2076355011, 2076359107, 2076363203, 2076367299, 2076371395,
   2076375491, 2076379588, 2076383684, 2076387780, 2076391876, 2076395972, 2076400068, 2076404164, 2076408260,
   2076412356, 2076416452, 2076420548, 2076424644, 2076428740, 2076432836, 2076436932, 2076441028, 2076445125,
   2076449221, 2076453317, 2076457413, 2076461509, 2076465605, 2076469701, 2076473797, 2076477893, 2076481989,
   2076486085, 2076490181, 2076494277, 2076498373, 2076502469, 2076506565, 2076510662, 2076514758, 2076518854,
   2076522950, 2076527046, 2076531142, 2076535238, 2076539334, 2076543430, 2076547526, 2076551622, 2076555718,
   2076559814, 2076563910, 2076568006, 2076572102, 2076576199, 2076580295, 2076584391, 2076588487, 2076592583,
   2076596679, 2076600775, 2076604871, 2076608967, 2076613063, 2076617159, 2076621255, 2076625351, 2076629447,
   2076633543, 2076637639, 2076641736, 2076645832, 2076649928, 2076654024, 2076658120, 2076662216, 2076666312,
   2076670408, 2076674504, 2076678600, 2076682696, 2076686792, 2076690888, 2076694984, 2076699080, 2076703176,
   2076707273, 2076711369, 2076715465, 2076719561, 2076723657, 2076727753, 2076731849, 2076735945, 2076740041,
   2076744137, 2076748233, 2076752329, 2076756425, 2076760521, 2076764617, 2076768713, 2076772810, 2076776906,
   2076781002, 2076785098, 2076789194, 2076793290, 2076797386, 2076801482, 2076805578, 2076809674, 2076813770,
   2076817866, 2076821962, 2076826058, 2076830154, 2076834250, 2076838347, 2076842443, 2076846539, 2076850635,
   2076854731, 2076858827, 2076862923, 2076867019, 2076871115, 2076875211, 2076879307, 2076883403, 2076887499,
   2076891595, 2076895691, 2076899787, 2076903884, 2076907980, 2076912076, 2076916172, 2076920268, 2076924364,
   2076928460, 2076932556, 2076936652, 2076940748, 2076944844, 2076948940, 2076953036, 2076957132, 2076961228,
   2076965324, 2076969421, 2076973517, 2076977613, 2076981709, 2076985805, 2076989901, 2076993997, 2076998093,
   2077002189, 2077006285, 2077010381, 2077014477, 2077018573, 2077022669, 2077026765, 2077030861, 2077034958,
   2077039054, 2077043150, 2077047246, 2077051342, 2077055438, 2077059534, 2077063630, 2077067726, 2077071822,
   2077075918, 2077080014, 2077084110, 2077088206, 2077092302, 2077096398, 2077100495, 2077104591, 2077108687,
   2077112783, 2077116879, 2077120975, 2077125071, 2077129167, 2077133263, 2077137359, 2077141455, 2077145551,
   2077149647, 2077153743, 2077157839, 2077161935, 2077166032, 2077170128, 2077174224, 2077178320, 2077182416,
   2077186512, 2077190608, 2077194704, 2077198800, 2077202896, 2077206992, 2077211088, 2077215184, 2077219280,
   2077223376, 2077227472, 2077231569, 2077235665, 2077239761, 2077243857, 2077247953, 2077252049, 2077256145,
   2077260241, 2077264337, 2077268433, 2077272529, 2077276625, 2077280721, 2077284817, 2077288913, 2077293009,
   2077297106, 2077301202, 2077305298, 2077309394, 2077313490, 2077317586, 2077321682, 2077325778, 2077329874,
   2077333970, 2077338066, 2077342162, 2077346258, 2077350354, 2077354450, 2077358546, 2077362643, 2077366739,
   2077370835, 2077374931, 2077379027, 2077383123, 2077387219, 2077391315, 2077395411, 2077399507, 2077403603,
   2077407699, 2077411795, 2077415891, 2077419987, 2077424083, 2077428180, 2077432276, 2077436372, 2077440468,
   2077444564, 2077448660, 2077452756, 2077456852, 2077460948, 2077465044, 2077469140, 2077473236, 2077477332,
   2077481428, 2077485524, 2077489620, 2077493717, 2077497813, 2077501909, 2077506005, 2077510101, 2077514197,
   2077518293, 2077522389, 2077526485, 2077530581, 2077534677, 2077538773, 2077542869, 2077546965, 2077551061,
   2077555157, 2077559254, 2077563350, 2077567446, 2077571542, 2077575638, 2077579734, 2077583830, 2077587926,
   2077592022, 2077596118, 2077600214, 2077604310, 2077608406, 2077612502, 2077616598, 2077620694, 2077624791,
   2077628887, 2077632983, 2077637079, 2077641175, 2077645271, 2077649367, 2077653463, 2077657559, 2077661655,
   2077665751, 2077669847, 2077673943, 2077678039, 2077682135, 2077686231, 2077690328, 2077694424, 2077698520,
   2077702616, 2077706712, 2077710808, 2077714904, 2077719000, 2077723096, 2077727192, 2077731288, 2077735384,
   2077739480, 2077743576, 2077747672, 2077751768, 2077755865, 2077759961, 2077764057, 2077768153, 2077772249,
   2077776345, 2077780441, 2077784537, 2077788633, 2077792729, 2077796825, 2077800921, 2077805017, 2077809113,
   2077813209, 2077817305, 2077821402, 2077825498, 2077829594, 2077833690, 2077837786, 2077841882, 2077845978,
   2077850074, 2077854170, 2077858266, 2077862362, 2077866458, 2077870554, 2077874650, 2077878746, 2077882842,
   2077886939, 2077891035, 2077895131, 2077899227, 2077903323, 2077907419, 2077911515, 2077915611, 2077919707,
   2077923803, 2077927899, 2077931995, 2077936091, 2077940187, 2077944283, 2077948379, 2077952476, 2077956572,
   2077960668, 2077964764, 2077968860, 2077972956, 2077977052, 2077981148, 2077985244, 2077989340, 2077993436,
   2077997532, 2078001628, 2078005724, 2078009820, 2078013916, 2078018013, 2078022109, 2078026205, 2078030301,
   2078034397, 2078038493, 2078042589, 2078046685, 2078050781, 2078054877, 2078058973, 2078063069, 2078067165,
   2078071261, 2078075357, 2078079453, 2078083550, 2078087646, 2078091742, 2078095838, 2078099934, 2078104030,
   2078108126, 2078112222, 2078116318, 2078120414, 2078124510, 2078128606, 2078132702, 2078136798, 2078140894,
   2078144990, 2078149087, 2078153183, 2078157279, 2078161375, 2078165471, 2078169567, 2078173663, 2078177759,
   2078181855, 2078185951, 2078190047, 2078194143, 2078198239, 2078202335, 2078206431, 2078210527, 2078214624,
   2078218720, 2078222816, 2078226912, 2078231008, 2078235104, 2078239200, 2078243296, 2078247392, 2078251488,
   2078255584, 2078259680, 2078263776, 2078267872, 2078271968, 2078276064, 2078280161, 2078284257, 2078288353,
   2078292449, 2078296545, 2078300641, 2078304737, 2078308833, 2078312929, 2078317025, 2078321121, 2078325217,
   2078329313, 2078333409, 2078337505, 2078341601, 2078345698, 2078349794, 2078353890, 2078357986, 2078362082,
   2078366178, 2078370274, 2078374370, 2078378466, 2078382562, 2078386658, 2078390754, 2078394850, 2078398946,
   2078403042, 2078407138, 2078411235, 2078415331, 2078419427, 2078423523, 2078427619, 2078431715, 2078435811,
   2078439907, 2078444003, 2078448099, 2078452195, 2078456291, 2078460387, 2078464483, 2078468579, 2078472675,
   2078476772, 2078480868, 2078484964, 2078489060, 2078493156, 2078497252, 2078501348, 2078505444, 2078509540,
   2078513636, 2078517732, 2078521828, 2078525924, 2078530020, 2078534116, 2078538212, 2078542309, 2078546405,
   2078550501, 2078554597, 2078558693, 2078562789, 2078566885, 2078570981, 2078575077, 2078579173, 2078583269,
   2078587365, 2078591461, 2078595557, 2078599653, 2078603749, 2078607846, 2078611942, 2078616038, 2078620134,
   2078624230, 2078628326, 2078632422, 2078636518, 2078640614, 2078644710, 2078648806, 2078652902, 2078656998,
   2078661094, 2078665190, 2078669286, 2078673383, 2078677479, 2078681575, 2078685671, 2078689767, 2078693863,
   2078697959, 2078702055, 2078706151, 2078710247, 2078714343, 2078718439, 2078722535, 2078726631, 2078730727,
   2078734823, 2078738920, 2078743016, 2078747112, 2078751208, 2078755304, 2078759400, 2078763496, 2078767592,
   2078771688, 2078775784, 2078779880, 2078783976, 2078788072, 2078792168, 2078796264, 2078800360, 2078804457,
   2078808553, 2078812649, 2078816745, 2078820841, 2078824937, 2078829033, 2078833129, 2078837225, 2078841321,
   2078845417, 2078849513, 2078853609, 2078857705, 2078861801, 2078865897, 2078869994, 2078874090, 2078878186,
   2078882282, 2078886378, 2078890474, 2078894570, 2078898666, 2078902762, 2078906858, 2078910954, 2078915050,
   2078919146, 2078923242, 2078927338, 2078931434, 2078935531, 2078939627, 2078943723, 2078947819, 2078951915,
   2078956011, 2078960107, 2078964203, 2078968299, 2078972395, 2078976491, 2078980587, 2078984683, 2078988779,
   2078992875, 2078996971, 2079001068, 2079005164, 2079009260, 2079013356, 2079017452, 2079021548, 2079025644,
   2079029740, 2079033836, 2079037932, 2079042028, 2079046124, 2079050220, 2079054316, 2079058412, 2079062508,
   2079066605, 2079070701, 2079074797, 2079078893, 2079082989, 2079087085, 2079091181, 2079095277, 2079099373,
   2079103469, 2079107565, 2079111661, 2079115757, 2079119853, 2079123949, 2079128045, 2079132142, 2079136238,
   2079140334, 2079144430, 2079148526, 2079152622, 2079156718, 2079160814, 2079164910, 2079169006, 2079173102,
   2079177198, 2079181294, 2079185390, 2079189486, 2079193582, 2079197679, 2079201775, 2079205871, 2079209967,
   2079214063, 2079218159, 2079222255, 2079226351, 2079230447, 2079234543, 2079238639, 2079242735, 2079246831,
   2079250927, 2079255023, 2079259119, 2079263216, 2079267312, 2079271408, 2079275504, 2079279600, 2079283696,
   2079287792, 2079291888, 2079295984, 2079300080, 2079304176, 2079308272, 2079312368, 2079316464, 2079320560,
   2079324656, 2079328753, 2079332849, 2079336945, 2079341041, 2079345137, 2079349233, 2079353329, 2079357425,
   2079361521, 2079365617, 2079369713, 2079373809, 2079377905, 2079382001, 2079386097, 2079390193, 2079394290,
   2079398386, 2079402482, 2079406578, 2079410674, 2079414770, 2079418866, 2079422962, 2079427058, 2079431154,
   2079435250, 2079439346, 2079443442, 2079447538, 2079451634, 2079455730, 2079459827, 2079463923, 2079468019,
   2079472115, 2079476211, 2079480307, 2079484403, 2079488499, 2079492595, 2079496691, 2079500787, 2079504883,
   2079508979, 2079513075, 2079517171, 2079521267, 2079525364, 2079529460, 2079533556, 2079537652, 2079541748,
   2079545844, 2079549940, 2079554036, 2079558132, 2079562228, 2079566324, 2079570420, 2079574516, 2079578612,
   2079582708, 2079586804, 2079590901, 2079594997, 2079599093, 2079603189, 2079607285, 2079611381, 2079615477,
   2079619573, 2079623669, 2079627765, 2079631861, 2079635957, 2079640053, 2079644149, 2079648245, 2079652341,
   2079656438, 2079660534, 2079664630, 2079668726, 2079672822, 2079676918, 2079681014, 2079685110, 2079689206,
   2079693302, 2079697398, 2079701494, 2079705590, 2079709686, 2079713782, 2079717878, 2079721975, 2079726071,
   2079730167, 2079734263, 2079738359, 2079742455, 2079746551, 2079750647, 2079754743, 2079758839, 2079762935,
   2079767031, 2079771127, 2079775223, 2079779319, 2079783415, 2079787512, 2079791608, 2079795704, 2079799800,
   2079803896, 2079807992, 2079812088, 2079816184, 2079820280, 2079824376, 2079828472, 2079832568, 2079836664,
   2079840760, 2079844856, 2079848952, 2079853049, 2079857145, 2079861241, 2079865337, 2079869433, 2079873529,
   2079877625, 2079881721, 2079885817, 2079889913, 2079894009, 2079898105, 2079902201, 2079906297, 2079910393,
   2079914489, 2079918586, 2079922682, 2079926778, 2079930874, 2079934970, 2079939066, 2079943162, 2079947258,
   2079951354, 2079955450, 2079959546, 2079963642, 2079967738, 2079971834, 2079975930, 2079980026, 2079984123,
   2079988219, 2079992315, 2079996411, 2080000507, 2080004603, 2080008699, 2080012795, 2080016891, 2080020987,
   2080025083, 2080029179, 2080033275, 2080037371, 2080041467, 2080045563, 2080049660, 2080053756, 2080057852,
   2080061948, 2080066044, 2080070140, 2080074236, 2080078332, 2080082428, 2080086524, 2080090620, 2080094716,
   2080098812, 2080102908, 2080107004, 2080111100, 2080115197, 2080119293, 2080123389, 2080127485, 2080131581,
   2080135677, 2080139773, 2080143869, 2080147965, 2080152061, 2080156157, 2080160253, 2080164349, 2080168445,
   2080172541, 2080176637, 2080180734, 2080184830, 2080188926, 2080193022, 2080197118, 2080201214, 2080205310,
   2080209406, 2080213502, 2080217598, 2080221694, 2080225790, 2080229886, 2080233982, 2080238078, 2080242174,
   2080246271, 2080250367, 2080254463, 2080258559, 2080262655, 2080266751, 2080270847, 2080274943, 2080279039,
   2080283135, 2080287231, 2080291327, 2080295423, 2080299519, 2080303615, 2080307711, 2080311808, 2080315904,
   2080320000, 2080324096, 2080328192, 2080332288, 2080336384, 2080340480, 2080344576, 2080348672, 2080352768,
   2080356864, 2080360960, 2080365056, 2080369152, 2080373248]
theorem c3_ok :
    chkList (pipeF 1199570688 65535) 65535 2139095040 6145 1035992256 3072 c3
      8193 1040186624 4096 = true := by decide +kernel
theorem c3_len : 6145 + c3.length = 8193 := (chkList_end c3_ok).1
theorem c3_last : lastS 1035992256 c3 = 1040186624 := (chkList_end c3_ok).2.1

end Dds.F32Thr.FpN16
