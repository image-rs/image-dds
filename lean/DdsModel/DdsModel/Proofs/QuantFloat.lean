/-
Nearest-binary32 (`f32Bits`) keeps every value `N / D` of a format with fewer than `2^23` steps: the value lies in a
binade `[2^-j, 2^(1-j))` (`floorLog2_le_one`), the mantissa is the nearest integer of `N/D · 2^(j+23)`
(`roundTieNat_near`), so the stored pattern is a fraction `n / 2^(j+23)` at distance at most `2^-(j+24)` from `N / D`,
less than half a step of the format.
-/
import DdsModel.Proofs.Quant
namespace Dds.Quant

theorem floorLog2_le_one {a b : Nat} (ha : 0 < a) (hab : a ≤ b) :
    ∃ j : Nat, floorLog2 a b = -(j : Int) ∧ b ≤ a * 2 ^ j ∧ a * 2 ^ j < 2 * b := by
  unfold floorLog2
  by_cases h : b ≤ a
  · have : a = b := Nat.le_antisymm hab h
    subst this
    refine ⟨0, ?_, by omega, by omega⟩
    rw [if_pos h, Nat.div_self ha]; rfl
  · rw [if_neg h]
    have h0 : b / a ≠ 0 := Nat.ne_of_gt (Nat.div_pos hab ha)
    have h1 : (2 ^ (b / a).log2) * a ≤ b := (Nat.le_div_iff_mul_le ha).mp (Nat.log2_self_le h0)
    have h2 : b < 2 ^ ((b / a).log2 + 1) * a := (Nat.div_lt_iff_lt_mul ha).mp Nat.lt_log2_self
    generalize (b / a).log2 = k at *
    have e : a * 2 ^ (k + 1) = 2 * (a * 2 ^ k) := by rw [Nat.pow_succ, ← Nat.mul_assoc, Nat.mul_comm]
    rw [Nat.mul_comm] at h1 h2
    dsimp only
    by_cases h3 : b ≤ a * 2 ^ k
    · exact ⟨k, by rw [if_pos h3], h3, by omega⟩
    · exact ⟨k + 1, by rw [if_neg h3]; omega, by omega, by omega⟩

theorem roundTieNat_near (even : Bool) (n d : Nat) (hd : 0 < d) :
    2 * (roundTieNat even n d * d) ≤ 2 * n + d ∧ 2 * n ≤ 2 * (roundTieNat even n d * d) + d := by
  have h1 := Nat.div_add_mod' n d
  have h2 := Nat.mod_lt n hd
  have e : (n / d + 1) * d = n / d * d + d := Nat.succ_mul _ _
  unfold roundTieNat
  dsimp only
  split
  · omega
  · split
    · rw [e]; omega
    · split
      · split
        · omega
        · rw [e]; omega
      · rw [e]; omega

/-- `f32Bits` of the positive ratio `a / b` -/
def f32OfRatio (a b : Nat) : Nat :=
  let e := max (floorLog2 a b) (-126)
  let m := roundScaled true a b (e - 23)
  min ((e + 126).toNat * 2 ^ 23 + m) (255 * 2 ^ 23)

theorem f32OfRatio_spec {a b : Nat} (ha : 0 < a) (hab : a ≤ b) (hb : b < 2 ^ 23) :
    ∃ T, 2 ^ 23 ≤ T ∧ f32Den (f32OfRatio a b) = T ∧ f32Num (f32OfRatio a b) ≤ T ∧
      2 * (f32Num (f32OfRatio a b) * b) ≤ 2 * (a * T) + b ∧ 2 * (a * T) ≤ 2 * (f32Num (f32OfRatio a b) * b) + b := by
  obtain ⟨j, hj, h1, h2⟩ := floorLog2_le_one ha hab
  have hj24 : j < 24 := by
    have : 2 ^ j < 2 ^ 24 := by
      have := Nat.mul_le_mul_right (2 ^ j) ha
      omega
    exact (Nat.pow_lt_pow_iff_right (by omega)).mp this
  have hT : a * 2 ^ (j + 23) = 2 ^ 23 * (a * 2 ^ j) := by rw [Nat.pow_add, ← Nat.mul_assoc, Nat.mul_comm]
  have near := roundTieNat_near true (a * 2 ^ (j + 23)) b (by omega)
  generalize hm : roundTieNat true (a * 2 ^ (j + 23)) b = m at near
  rw [hT] at near
  -- with `u = a·2^j ∈ [b, 2b)`, `m` is the nearest integer of `u·2^23 / b`: at least `2^23`, below `2^24` (it cannot
  -- round up to `2^24` because `u ≤ 2b − 1` and `b < 2^23`), and at most `2^(j+23)` because `a ≤ b`
  have m1 : 2 ^ 23 ≤ m := by
    apply Nat.le_of_not_lt
    intro h
    have := Nat.mul_le_mul_right b (Nat.le_of_lt_succ h)
    omega
  have m2 : m < 2 ^ 24 := by
    apply Nat.lt_of_not_le
    intro h
    have := Nat.mul_le_mul_right b h
    omega
  have m3 : m ≤ 2 ^ (j + 23) := by
    apply Nat.le_of_not_lt
    intro h
    have h3 := Nat.mul_le_mul_right b h
    have h4 := Nat.mul_le_mul_right (2 ^ j) hab
    rw [Nat.succ_mul, Nat.pow_add, Nat.mul_comm (2 ^ j) (2 ^ 23), Nat.mul_assoc, Nat.mul_comm (2 ^ j) b] at h3
    omega
  -- hence the pattern has exponent field `127 − j` and mantissa field `m − 2^23`, and reads back as `m / 2^(j+23)`
  have hbits : f32OfRatio a b = (126 - j) * 2 ^ 23 + m := by
    have e1 : max (-(j : Int)) (-126) = -(j : Int) := by omega
    have e2 : ¬ (0 : Int) ≤ -(j : Int) - 23 := by omega
    have e3 : (-(-(j : Int) - 23)).toNat = j + 23 := by omega
    have e4 : (-(j : Int) + 126).toNat = 126 - j := by omega
    unfold f32OfRatio roundScaled
    dsimp only
    rw [hj, e1, if_neg e2, e3, e4, hm]
    exact Nat.min_eq_left (by omega)
  have a1 : ((126 - j) * 2 ^ 23 + m) / 2 ^ 23 % 256 = 127 - j := by omega
  have hnum : f32Num ((126 - j) * 2 ^ 23 + m) = m := by
    have a2 : ((126 - j) * 2 ^ 23 + m) % 2 ^ 23 = m - 2 ^ 23 := by omega
    have a3 : 127 - j - 150 = 0 := by omega
    unfold f32Num
    dsimp only
    rw [a1, a2, if_neg (by omega), a3]
    omega
  have hden : f32Den ((126 - j) * 2 ^ 23 + m) = 2 ^ (j + 23) := by
    have a3 : 150 - (127 - j) = j + 23 := by omega
    unfold f32Den
    dsimp only
    rw [a1, if_neg (by omega), a3]
  rw [← hT] at near
  rw [hbits, hnum, hden]
  have : 2 ^ 23 ≤ 2 ^ (j + 23) := Nat.pow_le_pow_right (by omega) (by omega)
  exact ⟨2 ^ (j + 23), this, rfl, m3, near.1, near.2⟩

/-- a value `N / D` of a format with fewer than `2^23` steps survives nearest-binary32: the stored pattern is a
fraction `n / T` with `T > D` a power of two and `|n·D − N·T| ≤ D/2`, which the quantiser takes back to `N` -/
theorem f32Bits_roundtrip {N D : Nat} (hN : 0 < N) (hND : N ≤ D) (hD : D < 2 ^ 23) :
    f32Num (f32Bits ((N : Rat) / (D : Rat))) ≤ f32Den (f32Bits ((N : Rat) / (D : Rat))) ∧
    0 < f32Den (f32Bits ((N : Rat) / (D : Rat))) ∧
    qRatio D (f32Num (f32Bits ((N : Rat) / (D : Rat)))) (f32Den (f32Bits ((N : Rat) / (D : Rat)))) = N := by
  have hD0 : 0 < D := by omega
  -- lowest terms `a / b`, with `N = a g`, `D = b g`
  have hg : 0 < D.gcd N := Nat.gcd_pos_of_pos_left _ hD0
  have eN := Nat.div_mul_cancel (Nat.gcd_dvd_right D N)
  have eD := Nat.div_mul_cancel (Nat.gcd_dvd_left D N)
  have hx : ¬ (N : Rat) / (D : Rat) ≤ 0 := by
    rw [Rat.not_le, Rat.div_def]
    exact Rat.mul_pos (Rat.natCast_pos.mpr hN) (Rat.inv_pos.mpr (Rat.natCast_pos.mpr hD0))
  have e : (N : Rat) / (D : Rat) = mkRat N D := by rw [Rat.mkRat_eq_div]; rfl
  have hbits : f32Bits ((N : Rat) / (D : Rat)) = f32OfRatio (N / D.gcd N) (D / D.gcd N) := by
    unfold f32Bits f32OfRatio
    rw [if_neg hx, e, Rat.num_mkRat, Rat.den_mkRat, if_neg (by omega), if_neg (by omega), Int.natAbs_natCast,
      ← Int.natCast_ediv, Int.toNat_natCast]
  rw [hbits]
  generalize D.gcd N = g at *
  generalize N / g = a at *
  generalize D / g = b at *
  have ha : 0 < a := Nat.pos_of_mul_pos_right (eN ▸ hN)
  have hab : a ≤ b := Nat.le_of_mul_le_mul_right (eN ▸ eD ▸ hND) hg
  have hb : b < 2 ^ 23 := Nat.lt_of_le_of_lt (Nat.le_mul_of_pos_right b hg) (eD ▸ hD)
  obtain ⟨T, hT, hden, hle, n1, n2⟩ := f32OfRatio_spec ha hab hb
  rw [hden]
  generalize f32Num (f32OfRatio a b) = m at *
  refine ⟨hle, by omega, ?_⟩
  subst eN eD
  have k1 := Nat.mul_le_mul_right g n1
  have k2 := Nat.mul_le_mul_right g n2
  rw [Nat.add_mul, Nat.mul_assoc 2, Nat.mul_assoc 2] at k1 k2
  have e1 : a * g * (2 * T) = 2 * (a * T * g) := by ac_rfl
  have e2 : 2 * m * (b * g) = 2 * (m * b * g) := by ac_rfl
  unfold qRatio
  -- `2·|m·D − N·T| ≤ D < T` puts `(2·m·D + T) / 2T` at `N`
  apply div_eq_of_bounds
  all_goals rw [e1, e2]
  all_goals omega

/-- the same on the quantiser: `0 / D` is stored as `+0` -/
theorem f32_roundtrip {N D : Nat} (hND : N ≤ D) (hD : D < 2 ^ 23) :
    qL D (f32Val (f32Bits ((N : Rat) / (D : Rat)))) = N := by
  unfold f32Val
  by_cases hN : N = 0
  · subst hN
    have h0 : ((0 : Nat) : Rat) / (D : Rat) = 0 := by rw [Rat.div_def]; exact Rat.zero_mul _
    have hn : f32Num 0 = 0 := by decide
    have hd : f32Den 0 = 2 ^ 149 := by decide
    unfold f32Bits
    rw [h0, if_pos Rat.le_refl, qL_ratio _ _ _ (by decide) (by decide), hn, hd]
    exact Nat.div_eq_of_lt (by omega)
  · obtain ⟨a, b, c⟩ := f32Bits_roundtrip (Nat.pos_of_ne_zero hN) hND hD
    rw [qL_ratio _ _ _ b a]
    exact c

end Dds.Quant
