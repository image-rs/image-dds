/-
C16 / C15 (mipmap-generating encoder): the trapping mirrors of `TrapMip.lean` return `some`.
Part 1: `get_aligned_slice`, `AlignedView`, `AlignedBuffer`, `resize_into` / `resize_typed` (the `resize` crate's
preconditions), `Aligner::align`.
-/
import DdsModel.TrapMip
import DdsModel.Proofs.TrapEnc
namespace Dds.TrapMip
open Dds Dds.Trap Dds.TrapEnc

/-- the largest pixel buffer the theorems cover: `2^62 − 16` bytes.  (Beyond it `Vec`'s amortised doubling — or, within
3 bytes of `isize::MAX`, the rounding up to whole `u32`s — can itself exceed `isize::MAX` bytes: "capacity overflow".
No 64-bit machine can hold such an input: 4 EiB.) -/
def BMAX : Nat := 4611686018427387888

/-- what is assumed of the allocator: `Vec<u32>` storage is 4-aligned -/
def AlOK (al : Alloc) : Prop := ∀ b n, al b n % 4 = 0

/-- state of a `Vec<u32>` in a history whose requests are all at most `BMAX` bytes -/
structure VecOK (b : VecBuf) : Prop where
  addr : b.addr % 4 = 0
  len : b.len ≤ b.cap
  cap : b.cap ≤ 2305843009213693948

theorem VecOK.empty : VecOK VecBuf.empty := ⟨rfl, Nat.le_refl _, by decide⟩

theorem bufferSizeT_eq {w h : Nat} {c : Color} (hc : c.OK) (hb : w * h * c.bpp ≤ BMAX) :
    bufferSizeT w h c = some (w * h * c.bpp) := by
  have hp := Color.bpp_pos hc
  have : w * h * 1 ≤ w * h * c.bpp := Nat.mul_le_mul_left _ hp.1
  unfold BMAX at hb
  unfold bufferSizeT
  rw [mulU_of_lt (by omega), bind_some', mulU_of_lt (by omega), bind_some', if_pos (by omega)]

theorem vecResizeT_ok {al : Alloc} (ha : AlOK al) {b : VecBuf} (hv : VecOK b) {n : Nat}
    (hn : n ≤ 1152921504606846972) :
    ∃ b', vecResizeT al b n = some b' ∧ VecOK b' ∧ b'.len = n := by
  unfold vecResizeT
  by_cases h : n ≤ b.cap
  · rw [if_pos h]; exact ⟨_, rfl, ⟨hv.addr, h, hv.cap⟩, rfl⟩
  · rw [if_neg h]
    have h1 : max (max (2 * b.cap) n) 4 ≤ 2305843009213693944 := by omega
    dsimp only
    rw [allocT_of_le (by omega), bind_some', pure_some']
    exact ⟨_, rfl, ⟨ha _ _, by show n ≤ max (max (2 * b.cap) n) 4; omega,
      by show max (max (2 * b.cap) n) 4 ≤ _; omega⟩, rfl⟩

theorem divCeil4 (s : Nat) : s ≤ divCeil s 4 * 4 ∧ divCeil s 4 * 4 < s + 4 := by
  unfold divCeil; split <;> omega

/-- `get_aligned_slice`: for ANY previous buffer state the slice has exactly the requested length, starts at the
(4-aligned) start of the buffer, and the buffer stays well-formed -/
theorem getAlignedSliceT_ok {al : Alloc} (ha : AlOK al) {b : VecBuf} (hv : VecOK b) {w h : Nat} {c : Color}
    (hc : c.OK) (hb : w * h * c.bpp ≤ BMAX) :
    ∃ b', getAlignedSliceT al b w h c = some (b', ⟨b'.addr, w * h * c.bpp⟩) ∧ VecOK b' ∧
      w * h * c.bpp ≤ b'.len * 4 ∧ (b.len * 4 < w * h * c.bpp ∨ b' = b) := by
  unfold getAlignedSliceT
  rw [bufferSizeT_eq hc hb, bind_some', divCeilU_of_ne (by omega), bind_some']
  unfold BMAX at hb
  generalize w * h * c.bpp = s at hb ⊢
  have hd := divCeil4 s
  by_cases hlt : b.len < divCeil s 4
  · rw [if_pos hlt]
    obtain ⟨b', e1, e2, e3⟩ := vecResizeT_ok ha hv (n := divCeil s 4) (by omega)
    rw [e1, bind_some']
    dsimp only
    rw [sliceTo_of_le (by rw [e3]; omega), bind_some', pure_some']
    exact ⟨b', rfl, e2, by rw [e3]; omega, Or.inl (by omega)⟩
  · rw [if_neg hlt, pure_some', bind_some']
    dsimp only
    rw [sliceTo_of_le (by omega), bind_some', pure_some']
    exact ⟨b, rfl, hv, by omega, Or.inr rfl⟩

/-! ## aligned views and buffers -/

structure AViewOK (a : AView) : Prop where
  col : a.c.OK
  w1 : 1 ≤ a.w
  h1 : 1 ≤ a.h
  bytes : a.w * a.h * a.c.bpp ≤ BMAX
  aligned : a.sl.addr % a.c.psize = 0
  len : a.sl.len = a.w * a.h * a.c.bpp

structure ABufOK (b : ABuf) : Prop where
  col : b.c.OK
  w1 : 1 ≤ b.w
  h1 : 1 ≤ b.h
  bytes : b.w * b.h * b.c.bpp ≤ BMAX
  aligned : b.buf.addr % 4 = 0
  len : b.w * b.h * b.c.bpp ≤ b.buf.len * 4

theorem psize_dvd4 {c : Color} (hc : c.OK) {a : Nat} (h : a % 4 = 0) : a % c.psize = 0 := by
  rcases hc with h1 | h1 | h1 <;> rw [h1] <;> omega

theorem psize_ne {c : Color} (hc : c.OK) : c.psize ≠ 0 := by
  rcases hc with h1 | h1 | h1 <;> omega

theorem isAlignedT_eq {c : Color} (hc : c.OK) (s : Sl) : isAlignedT s c.psize = some (decide (s.addr % c.psize = 0)) := by
  unfold isAlignedT
  rw [remU_of_ne (psize_ne hc), bind_some', pure_some']

theorem alignedViewNewT_ok {s : Sl} {w h : Nat} {c : Color} (hc : c.OK) (hw : 1 ≤ w) (hh : 1 ≤ h)
    (hb : w * h * c.bpp ≤ BMAX) (hl : s.len = w * h * c.bpp) (ha : s.addr % c.psize = 0) :
    alignedViewNewT s w h c = some ⟨s, w, h, c⟩ ∧ AViewOK ⟨s, w, h, c⟩ := by
  refine ⟨?_, ⟨hc, hw, hh, hb, ha, hl⟩⟩
  unfold alignedViewNewT
  rw [bufferSizeT_eq hc hb, bind_some', dbgP_of hl, bind_some', isAlignedT_eq hc, bind_some',
    dbgP_of (decide_eq_true ha), bind_some', pure_some']

/-- `get_aligned_slice` followed by `AlignedView::new` on the slice it returned -/
theorem alignedSlice_view {al : Alloc} (ha : AlOK al) {b : VecBuf} (hv : VecOK b) {w h : Nat} {c : Color}
    (hc : c.OK) (hw : 1 ≤ w) (hh : 1 ≤ h) (hb : w * h * c.bpp ≤ BMAX) :
    ∃ b', getAlignedSliceT al b w h c = some (b', ⟨b'.addr, w * h * c.bpp⟩) ∧ VecOK b' ∧
      alignedViewNewT ⟨b'.addr, w * h * c.bpp⟩ w h c = some ⟨⟨b'.addr, w * h * c.bpp⟩, w, h, c⟩ ∧
      AViewOK ⟨⟨b'.addr, w * h * c.bpp⟩, w, h, c⟩ := by
  obtain ⟨b', g1, g2, _⟩ := getAlignedSliceT_ok ha hv hc hb
  obtain ⟨f1, f2⟩ := alignedViewNewT_ok (s := ⟨b'.addr, w * h * c.bpp⟩) hc hw hh hb rfl (psize_dvd4 hc g2.addr)
  exact ⟨b', g1, g2, f1, f2⟩

theorem asViewT_ok {b : ABuf} (hb : ABufOK b) :
    ∃ a, asViewT b = some a ∧ AViewOK a ∧ a.w = b.w ∧ a.h = b.h ∧ a.c = b.c := by
  unfold asViewT
  rw [bufferSizeT_eq hb.col hb.bytes, bind_some', sliceTo_of_le hb.len, bind_some', pure_some']
  exact ⟨_, rfl, ⟨hb.col, hb.w1, hb.h1, hb.bytes, psize_dvd4 hb.col hb.aligned, rfl⟩, rfl, rfl, rfl⟩

theorem asImageViewT_ok {a : AView} (ha : AViewOK a) : asImageViewT a = some (a.w, a.h) := by
  have h1 := ha.bytes
  unfold BMAX at h1
  have hp := Color.bpp_pos ha.col
  have h2 : a.w * a.h * 1 ≤ a.w * a.h * a.c.bpp := Nat.mul_le_mul_left _ hp.1
  have h3 : a.w ≤ a.w * a.h := Nat.le_mul_of_pos_right _ ha.h1
  have h4 : a.w * a.c.bpp ≤ a.w * a.h * a.c.bpp := Nat.mul_le_mul_right _ h3
  have hw := ha.w1
  have hh := ha.h1
  unfold asImageViewT
  have he : ¬ (a.w = 0 ∨ a.h = 0) := by omega
  simp only [if_neg he]
  have hs : satMul64 (a.w * a.h) a.c.bpp = a.w * a.h * a.c.bpp := by
    unfold satMul64 U64; rw [if_pos (by omega)]
  rw [mulU_of_lt (by omega), bind_some', hs, dbgP_of ha.len, bind_some', mulU_of_lt (by omega), bind_some', pure_some']

theorem emitBufT_ok {b : ABuf} (hb : ABufOK b) : emitBufT b = some (b.w, b.h) := by
  obtain ⟨a, e1, e2, e3, e4, _⟩ := asViewT_ok hb
  unfold emitBufT
  rw [e1, bind_some', asImageViewT_ok e2, e3, e4]

/-! ## `resize_into`: every call meets the `resize` crate's preconditions -/

theorem bpp_eq (c : Color) : TrapUnc.chanCount c.ch * c.psize = c.bpp := rfl

/-- zerocopy's `ref_from_bytes` on `n` whole pixels at an address aligned to the precision -/
theorem fromBytesAlignedT_ok {s : Sl} {c : Color} (hc : c.OK) (ha : s.addr % c.psize = 0) {n : Nat}
    (hl : s.len = n * c.bpp) : fromBytesAlignedT s c.bpp c.psize = some n := by
  have hp := Color.bpp_pos hc
  unfold fromBytesAlignedT TrapUnc.fromBytesT
  rw [remU_of_ne (psize_ne hc), bind_some', dbgP_of ha, bind_some',
    if_pos ⟨by omega, by rw [hl]; exact Nat.mul_mod_left _ _⟩, hl, Nat.mul_div_cancel _ (by omega)]

theorem resizeTypedT_ok {src dst : Sl} {w1 h1 w2 h2 : Nat} {c : Color} (hc : c.OK)
    (hs : src.addr % c.psize = 0) (hd : dst.addr % c.psize = 0)
    (hsl : src.len = w1 * h1 * c.bpp) (hdl : dst.len = w2 * h2 * c.bpp)
    (p1 : 1 ≤ w1) (p2 : 1 ≤ h1) (p3 : 1 ≤ w2) (p4 : 1 ≤ h2) :
    resizeTypedT src dst w1 h1 w2 h2 (TrapUnc.chanCount c.ch) c.psize = some () := by
  unfold resizeTypedT resizerNewT resizerResizeT
  rw [bpp_eq, fromBytesAlignedT_ok hc hs hsl, bind_some', fromBytesAlignedT_ok hc hd hdl, bind_some',
    dbgP_of (by omega), bind_some', dbgP_of ⟨Nat.le_refl _, rfl⟩]

theorem resizeIntoT_ok {src : AView} (hs : AViewOK src) {dst : Sl} {w2 h2 : Nat} (sa : Bool)
    (p3 : 1 ≤ w2) (p4 : 1 ≤ h2) (hb : w2 * h2 * src.c.bpp ≤ BMAX)
    (hd : dst.addr % 4 = 0) (hdl : dst.len = w2 * h2 * src.c.bpp) :
    resizeIntoT src dst w2 h2 sa = some () := by
  have hd' := psize_dvd4 hs.col hd
  have ht := resizeTypedT_ok hs.col hs.aligned hd' hs.len hdl hs.w1 hs.h1 p3 p4
  unfold resizeIntoT
  rw [bufferSizeT_eq hs.col hb, bind_some', dbgP_of hdl, bind_some', isAlignedT_eq hs.col, bind_some',
    dbgP_of (decide_eq_true hs.aligned), bind_some', isAlignedT_eq hs.col, bind_some',
    dbgP_of (decide_eq_true hd'), bind_some']
  by_cases hr : (sa && decide (src.c.ch = .rgba)) = true
  · rw [if_pos hr]
    have : src.c.ch = .rgba := of_decide_eq_true (Bool.and_eq_true_iff.mp hr).2
    have h4 : TrapUnc.chanCount src.c.ch = 4 := by rw [this]; rfl
    rw [← h4]; exact ht
  · rw [if_neg hr]; exact ht

theorem resizeFreshT_ok {al : Alloc} (ha : AlOK al) {src : AView} (hs : AViewOK src) {w2 h2 : Nat} (sa : Bool)
    (p3 : 1 ≤ w2) (p4 : 1 ≤ h2) (hb : w2 * h2 * src.c.bpp ≤ BMAX) :
    ∃ b, resizeFreshT al src w2 h2 sa = some b ∧ ABufOK b ∧ b.w = w2 ∧ b.h = h2 ∧ b.c = src.c := by
  obtain ⟨b', e1, e2, e3, _⟩ := getAlignedSliceT_ok ha VecOK.empty hs.col hb
  unfold resizeFreshT
  rw [e1, bind_some']
  simp only []
  rw [resizeIntoT_ok hs sa p3 p4 hb e2.addr rfl, bind_some']
  rw [bufferSizeT_eq hs.col hb, bind_some', dbgP_of e3, bind_some', pure_some']
  exact ⟨_, rfl, ⟨hs.col, p3, p4, hb, e2.addr, e3⟩, rfl, rfl, rfl⟩

theorem resizeStateT_ok {al : Alloc} (ha : AlOK al) {d : VecBuf} (hv : VecOK d) {src : AView} (hs : AViewOK src)
    {w2 h2 : Nat} (sa : Bool) (p3 : 1 ≤ w2) (p4 : 1 ≤ h2) (hb : w2 * h2 * src.c.bpp ≤ BMAX) :
    ∃ d' a, resizeStateT al d src w2 h2 sa = some (d', a) ∧ VecOK d' ∧ AViewOK a ∧ a.w = w2 ∧ a.h = h2 := by
  obtain ⟨b', e1, e2, f1, f2⟩ := alignedSlice_view ha hv hs.col p3 p4 hb
  unfold resizeStateT
  rw [e1, bind_some']
  simp only []
  rw [resizeIntoT_ok hs sa p3 p4 hb e2.addr rfl, bind_some', f1, bind_some', pure_some']
  exact ⟨_, _, rfl, e2, f2, rfl, rfl⟩

/-! ## `Aligner::align` -/

theorem alignRowsT_ok {h bpr : Nat} (hlt : h * bpr < 18446744073709551616) :
    alignRowsT (h * bpr) bpr (List.replicate h bpr) = some () := by
  unfold alignRowsT
  rw [mapIdxT_eq_map _ (fun _ => ()) _ (by
    intro y row hy hrow
    rw [List.length_replicate] at hy
    have hr : row = bpr := (List.mem_replicate.mp hrow).2
    have h1 : (y + 1) * bpr ≤ h * bpr := Nat.mul_le_mul_right _ (by omega)
    rw [Nat.succ_mul] at h1
    rw [dbgP_of hr, bind_some', mulU_of_lt (by omega), bind_some', addU_of_lt (by omega), bind_some',
      sliceRange_of ⟨by omega, h1⟩, bind_some', copyFromSliceT_of_eq (by omega)]), bind_some', pure_some']

/-- `Aligner::align` for every view of the public API (C20's invariant) with a non-empty size, at ANY address, with
any pitch, and for any previous state of the aligner's buffer: it returns an aligned view of exactly `w·h·bpp` bytes
with the view's size and colour -/
theorem alignT_ok {al : Alloc} (ha : AlOK al) {b : VecBuf} (hv : VecOK b) (addr : Nat) {v : View} {c : Color}
    (hvo : VOK v c) (hc : c.OK) (hw : 1 ≤ v.w) (hh : 1 ≤ v.h) (hb : v.w * v.h * c.bpp ≤ BMAX) :
    ∃ b' a, alignT al b addr v c = some (b', a) ∧ VecOK b' ∧ AViewOK a ∧ a.w = v.w ∧ a.h = v.h ∧ a.c = c := by
  have hbpp := hvo.bpp
  have hb' := hb
  unfold BMAX at hb'
  have h4 : v.w * c.bpp ≤ v.w * v.h * c.bpp := Nat.mul_le_mul_right _ (Nat.le_mul_of_pos_right _ hh)
  obtain ⟨b', g1, g2, f1, f2⟩ := alignedSlice_view ha hv hc hw hh hb
  unfold alignT
  rw [isContiguousT_eq hvo, bind_some']
  by_cases hcg : v.pitch = v.w * v.bpp
  · have hlen : v.len = v.w * v.h * c.bpp := by rw [contiguous_len hvo hcg, hbpp]
    simp only [decide_eq_true hcg, Bool.not_true, Bool.false_eq_true, if_false]
    rw [isAlignedT_eq hc, bind_some']
    by_cases hal : addr % c.psize = 0
    · -- contiguous and aligned: the view itself
      obtain ⟨f1, f2⟩ := alignedViewNewT_ok (s := ⟨addr, v.len⟩) hc hw hh hb hlen hal
      simp only [decide_eq_true hal, if_true]
      rw [f1, bind_some', pure_some']
      exact ⟨_, _, rfl, hv, f2, rfl, rfl, rfl⟩
    · -- contiguous: one `copy_from_slice`
      simp only [decide_eq_false hal, Bool.false_eq_true, if_false]
      rw [g1, bind_some']
      simp only []
      rw [copyFromSliceT_of_eq hlen.symm, bind_some', f1, bind_some', pure_some']
      exact ⟨_, _, rfl, g2, f2, rfl, rfl, rfl⟩
  · -- strided: row by row
    simp only [decide_eq_false hcg, Bool.not_false, if_true]
    rw [g1, bind_some']
    simp only []
    rw [mulU_of_lt (by omega), bind_some', rowsT_eq hvo, bind_some', hbpp]
    have hsl : v.w * v.h * c.bpp = v.h * (v.w * c.bpp) := by
      rw [Nat.mul_comm v.w v.h, Nat.mul_assoc]
    rw [hsl, alignRowsT_ok (by rw [← hsl]; omega), bind_some', ← hsl, f1, bind_some', pure_some']
    exact ⟨_, _, rfl, g2, f2, rfl, rfl, rfl⟩

end Dds.TrapMip
