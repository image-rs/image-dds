/- `chkW16` on the 16-bit values `0 … 32767`, by kernel evaluation. -/
import DdsModel.Proofs.ConvF16Chk
namespace Dds.ConvFast

theorem w16_0 : allRange chkW16 7 0 8192 = true := by decide +kernel
theorem w16_1 : allRange chkW16 7 8192 8192 = true := by decide +kernel
theorem w16_2 : allRange chkW16 7 16384 8192 = true := by decide +kernel
theorem w16_3 : allRange chkW16 7 24576 8192 = true := by decide +kernel

theorem w16_lo : allRange chkW16 9 0 32768 = true :=
  allRange_join (allRange_join w16_0 w16_1) (allRange_join w16_2 w16_3)

end Dds.ConvFast
