/-
The rounding-error bounds for the SPECIFICATION function `roundF32 : Rat → Nat` of `ConvF32.lean` (nearest binary32 of
an arbitrary rational): `roundF32_rel` — every `q` with `2^-126 ≤ |q| < 2^127` is rounded to a finite binary32 with
`|toRat (roundF32 q) − q| ≤ 2^-24·|q|`; `roundF32_ulp` — `|q| < 2^E` ⇒ error ≤ `2^(E−25)`.  `roundF32` divides with 34+
quotient bits and a sticky bit and rounds that dyadic once (`roundPack`); `rpU_sticky` (`F32Err.lean`) shows that an odd
significand with ≥ 26 bits is rounded at least one unit short of half a quantum, so the exact `q` (strictly within one
unit, `sticky_facts`) has the same error bound as if it had been rounded directly.
-/
import DdsModel.Proofs.F32ErrOps
import DdsModel.Proofs.ConvFastSpec
namespace Dds.F32Err
open Dds Dds.CF32 Dds.ConvFast Dds.F32Mono Dds.Spec

/-- the quotient with sticky bit used by `roundF32`: at least 34 significant bits, and within one unit of `2·num/d` -/
theorem sticky_facts (n d : Nat) (hd : 0 < d) (hn : 0 < n) :
    2 ^ 34 ≤ 2 * (n * 2 ^ (Nat.log2 d + 34 - Nat.log2 n) / d) +
      (if n * 2 ^ (Nat.log2 d + 34 - Nat.log2 n) % d = 0 then 0 else 1) ∧
    (if n * 2 ^ (Nat.log2 d + 34 - Nat.log2 n) % d = 0 then
      (2 * (n * 2 ^ (Nat.log2 d + 34 - Nat.log2 n) / d) + 0) * d = 2 * (n * 2 ^ (Nat.log2 d + 34 - Nat.log2 n))
     else
      (2 * (n * 2 ^ (Nat.log2 d + 34 - Nat.log2 n) / d) + 1) * d < 2 * (n * 2 ^ (Nat.log2 d + 34 - Nat.log2 n)) + d ∧
      2 * (n * 2 ^ (Nat.log2 d + 34 - Nat.log2 n)) < (2 * (n * 2 ^ (Nat.log2 d + 34 - Nat.log2 n) / d) + 1) * d + d) := by
  have lo := Nat.log2_self_le (Nat.pos_iff_ne_zero.mp hn)
  have hi := @Nat.lt_log2_self d
  generalize hk : Nat.log2 d + 34 - Nat.log2 n = k
  have hnum : d * 2 ^ 33 ≤ n * 2 ^ k := by
    have h1 : 2 ^ (Nat.log2 d + 34) ≤ 2 ^ (Nat.log2 n + k) := Nat.pow_le_pow_right Nat.two_pos (by omega)
    have h2 : 2 ^ (Nat.log2 n + k) ≤ n * 2 ^ k := by
      rw [Nat.pow_add]; exact Nat.mul_le_mul_right _ lo
    have h3 : d * 2 ^ 33 ≤ 2 ^ (Nat.log2 d + 1) * 2 ^ 33 := Nat.mul_le_mul_right _ (Nat.le_of_lt hi)
    rw [← Nat.pow_add] at h3
    have e : Nat.log2 d + 1 + 33 = Nat.log2 d + 34 := by omega
    rw [e] at h3
    omega
  have e34 : (2 : Nat) ^ 34 = 2 * 2 ^ 33 := by decide
  rw [e34]
  generalize (2 : Nat) ^ 33 = P at hnum ⊢
  clear lo hi hk e34
  generalize n * 2 ^ k = num at hnum ⊢
  have hq : P ≤ num / d := (Nat.le_div_iff_mul_le hd).mpr (by rw [Nat.mul_comm]; exact hnum)
  have dm := Nat.div_add_mod num d
  have rl := Nat.mod_lt num hd
  generalize num / d = quo at hq dm ⊢
  generalize num % d = rem at dm rl ⊢
  constructor
  · split <;> omega
  · by_cases hr : rem = 0
    · rw [if_pos hr]
      rw [Nat.add_zero, Nat.mul_assoc, Nat.mul_comm quo d]
      omega
    · rw [if_neg hr, Nat.add_mul, Nat.one_mul, Nat.mul_assoc, Nat.mul_comm quo d]
      generalize d * quo = X at *
      omega

theorem rat_pos_eq (q : Rat) (hq : 0 < q) :
    0 < q.num.natAbs ∧ 0 < q.den ∧ q = ((q.num.natAbs : Nat) : Rat) / ((q.den : Nat) : Rat) ∧ ¬ q.num < 0 ∧ q.num ≠ 0 := by
  have hn : 0 < q.num := by
    have h1 : 0 ≤ q.num := Rat.num_nonneg.mpr (Rat.le_of_lt hq)
    have h2 : q.num ≠ 0 := fun h => by
      have := Rat.num_eq_zero.mp h
      rw [this] at hq; exact absurd hq (by decide)
    omega
  refine ⟨by omega, q.den_pos, ?_, by omega, by omega⟩
  have e : ((q.num.natAbs : Nat) : Rat) = ((q.num : Int) : Rat) := by
    rw [← Rat.intCast_natCast]; congr 1; omega
  rw [e, ← Rat.mkRat_eq_div, Rat.mkRat_self]

theorem mul_pow_succ_add (n k j K : Nat) (hK : K = k + 1 + j) : n * 2 ^ K = 2 * (n * 2 ^ k) * 2 ^ j := by
  rw [hK, Nat.pow_add, Nat.pow_succ, Nat.mul_comm 2 (n * 2 ^ k), Nat.mul_assoc n, ← Nat.mul_assoc]

/-- `roundF32 q` for a positive `q` not absurdly small: one `roundPack` of a significand `m ≥ 2^34` that is exact when
even and within one unit of the exact value when odd (the sticky bit) -/
theorem roundF32_pos_core (q : Rat) (hq : 0 < q) (hk : Nat.log2 q.den + 34 - Nat.log2 q.num.natAbs ≤ 999) :
    ∃ m B : Nat, roundF32 q = roundPack false m ((B : Int) - 1000) ∧ 2 ^ 34 ≤ m ∧ B ≤ 999 ∧
      (m % 2 = 0 → q * ((2 ^ 1000 : Nat) : Rat) = ((m * 2 ^ B : Nat) : Rat)) ∧
      (m % 2 = 1 → ((m * 2 ^ B : Nat) : Rat) < q * ((2 ^ 1000 : Nat) : Rat) + ((2 ^ B : Nat) : Rat) ∧
        q * ((2 ^ 1000 : Nat) : Rat) < ((m * 2 ^ B : Nat) : Rat) + ((2 ^ B : Nat) : Rat)) := by
  obtain ⟨hn, hd, heq, hneg, hne⟩ := rat_pos_eq q hq
  have hu := roundF32_unfold q
  have e1 : ¬ ((q.num == 0) = true) := by intro h'; exact hne (eq_of_beq h')
  rw [if_neg e1, decide_eq_false hneg, Nat.shiftLeft_eq] at hu
  obtain ⟨s1, s2⟩ := sticky_facts q.num.natAbs q.den hd hn
  generalize q.num.natAbs = n at *
  generalize q.den = d at *
  generalize hkk : Nat.log2 d + 34 - Nat.log2 n = k at *
  have hdr : (0 : Rat) < (d : Rat) := Rat.natCast_pos.mpr hd
  -- q · 2^K = (2·num · 2^B) / d
  have hpow : n * 2 ^ 1000 = 2 * (n * 2 ^ k) * 2 ^ (999 - k) := mul_pow_succ_add n k (999 - k) 1000 (by omega)
  have hqK : q * ((2 ^ 1000 : Nat) : Rat) = ((2 * (n * 2 ^ k) * 2 ^ (999 - k) : Nat) : Rat) / (d : Rat) := by
    rw [← hpow, heq, Rat.natCast_mul, Rat.div_def, Rat.div_def, Rat.mul_assoc, Rat.mul_comm (d : Rat)⁻¹, ← Rat.mul_assoc]
  have e3 : (-((k : Nat) : Int) - 1) = (((999 - k : Nat) : Nat) : Int) - 1000 := by omega
  rw [e3] at hu
  generalize n * 2 ^ k = num at *
  by_cases hr : num % d = 0
  · have hb : ((num % d == 0) = true) := beq_iff_eq.mpr hr
    rw [if_pos hb] at hu
    rw [if_pos hr] at s1 s2
    refine ⟨_, _, hu, s1, by omega, ?_, ?_⟩
    · intro _
      rw [hqK, ← s2, Nat.mul_right_comm, Rat.natCast_mul _ d, Rat.mul_div_cancel (Rat.ne_of_gt hdr)]
    · intro ho; omega
  · have hb : ¬ ((num % d == 0) = true) := fun h => hr (beq_iff_eq.mp h)
    rw [if_neg hb] at hu
    rw [if_neg hr] at s1 s2
    refine ⟨_, _, hu, s1, by omega, ?_, ?_⟩
    · intro he; omega
    · intro _
      obtain ⟨t1, t2⟩ := s2
      have hB := Nat.two_pow_pos (999 - k)
      rw [hqK]
      generalize 2 * (num / d) + 1 = m at *
      generalize 2 ^ (999 - k) = PB at *
      constructor
      · -- m·PB < X/d + PB  ⟸  m·PB·d < X + PB·d
        have n1 : m * PB * d < 2 * num * PB + PB * d := by
          have := (Nat.mul_lt_mul_right hB).mpr t1
          rw [Nat.add_mul] at this
          rw [Nat.mul_right_comm, Nat.mul_comm PB d]; exact this
        have r1 := Rat.natCast_lt_natCast.mpr n1
        rw [Rat.natCast_add, Rat.natCast_mul _ d, Rat.natCast_mul PB d] at r1
        apply Rat.lt_of_mul_lt_mul_right _ (Rat.le_of_lt hdr)
        rw [Rat.add_mul, Rat.div_mul_cancel (Rat.ne_of_gt hdr)]
        exact r1
      · have n2 : 2 * num * PB < m * PB * d + PB * d := by
          have := (Nat.mul_lt_mul_right hB).mpr t2
          rw [Nat.add_mul] at this
          rw [Nat.mul_right_comm m PB d, Nat.mul_comm PB d]; exact this
        have r2 := Rat.natCast_lt_natCast.mpr n2
        rw [Rat.natCast_add, Rat.natCast_mul _ d, Rat.natCast_mul PB d] at r2
        apply Rat.lt_of_mul_lt_mul_right _ (Rat.le_of_lt hdr)
        rw [Rat.add_mul, Rat.div_mul_cancel (Rat.ne_of_gt hdr)]
        exact r2

theorem lt_pow_of_odd (m B T : Nat) (hBT : B < T) (hodd : m % 2 = 1) (h : (m - 1) * 2 ^ B < 2 ^ T) : m * 2 ^ B < 2 ^ T := by
  obtain ⟨j, hj⟩ : ∃ j, T = B + 1 + j := ⟨T - B - 1, by omega⟩
  have e : 2 ^ T = 2 * 2 ^ j * 2 ^ B := by
    rw [hj, Nat.pow_add, Nat.pow_add, Nat.mul_comm (2 ^ B), Nat.mul_assoc, Nat.mul_comm (2 ^ B), ← Nat.mul_assoc]
  rw [e] at h ⊢
  have := Nat.lt_of_mul_lt_mul_right h
  exact (Nat.mul_lt_mul_right (Nat.two_pow_pos B)).mpr (by omega)

theorem pow874_le (m B : Nat) (hm : 2 ^ 34 ≤ m) (h : 2 ^ 874 < (m + 1) * 2 ^ B) : 2 ^ 874 ≤ m * 2 ^ B := by
  by_cases hB : B ≤ 874
  · have e : 2 ^ 874 = 2 ^ (874 - B) * 2 ^ B := by rw [← Nat.pow_add, Nat.sub_add_cancel hB]
    rw [e] at h ⊢
    have h3 := Nat.lt_of_mul_lt_mul_right h
    exact Nat.mul_le_mul_right _ (Nat.le_of_lt_succ h3)
  · have hB' : 874 ≤ B := by omega
    have h1 : 2 ^ 874 ≤ 2 ^ B := Nat.pow_le_pow_right Nat.two_pos (i := 874) (j := B) hB'
    have h2 : 2 ^ B ≤ m * 2 ^ B := Nat.le_mul_of_pos_left _ (by have := Nat.two_pow_pos 34; omega)
    exact Nat.le_trans h1 h2

theorem k_le (q : Rat) (hq : 0 < q) (c : Nat) (hc : c ≤ 900) (hlo : 1 ≤ q * ((2 ^ c : Nat) : Rat)) :
    Nat.log2 q.den + 34 - Nat.log2 q.num.natAbs ≤ 999 := by
  obtain ⟨hn, hd, heq, _, _⟩ := rat_pos_eq q hq
  generalize q.num.natAbs = n at *
  generalize q.den = d at *
  have hdr : (0 : Rat) < (d : Rat) := Rat.natCast_pos.mpr hd
  have h1 : d ≤ n * 2 ^ c := by
    rw [← Rat.natCast_le_natCast, Rat.natCast_mul]
    have := Rat.mul_le_mul_of_nonneg_right hlo (Rat.le_of_lt hdr)
    rw [Rat.one_mul, heq, Rat.mul_assoc, Rat.mul_comm _ (d : Rat), ← Rat.mul_assoc, Rat.div_mul_cancel (Rat.ne_of_gt hdr)] at this
    exact this
  have hi := @Nat.lt_log2_self n
  have h2 : n * 2 ^ c < 2 ^ (Nat.log2 n + 1 + c) := by
    rw [Nat.pow_add (n := c)]; exact (Nat.mul_lt_mul_right (Nat.two_pow_pos c)).mpr hi
  have h3 : Nat.log2 d < Nat.log2 n + 1 + c := (Nat.log2_lt (by omega)).mpr (Nat.lt_of_le_of_lt h1 h2)
  omega

theorem le_of_add_le_of_lt_add (a b c x : Rat) (h : a + b ≤ c) (h' : c < x + b) : a ≤ x := by grind

theorem mul_lt_pow_add (q : Rat) (E K : Nat) (h : q < ((2 ^ E : Nat) : Rat)) :
    q * ((2 ^ K : Nat) : Rat) < ((2 ^ (E + K) : Nat) : Rat) := by
  rw [Nat.pow_add, Rat.natCast_mul]
  exact Rat.mul_lt_mul_of_pos_right h (Rat.natCast_pos.mpr (Nat.two_pow_pos K))

/-- positive `q`: finite result, error at most half the quantum `Qn` of the result's binade; `Qn ≤ 2^(T−24)` for a bound
`q < 2^(T−1000)`, and `2^23·Qn ≤ q·2^1000` in the normal range -/
theorem roundF32_pos_gen (q : Rat) (hq : 0 < q) (hk : Nat.log2 q.den + 34 - Nat.log2 q.num.natAbs ≤ 999)
    (T : Nat) (hT : 1000 ≤ T) (hT2 : T ≤ 1127) (hb : q * ((2 ^ 1000 : Nat) : Rat) < ((2 ^ T : Nat) : Rat)) :
    roundF32 q < 0x7F800000 ∧ FinP (roundF32 q) ∧ ∃ Qn : Nat,
      Near (toRat (roundF32 q)) q ((Qn : Rat) / (2 * ((2 ^ 1000 : Nat) : Rat))) ∧ Qn ≤ 2 ^ (T - 24) ∧
      (((2 ^ 874 : Nat) : Rat) ≤ q * ((2 ^ 1000 : Nat) : Rat) → ((2 ^ 23 * Qn : Nat) : Rat) ≤ q * ((2 ^ 1000 : Nat) : Rat)) := by
  obtain ⟨m, B, hx, hm34, hB, hev, hod⟩ := roundF32_pos_core q hq hk
  have hm : m ≠ 0 := by have := Nat.two_pow_pos 34; omega
  have hm25 : 2 ^ 25 ≤ m := Nat.le_trans (Nat.pow_le_pow_right Nat.two_pos (by decide)) hm34
  have hPK : ((2 ^ 1000 : Nat) : Rat) ≠ 0 := Rat.ne_of_gt (Rat.natCast_pos.mpr (Nat.two_pow_pos 1000))
  have k2 : ((2 : Nat) : Rat) = 2 := rfl
  -- the significand is below the bound
  have hltT : m * 2 ^ B < 2 ^ T := by
    by_cases hpar : m % 2 = 0
    · rw [← Rat.natCast_lt_natCast, ← hev hpar]; exact hb
    · have ho : m % 2 = 1 := by omega
      obtain ⟨o1, _⟩ := hod ho
      apply lt_pow_of_odd m B T (by omega) ho
      have e : (m - 1) * 2 ^ B + 2 ^ B = m * 2 ^ B := by
        rw [← Nat.succ_mul]; congr 1; omega
      rw [← Rat.natCast_lt_natCast]
      rw [← e, Rat.natCast_add] at o1
      clear hev hod hk e
      generalize (((m - 1) * 2 ^ B : Nat) : Rat) = A at *
      generalize ((2 ^ B : Nat) : Rat) = PB at *
      generalize q * ((2 ^ 1000 : Nat) : Rat) = X at *
      generalize ((2 ^ T : Nat) : Rat) = TT at *
      grind
  have hlt : m * 2 ^ B < 2 ^ 1127 := Nat.lt_of_lt_of_le hltT (Nat.pow_le_pow_right Nat.two_pos (i := T) (j := 1127) hT2)
  obtain ⟨h0, h1, h2⟩ := rpU_err m B hlt
  obtain ⟨f, g⟩ := roundPack_err false m B _ h0 h1 h2
  rw [← hx] at f g
  refine ⟨by rw [hx, roundPack_eq_rpU]; exact h0, f, 2 ^ quant m B, ?_, quant_le_of_lt m B T hm hltT (by omega), ?_⟩
  · by_cases hpar : m % 2 = 0
    · -- even: `q` is the dyadic that was rounded
      refine near_of_int 1000 851 rfl _ f _ q _ _ (hev hpar) g ?_
      rw [two_mul_half_quantum _ _ hPK]; exact Rat.le_refl
    · -- odd: `q` is strictly within one unit `2^B` of it, and the rounding left that much room
      have ho : m % 2 = 1 := by omega
      obtain ⟨o1, o2⟩ := hod ho
      have t := roundPack_sticky false m B ho hm25 hlt
      rw [← hx] at t
      refine near_of_int_slack 1000 851 rfl _ f _ q _ (2 ^ B) _ ?_ t ?_
      · exact near_of_lt _ _ _ o1 o2
      · rw [two_mul_half_quantum _ _ hPK]; exact Rat.le_refl
  · intro hn
    by_cases hpar : m % 2 = 0
    · rw [hev hpar] at hn ⊢
      exact Rat.natCast_le_natCast.mpr (quant_rel m B hm (Rat.natCast_le_natCast.mp hn)).1
    · have ho : m % 2 = 1 := by omega
      obtain ⟨o1, o2⟩ := hod ho
      have hnn : 2 ^ 874 ≤ m * 2 ^ B := by
        apply pow874_le m B hm34
        rw [← Rat.natCast_lt_natCast, Nat.add_mul, Nat.one_mul, Rat.natCast_add]
        exact Std.lt_of_le_of_lt hn o2
      have r := Rat.natCast_le_natCast.mpr ((quant_rel m B hm hnn).2 ho (by have := Nat.two_pow_pos 34; omega))
      rw [Rat.natCast_add] at r
      exact le_of_add_le_of_lt_add _ _ _ _ r o1

theorem half_quantum_le (Qn : Nat) (P e : Rat) (hP : 0 < P) (h : (Qn : Rat) ≤ 2 * e * P) : (Qn : Rat) / (2 * P) ≤ e := by
  apply Rat.le_of_mul_le_mul_right _ (Rat.mul_pos (by decide : (0 : Rat) < 2) hP)
  rw [Rat.div_mul_cancel (Rat.ne_of_gt (Rat.mul_pos (by decide : (0 : Rat) < 2) hP))]
  grind

theorem roundF32_ulp_pos (q : Rat) (hq : 0 < q) (hlo : 1 ≤ q * ((2 ^ 200 : Nat) : Rat)) (E W : Nat) (hE : E ≤ 127)
    (hW : W = 2 ^ E) (h2 : q < (W : Rat)) :
    roundF32 q < 0x7F800000 ∧ FinP (roundF32 q) ∧ Near (toRat (roundF32 q)) q ((W : Rat) / 33554432) := by
  have hPK : (0 : Rat) < ((2 ^ 1000 : Nat) : Rat) := Rat.natCast_pos.mpr (Nat.two_pow_pos 1000)
  have hb := mul_lt_pow_add q E 1000 (hW ▸ h2)
  obtain ⟨hp, f, Qn, nr, hQ, _⟩ := roundF32_pos_gen q hq (k_le q hq 200 (by decide) hlo) (E + 1000) (by omega) (by omega) hb
  refine ⟨hp, f, near_mono _ _ _ _ nr (half_quantum_le Qn _ _ hPK ?_)⟩
  have hQ' := Rat.natCast_le_natCast.mpr hQ
  have := congrArg (Nat.cast : Nat → Rat) (half_ulp_scale E 1000 W (by decide) hW)
  rw [Rat.natCast_mul, Rat.natCast_mul, Rat.natCast_mul] at this
  have k1 : ((33554432 : Nat) : Rat) = 33554432 := rfl
  have k2 : ((2 : Nat) : Rat) = 2 := rfl
  rw [k1, k2] at this
  clear nr hb hQ
  generalize ((2 ^ 1000 : Nat) : Rat) = P at *
  generalize ((2 ^ (E + 1000 - 24) : Nat) : Rat) = Q at *
  generalize (Qn : Rat) = qn at *
  generalize (W : Rat) = w at *
  grind

theorem roundF32_rel_pos (q : Rat) (hq : 0 < q) (hlo : 1 ≤ q * ((2 ^ 126 : Nat) : Rat))
    (hhi : q < ((2 ^ 127 : Nat) : Rat)) :
    roundF32 q < 0x7F800000 ∧ FinP (roundF32 q) ∧ Near (toRat (roundF32 q)) q (q / 16777216) := by
  have hPK : (0 : Rat) < ((2 ^ 1000 : Nat) : Rat) := Rat.natCast_pos.mpr (Nat.two_pow_pos 1000)
  have hP874 : (0 : Rat) < ((2 ^ 874 : Nat) : Rat) := Rat.natCast_pos.mpr (Nat.two_pow_pos 874)
  have hP74 : (1 : Rat) ≤ ((2 ^ 74 : Nat) : Rat) := by decide +kernel
  have hlo200 : 1 ≤ q * ((2 ^ 200 : Nat) : Rat) := by
    rw [pow_split_cast 200 126 74 rfl, ← Rat.mul_assoc]
    have h0 : (0 : Rat) ≤ q * ((2 ^ 126 : Nat) : Rat) := by grind
    have := Rat.mul_le_mul_of_nonneg_left hP74 h0
    grind
  have hb := mul_lt_pow_add q 127 1000 hhi
  obtain ⟨hp, f, Qn, nr, _, hrel⟩ := roundF32_pos_gen q hq (k_le q hq 200 (by decide) hlo200) (127 + 1000) (by omega) (by omega) hb
  refine ⟨hp, f, near_mono _ _ _ _ nr (half_quantum_le Qn _ _ hPK ?_)⟩
  have hn : ((2 ^ 874 : Nat) : Rat) ≤ q * ((2 ^ 1000 : Nat) : Rat) := by
    rw [pow_split_cast 1000 126 874 rfl, ← Rat.mul_assoc]
    have := Rat.mul_le_mul_of_nonneg_right hlo (Rat.le_of_lt hP874)
    rwa [Rat.one_mul] at this
  have hr := hrel hn
  rw [Rat.natCast_mul] at hr
  have e23 : ((2 ^ 23 : Nat) : Rat) = 8388608 := by decide +kernel
  rw [e23] at hr
  clear nr hb hrel hn hlo200
  generalize ((2 ^ 1000 : Nat) : Rat) = P at *
  generalize (Qn : Rat) = qn at *
  grind

theorem finP_neg_of (x : Nat) (hx : x < 0x7F800000) : FinP (signBit + x) ∧ toRat (signBit + x) = -toRat x := by
  obtain ⟨f1, v1⟩ := finP_signBit_add x hx
  obtain ⟨f0, v0⟩ := finP_of_lt x hx
  refine ⟨f1, ?_⟩
  rw [toRat_ival _ f1, toRat_ival _ f0, v1, v0, Rat.intCast_neg, Rat.div_def, Rat.div_def, Rat.neg_mul]

theorem roundF32_of_neg (q : Rat) (hq : q < 0) : 0 < -q ∧ roundF32 q = signBit + roundF32 (-q) ∧ q.abs = -q := by
  have hp : 0 < -q := by grind
  obtain ⟨_, _, _, h1, h2⟩ := rat_pos_eq (-q) hp
  have hn : 0 < (-q).num := by omega
  have := roundF32_neg (-q) hn
  rw [Rat.neg_neg] at this
  exact ⟨hp, this, Rat.abs_of_nonpos (Rat.le_of_lt hq)⟩

/-- from `|q|` to `q`: `roundF32` is odd -/
theorem roundF32_signed (q e : Rat) (hz : q ≠ 0)
    (hpos : ∀ p : Rat, 0 < p → (p = q ∨ p = -q) → q.abs = p →
      roundF32 p < 0x7F800000 ∧ FinP (roundF32 p) ∧ Near (toRat (roundF32 p)) p e) :
    FinP (roundF32 q) ∧ Near (toRat (roundF32 q)) q e := by
  by_cases h0 : 0 ≤ q
  · exact (hpos q (Rat.lt_of_le_of_ne h0 (fun he => hz he.symm)) (Or.inl rfl) (Rat.abs_of_nonneg h0)).2
  · obtain ⟨hp, hr, ha⟩ := roundF32_of_neg q (Rat.not_le.mp h0)
    obtain ⟨b, f, nr⟩ := hpos (-q) hp (Or.inr rfl) ha
    obtain ⟨f1, v1⟩ := finP_neg_of _ b
    have := near_neg _ _ _ nr
    rw [Rat.neg_neg] at this
    rw [hr, v1]
    exact ⟨f1, this⟩

theorem roundF32_rel (q : Rat) (hlo : 1 ≤ q.abs * ((2 ^ 126 : Nat) : Rat)) (hhi : q.abs < ((2 ^ 127 : Nat) : Rat)) :
    FinP (roundF32 q) ∧ Near (toRat (roundF32 q)) q (q.abs / 16777216) := by
  have hz : q ≠ 0 := by
    intro he
    rw [he, Rat.abs_zero, Rat.zero_mul] at hlo
    exact absurd hlo (by decide)
  exact roundF32_signed q _ hz fun p hp _ ha => by
    rw [ha] at hlo hhi ⊢
    exact roundF32_rel_pos p hp hlo hhi

/-- `E` is a natural number, so below 1 the bound stays 2^-25 (`E = 0`) and does not follow the ulp into the subnormal
range. -/
theorem roundF32_ulp (q : Rat) (hlo : q = 0 ∨ 1 ≤ q.abs * ((2 ^ 200 : Nat) : Rat)) (E W : Nat) (hE : E ≤ 127)
    (hW : W = 2 ^ E) (h1 : -(W : Rat) < q) (h2 : q < (W : Rat)) :
    FinP (roundF32 q) ∧ Near (toRat (roundF32 q)) q ((W : Rat) / 33554432) := by
  by_cases hz : q = 0
  · have hWpos : (0 : Rat) < (W : Rat) := Rat.natCast_pos.mpr (by rw [hW]; exact Nat.two_pow_pos E)
    subst hz
    have e : roundF32 0 = 0 := by decide
    rw [e, toRat_zero]
    refine ⟨by decide, ?_⟩
    unfold Near
    constructor <;> grind
  · exact roundF32_signed q _ hz fun p hp hpq ha =>
      roundF32_ulp_pos p hp (ha ▸ hlo.resolve_left hz) E W hE hW (by rcases hpq with rfl | rfl <;> grind)
end Dds.F32Err
