/-
The integer conversions against the rational specification.  After clamping, the ideal value of every source format
is a ratio `N x / D` of naturals (`unorm_clamp`, `snorm_clamp`, `xr_clamp`, `denorm_clamp`), so "nearest code, and
whether the scaled ideal is a tie" is a statement about `Nat` (`okNat`, `okNat_nearest`).  The small domains are
evaluated; the 16-bit conversions follow from the closed forms of `Proofs/QuantInt16.lean`.
-/
import DdsModel.Conv
import DdsModel.Proofs.NearestCode
import DdsModel.Proofs.QuantInt16
namespace Dds.ConvProofs
open Dds Dds.Conv Dds.Spec Dds.CF32
open Dds.Quant (qRatio snormNorm snormLevels)


theorem unorm_clamp (n v : Nat) (hn : 1 ≤ n) (hv : v < 2 ^ n) :
    clamp01 (unorm n v) = (v : Rat) / ((2 ^ n - 1 : Nat) : Rat) := by
  have h1 : 2 ^ 1 ≤ 2 ^ n := Nat.pow_le_pow_right (by omega) hn
  have h := clamp01_ratio (v : Int) (2 ^ n - 1) (by omega)
  rw [Rat.intCast_natCast, Int.toNat_natCast, Nat.min_eq_left (by omega)] at h
  exact h

/-- SNORM on `[0, 1]` is `norm / (2^n − 2)` with the `norm` of formats.rs (`Quant.snormNorm`) -/
theorem snorm_eq (n v : Nat) (hn : 2 ≤ n) (hv : v < 2 ^ n) :
    snorm n v = ((snormNorm n v : Nat) : Rat) / ((snormLevels n : Nat) : Rat) := by
  have shift (a m : Int) (hm : m ≠ 0) :
      ((a : Rat) / (m : Rat) + 1) / 2 = ((a + m : Int) : Rat) / ((2 * m : Int) : Rat) := by
    have : (m : Rat) ≠ 0 := fun h => hm (Rat.intCast_eq_zero_iff.mp h)
    have two : ((2 : Int) : Rat) = 2 := rfl
    rw [Rat.intCast_add, Rat.intCast_mul, two]
    grind
  have hH : 2 ^ 1 ≤ 2 ^ (n - 1) := Nat.pow_le_pow_right (by omega) (by omega)
  unfold snorm signed snormNorm snormLevels
  rw [Quant.two_pow_pred n (by omega)] at *
  generalize 2 ^ (n - 1) = H at *
  -- with `m = H − 1`: the numerator `max s (−m) + m` is the norm, the denominator `2 m` the number of steps
  have hN : max (if v < H then (v : Int) else (v : Int) - ((2 * H : Nat) : Int)) (-((H : Int) - 1)) + ((H : Int) - 1)
      = (((v + H) % (2 * H) - 1 : Nat) : Int) := by
    by_cases h : v < H
    · rw [if_pos h, Nat.mod_eq_of_lt (by omega)]; omega
    · rw [if_neg h, Nat.mod_eq_sub_mod (by omega), Nat.mod_eq_of_lt (by omega)]; omega
  have hD : 2 * ((H : Int) - 1) = ((2 * H - 2 : Nat) : Int) := by omega
  dsimp only
  rw [shift _ _ (by omega), hN, hD, Rat.intCast_natCast, Rat.intCast_natCast]

theorem snorm_clamp (n v : Nat) (hn : 2 ≤ n) (hv : v < 2 ^ n) :
    clamp01 (snorm n v) = ((snormNorm n v : Nat) : Rat) / ((snormLevels n : Nat) : Rat) := by
  have hH : 2 ^ 1 ≤ 2 ^ (n - 1) := Nat.pow_le_pow_right (by omega) (by omega)
  have hle : snormNorm n v ≤ snormLevels n := by
    unfold snormNorm snormLevels
    rw [Quant.two_pow_pred n (by omega)] at *
    have := Nat.mod_lt (v + 2 ^ (n - 1)) (by omega : 0 < 2 * 2 ^ (n - 1))
    omega
  have hpos : 0 < snormLevels n := by
    unfold snormLevels; rw [Quant.two_pow_pred n (by omega)]; omega
  have h := clamp01_ratio (snormNorm n v : Int) (snormLevels n) hpos
  rw [Rat.intCast_natCast, Int.toNat_natCast, Nat.min_eq_left hle] at h
  rw [snorm_eq n v hn hv]
  exact h

theorem xr_clamp (v : Nat) : clamp01 (xr v) = ((xrClamp v : Nat) : Rat) / ((510 : Nat) : Rat) := by
  have h := clamp01_ratio ((v : Int) - 384) 510 (by decide)
  have e : ((v : Int) - 384).toNat = v - 384 := by omega
  rw [e] at h
  exact h

/-- value of a denormal small float (`exp = 0`, mantissa `m < 2^mb`): `m / 2^(14 + mb)` -/
theorem denorm_clamp (mb m : Nat) (hm : m < 2 ^ mb) :
    clamp01 ((smallFloat mb false m).getD 0) = (m : Rat) / ((2 ^ (14 + mb) : Nat) : Rat) := by
  have e : (smallFloat mb false m).getD 0 = ((m : Int) : Rat) / ((2 ^ (14 + mb) : Nat) : Rat) := by
    unfold smallFloat
    rw [Nat.shiftRight_eq_div_pow, Nat.div_eq_of_lt hm, Nat.mod_eq_of_lt hm]
    have : (-((14 + mb : Nat) : Int)).toNat = 0 := by omega
    simp only [Nat.zero_mod, Nat.reduceBEq, Bool.false_eq_true, if_false, beq_self_eq_true, if_true, Bool.false_and,
      Option.getD_some, pow2]
    rw [if_neg (by omega), Int.neg_neg, Int.toNat_natCast, Rat.intCast_natCast, Rat.div_def, Rat.div_def, Rat.one_mul]
  have hle : m ≤ 2 ^ (14 + mb) := by
    have : 2 ^ mb ≤ 2 ^ (14 + mb) := Nat.pow_le_pow_right (by omega) (by omega)
    omega
  have h := clamp01_ratio (m : Int) (2 ^ (14 + mb)) (Nat.two_pow_pos _)
  rw [Int.toNat_natCast, Nat.min_eq_left hle] at h
  rw [e, h]


/-- with the clamped ideal `N x / D`: `impl x` is its nearest code at maximum `mx` (tie up), and `tie x` says whether
`mx · N x / D` is a tie -/
def okNat (impl : Nat → Nat) (mx : Nat) (N : Nat → Nat) (D : Nat) (tie : Nat → Bool) (x : Nat) : Bool :=
  impl x == qRatio mx (N x) D && ((2 * N x * mx + D) % (2 * D) == 0) == tie x

theorem okNat_nearest {impl : Nat → Nat} {mx : Nat} {N : Nat → Nat} {D : Nat} {tie : Nat → Bool} {x : Nat} {q : Rat}
    (hD : 0 < D) (hq : clamp01 q = (N x : Rat) / (D : Rat)) (h : okNat impl mx N D tie x = true) :
    (impl x : Int) = toCode mx q ∧ isTie ((mx : Rat) * clamp01 q) = tie x := by
  obtain ⟨h1, h2⟩ := toCode_isTie_ratio (mx := mx) hD hq
  simp only [okNat, Bool.and_eq_true, beq_iff_eq] at h
  rw [h1, h2, h.1, h.2]
  exact ⟨rfl, rfl⟩

def never : Nat → Bool := fun _ => false

/-! ### UNORM sources: a tie never occurs -/

theorem n1n8_ok : ∀ x, x < 2 → okNat n1n8 255 id 1 never x = true := allRange_lt (d := 0) (by decide +kernel)
theorem n1n16_ok : ∀ x, x < 2 → okNat n1n16 65535 id 1 never x = true := allRange_lt (d := 0) (by decide +kernel)
theorem n2n8_ok : ∀ x, x < 4 → okNat n2n8 255 id 3 never x = true := allRange_lt (d := 0) (by decide +kernel)
theorem n2n16_ok : ∀ x, x < 4 → okNat n2n16 65535 id 3 never x = true := allRange_lt (d := 0) (by decide +kernel)
theorem n4n8_ok : ∀ x, x < 16 → okNat n4n8 255 id 15 never x = true := allRange_lt (d := 0) (by decide +kernel)
theorem n4n16_ok : ∀ x, x < 16 → okNat n4n16 65535 id 15 never x = true := allRange_lt (d := 0) (by decide +kernel)
theorem n5n8_ok : ∀ x, x < 32 → okNat n5n8 255 id 31 never x = true := allRange_lt (d := 0) (by decide +kernel)
theorem n5n16_ok : ∀ x, x < 32 → okNat n5n16 65535 id 31 never x = true := allRange_lt (d := 0) (by decide +kernel)
theorem n6n8_ok : ∀ x, x < 64 → okNat n6n8 255 id 63 never x = true := allRange_lt (d := 0) (by decide +kernel)
theorem n6n16_ok : ∀ x, x < 64 → okNat n6n16 65535 id 63 never x = true := allRange_lt (d := 0) (by decide +kernel)
theorem n8n16_ok : ∀ x, x < 256 → okNat n8n16 65535 id 255 never x = true := allRange_lt (d := 3) (by decide +kernel)
theorem n10n8_ok : ∀ x, x < 1024 → okNat n10n8 255 id 1023 never x = true := allRange_lt (d := 5) (by decide +kernel)
theorem n10n16_ok : ∀ x, x < 1024 → okNat n10n16 65535 id 1023 never x = true :=
  allRange_lt (d := 5) (by decide +kernel)

/-- `2·255·x + 65535` is odd -/
theorem n16n8_ok : ∀ x, x < 65536 → okNat n16n8 255 id 65535 never x = true := by
  intro x hx
  have h1 : n16n8 x = qRatio 255 x 65535 := by
    rw [← Quant.n16_n8_eq x hx]
    unfold n16n8 Quant.n16_n8 w8 w32
    rw [Nat.mod_eq_of_lt (by omega : x * 255 + 32895 < 4294967296), Nat.mod_eq_of_lt (by omega)]
  have h2 : ((2 * x * 255 + 65535) % (2 * 65535) == 0) = false := by
    rw [beq_eq_false_iff_ne]; omega
  simp only [okNat, id, never, h1, h2, beq_self_eq_true, Bool.and_self]

/-! ### SNORM sources: the only tie is the code of 0 (ideal 1/2, `0.5 * max`); it goes up -/

def tieZero : Nat → Bool := fun x => x == 0

theorem s8n8_ok : ∀ x, x < 256 → okNat s8n8 255 (snormNorm 8) 254 tieZero x = true :=
  allRange_lt (d := 3) (by decide +kernel)
theorem s8n16_ok : ∀ x, x < 256 → okNat s8n16 65535 (snormNorm 8) 254 tieZero x = true :=
  allRange_lt (d := 3) (by decide +kernel)

theorem s16norm_eq (x : Nat) : s16norm x = snormNorm 16 x := rfl

/-- the scaled ideal `mx · t / 65534` of the norm `t` is a tie only for `t = 32767`, the norm of the code 0:
`255·t + 32767 ≡ 0 (mod 65534)` forces `t` odd and `32767 ∣ t`; `65535·t + 32767 ≡ 0` is `t ≡ 32767` -/
theorem snorm16_tie (mx x : Nat) (hmx : mx = 255 ∨ mx = 65535) (hx : x < 65536) :
    ((2 * snormNorm 16 x * mx + 65534) % (2 * 65534) == 0) = (x == 0) := by
  have ht := Quant.snormNorm16_le x
  have h0 : snormNorm 16 x = 32767 ↔ x = 0 := by unfold snormNorm; omega
  rw [Bool.eq_iff_iff, beq_iff_eq, beq_iff_eq, ← h0, ← Nat.dvd_iff_mod_eq_zero]
  -- as an equation `… = 131068 * k` (on the `%` form `omega` leaves the kernel a far bigger term)
  rcases hmx with rfl | rfl
  all_goals
    constructor
    · rintro ⟨k, hk⟩; omega
    · intro h; rw [h]; decide

theorem s16n8_ok : ∀ x, x < 65536 → okNat s16n8 255 (snormNorm 16) 65534 tieZero x = true := by
  intro x hx
  have ht := Quant.snormNorm16_le x
  have h1 : s16n8 x = qRatio 255 (snormNorm 16 x) 65534 := by
    rw [← Quant.s16_n8_eq x]
    unfold s16n8 Quant.s16_n8 w8 w32
    rw [s16norm_eq, Nat.mod_eq_of_lt (by omega : snormNorm 16 x * 65282 + 8388354 < 4294967296),
      Nat.mod_eq_of_lt (by omega)]
  simp only [okNat, tieZero, h1, snorm16_tie 255 x (.inl rfl) hx, beq_self_eq_true, Bool.and_self]

theorem s16n16_ok : ∀ x, x < 65536 → okNat s16n16 65535 (snormNorm 16) 65534 tieZero x = true := by
  intro x hx
  have ht := Quant.snormNorm16_le x
  have h1 : s16n16 x = qRatio 65535 (snormNorm 16 x) 65534 := by
    rw [← Quant.s16_n16_eq x]
    unfold s16n16 Quant.s16_n16 w16 w32
    rw [s16norm_eq, Nat.mod_eq_of_lt (by omega : snormNorm 16 x * 65538 + 2 < 4294967296),
      Nat.mod_eq_of_lt (by omega)]
  simp only [okNat, tieZero, h1, snorm16_tie 65535 x (.inr rfl) hx, beq_self_eq_true, Bool.and_self]

/-! ### XR_BIAS: `255 * clamp((x-384)/510)` is `c / 2`, a tie for every odd `c` strictly inside the range -/

def tieXr : Nat → Bool := fun x => 384 < x && x < 894 && x % 2 == 1

theorem xr10n8_ok : ∀ x, x < 1024 → okNat xr10n8 255 xrClamp 510 tieXr x = true :=
  allRange_lt (d := 5) (by decide +kernel)
theorem xr10n16_ok : ∀ x, x < 1024 → okNat xr10n16 65535 xrClamp 510 tieXr x = true :=
  allRange_lt (d := 5) (by decide +kernel)

/-! ### denormal 11-bit / 10-bit floats to UNORM16: the integer formulas `(m + 7) >> 4`, `(m + 3) >> 3`; ties
(`m = 8, 24, 40, 56` resp. `4, 12, 20, 28`: value `m * 65535 / 2^20`…) do not exist because 65535 is odd and the
denominators are powers of two larger than `2 m` — checked, not assumed -/

theorem fp11Denorm_ok : ∀ m, m < 64 → okNat fp11DenormN16 65535 id (2 ^ 20) never m = true :=
  allRange_lt (d := 0) (by decide +kernel)
theorem fp10Denorm_ok : ∀ m, m < 32 → okNat fp10DenormN16 65535 id (2 ^ 19) never m = true :=
  allRange_lt (d := 0) (by decide +kernel)

end Dds.ConvProofs
