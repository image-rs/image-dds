/-
`roundPack` of `ConvF32.lean` and of `ConvF64.lean` are one function of the number of fraction
bits `fb` and of the smallest normal exponent `-emin` (binary32: 23, 126; binary64: 52, 1022):
`roundPackG`.  Its rounding lemmas are proved here once, about bit patterns (`Nat`): positive
finite patterns are ordered like their values, so "the rounded result is at most the representable
bound" is an inequality between patterns.
-/
import DdsModel.Proofs.F32Mono
import DdsModel.ConvF64
namespace Dds.RoundPack
open Dds.CF32 (force_eq forceI_eq)
open Dds.ConvFast (rne)
open Dds.F32Mono (rne_le_of_le rne_exact log2_mul_pow)

/-- the exponent field has `2·emin + 4` codes; the sign bit sits above it -/
def signBitG (fb emin : Nat) : Nat := (2 * emin + 4) * 2 ^ fb
/-- exponent field all ones (`2·emin + 3`), fraction zero -/
def posInfG (fb emin : Nat) : Nat := (2 * emin + 3) * 2 ^ fb
/-- the positive pattern with exponent field `E + emin + 1` and significand (hidden bit included)
`M` in `[2^fb, 2^(fb+1))`: the value `M · 2^(E − fb)`.  The hidden bit of `M` carries into the
exponent field. -/
def patG (fb emin : Nat) (E : Int) (M : Nat) : Nat := (E + emin).toNat * 2 ^ fb + M

/-- the magnitude of `roundPack`: the exact positive dyadic `m·2^e` rounded to nearest (ties to
even, gradual underflow, overflow to `+∞`), as a positive pattern -/
def roundMagG (fb emin m : Nat) (e : Int) : Nat :=
  if m = 0 then 0 else
  let E := (Nat.log2 m : Int) + e
  let q := if -(emin : Int) ≤ E then E - fb else -(emin : Int) - fb
  let sh := q - e
  let mant' := if sh ≤ 0 then m <<< (-sh).toNat else rne m sh.toNat
  let bits := if -(emin : Int) ≤ E then patG fb emin E mant' else mant'
  min bits (posInfG fb emin)

/-- `CF32.roundPack` / `CF64.roundPack` without the call-by-value wrappers, the format as a
parameter: the sign is attached to the rounded magnitude -/
def roundPackG (fb emin : Nat) (sign : Bool) (m : Nat) (e : Int) : Nat :=
  (if sign then signBitG fb emin else 0) + roundMagG fb emin m e

theorem sat_eq (s bits inf : Nat) : (if bits ≥ inf then s + inf else s + bits) = s + min bits inf := by
  split <;> omega

theorem roundPackG_false (fb emin m : Nat) (e : Int) :
    roundPackG fb emin false m e = roundMagG fb emin m e :=
  Nat.zero_add _

/-- `m` brought to `fb + 1` significant bits: shifted up, or rounded to nearest even -/
def sigG (fb m : Nat) : Nat :=
  if Nat.log2 m ≤ fb then m * 2 ^ (fb - Nat.log2 m) else rne m (Nat.log2 m - fb)

theorem roundPackG_normal (fb emin m : Nat) (e : Int) (hm : m ≠ 0)
    (hE : -(emin : Int) ≤ (Nat.log2 m : Int) + e) :
    roundPackG fb emin false m e =
      min (patG fb emin ((Nat.log2 m : Int) + e) (sigG fb m)) (posInfG fb emin) := by
  rw [roundPackG_false]
  simp only [roundMagG, hm, hE, if_false, if_true, sigG]
  congr 2
  by_cases hl : Nat.log2 m ≤ fb
  · rw [if_pos (by omega), if_pos hl, Nat.shiftLeft_eq]
    congr 2; omega
  · rw [if_neg (by omega), if_neg hl]
    congr 1; omega

theorem roundPackG_subnormal (fb emin m : Nat) (e : Int) (hm : m ≠ 0)
    (hE : (Nat.log2 m : Int) + e < -(emin : Int)) :
    roundPackG fb emin false m e =
      min (if -(emin : Int) - fb - e ≤ 0 then m * 2 ^ (-(-(emin : Int) - fb - e)).toNat
        else rne m (-(emin : Int) - fb - e).toNat) (posInfG fb emin) := by
  have : ¬ (-(emin : Int) ≤ (Nat.log2 m : Int) + e) := by omega
  rw [roundPackG_false]
  simp only [roundMagG, hm, this, if_false, Nat.shiftLeft_eq]

theorem roundPackG_le_posInf (fb emin m : Nat) (e : Int) :
    roundPackG fb emin false m e ≤ posInfG fb emin := by
  rw [roundPackG_false]
  unfold roundMagG
  split
  · exact Nat.zero_le _
  · exact Nat.min_le_right _ _

/-- a negative result lies between `-0.0` and `-∞` -/
theorem roundPackG_true (fb emin m : Nat) (e : Int) :
    signBitG fb emin ≤ roundPackG fb emin true m e ∧
      roundPackG fb emin true m e ≤ signBitG fb emin + posInfG fb emin := by
  have := roundPackG_le_posInf fb emin m e
  rw [roundPackG_false] at this
  unfold roundPackG
  rw [if_pos rfl]
  omega

theorem sigG_le (fb m N : Nat) (h : m * 2 ^ (fb - Nat.log2 m) ≤ N * 2 ^ (Nat.log2 m - fb)) :
    sigG fb m ≤ N := by
  unfold sigG
  split
  · rwa [show Nat.log2 m - fb = 0 by omega, Nat.pow_zero, Nat.mul_one] at h
  · rw [show fb - Nat.log2 m = 0 by omega, Nat.pow_zero, Nat.mul_one] at h
    exact rne_le_of_le h

/-- `h`: the exact value `m·2^e`, in units of the last place of its binade `E`, is at most `N`; `patG E N` is the
pattern whose significand, hidden bit included, is `N`. -/
theorem roundPackG_le (fb emin m : Nat) (e : Int) (hm : m ≠ 0) (N : Nat)
    (hE : -(emin : Int) ≤ (Nat.log2 m : Int) + e)
    (h : m * 2 ^ (fb - Nat.log2 m) ≤ N * 2 ^ (Nat.log2 m - fb)) :
    roundPackG fb emin false m e ≤ patG fb emin ((Nat.log2 m : Int) + e) N := by
  rw [roundPackG_normal fb emin m e hm hE]
  exact Nat.le_trans (Nat.min_le_left _ _) (Nat.add_le_add_left (sigG_le fb m N h) _)

/-- the significand of a positive number is below `2^(fb+1)` in the last place of its own binade -/
theorem sig_lt (fb m : Nat) :
    m * 2 ^ (fb - Nat.log2 m) ≤ 2 ^ (fb + 1) * 2 ^ (Nat.log2 m - fb) := by
  have h : m < 2 ^ (Nat.log2 m + 1) := Nat.lt_log2_self
  have : 2 ^ (Nat.log2 m + 1) * 2 ^ (fb - Nat.log2 m) = 2 ^ (fb + 1) * 2 ^ (Nat.log2 m - fb) := by
    rw [← Nat.pow_add, ← Nat.pow_add]; congr 1; omega
  rw [← this]
  exact Nat.mul_le_mul_right _ (Nat.le_of_lt h)

theorem patG_mono (fb emin : Nat) {E K : Int} {N : Nat} (hEK : E < K) (hE : -(emin : Int) ≤ E)
    (hN : N ≤ 2 ^ (fb + 1)) : patG fb emin E N ≤ patG fb emin K (2 ^ fb) := by
  unfold patG
  have h : ((E + emin).toNat + 1) * 2 ^ fb ≤ (K + emin).toNat * 2 ^ fb :=
    Nat.mul_le_mul_right _ (by omega)
  rw [Nat.add_mul, Nat.one_mul] at h
  rw [Nat.pow_succ] at hN
  omega

theorem patG_pow (fb emin : Nat) (K : Int) (hK : -(emin : Int) ≤ K) :
    patG fb emin K (2 ^ fb) = (K + emin + 1).toNat * 2 ^ fb := by
  unfold patG
  rw [show (K + emin + 1).toNat = (K + emin).toNat + 1 by omega, Nat.add_mul, Nat.one_mul]

/-- `hE`: the value is below `2^K`; underflow (gradual, or to zero) included. -/
theorem roundPackG_le_pow (fb emin m : Nat) (e : Int) (hm : m ≠ 0) (K : Int)
    (hE : (Nat.log2 m : Int) + e < K) :
    roundPackG fb emin false m e ≤ patG fb emin K (2 ^ fb) := by
  by_cases hn : -(emin : Int) ≤ (Nat.log2 m : Int) + e
  · exact Nat.le_trans (roundPackG_le fb emin m e hm _ hn (sig_lt fb m))
      (patG_mono fb emin hE hn (Nat.le_refl _))
  · rw [roundPackG_subnormal fb emin m e hm (by omega)]
    have hlt : m < 2 ^ (Nat.log2 m + 1) := Nat.lt_log2_self
    refine Nat.le_trans (Nat.min_le_left _ _) (Nat.le_trans ?_ (Nat.le_add_left _ _))
    split
    · refine Nat.le_trans (Nat.mul_le_mul_right _ (Nat.le_of_lt hlt)) ?_
      rw [← Nat.pow_add]
      exact Nat.pow_le_pow_right (by omega) (by omega)
    · apply rne_le_of_le
      rw [← Nat.pow_add]
      exact Nat.le_trans (Nat.le_of_lt hlt) (Nat.pow_le_pow_right (by omega) (by omega))

/-- `patG Eb N` is the pattern of `N·2^(Eb−fb)`; `h` is `m·2^e ≤ N·2^(Eb−fb)` cleared of negative exponents. -/
theorem roundPackG_le_val (fb emin m : Nat) (e : Int) (hm : m ≠ 0) (Eb : Int) (N : Nat)
    (hEb : -(emin : Int) ≤ Eb) (hN1 : 2 ^ fb ≤ N) (hN2 : N < 2 ^ (fb + 1))
    (h : m * 2 ^ (e + fb - Eb).toNat ≤ N * 2 ^ (Eb - fb - e).toNat) :
    roundPackG fb emin false m e ≤ patG fb emin Eb N := by
  -- the binade of the exact value is at most `Eb`
  have hEle : (Nat.log2 m : Int) + e ≤ Eb := by
    apply Classical.byContradiction
    intro hc
    have h1 : 2 ^ (Nat.log2 m + (e + fb - Eb).toNat) ≤ m * 2 ^ (e + fb - Eb).toNat := by
      rw [Nat.pow_add]; exact Nat.mul_le_mul_right _ (Nat.log2_self_le hm)
    have h2 : N * 2 ^ (Eb - fb - e).toNat < 2 ^ (fb + 1 + (Eb - fb - e).toNat) := by
      rw [Nat.pow_add]; exact Nat.mul_lt_mul_of_pos_right hN2 (Nat.two_pow_pos _)
    have h3 : 2 ^ (fb + 1 + (Eb - fb - e).toNat) ≤ 2 ^ (Nat.log2 m + (e + fb - Eb).toNat) :=
      Nat.pow_le_pow_right (by omega) (by omega)
    omega
  by_cases heq : (Nat.log2 m : Int) + e = Eb
  · rw [show (e + fb - Eb).toNat = fb - Nat.log2 m by omega,
      show (Eb - fb - e).toNat = Nat.log2 m - fb by omega] at h
    exact heq ▸ roundPackG_le fb emin m e hm N (by omega) h
  · refine Nat.le_trans (roundPackG_le_pow fb emin m e hm Eb (by omega)) ?_
    exact Nat.add_le_add_left hN1 _

/-- `h` is `m·2^e ≤ 2^-1` -/
theorem roundPackG_le_half (fb emin m : Nat) (e : Int) (hm : m ≠ 0) (hemin : 1 ≤ emin)
    (he : e ≤ -((fb : Int) + 1)) (h : m ≤ 2 ^ fb * 2 ^ (-((fb : Int) + 1) - e).toNat) :
    roundPackG fb emin false m e ≤ patG fb emin (-1) (2 ^ fb) := by
  apply roundPackG_le_val fb emin m e hm (-1) (2 ^ fb) (by omega) (Nat.le_refl _)
    (Nat.pow_lt_pow_right (by omega) (by omega))
  rw [show (e + fb - -1).toNat = 0 by omega, Nat.pow_zero, Nat.mul_one,
    show ((-1 : Int) - fb - e).toNat = (-((fb : Int) + 1) - e).toNat by omega]
  exact h

/-- A value `a·2^t·2^e` whose significand `a` has at most `fb + 1` bits and whose binade
`⌊log2 a⌋ + t + e` is in the normal range is represented exactly. -/
theorem roundPackG_exact (fb emin a t : Nat) (e : Int) (ha : a ≠ 0) (hab : a < 2 ^ (fb + 1))
    (hlo : -(emin : Int) ≤ (Nat.log2 a : Int) + t + e)
    (hhi : (Nat.log2 a : Int) + t + e ≤ (emin : Int) + 1) :
    roundPackG fb emin false (a * 2 ^ t) e =
      patG fb emin ((Nat.log2 a : Int) + t + e) (a * 2 ^ (fb - Nat.log2 a)) ∧
    2 ^ fb ≤ a * 2 ^ (fb - Nat.log2 a) ∧ a * 2 ^ (fb - Nat.log2 a) < 2 ^ (fb + 1) := by
  have hL : Nat.log2 a ≤ fb := by
    have := (Nat.log2_lt ha).mpr hab
    omega
  have hM1 : 2 ^ fb ≤ a * 2 ^ (fb - Nat.log2 a) := by
    have h1 := Nat.mul_le_mul_right (2 ^ (fb - Nat.log2 a)) (Nat.log2_self_le ha)
    rwa [← Nat.pow_add, show Nat.log2 a + (fb - Nat.log2 a) = fb by omega] at h1
  have hM2 : a * 2 ^ (fb - Nat.log2 a) < 2 ^ (fb + 1) := by
    have h1 := Nat.mul_lt_mul_of_pos_right (@Nat.lt_log2_self a) (Nat.two_pow_pos (fb - Nat.log2 a))
    rwa [← Nat.pow_add, show Nat.log2 a + 1 + (fb - Nat.log2 a) = fb + 1 by omega] at h1
  refine ⟨?_, hM1, hM2⟩
  have hm : a * 2 ^ t ≠ 0 := Nat.mul_ne_zero ha (Nat.pos_iff_ne_zero.mp (Nat.two_pow_pos t))
  have hlog := log2_mul_pow a t ha
  rw [roundPackG_normal fb emin _ e hm (by rw [hlog]; omega), hlog,
    show ((Nat.log2 a + t : Nat) : Int) + e = (Nat.log2 a : Int) + t + e by omega]
  have hsig : sigG fb (a * 2 ^ t) = a * 2 ^ (fb - Nat.log2 a) := by
    unfold sigG
    rw [hlog]
    split
    · rw [Nat.mul_assoc, ← Nat.pow_add]
      congr 2; omega
    · obtain ⟨k, hk, rfl⟩ : ∃ k, Nat.log2 a + t - fb = k ∧ t = (fb - Nat.log2 a) + k :=
        ⟨_, rfl, by omega⟩
      rw [hk, Nat.pow_add, ← Nat.mul_assoc]
      exact rne_exact _ _
  rw [hsig]
  apply Nat.min_eq_left
  unfold patG posInfG
  have h : (((Nat.log2 a : Int) + t + e + emin).toNat + 2) * 2 ^ fb ≤ (2 * emin + 3) * 2 ^ fb :=
    Nat.mul_le_mul_right _ (by omega)
  rw [Nat.add_mul] at h
  rw [Nat.pow_succ] at hM2
  omega

end Dds.RoundPack

open Dds.RoundPack in
theorem Dds.CF32.roundPack_eq (s : Bool) (m : Nat) (e : Int) :
    roundPack s m e = roundPackG 23 126 s m e := by
  unfold roundPack roundPackG roundMagG patG
  simp only [force_eq, forceI_eq, sat_eq, beq_iff_eq, ConvFast.rne, Nat.shiftLeft_eq, Int.reduceNeg,
    ge_iff_le]
  by_cases hm : m = 0
  · rw [if_pos hm, if_pos hm]; rfl
  · rw [if_neg hm, if_neg hm]; rfl

open Dds.RoundPack Dds.CF32 in
theorem Dds.CF64.roundPack_eq (s : Bool) (m : Nat) (e : Int) :
    roundPack s m e = roundPackG 52 1022 s m e := by
  unfold roundPack roundPackG roundMagG patG
  simp only [force_eq, forceI_eq, sat_eq, beq_iff_eq, ConvFast.rne, Nat.shiftLeft_eq, Int.reduceNeg,
    ge_iff_le]
  by_cases hm : m = 0
  · rw [if_pos hm, if_pos hm]; rfl
  · rw [if_neg hm, if_neg hm]; rfl
