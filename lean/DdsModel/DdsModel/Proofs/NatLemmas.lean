/- Arithmetic of strided views, scaled ranges, block counts and bit fields over plain naturals, free of the records
the facts are used on. -/
import DdsModel.Proofs.DivCeil

theorem Nat.mul_pred_add (a : Nat) {h : Nat} (hp : 0 < h) : a * (h - 1) + a = a * h := by
  cases h with
  | zero => cases hp
  | succ k => rw [Nat.succ_sub_one, Nat.mul_succ]

theorem Nat.pred_mul_add (a : Nat) {h : Nat} (hp : 0 < h) : (h - 1) * a + a = h * a := by
  rw [Nat.mul_comm, Nat.mul_pred_add a hp, Nat.mul_comm]

theorem Nat.add_mul_sub_mul (a b c : Nat) : (a + b) * c - a * c = b * c := by rw [Nat.add_mul, Nat.add_sub_cancel_left]

namespace Dds

/-- `|` on disjoint bit ranges is `+` -/
theorem or_shl_eq_add (x v k : Nat) (h : x < 2 ^ k) : x ||| v <<< k = x + v * 2 ^ k := by
  rw [Nat.or_comm, ← Nat.shiftLeft_add_eq_or_of_lt h, Nat.shiftLeft_eq, Nat.add_comm]

/-- pixels `[a, a + b)` of `w`, scaled by the pixel size -/
theorem add_mul_le_mul {a b w : Nat} (h : a + b ≤ w) (s : Nat) : a * s + b * s ≤ w * s := by
  rw [← Nat.add_mul]; exact Nat.mul_le_mul_right _ h

/-- the sub-range `[cs, ce)` of `[0, w)`, scaled by an element size -/
theorem scale_range {cs ce w : Nat} (h : cs ≤ ce) (h' : ce ≤ w) (e : Nat) :
    cs * e ≤ ce * e ∧ ce * e ≤ w * e ∧ ce * e - cs * e = (ce - cs) * e :=
  ⟨Nat.mul_le_mul_right _ h, Nat.mul_le_mul_right _ h', (Nat.sub_mul ..).symm⟩

/-! ### a view of `h` rows, `pitch` bytes apart, `rb` bytes each: `len = pitch * (h - 1) + rb` -/

theorem geom_rows_le {len pitch h rb y k : Nat} (hl : len = pitch * (h - 1) + rb) (hk : 0 < k) (hy : y + k ≤ h) :
    y * pitch + (k - 1) * pitch + rb ≤ len := by
  have : (y + (k - 1)) * pitch ≤ (h - 1) * pitch := Nat.mul_le_mul_right _ (by omega)
  rw [Nat.add_mul, Nat.mul_comm (h - 1)] at this
  omega

theorem geom_row_le {len pitch h rb y : Nat} (hl : len = pitch * (h - 1) + rb) (hy : y < h) :
    y * pitch + rb ≤ len := by
  have := geom_rows_le (k := 1) hl (by omega) hy
  omega

theorem geom_pitch_mul_h_lt {len pitch h rb B : Nat} (hl : len = pitch * (h - 1) + rb) (hh : 0 < h) (hp : pitch < B)
    (h2 : 2 * len < B) : pitch * h < B := by
  rw [← Nat.mul_pred_add pitch hh]
  by_cases h1 : h = 1
  · subst h1; omega
  · have : pitch * 1 ≤ pitch * (h - 1) := Nat.mul_le_mul_left _ (by omega)
    omega

theorem geom_contig_iff {len pitch h rb : Nat} (hl : len = pitch * (h - 1) + rb) (hh : 0 < h) :
    pitch * h = len ↔ pitch = rb := by
  rw [← Nat.mul_pred_add pitch hh]; omega

/-- a range of `w` pixels that starts at pixel `wo < bx` of a block: the first block holds `pw` of them, the rest is
block-aligned -/
structure OffsetSplit (bx w wo pw : Nat) : Prop where
  pos : 0 < pw
  le : pw ≤ w
  fit : pw + wo ≤ bx
  head : divCeil (pw + wo) bx = 1
  rest : divCeil (w + wo) bx = divCeil (w - pw) bx + 1

theorem offsetSplit {bx w wo : Nat} (hwo : wo < bx) (hw : 0 < w) : OffsetSplit bx w wo (min (bx - wo) w) := by
  refine ⟨by omega, by omega, by omega, divCeil_eq_one (by omega) (by omega), ?_⟩
  by_cases hc : w ≤ bx - wo
  · rw [Nat.min_eq_right hc, Nat.sub_self, divCeil_zero, divCeil_eq_one (by omega) (by omega)]
  · rw [Nat.min_eq_left (by omega)]
    have : w + wo = (w - (bx - wo)) + bx := by omega
    rw [this, divCeil_add_self _ _ (by omega)]

theorem OffsetSplit.bytes {bx w wo pw len bpb : Nat} (s : OffsetSplit bx w wo pw)
    (hl : len = divCeil (w + wo) bx * bpb) : bpb ≤ len ∧ len - bpb = divCeil (w - pw) bx * bpb := by
  rw [hl, s.rest, Nat.succ_mul]
  exact ⟨Nat.le_add_left _ _, Nat.add_sub_cancel ..⟩

end Dds
