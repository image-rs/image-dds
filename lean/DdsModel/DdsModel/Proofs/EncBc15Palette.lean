/-
C13, BC1–BC5 encoder core: the encoder's OWN palette, evaluated in binary32 (`Palette::new_p4`, `Palette::new_p3` of
bc1.rs over `n5::f32` / `n6::f32`; `Inter6Palette::closest`, `Inter4Palette::new` of bc4.rs), against the decoder's 8-bit
palette (`Bc.lean`, = the exact rational entries of `BcSpec.lean` rounded to nearest).  The checkers here are evaluated
completely over their finite domains in `Proofs/EncBc15PalColour.lean` and `Proofs/EncBc15PalBc4.lean`; each comes with
the lemma that reads it back in the model's terms.  They compute with the operators of `Proofs/ConvFast.lean` (equal to
the model's `fmul` / `fadd` for all arguments) because the model's `fadd` with a zero operand (every pair with a zero
endpoint) rounds a 150-bit sum, which the kernel evaluates far more slowly than anything else here.  A finite binary32 value is the integer fraction `mant / 2^(−expo)`.
-/
import DdsModel.EncBc15
import DdsModel.Range
import DdsModel.Proofs.ConvFast
namespace Dds.Enc15
open Dds Dds.Bc Dds.Enc13 Dds.ConvFast
open Dds.F32.Raw (lz lz_eq nadd nsub nmul ndiv npow ble_dec blt_dec cond_dec)

theorem f32Frac_spec (v : Nat) (h : f32Small v = true) :
    CF32.toRat v = ((f32Frac v).1 : Rat) / ((f32Frac v).2 : Rat) := by
  unfold f32Small at h
  simp only [Bool.and_eq_true, decide_eq_true_eq] at h
  obtain ⟨hfin, hexp⟩ := h
  have hv : v < 0x7F800000 := hfin
  have h1 : (CF32.expField v == 255) = false := by
    rw [beq_eq_false_iff_ne, expField_eq]; omega
  unfold CF32.toRat f32Frac
  simp only [h1, (posfin v hv).2.2.1, Bool.false_eq_true, if_false]
  unfold CF32.pow2
  rw [if_neg (by omega), Rat.div_def, Rat.div_def, Rat.one_mul]


/-- `v` is finite and non-negative with a negative exponent (`f32Small`), its nearest 8-bit value (`f32Nearest8`)
satisfies `near`, and it lies within `2^-22` of `n / den` (`f32Within22`); written with the primitives the kernel
evaluates directly, on the significand `M` and the denominator `D = 2^(−expo)` of `f32Frac` -/
def okFast (near : Nat → Bool) (v n den : Nat) : Bool :=
  Nat.blt v 0x7F800000 && Nat.blt (bexpR v) 1000 &&
    lz (mantR v) fun M => lz (Nat.pow 2 (Nat.sub 1000 (bexpR v))) fun D =>
      near (Nat.div (Nat.add (Nat.mul 510 M) D) (Nat.mul 2 D)) &&
      lz (Nat.mul M den) fun x => lz (Nat.mul n D) fun y =>
      Nat.ble (Nat.mul (cond (Nat.ble y x) (Nat.sub x y) (Nat.sub y x)) 4194304) (Nat.mul den D)

theorem okFast_eq (near : Nat → Bool) (v n den : Nat) :
    okFast near v n den = (f32Small v && near (f32Nearest8 v) && f32Within22 v n den) := by
  unfold okFast f32Small f32Nearest8 f32Within22 f32Frac absDiff CF32.posInf
  by_cases hv : v < 0x7F800000
  · obtain ⟨_, _, _, hm, he⟩ := posfin v hv
    rw [hm, he]
    simp only [lz_eq, nadd, nsub, nmul, ndiv, npow, blt_dec, ble_dec, cond_dec, ge_iff_le]
    by_cases hb : bexpR v < 1000
    · have e1 : (bexpR v : Int) - 1000 < 0 := by omega
      have e2 : (-((bexpR v : Int) - 1000)).toNat = 1000 - bexpR v := by omega
      simp only [hv, hb, e1, e2, decide_true, Bool.true_and]
    · have e1 : ¬ (bexpR v : Int) - 1000 < 0 := by omega
      simp only [hv, hb, e1, decide_true, decide_false, Bool.false_and, Bool.and_false]
  · simp only [blt_dec, hv, decide_false, Bool.false_and]

/-- one palette entry `v` (f32) against the decoder's 8-bit value `d` and the exact entry `n / den` -/
def okEntry (v d n den : Nat) : Bool :=
  CF32.force v fun v => okFast (· == d) v n den

theorem okEntry_iff (v d n den : Nat) :
    okEntry v d n den = true ↔ f32Small v = true ∧ f32Nearest8 v = d ∧ f32Within22 v n den = true := by
  unfold okEntry
  simp only [CF32.force_eq, okFast_eq, Bool.and_eq_true, beq_iff_eq, and_assoc]

/-- the exact value is the tie `d − 1/2` (then the decoder shows `d` and the f32 value may sit just below) -/
def isTie (n den d : Nat) : Bool := 510 * n + den == 2 * d * den

/-- as `okEntry`, an exact tie of the exact entry excepted from the rounding clause -/
def okEntryT (v d n den : Nat) : Bool :=
  CF32.force v fun v => CF32.force d fun d => okFast (fun r => r == d || isTie n den d) v n den

theorem okEntryT_iff (v d n den : Nat) :
    okEntryT v d n den = true ↔
      f32Small v = true ∧ (f32Nearest8 v = d ∨ 510 * n + den = 2 * d * den) ∧ f32Within22 v n den = true := by
  unfold okEntryT isTie
  simp only [CF32.force_eq, okFast_eq, Bool.and_eq_true, Bool.or_eq_true, beq_iff_eq, and_assoc]

/-! ### colour palettes (bc1.rs) -/

/-- entries 2 and 3 of P4 and entry 2 of P3 over the pair `(a, b)` of channel levels `0..m`, against the decoder's
integer palette (`third`, `mid` = `Bc.third5/6`, `Bc.mid5/6`) -/
def chkPair (m : Nat) (conv : Nat → Nat) (third mid : Nat → Nat → Nat) (a b : Nat) : Bool :=
  CF32.force (conv a) fun c0 => CF32.force (conv b) fun c1 =>
  okEntry (addR (mulR c0 K23) (mulR c1 K13)) (third a b) (2 * a + b) (3 * m) &&
  okEntry (addR (mulR c0 K13) (mulR c1 K23)) (third b a) (a + 2 * b) (3 * m) &&
  okEntry (mulR (addR c0 c1) CF32.half) (mid a b) (a + b) (2 * m)

theorem chkPair_spec {m : Nat} {conv : Nat → Nat} {third mid : Nat → Nat → Nat} {a b : Nat}
    (h : chkPair m conv third mid a b = true) :
    okEntry (p4Entry (conv a) (conv b) 2) (third a b) (2 * a + b) (3 * m) = true ∧
    okEntry (p4Entry (conv a) (conv b) 3) (third b a) (a + 2 * b) (3 * m) = true ∧
    okEntry (p3Entry (conv a) (conv b) 2) (mid a b) (a + b) (2 * m) = true := by
  unfold chkPair at h
  simp only [CF32.force_eq, mulR_eq, addR_eq, Bool.and_eq_true] at h
  exact ⟨h.1.1, h.1.2, h.2⟩

/-- one channel width: for every level `a` the endpoint itself (entries 0 and 1, against `n8` = `Bc.n5n8/n6n8`) and
`chkPair` with every `b` -/
def chkChannel (m : Nat) (conv n8 : Nat → Nat) (third mid : Nat → Nat → Nat) : Bool :=
  allRange (fun a => okEntry (conv a) (n8 a) a m && allRange (chkPair m conv third mid a) 2 0 (m + 1)) 2 0 (m + 1)

theorem chkChannel_spec {m : Nat} {conv n8 : Nat → Nat} {third mid : Nat → Nat → Nat}
    (h : chkChannel m conv n8 third mid = true) (a : Nat) (ha : a ≤ m) :
    okEntry (conv a) (n8 a) a m = true ∧ ∀ b, b ≤ m → chkPair m conv third mid a b = true := by
  have hr := allRange_le h a ha
  rw [Bool.and_eq_true] at hr
  exact ⟨hr.1, allRange_le hr.2⟩

/-! ### BC4-type palettes (bc4.rs `Inter6Palette::closest`, `Inter4Palette::new`) -/

/-- endpoint bytes of the levels `(l0, l1)` -/
def byteOf (snorm : Bool) (l : Nat) : Nat := if snorm then fromNorm l else l
def opsOf (snorm : Bool) : Bc4Ops := if snorm then bc4sOps .u8 else bc4uOps .u8
def denOf (snorm : Bool) : Nat := if snorm then 254 else 255

/-- the decoder's 8-bit palette entry `k` of the pair with levels `(l0, l1)` -/
def dec4 (snorm six : Bool) (l0 l1 k : Nat) : Nat :=
  bc4Lut (opsOf snorm) ((opsOf snorm).fromByte (byteOf snorm l0)) ((opsOf snorm).fromByte (byteOf snorm l1)) l0 l1 six k

/-- six-interpolant pair of levels `hi > lo`: for every step `j = 1..7` the value `closest` computes,
`j as f32 * factor2 + c1`, against the decoder's entry of the index `INDEX_MAP[j]` and the exact
`(j·hi + (7−j)·lo)/(7·m)` -/
def chk6Pair (snorm : Bool) (hi lo : Nat) : Bool :=
  let e := endpointsOfBytes snorm (byteOf snorm hi) (byteOf snorm lo)
  CF32.force e.c0f fun c0f => CF32.force e.c1f fun c1f =>
  CF32.force (mulR K17 (CF32.fsub c0f c1f)) fun f2 =>
  (List.range' 1 7).all fun j =>
    okEntryT (addR (mulR (ofNatR j) f2) c1f) (dec4 snorm true hi lo (INDEX_MAP.getD j 0))
      (j * hi + (7 - j) * lo) (7 * denOf snorm)

theorem chk6Pair_spec {snorm : Bool} {hi lo : Nat} (h : chk6Pair snorm hi lo = true) (j : Nat) (hj1 : 1 ≤ j) (hj : j < 8) :
    let e := endpointsOfBytes snorm (byteOf snorm hi) (byteOf snorm lo)
    okEntryT ((Inter6Palette.new e.c0f e.c1f).stepValue j) (dec4 snorm true hi lo (INDEX_MAP.getD j 0))
      (j * hi + (7 - j) * lo) (7 * denOf snorm) = true := by
  unfold chk6Pair at h
  simp only [CF32.force_eq, mulR_eq, addR_eq, ofNatR_eq, List.all_eq_true, List.mem_range'_1] at h
  exact h j ⟨hj1, by omega⟩

/-- numerator / denominator of the exact entry `k` of the four-interpolant palette over the levels `(l0, l1)` of `m` -/
def num4 (l0 l1 m k : Nat) : Nat :=
  if k = 0 then l0 else if k = 1 then l1 else if k = 6 then 0 else if k = 7 then 1 else (6 - k) * l0 + (k - 1) * l1
def den4 (m k : Nat) : Nat := if k = 0 ∨ k = 1 then m else if k = 6 ∨ k = 7 then 1 else 5 * m

/-- `inter4Colors` in the fast operators -/
def inter4Fast (c0 c1 : Nat) : List Nat :=
  [c0, c1,
   addR (mulR c0 K08) (mulR c1 K02),
   addR (mulR c0 K06) (mulR c1 K04),
   addR (mulR c0 K04) (mulR c1 K06),
   addR (mulR c0 K02) (mulR c1 K08),
   0, CF32.one]

theorem inter4Fast_eq (c0 c1 : Nat) : inter4Fast c0 c1 = inter4Colors c0 c1 := by
  unfold inter4Fast inter4Colors
  simp only [mulR_eq, addR_eq]

/-- four-interpolant pair of levels `lo < hi`: `Inter4Palette::new(c0, c1).colors[k]` against the decoder's entry `k`
and the exact `((6−k)·lo + (k−1)·hi)/(5·m)`, `0`, `1` -/
def chk4Pair (snorm : Bool) (lo hi : Nat) : Bool :=
  let e := endpointsOfBytes snorm (byteOf snorm lo) (byteOf snorm hi)
  CF32.force e.c0f fun c0f => CF32.force e.c1f fun c1f =>
  (List.range 8).all fun k =>
    okEntryT ((inter4Fast c0f c1f).getD k 0) (dec4 snorm false lo hi k) (num4 lo hi (denOf snorm) k) (den4 (denOf snorm) k)

theorem chk4Pair_spec {snorm : Bool} {lo hi : Nat} (h : chk4Pair snorm lo hi = true) (k : Nat) (hk : k < 8) :
    let e := endpointsOfBytes snorm (byteOf snorm lo) (byteOf snorm hi)
    okEntryT ((inter4Colors e.c0f e.c1f).getD k 0) (dec4 snorm false lo hi k) (num4 lo hi (denOf snorm) k)
      (den4 (denOf snorm) k) = true := by
  unfold chk4Pair at h
  simp only [CF32.force_eq, inter4Fast_eq, List.all_eq_true, List.mem_range] at h
  exact h k hk

/-- the sub-domain of endpoint-level pairs `(hi, lo)`, `lo ≥ 1`, the BC4 palette theorem covers: `kind 0`: `(m, i + 1)`
(high endpoint at the top), `kind 1`: `(i + 2, i + 1)` (adjacent levels) -/
def subPair (snorm : Bool) (kind i : Nat) : Nat × Nat :=
  if kind = 0 then (denOf snorm, i + 1) else (i + 2, i + 1)

/-- both palettes over every pair of the sub-domain -/
def chkSub (snorm : Bool) : Bool :=
  allRange (fun kind => allRange (fun i =>
    chk6Pair snorm (subPair snorm kind i).1 (subPair snorm kind i).2 &&
    chk4Pair snorm (subPair snorm kind i).2 (subPair snorm kind i).1) 4 0 (denOf snorm - 1)) 0 0 2

theorem chkSub_spec {snorm : Bool} (h : chkSub snorm = true) (kind i : Nat) (hk : kind < 2) (hi : i + 1 < denOf snorm) :
    chk6Pair snorm (subPair snorm kind i).1 (subPair snorm kind i).2 = true ∧
    chk4Pair snorm (subPair snorm kind i).2 (subPair snorm kind i).1 = true := by
  have hr := allRange_lt (allRange_lt h kind hk) i (by omega)
  rw [Bool.and_eq_true] at hr
  exact hr

end Dds.Enc15
