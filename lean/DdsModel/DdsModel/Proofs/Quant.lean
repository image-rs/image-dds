/- Helper lemmas for C12 (core only). Property theorems are in `Theorems/C12.lean`. -/
import DdsModel.Quant
import DdsModel.Range
import DdsModel.Proofs.RatLemmas
namespace Dds.Quant

theorem le_div_of_mul_le {a b c : Rat} (hc : 0 < c) (h : a * c ≤ b) : a ≤ b / c :=
  (rat_le_div_iff hc).mpr h

/-! ### the quantiser on ratios is integer arithmetic -/

theorem clamp01_of_mem {x : Rat} (h0 : 0 ≤ x) (h1 : x ≤ 1) : clamp01 x = x := by
  unfold clamp01
  rw [if_neg (Rat.not_lt.mpr h0), if_neg (Rat.not_lt.mpr h1)]

theorem clamp01_mem (x : Rat) : 0 ≤ clamp01 x ∧ clamp01 x ≤ 1 := by
  unfold clamp01
  by_cases h : x < 0
  · rw [if_pos h]; exact ⟨Rat.le_refl, by decide⟩
  · rw [if_neg h]
    by_cases h' : 1 < x
    · rw [if_pos h']; exact ⟨by decide, Rat.le_refl⟩
    · rw [if_neg h']; exact ⟨Rat.not_lt.mp h, Rat.not_lt.mp h'⟩

theorem ratio_mem {a b : Nat} (hb : 0 < b) (hab : a ≤ b) :
    0 ≤ (a : Rat) / (b : Rat) ∧ (a : Rat) / (b : Rat) ≤ 1 :=
  have hbr : (0 : Rat) < (b : Rat) := Rat.natCast_pos.mpr hb
  ⟨rat_div_nonneg Rat.natCast_nonneg hbr,
    (rat_div_le_iff hbr).mpr (by rw [Rat.one_mul]; exact Rat.natCast_le_natCast.mpr hab)⟩

theorem ratio_mul (a b L : Nat) : (a : Rat) / (b : Rat) * (L : Rat) = ((a * L : Nat) : Rat) / (b : Rat) := by
  rw [Rat.natCast_mul, Rat.div_def, Rat.div_def, Rat.mul_assoc, Rat.mul_comm _ (L : Rat), Rat.mul_assoc]

theorem roundHalfUp_ratio (A B : Nat) (hB : 0 < B) : roundHalfUp ((A : Rat) / (B : Rat)) = (2 * A + B) / (2 * B) :=
  congrArg Int.toNat (floor_add_half A B hB)

theorem qL_ratio (L a b : Nat) (hb : 0 < b) (hab : a ≤ b) :
    qL L ((a : Rat) / (b : Rat)) = qRatio L a b := by
  obtain ⟨h0, h1⟩ := ratio_mem hb hab
  unfold qL qRatio
  rw [clamp01_of_mem h0 h1, ratio_mul, roundHalfUp_ratio _ _ hb, Nat.mul_assoc]

theorem div_eq_of_bounds {m n k : Nat} (lo : k * n ≤ m) (hi : m < k * n + n) : m / n = k := by
  have hn : 0 < n := by
    rcases Nat.eq_zero_or_pos n with h | h
    · subst h; omega
    · exact h
  apply Nat.div_eq_of_lt_le lo
  rw [Nat.add_mul]; omega

/-- the code of the ratio clamped to 1, written with the comparison outside -/
theorem qRatio_min (L a b : Nat) (hb : 0 < b) :
    qRatio L (min a b) b = if b ≤ a then L else (2 * L * a + b) / (2 * b) := by
  unfold qRatio
  by_cases h : b ≤ a
  · rw [if_pos h, Nat.min_eq_right h, Nat.mul_comm (2 * b) L]
    exact div_eq_of_bounds (Nat.le_add_right _ _) (by omega)
  · rw [if_neg h, Nat.min_eq_left (by omega), Nat.mul_right_comm]

theorem qRatio_le (N L v : Nat) (hN : 0 < N) (hv : v ≤ N) : qRatio L v N ≤ L := by
  unfold qRatio
  apply Nat.le_of_lt_succ
  apply Nat.div_lt_of_lt_mul
  -- 2 v L + N < 2 N (L+1)
  have h : v * L ≤ N * L := Nat.mul_le_mul_right L hv
  have e1 : 2 * v * L = 2 * (v * L) := Nat.mul_assoc 2 v L
  have e2 : 2 * N * (L + 1) = 2 * (N * L) + 2 * N := by
    rw [Nat.mul_add, Nat.mul_one, Nat.mul_assoc]
  rw [e1, e2]; omega

theorem qRatio_roundtrip (N L v : Nat) (hN : 0 < N) (hNL : N ≤ L) (hv : v ≤ N) :
    qRatio N (qRatio L v N) L = v := by
  have hL : 0 < L := by omega
  unfold qRatio
  generalize hu : (2 * v * L + N) / (2 * N) = u
  have h1 : u * (2 * N) ≤ 2 * v * L + N := by rw [← hu]; exact Nat.div_mul_le_self _ _
  have h2 : 2 * v * L + N < u * (2 * N) + 2 * N := by
    rw [← hu]; exact Nat.lt_div_mul_add (by omega)
  have e1 : 2 * v * L = 2 * (v * L) := Nat.mul_assoc 2 v L
  have e2 : u * (2 * N) = 2 * (u * N) := by rw [Nat.mul_left_comm]
  have e3 : 2 * u * N = 2 * (u * N) := Nat.mul_assoc 2 u N
  have e4 : v * (2 * L) = 2 * (v * L) := by rw [Nat.mul_left_comm]
  rw [e1, e2] at h1 h2
  apply div_eq_of_bounds
  · rw [e3, e4]
    omega
  · rw [e3, e4]
    by_cases hNL' : N < L
    · omega
    · have hEq : N = L := by omega
      subst hEq
      -- 2 (u N) ≤ 2 (v N) + N < 2 (u N) + 2 N  ⇒  u = v
      have : u = v := by
        rcases Nat.lt_trichotomy u v with h | h | h
        · have : (u + 1) * N ≤ v * N := Nat.mul_le_mul_right N h
          rw [Nat.add_mul] at this; omega
        · exact h
        · have : (v + 1) * N ≤ u * N := Nat.mul_le_mul_right N h
          rw [Nat.add_mul] at this; omega
      subst this; omega

/-- general level-count round trip: N+1 levels stored in L+1 ≥ N+1 levels come back -/
theorem qL_roundtrip (N L v : Nat) (hN : 0 < N) (hNL : N ≤ L) (hv : v ≤ N) :
    qL N (deqL L (qL L (deqL N v))) = v := by
  unfold deqL
  rw [qL_ratio L v N hN hv, qL_ratio N _ L (by omega) (qRatio_le N L v hN hv)]
  exact qRatio_roundtrip N L v hN hNL hv

theorem roundHalfUp_bounds (y : Rat) (hy : 0 ≤ y) :
    ((roundHalfUp y : Nat) : Rat) ≤ y + 1/2 ∧ y + 1/2 < ((roundHalfUp y : Nat) : Rat) + 1 := by
  unfold roundHalfUp
  have hpos : (0 : Int) ≤ (y + 1/2).floor := by
    apply Rat.le_floor_iff.mpr
    have : ((0 : Int) : Rat) = 0 := rfl
    rw [this]; grind
  have hcast : (((y + 1/2).floor.toNat : Nat) : Rat) = (((y + 1/2).floor : Int) : Rat) := by
    rw [← Rat.intCast_natCast, Int.toNat_of_nonneg hpos]
  rw [hcast]
  constructor
  · exact Rat.floor_le _
  · have := Rat.lt_floor_add_one (y + 1/2)
    rw [Rat.intCast_add] at this
    exact this

theorem qL_half_step (L : Nat) (hL : 0 < L) (x : Rat) :
    deqL L (qL L x) - clamp01 x ≤ 1 / (2 * (L : Rat)) ∧
    -(1 / (2 * (L : Rat))) ≤ deqL L (qL L x) - clamp01 x := by
  obtain ⟨c0, c1⟩ := clamp01_mem x
  have hLr : (0 : Rat) < (L : Rat) := Rat.natCast_pos.mpr hL
  have hLne : (L : Rat) ≠ 0 := by grind
  have hy : 0 ≤ clamp01 x * (L : Rat) := Rat.mul_nonneg c0 (Rat.le_of_lt hLr)
  obtain ⟨b1, b2⟩ := roundHalfUp_bounds _ hy
  unfold deqL qL
  generalize ((roundHalfUp (clamp01 x * (L : Rat)) : Nat) : Rat) = u at b1 b2
  generalize clamp01 x = c at *
  have hi : 0 < (L : Rat)⁻¹ := Rat.inv_pos.mpr hLr
  have hmul : (L : Rat) * (L : Rat)⁻¹ = 1 := Rat.mul_inv_cancel _ hLne
  generalize (L : Rat) = l at *
  rw [Rat.div_def, Rat.div_def]
  have e : (2 * l)⁻¹ = (1/2) * l⁻¹ := by
    rw [Rat.inv_mul_rev]; grind
  rw [e]
  generalize l⁻¹ = i at *
  have m1 := Rat.mul_le_mul_of_nonneg_right b1 (Rat.le_of_lt hi)
  have m2 := Rat.mul_lt_mul_of_pos_right b2 hi
  have e2 : (c * l + 1 / 2) * i = c + (1/2) * i := by
    have : c * l * i = c * (l * i) := Rat.mul_assoc c l i
    rw [Rat.add_mul, this, hmul, Rat.mul_one]
  have e3 : (u + 1) * i = u * i + i := by rw [Rat.add_mul, Rat.one_mul]
  rw [e2] at m1 m2
  rw [e3] at m2
  constructor <;> grind

theorem qL_le (L : Nat) (x : Rat) : qL L x ≤ L := by
  obtain ⟨c0, c1⟩ := clamp01_mem x
  have hLr : (0 : Rat) ≤ (L : Rat) := Rat.natCast_nonneg
  have hy : 0 ≤ clamp01 x * (L : Rat) := Rat.mul_nonneg c0 hLr
  obtain ⟨b1, _⟩ := roundHalfUp_bounds _ hy
  unfold qL
  generalize roundHalfUp (clamp01 x * (L : Rat)) = u at b1
  have h : clamp01 x * (L : Rat) ≤ (L : Rat) := by
    have := Rat.mul_le_mul_of_nonneg_right c1 hLr
    rw [Rat.one_mul] at this; exact this
  have h2 : (u : Rat) < ((L + 1 : Nat) : Rat) := by
    rw [Rat.natCast_add]; have : ((1 : Nat) : Rat) = 1 := rfl
    rw [this]; grind
  have := Rat.natCast_lt_natCast.mp h2
  omega

theorem two_pow_pred (m : Nat) (hm : 1 ≤ m) : 2 ^ m = 2 * 2 ^ (m - 1) := by
  obtain ⟨k, rfl⟩ : ∃ k, m = k + 1 := ⟨m - 1, by omega⟩
  rw [Nat.pow_succ, Nat.add_sub_cancel, Nat.mul_comm]

theorem snormNorm_ofNorm (m t : Nat) (hm : 1 ≤ m) (ht : t ≤ snormLevels m) :
    snormNorm m (snormOfNorm m t) = t := by
  unfold snormNorm snormOfNorm snormLevels at *
  rw [two_pow_pred m hm] at *
  generalize 2 ^ (m - 1) = H at *
  have hH : 0 < H ∨ H = 0 := by omega
  by_cases h : t + 1 < H
  · rw [Nat.mod_eq_of_lt (by omega : t + 1 + H < 2 * H)]
    have : t + 1 + H + H = t + 1 + 2 * H := by omega
    rw [this, Nat.add_mod_right, Nat.mod_eq_of_lt (by omega)]; omega
  · by_cases hz : H = 0
    · subst hz; omega
    · have e : (t + 1 + H) % (2 * H) = t + 1 - H := by
        rw [Nat.mod_eq_sub_mod (by omega), Nat.mod_eq_of_lt (by omega)]; omega
      rw [e]
      have : t + 1 - H + H = t + 1 := by omega
      rw [this, Nat.mod_eq_of_lt (by omega)]; omega

theorem snormOfNorm_ne_min (m t : Nat) (hm : 2 ≤ m) (ht : t ≤ snormLevels m) :
    snormOfNorm m t ≠ 2 ^ (m - 1) := by
  unfold snormOfNorm snormLevels at *
  rw [two_pow_pred m (by omega)] at *
  have hH2 : 2 ≤ 2 ^ (m - 1) := by
    have : 2 ^ 1 ≤ 2 ^ (m - 1) := Nat.pow_le_pow_right (by omega) (by omega)
    simpa using this
  generalize 2 ^ (m - 1) = H at *
  by_cases h : t + 1 < H
  · rw [Nat.mod_eq_of_lt (by omega : t + 1 + H < 2 * H)]; omega
  · have e : (t + 1 + H) % (2 * H) = t + 1 - H := by
      rw [Nat.mod_eq_sub_mod (by omega), Nat.mod_eq_of_lt (by omega)]; omega
    rw [e]; omega

theorem snormNorm_min (m : Nat) (hm : 2 ≤ m) :
    snormNorm m (2 ^ (m - 1)) = 0 ∧ snormNorm m (2 ^ (m - 1) + 1) = 0 := by
  unfold snormNorm
  rw [two_pow_pred m (by omega)]
  have hH2 : 2 ≤ 2 ^ (m - 1) := by
    have : 2 ^ 1 ≤ 2 ^ (m - 1) := Nat.pow_le_pow_right (by omega) (by omega)
    simpa using this
  generalize 2 ^ (m - 1) = H at *
  constructor
  · have : H + H = 2 * H := by omega
    rw [this, Nat.mod_self]
  · have : H + 1 + H = 1 + 2 * H := by omega
    rw [this, Nat.add_mod_right, Nat.mod_eq_of_lt (by omega)]

end Dds.Quant
