/-
C01, reader ⊑ cursor: every call of the `Decoder` API satisfies `StepOK` (see `Proofs/ReaderRefines.lean`), the two
rewinding calls `BackOK`.
-/
import DdsModel.Proofs.ReaderRefines
namespace Dds.Reader
open Dds Dds.Stream Dds.C08

/-! ### `decode` / `decode_rect` of the current surface -/

theorem plan_overflow {f : Fam} (c : Colour) {call : Call}
    (hov : checkLikelyOverflow f call.surface.1 call.surface.2 = false) :
    plan f c call = .error .memLimit := by
  cases call <;> exact if_pos hov

theorem normSize_cases (w h : Nat) :
    normSize w h = (0, 0) ∨ (normSize w h = (w, h) ∧ w ≠ 0 ∧ h ≠ 0) := by
  unfold normSize
  by_cases he : w = 0 ∨ h = 0
  · rw [if_pos he]; exact Or.inl rfl
  · rw [if_neg he]; exact Or.inr ⟨rfl, by omega, by omega⟩

/-- `Size::contains_rect` on a normalised view size is the acceptance condition of `decode_rect` -/
theorem containsRect_iff (W H x y w h : Nat) :
    containsRect W H x y (normSize w h).1 (normSize w h).2 = true ↔
      (if (normSize w h).1 = 0 ∨ (normSize w h).2 = 0 then x ≤ W ∧ y ≤ H
       else x + (normSize w h).1 ≤ W ∧ y + (normSize w h).2 ≤ H) := by
  unfold containsRect
  rcases normSize_cases w h with hn | ⟨hn, hw, hh⟩
  · rw [hn]; simp
  · rw [hn]
    simp only
    rw [if_neg (by omega)]
    simp

/-- The reader decodes `call` for the current surface `cur`, the ideal decoder applies the guard `g`:
both refuse a surface of more than `isize::MAX` bytes, both refuse a rectangle that is not inside the
surface (`inb`), otherwise the surface is decoded on one side and consumed on the other. -/
theorem decode_at_current {k : Cfg} (hk : k.Agrees) {base : Nat} {s : RS} {d : Dec} (h : Sim k base s d)
    {cur : SurfInfo} (hc : d.iter.currentP = some (some cur)) (c : Colour) (call : Call)
    (hsurf : call.surface = (cur.w, cur.h)) {g : SurfInfo → Option DecRes} {inb : Prop} [Decidable inb]
    (hg : g cur = if likelyOverflow d.layout.px cur.w cur.h then some .memoryLimitExceeded
      else if inb then none else some .rectOutOfBounds)
    (hin : inb ↔ match (generalizing := false) call with
      | .full _ _ => True
      | .rect W H x y w h => if w = 0 ∨ h = 0 then x ≤ W ∧ y ≤ H else x + w ≤ W ∧ y + h ≤ H) :
    StepOK k base s d (planNeed (plan k.fam c call)) (finish s (decodeCall k c call s))
      (d.consumeIf g) := by
  rw [show d.layout.px = k.fam.px from by rw [h.layout]; exact hk.2.symm, likelyOverflow_eq] at hg
  have hb : call.bytes k.fam = cur.len := by
    rw [Call.bytes, hsurf, hk.2, ← h.px]; exact (current_len d.iter h.inv hc).symm
  unfold Dec.consumeIf
  rw [hc]
  by_cases hov : checkLikelyOverflow k.fam cur.w cur.h = true
  · rw [hov] at hg
    by_cases hi : inb
    · obtain ⟨it', hcons⟩ := consume_spec h.inv hc
      simp only [hg, hi, hcons.adv, Bool.not_true, Bool.false_eq_true, if_false, if_true]
      obtain ⟨ops, hplan⟩ := (C06.validation_accepts_iff hk.1 c call).2
        ⟨by rw [hb, ← hb, Call.bytes, hsurf]; exact (checkLikelyOverflow_iff hk.1 _ _).1 hov, hin.1 hi⟩
      exact decode_sim hk h hc c call hsurf hplan hcons.adv
    · simp only [hg, hi, Bool.not_true, Bool.false_eq_true, if_false]
      have hplan : plan k.fam c call = .error .rectOutOfBounds := by
        cases call with
        | full _ _ => exact absurd (hin.2 trivial) hi
        | rect W H x y w hh =>
          cases hsurf
          exact plan_rect_outside c _ _ x y w hh hov (fun hcon => hi (hin.2 hcon))
      have hd : decodeCall k c call s = (.rectOutOfBounds, s.pos) := by
        unfold decodeCall; rw [hplan]; rfl
      rw [hd, finish_err (by simp)]
      exact StepOK.rejected h rfl
  · have hov' : checkLikelyOverflow k.fam cur.w cur.h = false := by simpa using hov
    simp only [hg, hov', Bool.not_false, if_true]
    have hbig : I64MAX < total d.iter := by
      have h2 : ¬ k.fam.px.surfIdeal cur.w cur.h ≤ ISIZE_MAX := fun hcon =>
        hov ((checkLikelyOverflow_iff hk.1 _ _).2 hcon)
      have hle := (consume_spec h.inv hc).choose_spec.le
      simp only [← hb, Call.bytes, hsurf] at hle
      rw [ISIZE_MAX_eq] at h2
      omega
    exact decode_overflow h c _ _ (plan_overflow c (by rw [hsurf]; exact hov')) hbig

/-! ### `read_surface` -/

theorem readSurface_sim {k : Cfg} (hk : k.Agrees) {base : Nat} {s : RS} {d : Dec} (h : Sim k base s d)
    (w hh : Nat) (c : Colour) :
    StepOK k base s d (planNeed (plan k.fam c (.full (normSize w hh).1 (normSize w hh).2)))
      (readSurface k s w hh c) (d.readSurface w hh) := by
  rw [readSurface_eq, Dec.readSurface_eq, h.iter]
  rcases current_cases h.inv with ⟨hc, _⟩ | ⟨cur, hc, _⟩
  · rw [hc, Dec.consumeIf, hc]; exact StepOK.rejected h rfl
  · rw [hc]
    simp only
    by_cases h1 : normSize w hh ≠ (cur.w, cur.h)
    · rw [if_pos h1, Dec.consumeIf, hc]
      simp only [Dec.readGuard, if_pos h1]
      exact StepOK.rejected h rfl
    · have h1' := Decidable.not_not.1 h1
      rw [if_neg h1, h1']
      refine decode_at_current hk h hc c (.full cur.w cur.h) rfl (inb := True) ?_ Iff.rfl
      simp only [Dec.readGuard, h1', ne_eq, not_true_eq_false, if_false, if_true]

/-! ### `read_surface_rect` -/

theorem readRect_sim {k : Cfg} (hk : k.Agrees) {base : Nat} {s : RS} {d : Dec} (h : Sim k base s d)
    (ox oy w hh : Nat) (c : Colour) :
    StepOK k base s d (opNeed k s (.rect ox oy w hh c)) (readRect k s ox oy w hh c)
      (d.consumeIf (d.rectGuard ox oy w hh)) := by
  rw [readRect_eq]
  unfold opNeed
  rw [h.iter]
  rcases current_cases h.inv with ⟨hc, _⟩ | ⟨cur, hc, _⟩
  · rw [hc, Dec.consumeIf, hc]; exact StepOK.rejected h rfl
  · rw [hc]
    refine decode_at_current hk h hc c (.rect cur.w cur.h ox oy (normSize w hh).1 (normSize w hh).2) rfl
      (inb := containsRect cur.w cur.h ox oy (normSize w hh).1 (normSize w hh).2 = true) ?_
      (containsRect_iff _ _ _ _ _ _)
    unfold Dec.rectGuard
    cases containsRect cur.w cur.h ox oy (normSize w hh).1 (normSize w hh).2 <;> rfl

theorem static_consumeIf (d : Dec) (v : IterInv d.iter) (g : SurfInfo → Option DecRes) :
    Static d (d.consumeIf g) := by
  rcases Dec.consumeIf_cases v g with ⟨_, h⟩ | ⟨cur, _, _, ⟨e, _, h⟩ | ⟨_, it', hc, h⟩⟩ <;> rw [h]
  · exact Static.refl v _
  · exact Static.refl v _
  · exact .move hc.toMoved _

theorem static_readSurface (d : Dec) (v : IterInv d.iter) (w h : Nat) : Static d (d.readSurface w h) := by
  rw [Dec.readSurface_eq]; exact static_consumeIf d v _

theorem static_skipMipmaps (d : Dec) (v : IterInv d.iter) : Static d d.skipMipmaps := by
  rcases Dec.skipMipmaps_cases v with h | ⟨it', n, m, h⟩ <;> rw [h]
  · exact Static.refl v _
  · exact .move m _

/-! ### `skip_surface` -/

/-- `io_skip_exact` for any count: success moves by exactly `n`; failure means the stream cannot
deliver every byte up to `pos + n`, or `n` does not fit an `i64` -/
theorem skipExact_facts (e : Env) (pos n : Nat) (hU : pos + n < U64) :
    ((skipExact e pos n).1 = true → (skipExact e pos n).2 = pos + n) ∧
    ((skipExact e pos n).1 = false → e.len < U64 → e.lim < pos + n ∨ I64MAX < n) := by
  by_cases hn : n ≤ I64MAX
  · refine ⟨fun h => (skipExact_true hn hU h).1, fun hf hl => Or.inl (Nat.lt_of_not_le fun hfit => ?_)⟩
    rw [skipExact_ok hn hfit hl] at hf
    cases hf
  · have hs : skipExact e pos n = (false, pos) := by
      unfold skipExact
      have hm : n % U64 = n := Nat.mod_eq_of_lt (by omega)
      simp only [hm]
      rw [if_neg (by unfold I64MAX at hn; omega), if_pos (by omega)]
    rw [hs]
    exact ⟨(fun h => by cases h), fun _ _ => Or.inr (by omega)⟩

/-- moving the reader with `io_skip_exact` against the ideal "add `n`" -/
theorem skip_sim {k : Cfg} {base : Nat} {s : RS} {d : Dec} (h : Sim k base s d) (N : Nat)
    {it' : SurfIter} {n : Nat} (m : Moved d.iter it' n) (a : RS × R)
    (hok : (skipExact k.env s.pos n).1 = true →
      a = ({ s with iter := it', pos := (skipExact k.env s.pos n).2 }, .ok))
    (hfail : (skipExact k.env s.pos n).1 = false → a.2 = .io ∧ a.1.limit = s.limit) :
    StepOK k base s d N a ({ d with iter := it', pos := d.pos + n }, .ok) := by
  obtain ⟨hpos, hU⟩ := h.pos_bound m.le
  obtain ⟨f1, f2⟩ := skipExact_facts k.env s.pos n hU
  have hst := Static.move m .ok
  by_cases hs : (skipExact k.env s.pos n).1 = true
  · rw [hok hs, f1 hs]
    exact ⟨fun _ _ => ⟨rfl, h.move m⟩, (fun hio => by cases hio), (fun hm => by cases hm), rfl, hst⟩
  · have hs' : (skipExact k.env s.pos n).1 = false := by simpa using hs
    obtain ⟨ha, hl⟩ := hfail hs'
    refine ⟨fun hne => absurd ha hne, ?_, (fun hm => by rw [ha] at hm; cases hm), hl, hst⟩
    intro _ hlen
    have h1 := h.pos
    rcases f2 hs' hlen with h' | h'
    · left
      show (k.env.lim : Int) < base + (d.pos + n)
      omega
    · right
      show (I64MAX : Int) < d.pos + n - d.pos
      omega

theorem skipSurface_sim {k : Cfg} {base : Nat} {s : RS} {d : Dec} (h : Sim k base s d) (N : Nat) :
    StepOK k base s d N (skipSurface k s) (d.consumeIf fun _ => none) := by
  unfold skipSurface Dec.consumeIf
  rw [h.iter]
  rcases current_cases h.inv with ⟨hc, _⟩ | ⟨cur, hc, _⟩ <;> rw [hc]
  · exact StepOK.rejected h rfl
  · obtain ⟨it', hcons⟩ := consume_spec h.inv hc
    simp only [hcons.adv]
    apply skip_sim h N hcons.toMoved
    · intro hs; rw [if_pos hs]
    · intro hs; rw [if_neg (by rw [hs]; simp)]; exact ⟨rfl, rfl⟩

/-! ### `skip_mipmaps` -/

theorem skipMipmaps_sim {k : Cfg} {base : Nat} {s : RS} {d : Dec} (h : Sim k base s d) (N : Nat) :
    StepOK k base s d N (skipMipmaps k s) d.skipMipmaps := by
  unfold skipMipmaps Dec.skipMipmaps
  rw [h.iter]
  rcases skip_spec h.inv with he | ⟨it', n, h0, m⟩
  · rw [he]; exact StepOK.rejected h rfl
  · rw [h0]
    simp only
    apply skip_sim h N m
    · intro hs; rw [hs]; rfl
    · intro hs; rw [hs]; exact ⟨rfl, rfl⟩

/-! ### `read_cube_map` -/

theorem static_cubeI (faces fw fh : Nat) (l : List (Nat × Nat × Nat)) (d : Dec) (v : IterInv d.iter) :
    Static d (Dec.cubeI faces fw fh l d) :=
  Dec.cubeI_rel (P := fun d => IterInv d.iter) id (fun q v _ => Static.refl v q) Static.inv Static.thenI
    (fun v => static_readSurface _ v fw fh) (static_skipMipmaps _) l d v

theorem cubeLoop_sim {k : Cfg} (hk : k.Agrees) (base faces fw fh : Nat) (c : Colour) :
    ∀ (l : List (Nat × Nat × Nat)) (s : RS) (d : Dec), Sim k base s d →
      StepOK k base s d (planNeed (plan k.fam c (.full (normSize fw fh).1 (normSize fw fh).2)))
        (cubeR k faces fw fh c l s) (Dec.cubeI faces fw fh l d) := by
  intro l
  induction l with
  | nil => intro s d h; exact StepOK.rejected h rfl
  | cons x rest ih =>
    intro s d h
    obtain ⟨bit, cx, cy⟩ := x
    unfold cubeR Dec.cubeI
    by_cases hfc : (!hasFace faces bit) = true
    · rw [if_pos hfc, if_pos hfc]; exact ih s d h
    · rw [if_neg hfc, if_neg hfc, h.iter]
      rcases current_cases h.inv with ⟨hc, _⟩ | ⟨cur, hc, _⟩ <;> rw [hc]
      · exact StepOK.rejected h rfl
      · simp only
        by_cases hs : (cur.w, cur.h) ≠ (fw, fh)
        · rw [if_pos hs, if_pos hs]; exact StepOK.rejected h rfl
        · rw [if_neg hs, if_neg hs]
          have H1 := readSurface_sim hk h fw fh c
          have H2 := H1.bind (f := skipMipmaps k) (static_skipMipmaps _ H1.st.inv)
            (fun _ _ hs1 => skipMipmaps_sim hs1 _)
          exact H2.bind (static_cubeI faces fw fh rest _ H2.st.inv) (fun _ _ hs2 => ih _ _ hs2)

/-- `read_cube_map` of the ideal decoder as a pair -/
theorem readCubeMap_sim {k : Cfg} (hk : k.Agrees) {base : Nat} {s : RS} {d : Dec} (h : Sim k base s d)
    (w hh : Nat) (c : Colour) :
    StepOK k base s d (opNeed k s (.cube w hh c)) (readCubeMap k s w hh c)
      ((d.readCubeMap w hh).1, (d.readCubeMap w hh).2.1) := by
  unfold readCubeMap Dec.readCubeMap opNeed
  rw [h.layout]
  cases hL : k.layout with
  | texture t => exact StepOK.rejected h rfl
  | volume t => exact StepOK.rejected h rfl
  | textureArray a =>
    simp only
    cases a.kind with
    | textures => exact StepOK.rejected h rfl
    | cubeMaps =>
      simp only
      split
      · exact StepOK.rejected h rfl
      · rw [Dec.cubeLoop_eq, cubeLoop_eq]
        exact cubeLoop_sim hk base _ _ _ c _ s d h
    | partialCubeMap f =>
      simp only
      split
      · exact StepOK.rejected h rfl
      · rw [Dec.cubeLoop_eq, cubeLoop_eq]
        exact cubeLoop_sim hk base _ _ _ c _ s d h

/-! ### the rewinding calls (data section at most `i64::MAX` bytes: `DecInv.small`) -/

/-- `seek(SeekFrom::Current(-delta))` to a target inside the stream: success lands on the target;
failure means a hard error before the current position -/
theorem seekBack_facts (e : Env) (pos delta : Nat) (hd : delta ≤ pos)
    (hback : e.clampSeek = true → pos ≤ e.len) :
    ((seekBack e pos delta).1 = true → (seekBack e pos delta).2 = pos - delta) ∧
    ((seekBack e pos delta).1 = false → e.lim < pos) := by
  unfold seekBack
  rw [if_neg (by omega)]
  by_cases hsf : seekFails e (pos - delta) = true
  · rw [if_pos hsf]
    refine ⟨(fun h => by cases h), fun _ => ?_⟩
    unfold seekFails at hsf
    cases hf : e.fault with
    | none => rw [hf] at hsf; cases hsf
    | some f =>
      rw [hf] at hsf
      have h1 : f < pos - delta := by simpa using hsf
      have h2 := lim_le_fault hf
      omega
  · rw [if_neg hsf]
    refine ⟨fun _ => ?_, fun h => by cases h⟩
    unfold seekLand
    rw [if_neg]
    intro ⟨hc, hl⟩
    have := hback hc
    omega

/-- what a rewinding call and its ideal counterpart have to do with each other -/
structure BackOK (k : Cfg) (base : Nat) (s : RS) (d : Dec) (a : RS × R) (b : Dec × DecRes) : Prop where
  sim : a.2 ≠ .io → a.2 = ofDecRes b.2 ∧ Sim k base a.1 b.1
  /-- an I/O error: a hard reader error before the current position -/
  io : a.2 = .io → k.env.lim < s.pos
  mem : a.2 ≠ .memoryLimitExceeded
  back : b.1.pos ≤ d.pos

/-- seeking back over `delta` bytes to the iterator state `it'` against the ideal "subtract `delta`" -/
theorem back_sim {k : Cfg} {base : Nat} {s : RS} {d : Dec} (h : Sim k base s d)
    (hback : k.env.clampSeek = true → s.pos ≤ k.env.len) {it' : SurfIter} {delta : Nat}
    (hi : IterInv it') (hpx : iterPx it' = k.layout.px) (ht : total it' = total d.iter)
    (he : elapsed it' + delta = elapsed d.iter) (a : RS × R)
    (hok : (seekBack k.env s.pos delta).1 = true →
      a = ({ s with iter := it', pos := (seekBack k.env s.pos delta).2 }, .ok))
    (hfail : (seekBack k.env s.pos delta).1 = false → a.2 = .io) :
    BackOK k base s d a ({ d with iter := it', pos := d.pos - (delta : Int) }, .ok) := by
  have hp := h.pos
  have hc := h.cpos
  obtain ⟨f1, f2⟩ := seekBack_facts k.env s.pos delta (by omega) hback
  have hle : d.pos - (delta : Int) ≤ d.pos := by omega
  by_cases hs : (seekBack k.env s.pos delta).1 = true
  · rw [hok hs, f1 hs]
    refine ⟨fun _ => ⟨rfl, ⟨rfl, ?_, h.layout, hpx, hi, ?_, ht ▸ h.u64⟩⟩, (fun hio => by cases hio),
      (fun hm => by cases hm), hle⟩
    · show ((s.pos - delta : Nat) : Int) = base + (d.pos - (delta : Int)); omega
    · show d.pos - (delta : Int) = (elapsed it' : Int); omega
  · have ha := hfail (by simpa using hs)
    exact ⟨fun hne => absurd ha hne, fun _ => f2 (by simpa using hs), (fun hm => by rw [ha] at hm; cases hm),
      hle⟩

theorem rewindPrev_sim {k : Cfg} {base : Nat} {s : RS} {d : Dec} (h : Sim k base s d) (hinv : DecInv d)
    (hback : k.env.clampSeek = true → s.pos ≤ k.env.len) :
    BackOK k base s d (step k s .rewindPrev) (idealStep d .rewindPrev) := by
  obtain ⟨it', hrw, hi, hb, _, hle, hstep⟩ := Dec.step_rewindPrev_eq h.inv hinv.small
  have hel := elapsed_le_total h.inv
  have hsmall := hinv.small
  have hU := I64MAX_lt_U64
  show BackOK k base s d _ ((d.step .rewindPrev).1, (d.step .rewindPrev).2.1)
  rw [hstep]
  simp only [step, h.iter, elapsedP_eq h.inv, hrw, elapsedP_eq hi,
    wSub_eq (show elapsed d.iter < U64 by omega) hle]
  rw [if_neg (by omega)]
  apply back_sim h hback hi ((iterPx_of_base hb).trans h.px) (of_base_eq hb).2.1 (by omega)
  · intro hs; rw [if_pos hs]
  · intro hs; rw [if_neg (by rw [hs]; simp)]

theorem rewindStart_sim {k : Cfg} {base : Nat} {s : RS} {d : Dec} (h : Sim k base s d) (hinv : DecInv d)
    (hback : k.env.clampSeek = true → s.pos ≤ k.env.len) :
    BackOK k base s d (step k s .rewindStart) (idealStep d .rewindStart) := by
  have hel := elapsed_le_total h.inv
  have hsmall := hinv.small
  show BackOK k base s d _ ((d.step .rewindStart).1, (d.step .rewindStart).2.1)
  rw [Dec.step_rewindStart_eq h.inv hinv.small]
  simp only [step, h.iter, elapsedP_eq h.inv]
  rw [if_neg (by omega), ← h.layout]
  apply back_sim h hback hinv.fresh (by rw [iterPx_new, h.layout]) hinv.total_eq
    (by rw [(new_zero d.layout).2, Nat.zero_add])
  · intro hs; rw [if_pos hs]
  · intro hs; rw [if_neg (by rw [hs]; simp)]

end Dds.Reader
