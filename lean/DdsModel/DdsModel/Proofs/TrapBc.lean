/-
C01 (codec bodies, BC1–BC5): the trapping mirror `TrapBc.blockT` returns `some` of the wrapping model
`Bc.decodeBlock` for every block.
-/
import DdsModel.TrapBc
import DdsModel.Proofs.BcPixels
import DdsModel.Proofs.ListLemmas
import DdsModel.Proofs.TrapWp
namespace Dds.TrapBc
open Dds.Trap Dds.Bc


theorem w16_id {x : Nat} (h : x < 65536) : w16 x = x := Nat.mod_eq_of_lt h
theorem w32_id {x : Nat} (h : x < 4294967296) : w32 x = x := Nat.mod_eq_of_lt h

/-- `((x * k + b) >> s) as uN`: multiply-add in a type of `B = 2 ^ W` values, for an operand bounded by `M` -/
theorem mulAddShr {W B k b M x : Nat} (hx : x ≤ M) (hB : M * k + b < B) (s o : Nat) (hs : s < W) :
    (do let m ← ck B (x * k); let a ← ck B (m + b); let r ← shr W a s; pure (r % o)) =
      some ((((x * k % B + b) % B) >>> s) % o) := by
  have h1 : x * k + b < B := Nat.lt_of_le_of_lt (Nat.add_le_add_right (Nat.mul_le_mul_right k hx) b) hB
  have h0 : x * k < B := Nat.lt_of_le_of_lt (Nat.le_add_right _ b) h1
  rw [Nat.mod_eq_of_lt h0, Nat.mod_eq_of_lt h1, ← ret_eq]
  simp only [wp, and_true]
  exact ⟨h0, h1, hs⟩

theorem n4n8T_eq (x : Nat) (h : x ≤ 15) : n4n8T x = some (n4n8 x) := by
  unfold n4n8T n4n8 w8
  rw [dbgP_of h, bind_some', ck_of_lt (by omega), Nat.mod_eq_of_lt (by omega)]
theorem n5n8T_eq (x : Nat) (h : x ≤ 31) : n5n8T x = some (n5n8 x) := by
  unfold n5n8T; rw [dbgP_of h, bind_some']; exact mulAddShr h (by decide) 8 256 (by decide)
theorem n6n8T_eq (x : Nat) (h : x ≤ 63) : n6n8T x = some (n6n8 x) := by
  unfold n6n8T; rw [dbgP_of h, bind_some']; exact mulAddShr h (by decide) 8 256 (by decide)
theorem n8n16T_eq (x : Nat) (h : x < 256) : n8n16T x = some (n8n16 x) := by
  unfold n8n16T n8n16 w16
  rw [ck_of_lt (by omega), Nat.mod_eq_of_lt (by omega)]

theorem s8norm_le (x : Nat) : s8norm x ≤ 254 := by unfold s8norm w8; omega

theorem s8n8T_eq (x : Nat) : s8n8T x = some (s8n8 x) := mulAddShr (s8norm_le x) (by decide) 8 256 (by decide)
theorem s8n16T_eq (x : Nat) : s8n16T x = some (s8n16 x) := mulAddShr (s8norm_le x) (by decide) 16 65536 (by decide)

theorem widenT_eq (pr : Prec) (v : Nat) (h : v < 256) : widenT pr v = some (widen pr v) := by
  cases pr
  · rfl
  · exact n8n16T_eq v h
  · rfl


def B565.Ok (c : B565) : Prop := c.r5 ≤ 31 ∧ c.g6 ≤ 63 ∧ c.b5 ≤ 31

theorem fromU16_ok (u : Nat) : B565.Ok (B565.fromU16 u) := by
  simp only [B565.Ok, B565.fromU16, and31, and63]; omega

theorem toN8T_eq (c : B565) (h : B565.Ok c) : toN8T c = some c.toN8 := by
  unfold toN8T B565.toN8
  rw [Nat.mod_eq_of_lt (by have := h.1; omega), Nat.mod_eq_of_lt (by have := h.2.1; omega),
    Nat.mod_eq_of_lt (by have := h.2.2; omega), n5n8T_eq _ h.1, bind_some', n6n8T_eq _ h.2.1, bind_some',
    n5n8T_eq _ h.2.2, bind_some', pure_some']

theorem third5T_eq (s c : Nat) (hs : s ≤ 31) (hc : c ≤ 31) : third5T s c = some (third5 s c) := by
  unfold third5T third5
  dsimp only
  rw [ck_of_lt (by omega), bind_some', ck_of_lt (by omega), bind_some', w16_id (by omega : s * 2 < 65536),
    w16_id (by omega : s * 2 + c < 65536)]
  exact mulAddShr (M := 93) (by omega) (by decide) 7 256 (by decide)
theorem third6T_eq (s c : Nat) (hs : s ≤ 63) (hc : c ≤ 63) : third6T s c = some (third6 s c) := by
  unfold third6T third6
  dsimp only
  rw [ck_of_lt (by omega), bind_some', ck_of_lt (by omega), bind_some', w16_id (by omega : s * 2 < 65536),
    w16_id (by omega : s * 2 + c < 65536)]
  exact mulAddShr (M := 189) (by omega) (by decide) 11 256 (by decide)
theorem mid5T_eq (s c : Nat) (hs : s ≤ 31) (hc : c ≤ 31) : mid5T s c = some (mid5 s c) := by
  unfold mid5T mid5
  dsimp only
  rw [ck_of_lt (by omega), bind_some', w16_id (by omega : s + c < 65536)]
  exact mulAddShr (M := 62) (by omega) (by decide) 8 256 (by decide)
theorem mid6T_eq (s c : Nat) (hs : s ≤ 63) (hc : c ≤ 63) : mid6T s c = some (mid6 s c) := by
  unfold mid6T mid6
  dsimp only
  rw [ck_of_lt (by omega), bind_some', w16_id (by omega : s + c < 65536)]
  exact mulAddShr (M := 126) (by omega) (by decide) 11 256 (by decide)

theorem oneThirdT_eq (s c : B565) (hs : B565.Ok s) (hc : B565.Ok c) : oneThirdT s c = some (s.oneThird c) := by
  unfold oneThirdT B565.oneThird
  rw [third5T_eq _ _ hs.1 hc.1, bind_some', third6T_eq _ _ hs.2.1 hc.2.1, bind_some', third5T_eq _ _ hs.2.2 hc.2.2,
    bind_some', pure_some']
theorem midT_eq (s c : B565) (hs : B565.Ok s) (hc : B565.Ok c) : midT s c = some (s.mid c) := by
  unfold midT B565.mid
  rw [mid5T_eq _ _ hs.1 hc.1, bind_some', mid6T_eq _ _ hs.2.1 hc.2.1, bind_some', mid5T_eq _ _ hs.2.2 hc.2.2,
    bind_some', pure_some']


theorem idx_lut4 {α : Type} (c0 c1 c2 c3 : α) (k : Nat) (hk : k < 4) :
    idx [c0, c1, c2, c3] k = some (lut4 c0 c1 c2 c3 k) := by
  unfold idx
  rcases lt4_cases hk with h | h | h | h <;> subst h <;> rfl

theorem lutLoopT_eq (c0 c1 c2 c3 : Rgba) (indexes : Nat) :
    lutLoopT [c0, c1, c2, c3] indexes =
      some ((List.range 16).map fun p => lut4 c0 c1 c2 c3 ((indexes >>> (p * 2)) &&& 3)) := by
  unfold lutLoopT
  apply mapT_eq_some
  intro p hp
  have hp : p < 16 := List.mem_range.mp hp
  have hk : (indexes >>> (p * 2)) &&& 3 < 4 := by rw [and3]; omega
  rw [shr_of_lt (by omega), bind_some', idx_lut4 _ _ _ _ _ hk]

theorem bc1T_eq (blk : Nat → Nat) : bc1T blk = some ((List.range 16).map (bc1Px blk)) := by
  have h0 := fromU16_ok (le16 blk 0)
  have h1 := fromU16_ok (le16 blk 2)
  unfold bc1T
  simp only [toN8T_eq _ h0, toN8T_eq _ h1, bind_some']
  by_cases hc : le16 blk 0 > le16 blk 2
  · simp only [if_pos hc, oneThirdT_eq _ _ h0 h1, oneThirdT_eq _ _ h1 h0, bind_some', pure_some', lutLoopT_eq]
    congr 1; apply List.map_congr_left; intro p _
    simp only [bc1Px, if_pos hc]
  · simp only [if_neg hc, midT_eq _ _ h0 h1, bind_some', pure_some', lutLoopT_eq]
    congr 1; apply List.map_congr_left; intro p _
    simp only [bc1Px, if_neg hc]

theorem bc1NoDefaultT_eq (blk : Nat → Nat) :
    bc1NoDefaultT blk = some ((List.range 16).map (bc1NoDefaultPx blk)) := by
  have h0 := fromU16_ok (le16 blk 0)
  have h1 := fromU16_ok (le16 blk 2)
  unfold bc1NoDefaultT
  simp only [toN8T_eq _ h0, toN8T_eq _ h1, bind_some', oneThirdT_eq _ _ h0 h1, oneThirdT_eq _ _ h1 h0, lutLoopT_eq]
  congr 1


/-- the trapping operations agree with the wrapping ones on the documented input ranges -/
def OpsOk (T : Bc4OpsT) (ops : Bc4Ops) (m6 m4 : Nat) : Prop :=
  (∀ b, b < 256 → T.fromByte b = some (ops.fromByte b)) ∧
  (∀ i, i ≤ m6 → T.interp6 i = some (ops.interp6 i)) ∧
  (∀ i, i ≤ m4 → T.interp4 i = some (ops.interp4 i))

theorem mulAddShrT_eq (max k b out i : Nat) (hi : i ≤ max) (h : max * k + b < 4294967296) :
    mulAddShrT max k b out i = some ((w32 (w32 (i * k) + b) >>> 16) % out) := by
  unfold mulAddShrT
  rw [dbgP_of hi, bind_some']
  exact mulAddShr hi h 16 out (by decide)

theorem mulAddDivT_eq (max k d out i : Nat) (hi : i ≤ max) (hd : d ≠ 0) (h : max * k + d / 2 < 4294967296) :
    mulAddDivT max k d out i = some ((w32 (w32 (i * k) + d / 2) / d) % out) := by
  have := Nat.mul_le_mul_right k hi
  have h0 : i * k < 4294967296 := by omega
  have h1 : i * k + d / 2 < 4294967296 := by omega
  unfold mulAddDivT
  rw [w32_id h0, w32_id h1, ← ret_eq]
  simp only [wp, and_true]
  exact ⟨hi, h0, h1, hd⟩

theorem divF32T_eq (max d i : Nat) (hi : i ≤ max) : divF32T max d i = some (F32.div (F32.ofNat i) (F32.ofNat d)) := by
  unfold divF32T; rw [dbgP_of hi, bind_some', pure_some']

theorem bc4uOps_ok (pr : Prec) : OpsOk (bc4uOpsT pr) (bc4uOps pr) 1785 1275 := by
  cases pr
  · exact ⟨fun b _ => rfl, fun i hi => mulAddShrT_eq _ _ _ _ i hi (by decide),
      fun i hi => mulAddShrT_eq _ _ _ _ i hi (by decide)⟩
  · exact ⟨n8n16T_eq, fun i hi => mulAddShrT_eq _ _ _ _ i hi (by decide),
      fun i hi => mulAddShrT_eq _ _ _ _ i hi (by decide)⟩
  · exact ⟨fun b _ => rfl, fun i hi => divF32T_eq _ _ i hi, fun i hi => divF32T_eq _ _ i hi⟩

theorem bc4sOps_ok (pr : Prec) : OpsOk (bc4sOpsT pr) (bc4sOps pr) 1778 1270 := by
  cases pr
  · exact ⟨fun b _ => s8n8T_eq b, fun i hi => mulAddDivT_eq _ _ _ _ i hi (by decide) (by decide),
      fun i hi => mulAddDivT_eq _ _ _ _ i hi (by decide) (by decide)⟩
  · exact ⟨fun b _ => s8n16T_eq b, fun i hi => mulAddDivT_eq _ _ _ _ i hi (by decide) (by decide),
      fun i hi => mulAddDivT_eq _ _ _ _ i hi (by decide) (by decide)⟩
  · exact ⟨fun b _ => rfl, fun i hi => divF32T_eq _ _ i hi, fun i hi => divF32T_eq _ _ i hi⟩

/-- the checked `u16` sums `a * ka + b`, `a * ka + b * kb`, `a + b * kb`, each followed by an interpolation `f` that
the model `g` mirrors up to `m` -/
theorem sum1T_bind {f : Nat → Option Nat} {g : Nat → Nat} {m : Nat} (hf : ∀ i, i ≤ m → f i = some (g i)) (a ka b : Nat)
    (h : a * ka + b ≤ m) (hm : m < 65536) : (sum1T a ka b >>= f) = some (g (w16 (w16 (a * ka) + b))) := by
  unfold sum1T
  rw [ck_of_lt (by omega), bind_some', ck_of_lt (by omega), bind_some', w16_id (by omega : a * ka < 65536),
    w16_id (by omega : a * ka + b < 65536), hf _ h]
theorem sum2T_bind {f : Nat → Option Nat} {g : Nat → Nat} {m : Nat} (hf : ∀ i, i ≤ m → f i = some (g i))
    (a ka b kb : Nat) (h : a * ka + b * kb ≤ m) (hm : m < 65536) :
    (sum2T a ka b kb >>= f) = some (g (w16 (w16 (a * ka) + w16 (b * kb)))) := by
  unfold sum2T
  rw [ck_of_lt (by omega), bind_some', ck_of_lt (by omega), bind_some', ck_of_lt (by omega), bind_some',
    w16_id (by omega : a * ka < 65536), w16_id (by omega : b * kb < 65536), w16_id (by omega : a * ka + b * kb < 65536),
    hf _ h]
theorem sum3T_bind {f : Nat → Option Nat} {g : Nat → Nat} {m : Nat} (hf : ∀ i, i ≤ m → f i = some (g i)) (a b kb : Nat)
    (h : a + b * kb ≤ m) (hm : m < 65536) : (sum3T a b kb >>= f) = some (g (w16 (a + w16 (b * kb)))) := by
  unfold sum3T
  rw [ck_of_lt (by omega), bind_some', ck_of_lt (by omega), bind_some', w16_id (by omega : b * kb < 65536),
    w16_id (by omega : a + b * kb < 65536), hf _ h]

theorem bc4LutT_eq (T : Bc4OpsT) (ops : Bc4Ops) (M : Nat) (hM : M ≤ 255) (hok : OpsOk T ops (7 * M) (5 * M))
    (v0 v1 a b : Nat) (h0 : v0 < 256) (h1 : v1 < 256) (ha : a ≤ M) (hb : b ≤ M) (six : Bool) :
    bc4LutT T ops.zero ops.one v0 v1 a b six =
      some ((List.range 8).map (bc4Lut ops (ops.fromByte v0) (ops.fromByte v1) a b six)) := by
  obtain ⟨hf, h6, h4⟩ := hok
  unfold bc4LutT
  rw [hf v0 h0, bind_some', hf v1 h1, bind_some']
  cases six
  · rw [if_neg Bool.false_ne_true, sum1T_bind h4 _ _ _ (by omega) (by omega), bind_some',
      sum2T_bind h4 _ _ _ _ (by omega) (by omega), bind_some', sum2T_bind h4 _ _ _ _ (by omega) (by omega), bind_some',
      sum3T_bind h4 _ _ _ (by omega) (by omega), bind_some', pure_some']
    rfl
  · rw [if_pos rfl, sum1T_bind h6 _ _ _ (by omega) (by omega), bind_some', sum2T_bind h6 _ _ _ _ (by omega) (by omega),
      bind_some', sum2T_bind h6 _ _ _ _ (by omega) (by omega), bind_some', sum2T_bind h6 _ _ _ _ (by omega) (by omega),
      bind_some', sum2T_bind h6 _ _ _ _ (by omega) (by omega), bind_some', sum3T_bind h6 _ _ _ (by omega) (by omega),
      bind_some', pure_some']
    rfl

theorem bc4LoopT_eq (f : Nat → Nat) (blk : Nat → Nat) :
    bc4LoopT ((List.range 8).map f) blk = some ((List.range 16).map fun p => f (bc4Index blk p)) := by
  unfold bc4LoopT
  apply mapT_eq_some
  intro p hp
  have hp : p < 16 := List.mem_range.mp hp
  have hk : (le24 blk (2 + 3 * (p / 8)) >>> (p % 8 * 3)) &&& 7 < 8 := by rw [and7]; omega
  dsimp only
  rw [shr_of_lt (by omega), bind_some', dbgP_of (by omega), bind_some', idx_map_range _ hk]
  rfl

theorem bc4uT_eq (pr : Prec) (blk : Nat → Nat) (hb : ∀ i, blk i < 256) :
    bc4uT pr blk = some ((List.range 16).map (bc4uPx (bc4uOps pr) blk)) := by
  have h0 := hb 0; have h1 := hb 1
  unfold bc4uT
  dsimp only
  rw [bc4LutT_eq _ _ 255 (by omega) (bc4uOps_ok pr) _ _ _ _ h0 h1 (by omega) (by omega), bind_some', bc4LoopT_eq]
  rfl

theorem bc4sT_eq (pr : Prec) (blk : Nat → Nat) (hb : ∀ i, blk i < 256) :
    bc4sT pr blk = some ((List.range 16).map (bc4sPx (bc4sOps pr) blk)) := by
  have h0 := hb 0; have h1 := hb 1
  unfold bc4sT
  dsimp only
  rw [bc4LutT_eq _ _ 254 (by omega) (bc4sOps_ok pr) _ _ _ _ h0 h1 (s8norm_le _) (s8norm_le _), bind_some', bc4LoopT_eq]
  rfl


theorem lut4_map {α β : Type} (g : α → β) (c0 c1 c2 c3 : α) (k : Nat) :
    lut4 (g c0) (g c1) (g c2) (g c3) k = g (lut4 c0 c1 c2 c3 k) := by
  unfold lut4; split <;> rfl

theorem bc2AlphaRowT_eq (blk : Nat → Nat) (hb : ∀ i, blk i < 256) (i : Nat) (hi : i < 4) :
    bc2AlphaRowT blk i = some [n4n8 (blk (i * 2) &&& 0xF), n4n8 (blk (i * 2) >>> 4),
      n4n8 (blk (i * 2 + 1) &&& 0xF), n4n8 (blk (i * 2 + 1) >>> 4)] := by
  have h1 := hb (i * 2); have h2 := hb (i * 2 + 1)
  have a1 : blk (i * 2) &&& 0xF ≤ 15 := by rw [and15]; omega
  have a2 : blk (i * 2 + 1) &&& 0xF ≤ 15 := by rw [and15]; omega
  unfold bc2AlphaRowT
  rw [idxF_of_lt (by omega), bind_some', idxF_of_lt (by omega), bind_some', shr_of_lt (by omega), bind_some',
    shr_of_lt (by omega), bind_some', n4n8T_eq _ a1, bind_some', n4n8T_eq _ (by omega), bind_some', n4n8T_eq _ a2,
    bind_some', n4n8T_eq _ (by omega), bind_some']
  refine (mapT_eq_some _ (fun ja : Nat × Nat => ja.2) _ ?_).trans rfl
  refine forall_mem4 ?_ ?_ ?_ ?_ <;> rw [dbgP_of (by omega), bind_some', pure_some']

theorem bc2T_eq (blk : Nat → Nat) (hb : ∀ i, blk i < 256) : bc2T blk = some ((List.range 16).map (bc2Px blk)) := by
  unfold bc2T
  rw [bc1NoDefaultT_eq, bind_some', mapT_eq_some _ _ _ (fun i hi => bc2AlphaRowT_eq blk hb i (List.mem_range.mp hi)),
    bind_some']
  apply mapT_eq_some
  intro p hp
  have hp : p < 16 := List.mem_range.mp hp
  rw [idx_map_range _ hp, bind_some', idx_map_range _ (by omega : p / 4 < 4), bind_some',
    idx_lut4 _ _ _ _ _ (by omega : p % 4 < 4), bind_some', pure_some', lut4_map]
  rfl

theorem bc3T_eq (blk : Nat → Nat) (hb : ∀ i, blk i < 256) : bc3T blk = some ((List.range 16).map (bc3Px blk)) := by
  unfold bc3T
  rw [bc1NoDefaultT_eq, bind_some', bc4uT_eq _ _ hb, bind_some']
  apply mapT_eq_some
  intro p hp
  have hp : p < 16 := List.mem_range.mp hp
  have e : p / 4 * 4 + p % 4 = p := by omega
  dsimp only
  rw [e, idx_map_range _ hp, bind_some', idx_map_range _ hp, bind_some', pure_some']
  rfl

theorem straightT_eq (c a : Nat) (hc : c < 256) : straightT c a = some (straight c a) := by
  unfold straightT straight
  dsimp only
  have hne : (if a = 0 then 255 else a) ≠ 0 := by split <;> omega
  rw [ck_of_lt (by omega), bind_some', div_of_ne hne, bind_some', pure_some', w16_id (by omega : c * 255 < 65536)]
  rfl

theorem toStraightT_eq (c : Rgba) (hc : RgbaLt c) : toStraightT c = some (toStraight c) := by
  unfold toStraightT
  rw [straightT_eq _ _ hc.1, bind_some', straightT_eq _ _ hc.2.1, bind_some', straightT_eq _ _ hc.2.2.1, bind_some',
    pure_some']
  rfl


/-- `with_precision` over 16 pixels whose 8-bit channels are `g p` -/
theorem wrap8 (pr : Prec) (g : Nat → List Nat) (hg : ∀ p, ∀ v ∈ g p, v < 256) :
    widenAllT pr ((List.range 16).map g) = some ((List.range 16).map fun p => (g p).map (widen pr)) := by
  unfold widenAllT
  rw [mapT_eq_some _ (List.map (widen pr)), List.map_map]
  · rfl
  · intro l hl
    obtain ⟨p, _, rfl⟩ := List.mem_map.mp hl
    exact mapT_eq_some _ _ _ fun v hv => widenT_eq pr v (hg p v hv)

theorem bc2Px_lt (blk : Nat → Nat) (p : Nat) : RgbaLt (bc2Px blk p) :=
  have h := bc1NoDefaultPx_lt (upper blk) p
  ⟨h.1, h.2.1, h.2.2.1, bc2Alpha_lt blk p⟩
theorem bc3Px_lt (blk : Nat → Nat) (hb : ∀ i, blk i < 256) (p : Nat) : RgbaLt (bc3Px blk p) :=
  have h := bc1NoDefaultPx_lt (upper blk) p
  ⟨h.1, h.2.1, h.2.2.1, bc4u8_lt blk hb p⟩

theorem mapT_toStraight (g : Nat → Rgba) (hg : ∀ p, RgbaLt (g p)) :
    mapT toStraightT ((List.range 16).map g) = some ((List.range 16).map fun p => toStraight (g p)) := by
  rw [mapT_eq_some _ toStraight, List.map_map]
  · rfl
  · intro c hc
    obtain ⟨p, _, rfl⟩ := List.mem_map.mp hc
    exact toStraightT_eq _ (hg p)

/-- **BC1–BC5 bodies**: the trapping mirror of every decoder of `bc.rs` (13 decoders × 3 precisions) returns
the 16 pixels of the wrapping model, for every block -/
theorem blockT_eq (f : Fmt) (pr : Prec) (blk : Nat → Nat) (hb : ∀ i, blk i < 256) :
    blockT f pr blk = some (decodeBlock f pr blk) := by
  have hu := upper_lt blk hb
  -- the nine 8-bit formats: the 8-bit pixels are `px8 f blk`, all below 256, then `with_precision`
  have h8 := fun f => wrap8 pr (px8 f blk) (px8_lt f blk hb)
  cases f
  case bc1 => simp only [blockT, bc1T_eq, bind_some', List.map_map]; exact h8 .bc1
  case bc2 => simp only [blockT, bc2T_eq blk hb, bind_some', List.map_map]; exact h8 .bc2
  case bc2rgb => simp only [blockT, bc1NoDefaultT_eq, bind_some', List.map_map]; exact h8 .bc2rgb
  case bc2p =>
    simp only [blockT, bc2T_eq blk hb, bind_some', mapT_toStraight _ (bc2Px_lt blk), List.map_map]; exact h8 .bc2p
  case bc3 => simp only [blockT, bc3T_eq blk hb, bind_some', List.map_map]; exact h8 .bc3
  case bc3rgb => simp only [blockT, bc1NoDefaultT_eq, bind_some', List.map_map]; exact h8 .bc3rgb
  case bc3p =>
    simp only [blockT, bc3T_eq blk hb, bind_some', mapT_toStraight _ (bc3Px_lt blk hb), List.map_map]; exact h8 .bc3p
  case rxgb => simp only [blockT, bc3T_eq blk hb, bind_some', List.map_map]; exact h8 .rxgb
  case bc3n => simp only [blockT, bc3T_eq blk hb, bind_some', List.map_map]; exact h8 .bc3n
  case bc4u => simp only [blockT, bc4uT_eq pr blk hb, bind_some', pure_some', List.map_map]; rfl
  case bc4s => simp only [blockT, bc4sT_eq pr blk hb, bind_some', pure_some', List.map_map]; rfl
  case bc5u =>
    simp only [blockT, bc4uT_eq pr blk hb, bc4uT_eq pr _ hu, bind_some', pure_some', List.zip_map', List.map_map]; rfl
  case bc5s =>
    simp only [blockT, bc4sT_eq pr blk hb, bc4sT_eq pr _ hu, bind_some', pure_some', List.zip_map', List.map_map]; rfl

end Dds.TrapBc
