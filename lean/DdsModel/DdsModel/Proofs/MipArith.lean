/- Helper lemmas for C16: weighted sums over `Rat`, the `(acc + 0.5) as T` rounding. -/
import DdsModel.Mip
namespace Dds.Mip

theorem sum_map_mul_left (c : Rat) : ∀ (l : List Rat), (l.map (c * ·)).sum = c * l.sum := by
  intro l
  induction l with
  | nil => simp
  | cons a l ih => simp only [List.map_cons, List.sum_cons, ih]; grind

/-- only samples with positive weight need to be in range -/
theorem dot_bounds (t : Taps) (x : Nat → Rat) (lo hi : Rat) (hn : t.NonNeg)
    (hx : ∀ iw ∈ t, 0 < iw.2 → lo ≤ x iw.1 ∧ x iw.1 ≤ hi) :
    lo * t.sumW ≤ dot t x ∧ dot t x ≤ hi * t.sumW := by
  unfold dot Taps.sumW
  induction t with
  | nil => simp
  | cons a t ih =>
    obtain ⟨h1, h2⟩ := ih (fun iw h => hn iw (List.mem_cons_of_mem _ h))
      (fun iw h => hx iw (List.mem_cons_of_mem _ h))
    have ha0 := hn a List.mem_cons_self
    simp only [List.map_cons, List.sum_cons]
    by_cases hz : a.2 = 0
    · rw [hz]; constructor <;> grind
    · obtain ⟨hl, hh⟩ := hx a List.mem_cons_self (by grind)
      have m1 := Rat.mul_le_mul_of_nonneg_left hl ha0
      have m2 := Rat.mul_le_mul_of_nonneg_left hh ha0
      constructor <;> grind

theorem dot_const (t : Taps) (x : Nat → Rat) (c : Rat) (hx : ∀ iw ∈ t, x iw.1 = c) :
    dot t x = c * t.sumW := by
  unfold dot Taps.sumW
  have : (t.map fun iw => iw.2 * x iw.1) = (t.map (·.2)).map (c * ·) := by
    rw [List.map_map]
    apply List.map_congr_left
    intro iw hm
    show iw.2 * x iw.1 = c * iw.2
    rw [hx iw hm]; grind
  rw [this, sum_map_mul_left]

theorem dot_congr (t : Taps) (x y : Nat → Rat) (h : ∀ iw ∈ t, x iw.1 = y iw.1) : dot t x = dot t y := by
  unfold dot
  congr 1
  apply List.map_congr_left
  intro iw hm
  rw [h iw hm]

theorem dot_premul (t : Taps) (c a : Nat → Rat) :
    dot t (fun i => c i * a i) = dot (t.map fun iw => (iw.1, iw.2 * a iw.1)) c := by
  unfold dot
  rw [List.map_map]
  congr 1
  apply List.map_congr_left
  intro iw _
  show iw.2 * (c iw.1 * a iw.1) = iw.2 * a iw.1 * c iw.1
  grind

theorem sumW_premul (t : Taps) (a : Nat → Rat) :
    Taps.sumW (t.map fun iw => (iw.1, iw.2 * a iw.1)) = dot t a := by
  unfold dot Taps.sumW
  rw [List.map_map]; rfl

theorem sumW_eq_dot (t : Taps) : t.sumW = dot t fun _ => 1 := by
  unfold dot Taps.sumW
  congr 1
  apply List.map_congr_left
  intro iw _
  exact (Rat.mul_one _).symm

theorem dot_scale (t : Taps) (k : Rat) (x : Nat → Rat) :
    dot (t.map fun iw => (iw.1, iw.2 * k)) x = k * dot t x := by
  unfold dot
  rw [← sum_map_mul_left, List.map_map, List.map_map]
  congr 1
  apply List.map_congr_left
  intro iw _
  show iw.2 * k * x iw.1 = k * (iw.2 * x iw.1)
  grind

theorem dot_nonneg (t : Taps) (x : Nat → Rat) (nn : t.NonNeg) (hx : ∀ iw ∈ t, 0 ≤ x iw.1) :
    0 ≤ dot t x := by
  unfold dot
  induction t with
  | nil => simp
  | cons y ys ih =>
    simp only [List.map_cons, List.sum_cons]
    have h1 := Rat.mul_nonneg (nn y List.mem_cons_self) (hx y List.mem_cons_self)
    have h2 := ih (fun iw h => nn iw (List.mem_cons_of_mem _ h))
      (fun iw h => hx iw (List.mem_cons_of_mem _ h))
    grind

/-! ### rounding -/

theorem castSat_range (m lo hi : Nat) (v : Rat) (hm : hi ≤ m) (h1 : (lo : Rat) ≤ v) (h2 : v < (hi : Rat) + 1) :
    (lo : Rat) ≤ castSat m v ∧ castSat m v ≤ (hi : Rat) := by
  unfold castSat
  have a1 : (lo : Int) ≤ v.floor := by
    apply Rat.le_floor_iff.mpr
    rw [Rat.intCast_natCast]; exact h1
  have a2 : v.floor < ((hi + 1 : Nat) : Int) := by
    apply Rat.floor_lt_iff.mpr
    rw [Rat.intCast_natCast]
    have : ((hi + 1 : Nat) : Rat) = (hi : Rat) + 1 := by simp
    rw [this]; exact h2
  have b1 : lo ≤ v.floor.toNat := by omega
  have b2 : v.floor.toNat ≤ hi := by omega
  have b3 : min m v.floor.toNat = v.floor.toNat := by omega
  rw [b3]
  exact ⟨Rat.natCast_le_natCast.mpr b1, Rat.natCast_le_natCast.mpr b2⟩

/-- `(acc + 0.5) as T` never leaves an interval with integer end points -/
theorem quant_range (p : Prec) (lo hi : Nat) (v : Rat) (hm : p = .f32 ∨ (hi : Rat) ≤ p.maxVal)
    (h1 : (lo : Rat) ≤ v) (h2 : v ≤ (hi : Rat)) :
    (lo : Rat) ≤ p.quant v ∧ p.quant v ≤ (hi : Rat) := by
  cases p with
  | f32 => exact ⟨h1, h2⟩
  | u8 =>
    exact castSat_range 255 lo hi _ (Rat.natCast_le_natCast.mp (hm.resolve_left nofun))
      (by grind) (by grind)
  | u16 =>
    exact castSat_range 65535 lo hi _ (Rat.natCast_le_natCast.mp (hm.resolve_left nofun))
      (by grind) (by grind)

theorem quant_nat (p : Prec) (c : Nat) (hm : p = .f32 ∨ (c : Rat) ≤ p.maxVal) : p.quant (c : Rat) = (c : Rat) := by
  obtain ⟨h1, h2⟩ := quant_range p c c (c : Rat) hm (Rat.le_refl) (Rat.le_refl)
  exact Rat.le_antisymm h2 h1

end Dds.Mip
