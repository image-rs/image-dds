/-
C13, single values on discrete encoder paths:
  * BC4/BC5 SNORM: the `closest` branch of `single_color` (src/encode/bc4.rs lines 156–162 with
    `EndPoints::new_closest(value, snorm = true)`, lines 401–411);
  * BC3 alpha of a single-alpha block (a BC4 UNORM block, `Enc13.bc4uSingle`) under ANY colour block;
  * BC2 explicit 4-bit alpha (`bc2_alpha`, src/encode/bc.rs lines 218–239, `n4::from_f32`), for any sixteen alphas
    and for a constant one.

The definitions (`bc4sClosest`, `fromNorm`, `n4FromU8`, `bc2AlphaBlock`, …) live in the model file `Enc13.lean`; the block
bytes they predict are part of the differential tie (`Enc13.predictBlock`: the BC2 alpha bytes of every block without alpha
dithering, the SNORM `closest` block of every constant channel that passes the guard), and the decoded values are judged
by the oracle on every run.  The f32 steps behind the closed forms are proved in `Proofs/Enc13F32.lean`.

The BC4-type blocks here have all index bytes zero, so every pixel shows palette entry 0, the first endpoint, whatever
the endpoint bytes are: no evaluation over the 256 values is needed.  The sixteen nibbles of `bc2_alpha` are the
digits of `Enc15.packed 4`, which the decoder reads back one by one.
-/
import DdsModel.Proofs.Enc13
import DdsModel.Proofs.EncBc15Index
namespace Dds.Enc13
open Dds Dds.Bc
open Dds.BcSpec (leWord)


theorem bc4Index_zero (blk : Nat → Nat) (h : ∀ i, 2 ≤ i → i < 8 → blk i = 0) (p : Nat) (hp : p < 16) :
    bc4Index blk p = 0 := by
  unfold bc4Index le24
  rw [h _ (by omega) (by omega), h _ (by omega) (by omega), h _ (by omega) (by omega)]
  simp only [Nat.mul_zero, Nat.add_zero, Nat.zero_shiftRight, Nat.zero_and]

theorem bc4uPx_zero (ops : Bc4Ops) (blk : Nat → Nat) (h : ∀ i, 2 ≤ i → i < 8 → blk i = 0) (p : Nat) (hp : p < 16) :
    bc4uPx ops blk p = ops.fromByte (blk 0) := by
  unfold bc4uPx; rw [bc4Index_zero blk h p hp]; rfl

theorem bc4sPx_zero (ops : Bc4Ops) (blk : Nat → Nat) (h : ∀ i, 2 ≤ i → i < 8 → blk i = 0) (p : Nat) (hp : p < 16) :
    bc4sPx ops blk p = ops.fromByte (blk 0) := by
  unfold bc4sPx; rw [bc4Index_zero blk h p hp]; rfl

/-- the shape of `single_color`'s blocks: two endpoint bytes, index list `new_all(0)` -/
theorem blkOf_index_zero (a b i : Nat) (h : 2 ≤ i) : blkOf [a, b, 0, 0, 0, 0, 0, 0] i = 0 := by
  obtain ⟨k, rfl⟩ := Nat.exists_eq_add_of_le' h
  show (List.replicate 6 0).getD k 0 = 0
  rw [List.getD_eq_getElem?_getD, List.getElem?_replicate]
  split <;> rfl


/-- `single_color`'s UNORM block `[v, 0, 0, …]` decodes, at all 16 pixels and every output precision, to the
decoder's value of the endpoint byte `v` -/
theorem bc4uSingle_decodes (pr : Prec) (v : Nat) :
    Bc.decodeBlock .bc4u pr (blkOf (bc4uSingle v)) = List.replicate 16 [(bc4uOps pr).fromByte v] :=
  map_range_const 16 _ _ fun p hp =>
    congrArg (fun x => [x]) (bc4uPx_zero _ _ (fun i h2 _ => blkOf_index_zero v 0 i h2) p hp)

/-- BC3 / BC3 premultiplied: a block whose first 8 bytes are `single_color`'s `[a, 0, 0, …]` decodes alpha `a` at all
16 pixels whatever the colour block is -/
theorem bc3_alpha_single (a : Nat) (blk : Nat → Nat) (h : ∀ i, i < 8 → blk i = (bc4uSingle a).getD i 0)
    (p : Nat) (hp : p < 16) :
    (px8 .bc3 blk p).getD 3 0 = a ∧ (px8 .bc3p blk p).getD 3 0 = a := by
  have e : bc4uPx (bc4uOps .u8) blk p = a := by
    rw [bc4uPx_zero _ blk (fun i h2 h8 => (h i h8).trans (blkOf_index_zero a 0 i h2)) p hp, h 0 (by decide)]; rfl
  exact ⟨e, e⟩


theorem fromNorm_norm (n : Nat) (hn : n ≤ 254) : s8norm (fromNorm n) = n ∧ fromNorm n < 256 := by
  unfold s8norm fromNorm w8; omega

/-- the block of the `closest` branch decodes, at all 16 pixels and at every output precision, to exactly the
decoder's value of the endpoint `c0` (SNORM level `n`) -/
theorem bc4sClosest_decodes (pr : Prec) (n : Nat) :
    Bc.decodeBlock .bc4s pr (blkOf (bc4sClosest n)) = List.replicate 16 [(bc4sOps pr).fromByte (fromNorm n)] :=
  map_range_const 16 _ _ fun p hp =>
    congrArg (fun x => [x]) (bc4sPx_zero _ _ (fun i h2 _ => blkOf_index_zero _ _ i h2) p hp)

/-- BC5 SNORM: two `closest` blocks side by side (`handle_bc5`: red then green), any pair of levels -/
theorem bc5sClosest_px (pr : Prec) (n m : Nat) (p : Nat) (hp : p < 16) :
    Bc.px .bc5s pr (blkOf (bc4sClosest n ++ bc4sClosest m)) p =
      [(bc4sOps pr).fromByte (fromNorm n), (bc4sOps pr).fromByte (fromNorm m), (bc4sOps pr).half] := by
  have e1 := bc4sPx_zero (bc4sOps pr) (blkOf (bc4sClosest n ++ bc4sClosest m))
    (fun i h2 h8 => (blkOf_append_left (bc4sClosest n) _ i h8).trans (blkOf_index_zero _ _ i h2)) p hp
  have e2 := bc4sPx_zero (bc4sOps pr) (upper (blkOf (bc4sClosest n ++ bc4sClosest m)))
    (fun i h2 _ => (congrArg _ (Nat.add_comm i 8)).trans
      ((blkOf_append_right (bc4sClosest n) _ i).trans (blkOf_index_zero _ _ i h2))) p hp
  show [bc4sPx (bc4sOps pr) _ p, bc4sPx (bc4sOps pr) (upper _) p, (bc4sOps pr).half] = _
  rw [e1, e2]; rfl

/-- exact-arithmetic reading of the guard for 8-bit UNORM input `v`: with `n = round(254·v/255)`,
`|n/254 − v/255| < 1/65536` holds exactly for `v ∈ {0, 255}` (the smallest other distance is 1/64770).  This is a
statement about rationals, not about the f32 evaluation. -/
theorem snorm_guard_exact_arith : ∀ v, v ≤ 255 →
    (dist (255 * ((2 * 254 * v + 255) / 510)) (254 * v) * 65536 < 254 * 255 ↔ v = 0 ∨ v = 255) := by
  intro v hv
  -- below `254·255 / 65536 < 1` the distance is 0, i.e. `255 ∣ 254·v`
  unfold dist
  split <;> omega


/-- the explicit alpha of `bc2_u8_rgba` only looks at the first 8 bytes -/
theorem bc2Alpha_congr (blk blk' : Nat → Nat) (h : ∀ i, i < 8 → blk i = blk' i) (p : Nat) (hp : p < 16) :
    bc2Alpha blk p = bc2Alpha blk' p := by
  unfold bc2Alpha
  rw [h _ (by omega), h _ (by omega)]

theorem n4FromU8_le (a : Nat) (h : a ≤ 255) : n4FromU8 a ≤ 15 := by unfold n4FromU8; omega

theorem n4FromU8_getD_lt {alphas : List Nat} (h : ∀ a ∈ alphas, a ≤ 255) (i : Nat) :
    n4FromU8 (alphas.getD i 0) < 2 ^ 4 :=
  Nat.lt_succ_of_le (n4FromU8_le _ (getD_of_forall h (by decide) i))

/-- the sixteen `|=` of `bc2_alpha` write disjoint nibbles: the accumulator holds them as digits and never leaves
`u64` -/
theorem bc2Acc_eq_packed (v : Nat → Nat) (hv : ∀ i, v i < 2 ^ 4) :
    (List.range 16).foldl (fun ix i => (ix ||| (v i <<< (i * 4))) % U64) 0 = Enc15.packed 4 v 16 :=
  Enc7.foldl_range_eq (Enc15.packed 4 v) _ 16 (fun k hk => by
    show (Enc15.packed 4 v k ||| v k <<< (k * 4)) % U64 = _
    rw [Enc15.packed_or_shl 4 (by decide) v hv k]
    exact Nat.mod_eq_of_lt (Nat.lt_of_lt_of_le (Enc15.packed_lt 4 (by decide) v hv (k + 1))
      (Nat.pow_le_pow_right (by decide) (by omega) : 2 ^ (4 * (k + 1)) ≤ 2 ^ 64))) 16 (Nat.le_refl _)

/-- `bc2_alpha` writes the little-endian bytes of the number whose hexadecimal digits are `round(aᵢ/17)` -/
theorem bc2AlphaBlock_eq (alphas : List Nat) (h : ∀ a ∈ alphas, a ≤ 255) :
    bc2AlphaBlock alphas = leBytes (Enc15.packed 4 (fun i => n4FromU8 (alphas.getD i 0)) 16) 8 := by
  have hv := n4FromU8_getD_lt h
  unfold bc2AlphaBlock leBytes
  rw [bc2Acc_eq_packed _ hv]

/-- the eight alpha bytes of ANY block: byte `k` = `q(a₂ₖ) + 16·q(a₂ₖ₊₁)` with `q = n4FromU8` -/
theorem bc2AlphaBlock_bytes (alphas : List Nat) (h : ∀ a ∈ alphas, a ≤ 255) (k : Nat) (hk : k < 8) :
    (bc2AlphaBlock alphas).getD k 0 = n4FromU8 (alphas.getD (2 * k) 0) + 16 * n4FromU8 (alphas.getD (2 * k + 1) 0) := by
  have hv := n4FromU8_getD_lt h
  have d0 := Enc15.packed_digit 4 (by decide) _ hv 16 (2 * k) (by omega)
  have d1 := Enc15.packed_digit 4 (by decide) _ hv 16 (2 * k + 1) (by omega)
  -- a byte is its two hexadecimal digits
  have e0 : 2 ^ (2 * k * 4) = 256 ^ k := by
    rw [show (256 : Nat) = 2 ^ 8 from rfl, ← Nat.pow_mul]; congr 1; omega
  rw [Nat.add_mul, Nat.pow_add, e0, ← Nat.div_div_eq_div_mul] at d1
  rw [e0] at d0
  rw [bc2AlphaBlock_eq alphas h, leBytes_getD _ 8 k hk]
  omega

/-- decoder side: pixel `p` of the explicit-alpha block shows `17·q(aₚ)` — every pixel of every block -/
theorem bc2AlphaBlock_px (alphas : List Nat) (h : ∀ a ∈ alphas, a ≤ 255) (p : Nat) (hp : p < 16) :
    bc2Alpha (blkOf (bc2AlphaBlock alphas)) p = 17 * n4FromU8 (alphas.getD p 0) := by
  have hn : n4FromU8 (alphas.getD p 0) ≤ 15 := Nat.le_of_lt_succ (n4FromU8_getD_lt h p)
  have hv := n4FromU8_getD_lt h
  have hw : leWord (blkOf (bc2AlphaBlock alphas)) 0 8 = Enc15.packed 4 (fun i => n4FromU8 (alphas.getD i 0)) 16 := by
    rw [bc2AlphaBlock_eq alphas h]
    exact (leWord_leBytes [] [] _ 8).trans (Nat.mod_eq_of_lt (Enc15.packed_lt 4 (by decide) _ hv 16))
  have hb : ∀ i, blkOf (bc2AlphaBlock alphas) i < 256 :=
    blkOf_lt _ (by rw [bc2AlphaBlock_eq alphas h]; exact leBytes_lt _ 8)
  simp only [bc2Alpha]
  rw [bc2Nibble_eq _ hb p hp, hw, show (16 : Nat) ^ p = 2 ^ (p * 4) by rw [Nat.mul_comm, Nat.pow_mul],
    Enc15.packed_digit 4 (by decide) _ hv 16 p hp]
  unfold n4n8 w8; omega

/-- BC2 / BC2 premultiplied, ALL blocks: a block whose first 8 bytes are `bc2_alpha`'s output for the 16 input alphas
decodes, at every pixel and under ANY colour block, alpha `17·round(aₚ/17)` -/
theorem bc2_alpha_px (alphas : List Nat) (h : ∀ a ∈ alphas, a ≤ 255) (blk : Nat → Nat)
    (hb : ∀ i, i < 8 → blk i = (bc2AlphaBlock alphas).getD i 0) (p : Nat) (hp : p < 16) :
    (px8 .bc2 blk p).getD 3 0 = 17 * n4FromU8 (alphas.getD p 0) ∧
    (px8 .bc2p blk p).getD 3 0 = 17 * n4FromU8 (alphas.getD p 0) := by
  have e : bc2Alpha blk p = 17 * n4FromU8 (alphas.getD p 0) :=
    (bc2Alpha_congr blk (blkOf (bc2AlphaBlock alphas)) hb p hp).trans (bc2AlphaBlock_px alphas h p hp)
  exact ⟨e, e⟩

theorem n4FromU8_near (a : Nat) : dist (17 * n4FromU8 a) a ≤ 8 ∧ (a % 17 = 0 → 17 * n4FromU8 a = a) := by
  unfold dist n4FromU8
  constructor
  · split <;> omega
  · omega

theorem bc2AlphaSingle_eq (a : Nat) (ha : a ≤ 255) : bc2AlphaSingle a = List.replicate 8 (17 * n4FromU8 a) := by
  have hall : ∀ x ∈ List.replicate 16 a, x ≤ 255 := fun x hx => (List.eq_of_mem_replicate hx) ▸ ha
  unfold bc2AlphaSingle
  rw [bc2AlphaBlock_eq _ hall]
  refine map_range_const 8 _ _ fun k hk => ?_
  have hb := bc2AlphaBlock_bytes _ hall k hk
  rw [bc2AlphaBlock_eq _ hall, leBytes_getD _ 8 k hk, getD_replicate_of_lt 16 a 0 _ (by omega),
    getD_replicate_of_lt 16 a 0 _ (by omega)] at hb
  omega

/-- BC2 / BC2 premultiplied: a block whose first 8 bytes are `bc2_alpha`'s output for constant alpha `a` decodes alpha
`17·round(a/17)` at all 16 pixels whatever the colour block is -/
theorem bc2_alpha_single (a : Nat) (ha : a ≤ 255) (blk : Nat → Nat) (h : ∀ i, i < 8 → blk i = (bc2AlphaSingle a).getD i 0)
    (p : Nat) (hp : p < 16) :
    (px8 .bc2 blk p).getD 3 0 = 17 * n4FromU8 a ∧ (px8 .bc2p blk p).getD 3 0 = 17 * n4FromU8 a := by
  have e := bc2_alpha_px (List.replicate 16 a) (fun x hx => (List.eq_of_mem_replicate hx) ▸ ha) blk h p hp
  rwa [getD_replicate_of_lt 16 a 0 p hp] at e

end Dds.Enc13
