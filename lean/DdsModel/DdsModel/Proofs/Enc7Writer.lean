/-
C13 / BC7 writer: for every mode and every well-formed argument tuple of `Compressed::modeN`, the proved decoder on
the written block returns the encoder's intended palette entries.  Each writer's field list is the specification's
layout of its mode (`Enc7Layout`), so the decoder's side is `decodeBlock_layout`; what remains is the anchor fix-up:
a subset whose anchor index had its top bit set is written with its two endpoints (and their p-bits) exchanged and its
indexes inverted, which interpolation does not see (`interpolate_sym`).
-/
import DdsModel.Proofs.Enc7Layout
import DdsModel.Proofs.Enc7Norm
namespace Dds.Enc7
open Dds Dds.BcTables Dds.Bc7Spec

/-! ### `swap(0, 1)`, `swap(2, 3)`, `swap(4, 5)` -/

theorem swapPair_eq {α : Type} (sw : Bool) (a b : α) : swapPair sw a b = [if sw then b else a, if sw then a else b] := by
  cases sw <;> rfl

theorem forall_mem_swapPair {α : Type} {P : α → Prop} {sw : Bool} {a b : α} :
    (∀ x ∈ swapPair sw a b, P x) ↔ P a ∧ P b := by
  cases sw <;> simp [swapPair, and_comm]

theorem ep_swapPair_succ (sw : Bool) (a b : List Nat) (l : List (List Nat)) (k : Nat) :
    ep (swapPair sw a b ++ l) (k + 2) = ep l k := by cases sw <;> rfl
theorem px_swapPair_succ (sw : Bool) (a b : Nat) (l : List Nat) (k : Nat) :
    px (swapPair sw a b ++ l) (k + 2) = px l k := by cases sw <;> rfl

/-- `arr.swap(2s, 2s + 1)` for every subset `s < n` whose flag is set, as the writers spell it out for 1, 2, 3 subsets -/
def swapped {α : Type} (n : Nat) (fl : Nat → Bool) (g : Nat → α) : List α :=
  match n with
  | 1 => swapPair (fl 0) (g 0) (g 1)
  | 2 => swapPair (fl 0) (g 0) (g 1) ++ swapPair (fl 1) (g 2) (g 3)
  | 3 => swapPair (fl 0) (g 0) (g 1) ++ swapPair (fl 1) (g 2) (g 3) ++ swapPair (fl 2) (g 4) (g 5)
  | _ => []

theorem forall_mem_swapped {α : Type} {P : α → Prop} (n : Nat) (fl : Nat → Bool) (g : Nat → α)
    (h : ∀ e, e < 2 * n → P (g e)) : ∀ y ∈ swapped n fl g, P y := by
  unfold swapped
  split
  · exact forall_mem_swapPair.mpr ⟨h 0 (by decide), h 1 (by decide)⟩
  · exact List.forall_mem_append.mpr ⟨forall_mem_swapPair.mpr ⟨h 0 (by decide), h 1 (by decide)⟩,
      forall_mem_swapPair.mpr ⟨h 2 (by decide), h 3 (by decide)⟩⟩
  · exact List.forall_mem_append.mpr ⟨List.forall_mem_append.mpr
      ⟨forall_mem_swapPair.mpr ⟨h 0 (by decide), h 1 (by decide)⟩,
        forall_mem_swapPair.mpr ⟨h 2 (by decide), h 3 (by decide)⟩⟩,
      forall_mem_swapPair.mpr ⟨h 4 (by decide), h 5 (by decide)⟩⟩
  · intro y hy; cases hy

theorem swapped_getD {α : Type} (n : Nat) (fl : Nat → Bool) (g : Nat → α) (d : α) (s : Nat) (hs : s < n) (h3 : n ≤ 3) :
    (swapped n fl g).getD (2 * s) d = (if fl s then g (2 * s + 1) else g (2 * s)) ∧
    (swapped n fl g).getD (2 * s + 1) d = (if fl s then g (2 * s) else g (2 * s + 1)) := by
  have hn : n = 1 ∨ n = 2 ∨ n = 3 := by omega
  rcases hn with rfl | rfl | rfl
  · have : s = 0 := by omega
    subst this; simp only [swapped, swapPair_eq]; exact ⟨rfl, rfl⟩
  · have : s = 0 ∨ s = 1 := by omega
    rcases this with rfl | rfl <;> simp only [swapped, swapPair_eq] <;> exact ⟨rfl, rfl⟩
  · have : s = 0 ∨ s = 1 ∨ s = 2 := by omega
    rcases this with rfl | rfl | rfl <;> simp only [swapped, swapPair_eq] <;> exact ⟨rfl, rfl⟩


def chan (E : List (List Nat)) (c e : Nat) : Nat := px (ep E e) c

/-- a bound on the channel of every entry holds at every position (out of range reads 0) -/
theorem chan_lt (E : List (List Nat)) (B c : Nat) (h : ∀ x ∈ E, px x c < 2 ^ B) (e : Nat) : chan E c e < 2 ^ B := by
  unfold chan ep
  rw [List.getD_eq_getElem?_getD]
  cases he : E[e]? with
  | none => exact Nat.two_pow_pos B
  | some x => exact h x (List.mem_of_getElem? he)

theorem px_lt (l : List Nat) (B : Nat) (h : ∀ v ∈ l, v < 2 ^ B) (e : Nat) : px l e < 2 ^ B := by
  unfold px
  rw [List.getD_eq_getElem?_getD]
  cases he : l[e]? with
  | none => exact Nat.two_pow_pos B
  | some x => exact h x (List.mem_of_getElem? he)


/-- Exchanging the two endpoints of subset `s` and inverting its index gives the same pixel.  `f1`, `f2`: whether the
primary / secondary index list was inverted; `fc`, `fa`: whether the colour / alpha endpoints were exchanged, which
follows the list that indexes them. -/
theorem pixelOf_fixup (r : ModeRec) (rot sel : Nat) (ept ept' : Nat → Nat → Nat → Nat) (s k1 k2 : Nat) (f1 f2 fc fa : Bool)
    (hI : r.idxBits = 2 ∨ r.idxBits = 3 ∨ r.idxBits = 4) (hI2 : r.idx2Bits = 0 ∨ r.idx2Bits = 2 ∨ r.idx2Bits = 3)
    (hk1 : k1 < 2 ^ r.idxBits) (hk2 : k2 < 2 ^ r.idx2Bits)
    (hfc : fc = if r.idx2Bits = 0 then f1 else if sel = 1 then f2 else f1)
    (hfa : fa = if r.idx2Bits = 0 then f1 else if sel = 1 then f1 else f2)
    (h0 : ∀ c, ept' s 0 c = if (if c = 3 then fa else fc) then ept s 1 c else ept s 0 c)
    (h1 : ∀ c, ept' s 1 c = if (if c = 3 then fa else fc) then ept s 0 c else ept s 1 c) :
    pixelOf r rot sel ept' s (if f1 then 2 ^ r.idxBits - 1 - k1 else k1) (if f2 then 2 ^ r.idx2Bits - 1 - k2 else k2) =
      pixelOf r rot sel ept s k1 k2 := by
  subst hfc hfa
  simp only [pixelOf, h0, h1, Nat.reduceEqDiff, if_true, if_false]
  by_cases h2 : r.idx2Bits = 0
  · simp only [h2, if_true]
    cases f1
    · rfl
    · simp only [if_true, interpolate_sym r.idxBits _ _ k1 hI hk1]
  · have hI2' : r.idx2Bits = 2 ∨ r.idx2Bits = 3 ∨ r.idx2Bits = 4 := by omega
    simp only [h2, if_false]
    by_cases hs : sel = 1 <;> cases f1 <;> cases f2 <;>
      simp only [hs, if_true, if_false, Bool.false_eq_true, interpolate_sym r.idxBits _ _ k1 hI hk1,
        interpolate_sym r.idx2Bits _ _ k2 hI2' hk2]


/-! ### one index list: modes 0 – 3, 6, 7 -/

/-- without a secondary index list nothing reads it -/
theorem pixelOf_one_list (r : ModeRec) (rot sel : Nat) (ept : Nat → Nat → Nat → Nat) (s k1 k2 k2' : Nat)
    (h2 : r.idx2Bits = 0) : pixelOf r rot sel ept s k1 k2 = pixelOf r rot sel ept s k1 k2' := by
  simp only [pixelOf, h2, if_true]

/-- `endpointOf` only looks at the channel, the alpha and the p-bit of its endpoint -/
theorem endpointOf_congr (r : ModeRec) (col col' : Nat → Nat → Nat) (al al' pb pb' : Nat → Nat) (s w w' c : Nat)
    (hc : col' c (2 * s + w) = col c (2 * s + w')) (ha : r.alphaBits ≠ 0 → al' (2 * s + w) = al (2 * s + w'))
    (hp : r.epPBits = 1 → pb' (2 * s + w) = pb (2 * s + w')) (hs : r.epPBits ≠ 1 → pb' s = pb s) :
    endpointOf r col' al' pb' s w c = endpointOf r col al pb s w' c := by
  have hraw : (c = 3 ∧ r.alphaBits = 0) ∨
      (if c = 3 then al' (2 * s + w) else col' c (2 * s + w)) = (if c = 3 then al (2 * s + w') else col c (2 * s + w')) := by
    by_cases h3 : c = 3
    · by_cases ha0 : r.alphaBits = 0
      · exact Or.inl ⟨h3, ha0⟩
      · right; rw [if_pos h3, if_pos h3, ha ha0]
    · right; rw [if_neg h3, if_neg h3, hc]
  simp only [endpointOf]
  rcases hraw with h30 | hraw
  · rw [if_pos h30, if_pos h30]
  · rw [hraw]
    by_cases h1 : r.epPBits = 1
    · simp only [h1, if_true, hp h1]
    · simp only [h1, if_false, hs h1]

/-- the p-bits a one-list writer hands to the stream: exchanged like the endpoints where every endpoint has its own -/
def fixedP (r : ModeRec) (fl : Nat → Bool) (P : List Nat) : List Nat :=
  if r.epPBits = 1 then swapped r.subsets fl (px P) else P

/-- the written endpoints of subset `s` are the arguments', exchanged iff the subset was fixed up -/
theorem endpointOf_swapped (r : ModeRec) (fl : Nat → Bool) (E : List (List Nat)) (P : List Nat) (s c : Nat)
    (hs : s < r.subsets) (hn : r.subsets ≤ 3) :
    let ept' := endpointOf r (chan (swapped r.subsets fl (ep E)))
      (if r.alphaBits = 0 then fun _ => 0 else chan (swapped r.subsets fl (ep E)) 3) (px (fixedP r fl P))
    let ept := endpointOf r (chan E) (chan E 3) (px P)
    (ept' s 0 c = if fl s then ept s 1 c else ept s 0 c) ∧ (ept' s 1 c = if fl s then ept s 0 c else ept s 1 c) := by
  obtain ⟨e0, e1⟩ := swapped_getD r.subsets fl (ep E) [] s hs hn
  obtain ⟨p0, p1⟩ := swapped_getD r.subsets fl (px P) 0 s hs hn
  -- position `2s + w` of the written arrays holds what the arguments have at `2s + w'`
  have key : ∀ w w', (swapped r.subsets fl (ep E)).getD (2 * s + w) [] = ep E (2 * s + w') →
      (swapped r.subsets fl (px P)).getD (2 * s + w) 0 = px P (2 * s + w') →
      endpointOf r (chan (swapped r.subsets fl (ep E)))
        (if r.alphaBits = 0 then fun _ => 0 else chan (swapped r.subsets fl (ep E)) 3) (px (fixedP r fl P)) s w c =
      endpointOf r (chan E) (chan E 3) (px P) s w' c :=
    fun w w' he hp => endpointOf_congr r _ _ _ _ _ _ s w w' c (by simp only [chan, ep, he])
      (fun h => by simp only [if_neg h, chan, ep, he]) (fun h => by simp only [fixedP, if_pos h, px, hp])
      (fun h => by simp only [fixedP, if_neg h])
  cases hf : fl s <;> simp only [hf, if_true, if_false, Bool.false_eq_true] at e0 e1 p0 p1 ⊢
  · exact ⟨key 0 0 e0 p0, key 1 1 e1 p1⟩
  · exact ⟨key 0 1 e0 p0, key 1 0 e1 p1⟩

/-- One index list.  The writer puts the fixed-up endpoints, p-bits and index list into the layout of its mode; the
decoder returns, per pixel, the palette entry of the ARGUMENTS at the argument's index.
`fl s`: whether subset `s` was fixed up; `sub`: the code's subset table; `hidx`: what `Indexes::new_p*` reads back from
the compressed list `c1`. -/
theorem roundtrip_one_list {m : Nat} {r : ModeRec} (hr : modes[m]? = some r) (h2 : r.idx2Bits = 0) {part x : Nat}
    (E : List (List Nat)) (P : List Nat) {c1 : Nat × Nat} {fl : Nat → Bool} {sub : Nat → Nat}
    (hc : Compresses r.subsets r.idxBits part x c1 fl sub) (hpart : part < 2 ^ r.partBits)
    (hE : ∀ e, e < 2 * r.subsets → ∀ c, c < (if r.alphaBits = 0 then 3 else 4) → px (ep E e) c < 2 ^ r.colorBits)
    (hP : ∀ k, k < pBitCount r → px P k < 2) (h128 : idxStart m r + (16 * r.idxBits - r.subsets) ≤ 128)
    (out : Nat → List Nat) (hout : ∀ i, i < 16 →
      out i = pixelOf r 0 0 (endpointOf r (chan E) (chan E 3) (px P)) (sub i) (get r.idxBits x i) 0) :
    Bc7.decodeBlock (finish (writeAll (layout m r part 0 0 (chan (swapped r.subsets fl (ep E)))
      (if r.alphaBits = 0 then fun _ => 0 else chan (swapped r.subsets fl (ep E)) 3) (px (fixedP r fl P)) [c1]))) =
    (List.range 16).map out := by
  have hm : r ∈ modes := List.mem_of_getElem? hr
  obtain ⟨⟨hp6, _⟩, ⟨_, _, _, hca⟩, hs, hI, _, hI2, _⟩ := modes_facts r hm
  have hfit : Fits m r part 0 0 (chan (swapped r.subsets fl (ep E)))
      (if r.alphaBits = 0 then fun _ => 0 else chan (swapped r.subsets fl (ep E)) 3) (px (fixedP r fl P)) := by
    refine ⟨(List.getElem?_eq_some_iff.mp hr).1, hpart, Nat.two_pow_pos _, Nat.two_pow_pos _, fun c hc => chan_lt _ _ c
      (forall_mem_swapped _ fl (ep E) fun e he => hE e he c (by split <;> omega)), fun e => ?_, fun k hk => ?_⟩
    · split
      · exact Nat.two_pow_pos _
      · next ha =>
        rw [(hca h2).resolve_left ha]
        exact chan_lt _ _ 3 (forall_mem_swapped _ fl (ep E) fun e he => hE e he 3 (by rw [if_neg ha]; decide)) e
    · unfold fixedP; split
      · next h1 =>
        exact px_lt _ 1 (forall_mem_swapped _ fl (px P) fun e he => hP e (by rw [pBitCount, if_pos h1]; exact he)) k
      · exact hP k hk
  rw [decodeBlock_layout hfit hr c1 [] hc.fits hc.bits fieldsOK_nil (hc.bits ▸ h128)]
  apply map_range_congr
  intro i hi
  have hp64 : part < 64 := Nat.lt_of_lt_of_le hpart (Nat.pow_le_pow_right (by decide) hp6 : 2 ^ r.partBits ≤ 2 ^ 6)
  have hlt : sub i < r.subsets := hc.subset i hi ▸ specSubset_lt r.subsets part i hs hp64 hi
  rw [hout i hi, hc.read [] i hi, hc.subset i hi, pixelOf_one_list r 0 0 _ _ _ _ 0 h2]
  exact pixelOf_fixup r 0 0 _ _ (sub i) _ 0 (fl (sub i)) false (fl (sub i)) (fl (sub i)) hI hI2 (get_lt _ x i hI) (Nat.two_pow_pos _)
    (by rw [if_pos h2]) (by rw [if_pos h2])
    (fun c => by rw [ite_self]; exact (endpointOf_swapped r fl E P (sub i) c hlt (by omega)).1)
    (fun c => by rw [ite_self]; exact (endpointOf_swapped r fl E P (sub i) c hlt (by omega)).2)

/-! ### two index lists: modes 4, 5 -/

/-- the records with a secondary index list (modes 4, 5): one subset, no partition, no p-bits -/
theorem modes_two_lists : ∀ r ∈ modes, r.idx2Bits ≠ 0 →
    r.subsets = 1 ∧ r.partBits = 0 ∧ r.epPBits = 0 ∧ r.spPBits = 0 ∧ r.alphaBits ≠ 0 := by decide

/-- Two index lists (modes 4, 5; `sel` = 1 lets the secondary list index the colour).  `f1`, `f2`: whether
`compress_p1` inverted the primary / secondary list; the colour endpoints are exchanged with the list that indexes the
colour, the alpha endpoints with the other. -/
theorem roundtrip_two_lists {m : Nat} {r : ModeRec} (hr : modes[m]? = some r) (h2 : r.idx2Bits ≠ 0) {rot : Nat} (sel : Nat)
    (E : List (List Nat)) (A : List Nat) {x x2 : Nat} {fl1 fl2 : Nat → Bool} {c1 c2 : Nat × Nat}
    (hc1 : Compresses r.subsets r.idxBits 0 x c1 fl1 fun _ => 0) (hc2 : Compresses 1 r.idx2Bits 0 x2 c2 fl2 fun _ => 0)
    (hrot : rot < 2 ^ r.rotBits) (hsel : sel < 2 ^ r.selBits)
    (hE : ∀ e, e < 2 → ∀ c, c < 3 → px (ep E e) c < 2 ^ r.colorBits) (hA : ∀ e, e < 2 → px A e < 2 ^ r.alphaBits)
    (h128 : idxStart m r + (16 * r.idxBits - r.subsets + (16 * r.idx2Bits - 1)) ≤ 128)
    (out : Nat → List Nat) (hout : ∀ i, i < 16 → out i =
      pixelOf r rot sel (endpointOf r (chan E) (px A) fun _ => 0) 0 (get r.idxBits x i) (get r.idx2Bits x2 i)) :
    Bc7.decodeBlock (finish (writeAll (layout m r 0 rot sel
      (chan (swapPair (if sel = 1 then fl2 0 else fl1 0) (ep E 0) (ep E 1)))
      (px (swapPair (if sel = 1 then fl1 0 else fl2 0) (px A 0) (px A 1))) (fun _ => 0) [c1, c2]))) =
    (List.range 16).map out := by
  generalize hf1 : fl1 0 = f1 at *
  generalize hf2 : fl2 0 = f2 at *
  have hidx1 := hc1.read [c2]
  have hidx2 : ∀ i, i < 16 → Bc7.getIndex (Bc7.newP1 r.idx2Bits (fv [c2])).1 i =
      if fl2 0 then 2 ^ r.idx2Bits - 1 - get r.idx2Bits x2 i else get r.idx2Bits x2 i := hc2.read []
  simp only [hf1, hf2] at hidx1 hidx2
  have hm : r ∈ modes := List.mem_of_getElem? hr
  obtain ⟨_, _, _, hI, _, hI2, _⟩ := modes_facts r hm
  obtain ⟨hns, hpb, hep, hsp, ha⟩ := modes_two_lists r hm h2
  have hfit : Fits m r 0 rot sel (chan (swapPair (if sel = 1 then f2 else f1) (ep E 0) (ep E 1)))
      (px (swapPair (if sel = 1 then f1 else f2) (px A 0) (px A 1))) (fun _ => 0) :=
    ⟨(List.getElem?_eq_some_iff.mp hr).1, Nat.two_pow_pos _, hrot, hsel,
      fun c hc => chan_lt _ _ c (forall_mem_swapPair.mpr ⟨hE 0 (by decide) c hc, hE 1 (by decide) c hc⟩),
      px_lt _ _ (forall_mem_swapPair.mpr ⟨hA 0 (by decide), hA 1 (by decide)⟩), fun _ _ => by decide⟩
  rw [decodeBlock_layout hfit hr c1 [c2] hc1.fits hc1.bits (fieldsOK_one _ _ hc2.fits (by rw [hc2.bits]; omega))
    (by rw [hc1.bits]; simp only [width, hc2.bits, Nat.add_zero]; exact h128)]
  apply map_range_congr
  intro i hi
  rw [hout i hi, hidx1 i hi, hidx2 i hi, hns, Bc7.specSubset1]
  refine pixelOf_fixup r rot sel _ _ 0 _ _ f1 f2 _ _ hI hI2 (get_lt _ x i hI) (get_lt _ x2 i (by omega))
    (by rw [if_neg h2]) (by rw [if_neg h2]) (fun c => ?_) (fun c => ?_) <;>
  · by_cases h3 : c = 3 <;> cases (if sel = 1 then f2 else f1) <;> cases (if sel = 1 then f1 else f2) <;>
      simp only [endpointOf, hep, hsp, h3, ha, Nat.zero_ne_one, if_true, if_false, and_false, Bool.false_eq_true] <;> rfl


/-- Every writer's field list is the layout of its mode record, with the endpoints the fix-up of `compress_p1 / p2 /
p3` chose; the decoded pixels are `intended` by unfolding.  (For the two four-channel modes the pixel is written out because
the kernel compares `pixelOf` with `intended` quickly only through that middle form.) -/
theorem writer_roundtrip (f : Fields) (h : f.WF) :
    Bc7.decodeBlock (write f) = (List.range 16).map (intended f) := by
  obtain ⟨mode, part, rot, im, E, A, P, x, x2⟩ := f
  obtain ⟨(hm : mode < 8), hpart, hrot, (him : im < 2), hE, hA, hP, hx, hx2⟩ := h
  have hm' : mode = 0 ∨ mode = 1 ∨ mode = 2 ∨ mode = 3 ∨ mode = 4 ∨ mode = 5 ∨ mode = 6 ∨ mode = 7 := by omega
  rcases hm' with rfl | rfl | rfl | rfl | rfl | rfl | rfl | rfl
  · show Bc7.decodeBlock (mode0 part E P x) = _
    exact roundtrip_one_list (m := 0) (r := Bc7.r0) rfl rfl E P
      (compresses3 3 x part (.inr rfl) hx (Nat.lt_trans hpart (by decide : 16 < 64))) hpart hE hP (by decide) _ fun _ _ => rfl
  · show Bc7.decodeBlock (mode1 part E P x) = _
    exact roundtrip_one_list (m := 1) (r := Bc7.r1) rfl rfl E P (compresses2 3 x part (.inr rfl) hx hpart) hpart hE hP
      (by decide) _ fun _ _ => rfl
  · show Bc7.decodeBlock (mode2 part E x) = _
    exact roundtrip_one_list (m := 2) (r := Bc7.r2) rfl rfl E P (compresses3 2 x part (.inl rfl) hx hpart) hpart hE hP
      (by decide) _ fun _ _ => rfl
  · show Bc7.decodeBlock (mode3 part E P x) = _
    exact roundtrip_one_list (m := 3) (r := Bc7.r3) rfl rfl E P (compresses2 2 x part (.inl rfl) hx hpart) hpart hE hP
      (by decide) _ fun _ _ => rfl
  · -- `index_mode` = 1: the 3-bit list indexes the colour, and the swap flags change sides with the lists
    have him' : im = 0 ∨ im = 1 := by omega
    have hfl : ∀ a b : Bool, (a && !(im == 1) || b && (im == 1)) = if im = 1 then b else a := by
      rcases him' with rfl | rfl <;> intro a b <;> cases a <;> cases b <;> rfl
    show Bc7.decodeBlock (mode4 rot im E x A x2) = _
    unfold mode4
    simp only [hfl]
    rcases him' with rfl | rfl <;>
    exact roundtrip_two_lists (m := 4) (r := Bc7.r4) rfl (by decide) _ E A (compresses1 2 x 0 (.inl rfl) hx)
      (compresses1 3 x2 0 (.inr (.inl rfl)) hx2) hrot (by decide) hE hA (by decide) _ fun _ _ => rfl
  · show Bc7.decodeBlock (mode5 rot E x A x2) = _
    exact roundtrip_two_lists (m := 5) (r := Bc7.r5) rfl (by decide) 0 E A (compresses1 2 x 0 (.inl rfl) hx)
      (compresses1 2 x2 0 (.inl rfl) hx2) hrot (by decide) hE hA (by decide) _ fun _ _ => rfl
  · show Bc7.decodeBlock (mode6 E P x) = _
    exact roundtrip_one_list (m := 6) (r := Bc7.r6) rfl rfl E P (compresses1 4 x 0 (.inr (.inr rfl)) hx) (by decide) hE hP
      (by decide)
      (fun i => interpolateRgba 4 (pPromoteRgba 7 (ep E 0) (px P 0)) (pPromoteRgba 7 (ep E 1) (px P 1)) (get 4 x i))
      fun _ _ => rfl
  · show Bc7.decodeBlock (mode7 part E P x) = _
    exact roundtrip_one_list (m := 7) (r := Bc7.r7) rfl rfl E P (compresses2 2 x part (.inl rfl) hx hpart) hpart hE hP
      (by decide)
      (fun i => let s := subset2Index (implP2 part) i
        interpolateRgba 2 (pPromoteRgba 5 (ep E (2 * s)) (px P (2 * s))) (pPromoteRgba 5 (ep E (2 * s + 1)) (px P (2 * s + 1)))
          (get 2 x i))
      fun _ _ => rfl

theorem writeAll_lt (fs : List (Nat × Nat)) : finish (writeAll fs) < 2 ^ 128 := by
  unfold finish writeAll
  have : ∀ (fs : List (Nat × Nat)) (st : Nat × Nat), st.1 < 2 ^ 128 →
      (fs.foldl (fun st f => writeU64 st f.1 f.2) st).1 < 2 ^ 128 := by
    intro fs
    induction fs with
    | nil => intro st h; exact h
    | cons f fs ih =>
      intro st h
      rw [List.foldl_cons]
      apply ih
      simp only [writeU64]
      exact Nat.or_lt_two_pow h (by rw [U128_eq]; exact Nat.mod_lt _ (Nat.two_pow_pos 128))
  exact this fs (0, 0) (by decide)

theorem write_lt (f : Fields) : write f < 2 ^ 128 := by
  have ite_lt : ∀ (c : Prop) [Decidable c] (a b : Nat), a < 2 ^ 128 → b < 2 ^ 128 → (if c then a else b) < 2 ^ 128 := by
    intro c _ a b ha hb; split <;> assumption
  exact ite_lt _ _ _ (writeAll_lt _) <| ite_lt _ _ _ (writeAll_lt _) <| ite_lt _ _ _ (writeAll_lt _) <|
    ite_lt _ _ _ (writeAll_lt _) <| ite_lt _ _ _ (writeAll_lt _) <| ite_lt _ _ _ (writeAll_lt _) <|
    ite_lt _ _ _ (writeAll_lt _) <| ite_lt _ _ _ (writeAll_lt _) (by decide)

end Dds.Enc7
