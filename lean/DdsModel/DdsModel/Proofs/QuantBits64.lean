/-
C15: `s16::from_uf32` on bit patterns — the binary64 computation
`(x.min(1.0) as f64 * 65534.0 + 0.5) as u16` is followed operator by operator and shown to be
EXACT: the widening is exact, the product of a 24-bit by a 16-bit significand has at most 40
bits, and the sum with 0.5 has at most 53 bits unless `x < 2^-53`, where the (rounded) sum stays
below 0.75 and the cast gives 0 like the exact value.
-/
import DdsModel.EncTotal64
import DdsModel.Proofs.ConvF64
import DdsModel.Proofs.QuantBits
import DdsModel.Proofs.Quant
import DdsModel.Proofs.F32Thr
namespace Dds.EncTotal.QuantBits
open Dds.CF32

/-! ### the binary64 chain for a positive value `m · 2^-k ≤ 1` -/

/-- `norm` for the positive finite `f32` value `m·2^-k` (`m < 2^24`, `23 ≤ k ≤ 149`, value ≤ 1):
every binary64 operation is exact or irrelevant, the result is `⌊m·65534 / 2^k + 1/2⌋` -/
theorem chain (m k : Nat) (hm0 : m ≠ 0) (hm24 : m < 2 ^ 24) (hk1 : 23 ≤ k) (hk2 : k ≤ 149)
    (hmk : m ≤ 2 ^ k) :
    CF64.toNatSat (CF64.fadd (CF64.fmul (CF64.roundPack false m (-(k : Int))) CF64.k65534)
      CF64.half) 65535 = (m * 65534 + 2 ^ (k - 1)) / 2 ^ k := by
  obtain ⟨kf1, kf2, kf3, _⟩ := CF64.k65534_facts
  -- step 1: the widening is exact
  have hL1 : Nat.log2 m < 24 := (Nat.log2_lt hm0).mpr hm24
  obtain ⟨P1, r1, f1, m1, e1⟩ := CF64.roundPack_exact m 0 (-(k : Int)) hm0
    (Nat.lt_trans hm24 (by decide)) (by omega) (by omega)
  rw [Nat.pow_zero, Nat.mul_one] at r1
  replace e1 : CF64.expo P1 = (Nat.log2 m : Int) - k - 52 := by omega
  -- step 2: the product is exact
  rw [r1, CF64.fmul_pos _ _ f1 kf1, m1, e1, kf2, kf3,
    show m * 2 ^ (52 - Nat.log2 m) * (65534 * 2 ^ 37) = (m * 65534) * 2 ^ (89 - Nat.log2 m) by
      rw [Nat.mul_mul_mul_comm, ← Nat.pow_add]; congr 2; omega]
  have ha0 : m * 65534 ≠ 0 := by omega
  have ha40 : m * 65534 < 2 ^ 40 := by
    have : m < 16777216 := hm24
    rw [show (2 : Nat) ^ 40 = 1099511627776 by decide]
    omega
  have hak : m * 65534 ≤ 65534 * 2 ^ k := by
    rw [Nat.mul_comm]; exact Nat.mul_le_mul_left _ hmk
  generalize m * 65534 = a at ha0 ha40 hak ⊢
  have hL2 : Nat.log2 a < 40 := (Nat.log2_lt ha0).mpr ha40
  obtain ⟨P2, r2, f2, m2, e2⟩ := CF64.roundPack_exact a (89 - Nat.log2 m)
    ((Nat.log2 m : Int) - k - 52 + -37) ha0 (Nat.lt_trans ha40 (by decide)) (by omega) (by omega)
  replace e2 : CF64.expo P2 = (Nat.log2 a : Int) - k - 52 := by omega
  -- step 3: the sum is `c · 2^t · 2^(-k-t)` with `c = a + 2^(k-1)`
  rw [r2, CF64.fadd_half _ f2, m2, e2]
  clear r1 f1 m1 e1 r2 f2 m2 e2 kf1 kf2 kf3
  generalize he0 : min ((Nat.log2 a : Int) - k - 52) (-53) = e0
  obtain ⟨t, rfl⟩ : ∃ t : Nat, e0 = -(k : Int) - t := ⟨(-(k : Int) - e0).toNat, by omega⟩
  rw [Nat.shiftLeft_eq, Nat.shiftLeft_eq, Nat.mul_assoc, ← Nat.pow_add, ← Nat.pow_add,
    show 52 - Nat.log2 a + ((Nat.log2 a : Int) - k - 52 - (-(k : Int) - t)).toNat = t by omega,
    show 52 + (-53 - (-(k : Int) - t)).toNat = k - 1 + t by omega, Nat.pow_add, ← Nat.add_mul]
  have hkk : 2 ^ k = 2 * 2 ^ (k - 1) := Dds.Quant.two_pow_pred k (by omega)
  have hP : 0 < 2 ^ (k - 1) := Nat.two_pow_pos _
  generalize hc : a + 2 ^ (k - 1) = c
  have hc0 : c ≠ 0 := by omega
  by_cases hk53 : k ≤ 53
  · -- the sum has at most 53 significant bits: exact
    have hc53 : c < 2 ^ 53 := by
      have h1 : 2 ^ (k - 1) ≤ 2 ^ 52 := Nat.pow_le_pow_right (by omega) (by omega)
      have h2 : (2 : Nat) ^ 40 + 2 ^ 52 < 2 ^ 53 := by decide
      omega
    have hLc1 : k - 1 ≤ Nat.log2 c := (Nat.le_log2 hc0).mpr (by omega)
    have hLc2 : Nat.log2 c < 53 := (Nat.log2_lt hc0).mpr hc53
    -- the value is below 65535
    have hclt : c < 65535 * 2 ^ k := by
      rw [show 65535 * 2 ^ k = 65534 * 2 ^ k + 2 ^ k by rw [← Nat.succ_mul]]
      omega
    have hLc3 : Nat.log2 c < 16 + k := by
      rw [Nat.log2_lt hc0, Nat.pow_add]
      exact Nat.lt_trans hclt (Nat.mul_lt_mul_of_pos_right (by decide) (Nat.two_pow_pos k))
    obtain ⟨P3, r3, f3, m3, e3⟩ := CF64.roundPack_exact c t (-(k : Int) - t) hc0 hc53 (by omega)
      (by omega)
    rw [r3, CF64.toNatSat_posfin _ _ f3 (by omega), m3, e3,
      show (-((Nat.log2 c : Int) + t + (-(k : Int) - t) - 52)).toNat = k + (52 - Nat.log2 c) by
        omega,
      Nat.pow_add, Nat.mul_div_mul_right _ _ (Nat.two_pow_pos _)]
    exact Nat.min_eq_left (Nat.le_of_lt ((Nat.div_lt_iff_lt_mul (Nat.two_pow_pos k)).mpr hclt))
  · -- `x < 2^-53`: the product is below 2^-14, the rounded sum at most 0.75, the cast 0
    have h40 : (2 : Nat) ^ 40 ≤ 2 ^ (k - 2) := Nat.pow_le_pow_right (by omega) (by omega)
    have hk2' : 2 ^ (k - 1) = 2 * 2 ^ (k - 1 - 1) := Dds.Quant.two_pow_pred _ (by omega)
    rw [show k - 1 - 1 = k - 2 by omega] at hk2'
    have hle := RoundPack.roundPackG_le_val 52 1022 (c * 2 ^ t) (-(k : Int) - t)
      (Nat.mul_ne_zero hc0 (Nat.pos_iff_ne_zero.mp (Nat.two_pow_pos t))) (-1) (2 ^ 52 + 2 ^ 51)
      (by omega) (by omega) (by decide) (by
        rw [show (-(k : Int) - t + (52 : Nat) - -1).toNat = 0 by omega, Nat.pow_zero, Nat.mul_one,
          show ((-1 : Int) - (52 : Nat) - (-(k : Int) - t)).toNat = (k - 53) + t by omega,
          Nat.pow_add, ← Nat.mul_assoc,
          show (2 ^ 52 + 2 ^ 51) * 2 ^ (k - 53) = 3 * 2 ^ (k - 2) by
            rw [show (2 : Nat) ^ 52 + 2 ^ 51 = 3 * 2 ^ 51 by decide, Nat.mul_assoc, ← Nat.pow_add,
              show 51 + (k - 53) = k - 2 by omega]]
        exact Nat.mul_le_mul_right _ (by omega))
    rw [CF64.roundPack_eq, CF64.toNatSat_lt_one _ _ (Nat.lt_of_le_of_lt hle (by decide +kernel))]
    exact (Nat.div_eq_of_lt (by omega)).symm

theorem ofF32_posfin (x : Nat) (hx : x < posInf) :
    CF64.ofF32 x = CF64.roundPack false (mant x) (expo x) := by
  obtain ⟨a1, a2, a3, _, _⟩ := ConvFast.posfin x hx
  unfold CF64.ofF32
  simp [force_eq, a1, a2, a3]

theorem ofF32_negR (x : Nat) (hx : NegR x) : CF64.NegR (CF64.ofF32 x) := by
  obtain ⟨hn, hneg⟩ := negR_flags x hx
  unfold CF64.ofF32
  simp only [force_eq, hn, hneg, Bool.false_eq_true, if_false, if_true]
  by_cases hi : isInf x = true
  · simp only [hi, if_true]
    exact ⟨by decide, by decide⟩
  · simp only [hi, Bool.false_eq_true, if_false]
    exact CF64.roundPack_true_negR _ _

/-- the fields of a positive pattern `x ≤ 1.0`: the value is `mant x · 2^-k ≤ 1` -/
theorem le_one_fields (x : Nat) (hx : x ≤ one) :
    mant x < 2 ^ 24 ∧ 23 ≤ (-expo x).toNat ∧ (-expo x).toNat ≤ 149 ∧
    expo x = -(((-expo x).toNat : Nat) : Int) ∧ mant x ≤ 2 ^ (-expo x).toNat ∧
    (x ≠ 0 → mant x ≠ 0) := by
  have hxinf : x < posInf := Nat.lt_of_le_of_lt hx (by decide)
  have hml := SharedExp.mant_lt x
  have hXle : expField x ≤ 127 := by
    rw [ConvFast.expField_eq]; simp only [one] at hx; omega
  have hsplit := SharedExp.pattern_split x hxinf
  by_cases hX : 1 ≤ expField x
  · obtain ⟨m1, m2⟩ := SharedExp.mant_normal x hX
    refine ⟨hml, by rw [m2]; omega, by rw [m2]; omega, by rw [m2]; omega, ?_, fun _ => by omega⟩
    by_cases h127 : expField x = 127
    · rw [h127] at hsplit
      have hf0 : fracField x = 0 := by simp only [one] at hx; omega
      rw [m2, h127, m1, hf0]
      decide
    · rw [m2]
      exact Nat.le_trans (Nat.le_of_lt hml) (Nat.pow_le_pow_right (by omega) (by omega))
  · obtain ⟨m1, m2⟩ := SharedExp.mant_subnormal x (by omega)
    refine ⟨hml, by rw [m2]; decide, by rw [m2]; decide, by rw [m2]; decide, ?_, ?_⟩
    · rw [m2]
      exact Nat.le_trans (Nat.le_of_lt hml) (by decide)
    · intro h0
      have : expField x = 0 := by omega
      rw [this] at hsplit
      omega

/-- everything that `min` maps to 1.0 — NaN of any payload and sign, `+∞`, every value ≥ 1 —
gives the largest `norm` -/
theorem s16Norm_of_fmin_one (x : Nat) (h : fmin x one = one) : s16Norm x = 65534 := by
  unfold s16Norm
  rw [h]
  decide +kernel

theorem s16Norm_negR (x : Nat) (hx : NegR x) : s16Norm x = 0 := by
  unfold s16Norm
  rw [fmin_of_negR x hx]
  obtain ⟨kf1, _, _, kf4⟩ := CF64.k65534_facts
  rcases CF64.fadd_neg_half _ (CF64.fmul_neg _ _ (ofF32_negR x hx) kf1 kf4) with h1 | h1
  · exact CF64.toNatSat_neg _ _ h1
  · exact CF64.toNatSat_lt_one _ _ (Nat.lt_of_le_of_lt h1 (by decide))

/-- `0 ≤ x ≤ 1`: `norm = ⌊mant x · 65534 / 2^k + 1/2⌋`, no rounding error of the binary64
evaluation reaches the result -/
theorem s16Norm_le_one (x : Nat) (hx : x ≤ one) :
    s16Norm x = (mant x * 65534 + 2 ^ ((-expo x).toNat - 1)) / 2 ^ (-expo x).toNat := by
  by_cases h0 : x = 0
  · subst h0; decide +kernel
  obtain ⟨f1, f2, f3, f4, f5, f6⟩ := le_one_fields x hx
  unfold s16Norm
  rw [fmin_of_le_one x hx, ofF32_posfin x (Nat.lt_of_le_of_lt hx (by decide))]
  generalize (-expo x).toNat = k at *
  rw [f4]
  exact chain (mant x) k (f6 h0) f1 f2 f3 f5

/-! ### the specification side: `Quant.sq 16` of the real value -/

open Dds.Quant in
theorem roundHalfUp_natCast (n : Nat) : roundHalfUp (n : Rat) = n := by
  unfold roundHalfUp
  rw [floor_eq_of_nat (k := n) (by grind) (by grind)]
  rfl

open Dds.Quant in
theorem sq16_ge_one (v : Rat) (h : 1 ≤ v) : sq 16 v = 65534 := by
  have hc : clamp01 v = 1 := by
    unfold clamp01
    rw [if_neg (by grind)]
    split
    · rfl
    · grind
  unfold sq qL
  rw [hc, Rat.one_mul]
  exact roundHalfUp_natCast _

open Dds.Quant in
theorem sq16_le_zero (v : Rat) (h : v ≤ 0) : sq 16 v = 0 := by
  have hc : clamp01 v = 0 := by
    unfold clamp01
    split
    · rfl
    · rw [if_neg (by grind)]; grind
  unfold sq qL
  rw [hc, Rat.zero_mul]
  exact roundHalfUp_natCast 0

theorem toRat_le_one (x : Nat) (hx : x ≤ one) :
    toRat x = (mant x : Rat) / ((2 ^ (-expo x).toNat : Nat) : Rat) := by
  obtain ⟨f1, f2, f3, f4, f5, f6⟩ := le_one_fields x hx
  obtain ⟨a1, a2, a3, _, _⟩ := ConvFast.posfin x (Nat.lt_of_le_of_lt hx (by decide))
  have hfin : expField x ≠ 255 := by
    rw [ConvFast.expField_eq]; simp only [one] at hx; omega
  have hneg : ¬ (expo x ≥ 0) := by omega
  unfold toRat pow2
  simp only [beq_iff_eq, hfin, if_false, a3, Bool.false_eq_true, hneg]
  rw [Rat.div_def, Rat.div_def, Rat.one_mul]

theorem toRat_ge_one (x : Nat) (h1 : one ≤ x) (h2 : x < posInf) : 1 ≤ toRat x := by
  rw [F32Mono.toRat_pval x h2, ConvFast.one_le_mkRat _ _ (by decide)]
  exact (show F32Mono.pval one = 2 ^ 149 by decide +kernel) ▸ F32Mono.pval_mono h1

theorem qRatio_pow (m k : Nat) (hk : 1 ≤ k) :
    Dds.Quant.qRatio 65534 m (2 ^ k) = (m * 65534 + 2 ^ (k - 1)) / 2 ^ k := by
  unfold Dds.Quant.qRatio
  have hkk : 2 ^ k = 2 * 2 ^ (k - 1) := Dds.Quant.two_pow_pred k (by omega)
  have : 2 * m * 65534 + 2 ^ k = 2 * (m * 65534 + 2 ^ (k - 1)) := by
    rw [hkk, Nat.mul_add, Nat.mul_assoc]
  rw [this]
  exact Nat.mul_div_mul_left _ _ (by decide)

/-- **the binary64 evaluation computes the specified quantiser.**  For every binary32 pattern the
`norm` of `s16::from_uf32` is `Quant.sq 16` = `⌊clamp01(v)·65534 + 1/2⌋` of the real value
`uvalue x` (NaN ↦ 1 through `min`, `±∞` beyond the clamp). -/
theorem s16Norm_eq_sq (x : Nat) (hx : x < 2 ^ 32) : s16Norm x = Dds.Quant.sq 16 (uvalue x) := by
  unfold uvalue
  rcases F32Thr.classify x hx with h | rfl | h | ⟨h, h'⟩ | rfl
  · obtain ⟨a1, a2, _, _, _⟩ := ConvFast.posfin x h
    simp only [a1, a2, Bool.false_eq_true, if_false]
    by_cases h1 : x ≤ one
    · obtain ⟨_, f2, _, _, f5, _⟩ := le_one_fields x h1
      rw [s16Norm_le_one x h1, toRat_le_one x h1]
      unfold Dds.Quant.sq
      rw [show Dds.Quant.snormLevels 16 = 65534 from by decide,
        Dds.Quant.qL_ratio 65534 _ _ (Nat.two_pow_pos _) f5, qRatio_pow _ _ (by omega)]
    · rw [s16Norm_of_fmin_one x (fmin_of_ge_one x (by omega) (Nat.le_of_lt h)),
        sq16_ge_one _ (toRat_ge_one x (by omega) h)]
  · rw [s16Norm_of_fmin_one 0x7F800000 (fmin_of_ge_one _ (by decide) (Nat.le_refl _))]
    exact (sq16_ge_one _ (by decide)).symm
  · rw [if_pos h, s16Norm_of_fmin_one x (fmin_of_nan x h), sq16_ge_one _ (by decide)]
  · obtain ⟨n1, n2, n3⟩ := F32Thr.negfin_flags x h.1 h'
    simp only [n1, n2, Bool.false_eq_true, if_false]
    rw [s16Norm_negR x h, sq16_le_zero _ (F32Mono.toRat_nonpos_of_neg x n3)]
  · rw [s16Norm_negR 0xFF800000 ⟨by decide, by decide⟩]
    exact (sq16_le_zero _ (by decide)).symm

theorem snormFromNorm16_eq (t : Nat) (ht : t ≤ 65534) :
    snormFromNorm 16 t = some (Dds.Quant.snormOfNorm 16 t) := by
  unfold snormFromNorm Dds.Quant.snormOfNorm
  rw [if_pos (by omega)]
  have : t + 1 + 2 ^ 16 - 2 ^ (16 - 1) = t + 1 + 2 ^ (16 - 1) := by omega
  rw [this]

/-- no panic, and the encoded SNORM16 code is the specified one: `Quant.sencode 16` -/
theorem s16_eq_sencode (x : Nat) (hx : x < 2 ^ 32) :
    s16 x = some (Dds.Quant.sencode 16 (uvalue x)) := by
  unfold s16 Dds.Quant.sencode
  rw [s16Norm_eq_sq x hx]
  exact snormFromNorm16_eq _ (Dds.Quant.qL_le _ _)

/-- the decoded code is within half a SNORM16 step of the clamped input (C12's
`snorm_half_step` at 16 bits, for the value the binary64 code really computes) -/
theorem s16_half_step (x : Nat) (hx : x < 2 ^ 32) :
    ∃ v, s16 x = some v ∧ v < 2 ^ 16 ∧
      Dds.Quant.sdeq 16 v - Dds.Quant.clamp01 (uvalue x) ≤ 1 / (2 * 65534) ∧
      -(1 / (2 * 65534)) ≤ Dds.Quant.sdeq 16 v - Dds.Quant.clamp01 (uvalue x) := by
  refine ⟨_, s16_eq_sencode x hx, ?_, ?_⟩
  · unfold Dds.Quant.sencode Dds.Quant.snormOfNorm
    exact Nat.mod_lt _ (by decide)
  · unfold Dds.Quant.sdeq Dds.Quant.sencode Dds.Quant.sq
    rw [Dds.Quant.snormNorm_ofNorm 16 _ (by omega) (Dds.Quant.qL_le _ _)]
    have := Dds.Quant.qL_half_step (Dds.Quant.snormLevels 16) (by decide) (uvalue x)
    rw [show ((Dds.Quant.snormLevels 16 : Nat) : Rat) = 65534 from by decide] at this
    exact this

/-- for `0 ≤ x ≤ 1` the clamp is the identity: `norm = ⌊v·65534 + 1/2⌋` -/
theorem s16Norm_le_one_rat (x : Nat) (hx : x ≤ one) :
    s16Norm x = Dds.Quant.roundHalfUp (toRat x * 65534) := by
  obtain ⟨f1, f2, f3, f4, f5, f6⟩ := le_one_fields x hx
  have h := s16Norm_eq_sq x (Nat.lt_of_le_of_lt hx (by decide))
  have hfin : isNaN x = false ∧ isInf x = false := by
    obtain ⟨a1, a2, _, _, _⟩ := ConvFast.posfin x (Nat.lt_of_le_of_lt hx (by decide))
    exact ⟨a1, a2⟩
  unfold uvalue at h
  simp only [hfin.1, hfin.2, Bool.false_eq_true, if_false] at h
  rw [h]
  unfold Dds.Quant.sq Dds.Quant.qL
  obtain ⟨c0, c1⟩ := Dds.Quant.ratio_mem (Nat.two_pow_pos (-expo x).toNat) f5
  rw [toRat_le_one x hx, Dds.Quant.clamp01_of_mem c0 c1]
  rfl

theorem s16_some (x : Nat) (hx : x < 2 ^ 32) : ∃ v, s16 x = some v ∧ v < 2 ^ 16 := by
  obtain ⟨v, h1, h2, _⟩ := s16_half_step x hx
  exact ⟨v, h1, h2⟩

theorem encode16_fit (r g b a : Nat) (hr : r < 2 ^ 32) (hg : g < 2 ^ 32) (hb : b < 2 ^ 32)
    (ha : a < 2 ^ 32) :
    ∃ r' g' b' a', s16 r = some r' ∧ s16 g = some g' ∧ s16 b = some b' ∧ s16 a = some a' ∧
      encode16 "R16_SNORM" r g b a = some r' ∧ r' < 2 ^ 16 ∧
      encode16 "R16G16_SNORM" r g b a = some (pack [(r', 16), (g', 16)]) ∧
      pack [(r', 16), (g', 16)] < 2 ^ 32 ∧
      encode16 "R16G16B16A16_SNORM" r g b a = some (pack [(r', 16), (g', 16), (b', 16), (a', 16)]) ∧
      pack [(r', 16), (g', 16), (b', 16), (a', 16)] < 2 ^ 64 := by
  obtain ⟨r', e1, h1⟩ := s16_some r hr
  obtain ⟨g', e2, h2⟩ := s16_some g hg
  obtain ⟨b', e3, h3⟩ := s16_some b hb
  obtain ⟨a', e4, h4⟩ := s16_some a ha
  refine ⟨r', g', b', a', e1, e2, e3, e4, ?_, h1, ?_, ?_, ?_, ?_⟩
  · unfold encode16
    simp only [e1]
  · unfold encode16
    simp only [e1, e2, pack, Nat.zero_shiftLeft, Nat.or_zero]
  · exact pack_lt _ (fits_cons h1 (fits_cons h2 fits_nil))
  · unfold encode16
    simp only [e1, e2, e3, e4, pack, Nat.shiftLeft_or_distrib, ← Nat.shiftLeft_add, Nat.zero_shiftLeft, Nat.or_zero,
      Nat.or_assoc]
  · exact pack_lt _ (fits_cons h1 (fits_cons h2 (fits_cons h3 (fits_cons h4 fits_nil))))

end Dds.EncTotal.QuantBits
