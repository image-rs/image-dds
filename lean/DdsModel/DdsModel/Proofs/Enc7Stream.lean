/-
C13 / BC7 writer: a block is the concatenation of its fields.  `BitStream` writes of values that fit their
widths add up to `fv fs`, and a field is read back at the total width of the fields before it (`rd_fv`); shifting a
prefix out leaves the rest (`shr_fv_append`), which is all the decoder's positional reads need.
-/
import DdsModel.Enc7
import DdsModel.Proofs.Bc7GlueIndex
import DdsModel.Proofs.Fields
namespace Dds.Enc7
open Dds Dds.BcTables Dds.Bc7Spec

theorem U128_eq : U128 = 2 ^ 128 := by decide

/-- the straight-line `write_u64` sequence, after the fields `pre` -/
theorem foldl_write (pre fs : List (Nat × Nat)) (h : FieldsOK (pre ++ fs)) (hw : width (pre ++ fs) ≤ 128) :
    fs.foldl (fun st f => writeU64 st f.1 f.2) (fv pre, width pre) = (fv (pre ++ fs), width (pre ++ fs)) := by
  induction fs generalizing pre with
  | nil => rw [List.append_nil]; rfl
  | cons f fs ih =>
    rw [List.append_cons] at h hw ⊢
    obtain ⟨h1, h64⟩ := (fieldsOK_append.mp (fieldsOK_append.mp h).1).2 f (List.mem_singleton_self f)
    have hle := width_append (pre ++ [f]) fs ▸ hw
    have hsh := shl_lt_of_snoc (fieldsOK_append.mp h).1
    rw [width_append, width, width, Nat.add_zero] at hle
    have hstep : writeU64 (fv pre, width pre) f.1 f.2 = (fv (pre ++ [f]), width (pre ++ [f])) := by
      rw [writeU64, Nat.mod_eq_of_lt (Nat.lt_of_lt_of_le h1 (by rw [Bc7.U64_eq]; exact Nat.pow_le_pow_right (by decide) (by omega))),
        Nat.mod_eq_of_lt (Nat.lt_of_lt_of_le hsh (by rw [U128_eq]; exact Nat.pow_le_pow_right (by decide) (by omega))),
        Nat.mod_eq_of_lt (by unfold U8; omega), or_shl_fv _ _ f.2 (fieldsOK_append.mp (fieldsOK_append.mp h).1).1,
        width_append, width, width, Nat.add_zero]
    rw [List.foldl_cons, hstep, ih _ h hw]

/-- `finish(write … write(new()))` is the sum of the fields -/
theorem finish_writeAll (fs : List (Nat × Nat)) (h : FieldsOK fs) (hw : width fs ≤ 128) :
    finish (writeAll fs) = fv fs :=
  congrArg Prod.fst (foldl_write [] fs h hw)


/-- `consume_bits_64(count)` returns a leading field of `count` bits (`Indexes::new_p*`) -/
theorem consumeBits64_fv (count y : Nat) (fs : List (Nat × Nat)) (hc : count < 64) (hy : y < 2 ^ count) :
    Bc7.consumeBits64 count (fv ((y, count) :: fs)) = (y, fv fs) := by
  have h := Bc7.consumeBits64_at count (fv ((y, count) :: fs)) 0 hc
  rw [Nat.shiftRight_zero, Nat.zero_add] at h
  rw [h, fv_cons, Nat.add_mul_mod_self_left, Nat.mod_eq_of_lt hy, Nat.shiftRight_eq_div_pow,
    Nat.add_mul_div_left _ _ (Nat.two_pow_pos count), Nat.div_eq_of_lt hy, Nat.zero_add]

/-- the decoder's primary index list, read from a stream that starts at the index fields -/
def readIdx (ns I part s : Nat) : Bc7.Indexes :=
  if ns = 2 then (Bc7.newP2 I s (implP2 part).2).1
  else if ns = 3 then (Bc7.newP3 I s (implP3 part).2.1 (implP3 part).2.2).1
  else (Bc7.newP1 I s).1

theorem px_map_range (f : Nat → Nat) (n i : Nat) (h : i < n) : px ((List.range n).map f) i = f i := by
  simp [px, List.getD_eq_getElem?_getD, h]


/-- the mode of a byte is the number of its trailing zeros -/
theorem modeOf_byte : ∀ x, x < 256 → ∀ m, m < 8 → x % 2 ^ (m + 1) = 2 ^ m → modeOf x = m := by decide +kernel

theorem writeMode_eq (m : Nat) (hm : m < 8) : writeMode m = [(2 ^ m, m + 1)] := by
  rw [writeMode, Nat.one_shiftLeft, Nat.mod_eq_of_lt]
  rw [Bc7.U64_eq]; exact Nat.pow_lt_pow_right (by decide) (by omega)

theorem fieldsOK_mode (m : Nat) (hm : m < 8) : FieldsOK (writeMode m) := by
  rw [writeMode_eq m hm]
  exact fieldsOK_one _ _ (Nat.pow_lt_pow_right (by decide) (by omega)) (by omega)

/-- `write_mode(m)` is what the decoder's mode selection sees -/
theorem modeOf_fv (m : Nat) (fs : List (Nat × Nat)) (hm : m < 8) : modeOf (fv (writeMode m ++ fs)) = m := by
  have hd : 2 ^ (m + 1) ∣ 256 := Nat.pow_dvd_pow 2 (by omega : m + 1 ≤ 8)
  rw [Bc7.modeOf_mod]
  apply modeOf_byte _ (Nat.mod_lt _ (by decide)) m hm
  rw [Nat.mod_mod_of_dvd _ hd, writeMode_eq m hm, List.cons_append, List.nil_append, fv_cons,
    Nat.add_mul_mod_self_left, Nat.mod_eq_of_lt (Nat.pow_lt_pow_right (by decide) (by omega))]

end Dds.Enc7
