/-
Helper lemmas of C15: upper bounds through the float operations of the quantisers and the
saturating casts; bit-field packing; the refinement loop.
-/
import DdsModel.EncTotal
namespace Dds.EncTotal
open Dds

/-- the rounding returns `q` itself (`q` is representable) -/
def Rounding.fixes (R : Rounding) (q : Rat) : Prop := R.rnd q = .fin q

theorem exact_fixes (q : Rat) : Rounding.exact.fixes q := rfl


theorem ub_minC (x : ExtReal) (c : Rat) : (x.minC c).ub c := by
  cases x with
  | nan => exact Rat.le_refl
  | ninf => trivial
  | pinf => exact Rat.le_refl
  | fin q =>
    show (if q ≤ c then q else c) ≤ c
    by_cases h : q ≤ c
    · rw [if_pos h]; exact h
    · rw [if_neg h]; exact Rat.le_refl

theorem ub_mulPos (R : Rounding) (x : ExtReal) (a k : Rat) (hx : x.ub a) (hk : 0 ≤ k)
    (hr : R.fixes (a * k)) : (x.mulPos R k).ub (a * k) := by
  cases x with
  | nan => exact hx.elim
  | ninf => trivial
  | pinf => exact hx.elim
  | fin q => exact R.mono (q * k) (a * k) (a * k) (Rat.mul_le_mul_of_nonneg_right hx hk) hr

theorem ub_addC (R : Rounding) (x : ExtReal) (a c : Rat) (hx : x.ub a)
    (hr : R.fixes (a + c)) : (x.addC R c).ub (a + c) := by
  cases x with
  | nan => exact hx.elim
  | ninf => trivial
  | pinf => exact hx.elim
  | fin q => exact R.mono (q + c) (a + c) (a + c) (Rat.add_le_add_right.mpr hx) hr

theorem floor_toNat_le (q c : Rat) (n : Nat) (h : q ≤ c) (hc : c < n + 1) : q.floor.toNat ≤ n := by
  have h2 : q.floor < (n + 1 : Int) := by
    rw [Rat.floor_lt_iff]
    push_cast
    grind
  omega

theorem castU_le (bits : Nat) (x : ExtReal) (c : Rat) (n : Nat) (hx : x.ub c) (hc : c < n + 1) :
    x.castU bits ≤ n := by
  cases x with
  | nan => exact hx.elim
  | ninf => exact Nat.zero_le _
  | pinf => exact hx.elim
  | fin q =>
    show (if q < 0 then 0 else min q.floor.toNat (2 ^ bits - 1)) ≤ n
    by_cases h : q < 0
    · rw [if_pos h]; exact Nat.zero_le _
    · rw [if_neg h]
      exact Nat.le_trans (Nat.min_le_left _ _) (floor_toNat_le q c n hx hc)

/-- whatever the value (NaN and the infinities included), `as uN` fits `N` bits -/
theorem castU_lt (bits : Nat) (x : ExtReal) : x.castU bits < 2 ^ bits := by
  have hp : 0 < 2 ^ bits := Nat.two_pow_pos bits
  cases x with
  | nan => exact hp
  | ninf => exact hp
  | pinf => show 2 ^ bits - 1 < 2 ^ bits; omega
  | fin q =>
    show (if q < 0 then 0 else min q.floor.toNat (2 ^ bits - 1)) < 2 ^ bits
    by_cases h : q < 0
    · rw [if_pos h]; exact hp
    · rw [if_neg h]
      have := Nat.min_le_right q.floor.toNat (2 ^ bits - 1)
      omega


theorem qN1_le (x : ExtReal) : qN1 x ≤ 1 := by
  unfold qN1
  split <;> omega

/-- `(x.min(1.0) * MAX + 0.5) as uN ≤ MAX` for every input, given that `MAX` and `MAX + 0.5`
are representable -/
theorem qUnormMin_le (R : Rounding) (max ty : Nat) (x : ExtReal)
    (h1 : R.fixes max) (h2 : R.fixes (max + 1/2)) : qUnormMin R max ty x ≤ max := by
  unfold qUnormMin
  have e : (1 : Rat) * max = max := Rat.one_mul _
  have a1 := ub_mulPos R _ 1 max (ub_minC x 1) (by exact_mod_cast Nat.zero_le max) (by rw [e]; exact h1)
  rw [e] at a1
  exact castU_le ty _ _ max (ub_addC R _ (max : Rat) (1/2) a1 h2) (by grind)

theorem qUnormSat_lt (R : Rounding) (max ty : Nat) (x : ExtReal) : qUnormSat R max ty x < 2 ^ ty :=
  castU_lt ty _

/-- SNORM: the intermediate `norm` is at most `2^n − 2`, so `norm + 1` does not overflow the
type and the result fits `n` bits -/
theorem qSnorm_some (R : Rounding) (bits : Nat) (hb : 2 ≤ bits) (x : ExtReal)
    (h1 : R.fixes ((2 ^ bits - 2 : Nat) : Rat)) (h2 : R.fixes (((2 ^ bits - 2 : Nat) : Rat) + 1/2)) :
    ∃ v, qSnorm R bits x = some v ∧ v < 2 ^ bits := by
  have hn : qSnormNorm R bits x ≤ 2 ^ bits - 2 := qUnormMin_le R _ bits x h1 h2
  have hp : 4 ≤ 2 ^ bits := by
    calc 4 = 2 ^ 2 := rfl
      _ ≤ 2 ^ bits := Nat.pow_le_pow_right (by omega) hb
  unfold qSnorm snormFromNorm
  have : qSnormNorm R bits x + 1 < 2 ^ bits := by omega
  rw [if_pos this]
  exact ⟨_, rfl, Nat.mod_lt _ (by omega)⟩

theorem qXr10_le (R : Rounding) (x : ExtReal) : qXr10 R x ≤ 1023 := Nat.min_le_right _ _

theorem qYuv8_lt (R : Rounding) (row : YuvRow) (r g b : ExtReal) : qYuv8 R row r g b < 256 :=
  castU_lt 8 _
theorem qYuv10_le (R : Rounding) (row : YuvRow) (r g b : ExtReal) : qYuv10 R row r g b ≤ 1023 :=
  Nat.min_le_right _ _
theorem qYuv16_lt (R : Rounding) (row : YuvRow) (r g b : ExtReal) : qYuv16 R row r g b < 65536 :=
  castU_lt 16 _


theorem shiftLeft_lt_pow (v w n : Nat) (h : v < 2 ^ n) : v <<< w < 2 ^ (w + n) := by
  rw [Nat.shiftLeft_eq, Nat.pow_add, Nat.mul_comm]
  exact Nat.mul_lt_mul_of_pos_left h (Nat.two_pow_pos w)

theorem lt_pow_mono (v a b : Nat) (h : v < 2 ^ a) (hab : a ≤ b) : v < 2 ^ b :=
  Nat.lt_of_lt_of_le h (Nat.pow_le_pow_right (by omega) hab)

/-- `(exp << n) | mant` of `f32_to_unsigned_fp_e5` fits `n + 5` bits -/
theorem fpE5_lt (n : Nat) (hn : n ≤ 10) (f16 : Nat) : fpE5 n f16 < 2 ^ (n + 5) := by
  unfold fpE5
  apply Nat.or_lt_two_pow
  · have : (f16 >>> 10) &&& 31 < 2 ^ 5 := Nat.and_lt_two_pow _ (by decide)
    exact shiftLeft_lt_pow _ n 5 this
  · have h1 : f16 &&& 1023 < 2 ^ 10 := Nat.and_lt_two_pow _ (by decide)
    have h2 : (f16 &&& 1023) >>> (10 - n) < 2 ^ n := by
      rw [Nat.shiftRight_eq_div_pow]
      apply Nat.div_lt_of_lt_mul
      rw [← Nat.pow_add]
      have : 10 - n + n = 10 := by omega
      rw [this]; exact h1
    exact lt_pow_mono _ n (n + 5) h2 (by omega)

/-- fields that fit their widths pack into the sum of the widths: no shift pushes a bit out -/
theorem pack_lt (l : List (Nat × Nat)) (h : ∀ f ∈ l, f.1 < 2 ^ f.2) : pack l < 2 ^ widthSum l := by
  induction l with
  | nil => simp [pack, widthSum]
  | cons f rest ih =>
    obtain ⟨v, w⟩ := f
    have hv : v < 2 ^ w := h (v, w) (List.mem_cons_self)
    have hr := ih (fun f hf => h f (List.mem_cons_of_mem _ hf))
    show v ||| (pack rest <<< w) < 2 ^ widthSum ((v, w) :: rest)
    have e : widthSum ((v, w) :: rest) = w + widthSum rest := by simp [widthSum]
    rw [e]
    apply Nat.or_lt_two_pow
    · exact lt_pow_mono _ w _ hv (by omega)
    · exact shiftLeft_lt_pow _ w _ hr

/-- the hypothesis of `pack_lt`, field by field -/
theorem fits_nil : ∀ f ∈ ([] : List (Nat × Nat)), f.1 < 2 ^ f.2 := nofun

theorem fits_cons {v w : Nat} {l : List (Nat × Nat)} (hv : v < 2 ^ w)
    (hl : ∀ f ∈ l, f.1 < 2 ^ f.2) : ∀ f ∈ (v, w) :: l, f.1 < 2 ^ f.2 :=
  List.forall_mem_cons.mpr ⟨hv, hl⟩

theorem pack_low (v w : Nat) (rest : List (Nat × Nat)) (hv : v < 2 ^ w) :
    pack ((v, w) :: rest) % 2 ^ w = v ∧ pack ((v, w) :: rest) >>> w = pack rest := by
  show (v ||| (pack rest <<< w)) % 2 ^ w = v ∧ (v ||| (pack rest <<< w)) >>> w = pack rest
  have e : v ||| (pack rest <<< w) = pack rest <<< w + v := by
    rw [Nat.or_comm]; exact (Nat.shiftLeft_add_eq_or_of_lt hv _).symm
  rw [e, Nat.shiftLeft_eq, Nat.shiftRight_eq_div_pow]
  constructor
  · rw [Nat.add_comm, Nat.add_mul_mod_self_right]; exact Nat.mod_eq_of_lt hv
  · rw [Nat.add_comm, Nat.add_mul_div_right _ _ (Nat.two_pow_pos w), Nat.div_eq_of_lt hv]; omega


/-- a channel below `2^(exp − 15)` (`exp` the shared exponent chosen from the largest channel)
gives a mantissa of at most 512 — 512 only by rounding, which is what the second pass handles -/
theorem mant9995_le (R : Rounding) (exp : Nat) (c bound : Rat) (n : Nat)
    (hc : c * (2 : Rat) ^ ((24 : Int) - exp) ≤ bound) (hb : bound + 1/2 < n + 1)
    (hr : R.fixes (bound + 1/2)) : mant9995 R exp c ≤ n := by
  unfold mant9995
  have a1 : (ExtReal.fin (c * (2 : Rat) ^ ((24 : Int) - exp))).ub bound := hc
  have a2 := ub_addC R _ bound (1/2) a1 hr
  exact castU_le 32 _ _ n a2 hb


theorem refineIters_le (stepOk : Nat → Bool) (maxIter : Nat) : ∀ fuel iters, iters ≤ maxIter →
    refineIters stepOk maxIter fuel iters ≤ maxIter := by
  intro fuel
  induction fuel with
  | zero => intro iters h; exact h
  | succ fuel ih =>
    intro iters h
    simp only [refineIters]
    by_cases hc : loopGuard stepOk maxIter iters = true
    · rw [if_pos hc]
      simp only [loopGuard, Bool.and_eq_true, decide_eq_true_eq] at hc
      exact ih (iters + 1) (by omega)
    · rw [if_neg hc]; exact h

/-- with enough fuel the loop has really stopped: the guard is false at the returned count -/
theorem refineIters_stops (stepOk : Nat → Bool) (maxIter : Nat) : ∀ fuel iters,
    maxIter ≤ iters + fuel →
    loopGuard stepOk maxIter (refineIters stepOk maxIter fuel iters) = false := by
  intro fuel
  induction fuel with
  | zero =>
    intro iters h
    simp only [refineIters, loopGuard]
    have : ¬ iters < maxIter := by omega
    simp [this]
  | succ fuel ih =>
    intro iters h
    simp only [refineIters]
    by_cases hc : loopGuard stepOk maxIter iters = true
    · rw [if_pos hc]; exact ih (iters + 1) (by omega)
    · rw [if_neg hc]; simpa using hc

end Dds.EncTotal
