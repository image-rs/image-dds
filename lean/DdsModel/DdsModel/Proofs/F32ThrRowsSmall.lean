/-
The threshold tables of 255, 3, 15, 31, 63, 1023, 254 codes (one chunk each),
checked by kernel evaluation of `chkList` (`Proofs/F32Thr.lean`).  GENERATED by tools/gen_f32thr.py (the
script is not trusted: every entry is validated here).  Entry `2t + d`: `t` = first pattern whose result is ≥ k,
`d = 1` iff `t` is still below the exact tie `(2k−1)/(2L)` (its result is one code too high).
-/
import DdsModel.Proofs.F32Thr

namespace Dds.F32Thr.FpN8

-- `fp::n8` / `n8::from_f32`: `(x * 255.0 + 0.5) as u8`
@[irreducible] def c0 : List Nat :=
  [1979777281, 2004976002, 2017542466, 2025963970, 2032214306, 2036425058, 2040635810, 2044846562, 2047938834,
   2050044210, 2052149586, 2054254962, 2056360338, 2058465714, 2060571090, 2062676466, 2064189706, 2065242394,
   2066295082, 2067347770, 2068400458, 2069453146, 2070505834, 2071558522, 2072611210, 2073663898, 2074716586,
   2075769274, 2076821962, 2077874650, 2078927338, 2079980026, 2080703750, 2081230094, 2081756438, 2082282782,
   2082809126, 2083335470, 2083861814, 2084388158, 2084914502, 2085440846, 2085967190, 2086493534, 2087019878,
   2087546222, 2088072566, 2088598910, 2089125254, 2089651598, 2090177942, 2090704286, 2091230630, 2091756974,
   2092283318, 2092809662, 2093336006, 2093862350, 2094388694, 2094915038, 2095441382, 2095967726, 2096494070,
   2097020414, 2097349380, 2097612552, 2097875724, 2098138896, 2098402068, 2098665240, 2098928412, 2099191584,
   2099454756, 2099717928, 2099981100, 2100244272, 2100507444, 2100770616, 2101033788, 2101296960, 2101560132,
   2101823304, 2102086476, 2102349648, 2102612820, 2102875992, 2103139164, 2103402336, 2103665508, 2103928680,
   2104191852, 2104455024, 2104718196, 2104981368, 2105244540, 2105507712, 2105770884, 2106034056, 2106297228,
   2106560400, 2106823572, 2107086744, 2107349916, 2107613088, 2107876260, 2108139432, 2108402604, 2108665776,
   2108928948, 2109192120, 2109455292, 2109718464, 2109981636, 2110244808, 2110507980, 2110771152, 2111034324,
   2111297496, 2111560668, 2111823840, 2112087012, 2112350184, 2112613356, 2112876528, 2113139700, 2113402872,
   2113666044, 2113929216, 2114060803, 2114192389, 2114323975, 2114455561, 2114587147, 2114718733, 2114850319,
   2114981905, 2115113491, 2115245077, 2115376663, 2115508249, 2115639835, 2115771421, 2115903007, 2116034593,
   2116166179, 2116297765, 2116429351, 2116560937, 2116692523, 2116824109, 2116955695, 2117087281, 2117218867,
   2117350453, 2117482039, 2117613625, 2117745211, 2117876797, 2118008383, 2118139969, 2118271555, 2118403141,
   2118534727, 2118666313, 2118797899, 2118929485, 2119061071, 2119192657, 2119324243, 2119455829, 2119587415,
   2119719001, 2119850587, 2119982173, 2120113759, 2120245345, 2120376931, 2120508517, 2120640103, 2120771689,
   2120903275, 2121034861, 2121166447, 2121298033, 2121429619, 2121561205, 2121692791, 2121824377, 2121955963,
   2122087549, 2122219135, 2122350721, 2122482307, 2122613893, 2122745479, 2122877065, 2123008651, 2123140237,
   2123271823, 2123403409, 2123534995, 2123666581, 2123798167, 2123929753, 2124061339, 2124192925, 2124324511,
   2124456097, 2124587683, 2124719269, 2124850855, 2124982441, 2125114027, 2125245613, 2125377199, 2125508785,
   2125640371, 2125771957, 2125903543, 2126035129, 2126166715, 2126298301, 2126429887, 2126561473, 2126693059,
   2126824645, 2126956231, 2127087817, 2127219403, 2127350989, 2127482575, 2127614161, 2127745747, 2127877333,
   2128008919, 2128140505, 2128272091, 2128403677, 2128535263, 2128666849, 2128798435, 2128930021, 2129061607,
   2129193193, 2129324779, 2129456365, 2129587951, 2129719537, 2129851123, 2129982709, 2130114295, 2130245881,
   2130377467, 2130509053, 2130640639]
theorem c0_ok :
    chkList (pipeF 1132396544 255) 255 2139095040 1 0 0 c0
      256 1065320320 128 = true := by decide +kernel
theorem c0_len : 1 + c0.length = 256 := (chkList_end c0_ok).1
theorem c0_last : lastS 0 c0 = 1065320320 := (chkList_end c0_ok).2.1

end Dds.F32Thr.FpN8

namespace Dds.F32Thr.N2

-- `n2::from_f32`: `(x.min(1.0) * 3.0 + 0.5) as u8`
@[irreducible] def c0 : List Nat :=
  [2085967189, 2113929216, 2125114027]
theorem c0_ok :
    chkList (pipeF 1077936128 255) 3 1065353217 1 0 0 c0
      4 1062557014 2 = true := by decide +kernel
theorem c0_len : 1 + c0.length = 4 := (chkList_end c0_ok).1
theorem c0_last : lastS 0 c0 = 1062557014 := (chkList_end c0_ok).2.1

end Dds.F32Thr.N2

namespace Dds.F32Thr.N4

-- `n4::from_f32`: `(x.min(1.0) * 15.0 + 0.5) as u8`
@[irreducible] def c0 : List Nat :=
  [2047938833, 2073663898, 2085967190, 2094915038, 2100507444, 2104981368, 2109455292, 2113929216, 2116166179,
   2118403141, 2120640103, 2122877065, 2125114027, 2127350989, 2129587951]
theorem c0_ok :
    chkList (pipeF 1097859072 255) 15 1065353217 1 0 0 c0
      16 1064793976 8 = true := by decide +kernel
theorem c0_len : 1 + c0.length = 16 := (chkList_end c0_ok).1
theorem c0_last : lastS 0 c0 = 1064793976 := (chkList_end c0_ok).2.1

end Dds.F32Thr.N4

namespace Dds.F32Thr.N5

-- `n5::from_f32`: `(x.min(1.0) * 31.0 + 0.5) as u8`
@[irreducible] def c0 : List Nat :=
  [2030584337, 2056020761, 2068468373, 2077127581, 2083080787, 2087410391, 2091739995, 2096069599, 2098775602,
   2100940404, 2103105206, 2105270008, 2107434810, 2109599612, 2111764414, 2113929216, 2115011617, 2116094019,
   2117176420, 2118258821, 2119341222, 2120423623, 2121506024, 2122588425, 2123670826, 2124753227, 2125835628,
   2126918029, 2128000430, 2129082831, 2130165232]
theorem c0_ok :
    chkList (pipeF 1106771968 255) 31 1065353217 1 0 0 c0
      32 1065082616 16 = true := by decide +kernel
theorem c0_len : 1 + c0.length = 32 := (chkList_end c0_ok).1
theorem c0_last : lastS 0 c0 = 1065082616 := (chkList_end c0_ok).2.1

end Dds.F32Thr.N5

namespace Dds.F32Thr.N6

-- `n6::from_f32`: `(x.min(1.0) * 63.0 + 0.5) as u8`
@[irreducible] def c0 : List Nat :=
  [2013532225, 2038831202, 2051347538, 2059869298, 2065994314, 2070255194, 2074516074, 2078776954, 2081706310,
   2083836750, 2085967190, 2088097630, 2090228070, 2092358510, 2094488950, 2096619390, 2097950916, 2099016136,
   2100081356, 2101146576, 2102211796, 2103277016, 2104342236, 2105407456, 2106472676, 2107537896, 2108603116,
   2109668336, 2110733556, 2111798776, 2112863996, 2113929216, 2114461827, 2114994437, 2115527047, 2116059657,
   2116592267, 2117124877, 2117657487, 2118190097, 2118722707, 2119255317, 2119787927, 2120320537, 2120853147,
   2121385757, 2121918367, 2122450977, 2122983587, 2123516197, 2124048807, 2124581417, 2125114027, 2125646637,
   2126179247, 2126711857, 2127244467, 2127777077, 2128309687, 2128842297, 2129374907, 2129907517, 2130440127]
theorem c0_ok :
    chkList (pipeF 1115422720 255) 63 1065353217 1 0 0 c0
      64 1065220064 32 = true := by decide +kernel
theorem c0_len : 1 + c0.length = 64 := (chkList_end c0_ok).1
theorem c0_last : lastS 0 c0 = 1065220064 := (chkList_end c0_ok).2.1

end Dds.F32Thr.N6

namespace Dds.F32Thr.N10

-- `n10::from_f32`: `(x.min(1.0) * 1023.0 + 0.5) as u16`
@[irreducible] def c0 : List Nat :=
  [1946173457, 1971347481, 1983926293, 1992323101, 1998604307, 2002802711, 2007001115, 2011199519, 2014331922,
   2016431124, 2018530326, 2020629528, 2022728730, 2024827932, 2026927134, 2029026336, 2030584337, 2031633938,
   2032683539, 2033733140, 2034782741, 2035832342, 2036881943, 2037931544, 2038981145, 2040030746, 2041080347,
   2042129948, 2043179549, 2044229150, 2045278751, 2046328352, 2047099153, 2047623953, 2048148754, 2048673554,
   2049198355, 2049723155, 2050247956, 2050772756, 2051297557, 2051822357, 2052347158, 2052871958, 2053396759,
   2053921559, 2054446360, 2054971160, 2055495961, 2056020761, 2056545562, 2057070362, 2057595163, 2058119963,
   2058644764, 2059169564, 2059694365, 2060219165, 2060743966, 2061268766, 2061793567, 2062318367, 2062843168,
   2063367968, 2063745169, 2064007569, 2064269969, 2064532369, 2064794770, 2065057170, 2065319570, 2065581970,
   2065844371, 2066106771, 2066369171, 2066631571, 2066893972, 2067156372, 2067418772, 2067681172, 2067943573,
   2068205973, 2068468373, 2068730773, 2068993174, 2069255574, 2069517974, 2069780374, 2070042775, 2070305175,
   2070567575, 2070829975, 2071092376, 2071354776, 2071617176, 2071879576, 2072141977, 2072404377, 2072666777,
   2072929177, 2073191578, 2073453978, 2073716378, 2073978778, 2074241179, 2074503579, 2074765979, 2075028379,
   2075290780, 2075553180, 2075815580, 2076077980, 2076340381, 2076602781, 2076865181, 2077127581, 2077389982,
   2077652382, 2077914782, 2078177182, 2078439583, 2078701983, 2078964383, 2079226783, 2079489184, 2079751584,
   2080013984, 2080276384, 2080456785, 2080587985, 2080719185, 2080850385, 2080981585, 2081112785, 2081243985,
   2081375185, 2081506386, 2081637586, 2081768786, 2081899986, 2082031186, 2082162386, 2082293586, 2082424786,
   2082555987, 2082687187, 2082818387, 2082949587, 2083080787, 2083211987, 2083343187, 2083474387, 2083605588,
   2083736788, 2083867988, 2083999188, 2084130388, 2084261588, 2084392788, 2084523988, 2084655189, 2084786389,
   2084917589, 2085048789, 2085179989, 2085311189, 2085442389, 2085573589, 2085704790, 2085835990, 2085967190,
   2086098390, 2086229590, 2086360790, 2086491990, 2086623190, 2086754391, 2086885591, 2087016791, 2087147991,
   2087279191, 2087410391, 2087541591, 2087672791, 2087803992, 2087935192, 2088066392, 2088197592, 2088328792,
   2088459992, 2088591192, 2088722392, 2088853593, 2088984793, 2089115993, 2089247193, 2089378393, 2089509593,
   2089640793, 2089771993, 2089903194, 2090034394, 2090165594, 2090296794, 2090427994, 2090559194, 2090690394,
   2090821594, 2090952795, 2091083995, 2091215195, 2091346395, 2091477595, 2091608795, 2091739995, 2091871195,
   2092002396, 2092133596, 2092264796, 2092395996, 2092527196, 2092658396, 2092789596, 2092920796, 2093051997,
   2093183197, 2093314397, 2093445597, 2093576797, 2093707997, 2093839197, 2093970397, 2094101598, 2094232798,
   2094363998, 2094495198, 2094626398, 2094757598, 2094888798, 2095019998, 2095151199, 2095282399, 2095413599,
   2095544799, 2095675999, 2095807199, 2095938399, 2096069599, 2096200800, 2096332000, 2096463200, 2096594400,
   2096725600, 2096856800, 2096988000, 2097119200, 2097201201, 2097266801, 2097332401, 2097398001, 2097463601,
   2097529201, 2097594801, 2097660401, 2097726001, 2097791601, 2097857201, 2097922801, 2097988401, 2098054001,
   2098119601, 2098185201, 2098250802, 2098316402, 2098382002, 2098447602, 2098513202, 2098578802, 2098644402,
   2098710002, 2098775602, 2098841202, 2098906802, 2098972402, 2099038002, 2099103602, 2099169202, 2099234802,
   2099300403, 2099366003, 2099431603, 2099497203, 2099562803, 2099628403, 2099694003, 2099759603, 2099825203,
   2099890803, 2099956403, 2100022003, 2100087603, 2100153203, 2100218803, 2100284403, 2100350004, 2100415604,
   2100481204, 2100546804, 2100612404, 2100678004, 2100743604, 2100809204, 2100874804, 2100940404, 2101006004,
   2101071604, 2101137204, 2101202804, 2101268404, 2101334004, 2101399605, 2101465205, 2101530805, 2101596405,
   2101662005, 2101727605, 2101793205, 2101858805, 2101924405, 2101990005, 2102055605, 2102121205, 2102186805,
   2102252405, 2102318005, 2102383605, 2102449206, 2102514806, 2102580406, 2102646006, 2102711606, 2102777206,
   2102842806, 2102908406, 2102974006, 2103039606, 2103105206, 2103170806, 2103236406, 2103302006, 2103367606,
   2103433206, 2103498807, 2103564407, 2103630007, 2103695607, 2103761207, 2103826807, 2103892407, 2103958007,
   2104023607, 2104089207, 2104154807, 2104220407, 2104286007, 2104351607, 2104417207, 2104482807, 2104548408,
   2104614008, 2104679608, 2104745208, 2104810808, 2104876408, 2104942008, 2105007608, 2105073208, 2105138808,
   2105204408, 2105270008, 2105335608, 2105401208, 2105466808, 2105532408, 2105598009, 2105663609, 2105729209,
   2105794809, 2105860409, 2105926009, 2105991609, 2106057209, 2106122809, 2106188409, 2106254009, 2106319609,
   2106385209, 2106450809, 2106516409, 2106582009, 2106647610, 2106713210, 2106778810, 2106844410, 2106910010,
   2106975610, 2107041210, 2107106810, 2107172410, 2107238010, 2107303610, 2107369210, 2107434810, 2107500410,
   2107566010, 2107631610, 2107697211, 2107762811, 2107828411, 2107894011, 2107959611, 2108025211, 2108090811,
   2108156411, 2108222011, 2108287611, 2108353211, 2108418811, 2108484411, 2108550011, 2108615611, 2108681211,
   2108746812, 2108812412, 2108878012, 2108943612, 2109009212, 2109074812, 2109140412, 2109206012, 2109271612,
   2109337212, 2109402812, 2109468412, 2109534012, 2109599612, 2109665212, 2109730812, 2109796413, 2109862013,
   2109927613, 2109993213, 2110058813, 2110124413, 2110190013, 2110255613, 2110321213, 2110386813, 2110452413,
   2110518013, 2110583613, 2110649213, 2110714813, 2110780413, 2110846014, 2110911614, 2110977214, 2111042814,
   2111108414, 2111174014, 2111239614, 2111305214, 2111370814, 2111436414, 2111502014, 2111567614, 2111633214,
   2111698814, 2111764414, 2111830014, 2111895615, 2111961215, 2112026815, 2112092415, 2112158015, 2112223615,
   2112289215, 2112354815, 2112420415, 2112486015, 2112551615, 2112617215, 2112682815, 2112748415, 2112814015,
   2112879615, 2112945216, 2113010816, 2113076416, 2113142016, 2113207616, 2113273216, 2113338816, 2113404416,
   2113470016, 2113535616, 2113601216, 2113666816, 2113732416, 2113798016, 2113863616, 2113929216, 2113962017,
   2113994817, 2114027617, 2114060417, 2114093217, 2114126017, 2114158817, 2114191617, 2114224417, 2114257217,
   2114290017, 2114322817, 2114355617, 2114388417, 2114421217, 2114454017, 2114486817, 2114519617, 2114552417,
   2114585217, 2114618017, 2114650817, 2114683617, 2114716417, 2114749217, 2114782017, 2114814817, 2114847617,
   2114880417, 2114913217, 2114946017, 2114978817, 2115011618, 2115044418, 2115077218, 2115110018, 2115142818,
   2115175618, 2115208418, 2115241218, 2115274018, 2115306818, 2115339618, 2115372418, 2115405218, 2115438018,
   2115470818, 2115503618, 2115536418, 2115569218, 2115602018, 2115634818, 2115667618, 2115700418, 2115733218,
   2115766018, 2115798818, 2115831618, 2115864418, 2115897218, 2115930018, 2115962818, 2115995618, 2116028419,
   2116061219, 2116094019, 2116126819, 2116159619, 2116192419, 2116225219, 2116258019, 2116290819, 2116323619,
   2116356419, 2116389219, 2116422019, 2116454819, 2116487619, 2116520419, 2116553219, 2116586019, 2116618819,
   2116651619, 2116684419, 2116717219, 2116750019, 2116782819, 2116815619, 2116848419, 2116881219, 2116914019,
   2116946819, 2116979619, 2117012419, 2117045219, 2117078020, 2117110820, 2117143620, 2117176420, 2117209220,
   2117242020, 2117274820, 2117307620, 2117340420, 2117373220, 2117406020, 2117438820, 2117471620, 2117504420,
   2117537220, 2117570020, 2117602820, 2117635620, 2117668420, 2117701220, 2117734020, 2117766820, 2117799620,
   2117832420, 2117865220, 2117898020, 2117930820, 2117963620, 2117996420, 2118029220, 2118062020, 2118094820,
   2118127621, 2118160421, 2118193221, 2118226021, 2118258821, 2118291621, 2118324421, 2118357221, 2118390021,
   2118422821, 2118455621, 2118488421, 2118521221, 2118554021, 2118586821, 2118619621, 2118652421, 2118685221,
   2118718021, 2118750821, 2118783621, 2118816421, 2118849221, 2118882021, 2118914821, 2118947621, 2118980421,
   2119013221, 2119046021, 2119078821, 2119111621, 2119144421, 2119177222, 2119210022, 2119242822, 2119275622,
   2119308422, 2119341222, 2119374022, 2119406822, 2119439622, 2119472422, 2119505222, 2119538022, 2119570822,
   2119603622, 2119636422, 2119669222, 2119702022, 2119734822, 2119767622, 2119800422, 2119833222, 2119866022,
   2119898822, 2119931622, 2119964422, 2119997222, 2120030022, 2120062822, 2120095622, 2120128422, 2120161222,
   2120194022, 2120226823, 2120259623, 2120292423, 2120325223, 2120358023, 2120390823, 2120423623, 2120456423,
   2120489223, 2120522023, 2120554823, 2120587623, 2120620423, 2120653223, 2120686023, 2120718823, 2120751623,
   2120784423, 2120817223, 2120850023, 2120882823, 2120915623, 2120948423, 2120981223, 2121014023, 2121046823,
   2121079623, 2121112423, 2121145223, 2121178023, 2121210823, 2121243623, 2121276424, 2121309224, 2121342024,
   2121374824, 2121407624, 2121440424, 2121473224, 2121506024, 2121538824, 2121571624, 2121604424, 2121637224,
   2121670024, 2121702824, 2121735624, 2121768424, 2121801224, 2121834024, 2121866824, 2121899624, 2121932424,
   2121965224, 2121998024, 2122030824, 2122063624, 2122096424, 2122129224, 2122162024, 2122194824, 2122227624,
   2122260424, 2122293224, 2122326025, 2122358825, 2122391625, 2122424425, 2122457225, 2122490025, 2122522825,
   2122555625, 2122588425, 2122621225, 2122654025, 2122686825, 2122719625, 2122752425, 2122785225, 2122818025,
   2122850825, 2122883625, 2122916425, 2122949225, 2122982025, 2123014825, 2123047625, 2123080425, 2123113225,
   2123146025, 2123178825, 2123211625, 2123244425, 2123277225, 2123310025, 2123342825, 2123375626, 2123408426,
   2123441226, 2123474026, 2123506826, 2123539626, 2123572426, 2123605226, 2123638026, 2123670826, 2123703626,
   2123736426, 2123769226, 2123802026, 2123834826, 2123867626, 2123900426, 2123933226, 2123966026, 2123998826,
   2124031626, 2124064426, 2124097226, 2124130026, 2124162826, 2124195626, 2124228426, 2124261226, 2124294026,
   2124326826, 2124359626, 2124392426, 2124425227, 2124458027, 2124490827, 2124523627, 2124556427, 2124589227,
   2124622027, 2124654827, 2124687627, 2124720427, 2124753227, 2124786027, 2124818827, 2124851627, 2124884427,
   2124917227, 2124950027, 2124982827, 2125015627, 2125048427, 2125081227, 2125114027, 2125146827, 2125179627,
   2125212427, 2125245227, 2125278027, 2125310827, 2125343627, 2125376427, 2125409227, 2125442027, 2125474828,
   2125507628, 2125540428, 2125573228, 2125606028, 2125638828, 2125671628, 2125704428, 2125737228, 2125770028,
   2125802828, 2125835628, 2125868428, 2125901228, 2125934028, 2125966828, 2125999628, 2126032428, 2126065228,
   2126098028, 2126130828, 2126163628, 2126196428, 2126229228, 2126262028, 2126294828, 2126327628, 2126360428,
   2126393228, 2126426028, 2126458828, 2126491628, 2126524429, 2126557229, 2126590029, 2126622829, 2126655629,
   2126688429, 2126721229, 2126754029, 2126786829, 2126819629, 2126852429, 2126885229, 2126918029, 2126950829,
   2126983629, 2127016429, 2127049229, 2127082029, 2127114829, 2127147629, 2127180429, 2127213229, 2127246029,
   2127278829, 2127311629, 2127344429, 2127377229, 2127410029, 2127442829, 2127475629, 2127508429, 2127541229,
   2127574030, 2127606830, 2127639630, 2127672430, 2127705230, 2127738030, 2127770830, 2127803630, 2127836430,
   2127869230, 2127902030, 2127934830, 2127967630, 2128000430, 2128033230, 2128066030, 2128098830, 2128131630,
   2128164430, 2128197230, 2128230030, 2128262830, 2128295630, 2128328430, 2128361230, 2128394030, 2128426830,
   2128459630, 2128492430, 2128525230, 2128558030, 2128590830, 2128623631, 2128656431, 2128689231, 2128722031,
   2128754831, 2128787631, 2128820431, 2128853231, 2128886031, 2128918831, 2128951631, 2128984431, 2129017231,
   2129050031, 2129082831, 2129115631, 2129148431, 2129181231, 2129214031, 2129246831, 2129279631, 2129312431,
   2129345231, 2129378031, 2129410831, 2129443631, 2129476431, 2129509231, 2129542031, 2129574831, 2129607631,
   2129640431, 2129673232, 2129706032, 2129738832, 2129771632, 2129804432, 2129837232, 2129870032, 2129902832,
   2129935632, 2129968432, 2130001232, 2130034032, 2130066832, 2130099632, 2130132432, 2130165232, 2130198032,
   2130230832, 2130263632, 2130296432, 2130329232, 2130362032, 2130394832, 2130427632, 2130460432, 2130493232,
   2130526032, 2130558832, 2130591632, 2130624432, 2130657232, 2130690032]
theorem c0_ok :
    chkList (pipeF 1149222912 65535) 1023 1065353217 1 0 0 c0
      1024 1065345016 512 = true := by decide +kernel
theorem c0_len : 1 + c0.length = 1024 := (chkList_end c0_ok).1
theorem c0_last : lastS 0 c0 = 1065345016 := (chkList_end c0_ok).2.1

end Dds.F32Thr.N10

namespace Dds.F32Thr.S8

-- `s8::from_uf32` norm: `(x.min(1.0) * 254.0 + 0.5) as u8`
@[irreducible] def c0 : List Nat :=
  [1979843593, 2005075469, 2017625355, 2026080015, 2032288906, 2036516236, 2040743566, 2044970896, 2048009289,
   2050122954, 2052236619, 2054350284, 2056463949, 2058577614, 2060691279, 2062804944, 2064258089, 2065314921,
   2066371754, 2067428586, 2068485419, 2069542251, 2070599084, 2071655916, 2072712749, 2073769581, 2074826414,
   2075883246, 2076940079, 2077996911, 2079053744, 2080110576, 2080771097, 2081299513, 2081827929, 2082356345,
   2082884762, 2083413178, 2083941594, 2084470010, 2084998427, 2085526843, 2086055259, 2086583675, 2087112092,
   2087640508, 2088168924, 2088697340, 2089225757, 2089754173, 2090282589, 2090811005, 2091339422, 2091867838,
   2092396254, 2092924670, 2093453087, 2093981503, 2094509919, 2095038335, 2095566752, 2096095168, 2096623584,
   2097152000, 2097416209, 2097680417, 2097944625, 2098208833, 2098473041, 2098737249, 2099001457, 2099265665,
   2099529874, 2099794082, 2100058290, 2100322498, 2100586706, 2100850914, 2101115122, 2101379331, 2101643539,
   2101907747, 2102171955, 2102436163, 2102700371, 2102964579, 2103228787, 2103492996, 2103757204, 2104021412,
   2104285620, 2104549828, 2104814036, 2105078244, 2105342452, 2105606661, 2105870869, 2106135077, 2106399285,
   2106663493, 2106927701, 2107191909, 2107456117, 2107720326, 2107984534, 2108248742, 2108512950, 2108777158,
   2109041366, 2109305574, 2109569782, 2109833991, 2110098199, 2110362407, 2110626615, 2110890823, 2111155031,
   2111419239, 2111683447, 2111947656, 2112211864, 2112476072, 2112740280, 2113004488, 2113268696, 2113532904,
   2113797112, 2113995269, 2114127373, 2114259477, 2114391581, 2114523685, 2114655789, 2114787893, 2114919997,
   2115052101, 2115184205, 2115316309, 2115448413, 2115580517, 2115712621, 2115844725, 2115976829, 2116108934,
   2116241038, 2116373142, 2116505246, 2116637350, 2116769454, 2116901558, 2117033662, 2117165766, 2117297870,
   2117429974, 2117562078, 2117694182, 2117826286, 2117958390, 2118090494, 2118222599, 2118354703, 2118486807,
   2118618911, 2118751015, 2118883119, 2119015223, 2119147327, 2119279431, 2119411535, 2119543639, 2119675743,
   2119807847, 2119939951, 2120072055, 2120204159, 2120336264, 2120468368, 2120600472, 2120732576, 2120864680,
   2120996784, 2121128888, 2121260992, 2121393096, 2121525200, 2121657304, 2121789408, 2121921512, 2122053616,
   2122185720, 2122317824, 2122449929, 2122582033, 2122714137, 2122846241, 2122978345, 2123110449, 2123242553,
   2123374657, 2123506761, 2123638865, 2123770969, 2123903073, 2124035177, 2124167281, 2124299385, 2124431489,
   2124563594, 2124695698, 2124827802, 2124959906, 2125092010, 2125224114, 2125356218, 2125488322, 2125620426,
   2125752530, 2125884634, 2126016738, 2126148842, 2126280946, 2126413050, 2126545155, 2126677259, 2126809363,
   2126941467, 2127073571, 2127205675, 2127337779, 2127469883, 2127601987, 2127734091, 2127866195, 2127998299,
   2128130403, 2128262507, 2128394611, 2128526715, 2128658820, 2128790924, 2128923028, 2129055132, 2129187236,
   2129319340, 2129451444, 2129583548, 2129715652, 2129847756, 2129979860, 2130111964, 2130244068, 2130376172,
   2130508276, 2130640380]
theorem c0_ok :
    chkList (pipeF 1132331008 255) 254 1065353217 1 0 0 c0
      255 1065320190 128 = true := by decide +kernel
theorem c0_len : 1 + c0.length = 255 := (chkList_end c0_ok).1
theorem c0_last : lastS 0 c0 = 1065320190 := (chkList_end c0_ok).2.1

end Dds.F32Thr.S8
