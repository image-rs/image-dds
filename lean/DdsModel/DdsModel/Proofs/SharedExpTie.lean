/-
C15, R9G9B9E5: which zero `f32::max` returns when `-0.0` meets `+0.0` (Rust: "either") does not
reach the result of `rgb9995f::from_f32`.
-/
import DdsModel.Proofs.SharedExp
namespace Dds.EncTotal.SharedExp
open Dds.CF32

/-- equal up to the sign of zero -/
def ZEq (a b : Nat) : Prop := a = b ∨ (Zeroish a ∧ Zeroish b)

theorem zeroish_of_mag (c : Nat) (hc : Clamped c) (h : mag c = 0) : Zeroish c := by
  rcases hc with h1 | h1
  · right; exact h1
  · left
    unfold mag at h
    simp only [c65408, signBit] at *
    omega

theorem eq_mag_of_ne (c : Nat) (hc : Clamped c) (h : mag c ≠ 0) : c = mag c := by
  obtain ⟨_, _, _, h4⟩ := clamped_facts c hc
  rcases h4 with h4 | h4
  · exact absurd h4 h
  · exact h4

theorem mag_zeroish (c : Nat) (h : Zeroish c) : mag c = 0 := by
  rcases h with rfl | rfl <;> decide

theorem zeq_mag (a b : Nat) (h : ZEq a b) : mag a = mag b := by
  rcases h with h | ⟨h1, h2⟩
  · rw [h]
  · rw [mag_zeroish a h1, mag_zeroish b h2]

theorem fmax_zeq (t t' : Bool) (a a' b b' : Nat) (ha : Clamped a) (ha' : Clamped a')
    (hb : Clamped b) (hb' : Clamped b') (za : ZEq a a') (zb : ZEq b b') :
    ZEq (fmax t a b) (fmax t' a' b') := by
  rw [fmax_clamped_eq t a b ha hb, fmax_clamped_eq t' a' b' ha' hb', ← zeq_mag a a' za,
    ← zeq_mag b b' zb]
  by_cases h1 : mag a < mag b
  · rw [if_pos h1, if_pos h1]; exact zb
  rw [if_neg h1, if_neg h1]
  by_cases h2 : mag b < mag a
  · rw [if_pos h2, if_pos h2]; exact za
  rw [if_neg h2, if_neg h2]
  have heq : mag a = mag b := by omega
  by_cases h0 : mag a = 0
  · -- all four are zeros
    have z1 := zeroish_of_mag a ha h0
    have z2 := zeroish_of_mag b hb (by omega)
    have z3 := zeroish_of_mag a' ha' (by rw [← zeq_mag a a' za]; exact h0)
    have z4 := zeroish_of_mag b' hb' (by rw [← zeq_mag b b' zb]; omega)
    right
    constructor
    · cases t <;> simp only [Bool.false_eq_true, if_false, if_true] <;> assumption
    · cases t' <;> simp only [Bool.false_eq_true, if_false, if_true] <;> assumption
  · -- all four are the same positive pattern
    have e1 := eq_mag_of_ne a ha h0
    have e2 := eq_mag_of_ne b hb (by omega)
    have e3 := eq_mag_of_ne a' ha' (by rw [← zeq_mag a a' za]; exact h0)
    have e4 := eq_mag_of_ne b' hb' (by rw [← zeq_mag b b' zb]; omega)
    have m3 := zeq_mag a a' za
    have m4 := zeq_mag b b' zb
    left
    cases t <;> cases t' <;> simp only [Bool.false_eq_true, if_false, if_true] <;> omega

theorem clamp_zeq (t t' : Bool) (x : Nat) : ZEq (clamp0Max t x) (clamp0Max t' x) := by
  have hz : ∀ t : Bool, Zeroish (if t then signBit else 0) := fun t => by
    cases t
    · exact Or.inl rfl
    · exact Or.inr rfl
  rcases clamp_cases x with ⟨c, _, h⟩ | h <;> rw [h t, h t']
  · exact Or.inl rfl
  · exact Or.inr ⟨hz t, hz t'⟩

theorem mantOf_zeq (c c' : Nat) (n : Int) (h : ZEq c c') (h1 : -126 ≤ n) (h2 : n ≤ 127) :
    mantOf c (twoPowi n) = mantOf c' (twoPowi n) := by
  rcases h with h | ⟨z1, z2⟩
  · rw [h]
  · rw [mantOf_zero c n z1 h1 h2, mantOf_zero c' n z2 h1 h2]

/-- **the zero sign is irrelevant**: any two choices of the operand `f32::max` returns on a tie
give the same fields, hence the same word -/
theorem fields_tie_irrelevant (t t' : Nat → Bool) (r g b : Nat) : fields t r g b = fields t' r g b := by
  unfold fields
  dsimp only
  have cr := clamp_spec (t 0) r; have cr' := clamp_spec (t' 0) r; have zr := clamp_zeq (t 0) (t' 0) r
  have cg := clamp_spec (t 1) g; have cg' := clamp_spec (t' 1) g; have zg := clamp_zeq (t 1) (t' 1) g
  have cb := clamp_spec (t 2) b; have cb' := clamp_spec (t' 2) b; have zb := clamp_zeq (t 2) (t' 2) b
  generalize clamp0Max (t 0) r = r1 at *
  generalize clamp0Max (t' 0) r = r2 at *
  generalize clamp0Max (t 1) g = g1 at *
  generalize clamp0Max (t' 1) g = g2 at *
  generalize clamp0Max (t 2) b = b1 at *
  generalize clamp0Max (t' 2) b = b2 at *
  have c1 := (fmax_clamped (t 3) r1 g1 cr cg).1
  have c2 := (fmax_clamped (t' 3) r2 g2 cr' cg').1
  have z1 := fmax_zeq (t 3) (t' 3) r1 r2 g1 g2 cr cr' cg cg' zr zg
  have zm := fmax_zeq (t 4) (t' 4) _ _ b1 b2 c1 c2 cb cb' z1 zb
  generalize fmax (t 4) (fmax (t 3) r1 g1) b1 = mx at *
  generalize fmax (t' 4) (fmax (t' 3) r2 g2) b2 = mx' at *
  rcases zm with hm | ⟨hz, hz'⟩
  · subst hm
    by_cases hzero : (isZero mx || isSubnormal mx) = true
    · rw [if_pos hzero, if_pos hzero]
    rw [if_neg hzero, if_neg hzero]
    generalize (max (((mx >>> 23 &&& 255 : Nat) : Int) - 127 + 16) 0).toNat = exp
    by_cases he : 31 < exp
    · rw [if_pos he, if_pos he]
    rw [if_neg he, if_neg he, scaleOf_eq exp (by omega)]
    dsimp only
    rw [mantOf_zeq r1 r2 _ zr (by omega) (by omega), mantOf_zeq g1 g2 _ zg (by omega) (by omega),
      mantOf_zeq b1 b2 _ zb (by omega) (by omega)]
    by_cases he1 : 31 < exp + 1
    · simp only [he1, if_true]
    · simp only [he1, if_false]
      rw [scaleOf_eq (exp + 1) (by omega)]
      dsimp only
      rw [mantOf_zeq r1 r2 _ zr (by omega) (by omega), mantOf_zeq g1 g2 _ zg (by omega) (by omega),
        mantOf_zeq b1 b2 _ zb (by omega) (by omega)]
  · have i1 : isZero mx = true := by rcases hz with rfl | rfl <;> decide
    have i2 : isZero mx' = true := by rcases hz' with rfl | rfl <;> decide
    simp only [i1, i2, Bool.true_or, if_true]

theorem fromF32_tie_irrelevant (t t' : Nat → Bool) (r g b : Nat) :
    fromF32 t r g b = fromF32 t' r g b := by
  unfold fromF32
  rw [fields_tie_irrelevant t t' r g b]

end Dds.EncTotal.SharedExp
