/-
BC3n: `Bc.calcB r g = BcSpec.z8 r g` for all 65 536 pairs — the float computation of `calc_b`
(`bc3n_u8_rgb`, src/decode/bc.rs), modelled operation by operation with correctly rounded binary32
arithmetic, yields the nearest 8-bit value of `255·(½·√(1 − x² − y²) + ½)` (ties up: the only tie is the clamped
`D = 0`, where both sides are 128; a positive `D ≡ 7 (mod 8)` is never a perfect square).  Kernel-checked: see
`Proofs/Bc3nCalc.lean` for the checker and its soundness.
-/
import DdsModel.Proofs.Bc3nRows0
import DdsModel.Proofs.Bc3nRows1
import DdsModel.Proofs.Bc3nRows2
import DdsModel.Proofs.Bc3nRows3
namespace Dds.Bc3n

theorem rows_all : allRange rowChk 2 0 256 = true :=
  allRange_join (allRange_join rows0 rows64) (allRange_join rows128 rows192)

theorem calcB_eq_z8 (r g : Nat) (hr : r < 256) (hg : g < 256) : Bc.calcB r g = BcSpec.z8 r g :=
  rowChk_sound r g (allRange_lt rows_all r hr) hr hg

end Dds.Bc3n
