/-
Quantisers of the uncompressed encoders (property C12), specification level in exact `Rat`,
plus implementation-shaped integer models of the code paths that are pure integer arithmetic,
plus `pickEncoder` over the pinned encoder-flag table.

Anchors: /repo/src/color/formats.rs (`n1..n16::from_f32`, `s8/s16::from_uf32`, `s8::from_n8`,
`s16::from_n16`, `n8::n16`, `n16::n8`, `fp16::from_f32`, `f32_to_unsigned_fp_e5`, `rgb9995f::from_f32`,
`xr10::from_f32`, `yuv8/10/16::from_rgb_f32`), /repo/src/encode/encoder.rs (`Flags`,
`EncoderSet::pick_encoder`), /repo/src/encode/{uncompressed,sub_sampled,bi_planar}.rs (tables).

The specification below says what the ideal (real-number) computation yields; the binary32 evaluation
of the float quantisers is modelled apart, in `QuantF32.lean` and `EncTotal64.lean`.
Model files import only core.
-/
namespace Dds.Quant

/-! ## UNORM / SNORM -/

/-- `util::clamp_0_1` on reals: clamp to `[0,1]` (NaN is handled where binary32 is parsed: NaN ↦ 0). -/
def clamp01 (x : Rat) : Rat := if x < 0 then 0 else if 1 < x then 1 else x

/-- `(y + 0.5) as uN` for `y ≥ 0`: round half up (the tie rule of every `from_f32` in formats.rs). -/
def roundHalfUp (y : Rat) : Nat := (y + 1/2).floor.toNat

/-- quantiser onto `L+1` levels `0/L … L/L` -/
def qL (L : Nat) (x : Rat) : Nat := roundHalfUp (clamp01 x * (L : Rat))
def deqL (L : Nat) (u : Nat) : Rat := (u : Rat) / (L : Rat)

def maxCode (m : Nat) : Nat := 2 ^ m - 1
/-- `nM::from_f32`: `round(clamp(x)·(2^m−1))`, ties up -/
def q (m : Nat) (x : Rat) : Nat := qL (maxCode m) x
/-- `nM::f32` as a real number: `u/(2^m−1)` -/
def deq (m : Nat) (u : Nat) : Rat := deqL (maxCode m) u

/-- SNORM: `2^m − 2` steps between −1.0 and 1.0 (stored, as in this crate, on the unsigned scale 0..1) -/
def snormLevels (m : Nat) : Nat := 2 ^ m - 2
/-- `sM::from_uf32` up to the bias: the "norm" value in `0 … 2^m−2` -/
def sq (m : Nat) (x : Rat) : Nat := qL (snormLevels m) x
/-- `s8::from_norm`: `(x + 1).wrapping_sub(2^(m−1))` as an m-bit pattern -/
def snormOfNorm (m t : Nat) : Nat := (t + 1 + 2 ^ (m - 1)) % 2 ^ m
/-- `s8::norm` / `s16::norm`: `x.wrapping_add(2^(m−1)).saturating_sub(1)`; both minimum codes give 0 -/
def snormNorm (m c : Nat) : Nat := (c + 2 ^ (m - 1)) % 2 ^ m - 1
def sencode (m : Nat) (x : Rat) : Nat := snormOfNorm m (sq m x)
def sdeq (m c : Nat) : Rat := deqL (snormLevels m) (snormNorm m c)

/-! ## implementation-shaped integer paths (formats.rs) -/

/-- `n8::n16` -/
def n8_n16 (x : Nat) : Nat := x * 257
/-- `n16::n8` -/
def n16_n8 (x : Nat) : Nat := (x * 255 + 32895) >>> 16
/-- `n10::n8`, `n10::n16` -/
def n10_n8 (x : Nat) : Nat := (x * 16336 + 32656) >>> 16
def n10_n16 (x : Nat) : Nat := (x * 4198340 + 32660) >>> 16
/-- `s8::from_n8` before the bias: `round(x/255·254)` -/
def s8_norm_from_n8 (x : Nat) : Nat := (x * 254 + 254) >>> 8
def s8_from_n8 (x : Nat) : Nat := snormOfNorm 8 (s8_norm_from_n8 x)
/-- `s16::from_n16` -/
def s16_norm_from_n16 (x : Nat) : Nat := (x * 65534 + 65534) >>> 16
def s16_from_n16 (x : Nat) : Nat := snormOfNorm 16 (s16_norm_from_n16 x)
/-- `s8::n8`, `s8::n16`, `s16::n8`, `s16::n16` (decoders on the round-trip path) -/
def s8_n8 (c : Nat) : Nat := (snormNorm 8 c * 258 + 2) >>> 8
def s8_n16 (c : Nat) : Nat := (snormNorm 8 c * 16909064 + 32520) >>> 16
def s16_n8 (c : Nat) : Nat := (snormNorm 16 c * 65282 + 8388354) >>> 24
def s16_n16 (c : Nat) : Nat := (snormNorm 16 c * 65538 + 2) >>> 16
/-- `xr10::n8`: `((clamp(x − 0x180, 0, 510) + 1) >> 1)` -/
def xr10_n8 (c : Nat) : Nat := (min (c - 384) 510 + 1) >>> 1

/-- closed form of `qL L (a/b)` in integers (proved equal in Proofs/Quant.lean) -/
def qRatio (L a b : Nat) : Nat := (2 * a * L + b) / (2 * b)

/-! ## float fields: nearest binary16 / 11-bit / 10-bit float, shared exponent, XR bias -/

/-- `⌊log2 (a/b)⌋` for `a, b > 0` -/
def floorLog2 (a b : Nat) : Int :=
  if b ≤ a then (Nat.log2 (a / b) : Int)
  else
    let k := Nat.log2 (b / a)
    if b ≤ a * 2 ^ k then -(k : Int) else -(k : Int) - 1

def pow2 (e : Int) : Rat := if 0 ≤ e then ((2 ^ e.toNat : Nat) : Rat) else 1 / ((2 ^ (-e).toNat : Nat) : Rat)

/-- integer nearest of the non-negative rational `n/d`; ties to even or up (integer arithmetic) -/
def roundTieNat (even : Bool) (n d : Nat) : Nat :=
  let f := n / d
  let r2 := 2 * (n % d)
  if r2 < d then f else if d < r2 then f + 1 else if even then (if f % 2 = 0 then f else f + 1) else f + 1

/-- nearest integer of `(a/b) / 2^s` -/
def roundScaled (even : Bool) (a b : Nat) (s : Int) : Nat :=
  if 0 ≤ s then roundTieNat even a (b * 2 ^ s.toNat) else roundTieNat even (a * 2 ^ (-s).toNat) b

/-- Nearest value of a small float format with `mb` mantissa bits, 5 exponent bits (bias 15):
returns the magnitude bits `exp<<mb | mant`; `x ≥ 0`. Overflow gives the infinity pattern. -/
def roundSmallFloat (mb : Nat) (even : Bool) (x : Rat) : Nat :=
  if x ≤ 0 then 0 else
  let a := x.num.toNat; let b := x.den
  let e := max (floorLog2 a b) (-14)
  let m := roundScaled even a b (e - (mb : Int))       -- in [0, 2^(mb+1)]
  -- `biased<<mb + (m - 2^mb)` = `(biased-1)<<mb + m`; a carry into the exponent is automatic
  let biased1 := (e + 14).toNat                        -- biased exponent − 1 (0 for subnormals)
  let bits := biased1 * 2 ^ mb + m
  min bits (31 * 2 ^ mb)

/-- value of magnitude bits of the small float format (finite patterns) -/
def smallFloatVal (mb : Nat) (bits : Nat) : Rat :=
  let e : Nat := bits / 2 ^ mb
  let m : Nat := bits % 2 ^ mb
  if e = 0 then (m : Rat) * pow2 (-14 - (mb : Int))
  else ((m + 2 ^ mb : Nat) : Rat) * pow2 ((e : Int) - 15 - (mb : Int))

/-- `fp16::from_f32` on a real of magnitude `x` (ties to even) -/
def half (x : Rat) : Nat := roundSmallFloat 10 true x
def halfVal (bits : Nat) : Rat := smallFloatVal 10 bits
/-- `fp11::from_f32`, `fp10::from_f32`: nearest, ties up (`f32_mantissa_round_half_up`), negatives to 0 -/
def fp11 (x : Rat) : Nat := roundSmallFloat 6 false x
def fp10 (x : Rat) : Nat := roundSmallFloat 5 false x

/-- `f32_mantissa_round_half_up(n, x)` on a positive real: round to `n` mantissa bits at the value's
own exponent, ties up (no lower exponent limit: binary32 normals reach 2^-126) -/
def roundMantHalfUp (n : Nat) (x : Rat) : Rat :=
  if x ≤ 0 then 0 else
  let e := floorLog2 x.num.toNat x.den
  (roundHalfUp (x / pow2 (e - (n : Int))) : Rat) * pow2 (e - (n : Int))

/-- Implementation-shaped `f32_to_unsigned_fp_e5(n, x)` for finite positive `x` that is a binary32
normal: mantissa rounding, then `fp16::from_f32`, then `exp << n | mant >> (10 − n)`. Below 2^-14
the final shift truncates (known finding F12); from 2^-14 on it equals `roundSmallFloat n false`. -/
def fpSmallImpl (n : Nat) (x : Rat) : Nat :=
  if x ≤ 0 then 0
  else if x < pow2 (-126) then 0                       -- `!x.is_normal()`: fp16 of a binary32 subnormal is 0
  else half (roundMantHalfUp n x) / 2 ^ (10 - n)

/-- nearest binary32 of a non-negative real (ties to even): the value `nN::f32` is pinned to by the
crate's unit tests, and what a colour buffer of precision F32 "carrying v/(2^n−1)" contains. -/
def f32Bits (x : Rat) : Nat :=
  if x ≤ 0 then 0 else
  let a := x.num.toNat; let b := x.den
  let e := max (floorLog2 a b) (-126)
  let m := roundScaled true a b (e - 23)
  min ((e + 126).toNat * 2 ^ 23 + m) (255 * 2 ^ 23)
/-- value of a finite non-negative binary32 pattern as numerator / denominator -/
def f32Num (bits : Nat) : Nat :=
  let e : Nat := bits / 2 ^ 23 % 256
  let m : Nat := bits % 2 ^ 23
  if e = 0 then m else (m + 2 ^ 23) * 2 ^ (e - 150)
def f32Den (bits : Nat) : Nat :=
  let e : Nat := bits / 2 ^ 23 % 256
  if e = 0 then 2 ^ 149 else 2 ^ (150 - e)
def f32Val (bits : Nat) : Rat := (f32Num bits : Rat) / (f32Den bits : Rat)

/-- `rgb9995f::from_f32` on reals: clamp to `[0, 65408]`, shared exponent from the maximum -/
def e9Clamp (x : Rat) : Rat := if x < 0 then 0 else if 65408 < x then 65408 else x
/-- biased shared exponent for maximum channel `mx > 0` (after the carry when the mantissa rounds to 512) -/
def e9Exp (mx : Rat) : Nat :=
  let e := (max (floorLog2 mx.num.toNat mx.den) (-16) + 16).toNat
  if roundHalfUp (mx * pow2 (24 - (e : Int))) = 512 then e + 1 else e
def e9Mant (exp : Nat) (c : Rat) : Nat := roundHalfUp (c * pow2 (24 - (exp : Int)))
def max3 (a b c : Rat) : Rat := max (max a b) c
def e9Encode (r g b : Rat) : Nat :=
  let r := e9Clamp r; let g := e9Clamp g; let b := e9Clamp b
  let mx := max3 r g b
  if mx * pow2 24 < 1/2 then 0 else       -- everything rounds to mantissa 0 at the smallest exponent
  let e := e9Exp mx
  e9Mant e r + e9Mant e g * 2 ^ 9 + e9Mant e b * 2 ^ 18 + e * 2 ^ 27
/-- `rgb9995f::f32` -/
def e9Val (exp mant : Nat) : Rat := (mant : Rat) * pow2 ((exp : Int) - 24)

/-- `xr10::from_f32`: `min(1023, sat(x·510 + 384.5))` -/
def xr10 (x : Rat) : Nat :=
  let y := x * 510 + 384
  if y < 0 then 0 else min 1023 (roundHalfUp y)
def xr10Val (c : Nat) : Rat := ((c : Int) - 384 : Int) / (510 : Rat)

/-! ## YUV (BT.601 constants exactly as printed in formats.rs, as decimals) -/

def yuvCoef : List (List Int) :=
  [[256788, 504129, 97906], [-148223, -290993, 439216], [439216, -367788, -71427]]
/-- ideal pre-rounding component `i ∈ {0,1,2}` in code units of the m-bit format -/
def yuvIdeal (m : Nat) (i : Nat) (r g b : Rat) : Rat :=
  let row := yuvCoef.getD i []
  let c (j : Nat) : Rat := ((row.getD j 0 : Int) : Rat) / 1000000
  (c 0 * r + c 1 * g + c 2 * b) * (maxCode m : Rat) + ((if i = 0 then 16 else 128) * 2 ^ (m - 8) : Nat)
/-- `(… + off + 0.5) as uM` (saturating), for Y410 additionally `.min(1023)` -/
def yuvCode (m : Nat) (i : Nat) (r g b : Rat) : Nat :=
  let s := yuvIdeal m i r g b + 1/2
  if s < 0 then 0 else min (maxCode m) s.floor.toNat

/-! ## encoder selection (`EncoderSet::pick_encoder`, `Flags`) -/

def EXACT_U8 : Nat := 0x1
def EXACT_U16 : Nat := 0x2 ||| EXACT_U8
def EXACT_F32 : Nat := 0x4 ||| EXACT_U16
def DITHER_COLOR : Nat := 0x8
/-- sic: `0x16`, not `0x10` — overlaps the exactness bits 0x2 and 0x4 -/
def DITHER_ALPHA : Nat := 0x16
def DITHER_ALL : Nat := DITHER_COLOR ||| DITHER_ALPHA

/-- bitflags `contains` -/
def contains (flags f : Nat) : Bool := flags &&& f == f

inductive Prec | u8 | u16 | f32 deriving DecidableEq, Repr
inductive Chan | gray | alpha | rgb | rgba deriving DecidableEq, Repr
structure Color where
  ch : Chan
  p : Prec
  deriving DecidableEq, Repr

def exactFor : Prec → Nat
  | .u8 => EXACT_U8 | .u16 => EXACT_U16 | .f32 => EXACT_F32

/-- what an encoder does (ground truth for "is exact", independent of its flags) -/
inductive Kind
  | copy (c : Color)                 -- `Encoder::copy`: memcpy of exactly this colour format
  | convert (p : Prec) (snorm : Bool) -- `color_convert!` / hand-written channel shuffles: integer path at precision p
  | universal                         -- through RGBA f32 and the format's quantisers
  | dither                            -- `universal_dither!`
  deriving DecidableEq, Repr

structure Enc where
  kind : Kind
  /-- declared exactness bits -/
  exact : Nat
  /-- declared dithering bits -/
  dither : Nat
  deriving Repr

/-- the `Flags` value the code tests: the union of both declarations -/
def Enc.flags (e : Enc) : Nat := e.exact ||| e.dither

def Enc.accepts (e : Enc) (c : Color) : Bool :=
  match e.kind with
  | .copy c' => c = c'
  | .convert p _ => c.p = p
  | .universal | .dither => true

def encCopy (c : Color) : Enc := ⟨.copy c, exactFor c.p, 0⟩
def encConv (p : Prec) (snorm : Bool := false) : Enc := ⟨.convert p snorm, exactFor p, 0⟩
def encUni (extra : Nat := 0) : Enc := ⟨.universal, extra, 0⟩
def encDither (fl : Nat) : Enc := ⟨.dither, 0, fl⟩

/-- `get_dithering` of a flag set: (color, alpha) -/
def getDithering (flags : Nat) : Bool × Bool := (contains flags DITHER_COLOR, contains flags DITHER_ALPHA)

/-- `EncoderSet::pick_encoder` with `Dithering::None` (the second loop is skipped);
`dith = (color, alpha)` requested. `none` = the `expect` would panic. -/
def pickEncoder (encs : List Enc) (c : Color) (dith : Bool × Bool := (false, false)) : Option Enc :=
  let cands := encs.filter (·.accepts c)
  match cands.find? (fun e => contains e.flags (exactFor c.p)) with
  | some e => some e
  | none =>
    let byDither :=
      if dith ≠ (false, false) then
        cands.find? (fun e => let d := getDithering e.flags; (d.1 && dith.1) || (d.2 && dith.2))
      else none
    match byDither with
    | some e => some e
    | none => cands.head?

/-- the pinned encoder table (uncompressed.rs / sub_sampled.rs / bi_planar.rs), in source order -/
def encoderTable (name : String) : List Enc :=
  let g8 : Color := ⟨.gray, .u8⟩
  let uni := encUni
  match name with
  | "R8G8B8_UNORM" => [encCopy ⟨.rgb, .u8⟩, encConv .u8, uni, encDither DITHER_COLOR]
  | "B8G8R8_UNORM" => [encConv .u8, uni, encDither DITHER_COLOR]
  | "R8G8B8A8_UNORM" => [encCopy ⟨.rgba, .u8⟩, encConv .u8, uni, encDither DITHER_ALL]
  | "R8G8B8A8_SNORM" => [encConv .u8 true, uni, encDither DITHER_ALL]
  | "B8G8R8A8_UNORM" => [encConv .u8, uni, encDither DITHER_ALL]
  | "B8G8R8X8_UNORM" => [encConv .u8, uni, encDither DITHER_COLOR]
  | "B5G6R5_UNORM" => [uni, encDither DITHER_COLOR]
  | "B5G5R5A1_UNORM" | "B4G4R4A4_UNORM" | "A4B4G4R4_UNORM" => [uni, encDither DITHER_ALL]
  | "R8_UNORM" => [encCopy g8, encConv .u8, uni, encDither DITHER_COLOR]
  | "R8_SNORM" => [encConv .u8 true, uni, encDither DITHER_COLOR]
  | "R8G8_UNORM" | "R8G8_SNORM" => [encUni EXACT_U8, encDither DITHER_COLOR]
  | "A8_UNORM" => [encCopy ⟨.alpha, .u8⟩, encConv .u8, uni, encDither DITHER_ALPHA]
  | "R16_UNORM" => [encCopy ⟨.gray, .u16⟩, encConv .u16, uni, encDither DITHER_COLOR]
  | "R16_SNORM" => [encConv .u16 true, uni, encDither DITHER_COLOR]
  | "R16G16_UNORM" | "R16G16_SNORM" => [encUni EXACT_U16, encDither DITHER_COLOR]
  | "R16G16B16A16_UNORM" => [encCopy ⟨.rgba, .u16⟩, encConv .u16, uni, encDither DITHER_ALL]
  | "R16G16B16A16_SNORM" => [encConv .u16 true, uni, encDither DITHER_ALL]
  | "R10G10B10A2_UNORM" | "R10G10B10_XR_BIAS_A2_UNORM" => [uni, encDither DITHER_ALL]
  | "R11G11B10_FLOAT" => [uni, encDither DITHER_COLOR]
  | "R9G9B9E5_SHAREDEXP" => [encUni EXACT_U8, encDither DITHER_COLOR]
  | "R16_FLOAT" | "R16G16_FLOAT" => [encUni EXACT_U8, encDither DITHER_COLOR]
  | "R16G16B16A16_FLOAT" => [encUni EXACT_U8, encDither DITHER_ALL]
  | "R32_FLOAT" => [encCopy ⟨.gray, .f32⟩, encConv .f32, uni]
  | "R32G32_FLOAT" => [encUni EXACT_F32]
  | "R32G32B32_FLOAT" => [encCopy ⟨.rgb, .f32⟩, encConv .f32, uni]
  | "R32G32B32A32_FLOAT" => [encCopy ⟨.rgba, .f32⟩, encConv .f32, uni]
  | "AYUV" | "Y410" => [uni, encDither DITHER_ALL]
  | "Y416" => [encUni EXACT_U8, encDither DITHER_ALL]
  | "R1_UNORM" => [uni, encDither DITHER_COLOR]
  | "R8G8_B8G8_UNORM" | "G8R8_G8B8_UNORM" | "Y210" | "Y216" => [encUni EXACT_U8]
  | "UYVY" | "YUY2" | "NV12" | "P010" | "P016" => [uni]
  | _ => []


def allColors : List Color :=
  [⟨.gray, .u8⟩, ⟨.alpha, .u8⟩, ⟨.rgb, .u8⟩, ⟨.rgba, .u8⟩, ⟨.gray, .u16⟩, ⟨.alpha, .u16⟩, ⟨.rgb, .u16⟩, ⟨.rgba, .u16⟩,
   ⟨.gray, .f32⟩, ⟨.alpha, .f32⟩, ⟨.rgb, .f32⟩, ⟨.rgba, .f32⟩]

def formatNames : List String :=
  ["R8G8B8_UNORM", "B8G8R8_UNORM", "R8G8B8A8_UNORM", "R8G8B8A8_SNORM", "B8G8R8A8_UNORM", "B8G8R8X8_UNORM",
   "B5G6R5_UNORM", "B5G5R5A1_UNORM", "B4G4R4A4_UNORM", "A4B4G4R4_UNORM", "R8_SNORM", "R8_UNORM", "R8G8_UNORM",
   "R8G8_SNORM", "A8_UNORM", "R16_UNORM", "R16_SNORM", "R16G16_UNORM", "R16G16_SNORM", "R16G16B16A16_UNORM",
   "R16G16B16A16_SNORM", "R10G10B10A2_UNORM", "R11G11B10_FLOAT", "R9G9B9E5_SHAREDEXP", "R16_FLOAT", "R16G16_FLOAT",
   "R16G16B16A16_FLOAT", "R32_FLOAT", "R32G32_FLOAT", "R32G32B32_FLOAT", "R32G32B32A32_FLOAT",
   "R10G10B10_XR_BIAS_A2_UNORM", "AYUV", "Y410", "Y416", "R1_UNORM", "R8G8_B8G8_UNORM", "G8R8_G8B8_UNORM", "UYVY",
   "YUY2", "Y210", "Y216", "NV12", "P010", "P016"]

end Dds.Quant
