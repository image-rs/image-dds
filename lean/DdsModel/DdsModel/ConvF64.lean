/-
Software IEEE-754 binary64 (`f64`), on bit patterns (`Nat < 2^64`): exactly the operations that
`s16::from_uf32` (src/color/formats.rs) uses —

    let x = x.min(1.0) as f64;                 // `f32::min` is `CF32.fmin`; `as f64` is `ofF32`
    let norm = (x * 65534.0 + 0.5) as u16;     // `fmul`, `fadd`, `toNatSat`

Written like `ConvF32.lean`: every Rust operator is one correctly rounded IEEE operation, i.e.
"exact dyadic result, then one rounding to nearest (ties to even), with gradual underflow and
overflow to infinity" = `roundPack`.  Rust evaluates every `f64` operator separately in binary64
(no contraction into FMA, no excess precision on x86-64/SSE2).  Nothing here uses Lean's `Float`.
Only core is imported.
-/
import DdsModel.ConvF32
namespace Dds.CF64
open Dds.CF32 (force forceI force_eq forceI_eq)

def signBit : Nat := 0x8000000000000000
def posInf : Nat := 0x7FF0000000000000
def negInf : Nat := 0xFFF0000000000000
/-- canonical NaN of the arithmetic operators (Rust's `f64::NAN`); NaN payloads never reach a
compared result: every NaN is cast to 0 by `as u16` -/
def nan : Nat := 0x7FF8000000000000
/-- the quiet bit of a binary64 NaN -/
def quietBit : Nat := 0x0008000000000000

def expField (b : Nat) : Nat := (b >>> 52) % 2048
def fracField (b : Nat) : Nat := b % 0x10000000000000
def isNeg (b : Nat) : Bool := b ≥ signBit
def isNaN (b : Nat) : Bool := expField b == 2047 && fracField b != 0
def isInf (b : Nat) : Bool := expField b == 2047 && fracField b == 0
def isZero (b : Nat) : Bool := b % signBit == 0

/-- magnitude of a finite pattern as `m * 2^e` -/
def mant (b : Nat) : Nat := if expField b == 0 then fracField b else fracField b + 0x10000000000000
def expo (b : Nat) : Int := if expField b == 0 then -1074 else (expField b : Int) - 1075

/-- Round the exact non-negative dyadic `m * 2^e` to binary64 (round to nearest, ties to even) and
attach the sign.  Subnormals and overflow to infinity are handled; `m = 0` gives a signed zero.
(`CF32.roundPack` with 52 fraction bits, minimum normal exponent −1022.) -/
def roundPack (sign : Bool) (m : Nat) (e : Int) : Nat :=
  force m fun m => forceI e fun e =>
  let s := if sign then signBit else 0
  if m == 0 then s else
  forceI ((Nat.log2 m : Int) + e) fun E =>          -- value in [2^E, 2^(E+1))
  forceI (if E ≥ -1022 then E - 52 else -1074) fun q => -- exponent of the unit in the last place
  forceI (q - e) fun sh =>
  force (if sh ≤ 0 then m <<< (-sh).toNat
    else
      force sh.toNat fun k =>
      force (m >>> k) fun hi =>
      force (m % (2 ^ k)) fun rem =>
      force (2 ^ (k - 1)) fun half =>
      if rem > half ∨ (rem == half ∧ hi % 2 == 1) then hi + 1 else hi) fun mant' =>
  -- `mant'` contains the hidden bit for normal numbers, so adding it to (E+1022)<<52 yields the
  -- biased exponent E+1023 and lets a rounding carry propagate into the exponent
  force (if E ≥ -1022 then ((E + 1022).toNat <<< 52) + mant' else mant') fun bits =>
  if bits ≥ posInf then s + posInf else s + bits

/-- `x as f64` for an `f32` bit pattern `x < 2^32`: the widening conversion is exact for every
finite value (24-bit significand, exponent −149 … 127: always a normal binary64, so `roundPack`
does not round; proved in `Proofs/QuantBits64.lean`), keeps the sign of zeros and infinities, and for
a NaN keeps the sign, moves the payload to the top of the fraction and sets the quiet bit
(`cvtss2sd`). -/
def ofF32 (x : Nat) : Nat :=
  force x fun x =>
  let s := if CF32.isNeg x then signBit else 0
  if CF32.isNaN x then s + posInf + (quietBit ||| (CF32.fracField x <<< 29)) else
  if CF32.isInf x then s + posInf else
  roundPack (CF32.isNeg x) (CF32.mant x) (CF32.expo x)

/-- `a * b` -/
def fmul (a b : Nat) : Nat :=
  force a fun a => force b fun b =>
  if isNaN a || isNaN b then nan else
  let sign := isNeg a != isNeg b
  if isInf a || isInf b then
    if isZero a || isZero b then nan else (if sign then negInf else posInf)
  else roundPack sign (mant a * mant b) (expo a + expo b)

/-- `a + b` -/
def fadd (a b : Nat) : Nat :=
  force a fun a => force b fun b =>
  if isNaN a || isNaN b then nan else
  if isInf a then (if isInf b && isNeg a != isNeg b then nan else a) else
  if isInf b then b else
  forceI (min (expo a) (expo b)) fun e =>
  let A : Int := (mant a <<< (expo a - e).toNat : Nat)
  let B : Int := (mant b <<< (expo b - e).toNat : Nat)
  forceI ((if isNeg a then -A else A) + (if isNeg b then -B else B)) fun S =>
  if S == 0 then (if isNeg a && isNeg b then signBit else 0)
  else roundPack (S < 0) S.natAbs e

/-- `x as uN` (saturating float→int cast; NaN → 0), `max = 2^N - 1` -/
def toNatSat (x : Nat) (max : Nat) : Nat :=
  force x fun x =>
  if isNaN x then 0 else
  if isNeg x then 0 else
  if isInf x then max else
  let e := expo x
  let v := if e ≥ 0 then mant x <<< e.toNat else mant x >>> (-e).toNat
  if v > max then max else v

def one : Nat := 0x3FF0000000000000
def half : Nat := 0x3FE0000000000000
/-- the literal `65534.0`: `0xFFFE · 2^37 · 2^-37`, biased exponent `1023 + 15` -/
def k65534 : Nat := 0x40EFFFC000000000

end Dds.CF64
