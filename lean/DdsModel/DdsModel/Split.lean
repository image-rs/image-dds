/-
Model of `src/split.rs` (fragment height, `SplitView`), of the parts of `src/encode/mod.rs` /
`src/encode/encoder.rs` / `src/encode/bc.rs` that decide how a surface is split
(`EncodingSupport`, `PreferredFragmentSize`, `Dithering::intersect`), and of the way
`encode_parallel` assembles the fragment results (rayon's indexed `collect`).

Everything is `Nat`; `u32`/`u64` operators of the source are modelled by wrapping
operators as in `Mach.lean` (`wMul32`, `wSub32` below: the release profile) and `Theorems/C14.lean` shows that the
ideal values are in range.
-/
import DdsModel.Mach
import DdsModel.SrcConsts
namespace Dds

/-! ## options -/

/-- `Dithering` (src/encode/mod.rs) -/
inductive Dithering where
  | none | colorAndAlpha | color | alpha
  deriving DecidableEq, Repr, Inhabited

/-- `Dithering::intersect`, the match arms in source order -/
def Dithering.intersect : Dithering → Dithering → Dithering
  | .none, _ => .none
  | _, .none => .none
  | .colorAndAlpha, o => o
  | o, .colorAndAlpha => o
  | .color, .alpha => .none
  | .alpha, .color => .none
  | .color, .color => .color
  | .alpha, .alpha => .alpha

/-- `CompressionQuality` -/
inductive Quality where
  | fast | normal | high | unreasonable
  deriving DecidableEq, Repr, Inhabited

/-- `PreferredFragmentSize`: the `u8` fields are base-2 logarithms -/
inductive FragSize where
  | entireImage
  | fragment (fast high unreasonable : Nat)
  deriving DecidableEq, Repr, Inhabited

/-- `PreferredFragmentSize::new(fast, high, unreasonable)` for powers of two given as exponents
(`log2` of the source is exact on powers of two, which `debug_assert!`s demand). -/
def FragSize.ofLog2 (f h u : Nat) : FragSize := .fragment f h u

/-- `PreferredFragmentSize::combine` -/
def FragSize.combine : FragSize → FragSize → FragSize
  | .entireImage, o => o
  | s, .entireImage => s
  | .fragment a b c, .fragment x y z => .fragment (min a x) (min b y) (min c z)

/-- `PreferredFragmentSize::get_preferred`: `u64::MAX` for `EntireImage`, else
`1 << size_log2.min(63)` where Normal is `((fast as u16 + high as u16) / 2) as u8`. -/
def FragSize.getPreferred (s : FragSize) (q : Quality) : Nat :=
  match s with
  | .entireImage => U64 - 1
  | .fragment f h u =>
    let l := match q with
      | .fast => f
      | .normal => ((f + h) / 2) % U8
      | .high => h
      | .unreasonable => u
    2 ^ (min l 63)

/-- `EncodingSupport` (the fields `get_fragment_height` reads).  `splitHeight` is an
`Option<NonZeroU8>`. -/
structure Support where
  dithering : Dithering
  splitHeight : Option Nat
  localDithering : Bool
  fragmentSize : FragSize
  deriving DecidableEq, Repr, Inhabited

/-- the invariant of `NonZeroU8` -/
def Support.WF (s : Support) : Prop := ∀ sh, s.splitHeight = some sh → 0 < sh ∧ sh < U8

/-! ## `get_fragment_height` -/

/-- `u32::try_from(x: u64).ok()` -/
def tryU32 (x : Nat) : Option Nat := if x < U32 then some x else none

/-- `get_fragment_height(size, format, options)` of src/split.rs, statement by statement.
`sup = none` is `format.encoding_support()? == None`. -/
def getFragmentHeight (w h : Nat) (sup : Option Support) (dith : Dithering) (q : Quality) :
    Option Nat :=
  -- if size.is_empty() { return None; }
  if w = 0 ∨ h = 0 then none else
  -- let support = format.encoding_support()?;
  match sup with
  | none => none
  | some s =>
  -- let split_height = support.split_height()?;
  match s.splitHeight with
  | none => none
  | some sh =>
  -- if !support.local_dithering() && options.dithering.intersect(support.dithering()) != None
  if (!s.localDithering) && decide (dith.intersect s.dithering ≠ .none) then none else
  -- let fragment_pixels = support.fragment_size.get_preferred(options.quality).max(1);
  let fp := max (s.fragmentSize.getPreferred q) 1
  -- if fragment_pixels >= size.pixels() { return None; }     (pixels = w as u64 * h as u64)
  if fp ≥ w * h then none else
  -- u32::try_from((fragment_pixels / size.width as u64) / split_height_64 * split_height_64).ok()?
  match tryU32 (wMul ((fp / w) / sh) sh) with
  | none => none
  | some v =>
  -- NonZeroU32::new(fragment_height_or_zero).unwrap_or(split_height.into())
  some (if v = 0 then sh else v)

/-! ## `SplitView` -/

/-- plain `*` on `u32` in the release profile -/
def wMul32 (a b : Nat) : Nat := (a * b) % U32
/-- plain `-` on `u32` in the release profile -/
def wSub32 (a b : Nat) : Nat := (a + U32 - b % U32) % U32

/-- `SplitView { image, len, fragment_height }` (the image is represented by its size) -/
structure SplitView where
  w : Nat
  h : Nat
  len : Nat
  fragmentHeight : Option Nat
  deriving DecidableEq, Repr, Inhabited

/-- `SplitView::new` (and `new_single` in the `else` branch) -/
def SplitView.new (w h : Nat) (sup : Option Support) (dith : Dithering) (q : Quality) : SplitView :=
  match getFragmentHeight w h sup dith q with
  | some fh => { w, h, len := divCeil h fh, fragmentHeight := some fh }
  | none => { w, h, len := 1, fragmentHeight := none }

/-- `SplitView::get(index)`: `(start_y, fragment height)` of the crop, `none` when out of bounds. -/
def SplitView.get (s : SplitView) (index : Nat) : Option (Nat × Nat) :=
  if index ≥ s.len then none else
  match s.fragmentHeight with
  | some fh =>
    let startY := wMul32 index fh
    let endY := min (satAdd32 startY fh) s.h
    some (startY, wSub32 endY startY)
  | none => some (0, s.h)

/-- `SplitView::single` -/
def SplitView.single (s : SplitView) : Option (Nat × Nat) :=
  if s.len = 1 then some (0, s.h) else none

/-- all fragments in index order (`(0..split.len()).map(|i| split.get(i))`) -/
def SplitView.fragments (s : SplitView) : List (Option (Nat × Nat)) :=
  (List.range s.len).map s.get

/-! ## assembling the fragment results

`(0..len).into_par_iter().map(job).collect::<Result<Vec<_>,_>>()`: every job writes its result into
the slot of its own index, whatever the order in which the jobs finish; the vector is then read in
index order.  `order` is the completion order chosen by the scheduler. -/

/-- slots after the jobs listed in `order` have finished -/
def collectSlots {α : Type} (n : Nat) (r : Nat → α) (order : List Nat) : List (Option α) :=
  order.foldl (fun slots i => slots.set i (some (r i))) (List.replicate n none)

/-- all slots filled? -/
def allSome {α : Type} : List (Option α) → Option (List α)
  | [] => some []
  | none :: _ => none
  | some a :: t => (allSome t).map (a :: ·)

/-- the collected vector, `none` if some slot was never filled -/
def assemble {α : Type} (n : Nat) (r : Nat → α) (order : List Nat) : Option (List α) :=
  allSome (collectSlots n r order)

/-- `for fragment in encoded_fragments { writer.write_all(&fragment) }` -/
def writeOut {β : Type} (frags : List (List β)) : List β := frags.flatten

/-! ## row groups (for the fragment-wise clause) -/

/-- consecutive chunks of `k` elements, the last one possibly shorter
(`for_each_f32_rgba_rows` / `chunks(k)`); used both for "row groups of split height `sh`"
and for "fragments of height `F`". -/
def chunks {ρ : Type} (k : Nat) (l : List ρ) : List (List ρ) :=
  if _h : k = 0 ∨ l = [] then [] else
    l.take k :: chunks k (l.drop k)
termination_by l.length
decreasing_by
  have hk : 0 < k := by omega
  have hl : 0 < l.length := by
    cases l with
    | nil => simp at _h
    | cons a t => simp
  simp only [List.length_drop]
  omega

/-- rows of fragment `i` of a split view, cut out of the image's rows -/
def SplitView.fragmentRows {ρ : Type} (s : SplitView) (img : List ρ) (i : Nat) : List ρ :=
  match s.get i with
  | some (o, k) => (img.drop o).take k
  | none => []

/-! ## format table

`Format::encoding_support()` = `get_encoders(format).map(|e| e.encoding_support())`:
`EncoderSet::new` (split height 1, no local dithering), `new_bc` (split height 4, local dithering),
`new_bi_planar` (no split height); `fragment_size` is that of the first encoder of the set
(`EntireImage` unless `with_fragment_size`), `dithering` the union of the encoders' dither flags. -/

/-- `BC1_FRAGMENT_SIZE = new(64*64, 16*16, 16*16)` at the pinned commit; the exponents are regenerated from the source -/
def bc1Frag : FragSize :=
  .ofLog2 SrcConsts.BC1_FRAG_LOG2_FAST SrcConsts.BC1_FRAG_LOG2_HIGH SrcConsts.BC1_FRAG_LOG2_UNREASONABLE
/-- `BC4_FRAGMENT_SIZE = new(64*64, 32*32, 8*8)` -/
def bc4Frag : FragSize :=
  .ofLog2 SrcConsts.BC4_FRAG_LOG2_FAST SrcConsts.BC4_FRAG_LOG2_HIGH SrcConsts.BC4_FRAG_LOG2_UNREASONABLE
/-- `BC3_FRAGMENT_SIZE = BC1_FRAGMENT_SIZE.combine(BC4_FRAGMENT_SIZE)` -/
def bc3Frag : FragSize := bc1Frag.combine bc4Frag
/-- `BC7_FRAGMENT_SIZE = new(16*16, 16*16, 16*16)` -/
def bc7Frag : FragSize :=
  .ofLog2 SrcConsts.BC7_FRAG_LOG2_FAST SrcConsts.BC7_FRAG_LOG2_HIGH SrcConsts.BC7_FRAG_LOG2_UNREASONABLE

def supPlain (d : Dithering) : Support := ⟨d, some 1, false, .entireImage⟩
def supBc (d : Dithering) (f : FragSize) : Support := ⟨d, some 4, true, f⟩
def supBiPlanar : Support := ⟨.none, none, false, .entireImage⟩

/-- format name ↦ `encoding_support()`; `none` = unknown name, `some none` = not encodable -/
def supportOf (name : String) : Option (Option Support) :=
  let all := Dithering.colorAndAlpha
  let col := Dithering.color
  match name with
  | "R8G8B8_UNORM" | "B8G8R8_UNORM" | "B8G8R8X8_UNORM" | "B5G6R5_UNORM" | "R8_SNORM" | "R8_UNORM"
  | "R8G8_UNORM" | "R8G8_SNORM" | "R16_UNORM" | "R16_SNORM" | "R16G16_UNORM" | "R16G16_SNORM"
  | "R11G11B10_FLOAT" | "R9G9B9E5_SHAREDEXP" | "R16_FLOAT" | "R16G16_FLOAT" | "R1_UNORM" =>
    some (some (supPlain col))
  | "R8G8B8A8_UNORM" | "R8G8B8A8_SNORM" | "B8G8R8A8_UNORM" | "B5G5R5A1_UNORM" | "B4G4R4A4_UNORM"
  | "A4B4G4R4_UNORM" | "R16G16B16A16_UNORM" | "R16G16B16A16_SNORM" | "R10G10B10A2_UNORM"
  | "R16G16B16A16_FLOAT" | "R10G10B10_XR_BIAS_A2_UNORM" | "AYUV" | "Y410" | "Y416" =>
    some (some (supPlain all))
  | "A8_UNORM" => some (some (supPlain .alpha))
  | "R32_FLOAT" | "R32G32_FLOAT" | "R32G32B32_FLOAT" | "R32G32B32A32_FLOAT" | "R8G8_B8G8_UNORM"
  | "G8R8_G8B8_UNORM" | "UYVY" | "YUY2" | "Y210" | "Y216" => some (some (supPlain .none))
  | "NV12" | "P010" | "P016" => some (some supBiPlanar)
  | "BC1_UNORM" | "BC2_UNORM" | "BC2_UNORM_PREMULTIPLIED_ALPHA" => some (some (supBc all bc1Frag))
  | "BC3_UNORM" | "BC3_UNORM_PREMULTIPLIED_ALPHA" => some (some (supBc all bc3Frag))
  | "BC3_UNORM_RXGB" | "BC3_UNORM_NORMAL" => some (some (supBc col bc3Frag))
  | "BC4_UNORM" | "BC4_SNORM" | "BC5_UNORM" | "BC5_SNORM" => some (some (supBc col bc4Frag))
  | "BC7_UNORM" => some (some (supBc all bc7Frag))
  | "BC6H_UF16" | "BC6H_SF16" | "ASTC_4X4_UNORM" | "ASTC_5X4_UNORM" | "ASTC_5X5_UNORM"
  | "ASTC_6X5_UNORM" | "ASTC_6X6_UNORM" | "ASTC_8X5_UNORM" | "ASTC_8X6_UNORM" | "ASTC_8X8_UNORM"
  | "ASTC_10X5_UNORM" | "ASTC_10X6_UNORM" | "ASTC_10X8_UNORM" | "ASTC_10X10_UNORM"
  | "ASTC_12X10_UNORM" | "ASTC_12X12_UNORM" => some none
  | _ => none

end Dds
