/-
C15 — encoding is total.  Model of the parts of the encoder that decide WHETHER bytes are
written and HOW MANY, and of the scalar quantisers whose results are shifted into bit fields.

* format table: `get_encoders` (src/encode/mod.rs), `PixelInfo::from(Format)` (src/pixel.rs) and
  the size multiple `EncoderSet::new_bi_planar` sets (src/encode/encoder.rs)
* `EncodingSupport::supports_size` (src/encode/mod.rs) and the check at the top of
  `bi_planar_universal` (src/encode/bi_planar.rs)
* event traces `[check] ++ writes`: the write sizes are the writer-loop models of `EncLen.lean`
* `Write::write_all` against a writer that accepts `k` bytes and then fails
* Rust's saturating float→int `as` casts, `f32::min`, `f32::max` on an extended-real domain and
  every `from_f32` quantiser of src/color/formats.rs that feeds a bit field
* the `while` loop of `bcn_util::refine_endpoints` and the `max_iter` tables of src/encode/bc.rs
* `rgb9995f::from_f32` (src/color/formats.rs) at the bit level — on binary32 bit patterns, with
  the software binary32 of `ConvF32.lean` (namespace `SharedExp` at the end of this file)

The float bodies of the BC1/BC4/BC7 block encoders are not modelled here; their panic sites are in `EncBcSites.lean`.
-/
import DdsModel.Layout
import DdsModel.EncLen
import DdsModel.ConvF32
namespace Dds.EncTotal
open Dds

/-! ### format table -/

structure Row where
  name : String
  px : PixelInfo
  /-- `get_encoders(format).is_some()` -/
  encodable : Bool
  /-- `EncoderSet::size_multiple` ((1,1) for `None`) -/
  mulW : Nat
  mulH : Nat
deriving Repr, DecidableEq, Inhabited

private def u (name : String) (bpp : Nat) : Row := ⟨name, .fixed bpp, true, 1, 1⟩
private def s (name : String) (bytes bw : Nat) : Row := ⟨name, .block bytes bw 1, true, 1, 1⟩
private def p (name : String) (p1 p2 : Nat) : Row := ⟨name, .biPlanar p1 p2 2 2, true, 2, 2⟩
private def b (name : String) (bytes : Nat) : Row := ⟨name, .block bytes 4 4, true, 1, 1⟩
private def x (name : String) (bytes bw bh : Nat) : Row := ⟨name, .block bytes bw bh, false, 1, 1⟩

/-- all 73 formats, in the order of `Format` -/
def table : List Row := [
  u "R8G8B8_UNORM" 3, u "B8G8R8_UNORM" 3, u "R8G8B8A8_UNORM" 4, u "R8G8B8A8_SNORM" 4,
  u "B8G8R8A8_UNORM" 4, u "B8G8R8X8_UNORM" 4, u "B5G6R5_UNORM" 2, u "B5G5R5A1_UNORM" 2,
  u "B4G4R4A4_UNORM" 2, u "A4B4G4R4_UNORM" 2, u "R8_SNORM" 1, u "R8_UNORM" 1, u "R8G8_UNORM" 2,
  u "R8G8_SNORM" 2, u "A8_UNORM" 1, u "R16_UNORM" 2, u "R16_SNORM" 2, u "R16G16_UNORM" 4,
  u "R16G16_SNORM" 4, u "R16G16B16A16_UNORM" 8, u "R16G16B16A16_SNORM" 8,
  u "R10G10B10A2_UNORM" 4, u "R11G11B10_FLOAT" 4, u "R9G9B9E5_SHAREDEXP" 4, u "R16_FLOAT" 2,
  u "R16G16_FLOAT" 4, u "R16G16B16A16_FLOAT" 8, u "R32_FLOAT" 4, u "R32G32_FLOAT" 8,
  u "R32G32B32_FLOAT" 12, u "R32G32B32A32_FLOAT" 16, u "R10G10B10_XR_BIAS_A2_UNORM" 4,
  u "AYUV" 4, u "Y410" 4, u "Y416" 8,
  s "R1_UNORM" 1 8, s "R8G8_B8G8_UNORM" 4 2, s "G8R8_G8B8_UNORM" 4 2, s "UYVY" 4 2, s "YUY2" 4 2,
  s "Y210" 8 2, s "Y216" 8 2,
  p "NV12" 1 2, p "P010" 2 4, p "P016" 2 4,
  b "BC1_UNORM" 8, b "BC2_UNORM" 16, b "BC2_UNORM_PREMULTIPLIED_ALPHA" 16, b "BC3_UNORM" 16,
  b "BC3_UNORM_PREMULTIPLIED_ALPHA" 16, b "BC4_UNORM" 8, b "BC4_SNORM" 8, b "BC5_UNORM" 16,
  b "BC5_SNORM" 16, x "BC6H_UF16" 16 4 4, x "BC6H_SF16" 16 4 4, b "BC7_UNORM" 16,
  x "ASTC_4X4_UNORM" 16 4 4, x "ASTC_5X4_UNORM" 16 5 4, x "ASTC_5X5_UNORM" 16 5 5,
  x "ASTC_6X5_UNORM" 16 6 5, x "ASTC_6X6_UNORM" 16 6 6, x "ASTC_8X5_UNORM" 16 8 5,
  x "ASTC_8X6_UNORM" 16 8 6, x "ASTC_8X8_UNORM" 16 8 8, x "ASTC_10X5_UNORM" 16 10 5,
  x "ASTC_10X6_UNORM" 16 10 6, x "ASTC_10X8_UNORM" 16 10 8, x "ASTC_10X10_UNORM" 16 10 10,
  x "ASTC_12X10_UNORM" 16 12 10, x "ASTC_12X12_UNORM" 16 12 12,
  b "BC3_UNORM_RXGB" 16, b "BC3_UNORM_NORMAL" 16
]

def lookup (name : String) : Option Row := table.find? (·.name = name)

/-- `EncodingSupport::supports_size` -/
def Row.supportsSize (r : Row) (w h : Nat) : Bool := w % r.mulW = 0 && h % r.mulH = 0

/-- the check at the top of `bi_planar_universal`: `width % 2 != 0 || height % 2 != 0` -/
def biPlanarRefuses (w h : Nat) : Bool := w % 2 ≠ 0 || h % 2 ≠ 0

/-! ### writer loops: which `write_all` sizes an encoder issues -/

/-- the encoder of the set that `pick_encoder` selects, as far as its writer loop is concerned -/
inductive Loop where
  /-- `copy_directly` on a contiguous little-endian image: one `write_all(image.data())` -/
  | copyAll
  /-- `for_each_chunk` contiguous path with a buffer of `bufPx` pixels
  (`uncompressed_universal`: 512, `uncompressed_untyped` / `copy_directly`: 4096 / bpp) -/
  | contig (bufPx : Nat)
  /-- `for_each_chunk` strided path -/
  | rows (bufPx : Nat)
  /-- `uncompressed_universal_dither`: per row, chunks of `chunkPx` pixels -/
  | perRow (chunkPx : Nat)
deriving Repr, DecidableEq, Inhabited

def Loop.ok : Loop → Bool
  | .copyAll => true
  | .contig n => 1 ≤ n
  | .rows n => 1 ≤ n
  | .perRow n => 1 ≤ n

/-- the write sizes of one `encode` call for a supported size -/
def writes (px : PixelInfo) (lp : Loop) (w h : Nat) : List Nat :=
  match px with
  | .fixed bpp =>
    match lp with
    | .copyAll => [w * h * bpp]
    | .contig n => chunksContig (w * h) n bpp
    | .rows n => chunksRows w h n bpp
    | .perRow n => chunksPerRow w h n bpp
  | .block bytes bw bh =>
    if bh = 1 then chunksSubsample w h (512 / bw * bw) bw bytes
    else writesBlock w h bw bh bytes
  | .biPlanar p1 p2 _ _ =>
    -- `for_each_f32_rgba_rows` never calls the closure for an empty image, but the final
    -- `write_all` of plane 2 (0 bytes) is still issued
    writesBiPlanar w h p1 p2

/-! ### events, results, the failing writer -/

inductive Ev where
  /-- the size-multiple check -/
  | check
  /-- `write_all` of `n` bytes -/
  | write (n : Nat)
deriving Repr, DecidableEq, Inhabited

inductive Res where
  | ok | unsupportedFormat | invalidSize | ioError
deriving Repr, DecidableEq, Inhabited

def Res.name : Res → String
  | .ok => "ok"
  | .unsupportedFormat => "err UnsupportedFormat"
  | .invalidSize => "err InvalidSize"
  | .ioError => "err Io"

/-- `Write::write_all` calls with the given sizes against a writer that accepts `budget` more
bytes (`none`: never fails).  A failing `write_all` has passed on the bytes that still fitted;
every `write_all` is followed by `?`, so the first failure ends the call.
Returns the result and the number of bytes the writer accepted. -/
def runWrites : Option Nat → List Nat → Res × Nat
  | _, [] => (.ok, 0)
  | none, s :: rest => let r := runWrites none rest; (r.1, s + r.2)
  | some k, s :: rest =>
    if s ≤ k then let r := runWrites (some (k - s)) rest; (r.1, s + r.2)
    else (.ioError, k)

/-- the events of a list of write sizes up to and including the first failing one -/
def performed : Option Nat → List Nat → List Ev
  | _, [] => []
  | none, s :: rest => .write s :: performed none rest
  | some k, s :: rest =>
    if s ≤ k then .write s :: performed (some (k - s)) rest else [.write s]

structure Outcome where
  res : Res
  /-- bytes accepted by the writer -/
  bytes : Nat
  /-- events in program order -/
  trace : List Ev
deriving Repr, DecidableEq, Inhabited

/-- image views normalise empty sizes to 0x0 (`ImageView::new`) -/
def normView (w h : Nat) : Nat × Nat := if w = 0 ∨ h = 0 then (0, 0) else (w, h)

/-- `dds::encode` of a `w x h` image (before normalisation) in the format of `row` -/
def encode (row : Row) (lp : Loop) (w h : Nat) (fault : Option Nat) : Outcome :=
  if !row.encodable then ⟨.unsupportedFormat, 0, []⟩ else
  let (w, h) := normView w h
  match row.px with
  | .biPlanar .. =>
    if biPlanarRefuses w h then ⟨.invalidSize, 0, [.check]⟩
    else
      let ws := writes row.px lp w h
      let r := runWrites fault ws
      ⟨r.1, r.2, .check :: performed fault ws⟩
  | _ =>
    let ws := writes row.px lp w h
    let r := runWrites fault ws
    ⟨r.1, r.2, performed fault ws⟩

/-- no `write` event before a `check` event -/
def checkFirst : List Ev → Bool
  | [] => true
  | .check :: rest => checkFirst rest
  | .write _ :: rest => rest.all (· ≠ .check)

def noWrite (t : List Ev) : Bool := t.all fun e => match e with | .write _ => false | .check => true

/-! ### floats: an extended-real domain -/

/-- the values of an `f32`/`f64` expression: NaN, the infinities, or a (rounded) rational.
`-0.0` is `fin 0`: no operation below distinguishes the zeros. -/
inductive ExtReal where
  | nan | ninf | pinf
  | fin (q : Rat)
deriving Repr, DecidableEq, Inhabited

/-- `x ≤ c` for a finite bound `c`; NaN is not bounded by anything -/
def ExtReal.ub : ExtReal → Rat → Prop
  | .nan, _ => False
  | .ninf, _ => True
  | .pinf, _ => False
  | .fin q, c => q ≤ c

/-- What is assumed of the rounding of one arithmetic operation (binary32 or binary64,
round to nearest, overflow to infinity): the rounded result of a real number is never
NaN and rounding is monotone — stated in the only form used: a value below a value that is
rounded to the finite `c` is rounded to at most `c`. -/
structure Rounding where
  rnd : Rat → ExtReal
  mono : ∀ a b c, a ≤ b → rnd b = .fin c → (rnd a).ub c

/-- exact arithmetic is a rounding -/
def Rounding.exact : Rounding := ⟨.fin, by
  intro a b c hab h
  injection h with h
  subst h
  exact hab⟩

/-- `x.min(c)` (`f32::min`: a NaN operand is ignored) -/
def ExtReal.minC : ExtReal → Rat → ExtReal
  | .nan, c => .fin c
  | .ninf, _ => .ninf
  | .pinf, c => .fin c
  | .fin q, c => .fin (if q ≤ c then q else c)

/-- `x.max(c)` (`f32::max`: a NaN operand is ignored) -/
def ExtReal.maxC : ExtReal → Rat → ExtReal
  | .nan, c => .fin c
  | .ninf, c => .fin c
  | .pinf, _ => .pinf
  | .fin q, c => .fin (if c ≤ q then q else c)

/-- `x * k` for a positive constant `k` -/
def ExtReal.mulPos (R : Rounding) : ExtReal → Rat → ExtReal
  | .fin q, k => R.rnd (q * k)
  | e, _ => e

/-- `x * k` for a negative constant `k` -/
def ExtReal.mulNeg (R : Rounding) : ExtReal → Rat → ExtReal
  | .fin q, k => R.rnd (q * k)
  | .nan, _ => .nan
  | .ninf, _ => .pinf
  | .pinf, _ => .ninf

/-- `x + c` for a finite constant `c` -/
def ExtReal.addC (R : Rounding) : ExtReal → Rat → ExtReal
  | .fin q, c => R.rnd (q + c)
  | e, _ => e

/-- `x + y` -/
def ExtReal.add (R : Rounding) : ExtReal → ExtReal → ExtReal
  | .nan, _ => .nan
  | _, .nan => .nan
  | .pinf, .ninf => .nan
  | .ninf, .pinf => .nan
  | .pinf, _ => .pinf
  | _, .pinf => .pinf
  | .ninf, _ => .ninf
  | _, .ninf => .ninf
  | .fin a, .fin b => R.rnd (a + b)

/-- `x as uN` (N = `bits`): NaN → 0, saturating, truncation toward zero -/
def ExtReal.castU (bits : Nat) : ExtReal → Nat
  | .nan => 0
  | .ninf => 0
  | .pinf => 2 ^ bits - 1
  | .fin q => if q < 0 then 0 else min q.floor.toNat (2 ^ bits - 1)

/-- `x >= c` (false for NaN) -/
def ExtReal.geC : ExtReal → Rat → Bool
  | .nan, _ => false
  | .ninf, _ => false
  | .pinf, _ => true
  | .fin q, c => c ≤ q

/-! ### the quantisers of src/color/formats.rs -/

/-- `n1::from_f32`: `if x >= 0.5 { 1 } else { 0 }` -/
def qN1 (x : ExtReal) : Nat := if x.geC (1/2) then 1 else 0

/-- `n2/n4/n5/n6/n10::from_f32`: `(x.min(1.0) * MAX + 0.5) as u8|u16` with MAX = 2^n − 1;
`ty` is the width of the integer type of the cast -/
def qUnormMin (R : Rounding) (max : Nat) (ty : Nat) (x : ExtReal) : Nat :=
  (((x.minC 1).mulPos R max).addC R (1/2)).castU ty

/-- `n8::from_f32` / `n16::from_f32` / `fp::n8` / `fp::n16`: `(x * MAX + 0.5) as u8|u16` —
no clamp at all, the cast saturates -/
def qUnormSat (R : Rounding) (max : Nat) (ty : Nat) (x : ExtReal) : Nat :=
  ((x.mulPos R max).addC R (1/2)).castU ty

/-- `s8::from_uf32` / `s16::from_uf32` up to `from_norm`:
`norm = (x.min(1.0) * (2^n − 2) + 0.5) as uN` -/
def qSnormNorm (R : Rounding) (bits : Nat) (x : ExtReal) : Nat :=
  qUnormMin R (2 ^ bits - 2) bits x

/-- `from_norm`: `(norm + 1).wrapping_sub(2^(n-1))`; `none` = the `+ 1` overflows (a panic in
the checked profile) -/
def snormFromNorm (bits : Nat) (norm : Nat) : Option Nat :=
  if norm + 1 < 2 ^ bits then some ((norm + 1 + 2 ^ bits - 2 ^ (bits - 1)) % 2 ^ bits) else none

def qSnorm (R : Rounding) (bits : Nat) (x : ExtReal) : Option Nat :=
  snormFromNorm bits (qSnormNorm R bits x)

/-- `xr10::from_f32`: `((x * 510.0 + 384.5) as u16).min(1023)` -/
def qXr10 (R : Rounding) (x : ExtReal) : Nat :=
  min (((x.mulPos R 510).addC R (769/2)).castU 16) 1023

/-- one row of the BT.601 matrix in `yuv8/yuv10/yuv16::from_rgb_f32`:
`(cr * r + cg * g + cb * b + off) as uN` where `r,g,b` are the inputs times `scale`;
coefficient signs as in the source (`neg` = the coefficient is negative, `c` its magnitude) -/
structure YuvRow where
  cr : Rat
  rNeg : Bool
  cg : Rat
  gNeg : Bool
  cb : Rat
  bNeg : Bool
  off : Rat

def mulSigned (R : Rounding) (x : ExtReal) (c : Rat) (neg : Bool) : ExtReal :=
  if neg then x.mulNeg R (-c) else x.mulPos R c

def yuvExpr (R : Rounding) (row : YuvRow) (scale : Nat) (r g b : ExtReal) : ExtReal :=
  let r := r.mulPos R scale
  let g := g.mulPos R scale
  let b := b.mulPos R scale
  ((((mulSigned R r row.cr row.rNeg).add R (mulSigned R g row.cg row.gNeg)).add R
    (mulSigned R b row.cb row.bNeg))).addC R row.off

def yRow (off : Rat) : YuvRow := ⟨256788/1000000, false, 504129/1000000, false, 97906/1000000, false, off⟩
def uRow (off : Rat) : YuvRow := ⟨148223/1000000, true, 290993/1000000, true, 439216/1000000, false, off⟩
def vRow (off : Rat) : YuvRow := ⟨439216/1000000, false, 367788/1000000, true, 71427/1000000, true, off⟩

/-- `yuv8::from_rgb_f32` component: `as u8` -/
def qYuv8 (R : Rounding) (row : YuvRow) (r g b : ExtReal) : Nat := (yuvExpr R row 255 r g b).castU 8
/-- `yuv10::from_rgb_f32` component: `as u16` then `.min(1023)` -/
def qYuv10 (R : Rounding) (row : YuvRow) (r g b : ExtReal) : Nat :=
  min ((yuvExpr R row 1023 r g b).castU 16) 1023
/-- `yuv16::from_rgb_f32` component: `as u16` -/
def qYuv16 (R : Rounding) (row : YuvRow) (r g b : ExtReal) : Nat := (yuvExpr R row 65535 r g b).castU 16

/-- `f32_to_unsigned_fp_e5(n, x)` after the half conversion: `(exp << n) | mant` with
`exp = (f16 >> 10) & 31`, `mant = (f16 & 1023) >> (10 - n)`; `f16` is any `u16` -/
def fpE5 (n : Nat) (f16 : Nat) : Nat :=
  (((f16 >>> 10) &&& 31) <<< n) ||| ((f16 &&& 1023) >>> (10 - n))

/-- `rgb9995f::from_f32` mantissa for the exponent `exp` (`0 ≤ exp ≤ 31`):
`(c * two_powi(24 - exp) + 0.5) as u32`.  The scaling by a power of two is exact. -/
def mant9995 (R : Rounding) (exp : Nat) (c : Rat) : Nat :=
  ((ExtReal.fin (c * (2 : Rat) ^ ((24 : Int) - exp))).addC R (1/2)).castU 32

/-! ### packing: `a | (b << s)` -/

/-- `fields` = (value, width) from the least significant field up, packed with `|` and `<<` -/
def pack : List (Nat × Nat) → Nat
  | [] => 0
  | (v, w) :: rest => v ||| (pack rest <<< w)

def widthSum (l : List (Nat × Nat)) : Nat := (l.map (·.2)).sum

/-! ### refinement loops -/

/-- the loop condition `step > options.step_min && iters < options.max_iter` -/
def loopGuard (stepOk : Nat → Bool) (maxIter iters : Nat) : Bool :=
  stepOk iters && decide (iters < maxIter)

/-- `bcn_util::refine_endpoints`: `while step > step_min && iters < max_iter { …; iters += 1 }`.
The float comparison is an arbitrary predicate of the iteration number (NaN makes it false).
Returns the number of executed iterations. -/
def refineIters (stepOk : Nat → Bool) (maxIter : Nat) : (fuel iters : Nat) → Nat
  | 0, iters => iters
  | fuel + 1, iters =>
    if loopGuard stepOk maxIter iters then refineIters stepOk maxIter fuel (iters + 1)
    else iters

/-- number of `compute_error` calls of one `refine_endpoints`: one up front (if the loop is
entered), then at most `perIter` per iteration (`for_each_endpoint`: 4 for `f32`, 12 for
`Vec3A`/`ColorSpace`) -/
def refineCallsBound (maxIter perIter : Nat) : Nat := 1 + maxIter * perIter

inductive Quality where
  | fast | normal | high | unreasonable
deriving Repr, DecidableEq, Inhabited

def Quality.all : List Quality := [.fast, .normal, .high, .unreasonable]

/-- `get_bc1_options`: `refine` is on from Normal; `refine_along_line` uses
`refine_line_max_iter` (default 3), `refine` uses `refine_max_iter` -/
def bc1RefineOn : Quality → Bool
  | .fast => false
  | _ => true
def bc1LineMaxIter : Quality → Nat := fun _ => 3
def bc1MaxIter : Quality → Nat
  | .fast => 0 | .normal => 0 | .high => 4 | .unreasonable => 10
/-- `get_bc4_options`: `max_refine_iter` -/
def bc4MaxIter : Quality → Nat
  | .fast => 0 | .normal => 2 | .high => 10 | .unreasonable => 10
/-- `BC7_UNORM`: `max_refinement_iters` -/
def bc7MaxIter : Quality → Nat
  | .fast => 0 | .normal => 0 | .high => 1 | .unreasonable => 8

/-- all `max_iter` values that reach `refine_endpoints` for a quality -/
def maxIters (q : Quality) : List Nat :=
  [if bc1RefineOn q then bc1LineMaxIter q else 0, if bc1RefineOn q then bc1MaxIter q else 0,
   bc4MaxIter q, bc7MaxIter q]

/-! ### R9G9B9E5 at the bit level: `rgb9995f::from_f32` (src/color/formats.rs)

An `f32` is its bit pattern (`Nat < 2^32`); `*`, `+`, `as u32`, `min` are the binary32 operations
of `ConvF32.lean` (one correct rounding per operator, ties to even, gradual underflow, saturating
cast with NaN → 0).  `none` stands for a panic of the overflow-checking / debug-assertion
profile: a failing `debug_assert!` or an `i8` overflow.  In the release profile these checks do
not exist and the arithmetic wraps; as long as the model does not answer `none` (which is what
`Theorems/C15.lean` proves for every input) both profiles compute the same word. -/
namespace SharedExp
open Dds.CF32

/-- `f32::max`: a NaN operand is ignored.  When the operands compare equal Rust returns "either"
(this only matters for `-0.0` against `+0.0`, every other tie is between identical patterns);
`tie` picks the operand, the theorems hold for both choices at every call site. -/
def fmax (tie : Bool) (a b : Nat) : Nat :=
  if isNaN a then b else if isNaN b then a else
  if flt a b then b else if flt b a then a else if tie then a else b

/-- `65408.0_f32` = `0x477F8000` = `511 · 2^7` -/
def c65408 : Nat := 0x477F8000

/-- `util::clamp_0_max(value, 65408.0)`: `value.max(0.0).min(max)` (`debug_assert!(max > 0.0)`
holds for the literal) -/
def clamp0Max (tie : Bool) (x : Nat) : Nat := fmin (fmax tie x 0) c65408

/-- `f32::is_subnormal` -/
def isSubnormal (b : Nat) : Bool := expField b == 0 && fracField b != 0

/-- `x as i8` of a `u32` (truncation to 8 bits, two's complement) -/
def asI8 (x : Nat) : Int := if x % 256 < 128 then ((x % 256 : Nat) : Int) else ((x % 256 : Nat) : Int) - 256

/-- `two_powi(-(exp as i8 - 24))`: the `i8` subtraction and negation are overflow-checked, then
`util::two_powi` asserts `-126 <= exponent` and builds the pattern `((exponent + 127) as u32) << 23`
(`exponent ≤ 127` as an `i8`, so the shift stays inside 32 bits) -/
def scaleOf (exp : Nat) : Option Nat :=
  let a : Int := asI8 exp - 24
  if a < -128 ∨ 127 < a then none else
  let n : Int := -a
  if n < -128 ∨ 127 < n then none else
  if n < -126 then none else
  some (twoPowi n)

/-- `(c * f + 0.5) as u32` -/
def mantOf (c f : Nat) : Nat := toNatSat (fadd (fmul c f) half) (2 ^ 32 - 1)

/-- the three `debug_assert!(x_mant <= 511)` -/
def finish (rm gm bm exp : Nat) : Option (Nat × Nat × Nat × Nat) :=
  if rm ≤ 511 ∧ gm ≤ 511 ∧ bm ≤ 511 then some (rm, gm, bm, exp) else none

/-- `rgb9995f::from_f32` up to the packing: `(r_mant, g_mant, b_mant, exp)`; the early
`return 0` is the all-zero tuple.  `tie i` is the zero-sign choice of the `i`-th `max` call. -/
def fields (tie : Nat → Bool) (r g b : Nat) : Option (Nat × Nat × Nat × Nat) :=
  let r := clamp0Max (tie 0) r
  let g := clamp0Max (tie 1) g
  let b := clamp0Max (tie 2) b
  let mx := fmax (tie 4) (fmax (tie 3) r g) b
  -- `max == 0.0 || max.is_subnormal()` (`isZero` is false for NaN, like `==`)
  if isZero mx || isSubnormal mx then some (0, 0, 0, 0) else
  let rawExp := (mx >>> 23) &&& 0xFF
  -- `(raw_exp as i32 - 127 + 16).max(0) as u32`: `raw_exp ≤ 255`, no `i32` overflow
  let exp := (max ((rawExp : Int) - 127 + 16) 0).toNat
  if 31 < exp then none else                      -- debug_assert!(exp <= 31)
  match scaleOf exp with
  | none => none
  | some f =>
    let rm := mantOf r f
    let gm := mantOf g f
    let bm := mantOf b f
    if rm == 512 || gm == 512 || bm == 512 then
      let exp := exp + 1                          -- `u32`, `exp ≤ 31` here
      if 31 < exp then none else                  -- debug_assert!(exp <= 31)
      match scaleOf exp with
      | none => none
      | some f => finish (mantOf r f) (mantOf g f) (mantOf b f) exp
    else finish rm gm bm exp

/-- `x << s` on `u32`: bits shifted past bit 31 are dropped (no panic for `s < 32`) -/
def shl32 (x s : Nat) : Nat := (x <<< s) % 2 ^ 32

/-- `r_mant | (g_mant << 9) | (b_mant << 18) | (exp << 27)` -/
def word (f : Nat × Nat × Nat × Nat) : Nat :=
  f.1 ||| shl32 f.2.1 9 ||| shl32 f.2.2.1 18 ||| shl32 f.2.2.2 27

/-- `rgb9995f::from_f32`: the encoded `u32`, `none` = panic in the checked profile -/
def fromF32 (tie : Nat → Bool) (r g b : Nat) : Option Nat := (fields tie r g b).map word

end SharedExp

/-! ### the binary32 UNORM / SNORM8 quantisers at the bit level

`n1, n2, n4, n5, n6, n10::from_f32` and `s8::from_uf32` of src/color/formats.rs on binary32 bit
patterns with the operations of `ConvF32.lean`, and the packed formats of
src/encode/uncompressed.rs built from them.  (`s16::from_uf32` computes in `f64`: its bit-level
model is `QuantBits.s16` in `EncTotal64.lean`, on the software binary64 of `ConvF64.lean`; `n8`,
`n16`, `xr10`, the YUV rows are in range by their cast / `min` alone: they stay with the abstract
`Rounding` model above.) -/
namespace QuantBits
open Dds.CF32

/-- `a >= b` (false when either is NaN; the zeros are equal) -/
def fge (a b : Nat) : Bool := !isNaN a && !isNaN b && decide (key b ≤ key a)

/-- `n1::from_f32`: `if x >= 0.5 { 1 } else { 0 }` -/
def n1 (x : Nat) : Nat := if fge x half then 1 else 0

/-- `(x.min(1.0) * MAX + 0.5) as uN`: `maxPat` is the pattern of the literal `MAX`, `tyMax` the
largest value of the integer type of the cast -/
def unorm (maxPat tyMax x : Nat) : Nat := toNatSat (fadd (fmul (fmin x one) maxPat) half) tyMax

/-- the literals `3.0, 15.0, 31.0, 63.0, 1023.0, 254.0` -/
def k3 : Nat := 0x40400000
def k15 : Nat := 0x41700000
def k31 : Nat := 0x41F80000
def k63 : Nat := 0x427C0000
def k1023 : Nat := 0x447FC000
def k254 : Nat := 0x437E0000

/-- `n2::from_f32` … `n6::from_f32` (`as u8`), `n10::from_f32` (`as u16`) -/
def n2 (x : Nat) : Nat := unorm k3 255 x
def n4 (x : Nat) : Nat := unorm k15 255 x
def n5 (x : Nat) : Nat := unorm k31 255 x
def n6 (x : Nat) : Nat := unorm k63 255 x
def n10 (x : Nat) : Nat := unorm k1023 65535 x

/-- `s8::from_uf32`: `norm = (x.min(1.0) * 254.0 + 0.5) as u8`, then `from_norm`
(`debug_assert!(x <= 254)`, `(x + 1).wrapping_sub(128)`; `none` = the assertion / the `u8`
overflow of `x + 1`, which is the same condition) -/
def s8 (x : Nat) : Option Nat := snormFromNorm 8 (unorm k254 255 x)

/-- `x << s` in an integer type of `bits` bits -/
def shl (bits x s : Nat) : Nat := (x <<< s) % 2 ^ bits

/-- the encoded pixel (as a little-endian number) of the packed formats, from the bit patterns
of an RGBA `f32` pixel: the `universal!` closures of src/encode/uncompressed.rs -/
def encode (fmt : String) (r g b a : Nat) : Option Nat :=
  match fmt with
  | "B5G6R5_UNORM" => some (n5 b ||| shl 16 (n6 g) 5 ||| shl 16 (n5 r) 11)
  | "B5G5R5A1_UNORM" => some (n5 b ||| shl 16 (n5 g) 5 ||| shl 16 (n5 r) 10 ||| shl 16 (n1 a) 15)
  | "B4G4R4A4_UNORM" => some (n4 b ||| shl 16 (n4 g) 4 ||| shl 16 (n4 r) 8 ||| shl 16 (n4 a) 12)
  | "A4B4G4R4_UNORM" => some (n4 a ||| shl 16 (n4 b) 4 ||| shl 16 (n4 g) 8 ||| shl 16 (n4 r) 12)
  | "R10G10B10A2_UNORM" =>
    some (shl 32 (n2 a) 30 ||| shl 32 (n10 b) 20 ||| shl 32 (n10 g) 10 ||| n10 r)
  | "R8G8B8A8_SNORM" =>
    match s8 r, s8 g, s8 b, s8 a with
    | some r, some g, some b, some a => some (r ||| (g <<< 8) ||| (b <<< 16) ||| (a <<< 24))
    | _, _, _, _ => none
  | _ => none

end QuantBits

end Dds.EncTotal
