/-
Trapping machine arithmetic: the semantics of the Rust operators in the `checked` build profile
(`overflow-checks = on`, `debug-assertions = on`).

Every operation that can panic in that profile returns `Option`; `none` = panic.  The mirrors in
`TrapBc.lean`, `TrapBc7.lean`, `TrapBc6.lean`, `TrapUnc.lean` are the codec bodies written with these
operators, and `Theorems/C01.lean` shows that each mirror returns `some` of what the wrapping
(release-profile) model of C03 / C03x / C04 computes — for every block / encoded pixel.

What panics in Rust (and only that is `none` here):
* `+ - *` on an integer type whose ideal result leaves the type (`ck`, `subU`, `ckI32`);
* `<<` / `>>` with a shift amount ≥ the bit width of the LEFT operand (`shl`, `shr`; the `i32` shifts are in `TrapBc6.lean`);
  bits shifted out are lost silently, as in Rust (no trap);
* `/` by zero (`div`);
* slice / array indexing out of range (`idx`); `unwrap` / `expect` on `None`;
* `assert!` / `debug_assert!` / `unreachable!()` (`dbgP`, `none`).
NOT a panic: `wrapping_*`, `saturating_*`, `as` casts between integer types (truncation), float
arithmetic and float → integer casts (saturating, NaN → 0).
-/
namespace Dds.Trap

/-- result `x` of a plain `+` / `*` on an unsigned type with `bound = 2^bits` values -/
def ck (bound x : Nat) : Option Nat := if x < bound then some x else none
/-- plain `a - b` on an unsigned type -/
def subU (a b : Nat) : Option Nat := if b ≤ a then some (a - b) else none
/-- `x << s` on an unsigned type of `width` bits (`bound = 2^width`): traps iff `s ≥ width` -/
def shl (width bound x s : Nat) : Option Nat := if s < width then some ((x <<< s) % bound) else none
/-- `x >> s` on an unsigned type of `width` bits: traps iff `s ≥ width` -/
def shr (width x s : Nat) : Option Nat := if s < width then some (x >>> s) else none
/-- `a / b` -/
def div (a b : Nat) : Option Nat := if b = 0 then none else some (a / b)
/-- `l[i]` -/
def idx {α} (l : List α) (i : Nat) : Option α := l[i]?
/-- `assert!(c)` / `debug_assert!(c)` -/
def dbg (c : Bool) : Option Unit := if c then some () else none

/-- `assert!(p)` / `debug_assert!(p)` for a decidable proposition -/
def dbgP (p : Prop) [Decidable p] : Option Unit := if p then some () else none
/-- `a[i]` for an array of `n` elements given as a function -/
def idxF {α} (n : Nat) (a : Nat → α) (i : Nat) : Option α := if i < n then some (a i) else none

/-- all results, or `none` if one of them is a panic -/
def allSome {α} : List (Option α) → Option (List α)
  | [] => some []
  | none :: _ => none
  | some a :: l => match allSome l with
    | some r => some (a :: r)
    | none => none
/-- a loop / `array.map(f)` whose body may panic: the results in order, or the panic -/
def mapT {α β} (f : α → Option β) (l : List α) : Option (List β) := allSome (l.map f)

/-- result `x` of a plain `+ - *` on `i32` -/
def ckI32 (x : Int) : Option Int := if -2147483648 ≤ x ∧ x ≤ 2147483647 then some x else none
/-- result of a plain `+ - *` on `i16` / `i8` -/
def ckI16 (x : Int) : Option Int := if -32768 ≤ x ∧ x ≤ 32767 then some x else none
def ckI8 (x : Int) : Option Int := if -128 ≤ x ∧ x ≤ 127 then some x else none

/-- `two_powi(exp as i8 - bias)` (util.rs:56) for a small non-negative `exp`: the `i8` subtraction at the call site
(formats.rs: `two_powi(exp as i8 - 25)` …), `debug_assert!(-126 <= exponent)`, `(exponent as i32) + 127` and the
`u32` shift `<< 23`.  Only the checks; the value is computed by the float models. -/
def twoPowiT (exp : Nat) (bias : Int) : Option Unit :=
  match ckI8 ((exp : Int) - bias) with
  | none => none
  | some e =>
    match dbgP (-126 ≤ e) with
    | none => none
    | some _ =>
      match ckI32 (e + 127) with
      | none => none
      | some s =>
        match shl 32 4294967296 s.toNat 23 with
        | none => none
        | some _ => some ()

theorem ck_of_lt {bound x : Nat} (h : x < bound) : ck bound x = some x := if_pos h
theorem subU_of_le {a b : Nat} (h : b ≤ a) : subU a b = some (a - b) := if_pos h
theorem shl_of_lt {width bound x s : Nat} (h : s < width) : shl width bound x s = some ((x <<< s) % bound) :=
  if_pos h
theorem shr_of_lt {width x s : Nat} (h : s < width) : shr width x s = some (x >>> s) := if_pos h
theorem div_of_ne {a b : Nat} (h : b ≠ 0) : div a b = some (a / b) := if_neg h
theorem dbg_of_true {c : Bool} (h : c = true) : dbg c = some () := by subst h; rfl
theorem dbgP_of {p : Prop} [Decidable p] (h : p) : dbgP p = some () := if_pos h
theorem idxF_of_lt {α} {n : Nat} {a : Nat → α} {i : Nat} (h : i < n) : idxF n a i = some (a i) := if_pos h

theorem idx_getD {α} (l : List α) (i : Nat) (d : α) (h : i < l.length) : idx l i = some (l.getD i d) := by
  unfold idx
  rw [List.getD_eq_getElem?_getD, List.getElem?_eq_getElem h]
  rfl

theorem idx_map_range {α} (f : Nat → α) {n k : Nat} (hk : k < n) : idx ((List.range n).map f) k = some (f k) := by
  unfold idx
  rw [List.getElem?_map, List.getElem?_range hk]
  rfl

theorem mapT_cons {α β} {f : α → Option β} {a : α} {l : List α} {x : β} {r : List β}
    (h1 : f a = some x) (h2 : mapT f l = some r) : mapT f (a :: l) = some (x :: r) := by
  simp only [mapT, List.map_cons, h1] at h2 ⊢
  rw [allSome.eq_3, h2]

theorem mapT_eq_some {α β} (f : α → Option β) (g : α → β) (l : List α) (h : ∀ x ∈ l, f x = some (g x)) :
    mapT f l = some (l.map g) := by
  induction l with
  | nil => rfl
  | cons a l ih =>
    obtain ⟨ha, hl⟩ := List.forall_mem_cons.1 h
    exact mapT_cons ha (ih hl)

theorem mapT_map {α β γ} (f : β → Option γ) (k : α → β) (g : α → γ) (l : List α) (h : ∀ x ∈ l, f (k x) = some (g x)) :
    mapT f (l.map k) = some (l.map g) := by
  have := mapT_eq_some (f ∘ k) g l h
  rwa [mapT, List.map_map]

theorem ckI32_of_range {x : Int} (h : -2147483648 ≤ x ∧ x ≤ 2147483647) : ckI32 x = some x := if_pos h
theorem ckI16_of_range {x : Int} (h : -32768 ≤ x ∧ x ≤ 32767) : ckI16 x = some x := if_pos h
theorem ckI8_of_range {x : Int} (h : -128 ≤ x ∧ x ≤ 127) : ckI8 x = some x := if_pos h

theorem twoPowiT_of {exp : Nat} {bias : Int} (h : -126 ≤ (exp : Int) - bias ∧ (exp : Int) - bias ≤ 127) :
    twoPowiT exp bias = some () := by
  unfold twoPowiT
  rw [ckI8_of_range (by omega)]
  simp only []
  rw [dbgP_of h.1]
  simp only []
  rw [ckI32_of_range (by omega)]
  simp only []
  rw [shl_of_lt (by omega)]

/-! Sequencing lemmas with NON-definitional proofs.  `Option.bind_some` is a `rfl` lemma: `simp` then rewrites
definitionally and leaves the kernel to re-check `(some a).bind f ≡ f a` by unfolding, and the kernel's
argument-first heuristic starts to compare `some a` with the NEXT `ck …` application, i.e. to decide
`x + 32520 < 4294967296` for a variable `x` by peeling `Nat.ble`.  With a proof term the kernel only checks the
instance. -/
theorem bind_some' {α β} (a : α) (f : α → Option β) : (some a >>= f) = f a := by
  cases h : f a <;> exact h
theorem pure_some' {α} (a : α) : (pure a : Option α) = some a := Eq.trans rfl rfl

/-! An operator that does not trap, followed by the rest of the mirror: one rewrite per source line. -/
theorem ck_bind {β} {f : Nat → Option β} {bound x : Nat} (h : x < bound) : (ck bound x >>= f) = f x := by
  rw [ck_of_lt h, bind_some']
theorem subU_bind {β} {f : Nat → Option β} {a b : Nat} (h : b ≤ a) : (subU a b >>= f) = f (a - b) := by
  rw [subU_of_le h, bind_some']
theorem shl_bind {β} {f : Nat → Option β} {width bound x s : Nat} (h : s < width) :
    (shl width bound x s >>= f) = f ((x <<< s) % bound) := by rw [shl_of_lt h, bind_some']
theorem shr_bind {β} {f : Nat → Option β} {width x s : Nat} (h : s < width) : (shr width x s >>= f) = f (x >>> s) := by
  rw [shr_of_lt h, bind_some']
theorem div_bind {β} {f : Nat → Option β} {a b : Nat} (h : b ≠ 0) : (div a b >>= f) = f (a / b) := by
  rw [div_of_ne h, bind_some']
theorem dbgP_bind {β} {p : Prop} [Decidable p] {f : Unit → Option β} (h : p) : (dbgP p >>= f) = f () := by
  rw [dbgP_of h, bind_some']
theorem idxF_bind {α β} {n : Nat} {a : Nat → α} {i : Nat} {f : α → Option β} (h : i < n) :
    (idxF n a i >>= f) = f (a i) := by rw [idxF_of_lt h, bind_some']
theorem ckI32_bind {β} {f : Int → Option β} {x : Int} (h : -2147483648 ≤ x ∧ x ≤ 2147483647) :
    (ckI32 x >>= f) = f x := by
  rw [ckI32_of_range h, bind_some']

theorem then_pure {α} {u : Option Unit} (h : u = some ()) (v : α) : (do u; pure v) = some v := by
  rw [h, bind_some', pure_some']

/- The operators are opaque to the elaborator from here on (the unifier would otherwise try to decide
`x + 32520 < 4294967296` for a variable `x` by unfolding `Nat.ble`); proofs go through the
`…_of_…` lemmas above, evaluation (`decide +kernel`, the compiled driver) is unaffected. -/
attribute [irreducible] ck subU shl shr div dbg dbgP idxF ckI32 ckI16 ckI8

end Dds.Trap
