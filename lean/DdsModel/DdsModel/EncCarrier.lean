/-
C12, last clause: "the encoded bytes do not depend on which of the 12 colour formats … carried the same pixel values".

The conversion chain between the `ImageView` and the stored codes, for every encodable non-BC format and every one of
the 12 colour formats (`Channels` × `Precision`), as the code computes it:

* `EncoderSet::pick_encoder` (`Quant.pickEncoder` over the pinned `Quant.encoderTable`) chooses between
  - `Encoder::copy(color)` → `copy_directly` (src/encode/encoder.rs): the pixel's bytes as they are,
  - the integer encoders: `color_convert!(target[, snorm])` → `simple_color_convert`, and the hand-written
    `process_line`s of B8G8R8_UNORM / B8G8R8A8_UNORM / B8G8R8X8_UNORM (src/encode/uncompressed.rs):
    `convert_channels` to the target channels (src/color/mod.rs, `ch.rs`), then `p.swap(0, 2)`, `p[3] = 0xFF`,
    `s8::from_n8` / `s16::from_n16` per element,
  - `universal!` / `universal_subsample!` / `bi_planar_universal`: `as_rgba_f32` (src/color/mod.rs:
    `n8::f32` / `n16::f32` per channel, then `ch::*_to_rgba` with the `f32` defaults `ZERO = 0.0`, `ONE = 1.0`),
    then the format's closure on `[f32; 4]` pixels;
* the closures operator by operator on binary32 bit patterns (`ConvF32.lean`) wherever a bit-level quantiser exists:
  `n1 … n16::from_f32`, `s8::from_uf32` (`EncTotal.QuantBits`, `QuantF32`), `s16::from_uf32` (binary64,
  `EncTotal64`), `rgb9995f::from_f32` (`EncTotal.SharedExp`), `(p0 + p1) * 0.5` of R8G8_B8G8.  The scalar functions
  that have NO bit-level model (`fp16 / fp11 / fp10::from_f32`, `xr10::from_f32`, `yuv8 / yuv10 / yuv16::from_rgb_f32`)
  are PARAMETERS (`Ext`): the theorems hold for every choice of them, i.e. for these fields carrier independence is
  stated at the level "the same `f32` pixel reaches the closure, whatever the closure computes".

A pixel is the tuple of numbers its channels hold (`Pix`): U8 `0 … 255`, U16 `0 … 65535`, F32 the bit pattern.
Stored codes are the elements of the closure's `Out` type in memory order (`[u8; 3]` → 3 elements, `u16` → 1,
`[f32; 4]` → 4 …); the bytes are their little-endian images (`cast::ToLe::to_le`, `cast::as_bytes`; `copy_directly`
writes the native = little-endian bytes of the same numbers), a function of the element list and the format's
element width alone (`bytesOf`).

Model files import only core and other model files.
-/
import DdsModel.Conv
import DdsModel.Quant
import DdsModel.QuantF32
import DdsModel.EncTotal64
namespace Dds.EncCarrier
open Dds.CF32 Dds.Quant Dds.EncTotal

/-! ### pixels of an `ImageView` -/

/-- one pixel in one of the four `Channels` layouts: the numbers its channels hold -/
inductive Pix
  | gray (g : Nat)
  | alpha (a : Nat)
  | rgb (r g b : Nat)
  | rgba (r g b a : Nat)
  deriving Repr, DecidableEq, Inhabited

def Pix.chan : Pix → Chan
  | .gray _ => .gray | .alpha _ => .alpha | .rgb .. => .rgb | .rgba .. => .rgba

/-- the channel values in memory order -/
def Pix.vals : Pix → List Nat
  | .gray g => [g] | .alpha a => [a] | .rgb r g b => [r, g, b] | .rgba r g b a => [r, g, b, a]

/-- the same pixel with every channel value mapped (`from.map(|c| to_f32(…))`) -/
def Pix.map (f : Nat → Nat) : Pix → Pix
  | .gray g => .gray (f g) | .alpha a => .alpha (f a)
  | .rgb r g b => .rgb (f r) (f g) (f b) | .rgba r g b a => .rgba (f r) (f g) (f b) (f a)

/-- every channel value is below `n` -/
def Pix.below (n : Nat) : Pix → Prop
  | .gray g => g < n | .alpha a => a < n
  | .rgb r g b => r < n ∧ g < n ∧ b < n | .rgba r g b a => r < n ∧ g < n ∧ b < n ∧ a < n

/-! ### `Norm` and `convert_channels` (src/color/mod.rs, src/color/ch.rs) -/

/-- `Norm::ONE`: `u8::MAX`, `u16::MAX`, `1.0_f32` -/
def normOne : Prec → Nat
  | .u8 => 255 | .u16 => 65535 | .f32 => CF32.one
/-- `Norm::ZERO`: `0`, `0`, `0.0_f32` (bit pattern 0) -/
def normZero : Prec → Nat := fun _ => 0

/-- `convert_channels::<P>(from, to, …)` for one pixel: the 16-way `match (from, to)`;
`fill(ONE)` / `fill(ZERO)` for the pairs without a common channel, `ch::*` otherwise -/
def convertChannels (p : Prec) (to : Chan) (px : Pix) : Pix :=
  let one := normOne p
  let z := normZero p
  match px, to with
  | .gray g, .gray => .gray g
  | .alpha a, .alpha => .alpha a
  | .rgb r g b, .rgb => .rgb r g b
  | .rgba r g b a, .rgba => .rgba r g b a
  | .gray _, .alpha => .alpha one                 -- (Grayscale, Alpha) => fill(ONE)
  | .rgb .., .alpha => .alpha one                 -- (Rgb, Alpha) => fill(ONE)
  | .alpha _, .gray => .gray z                 -- (Alpha, Grayscale) => fill(ZERO)
  | .alpha _, .rgb => .rgb z z z         -- (Alpha, Rgb) => fill(ZERO)
  | .gray g, .rgb => .rgb g g g                   -- grayscale_to_rgb
  | .gray g, .rgba => .rgba g g g one             -- grayscale_to_rgba
  | .alpha a, .rgba => .rgba z z z a     -- alpha_to_rgba
  | .rgb r _ _, .gray => .gray r                  -- rgb_to_grayscale
  | .rgb r g b, .rgba => .rgba r g b one          -- rgb_to_rgba
  | .rgba r _ _ _, .gray => .gray r               -- rgba_to_grayscale
  | .rgba _ _ _ a, .alpha => .alpha a             -- rgba_to_alpha
  | .rgba r g b _, .rgb => .rgb r g b             -- rgba_to_rgb

/-! ### `as_rgba_f32` -/

/-- an RGBA `f32` pixel: four binary32 bit patterns -/
structure Rgba where
  r : Nat
  g : Nat
  b : Nat
  a : Nat
  deriving Repr, DecidableEq, Inhabited

/-- `ch::grayscale_to_rgba`, `ch::alpha_to_rgba`, `ch::rgb_to_rgba`, identity — at `f32` -/
def toRgba (px : Pix) : Rgba :=
  match convertChannels .f32 .rgba px with
  | .rgba r g b a => ⟨r, g, b, a⟩
  | _ => ⟨0, 0, 0, 0⟩          -- not reached: the target is `Rgba`

/-- `n8::f32`, `n16::f32`, identity -/
def toF32 : Prec → Nat → Nat
  | .u8 => Conv.n8f32 | .u16 => Conv.n16f32 | .f32 => id

/-- `as_rgba_f32(color, …)` for one pixel.  U8 / U16: `convert_t_to_rgba_f32` = `from.map(to_f32)` followed by the
`ch::*_to_rgba::<f32>` function; F32: `convert_channels::<f32>(channels, Rgba, …)` (for `RGBA_F32` the buffer is used
as it is when it can be cast, which is the same values). -/
def asRgbaF32 (p : Prec) (px : Pix) : Rgba := toRgba (px.map (toF32 p))

/-! ### the integer encoders -/

/-- the target channels and the fix-ups of the format's integer encoder (`color_convert!(target)` or a hand-written
`process_line`): `(target, swap R/B, X := 0xFF)`; `none`: the format has no integer encoder -/
def intLayout (name : String) : Option (Chan × Bool × Bool) :=
  match name with
  | "R8G8B8_UNORM" => some (.rgb, false, false)         -- color_convert!(ColorFormat::RGB_U8)
  | "B8G8R8_UNORM" => some (.rgb, true, false)          -- convert_channels::<u8>(…, Rgb); p.swap(0, 2)
  | "R8G8B8A8_UNORM" => some (.rgba, false, false)      -- color_convert!(ColorFormat::RGBA_U8)
  | "R8G8B8A8_SNORM" => some (.rgba, false, false)      -- color_convert!(ColorFormat::RGBA_U8, snorm = true)
  | "B8G8R8A8_UNORM" => some (.rgba, true, false)       -- convert_channels::<u8>(…, Rgba); p.swap(0, 2)
  | "B8G8R8X8_UNORM" => some (.rgba, true, true)        -- …; p.swap(0, 2); p[3] = 0xFF
  | "R8_UNORM" | "R8_SNORM" => some (.gray, false, false)  -- color_convert!(ColorFormat::GRAYSCALE_U8[, snorm = true])
  | "A8_UNORM" => some (.alpha, false, false)           -- color_convert!(ColorFormat::ALPHA_U8)
  | "R16_UNORM" | "R16_SNORM" => some (.gray, false, false)  -- color_convert!(ColorFormat::GRAYSCALE_U16[, snorm = true])
  | "R16G16B16A16_UNORM" | "R16G16B16A16_SNORM" => some (.rgba, false, false)  -- color_convert!(ColorFormat::RGBA_U16[, …])
  | "R32_FLOAT" => some (.gray, false, false)           -- color_convert!(ColorFormat::GRAYSCALE_F32)
  | "R32G32B32_FLOAT" => some (.rgb, false, false)      -- color_convert!(ColorFormat::RGB_F32)
  | "R32G32B32A32_FLOAT" => some (.rgba, false, false)  -- color_convert!(ColorFormat::RGBA_F32)
  | _ => none

/-- `p.swap(0, 2)` on the elements of one pixel -/
def swapRB : List Nat → List Nat
  | r :: g :: b :: rest => b :: g :: r :: rest
  | l => l
/-- `p[3] = 0xFF` -/
def setX8 : List Nat → List Nat
  | r :: g :: b :: _ :: rest => r :: g :: b :: 0xFF :: rest
  | l => l

/-- `s8::from_n8` / `s16::from_n16` (`Quant.s8_from_n8`, `Quant.s16_from_n16`; F32: `unreachable!()`, never
requested by the table) -/
def snormOf : Prec → Nat → Nat
  | .u8 => s8_from_n8 | .u16 => s16_from_n16 | .f32 => id

/-- the stored elements of one pixel through the integer encoder -/
def convCodes (p : Prec) (t : Chan) (swap x8 snorm : Bool) (px : Pix) : List Nat :=
  let l := (convertChannels p t px).vals
  let l := if swap then swapRB l else l
  let l := if x8 then setX8 l else l
  if snorm then l.map (snormOf p) else l

/-! ### the `universal!` closures -/

/-- the scalar conversions of src/color/formats.rs that have no bit-level model: arbitrary functions of binary32 bit
patterns; `tie` is the zero-sign choice of `f32::max` in `rgb9995f::from_f32` (`EncTotal.SharedExp`) -/
structure Ext where
  /-- `fp16::from_f32` -/
  fp16 : Nat → Nat
  /-- `fp11::from_f32` -/
  fp11 : Nat → Nat
  /-- `fp10::from_f32` -/
  fp10 : Nat → Nat
  /-- `xr10::from_f32` -/
  xr10 : Nat → Nat
  /-- `yuv8::from_rgb_f32`: `[y, u, v]` -/
  yuv8 : Nat → Nat → Nat → Nat × Nat × Nat
  /-- `yuv10::from_rgb_f32` -/
  yuv10 : Nat → Nat → Nat → Nat × Nat × Nat
  /-- `yuv16::from_rgb_f32` -/
  yuv16 : Nat → Nat → Nat → Nat × Nat × Nat
  tie : Nat → Bool

/-- `[f(a), f(b), …]` for a quantiser that can panic (`from_norm`'s `debug_assert!` / `+ 1` overflow) -/
def mapO (f : Nat → Option Nat) : List Nat → Option (List Nat)
  | [] => some []
  | x :: rest =>
    match f x, mapO f rest with
    | some y, some ys => some (y :: ys)
    | _, _ => none

/-- `x << s` in `u32` -/
def shl32 (x s : Nat) : Nat := QuantBits.shl 32 x s

/-- the closure of `universal!(Out, …)` of a plain (one pixel → one `Out`) format on an RGBA `f32` pixel: the
elements of `Out` in memory order; `none` = a panic of the overflow-checking profile (never, C15) or not such a
format.  `adopt_gray` reads `ch::rgba_to_grayscale(rgba)[0]` = `r`. -/
def uni (Q : Ext) (name : String) (p : Rgba) : Option (List Nat) :=
  let n8 := QuantF32.n8
  let n16 := QuantF32.n16
  let s8 := QuantBits.s8
  let s16 := QuantBits.s16
  let n2 := QuantBits.n2
  match name with
  | "R8G8B8_UNORM" => some [n8 p.r, n8 p.g, n8 p.b]             -- |[r, g, b, _]| [r, g, b].map(n8::from_f32)
  | "B8G8R8_UNORM" => some [n8 p.b, n8 p.g, n8 p.r]             -- |[r, g, b, _]| [b, g, r].map(n8::from_f32)
  | "R8G8B8A8_UNORM" => some [n8 p.r, n8 p.g, n8 p.b, n8 p.a]   -- rgba = n8::from_f32
  | "R8G8B8A8_SNORM" => mapO s8 [p.r, p.g, p.b, p.a]            -- rgba = s8::from_uf32
  | "B8G8R8A8_UNORM" => some [n8 p.b, n8 p.g, n8 p.r, n8 p.a]   -- |[r, g, b, a]| [b, g, r, a].map(n8::from_f32)
  | "B8G8R8X8_UNORM" => some [n8 p.b, n8 p.g, n8 p.r, 0xFF]
  | "B5G6R5_UNORM" | "B5G5R5A1_UNORM" | "B4G4R4A4_UNORM" | "A4B4G4R4_UNORM" | "R10G10B10A2_UNORM" =>
    (QuantBits.encode name p.r p.g p.b p.a).map fun w => [w]    -- one `u16` / `u32`
  | "R8_UNORM" => some [n8 p.r]                                 -- gray = n8::from_f32
  | "R8_SNORM" => mapO s8 [p.r]
  | "R8G8_UNORM" => some [n8 p.r, n8 p.g]                       -- rg = n8::from_f32
  | "R8G8_SNORM" => mapO s8 [p.r, p.g]
  | "A8_UNORM" => some [n8 p.a]                                 -- |[_, _, _, a]| n8::from_f32(a)
  | "R16_UNORM" => some [n16 p.r]
  | "R16_SNORM" => mapO s16 [p.r]
  | "R16G16_UNORM" => some [n16 p.r, n16 p.g]
  | "R16G16_SNORM" => mapO s16 [p.r, p.g]
  | "R16G16B16A16_UNORM" => some [n16 p.r, n16 p.g, n16 p.b, n16 p.a]
  | "R16G16B16A16_SNORM" => mapO s16 [p.r, p.g, p.b, p.a]
  | "R11G11B10_FLOAT" =>                                        -- (b10 << 22) | (g11 << 11) | r11
    some [shl32 (Q.fp10 p.b) 22 ||| shl32 (Q.fp11 p.g) 11 ||| Q.fp11 p.r]
  | "R9G9B9E5_SHAREDEXP" => (SharedExp.fromF32 Q.tie p.r p.g p.b).map fun w => [w]
  | "R16_FLOAT" => some [Q.fp16 p.r]
  | "R16G16_FLOAT" => some [Q.fp16 p.r, Q.fp16 p.g]
  | "R16G16B16A16_FLOAT" => some [Q.fp16 p.r, Q.fp16 p.g, Q.fp16 p.b, Q.fp16 p.a]
  | "R32_FLOAT" => some [p.r]                                   -- gray = |r| r
  | "R32G32_FLOAT" => some [p.r, p.g]
  | "R32G32B32_FLOAT" => some [p.r, p.g, p.b]
  | "R32G32B32A32_FLOAT" => some [p.r, p.g, p.b, p.a]
  | "R10G10B10_XR_BIAS_A2_UNORM" =>                             -- (a << 30) | (b << 20) | (g << 10) | r
    some [shl32 (n2 p.a) 30 ||| shl32 (Q.xr10 p.b) 20 ||| shl32 (Q.xr10 p.g) 10 ||| Q.xr10 p.r]
  | "AYUV" => let (y, u, v) := Q.yuv8 p.r p.g p.b; some [v, u, y, n8 p.a]
  | "Y410" =>                                                   -- (a << 30) | (v << 20) | (y << 10) | u
    let (y, u, v) := Q.yuv10 p.r p.g p.b
    some [shl32 (n2 p.a) 30 ||| shl32 v 20 ||| shl32 y 10 ||| u]
  | "Y416" => let (y, u, v) := Q.yuv16 p.r p.g p.b; some [u, y, v, n16 p.a]
  | _ => none

/-- `pick_mid`: `((a + b) / 2)` in the next wider integer type -/
def pickMid (a b : Nat) : Nat := (a + b) / 2

/-- `to_rgbg`: `[r, g0, b, g1]` with `r = n8::from_f32((p0[0] + p1[0]) * 0.5)` -/
def toRgbg (p0 p1 : Rgba) : List Nat :=
  let n8 := QuantF32.n8
  [n8 (fmul (fadd p0.r p1.r) CF32.half), n8 p0.g, n8 (fmul (fadd p0.b p1.b) CF32.half), n8 p1.g]

/-- `to_yuy2` / `to_y216`: `[y0, u, y1, v]` -/
def toYuy2 (yuv : Nat → Nat → Nat → Nat × Nat × Nat) (p0 p1 : Rgba) : List Nat :=
  let (y0, u0, v0) := yuv p0.r p0.g p0.b
  let (y1, u1, v1) := yuv p1.r p1.g p1.b
  [y0, pickMid u0 u1, y1, pickMid v0 v1]

/-- `process_subsample`: the last partial block is filled up with its last pixel -/
def padBlock (bw : Nat) (ps : List Rgba) : List Rgba :=
  match ps.getLast? with
  | some l => ps ++ List.replicate (bw - ps.length) l
  | none => ps

/-- R1_UNORM: `out |= n1::from_f32(ch::rgba_to_grayscale(p)[0]) << (7 - i)` over the 8 pixels of a block -/
def r1Byte (ps : List Rgba) : Nat :=
  (List.range 8).foldl (fun out i => out ||| (QuantBits.n1 (ps.getD i default).r <<< (7 - i))) 0

/-- the macro-pixel closures of NV12 / P010 / P016: the four luma codes, then `[u, v]` = the sums of the four
chroma codes `/ 4`; `post` is the `<< 6` of P010 (identity otherwise) -/
def biPlanar (yuv : Nat → Nat → Nat → Nat × Nat × Nat) (post : Nat → Nat) (ps : List Rgba) : List Nat :=
  let c := ps.map fun p => yuv p.r p.g p.b
  c.map (fun t => post t.1) ++ [post ((c.map (·.2.1)).sum / 4), post ((c.map (·.2.2)).sum / 4)]

/-- block width (pixels per encoded unit): 2x1, 8x1 sub-sampled formats, 2x2 bi-planar (4 pixels, row-major) -/
def blockPixels (name : String) : Nat :=
  match name with
  | "R1_UNORM" => 8
  | "R8G8_B8G8_UNORM" | "G8R8_G8B8_UNORM" | "UYVY" | "YUY2" | "Y210" | "Y216" => 2
  | "NV12" | "P010" | "P016" => 4
  | _ => 1

/-- the closures of `universal_subsample!` (src/encode/sub_sampled.rs) and `bi_planar_universal`
(src/encode/bi_planar.rs) on the RGBA `f32` pixels of one block: the stored elements (bi-planar: the four plane-1
elements, then the plane-2 pair) -/
def uniBlock (Q : Ext) (name : String) (ps : List Rgba) : Option (List Nat) :=
  match name, padBlock (blockPixels name) ps with
  | "R8G8_B8G8_UNORM", [p0, p1] => some (toRgbg p0 p1)
  | "G8R8_G8B8_UNORM", [p0, p1] =>
    match toRgbg p0 p1 with
    | [r, g0, b, g1] => some [g0, r, g1, b]
    | _ => none
  | "YUY2", [p0, p1] => some (toYuy2 Q.yuv8 p0 p1)
  | "UYVY", [p0, p1] =>
    match toYuy2 Q.yuv8 p0 p1 with
    | [y0, u, y1, v] => some [u, y0, v, y1]
    | _ => none
  | "Y216", [p0, p1] => some (toYuy2 Q.yuv16 p0 p1)
  | "Y210", [p0, p1] => some ((toYuy2 Q.yuv16 p0 p1).map (· &&& 0xFFC0))
  | "R1_UNORM", [q0, q1, q2, q3, q4, q5, q6, q7] => some [r1Byte [q0, q1, q2, q3, q4, q5, q6, q7]]
  | "NV12", [q0, q1, q2, q3] => some (biPlanar Q.yuv8 id [q0, q1, q2, q3])
  | "P010", [q0, q1, q2, q3] => some (biPlanar Q.yuv10 (QuantBits.shl 16 · 6) [q0, q1, q2, q3])
  | "P016", [q0, q1, q2, q3] => some (biPlanar Q.yuv16 id [q0, q1, q2, q3])
  | _, _ => none

/-! ### which encoder runs: `pick_encoder` -/

/-- the encoder `EncoderSet::encode` runs for a colour format, resolved to what it does to a pixel -/
inductive Path
  /-- `Encoder::copy`: `copy_directly` -/
  | copy
  /-- integer encoder: `convert_channels` to `t`, then `swap(0, 2)`, `p[3] = 0xFF`, SNORM -/
  | conv (t : Chan) (swap x8 snorm : Bool)
  /-- `universal!`: `as_rgba_f32`, then the closure -/
  | uni
  /-- `pick_encoder` would panic, or picked a dithering encoder without dithering (excluded: `C12.pick_encoder_exact`) -/
  | bad
  deriving Repr, DecidableEq, Inhabited

/-- `pick_encoder(color, Dithering::None)` over the pinned table of the format -/
def pathOf (name : String) (c : Color) : Path :=
  match pickEncoder (encoderTable name) c with
  | none => .bad
  | some e =>
    match e.kind with
    | .copy _ => .copy
    | .convert _ snorm =>
      match intLayout name with
      | some (t, swap, x8) => .conv t swap x8 snorm
      | none => .bad
    | .universal => .uni
    | .dither => .bad

/-- the stored elements of one pixel along a path -/
def codesVia (Q : Ext) (name : String) (p : Prec) (path : Path) (px : Pix) : Option (List Nat) :=
  match path with
  | .copy => some px.vals
  | .conv t swap x8 snorm => some (convCodes p t swap x8 snorm px)
  | .uni => uni Q name (asRgbaF32 p px)
  | .bad => none

/-- `dds::encode` of a plain format, one pixel: the stored elements of the pixel `px` of an image whose colour format
is (`px.chan`, `p`) -/
def pixelCodes (Q : Ext) (name : String) (p : Prec) (px : Pix) : Option (List Nat) :=
  codesVia Q name p (pathOf name ⟨px.chan, p⟩) px

/-- the same for one block of a sub-sampled / bi-planar format: the pixels of the block (all in the channel layout
`ch` of the image) go through `as_rgba_f32`, then the block closure; these formats have universal encoders only -/
def blockCodes (Q : Ext) (name : String) (p : Prec) (ch : Chan) (pxs : List Pix) : Option (List Nat) :=
  match pathOf name ⟨ch, p⟩ with
  | .uni => uniBlock Q name (pxs.map (asRgbaF32 p))
  | _ => none

/-! ### bytes -/

/-- bytes of one stored element: `size_of` the element type of `Out` -/
def elemBytes (name : String) : Nat :=
  match name with
  | "R8G8B8_UNORM" | "B8G8R8_UNORM" | "R8G8B8A8_UNORM" | "R8G8B8A8_SNORM" | "B8G8R8A8_UNORM" | "B8G8R8X8_UNORM"
  | "R8_SNORM" | "R8_UNORM" | "R8G8_UNORM" | "R8G8_SNORM" | "A8_UNORM" | "AYUV"
  | "R1_UNORM" | "R8G8_B8G8_UNORM" | "G8R8_G8B8_UNORM" | "UYVY" | "YUY2" | "NV12" => 1
  | "B5G6R5_UNORM" | "B5G5R5A1_UNORM" | "B4G4R4A4_UNORM" | "A4B4G4R4_UNORM" | "R16_UNORM" | "R16_SNORM"
  | "R16G16_UNORM" | "R16G16_SNORM" | "R16G16B16A16_UNORM" | "R16G16B16A16_SNORM" | "R16_FLOAT" | "R16G16_FLOAT"
  | "R16G16B16A16_FLOAT" | "Y416" | "Y210" | "Y216" | "P010" | "P016" => 2
  | _ => 4

/-- little-endian bytes of an element -/
def leBytes : Nat → Nat → List Nat
  | 0, _ => []
  | n + 1, x => x % 256 :: leBytes n (x / 256)

/-- the bytes written for a list of stored elements -/
def bytesOf (name : String) (codes : List Nat) : List Nat := codes.flatMap (leBytes (elemBytes name))

/-- encoded bytes of one pixel of a plain format -/
def pixelBytes (Q : Ext) (name : String) (p : Prec) (px : Pix) : Option (List Nat) :=
  (pixelCodes Q name p px).map (bytesOf name)

/-- encoded bytes of one block of a sub-sampled / bi-planar format -/
def blockBytes (Q : Ext) (name : String) (p : Prec) (ch : Chan) (pxs : List Pix) : Option (List Nat) :=
  (blockCodes Q name p ch pxs).map (bytesOf name)

/-! ### the formats whose whole chain is bit-level -/

/-- an instance of the parameters: every unmodelled conversion is constant 0.  Used to EVALUATE the model on the
formats of `bitLevelNames`, whose closures consult no field of `Ext` except `tie` (irrelevant: C15
`shared_exp_zero_sign_irrelevant`) — the `carrier` case lines of the tie and the examples of Theorems/C12. -/
def extZero : Ext := ⟨fun _ => 0, fun _ => 0, fun _ => 0, fun _ => 0, fun _ _ _ => (0, 0, 0), fun _ _ _ => (0, 0, 0),
  fun _ _ _ => (0, 0, 0), fun _ => false⟩

/-- the formats whose conversion chain is modelled at the bit level from the `ImageView` to the bytes: UNORM / SNORM /
packed / binary32 / shared-exponent plain formats, R1_UNORM and the two RGBG formats -/
def bitLevelNames : List String :=
  ["R8G8B8_UNORM", "B8G8R8_UNORM", "R8G8B8A8_UNORM", "R8G8B8A8_SNORM", "B8G8R8A8_UNORM", "B8G8R8X8_UNORM",
   "B5G6R5_UNORM", "B5G5R5A1_UNORM", "B4G4R4A4_UNORM", "A4B4G4R4_UNORM", "R8_SNORM", "R8_UNORM", "R8G8_UNORM",
   "R8G8_SNORM", "A8_UNORM", "R16_UNORM", "R16_SNORM", "R16G16_UNORM", "R16G16_SNORM", "R16G16B16A16_UNORM",
   "R16G16B16A16_SNORM", "R10G10B10A2_UNORM", "R9G9B9E5_SHAREDEXP", "R32_FLOAT", "R32G32_FLOAT", "R32G32B32_FLOAT",
   "R32G32B32A32_FLOAT", "R1_UNORM", "R8G8_B8G8_UNORM", "G8R8_G8B8_UNORM"]

/-- the pixels of one row in blocks of `bw` (the last one may be short: `uniBlock` pads it) -/
def chunksOf (bw : Nat) : (fuel : Nat) → List Pix → List (List Pix)
  | 0, _ => []
  | fuel + 1, l => if l.isEmpty then [] else l.take bw :: chunksOf bw fuel (l.drop bw)

/-- the bytes of one row of pixels in the colour format (`ch`, `p`) -/
def rowBytes (Q : Ext) (name : String) (p : Prec) (ch : Chan) (row : List Pix) : Option (List Nat) :=
  let bw := blockPixels name
  let parts :=
    if bw = 1 then row.map (pixelBytes Q name p)
    else (chunksOf bw row.length row).map (blockBytes Q name p ch)
  parts.foldr (fun x acc => match x, acc with | some a, some b => some (a ++ b) | _, _ => none) (some [])

/-! ### the format lists -/

/-- the 35 plain formats (one pixel → one stored unit) -/
def plainNames : List String := formatNames.take 35
/-- the 7 sub-sampled and 3 bi-planar formats -/
def blockNames : List String := formatNames.drop 35

end Dds.EncCarrier
