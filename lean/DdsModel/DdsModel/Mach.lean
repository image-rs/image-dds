/-
Machine arithmetic used by all models.

Values are `Nat`; every Rust operator of the source is modelled by one of
* `ck*`  : `checked_*`            → `Option`
* `w*`   : the plain operator in the release profile (wrapping modulo 2^n)
and the theorems show that the ideal (unbounded) result is below the bound, so
that the release result equals the ideal one and the overflow-checking profile
does not trap.
-/
namespace Dds

def U8  : Nat := 256
def U16 : Nat := 65536
def U32 : Nat := 4294967296
def U64 : Nat := 18446744073709551616
def I64MAX : Nat := 9223372036854775807

/-- `u64::checked_mul` -/
def ckMul (a b : Nat) : Option Nat := if a * b < U64 then some (a * b) else none
/-- `u64::checked_add` -/
def ckAdd (a b : Nat) : Option Nat := if a + b < U64 then some (a + b) else none
/-- `u64::checked_sub` -/
def ckSub (a b : Nat) : Option Nat := if b ≤ a then some (a - b) else none
/-- `u32::checked_mul` -/
def ckMul32 (a b : Nat) : Option Nat := if a * b < U32 then some (a * b) else none
/-- plain `*` on `u64`, release profile -/
def wMul (a b : Nat) : Nat := (a * b) % U64
/-- plain `+` on `u64`, release profile -/
def wAdd (a b : Nat) : Nat := (a + b) % U64
/-- plain `-` on `u64`, release profile -/
def wSub (a b : Nat) : Nat := (a + U64 - b % U64) % U64
/-- `u32::div_ceil` / `usize::div_ceil` as implemented in `core` (no overflow) -/
def divCeil (a b : Nat) : Nat := if a % b > 0 then a / b + 1 else a / b
/-- `u32::saturating_add` -/
def satAdd32 (a b : Nat) : Nat := if a + b < U32 then a + b else U32 - 1
/-- `u64::saturating_add` -/
def satAdd64 (a b : Nat) : Nat := if a + b < U64 then a + b else U64 - 1

theorem wAdd_eq {a b : Nat} (h : a + b < U64) : wAdd a b = a + b := by
  unfold wAdd; exact Nat.mod_eq_of_lt h
theorem wMul_eq {a b : Nat} (h : a * b < U64) : wMul a b = a * b := by
  unfold wMul; exact Nat.mod_eq_of_lt h
theorem wSub_eq {a b : Nat} (ha : a < U64) (h : b ≤ a) : wSub a b = a - b := by
  unfold wSub
  have hb : b < U64 := Nat.lt_of_le_of_lt h ha
  rw [Nat.mod_eq_of_lt hb]
  have : a + U64 - b = (a - b) + U64 := by omega
  rw [this, Nat.add_mod_right]
  exact Nat.mod_eq_of_lt (by omega)

theorem ckSub_eq_some_iff {a b c : Nat} : ckSub a b = some c ↔ b ≤ a ∧ c = a - b := by
  unfold ckSub
  split <;> simp [*, eq_comm]

theorem divCeil_eq (a b : Nat) (hb : 0 < b) : divCeil a b = (a + b - 1) / b := by
  unfold divCeil
  have h1 := Nat.div_add_mod a b
  by_cases h : a % b > 0
  · simp only [h, if_true]
    have : a + b - 1 = (a % b - 1) + (a / b + 1) * b := by
      rw [Nat.add_mul, Nat.one_mul, Nat.mul_comm]; omega
    rw [this, Nat.add_mul_div_right _ _ hb]
    have : (a % b - 1) / b = 0 := Nat.div_eq_of_lt (by have := Nat.mod_lt a hb; omega)
    omega
  · simp only [h, if_false]
    have h0 : a % b = 0 := by omega
    have : a + b - 1 = (b - 1) + (a / b) * b := by
      rw [Nat.mul_comm]; omega
    rw [this, Nat.add_mul_div_right _ _ hb]
    have : (b - 1) / b = 0 := Nat.div_eq_of_lt (by omega)
    omega

theorem divCeil_spec (a b : Nat) (hb : 0 < b) :
    a ≤ divCeil a b * b ∧ (divCeil a b - 1) * b < a + (if a = 0 then 1 else 0) := by
  unfold divCeil
  have h1 := Nat.div_add_mod a b
  have h2 := Nat.mod_lt a hb
  by_cases h : a % b > 0
  · simp only [h, if_true]
    have hne : a ≠ 0 := by intro h0; simp [h0] at h
    simp only [hne, if_false, Nat.add_sub_cancel, Nat.add_zero]
    constructor
    · rw [Nat.add_mul, Nat.one_mul, Nat.mul_comm]; omega
    · rw [Nat.mul_comm]; omega
  · simp only [h, if_false]
    have h0 : a % b = 0 := by omega
    constructor
    · rw [Nat.mul_comm]; omega
    · by_cases ha : a = 0
      · simp [ha]
      · simp only [ha, if_false, Nat.add_zero]
        have hpos : 0 < a / b := by
          apply Nat.pos_of_ne_zero; intro hz; rw [hz] at h1; omega
        have : (a / b - 1) * b = b * (a / b) - b := by
          rw [Nat.sub_mul, Nat.one_mul, Nat.mul_comm]
        rw [this]
        have : b ≤ b * (a / b) := Nat.le_mul_of_pos_right b hpos
        omega

end Dds
