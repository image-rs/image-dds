/-
Implementation-shaped model of the BC6H block decoder `src/decode/bc6.rs` (decode_bc6_block and
everything it calls) plus the half -> f32 / u16 / u8 conversions of `src/color/formats.rs`
(`fp16::{f32,n16,n8}`, `bc6h_uf16::{f32,n16,n8}`) that the BC6H outputs go through.

`i32` values are `Int`; every `+`, `*`, `<<`, unary `-` of the code is followed by `wrap32`
(release semantics); no wrap changes a value on the decode path (so the overflow-checking build does not trap)
except in `sign_extend`, whose `<<` is meant to discard bits: `Theorems/C03x.lean` for unquantize, the palette and
`finish_unquantize`, `Proofs/Bc6GlueArith.lean` for the masks of the endpoint extraction.
The `f32` arithmetic of the integer conversions is modelled exactly: every product / sum is a dyadic
rational `n * 2^e` rounded to 24 significant bits, ties to even (`rnd24`), which is IEEE binary32
arithmetic as long as no overflow / subnormal occurs (the operands here lie in [2^-25, 2^32)):
`Proofs/BcHalf.lean` proves `fp16N8`, `fp16N16` equal, for every argument, to the same conversions written
on the bit-level binary32 of `ConvF32.lean` (`Conv.smallN8`, `Conv.smallN16`).
-/
import DdsModel.Mach
import DdsModel.BcTables
import DdsModel.Bc7
namespace Dds.Bc6
open Dds.BcTables

/-! ### machine integers -/

def wrap32 (x : Int) : Int := (x + 2147483648) % 4294967296 - 2147483648
/-- `i32 as u32` -/
def toU32 (x : Int) : Nat := (x % 4294967296).toNat
/-- `u32 as i32` -/
def ofU32 (n : Nat) : Int := if n < 2147483648 then (n : Int) else (n : Int) - 4294967296
/-- `i32 << s` -/
def shl32 (x : Int) (s : Nat) : Int := wrap32 (x * (2 ^ s : Nat))
/-- `i32 >> s` (arithmetic) -/
def sar32 (x : Int) (s : Nat) : Int := x / ((2 ^ s : Nat) : Int)
/-- `i32 & mask` for a non-negative mask -/
def and32 (x : Int) (mask : Nat) : Int := ofU32 (toU32 x &&& mask)

/-! ### BitStream -/

/-- `BitStream::consume_bits_32(count) -> i32` (count ≤ 31, value non-negative) -/
def consumeBits32 (count s : Nat) : Nat × Nat :=
  ((s % U32) &&& (((1 <<< count) % U32 + U32 - 1) % U32), s >>> count)

/-- `u8::reverse_bits` -/
def reverseBits8 (x : Nat) : Nat :=
  (List.range 8).foldl (fun acc i => acc ||| (((x >>> i) &&& 1) <<< (7 - i))) 0

/-- `BitStream::consume_bits_rev(count) -> u8` -/
def consumeBitsRev (count s : Nat) : Nat × Nat :=
  let bits := (s % U8) &&& Bc7.mask8 count
  (if count ≥ 2 then reverseBits8 bits >>> (8 - count) else bits, s >>> count)

/-! ### modes -/

inductive ModeTwo | M10_555 | M7_666 | M11_544 | M11_454 | M11_445 | M9_555 | M8_655 | M8_565 | M8_556 | M6_666
deriving DecidableEq, Repr
inductive ModeOne | M10_10 | M11_9 | M12_8 | M16_4
deriving DecidableEq, Repr
inductive Mode | one (m : ModeOne) | two (m : ModeTwo) | invalid
deriving DecidableEq, Repr

def ModeTwo.a0BitCount : ModeTwo → Nat
  | .M10_555 => 10 | .M7_666 => 7 | .M11_544 => 11 | .M11_454 => 11 | .M11_445 => 11
  | .M9_555 => 9 | .M8_655 => 8 | .M8_565 => 8 | .M8_556 => 8 | .M6_666 => 6
def ModeTwo.deltaBitCount : ModeTwo → Nat × Nat × Nat
  | .M10_555 => (5, 5, 5) | .M7_666 => (6, 6, 6) | .M11_544 => (5, 4, 4) | .M11_454 => (4, 5, 4)
  | .M11_445 => (4, 4, 5) | .M9_555 => (5, 5, 5) | .M8_655 => (6, 5, 5) | .M8_565 => (5, 6, 5)
  | .M8_556 => (5, 5, 6) | .M6_666 => (6, 6, 6)
def ModeTwo.transformed (m : ModeTwo) : Bool := m ≠ .M6_666
def ModeOne.a0BitCount : ModeOne → Nat
  | .M10_10 => 10 | .M11_9 => 11 | .M12_8 => 12 | .M16_4 => 16
def ModeOne.b0BitCount (m : ModeOne) : Nat := 20 - m.a0BitCount
def ModeOne.transformed (m : ModeOne) : Bool := m ≠ .M10_10

/-- `extract_mode` -/
def extractMode (s : Nat) : Mode × Nat :=
  let low2 := Bc7.consumeBits 2 s
  if low2.1 = 0 then (.two .M10_555, low2.2)
  else if low2.1 = 1 then (.two .M7_666, low2.2)
  else if low2.1 = 2 then
    let high3 := Bc7.consumeBits 3 low2.2
    let bits := ((high3.1 <<< 2) % U8) ||| 2
    (.two (if bits = 2 then .M11_544 else if bits = 6 then .M11_454 else if bits = 10 then .M11_445
      else if bits = 14 then .M9_555 else if bits = 18 then .M8_655 else if bits = 22 then .M8_565
      else if bits = 26 then .M8_556 else .M6_666), high3.2)
  else
    let high3 := Bc7.consumeBits 3 low2.2
    if high3.1 &&& 4 ≠ 0 then (.invalid, high3.2)
    else
      let high2 := high3.1 &&& 3
      (.one (if high2 = 0 then .M10_10 else if high2 = 1 then .M11_9 else if high2 = 2 then .M12_8 else .M16_4),
       high3.2)

/-! ### compressed endpoints.  Colours are `[r, g, b]`; an endpoint set is `[w, x, y, z]` -/

/-- one `consume!` invocation: channel (0 r, 1 g, 2 b), endpoint (0 w, 1 x, 2 y, 3 z), and either a single
bit index `consume!(c, e, k)` (`range = false`) or a range `consume!(c, e, hi..0)` -/
structure Op where
  chan : Nat
  ep : Nat
  bit : Nat        -- single-bit form: destination bit; range form: high bit `hi`
  range : Bool
deriving DecidableEq, Repr

def b1 (c e k : Nat) : Op := ⟨c, e, k, false⟩
def rg (c e hi : Nat) : Op := ⟨c, e, hi, true⟩

/-- the macro bodies of `extract_compressed_endpoints_two`, per mode, in source order -/
def modeTwoOps : ModeTwo → List Op
  | .M10_555 => [b1 1 2 4, b1 2 2 4, b1 2 3 4, rg 0 0 9, rg 1 0 9, rg 2 0 9, rg 0 1 4, b1 1 3 4, rg 1 2 3,
      rg 1 1 4, b1 2 3 0, rg 1 3 3, rg 2 1 4, b1 2 3 1, rg 2 2 3, rg 0 2 4, b1 2 3 2, rg 0 3 4, b1 2 3 3]
  | .M7_666 => [b1 1 2 5, b1 1 3 4, b1 1 3 5, rg 0 0 6, b1 2 3 0, b1 2 3 1, b1 2 2 4, rg 1 0 6, b1 2 2 5,
      b1 2 3 2, b1 1 2 4, rg 2 0 6, b1 2 3 3, b1 2 3 5, b1 2 3 4, rg 0 1 5, rg 1 2 3, rg 1 1 5, rg 1 3 3,
      rg 2 1 5, rg 2 2 3, rg 0 2 5, rg 0 3 5]
  | .M11_544 => [rg 0 0 9, rg 1 0 9, rg 2 0 9, rg 0 1 4, b1 0 0 10, rg 1 2 3, rg 1 1 3, b1 1 0 10, b1 2 3 0,
      rg 1 3 3, rg 2 1 3, b1 2 0 10, b1 2 3 1, rg 2 2 3, rg 0 2 4, b1 2 3 2, rg 0 3 4, b1 2 3 3]
  | .M11_454 => [rg 0 0 9, rg 1 0 9, rg 2 0 9, rg 0 1 3, b1 0 0 10, b1 1 3 4, rg 1 2 3, rg 1 1 4, b1 1 0 10,
      rg 1 3 3, rg 2 1 3, b1 2 0 10, b1 2 3 1, rg 2 2 3, rg 0 2 3, b1 2 3 0, b1 2 3 2, rg 0 3 3, b1 1 2 4,
      b1 2 3 3]
  | .M11_445 => [rg 0 0 9, rg 1 0 9, rg 2 0 9, rg 0 1 3, b1 0 0 10, b1 2 2 4, rg 1 2 3, rg 1 1 3, b1 1 0 10,
      b1 2 3 0, rg 1 3 3, rg 2 1 4, b1 2 0 10, rg 2 2 3, rg 0 2 3, b1 2 3 1, b1 2 3 2, rg 0 3 3, b1 2 3 4,
      b1 2 3 3]
  | .M9_555 => [rg 0 0 8, b1 2 2 4, rg 1 0 8, b1 1 2 4, rg 2 0 8, b1 2 3 4, rg 0 1 4, b1 1 3 4, rg 1 2 3,
      rg 1 1 4, b1 2 3 0, rg 1 3 3, rg 2 1 4, b1 2 3 1, rg 2 2 3, rg 0 2 4, b1 2 3 2, rg 0 3 4, b1 2 3 3]
  | .M8_655 => [rg 0 0 7, b1 1 3 4, b1 2 2 4, rg 1 0 7, b1 2 3 2, b1 1 2 4, rg 2 0 7, b1 2 3 3, b1 2 3 4,
      rg 0 1 5, rg 1 2 3, rg 1 1 4, b1 2 3 0, rg 1 3 3, rg 2 1 4, b1 2 3 1, rg 2 2 3, rg 0 2 5, rg 0 3 5]
  | .M8_565 => [rg 0 0 7, b1 2 3 0, b1 2 2 4, rg 1 0 7, b1 1 2 5, b1 1 2 4, rg 2 0 7, b1 1 3 5, b1 2 3 4,
      rg 0 1 4, b1 1 3 4, rg 1 2 3, rg 1 1 5, rg 1 3 3, rg 2 1 4, b1 2 3 1, rg 2 2 3, rg 0 2 4, b1 2 3 2,
      rg 0 3 4, b1 2 3 3]
  | .M8_556 => [rg 0 0 7, b1 2 3 1, b1 2 2 4, rg 1 0 7, b1 2 2 5, b1 1 2 4, rg 2 0 7, b1 2 3 5, b1 2 3 4,
      rg 0 1 4, b1 1 3 4, rg 1 2 3, rg 1 1 4, b1 2 3 0, rg 1 3 3, rg 2 1 5, rg 2 2 3, rg 0 2 4, b1 2 3 2,
      rg 0 3 4, b1 2 3 3]
  | .M6_666 => [rg 0 0 5, b1 1 3 4, b1 2 3 0, b1 2 3 1, b1 2 2 4, rg 1 0 5, b1 1 2 5, b1 2 2 5, b1 2 3 2,
      b1 1 2 4, rg 2 0 5, b1 1 3 5, b1 2 3 3, b1 2 3 5, b1 2 3 4, rg 0 1 5, rg 1 2 3, rg 1 1 5, rg 1 3 3,
      rg 2 1 5, rg 2 2 3, rg 0 2 5, rg 0 3 5]

/-- accumulators `w, x, y, z` × `r, g, b` as a flat list of 12, index `ep * 3 + chan` -/
def accGet (acc : List Nat) (e c : Nat) : Nat := acc.getD (e * 3 + c) 0
def accOr (acc : List Nat) (e c v : Nat) : List Nat := acc.set (e * 3 + c) (accGet acc e c ||| v)

/-- expansion of one `consume!` : `$i2.$i1 |= stream.consume_bits_32(1) << $index` resp.
`$i2.$i1 |= stream.consume_bits_32($high + 1)` -/
def stepOp (st : List Nat × Nat) (op : Op) : List Nat × Nat :=
  if op.range then
    let r := consumeBits32 (op.bit + 1) st.2
    (accOr st.1 op.ep op.chan r.1, r.2)
  else
    let r := consumeBits32 1 st.2
    (accOr st.1 op.ep op.chan ((r.1 <<< op.bit) % U32), r.2)

/-- `extract_compressed_endpoints_two` : 12 accumulators and the stream afterwards -/
def extractTwo (m : ModeTwo) (s : Nat) : List Nat × Nat :=
  (modeTwoOps m).foldl stepOp (List.replicate 12 0, s)

/-- `extract_compressed_endpoints_one` : accumulators `a.r a.g a.b b.r b.g b.b` -/
def extractOne (m : ModeOne) (s : Nat) : List Nat × Nat :=
  let ar := consumeBits32 10 s
  let ag := consumeBits32 10 ar.2
  let ab := consumeBits32 10 ag.2
  let bcount := 20 - m.a0BitCount
  let ext := m.a0BitCount - 10
  let br := consumeBits32 bcount ab.2
  let arx := consumeBitsRev ext br.2
  let bg := consumeBits32 bcount arx.2
  let agx := consumeBitsRev ext bg.2
  let bb := consumeBits32 bcount agx.2
  let abx := consumeBitsRev ext bb.2
  ([ar.1 ||| (arx.1 <<< 10) % U32, ag.1 ||| (agx.1 <<< 10) % U32, ab.1 ||| (abx.1 <<< 10) % U32,
    br.1, bg.1, bb.1], abx.2)

/-! ### endpoint decompression -/

/-- `sign_extend(x, bit_count)` : `(x << shift) >> shift` with `shift = 32 - bit_count` -/
def signExtend (x : Int) (bitCount : Nat) : Int :=
  let shift := 32 - bitCount
  sar32 (shl32 x shift) shift

/-- `IntColor<i32> + IntColor<i32>` (wrapping_add), then `.bit_and(mask)` -/
def addMask (a b : Int) (mask : Nat) : Int := and32 (wrap32 (a + b)) mask

/-- `(1 << a_bit_count) - 1` as `i32` -/
def maskOf (bits : Nat) : Nat := toU32 (wrap32 (shl32 1 bits - 1))

/-- `decompress_endpoints_two` on one channel `c` with delta width `d` : (w, x, y, z) -> (w, x, y, z) -/
def decompressTwoChan (m : ModeTwo) (signed : Bool) (d : Nat) (w x y z : Int) : List Int :=
  let abits := m.a0BitCount
  let w := if signed then signExtend w abits else w
  let se := m.transformed || signed
  let x := if se then signExtend x d else x
  let y := if se then signExtend y d else y
  let z := if se then signExtend z d else z
  if m.transformed then
    let mask := maskOf abits
    let x := addMask x w mask
    let y := addMask y w mask
    let z := addMask z w mask
    if signed then [w, signExtend x abits, signExtend y abits, signExtend z abits] else [w, x, y, z]
  else [w, x, y, z]

/-- `decompress_endpoints_one` on one channel : (a, b) -> (a, b) -/
def decompressOneChan (m : ModeOne) (signed : Bool) (a b : Int) : List Int :=
  let abits := m.a0BitCount
  let bbits := m.b0BitCount
  let a := if signed then signExtend a abits else a
  let b := if m.transformed || signed then signExtend b bbits else b
  if m.transformed then
    let mask := maskOf abits
    let b := addMask a b mask
    if signed then [a, signExtend b abits] else [a, b]
  else [a, b]

/-! ### unquantize / interpolate / finish -/

/-- `unquantize(component, u_bits_per_comp, format)` -/
def unquantize (component : Int) (bits : Nat) (signed : Bool) : Int :=
  if !signed then
    if bits ≥ 15 then component
    else if component = 0 then 0
    else if component = wrap32 (shl32 1 bits - 1) then 0xFFFF
    else sar32 (wrap32 (shl32 component 16 + 0x8000)) bits
  else
    if bits ≥ 16 then component
    else
      let s := component < 0
      let component := if s then wrap32 (-component) else component
      let unq :=
        if component = 0 then 0
        else if component ≥ wrap32 (shl32 1 (bits - 1) - 1) then 0x7FFF
        else sar32 (wrap32 (shl32 component 15 + 0x4000)) (bits - 1)
      if s then wrap32 (-unq) else unq

/-- `finish_unquantize(component, format) -> u16` -/
def finishUnquantize (component : Int) (signed : Bool) : Nat :=
  if !signed then
    toU32 (sar32 (wrap32 (component * 31)) 6) % U16
  else
    let c := if component < 0 then wrap32 (-(sar32 (wrap32 (wrap32 (-component) * 31)) 5))
             else sar32 (wrap32 (component * 31)) 5
    let s : Nat := if c < 0 then 0x8000 else 0
    let c := if c < 0 then wrap32 (-c) else c
    (s ||| toU32 c) % U16

/-- one palette entry: `finish_unquantize((a * (64 - w) + b * w + 32) >> 6, format)` -/
def paletteEntry (a b : Int) (w : Nat) (signed : Bool) : Nat :=
  finishUnquantize (sar32 (wrap32 (wrap32 (wrap32 (a * wrap32 (64 - (w : Int))) + wrap32 (b * (w : Int))) + 32)) 6) signed

/-- `generate_palette_unquantized_{one,two}` for one channel : `weights.map ...` -/
def palette (weights : List Nat) (c1 c2 : Int) (prec : Nat) (signed : Bool) : List Nat :=
  let a := unquantize c1 prec signed
  let b := unquantize c2 prec signed
  weights.map fun w => paletteEntry a b w signed

/-! ### block -/

def getI (l : List Int) (i : Nat) : Int := l.getD i 0

/-- `decode_bc6_block(block, format) -> [[u16; 3]; 16]` (half bit patterns) -/
def decodeBlock (signed : Bool) (block : Nat) : List (List Nat) :=
  let md := extractMode block
  match md.1 with
  | .one m =>
    let e := extractOne m md.2
    let ix := Bc7.newP1 4 e.2
    let prec := m.a0BitCount
    let pal := (List.range 3).map fun c =>
      let ab := decompressOneChan m signed (e.1.getD c 0) (e.1.getD (3 + c) 0)
      palette implW6_4 (getI ab 0) (getI ab 1) prec signed
    (List.range 16).map fun pixel =>
      let index := Bc7.getIndex ix.1 pixel
      (List.range 3).map fun c => (pal.getD c []).getD index 0
  | .two m =>
    let e := extractTwo m md.2
    let part := Bc7.consumeBits 5 e.2
    let map := implP2 part.1
    let ix := Bc7.newP2 3 part.2 map.2
    let prec := m.a0BitCount
    let d := m.deltaBitCount
    let pal := (List.range 3).map fun c =>
      let dc := if c = 0 then d.1 else if c = 1 then d.2.1 else d.2.2
      let ws := decompressTwoChan m signed dc (accGet e.1 0 c) (accGet e.1 1 c) (accGet e.1 2 c) (accGet e.1 3 c)
      [palette implW6_3 (getI ws 0) (getI ws 1) prec signed, palette implW6_3 (getI ws 2) (getI ws 3) prec signed]
    (List.range 16).map fun pixel =>
      let index := Bc7.getIndex ix.1 pixel
      let sub := subset2Index map pixel
      (List.range 3).map fun c => ((pal.getD c []).getD sub []).getD index 0
  | .invalid => List.replicate 16 [0, 0, 0]

/-! ### half -> f32 / u16 / u8  (`src/color/formats.rs`) -/

/-- bit length -/
def bitLen (n : Nat) : Nat := if n = 0 then 0 else Nat.log2 n + 1

/-- a positive dyadic rational `n * 2^e` -/
structure Dy where
  n : Nat
  e : Int
deriving Repr

/-- round to 24 significant bits, ties to even (binary32 rounding in the normal range) -/
def rnd24 (x : Dy) : Dy :=
  let l := bitLen x.n
  if l ≤ 24 then x else
    let k := l - 24
    let q := x.n >>> k
    let r := x.n % 2 ^ k
    let half := 2 ^ (k - 1)
    let q := if r > half ∨ (r = half ∧ q % 2 = 1) then q + 1 else q
    ⟨q, x.e + k⟩

def Dy.mul (a b : Dy) : Dy := rnd24 ⟨a.n * b.n, a.e + b.e⟩
def Dy.add (a b : Dy) : Dy :=
  let e := min a.e b.e
  rnd24 ⟨a.n * 2 ^ (a.e - e).toNat + b.n * 2 ^ (b.e - e).toNat, e⟩
/-- `f32 as u16 / u8` : truncate toward zero, saturate at `max` -/
def Dy.toUInt (a : Dy) (max : Nat) : Nat :=
  let v := if a.e ≥ 0 then a.n * 2 ^ a.e.toNat else a.n / 2 ^ (-a.e).toNat
  if v > max then max else v

/-- `(mant as f32 + 1024_f32) * two_powi(exp as i8 - 25) * MAX + 0.5` truncated -/
def normToInt (exp mant max : Nat) : Nat :=
  let v : Dy := Dy.mul ⟨mant + 1024, 0⟩ ⟨1, (exp : Int) - 25⟩
  ((v.mul ⟨max, 0⟩).add ⟨1, -1⟩).toUInt max

/-- `fp16::n8` -/
def fp16N8 (x : Nat) : Nat :=
  let exp := (x >>> 10) &&& 31
  let mant := x &&& 1023
  let val := if exp ≠ 31 then normToInt exp mant 255 else if mant = 0 then 255 else 0
  if x &&& 0x8000 ≠ 0 then 0 else val

/-- `fp16::n16` -/
def fp16N16 (x : Nat) : Nat :=
  let exp := (x >>> 10) &&& 31
  let mant := x &&& 1023
  let val :=
    if exp = 0 then ((Dy.mul ⟨mant, 0⟩ ⟨65535, -24⟩).add ⟨1, -1⟩).toUInt 65535
    else if exp ≠ 31 then normToInt exp mant 65535
    else if mant = 0 then 65535 else 0
  if x &&& 0x8000 ≠ 0 then 0 else val

/-- magnitude part of `fp16::f32` as binary32 bits -/
def halfMagToF32 (exp mant : Nat) : Nat :=
  if exp = 0 then
    if mant = 0 then 0
    else
      -- mant * 2^-24, exact: normalise
      let t := Nat.log2 mant
      ((103 + t) <<< 23) ||| ((mant - 2 ^ t) <<< (23 - t))
  else if exp ≠ 31 then ((exp + 112) <<< 23) ||| (mant <<< 13)
  else if mant = 0 then 0x7F800000 else 0x7FC00000

/-- `fp16::f32` (bit pattern of the result) -/
def fp16F32 (x : Nat) : Nat :=
  let exp := (x >>> 10) &&& 31
  let mant := x &&& 1023
  let v := halfMagToF32 exp mant
  if x &&& 0x8000 ≠ 0 then v ||| 0x80000000 else v

/-- `bc6h_uf16::n8` (no sign / Inf / NaN handling: the code only `debug_assert`s their absence) -/
def uf16N8 (x : Nat) : Nat := normToInt ((x >>> 10) &&& 31) (x &&& 1023) 255
/-- `bc6h_uf16::n16` -/
def uf16N16 (x : Nat) : Nat :=
  let exp := (x >>> 10) &&& 31
  let mant := x &&& 1023
  if exp = 0 then ((Dy.mul ⟨mant, 0⟩ ⟨65535, -24⟩).add ⟨1, -1⟩).toUInt 65535 else normToInt exp mant 65535
/-- `bc6h_uf16::f32` -/
def uf16F32 (x : Nat) : Nat :=
  let exp := (x >>> 10) &&& 31
  let mant := x &&& 1023
  if exp = 0 then halfMagToF32 0 mant else ((exp + 112) <<< 23) ||| (mant <<< 13)

end Dds.Bc6
