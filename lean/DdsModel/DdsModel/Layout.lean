/-
Model of src/pixel.rs (`PixelInfo::surface_bytes`), src/util.rs
(`get_mipmap_size`) and src/layout.rs (`Texture`, `Volume`, `TextureArray`,
`DataLayout::from_header_with`).

Conventions: `Option` results whose `none` stands for a Rust *panic*
(`unwrap()` on a checked length) mostly carry the suffix `P`
(e.g. `dataLenP`); each definition says what its `none` stands for.
-/
import DdsModel.Mach
namespace Dds

/-- src/pixel.rs `PixelInfo`. All fields are `u8` (block sizes 1..15). -/
inductive PixelInfo where
  | fixed (bpp : Nat)
  | block (bytes bw bh : Nat)
  | biPlanar (p1 p2 sx sy : Nat)
deriving DecidableEq, Repr, Inhabited

/-- what the public constructors `PixelInfo::{fixed,block,bi_planar}` guarantee -/
def PixelInfo.WF : PixelInfo → Prop
  | .fixed bpp => bpp < 256
  | .block bytes bw bh => bytes < 256 ∧ 0 < bw ∧ bw < 16 ∧ 0 < bh ∧ bh < 16
  | .biPlanar p1 p2 sx sy => p1 < 16 ∧ p2 < 16 ∧ 0 < sx ∧ sx < 16 ∧ 0 < sy ∧ sy < 16

instance (p : PixelInfo) : Decidable p.WF := by
  cases p <;> unfold PixelInfo.WF <;> exact inferInstance

/-- `PixelInfo::surface_bytes` -/
def PixelInfo.surfaceBytes (p : PixelInfo) (w h : Nat) : Option Nat :=
  match p with
  | .fixed bpp => ckMul (w * h) bpp
  | .block bytes bw bh => ckMul (divCeil w bw * divCeil h bh) bytes
  | .biPlanar p1 p2 sx sy =>
    match ckMul (w * h) p1 with
    | none => none
    | some a =>
      match ckMul (divCeil w sx * divCeil h sy) p2 with
      | none => none
      | some b => ckAdd a b

/-- the mathematical surface length (the property's formula) -/
def PixelInfo.surfIdeal (p : PixelInfo) (w h : Nat) : Nat :=
  match p with
  | .fixed bpp => w * h * bpp
  | .block bytes bw bh => ((w + bw - 1) / bw) * ((h + bh - 1) / bh) * bytes
  | .biPlanar p1 p2 sx sy => w * h * p1 + ((w + sx - 1) / sx) * ((h + sy - 1) / sy) * p2

/-- `util::get_mipmap_size` (on `u32`, `level : u8`) -/
def mipSize (d level : Nat) : Nat :=
  if level ≥ 31 then 1 else if d >>> level = 0 then 1 else d >>> level

structure Surface where
  w : Nat
  h : Nat
  offset : Nat
  len : Nat
deriving DecidableEq, Repr, Inhabited

structure VolumeDesc where
  w : Nat
  h : Nat
  d : Nat
  offset : Nat
  sliceLen : Nat
deriving DecidableEq, Repr, Inhabited

/-- `to_short_len` -/
def toShortLen (len : Nat) : Option Nat :=
  if len < U32 ∧ len ≠ 0 then some len else none

/-- `get_texture_len`: loop `for level in 0..mipmaps` with the accumulator -/
def textureLenAux (px : PixelInfo) (w h : Nat) : (level n acc : Nat) → Option Nat
  | _, 0, acc => some acc
  | level, n + 1, acc =>
    match px.surfaceBytes (mipSize w level) (mipSize h level) with
    | none => none
    | some m =>
      match ckAdd acc m with
      | none => none
      | some acc' => textureLenAux px w h (level + 1) n acc'

def textureLen (px : PixelInfo) (w h mips : Nat) : Option Nat :=
  textureLenAux px w h 0 mips 0

structure Texture where
  w : Nat
  h : Nat
  mips : Nat
  px : PixelInfo
  offsetIndex : Nat
  shortLen : Option Nat
deriving DecidableEq, Repr, Inhabited

inductive LayoutErr where
  | tooManyMipMaps | missingDepth | zeroDimension | arraySizeTooBig
  | dataLayoutTooBig | invalidCubeMapFaces
deriving DecidableEq, Repr, Inhabited

/-- `Texture::create_at_offset_0` -/
def Texture.create (w h mips : Nat) (px : PixelInfo) : Except LayoutErr Texture :=
  match textureLen px w h mips with
  | none => .error .dataLayoutTooBig
  | some len => .ok { w, h, mips, px, offsetIndex := 0, shortLen := toShortLen len }

/-- `DataRegion::data_len for Texture`; `none` = panic of `unwrap()` -/
def Texture.dataLenP (t : Texture) : Option Nat :=
  match t.shortLen with
  | some l => some l
  | none => textureLen t.px t.w t.h t.mips

/-- `DataRegion::data_offset for Texture` (release arithmetic) -/
def Texture.dataOffsetP (t : Texture) : Option Nat :=
  t.dataLenP.map fun l => wMul t.offsetIndex l

/-- `DataRegion::data_end for Texture` (release arithmetic) -/
def Texture.dataEndP (t : Texture) : Option Nat :=
  t.dataLenP.map fun l => wMul (wAdd t.offsetIndex 1) l

/-- `Texture::iter_mips`: the closure state is the running `offset` -/
def iterMipsAux (px : PixelInfo) (w h : Nat) : (level n offset : Nat) → Option (List Surface)
  | _, 0, _ => some []
  | level, n + 1, offset =>
    match px.surfaceBytes (mipSize w level) (mipSize h level) with
    | none => none
    | some len =>
      match iterMipsAux px w h (level + 1) n (wAdd offset len) with
      | none => none
      | some rest => some (⟨mipSize w level, mipSize h level, offset, len⟩ :: rest)

def Texture.iterMipsP (t : Texture) : Option (List Surface) :=
  match t.dataOffsetP with
  | none => none
  | some off => iterMipsAux t.px t.w t.h 0 t.mips off

/-- `Texture::get(level)` = `iter_mips().nth(level)`; outer `none` = panic -/
def Texture.getP (t : Texture) (level : Nat) : Option (Option Surface) :=
  t.iterMipsP.map fun l => l[level]?

/-- `Texture::main` -/
def Texture.mainP (t : Texture) : Option Surface :=
  match t.px.surfaceBytes t.w t.h, t.dataOffsetP with
  | some len, some off => some ⟨t.w, t.h, off, len⟩
  | _, _ => none

/-- `get_volume_len` -/
def volumeLenAux (px : PixelInfo) (w h d : Nat) : (level n acc : Nat) → Option Nat
  | _, 0, acc => some acc
  | level, n + 1, acc =>
    match px.surfaceBytes (mipSize w level) (mipSize h level) with
    | none => none
    | some sl =>
      match ckMul sl (mipSize d level) with
      | none => none
      | some ml =>
        match ckAdd acc ml with
        | none => none
        | some acc' => volumeLenAux px w h d (level + 1) n acc'

def volumeLen (px : PixelInfo) (w h d mips : Nat) : Option Nat :=
  volumeLenAux px w h d 0 mips 0

structure Volume where
  w : Nat
  h : Nat
  d : Nat
  mips : Nat
  px : PixelInfo
deriving DecidableEq, Repr, Inhabited

def Volume.create (w h d mips : Nat) (px : PixelInfo) : Except LayoutErr Volume :=
  match volumeLen px w h d mips with
  | none => .error .dataLayoutTooBig
  | some _ => .ok { w, h, d, mips, px }

def Volume.dataLenP (v : Volume) : Option Nat := volumeLen v.px v.w v.h v.d v.mips

/-- `Volume::iter_mips` -/
def volIterMipsAux (px : PixelInfo) (w h d : Nat) :
    (level n offset : Nat) → Option (List VolumeDesc)
  | _, 0, _ => some []
  | level, n + 1, offset =>
    match px.surfaceBytes (mipSize w level) (mipSize h level) with
    | none => none
    | some sl =>
      match volIterMipsAux px w h d (level + 1) n (wAdd offset (wMul (mipSize d level) sl)) with
      | none => none
      | some rest =>
        some (⟨mipSize w level, mipSize h level, mipSize d level, offset, sl⟩ :: rest)

def Volume.iterMipsP (v : Volume) : Option (List VolumeDesc) :=
  volIterMipsAux v.px v.w v.h v.d 0 v.mips 0

def Volume.getP (v : Volume) (level : Nat) : Option (Option VolumeDesc) :=
  v.iterMipsP.map fun l => l[level]?

/-- `VolumeDescriptor::get_depth_slice` -/
def VolumeDesc.getDepthSlice (v : VolumeDesc) (k : Nat) : Option Surface :=
  if k < v.d then some ⟨v.w, v.h, wAdd v.offset (wMul k v.sliceLen), v.sliceLen⟩ else none

/-- `VolumeDescriptor::iter_depth_slices` -/
def VolumeDesc.iterDepthSlices (v : VolumeDesc) : List Surface :=
  (List.range v.d).map fun k => ⟨v.w, v.h, wAdd v.offset (wMul k v.sliceLen), v.sliceLen⟩

/-- `DataRegion::data_len for VolumeDescriptor` -/
def VolumeDesc.dataLen (v : VolumeDesc) : Nat := wMul v.sliceLen v.d

inductive ArrayKind where
  | textures | cubeMaps | partialCubeMap (faces : Nat)
deriving DecidableEq, Repr, Inhabited

structure TextureArray where
  kind : ArrayKind
  arrayLen : Nat
  w : Nat
  h : Nat
  mips : Nat
  px : PixelInfo
  shortLen : Option Nat
deriving DecidableEq, Repr, Inhabited

/-- `TextureArray::new`; the inner `Option` is the `data_len()` unwrap -/
def TextureArray.new (kind : ArrayKind) (arrayLen : Nat) (first : Texture) :
    Option (Except LayoutErr TextureArray) :=
  match first.dataLenP with
  | none => none
  | some l =>
    match ckMul l arrayLen with
    | none => some (.error .dataLayoutTooBig)
    | some _ => some (.ok { kind, arrayLen, w := first.w, h := first.h, mips := first.mips,
                            px := first.px, shortLen := first.shortLen })

def TextureArray.first (a : TextureArray) : Texture :=
  { w := a.w, h := a.h, mips := a.mips, px := a.px, offsetIndex := 0, shortLen := a.shortLen }

/-- `TextureArray::get` -/
def TextureArray.get (a : TextureArray) (i : Nat) : Option Texture :=
  if i < a.arrayLen then some { a.first with offsetIndex := i } else none

/-- `TextureArray::iter` -/
def TextureArray.iter (a : TextureArray) : List Texture :=
  (List.range a.arrayLen).map fun i => { a.first with offsetIndex := i }

def TextureArray.dataLenP (a : TextureArray) : Option Nat :=
  a.first.dataLenP.map fun l => wMul l a.arrayLen

inductive DataLayout where
  | texture (t : Texture)
  | volume (v : Volume)
  | textureArray (a : TextureArray)
deriving DecidableEq, Repr, Inhabited

def DataLayout.dataLenP : DataLayout → Option Nat
  | .texture t => t.dataLenP
  | .volume v => v.dataLenP
  | .textureArray a => a.dataLenP

def DataLayout.mips : DataLayout → Nat
  | .texture t => t.mips
  | .volume v => v.mips
  | .textureArray a => a.mips

def DataLayout.px : DataLayout → PixelInfo
  | .texture t => t.px
  | .volume v => v.px
  | .textureArray a => a.px

/-! ### The part of a header the layout depends on -/

inductive ResDim where
  | tex1D | tex2D | tex3D
deriving DecidableEq, Repr, Inhabited

inductive HeaderKind where
  /-- DX10: `misc_flag.contains(TEXTURE_CUBE)`, resource dimension, `array_size` -/
  | dx10 (isCube : Bool) (dim : ResDim) (arraySize : Nat)
  /-- DX9: the raw `caps2` bits -/
  | dx9 (caps2 : Nat)
deriving DecidableEq, Repr, Inhabited

structure LayoutHeader where
  width : Nat
  height : Nat
  depth : Option Nat
  /-- `NonZeroU32` -/
  mipmapCount : Nat
  kind : HeaderKind
deriving DecidableEq, Repr, Inhabited

def CAPS2_CUBE_MAP : Nat := 0x200
def CAPS2_VOLUME : Nat := 0x200000

/-- `CubeMapFaces::from(Caps2)`: bits 10..15 shifted down -/
def cubeFacesOfCaps2 (caps2 : Nat) : Nat := (caps2 >>> 10) % 64

def popCount6 (f : Nat) : Nat :=
  f % 2 + (f / 2) % 2 + (f / 4) % 2 + (f / 8) % 2 + (f / 16) % 2 + (f / 32) % 2

def parseDimension (d : Nat) : Except LayoutErr Nat :=
  if d = 0 then .error .zeroDimension else .ok d

def parseMipmapCount (m : Nat) : Except LayoutErr Nat :=
  if m < 256 then .ok m else .error .tooManyMipMaps

structure SurfaceLayoutInfo where
  w : Nat
  h : Nat
  mips : Nat
  px : PixelInfo

def SurfaceLayoutInfo.fromHeader (hd : LayoutHeader) (px : PixelInfo) :
    Except LayoutErr SurfaceLayoutInfo :=
  match parseDimension hd.width with
  | .error e => .error e
  | .ok w =>
    match parseDimension hd.height with
    | .error e => .error e
    | .ok h =>
      match parseMipmapCount hd.mipmapCount with
      | .error e => .error e
      | .ok mips => .ok { w, h, mips, px }

def SurfaceLayoutInfo.create (i : SurfaceLayoutInfo) : Except LayoutErr Texture :=
  Texture.create i.w i.h i.mips i.px

/-- `SurfaceLayoutInfo::create_array`; outer `Option` = panic -/
def SurfaceLayoutInfo.createArray (i : SurfaceLayoutInfo) (kind : ArrayKind) (n : Nat) :
    Option (Except LayoutErr TextureArray) :=
  match i.create with
  | .error e => some (.error e)
  | .ok t => TextureArray.new kind n t

def volumeFromHeader (hd : LayoutHeader) (px : PixelInfo) : Except LayoutErr Volume :=
  match parseDimension hd.width with
  | .error e => .error e
  | .ok w =>
    match parseDimension hd.height with
    | .error e => .error e
    | .ok h =>
      match hd.depth with
      | none => .error .missingDepth
      | some d0 =>
        match parseDimension d0 with
        | .error e => .error e
        | .ok d =>
          match parseMipmapCount hd.mipmapCount with
          | .error e => .error e
          | .ok mips => Volume.create w h d mips px

def liftArr (r : Option (Except LayoutErr TextureArray)) : Option (Except LayoutErr DataLayout) :=
  r.map fun e => e.map DataLayout.textureArray

/-- `DataLayout::from_header_with`; outer `Option` = panic -/
def layoutOf (hd : LayoutHeader) (px : PixelInfo) : Option (Except LayoutErr DataLayout) :=
  match hd.kind with
  | .dx10 isCube dim arraySize =>
    if isCube then
      if dim ≠ .tex2D then some (.error .invalidCubeMapFaces) else
      match SurfaceLayoutInfo.fromHeader hd px with
      | .error e => some (.error e)
      | .ok info =>
        match ckMul32 arraySize 6 with
        | none => some (.error .arraySizeTooBig)
        | some faces => liftArr (info.createArray .cubeMaps faces)
    else
      match dim with
      | .tex3D => some ((volumeFromHeader hd px).map DataLayout.volume)
      | d =>
        match SurfaceLayoutInfo.fromHeader hd px with
        | .error e => some (.error e)
        | .ok info0 =>
          let info : SurfaceLayoutInfo := if d = .tex1D then { info0 with h := 1 } else info0
          if arraySize = 1 then some (info.create.map DataLayout.texture)
          else liftArr (info.createArray .textures arraySize)
  | .dx9 caps2 =>
    if caps2 / CAPS2_CUBE_MAP % 2 = 1 then
      if caps2 / CAPS2_VOLUME % 2 = 1 then some (.error .invalidCubeMapFaces) else
      match SurfaceLayoutInfo.fromHeader hd px with
      | .error e => some (.error e)
      | .ok info =>
        let faces := cubeFacesOfCaps2 caps2
        let n := popCount6 faces
        let kind := if n = 6 then ArrayKind.cubeMaps else ArrayKind.partialCubeMap faces
        liftArr (info.createArray kind n)
    else if caps2 / CAPS2_VOLUME % 2 = 1 then
      some ((volumeFromHeader hd px).map DataLayout.volume)
    else
      match SurfaceLayoutInfo.fromHeader hd px with
      | .error e => some (.error e)
      | .ok info => some (info.create.map DataLayout.texture)

/-! ### Flattening through the iterators of the source -/

def sequenceOpt {α : Type} : List (Option α) → Option (List α)
  | [] => some []
  | none :: _ => none
  | some a :: r => (sequenceOpt r).map (a :: ·)

/-- array element, then mip level, then depth slice -/
def DataLayout.flattenP : DataLayout → Option (List Surface)
  | .texture t => t.iterMipsP
  | .textureArray a => (sequenceOpt (a.iter.map Texture.iterMipsP)).map List.flatten
  | .volume v => v.iterMipsP.map fun l => (l.map VolumeDesc.iterDepthSlices).flatten

end Dds
