/-
C07 — The decoder's memory limit bounds what a file can make it allocate.

Statements about the model `Stream.lean`: `DecodeContext` as a budget that only decreases, the
allocator as a parameter that is only called with requests the budget admits, and the `alloc`
entries of every decode path (line buffer `clamp(65536 / bytes_per_line, 1, lines) * bytes_per_line`,
row buffer of a pixel rect, plane-1 buffer of bi-planar formats). For all families, sizes, rects,
limits, streams and allocator behaviours. Helper lemmas: `Proofs/Stream.lean`, `Proofs/StreamPaths.lean`.
-/
import DdsModel.Proofs.StreamPaths
import DdsModel.Theorems.C06
import DdsModel.Drv.C07
namespace Dds.C07
open Dds Dds.Stream

/-- **What reaches the allocator is within the limit**, after every prefix of every trace (any list
of operations, in particular `ops.take k` of a decode path), on every stream, also when the decode
later fails: the requests handed to the allocator add up to at most `memory_limit`. -/
theorem accounted_le_limit (e : Env) (pats : List (List Nat)) (ops : List Op) (k pos limit : Nat) :
    total (interp e pats (ops.take k) { pos := pos, budget := limit }).2.calls ≤ limit := by
  have := interp_budget e (ops.take k) pats { pos := pos, budget := limit }
  simp only [total] at this
  omega

/-- the same for a whole `decode` / `decode_rect` call -/
theorem accounted_le_limit_run (e : Env) (pats : List (List Nat)) (p : Except Res (List Op))
    (pos limit : Nat) : total (run e pats p pos limit).2.calls ≤ limit := by
  cases p with
  | error r => simp [run, total]
  | ok ops =>
    have := interp_budget e ops pats { pos := pos, budget := limit }
    simp only [total, run] at this ⊢
    omega

/-- **A request above the remaining budget is refused before the allocator is called**: the result
is `memLimit` and the state (allocator calls, budget, reader) is unchanged. -/
theorem over_budget_refused (e : Env) (pats : List (List Nat)) (n : Nat) (ops : List Op) (st : St)
    (h : st.budget < n % U64) : interp e pats (.alloc n :: ops) st = (.memLimit, st) :=
  interp_over_budget e pats n ops st h

/-- **`MemoryLimitExceeded` exactly when the limit is below the need** (allocator willing): a
surface needing more than the limit fails with the memory-limit error — before the reader is
touched (`C06.non_io_error_keeps_position`) and with at most `limit` bytes handed to the allocator
(`accounted_le_limit_run`) — and a limit that covers the need never produces that error. -/
theorem memory_limit_exceeded_iff {f : Fam} (hf : f.WF) (c : Colour) (call : Call) {ops : List Op}
    (hplan : plan f c call = .ok ops) (e : Env) (pats : List (List Nat)) (pos limit : Nat)
    (hgrant : C06.AllocatorGrants e) :
    (run e pats (plan f c call) pos limit).1 = .memLimit ↔ limit < need ops := by
  obtain ⟨fa, hb⟩ := plan_facts hf hplan
  rw [hplan]; simp only [run]
  exact interp_mem_iff e hgrant ops pats { pos := pos, budget := limit } fa.af
    (by have := fa.nd; unfold ISIZE_MAX at hb; unfold U64; omega)

/-- **Closed form of the need** of every accepted call (`needOf`, per family): line buffer;
row buffer; plane-1 buffer + line buffer. -/
theorem need_closed_form {f : Fam} (hf : f.WF) {c : Colour} {call : Call} {ops : List Op}
    (hplan : plan f c call = .ok ops) : need ops = needOf f c call :=
  plan_need hf hplan

/-- **Bound of the need**: at most `max(64 KiB, bytes of one encoded line)` for the line buffer plus
the row buffer (pixel rect) or the plane-1 buffer (bi-planar). -/
theorem need_bound {f : Fam} (hf : f.WF) {c : Colour} {call : Call} {ops : List Op}
    (hplan : plan f c call = .ok ops) :
    need ops ≤ max TARGET_BUFFER_SIZE (lineBytes f call) + rowOrPlaneBytes f call := by
  rw [plan_need hf hplan]; exact needOf_le f c call

/-- the line buffer is `clamp(65536 / bytes_per_line, 1, lines) * bytes_per_line`: at most 64 KiB
unless a single line is longer, and never more than the lines it buffers -/
theorem line_buffer_size (bpl lines : Nat) (hl : 0 < lines) :
    (lineBufLen bpl lines ≤ TARGET_BUFFER_SIZE ∨ lineBufLen bpl lines = bpl) ∧
    lineBufLen bpl lines ≤ lines * bpl :=
  ⟨lineBufLen_le_max bpl lines, lineBufLen_le_total hl⟩

/-- the decoder never asks for more memory than the encoded surface is long -/
theorem need_le_surface_bytes {f : Fam} (hf : f.WF) {c : Colour} {call : Call} {ops : List Op}
    (hplan : plan f c call = .ok ops) : need ops ≤ call.bytes f :=
  (plan_facts hf hplan).1.nd

def allColours : List Colour :=
  [(0, 0), (0, 1), (0, 2), (1, 0), (1, 1), (1, 2), (2, 0), (2, 1), (2, 2), (3, 0), (3, 1), (3, 2)]

/-- is the call accepted and its need within `limit`? -/
def covers (f : Fam) (c : Colour) (call : Call) (limit : Nat) : Bool :=
  match plan f c call with
  | .ok ops => decide (need ops ≤ limit)
  | .error _ => false

/-- **With the default limit (33 MiB) every format decodes at 4096×4096**, into every colour format:
the call is accepted and its need is within the default limit (complete evaluation of the format
table; with `C06.success_consumes_exactly` the decode then succeeds on every intact stream). -/
theorem default_covers_4k :
    ∀ p ∈ formatTable, ∀ c ∈ allColours, covers p.2 c (.full 4096 4096) DEFAULT_MEMORY_LIMIT = true := by
  -- evaluated on the closed forms `accepts` and `needOf`: `plan` itself builds traces of thousands of reads
  have h : ∀ p ∈ formatTable, ∀ c ∈ allColours,
      accepts p.2 (.full 4096 4096) ∧ needOf p.2 c (.full 4096 4096) ≤ DEFAULT_MEMORY_LIMIT := by
    decide +kernel
  intro p hp c hc
  obtain ⟨ops, hplan, fa⟩ := plan_accepted (C06.formatTable_wf p hp) c (h p hp c hc).1
  simp only [covers, hplan, fa.cf, decide_eq_true_eq]
  exact (h p hp c hc).2

/-- per-row condition under which every rect of a 4096×4096 surface fits the default limit -/
def rectCond : Fam → Prop
  | .pixel bpp _ => bpp ≤ 16
  | .block bw _ bpb => divCeil 4096 bw * bpb ≤ TARGET_BUFFER_SIZE
  | .biPlanar e1 e2 sx _ => e1 ≤ 2 ∧ divCeil 4096 sx * e2 ≤ TARGET_BUFFER_SIZE

instance (f : Fam) : Decidable (rectCond f) := by
  cases f <;> unfold rectCond <;> exact inferInstance

theorem formatTable_rectCond : ∀ p ∈ formatTable, rectCond p.2 := by decide

/-- **…and so does every rect of a 4096×4096 surface**, for every format of the table, every colour,
every rect inside the surface (general argument from `need_bound`, not an enumeration of rects). -/
theorem default_covers_4k_rects : ∀ p ∈ formatTable, ∀ (c : Colour) (x y w h : Nat) (ops : List Op),
    x + w ≤ 4096 → y + h ≤ 4096 → plan p.2 c (.rect 4096 4096 x y w h) = .ok ops →
    need ops ≤ DEFAULT_MEMORY_LIMIT := by
  intro p hp c x y w h ops hx hy hplan
  have hb := need_bound (C06.formatTable_wf p hp) hplan
  have hc := formatTable_rectCond p hp
  have hw : w ≤ 4096 := by omega
  have hh : h ≤ 4096 := by omega
  generalize p.2 = f at *
  cases f with
  | pixel bpp fast =>
    simp only [lineBytes, rowOrPlaneBytes, rectCond] at hb hc
    have h1 : w * bpp ≤ 4096 * 16 := Nat.mul_le_mul hw hc
    have : max TARGET_BUFFER_SIZE 0 = TARGET_BUFFER_SIZE := Nat.max_eq_left (Nat.zero_le _)
    rw [this] at hb
    unfold TARGET_BUFFER_SIZE SrcConsts.TARGET_BUFFER_SIZE at hb
    unfold DEFAULT_MEMORY_LIMIT SrcConsts.DEFAULT_MEMORY_LIMIT; omega
  | block bw bh bpb =>
    simp only [lineBytes, rowOrPlaneBytes, rectCond] at hb hc
    rw [Nat.max_eq_left hc] at hb
    unfold TARGET_BUFFER_SIZE SrcConsts.TARGET_BUFFER_SIZE at hb
    unfold DEFAULT_MEMORY_LIMIT SrcConsts.DEFAULT_MEMORY_LIMIT; omega
  | biPlanar e1 e2 sx sy =>
    simp only [lineBytes, rowOrPlaneBytes, rectCond] at hb hc
    rw [Nat.max_eq_left hc.2] at hb
    have h1 : 4096 * e1 * h ≤ 4096 * 2 * 4096 := Nat.mul_le_mul (Nat.mul_le_mul_left _ hc.1) hh
    unfold TARGET_BUFFER_SIZE SrcConsts.TARGET_BUFFER_SIZE at hb
    unfold DEFAULT_MEMORY_LIMIT SrcConsts.DEFAULT_MEMORY_LIMIT; omega

/-- **Raising the limit never introduces the memory-limit error** (allocator willing): a call that
does not fail with `MemoryLimitExceeded` under `limit` does not fail with it under any larger limit,
on any stream and from any reader position. -/
theorem limit_monotone {f : Fam} (hf : f.WF) (c : Colour) (call : Call) {ops : List Op}
    (hplan : plan f c call = .ok ops) (e : Env) (pats pats' : List (List Nat)) (pos pos' limit limit' : Nat)
    (hgrant : C06.AllocatorGrants e) (hle : limit ≤ limit')
    (h : (run e pats (plan f c call) pos limit).1 ≠ .memLimit) :
    (run e pats' (plan f c call) pos' limit').1 ≠ .memLimit := by
  rw [Ne, memory_limit_exceeded_iff hf c call hplan e pats pos limit hgrant] at h
  rw [Ne, memory_limit_exceeded_iff hf c call hplan e pats' pos' limit' hgrant]
  omega

/-- **End to end at the default limit, full decode**: for every format of the table and every colour,
a 4096×4096 decode is accepted and its run never ends in the memory-limit error, on any stream
(`default_covers_4k` composed with `memory_limit_exceeded_iff`). -/
theorem default_4k_never_memlimit : ∀ p ∈ formatTable, ∀ c ∈ allColours,
    ∀ (e : Env) (pats : List (List Nat)) (pos : Nat), C06.AllocatorGrants e →
    (run e pats (plan p.2 c (.full 4096 4096)) pos DEFAULT_MEMORY_LIMIT).1 ≠ .memLimit := by
  intro p hp c hc e pats pos hgrant
  have hcov := default_covers_4k p hp c hc
  unfold covers at hcov
  split at hcov
  · next ops hplan =>
    rw [Ne, memory_limit_exceeded_iff (C06.formatTable_wf p hp) c _ hplan e pats pos _ hgrant]
    have := of_decide_eq_true hcov
    omega
  · exact absurd hcov (by decide)

/-- **…and every accepted rect of a 4096×4096 surface** likewise never ends in the memory-limit error. -/
theorem default_4k_rects_never_memlimit : ∀ p ∈ formatTable, ∀ (c : Colour) (x y w h : Nat) (ops : List Op),
    x + w ≤ 4096 → y + h ≤ 4096 → plan p.2 c (.rect 4096 4096 x y w h) = .ok ops →
    ∀ (e : Env) (pats : List (List Nat)) (pos : Nat), C06.AllocatorGrants e →
    (run e pats (plan p.2 c (.rect 4096 4096 x y w h)) pos DEFAULT_MEMORY_LIMIT).1 ≠ .memLimit := by
  intro p hp c x y w h ops hx hy hplan e pats pos hgrant
  rw [Ne, memory_limit_exceeded_iff (C06.formatTable_wf p hp) c _ hplan e pats pos _ hgrant]
  have := default_covers_4k_rects p hp c x y w h ops hx hy hplan
  omega

/-- the default limit is what the worst format needs at 4K plus less than 1 MiB: P010/P016 need
32 MiB + the line buffer (64 KiB at the pinned commit) -/
example : planNeed (plan (.biPlanar 2 4 2 2) (2, 1) (.full 4096 4096)) = 32 * 1024 * 1024 + TARGET_BUFFER_SIZE := by
  decide +kernel

/-- non-vacuity: NV12 6×6 needs 54 bytes; limit 53 is refused, 54 is enough -/
example : (run { len := 54 } [] (plan (.biPlanar 1 2 2 2) (2, 0) (.full 6 6)) 0 53).1 = .memLimit ∧
    (run { len := 54 } [] (plan (.biPlanar 1 2 2 2) (2, 0) (.full 6 6)) 0 54).1 = .ok := by decide
/-- non-vacuity of `over_budget_refused` -/
example : (interp { len := 0 } [] [.alloc 10, .alloc 20] { pos := 0, budget := 25 }).1 = .memLimit ∧
    (interp { len := 0 } [] [.alloc 10, .alloc 20] { pos := 0, budget := 25 }).2.calls = [10] := by decide

end Dds.C07
