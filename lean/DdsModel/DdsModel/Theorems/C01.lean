/-
C01 — Hostile files never crash the reader: parse, layout and decode are total.

The statements are about the *composed* model `Reader.lean`
(`Decoder::new_with_options` = `Header::read` ; `Format::from_header` ; `DataLayout::from_header_with` ;
`SurfaceIterator::new`, then any list of `Decoder` calls over an arbitrary stream), which only chains the
models that C02, C05, C06, C08, C09, C18, C19 and C20 are about.  A Rust panic (failed `unwrap` / `expect` /
`assert!`, slice index out of range, arithmetic trap of the overflow-checking profile) is the value
`panic` of the result types; wrapping operators of the release profile are `wAdd`/`wMul` in the models
and the cited theorems show their ideal value is in range (so "no trap" and "release = ideal" are the
same fact).  Helper lemmas: `Proofs/C01.lean`, `Proofs/ReaderRefines*.lean`, `Proofs/StreamPaths.lean`, `Proofs/Trap*.lean`.

ASSEMBLED here (all inputs, no bounds):
* `parse_layout_trapfree`, `parse_bytes_trapfree`, `layout_from_header_trapfree`
* `cursor_ops_trapfree`, `opened_cursor_ops_trapfree`, `cursor_ops_with_rewinds_trapfree`
* `decode_geometry_trapfree`, `every_format_has_a_decoder`, `decode_addresses_in_view`,
  `decode_addresses_planar` (bi-planar family, from `C05.rect_eq_crop_planar`)
* `truncated_is_io_error`, `fault_is_io_error`, `no_success_on_short_stream`

Termination (remark, not a theorem): every definition of `Header.lean`, `HeaderTables.lean`,
`FormatTables.lean`, `Layout.lean`, `Iter.lean`, `Stream.lean`, `Addr.lean`, `Decoder.lean` and
`Reader.lean` is accepted by Lean's termination checker as structural recursion or a fold over a list
whose length is a function of the input (mip count ≤ 255, `List.range` of a line count, the operation
list); there is no `partial`, no fuel that can run out (`bitLen 32` is the width of a
`u32`, `Addr.lbLines` gets the number of lines it has to hand out) and `check.py` rejects `partial` / `unsafe` / `implemented_by` in every model file.  So "fails to
terminate" has no counterpart in the model; for the implementation it is the watchdog of the tie.

Section 6 (codec bodies): `bc1to5_bodies_trapfree`, `bc7_body_trapfree`, `bc6_body_trapfree`,
`uncompressed_bodies_trapfree`, `subsampled_biplanar_bodies_trapfree`, `channel_conversion_trapfree`,
`pixel_loop_wrappers_trapfree` — trapping mirrors (`Trap*.lean`) of the per-block / per-pixel bodies return `some`
of the wrapping models' values for every input.

Section 7 (generic decode loops of `read_write.rs`): `line_buffer_trapfree`, `channel_conversion_buffer_trapfree`,
`pixel_loops_trapfree`, `read_exact_image_trapfree`, `block_loops_trapfree`, `biplanar_loops_trapfree`, assembled
`decode_loops_trapfree`, the F17 pair `f17_repaired_returns` / `f17_unrepaired_traps` — trapping mirrors (`TrapLoops*.lean`)
of every slice, index and length computation of the loops return `some`, with C06's reader / allocator trace and all
writes inside the rows of the view.

NOT modelled for totality (exercised by the tie only, on both build profiles): the external `astc-decode` crate, `std`
(`read_exact`, `io::copy`, `seek`, `Vec::try_reserve_exact`) and termination of the real loops.  That `f32` arithmetic and
float → integer casts never panic is a fact about Rust that the mirrors assume.
-/
import DdsModel.Proofs.C01
import DdsModel.Proofs.ReaderRefinesRun
import DdsModel.Theorems.C05
import DdsModel.Theorems.C09
import DdsModel.Proofs.TrapLoopsPlanar
import DdsModel.Proofs.View
import DdsModel.Drv.C01
import DdsModel.Proofs.TrapBc
import DdsModel.Proofs.TrapBc7
import DdsModel.Proofs.TrapBc6
import DdsModel.Proofs.TrapUnc
namespace Dds.C01
open Dds Dds.Stream Dds.Reader

/-! ## 1. parse + format detection + layout -/

/-- **`Decoder::new_with_options` is total.**  For EVERY stream of `u32` words and every `ParseOptions`
(strict / permissive, any `file_len`, `skip_magic_bytes`): the result is `Ok` or one of the library's
errors (`HeaderError`, `FormatError`, `LayoutError`), never a panic — no `unwrap()` of
`impl From<Format> for PixelInfo`, of `data_len()` or of `TextureArray::new` fails, also not inside the
repair loop of `fix_based_on_file_len` (`C18.repair_no_panic`).  For every accepted file: the header
is well-formed (`NonZeroU32` mip count, valid DXGI code, all fields `u32`), the decoder family exists
and has the unit sizes of the format's `PixelInfo`, the data length is defined and `< 2^64`, the layout
satisfies C02's validity invariant (so by `C02.flatten_eq_spec` every surface offset and length is the
ideal value and lies inside the data section, i.e. no `u64` operation wrapped), and a fresh
`SurfaceIterator` satisfies C08's iterator invariant (`current_level ≤ mipmaps ≤ 255`, `len < 2^32`). -/
theorem parse_layout_trapfree (opts : ParseOptions) (ws : List Nat) (hws : ∀ w ∈ ws, w < U32) :
    openWords opts ws ≠ .error .panic ∧
    ∀ o, openWords opts ws = .ok o →
      o.header.WF ∧ o.fam.WF ∧ o.fam.px = o.px ∧ o.px.WF ∧
      layoutOf o.header.toLayoutHeader o.px = some (.ok o.layout) ∧
      (∃ n, o.layout.dataLenP = some n ∧ n < U64) ∧
      C02.LayoutValid o.layout ∧
      C08.IterInv (SurfIter.new o.layout) := by
  refine ⟨fun hp => ?_, fun o ho => ?_⟩
  · obtain ⟨h, rest, f, hr, _, hbad⟩ := openWords_eq_panic hp
    obtain ⟨fam, hfam, hfwf, hfpx⟩ := fam_of_format f
    exact (C18.repair_no_panic h (C09.parsed_wf_words pixelInfoOf opts ws hws h rest hr) f.row.px
      (hfpx ▸ Fam.WF.px hfwf)).1 (hbad _ _ (C19.formatPixelInfoP_eq f) hfam)
  · obtain ⟨hr, _, hpi, hfam, hl⟩ := openWords_eq_ok.1 ho
    have hwf := C09.parsed_wf_words pixelInfoOf opts ws hws _ _ hr
    obtain ⟨fam, hfam', hfwf, hfpx⟩ := fam_of_format o.format
    obtain rfl : fam = o.fam := Option.some.inj (hfam'.symm.trans hfam)
    obtain hpo : o.format.row.px = o.px := Option.some.inj ((C19.formatPixelInfoP_eq _).symm.trans hpi)
    rw [hpo] at hfpx
    have hpx : o.px.WF := hfpx ▸ Fam.WF.px hfwf
    have fr := C08.Fresh.ofHeader hwf hpx hl
    exact ⟨hwf, hfwf, hfpx, hpx, hl, (C18.repair_no_panic _ hwf _ hpx).2 _ hl, fr.valid, fr.iter⟩

/-- the same for every byte string (little-endian words; 1..3 trailing bytes cannot complete a
`read_exact`) -/
theorem parse_bytes_trapfree (opts : ParseOptions) (bs : List Nat) (hbs : ∀ b ∈ bs, b < 256) :
    openBytes opts bs ≠ .error .panic ∧
    ∀ o, openBytes opts bs = .ok o →
      o.header.WF ∧ o.fam.WF ∧ (∃ n, o.layout.dataLenP = some n ∧ n < U64) ∧
      C08.IterInv (SurfIter.new o.layout) := by
  have h := parse_layout_trapfree opts (leWords bs) (leWords_lt bs.length bs (Nat.le_refl _) hbs)
  refine ⟨h.1, fun o ho => ?_⟩
  obtain ⟨a, b, _, _, _, c, _, d⟩ := h.2 o ho
  exact ⟨a, b, c, d⟩

/-- **`DataLayout::from_header` is total** on every header `Header::read` can return
(`C09.parsed_wf_words`: they are all well-formed): `PixelInfo::from_header` fails with a format error or
gives a well-formed pixel info, and then the layout code returns `Ok`/`Err` with a defined data length. -/
theorem layout_from_header_trapfree (h : Header) (hwf : h.WF) :
    layoutFromHeader h ≠ none ∧
    ∀ L, layoutFromHeader h = some (some (.ok L)) → ∃ n, L.dataLenP = some n ∧ n < U64 := by
  unfold layoutFromHeader
  cases hp : pixelInfoOf h with
  | none => exact ⟨(by simp), (by intro L hL; cases hL)⟩
  | some px =>
    obtain ⟨hne, hlen⟩ := C18.repair_no_panic h hwf px (pixelInfoOf_wf h px hp)
    simp only
    cases hl : layoutOf h.toLayoutHeader px with
    | none => exact absurd hl hne
    | some r =>
      refine ⟨(by simp), ?_⟩
      intro L hL
      simp only [Option.map_some, Option.some.injEq] at hL
      subst hL
      exact hlen L hl

/-! ## 2. cursor operations -/

/-- **No `Decoder` call of C01's list panics, over ANY stream.**  For every stream environment (any
length, hard error or early end of file anywhere, either `seek` behaviour, any allocator), every decoder
family with admissible unit sizes, every layout, every iterator state satisfying C08's invariant, and
every list (no length bound) of `read_surface` / `read_surface_rect` / `skip_surface` / `skip_mipmaps` /
`read_cube_map` / memory-limit changes with arbitrary arguments: every call returns `Ok` or an error
value and the invariant still holds — `self.current_level + 1` (`u8`), `current_index += 1` (`u32`),
`skipped_bytes += ..` and `offset += len` (`u64`) never trap (`C08.advance_spec`, `C08.skip_spec`: they
are the ideal values), `first.get(level)` is never `None` when a surface is current
(`C08.current_cases`), and the decode itself never reaches a panic operation (`C06.result_kinds`);
`Reader.step_inv` puts the four together call by call.  No hypothesis on the size of the data section is
needed. -/
theorem cursor_ops_trapfree (k : Cfg) (hf : k.fam.WF) (ops : List Reader.Op)
    (hops : ∀ op ∈ ops, op.inC01 = true) :
    ∀ s : RS, C08.IterInv s.iter →
      C08.IterInv (runOps k s ops).1.iter ∧ ∀ r ∈ (runOps k s ops).2, r ≠ .panic := by
  induction ops with
  | nil => intro s v; exact ⟨v, by simp [runOps]⟩
  | cons op rest ih =>
    intro s v
    obtain ⟨h1, h2⟩ := step_inv k hf s v op (hops op (by simp))
    obtain ⟨h3, h4⟩ := ih (fun o ho => hops o (by simp [ho])) (step k s op).1 h1
    simp only [runOps]
    refine ⟨h3, ?_⟩
    intro r hr
    simp only [List.mem_cons] at hr
    cases hr with
    | inl h => rw [h]; exact h2
    | inr h => exact h4 r h

/-- ... in particular for every file `Decoder::new_with_options` accepts, read over any stream from
any position with any memory limit. -/
theorem opened_cursor_ops_trapfree (opts : ParseOptions) (ws : List Nat) (hws : ∀ w ∈ ws, w < U32)
    (o : Opened) (ho : openWords opts ws = .ok o) (e : Env) (pos limit : Nat) (ops : List Reader.Op)
    (hops : ∀ op ∈ ops, op.inC01 = true) :
    ∀ r ∈ (runOps ⟨e, o.fam, o.layout⟩ ⟨SurfIter.new o.layout, pos, limit⟩ ops).2, r ≠ .panic := by
  obtain ⟨_, hfam, _, _, _, _, _, hinv⟩ := (parse_layout_trapfree opts ws hws).2 o ho
  exact (cursor_ops_trapfree ⟨e, o.fam, o.layout⟩ hfam ops hops ⟨SurfIter.new o.layout, pos, limit⟩ hinv).2

/-- **With the two rewinding calls** (`rewind_to_previous_surface`, `rewind_to_start`), which are NOT
in C01's list: they contain `i64::try_from(..).expect("Cannot seek back more than i64::MAX bytes")`, so
they need the extra hypothesis that the data section has at most `i64::MAX` bytes
(`C02.specTotal L ≤ I64MAX`; larger files cannot exist).  Under it `C08.history` gives: no call of ANY
operation list panics (ideal reader; C08's model `Decoder.lean`).  Without it the `expect` is
reachable: see the example below. -/
theorem cursor_ops_with_rewinds_trapfree (opts : ParseOptions) (ws : List Nat) (hws : ∀ w ∈ ws, w < U32)
    (o : Opened) (ho : openWords opts ws = .ok o) (hsmall : C02.specTotal o.layout ≤ I64MAX)
    (ops : List DecOp) : ∀ r ∈ (C08.run (Dec.new o.layout) ops).2, r ≠ .panic := by
  obtain ⟨hwf, _, _, hpx, hl, _, _, _⟩ := (parse_layout_trapfree opts ws hws).2 o ho
  exact (C08.history ops (Dec.new o.layout) ((C08.Fresh.ofHeader hwf hpx hl).dec hsmall)).2

/-! ## 3. decode geometry -/

/-- every `Format` has a row in the decoder table, with admissible unit sizes (positive, `u8`; a
specialised whole-image path only for a colour of exactly the encoded pixel size) equal to the unit
sizes of `PixelInfo::from(format)` — so `get_decoders(format)` and the layout agree on every length. -/
theorem every_format_has_a_decoder (f : C19.Format) :
    ∃ fam, lookupFormat f.name = some fam ∧ fam.WF ∧ C19.formatPixelInfoP f = some fam.px := by
  obtain ⟨fam, h1, h2, h3⟩ := fam_of_format f
  exact ⟨fam, h1, h2, by rw [C19.formatPixelInfoP_eq, h3]⟩

/-- **`decode` / `decode_rect` never reach a panic operation.**  For every decoder family with
admissible unit sizes (by `every_format_has_a_decoder`: every format), every colour format, every call
(full decode of any `w × h`; rect decode of any surface size, offset and rect size, inside or outside
the surface, empty or not), every memory limit, every stream and reader position, every short-read
pattern and allocator behaviour: the result is `ok`, `ioError`, `memLimit` or `rectOutOfBounds` — no
`assert!`, `Ord::clamp`, division (`TARGET_BUFFER_SIZE / bytes_per_line`), `expect` or
`surface_size.width - offset.x - image.width()` fails.  And whenever validation accepts the call (exactly
when the surface has `≤ isize::MAX` encoded bytes and the rect is inside, `C06.validation_accepts_iff`):
all allocations precede the first reader call, the reader operations add up to exactly the surface's
byte length, that length and every allocation request are `≤ isize::MAX < 2^63` (so no `u64`/`usize`
product of the paths wraps or traps). -/
theorem decode_geometry_trapfree {f : Fam} (hf : f.WF) (c : Colour) (call : Call) (e : Env)
    (pats : List (List Nat)) (pos limit : Nat) :
    (run e pats (plan f c call) pos limit).1 ≠ .panic ∧
    ∀ ops, plan f c call = .ok ops →
      allocFirst ops ∧ span ops = call.bytes f ∧ need ops ≤ call.bytes f ∧ call.bytes f ≤ ISIZE_MAX := by
  refine ⟨?_, ?_⟩
  · have h := C06.result_kinds hf c call e pats pos limit
    intro hp
    rw [hp] at h
    simp at h
  · intro ops hplan
    obtain ⟨fa, hb⟩ := plan_facts hf hplan
    exact ⟨fa.af, fa.sp, fa.nd, hb⟩

/-- **All output addresses are inside the view** (per-pixel and block families; from C05).  For every
surface, every rect inside it, every row pitch `≥ w · bytes_per_pixel` (the `View` invariant of C20) and
every conversion setting: each write of the rect decode goes to a row `< h` and to bytes inside
`[row · pitch, row · pitch + w · bpp)`; the full decode is the rect `(0, 0, W, H)`. -/
theorem decode_addresses_in_view :
    (∀ (conv : Bool) (nbpp W ox oy w h : Nat), 0 < Addr.BUFFER_BYTES / nbpp → 0 < w → ox + w ≤ W →
      ∀ r ∈ Addr.pixelRect conv nbpp W ox oy w h, ∀ pitch obpp, w * obpp ≤ pitch →
        r.row < h ∧ r.row * pitch ≤ r.byteLo pitch obpp ∧ r.byteHi pitch obpp ≤ r.row * pitch + w * obpp) ∧
    (∀ (p : Addr.Proc) (g : Addr.RectGeom) (fastAt : Nat → Bool) (conv : Bool) (nbpp W H : Nat),
      Addr.RectOk p g conv nbpp → g.ox + g.w ≤ W → g.oy + g.h ≤ H →
      ∀ r ∈ Addr.blockRect p g fastAt conv nbpp, ∀ pitch obpp, g.w * obpp ≤ pitch →
        r.row < g.h ∧ r.row * pitch ≤ r.byteLo pitch obpp ∧ r.byteHi pitch obpp ≤ r.row * pitch + g.w * obpp) := by
  refine ⟨?_, ?_⟩
  · intro conv nbpp W ox oy w h hb hw hx r hr pitch obpp hp
    exact (C05.rect_eq_crop_pixel conv conv nbpp nbpp W (oy + h) ox oy w h hb hb hw hx (Nat.le_refl _)).2.2
      r hr pitch obpp hp
  · intro p g fastAt conv nbpp W H ok hx hy r hr pitch obpp hp
    exact (C05.rect_eq_crop_block p g fastAt fastAt conv false nbpp nbpp W H ok (by intro h; cases h) hx hy).2.2.1
      r hr pitch obpp hp

/-- **Bi-planar family: every address inside the view, every sample inside its plane.**  For every
bi-planar family the format table could hold (`Fam.WF`: sub-sampling `1 ≤ sx, sy ≤ 15`; shipped `(2, 2)`),
every native pixel size `1..16` bytes, conversion on or off, every surface `W × H` and every rectangle
inside it: each write of `for_each_bi_planar_rect` goes to a row `< h` and to bytes inside
`[row·pitch, row·pitch + w·bpp)` for every pitch `≥ w·bpp` (`get_row(y - offset.y)` and the chunk slicing of
`process_bi_planar` never leave the row), every luma sample read is `(x < W, y < H)` and every chroma sample
`(x < div_ceil(W, sx), y < div_ceil(H, sy))` (the `plane1` / `uv_line` slices are long enough), and
`step_by(preferred_chunk_size)` is never called with 0; the same for the full decode `for_each_bi_planar`.
(From `C05.rect_eq_crop_planar`, which assembles the `y_offset` loops and the conversion chunks.) -/
theorem decode_addresses_planar (e1 e2 sx sy : Nat) (hf : (Fam.biPlanar e1 e2 sx sy).WF) (conv : Bool)
    (nbpp : Nat) (hn : 0 < nbpp) (hn16 : nbpp ≤ 16) (W H ox oy w h : Nat) (hx : ox + w ≤ W) (hy : oy + h ≤ H) :
    0 < Addr.roundDown (Addr.BUFFER_BYTES / nbpp) sx ∧
    (∀ r ∈ Addr.planarRect conv nbpp ⟨sx, sy, H, ox, oy, w, h⟩,
      (∀ pitch obpp, w * obpp ≤ pitch →
        r.row < h ∧ r.row * pitch ≤ r.byteLo pitch obpp ∧ r.byteHi pitch obpp ≤ r.row * pitch + w * obpp) ∧
      r.ly < H ∧ r.cy < divCeil H sy ∧
      ∀ t, t < r.n → r.lx + t < W ∧ r.cx + (r.px + t) / sx < divCeil W sx) ∧
    (∀ r ∈ Addr.planarFull conv nbpp sx sy W H,
      (∀ pitch obpp, W * obpp ≤ pitch →
        r.row < H ∧ r.row * pitch ≤ r.byteLo pitch obpp ∧ r.byteHi pitch obpp ≤ r.row * pitch + W * obpp) ∧
      r.ly < H ∧ r.cy < divCeil H sy ∧
      ∀ t, t < r.n → r.lx + t < W ∧ r.cx + (r.px + t) / sx < divCeil W sx) := by
  obtain ⟨_, _, _, _, hsx, hsx16, hsy, _⟩ := hf
  have hbuf : sx ≤ Addr.BUFFER_BYTES / nbpp := by
    rw [Nat.le_div_iff_mul_le hn]
    have : sx * nbpp ≤ 15 * 16 := Nat.mul_le_mul (by omega) hn16
    have : 240 ≤ Addr.BUFFER_BYTES := by decide
    omega
  have ok : Addr.PlOk sx sy conv nbpp := ⟨hsx, hsy, fun _ => hbuf⟩
  -- the full decode is the rectangle `(0, 0, W, H)` (`planarFull_eq_rect`): one argument serves both
  have rect := fun ox oy w h (hx : ox + w ≤ W) (hy : oy + h ≤ H) r hr =>
    have c := C05.rect_eq_crop_planar ⟨sx, sy, H, ox, oy, w, h⟩ conv conv nbpp nbpp W ok ok hx hy
    And.intro (c.2.2.1 r hr) (c.2.2.2 r hr).2
  exact ⟨(Addr.roundDown_props hsx hbuf).1, rect ox oy w h hx hy, fun r hr =>
    rect 0 0 W H (Nat.le_of_eq (Nat.zero_add W)) (Nat.le_of_eq (Nat.zero_add H)) r (Addr.planarFull_eq_rect .. ▸ hr)⟩

example : (Fam.biPlanar 1 2 2 2).WF ∧ (0 : Nat) < 4 ∧ (4 : Nat) ≤ 16 ∧ (1 : Nat) + 3 ≤ 5 ∧ (1 : Nat) + 2 ≤ 3 := by decide

/-! ## 4. truncated data and reader errors -/

/-- **A full decode of a truncated surface ends in an I/O error.**  If the first offset the stream
cannot deliver (`Env.lim`: its end, a hard error, or an early `Ok(0)`) lies inside the surface that
starts at the reader position, then — whenever validation and the memory limit let the decode start —
the result is `ioError`: never `ok`, never a panic, for either `seek` behaviour (a full decode never
seeks) and every short-read pattern. -/
theorem truncated_is_io_error {f : Fam} (hf : f.WF) (c : Colour) (w h : Nat) {ops : List Stream.Op}
    (hplan : plan f c (.full w h) = .ok ops) (e : Env) (pats : List (List Nat)) (pos limit : Nat)
    (hgrant : C06.AllocatorGrants e) (hlimit : need ops ≤ limit)
    (h1 : pos ≤ e.lim) (h2 : e.lim < pos + (Call.full w h).bytes f) :
    (run e pats (plan f c (.full w h)) pos limit).1 = .ioError := by
  obtain ⟨fa, _⟩ := plan_facts hf hplan
  have hns : noSkip ops := by
    simp only [plan] at hplan
    split at hplan
    · cases hplan
    · split at hplan
      · simp only [Except.ok.injEq] at hplan; subst hplan; trivial
      · simp only [Except.ok.injEq] at hplan; subst hplan; exact noSkip_fullOps f c w h
  rw [hplan]; simp only [run]
  exact interp_short e hgrant ops pats { pos := pos, budget := limit } (allocFirst_noPanic fa.af) hns
    hlimit h1 (by rw [fa.sp]; exact h2)

/-- **Any call during which the reader reports an error ends in an I/O error** (full and rect
decodes): a hard reader error at any offset inside the surface — in a read, a buffer refill, a leading
or trailing skip — is returned as `ioError` (`C06.io_error_propagates`). -/
theorem fault_is_io_error {f : Fam} (hf : f.WF) (c : Colour) (call : Call) {ops : List Stream.Op}
    (hplan : plan f c call = .ok ops) (e : Env) (pats : List (List Nat)) (pos limit k : Nat)
    (hgrant : C06.AllocatorGrants e) (hlimit : need ops ≤ limit) (hfault : e.fault = some k)
    (hU : pos + call.bytes f < U64) (h1 : pos ≤ k) (h2 : k < pos + call.bytes f) :
    (run e pats (plan f c call) pos limit).1 = .ioError :=
  C06.io_error_propagates hf c call hplan e pats pos limit k hgrant hlimit hfault hU h1 h2

/-- **Never invented pixel data**: a full decode that returns `ok` found every byte of the surface —
the readable part of the stream reaches at least to the end of the surface. -/
theorem no_success_on_short_stream {f : Fam} (hf : f.WF) (c : Colour) (w h : Nat) {ops : List Stream.Op}
    (hplan : plan f c (.full w h) = .ok ops) (e : Env) (pats : List (List Nat)) (pos limit : Nat)
    (hgrant : C06.AllocatorGrants e) (hlimit : need ops ≤ limit) (h1 : pos ≤ e.lim)
    (hok : (run e pats (plan f c (.full w h)) pos limit).1 = .ok) :
    pos + (Call.full w h).bytes f ≤ e.lim := by
  apply Nat.le_of_not_lt
  intro hlt
  have := truncated_is_io_error hf c w h hplan e pats pos limit hgrant hlimit h1 hlt
  rw [this] at hok
  cases hok

/-! ## non-vacuity -/

/-- the word image of a 16×16 BC1 cube map (`Header::write`) -/
def exWords : List Nat := Header.write pixelInfoOf C09.exHeader

/-- it is a stream of `u32`s, `new_with_options` accepts it, and the layout has 6 · 128 bytes -/
example : (∀ w ∈ exWords, w < U32) ∧
    (match openWords {} exWords with
     | .ok o => (o.format.name, o.layout.dataLenP, o.fam)
     | .error _ => ("", none, .pixel 0 none)) = ("BC1_UNORM", some 768, .block 4 4 8) := by
  decide +kernel

/-- a hostile header is rejected with a library error: width 0 -/
example : (match openWords {} (exWords.set 4 0) with
     | .error (.layout e) => some e
     | _ => none) = some .zeroDimension := by decide +kernel

/-- a truncated header is an I/O error, not a panic -/
example : (match openWords {} (exWords.take 30) with
     | .error (.header e) => some e
     | _ => none) = some .io := by decide +kernel

/-- the cursor operations on it over a stream that ends inside the 2nd face: the first face is read,
the second read ends in an I/O error, skipping still works (a `Cursor` seeks past the end) -/
example :
    (match openWords {} exWords with
     | .ok o => (runOps ⟨{ len := 148 + 200 }, o.fam, o.layout⟩ ⟨SurfIter.new o.layout, 148, 1000000⟩
         [.read 16 16 (3, 0), .read 16 16 (3, 0), .skipSurface, .rect 0 0 4 4 (0, 2), .cube 64 48 (3, 0)]).2
     | .error _ => []) = [.ok, .io, .ok, .io, .io] := by
  decide +kernel

/-- the hypotheses of `truncated_is_io_error` are satisfiable: BC1 16×16 (128 bytes), 100 available -/
example : ∃ ops, plan (.block 4 4 8) (3, 0) (.full 16 16) = .ok ops ∧ need ops ≤ 1000 ∧
    (0 : Nat) ≤ ({ len := 100 } : Env).lim ∧
    ({ len := 100 } : Env).lim < 0 + (Call.full 16 16).bytes (.block 4 4 8) := by
  refine ⟨_, rfl, ?_, ?_, ?_⟩ <;> decide

/-- the `expect` of the rewinding calls IS reachable without the `i64::MAX` hypothesis: a volume of
2^31 × 2^31 × 3 one-byte pixels (12 · 2^60 bytes), cursor moved past 2^63 bytes by three skips -/
example :
    let hd : LayoutHeader := { width := 2147483648, height := 2147483648, depth := some 3, mipmapCount := 1,
                               kind := .dx10 false .tex3D 1 }
    (match layoutOf hd (.fixed 1) with
     | some (.ok L) =>
       (C08.run (Dec.new L) [.skipSurface, .skipSurface, .skipSurface, .rewindStart]).2
     | _ => []) = [.ok, .ok, .ok, .panic] := by
  decide +kernel

/-! ## 5. the composed reader over a REAL stream refines C08's ideal cursor

`Decoder.lean` (C08) models the `Decoder` calls over an ideal reader (position arithmetic only, the
stream contract of `decode` assumed); `Reader.lean` composes the same calls over an arbitrary `Stream.Env`
(short, faulty, early `Ok(0)`, either `seek` behaviour, any allocator).  This section links the two:
whatever the stream does, a call of the composed reader either ends in an I/O error / the memory limit
— and then the stream or the limit is to blame — or it does exactly what the ideal cursor does.
Vocabulary (`Proofs/ReaderRefines*.lean`): `Cfg.Agrees`, `Sim`, `idealStep`, `ofDecRes`, `opNeed`,
`Intact`, `Covered`, `weave`. -/

/-- **The length the iterator reports is the number of bytes `decode` / `decode_rect` / `skip` consume.**
For every family that agrees with the layout (`Cfg.Agrees`; by `every_format_has_a_decoder` and
`opened_agrees` every row of the format table and every opened file) and every iterator state of that
layout: `SurfaceInfo::data_len` of the current surface is `Call.bytes` of the full decode and of every
rect decode of that surface (the quantity `C06.success_consumes_exactly`, `C06.trace_covers_surface`
speak about). -/
theorem reported_len_is_consumed_bytes (k : Cfg) (hk : k.Agrees) (it : SurfIter) (v : C08.IterInv it)
    (hpx : iterPx it = k.layout.px) (cur : SurfInfo) (hc : it.currentP = some (some cur)) :
    cur.len = (Call.full cur.w cur.h).bytes k.fam ∧
    ∀ x y w h, cur.len = (Call.rect cur.w cur.h x y w h).bytes k.fam := by
  have h := current_len it v hc
  rw [hpx, ← hk.2] at h
  exact ⟨h, fun _ _ _ _ => h⟩

/-- **Every file `Decoder::new_with_options` accepts satisfies the agreement predicate**, over any
stream: the decoder family has admissible unit sizes and the unit sizes of the layout's `PixelInfo`. -/
theorem opened_agrees (opts : ParseOptions) (ws : List Nat) (hws : ∀ w ∈ ws, w < U32)
    (o : Opened) (ho : openWords opts ws = .ok o) (e : Env) : (⟨e, o.fam, o.layout⟩ : Cfg).Agrees := by
  obtain ⟨hwf, hfam, hfpx, hpx, hl, _, _, _⟩ := (parse_layout_trapfree opts ws hws).2 o ho
  exact ⟨hfam, hfpx.trans (C08.Fresh.ofHeader hwf hpx hl).px.symm⟩

/-- ... also when opened from a byte string -/
theorem opened_bytes_agrees (opts : ParseOptions) (bs : List Nat) (hbs : ∀ b ∈ bs, b < 256)
    (o : Opened) (ho : openBytes opts bs = .ok o) (e : Env) : (⟨e, o.fam, o.layout⟩ : Cfg).Agrees :=
  opened_agrees opts (leWords bs) (leWords_lt bs.length bs (Nat.le_refl _) hbs) o ho e

/-- **One call of the composed reader refines the ideal cursor.**  For every configuration whose family
agrees with the layout, every pair of related states (`Sim`: same iterator state, reader position =
`base` + ideal position, and the invariants of the ideal state), every stream, every memory limit and
every operation of C01's list — with NO hypothesis on the size of the data section — and for the two
rewinding calls under C08's invariant (data section `≤ i64::MAX` bytes) on a reader whose clamping
`seek`, if it clamps, is not positioned beyond the end:
1. a result other than an I/O error and the memory limit is the ideal decoder's result, and the states
   are related again (in particular the reader moved by exactly the bytes the ideal cursor moved);
2. an I/O error is returned only if the first offset the stream cannot deliver (`Env.lim`: end of
   file, hard error, early `Ok(0)`, refused seek) lies before the end of the bytes the call touches, or
   the call has to skip more than `i64::MAX` bytes;
3. the memory limit is returned only if the limit is below the need of the call, or the allocator
   refused, or the surface has more than `isize::MAX` bytes — and then the ideal decoder returns the
   same error and the states stay related. -/
theorem reader_refines_cursor (k : Cfg) (hk : k.Agrees) (base : Nat) (s : RS) (d : Dec)
    (h : Sim k base s d) (op : Reader.Op)
    (hback : op.inC01 = false → C08.DecInv d ∧ (k.env.clampSeek = true → s.pos ≤ k.env.len)) :
    ((step k s op).2 ≠ .io → (step k s op).2 ≠ .memoryLimitExceeded →
      (step k s op).2 = ofDecRes (idealStep d op).2 ∧ Sim k base (step k s op).1 (idealStep d op).1) ∧
    ((step k s op).2 = .io → k.env.len < U64 →
      (k.env.lim : Int) < base + max d.pos (idealStep d op).1.pos ∨
      (I64MAX : Int) < (idealStep d op).1.pos - d.pos) ∧
    ((step k s op).2 = .memoryLimitExceeded →
      s.limit < opNeed k s op ∨ ¬ C06.AllocatorGrants k.env ∨
      ((idealStep d op).2 = .memoryLimitExceeded ∧ Sim k base (step k s op).1 (idealStep d op).1 ∧
        I64MAX < C08.total d.iter)) :=
  step_clauses hk h op hback

/-- a reader at the first data byte and a fresh ideal decoder are related -/
theorem fresh_states_related (k : Cfg) (base limit : Nat) (hi : C08.IterInv (SurfIter.new k.layout))
    (hu : base + C08.total (SurfIter.new k.layout) < U64) :
    Sim k base ⟨SurfIter.new k.layout, base, limit⟩ (Dec.new k.layout) := Sim.new limit hi hu

/-- **Whole call sequences on an intact stream.**  If the stream delivers the whole data section
(`Intact`: `u64` offsets, no end / error / early `Ok(0)` before `base + data length`, allocator willing)
and the memory limit in force covers the need of every call (`Covered`), then for every operation list
(no length bound; all eight operations, the limit may change inside the list): the results of
`Reader.runOps` are the results of C08's `run` on the ideal decoder (with `ok` for each change of the
limit), the final states are related, C08's invariant holds for the ideal state, and no call returned
an I/O error, the memory limit or a panic. -/
theorem runOps_refines_run (k : Cfg) (hk : k.Agrees) (base : Nat) (hin : Intact k base) (s : RS) (d : Dec)
    (h : Sim k base s d) (hinv : C08.DecInv d) (ops : List Reader.Op) (hcov : Covered k s ops) :
    (runOps k s ops).2 = weave ops (C08.run d (ops.filterMap toDecOp)).2 ∧
    Sim k base (runOps k s ops).1 (C08.run d (ops.filterMap toDecOp)).1 ∧
    C08.DecInv (C08.run d (ops.filterMap toDecOp)).1 ∧
    ∀ r ∈ (runOps k s ops).2, r ≠ .io ∧ r ≠ .memoryLimitExceeded ∧ r ≠ .panic :=
  runOps_sim hk hin ops s d h hinv hcov

/-- **C08's theorems transfer to the stream model: the reader position is the cursor offset.**  Under
the hypotheses of `runOps_refines_run`, after EVERY prefix of the operation list the absolute reader
position of the composed reader is `base` + the offset of the surface the decoder reports as next in
C02's flattened surface list (`C08.history` / `C08.DecInv.pos`, `C08.tex_current_is_flat`,
`C08.vol_current_is_flat`), and `base` + the data length once every surface has been consumed
(`C08.end_position`); the iterator walks the flattened list of the layout. -/
theorem reader_position_is_cursor_offset (k : Cfg) (hk : k.Agrees) (base : Nat) (hin : Intact k base)
    (s : RS) (d : Dec) (h : Sim k base s d) (hinv : C08.DecInv d) (ops : List Reader.Op)
    (hcov : Covered k s ops) (n : Nat) :
    (runOps k s (ops.take n)).1.iter = (C08.run d ((ops.take n).filterMap toDecOp)).1.iter ∧
    (runOps k s (ops.take n)).1.pos = base + C08.elapsed (runOps k s (ops.take n)).1.iter ∧
    C08.flat (runOps k s (ops.take n)).1.iter = C08.flat (SurfIter.new k.layout) ∧
    (C08.abs (runOps k s (ops.take n)).1.iter < C08.count (runOps k s (ops.take n)).1.iter →
      ∃ surf, (C08.flat (runOps k s (ops.take n)).1.iter)[C08.abs (runOps k s (ops.take n)).1.iter]? = some surf ∧
        (runOps k s (ops.take n)).1.pos = base + surf.offset) ∧
    (C08.abs (runOps k s (ops.take n)).1.iter = C08.count (runOps k s (ops.take n)).1.iter →
      (runOps k s (ops.take n)).1.pos = base + C08.total (SurfIter.new k.layout)) := by
  obtain ⟨_, hs, hv, _⟩ := runOps_sim hk hin (ops.take n) s d h hinv (Covered.take ops s n hcov)
  generalize runOps k s (ops.take n) = rn at hs ⊢
  generalize C08.run d ((ops.take n).filterMap toDecOp) = dn at hs hv ⊢
  have hpos : rn.1.pos = base + C08.elapsed rn.1.iter := by
    have h1 := hs.pos
    have h2 := hs.cpos
    rw [hs.iter]; omega
  have hflat : C08.flat rn.1.iter = C08.flat (SurfIter.new k.layout) := by
    rw [hs.iter, ← hs.layout]; exact hv.flat_eq.symm
  refine ⟨hs.iter, hpos, hflat, ?_, ?_⟩
  · intro hlt
    obtain ⟨surf, h1, h2⟩ := current_is_flat rn.1.iter (by rw [hs.iter]; exact hs.inv) hlt
    exact ⟨surf, h1, by rw [h2]; exact hpos⟩
  · intro hend
    have he := C08.end_position dn.1 hv (by rw [← hs.iter]; exact hend)
    have h1 := hs.pos
    have ht : C08.total (SurfIter.new k.layout) = C08.total dn.1.iter := by
      rw [← hs.layout]; exact hv.total_eq
    rw [ht]; omega

/-- **... for every file `Decoder::new_with_options` accepts** whose data section has at most `i64::MAX`
bytes, read from a reader positioned at the first data byte `base` of a stream that delivers the data
section: every list of `Decoder` calls gives the results of C08's ideal decoder, and after every prefix
the reader position is `base` + the offset, in C02's specification list `C02.specFlatten` of the
layout, of the surface the decoder reports as next (`base + C02.specTotal` at the end). -/
theorem opened_reader_position_is_layout_offset (opts : ParseOptions) (ws : List Nat)
    (hws : ∀ w ∈ ws, w < U32) (o : Opened) (ho : openWords opts ws = .ok o)
    (hsmall : C02.specTotal o.layout ≤ I64MAX) (e : Env) (base limit : Nat) (hlen : e.len < U64)
    (hfits : base + C02.specTotal o.layout ≤ e.lim) (hgrant : C06.AllocatorGrants e)
    (ops : List Reader.Op)
    (hcov : Covered ⟨e, o.fam, o.layout⟩ ⟨SurfIter.new o.layout, base, limit⟩ ops) (n : Nat) :
    (runOps ⟨e, o.fam, o.layout⟩ ⟨SurfIter.new o.layout, base, limit⟩ ops).2 =
      weave ops (C08.run (Dec.new o.layout) (ops.filterMap toDecOp)).2 ∧
    (∀ r ∈ (runOps ⟨e, o.fam, o.layout⟩ ⟨SurfIter.new o.layout, base, limit⟩ ops).2,
      r ≠ .io ∧ r ≠ .memoryLimitExceeded ∧ r ≠ .panic) ∧
    (C08.abs (runOps ⟨e, o.fam, o.layout⟩ ⟨SurfIter.new o.layout, base, limit⟩ (ops.take n)).1.iter <
        C08.count (SurfIter.new o.layout) →
      ∃ surf, (C02.specFlatten o.layout)[C08.abs
          (runOps ⟨e, o.fam, o.layout⟩ ⟨SurfIter.new o.layout, base, limit⟩ (ops.take n)).1.iter]? = some surf ∧
        (runOps ⟨e, o.fam, o.layout⟩ ⟨SurfIter.new o.layout, base, limit⟩ (ops.take n)).1.pos =
          base + surf.offset) ∧
    (C08.abs (runOps ⟨e, o.fam, o.layout⟩ ⟨SurfIter.new o.layout, base, limit⟩ (ops.take n)).1.iter =
        C08.count (SurfIter.new o.layout) →
      (runOps ⟨e, o.fam, o.layout⟩ ⟨SurfIter.new o.layout, base, limit⟩ (ops.take n)).1.pos =
        base + C02.specTotal o.layout) := by
  obtain ⟨hwf, _, _, hpx, hl, _, _, hiter⟩ := (parse_layout_trapfree opts ws hws).2 o ho
  have fr := C08.Fresh.ofHeader hwf hpx hl
  have hdinv := fr.dec hsmall
  have hk := opened_agrees opts ws hws o ho e
  have hll := lim_le_len e
  have hin : Intact ⟨e, o.fam, o.layout⟩ base := ⟨hlen, by show base + C08.total _ ≤ e.lim; rw [fr.total]; exact hfits, hgrant⟩
  have hsim : Sim ⟨e, o.fam, o.layout⟩ base ⟨SurfIter.new o.layout, base, limit⟩ (Dec.new o.layout) :=
    Sim.new limit hiter (by show base + C08.total (SurfIter.new o.layout) < U64; rw [fr.total]; omega)
  obtain ⟨r1, _, _, r4⟩ := runOps_refines_run _ hk base hin _ _ hsim hdinv ops hcov
  obtain ⟨_, _, p3, p4, p5⟩ := reader_position_is_cursor_offset _ hk base hin _ _ hsim hdinv ops hcov n
  obtain ⟨_, ps, pv, _⟩ := runOps_sim hk hin (ops.take n) _ _ hsim hdinv (Covered.take ops _ n hcov)
  have hcnt : C08.count (SurfIter.new o.layout) =
      C08.count (runOps ⟨e, o.fam, o.layout⟩ ⟨SurfIter.new o.layout, base, limit⟩ (ops.take n)).1.iter := by
    rw [ps.iter]
    have := pv.count_eq
    rw [ps.layout] at this
    exact this
  refine ⟨r1, r4, ?_, ?_⟩
  · intro hlt
    rw [hcnt] at hlt
    obtain ⟨surf, h1, h2⟩ := p4 hlt
    rw [p3] at h1
    exact ⟨surf, by rw [← fr.flat]; exact h1, h2⟩
  · intro hend
    rw [hcnt] at hend
    have := p5 hend
    rw [← fr.total]; exact this

/-- a 16×16 BC1 cube map with 2 mip levels (6 · (128 + 32) = 960 data bytes behind a 148-byte header) -/
def exHeader2 : Header := .dx10 { Dx10Header.new .cubeMap 16 16 0 71 with mipmapCount := 2 }
def exWords2 : List Nat := Header.write pixelInfoOf exHeader2

/-- non-vacuity of `reader_refines_cursor` / `runOps_refines_run` / `reader_position_is_cursor_offset` /
`opened_reader_position_is_layout_offset`: `exWords2` is accepted; over a stream of exactly
148 + 960 bytes (default allocator: grants) every hypothesis holds — agreement, data `≤ i64::MAX`, `u64`
offsets, the data section delivered (`Intact`), every need covered (`Covered`, with the limit changed
twice inside the list) — for a list with all eight operations; all calls succeed and the reader ends
at the end of the file -/
example :
    (∀ w ∈ exWords2, w < U32) ∧
    (match openWords {} exWords2 with
     | .ok o =>
       let k : Cfg := ⟨{ len := 148 + 960 }, o.fam, o.layout⟩
       let s : RS := ⟨SurfIter.new o.layout, 148, 1000⟩
       let ops : List Reader.Op := [.read 16 16 (3, 0), .skipMipmaps, .setLimit 64, .rect 4 4 8 8 (0, 2),
         .rewindPrev, .skipSurface, .skipSurface, .rewindStart, .setLimit 128, .cube 64 48 (3, 0)]
       decide k.Agrees && decide (C02.specTotal o.layout ≤ I64MAX) && decide (k.env.len < U64) &&
       decide (148 + C02.specTotal o.layout ≤ k.env.lim) &&
       decide (148 + C08.total (SurfIter.new k.layout) ≤ k.env.lim) &&
       decide (Covered k s ops) &&
       decide ((runOps k s ops).2 = [.ok, .ok, .ok, .ok, .ok, .ok, .ok, .ok, .ok, .ok]) &&
       decide ((runOps k s ops).1.pos = 148 + 960)
     | .error _ => false) = true := by
  decide +kernel

/-- the default allocator grants -/
example : C06.AllocatorGrants { len := 148 + 960 } := fun _ => rfl

/-- the clauses 2 and 3 of `reader_refines_cursor` are not vacuous: the same file over a stream that ends
inside the first surface gives an I/O error, and a limit of 127 bytes (need 128) the memory limit -/
example :
    (match openWords {} exWords2 with
     | .ok o =>
       ((step ⟨{ len := 148 + 100 }, o.fam, o.layout⟩ ⟨SurfIter.new o.layout, 148, 1000⟩ (.read 16 16 (3, 0))).2,
        (step ⟨{ len := 148 + 960 }, o.fam, o.layout⟩ ⟨SurfIter.new o.layout, 148, 127⟩ (.read 16 16 (3, 0))).2,
        opNeed ⟨{ len := 148 + 960 }, o.fam, o.layout⟩ ⟨SurfIter.new o.layout, 148, 127⟩ (.read 16 16 (3, 0)))
     | .error _ => (.ok, .ok, 0)) = (.io, .memoryLimitExceeded, 128) := by
  decide +kernel

/-! ## 6. The per-block / per-pixel codec bodies do not panic

`Trap*.lean` are *trapping mirrors* of the codec bodies: the same functions as the value models of C03 / C03x /
C04 (`Bc.lean`, `Bc7.lean`, `Bc6.lean`, `Conv.lean`, `Uncompressed.lean`), written with the operators of
`Trap.lean`, which return `none` wherever Rust panics in the `checked` build profile (overflow-checks +
debug-assertions): `+ - *` leaving the integer type, a shift by ≥ the bit width, a run-time index out of range,
a division by zero, a failing `debug_assert!` / `unreachable!()`.  Each theorem says: for EVERY block / encoded
pixel the mirror returns `some v`, and `v` is exactly what the wrapping (release) model computes.  So no panic
site of the body is reachable, and checked and release arithmetic agree. -/

/-- **BC1–BC5 bodies** (`src/decode/bc.rs` `mod blocks` + the `formats.rs` conversions they call): the 13
decoders `BC1_UNORM`, `BC2_UNORM` (RGBA, RGB), `BC2_UNORM_PREMULTIPLIED_ALPHA`, `BC3_UNORM` (RGBA, RGB),
`BC3_UNORM_PREMULTIPLIED_ALPHA`, `BC3_UNORM_RXGB`, `BC3_UNORM_NORMAL`, `BC4_UNORM`, `BC4_SNORM`, `BC5_UNORM`,
`BC5_SNORM` at U8, U16 and F32.  For every block (any 8 / 16 bytes): no `u8`/`u16`/`u32` operation overflows
(`x * 17`, `x as u16 * 2108 + 92`, `(self.r5 * 2 + color.r5) * 351 + 61`, `g as u32 * 2763 + 1039`,
`c0_u16 * 6 + c1_u16`, `interpolation as u32 * 2406112 + 28064`, `*channel as u16 * 255`, `x as u16 * 257`, …),
every `debug_assert!` holds (`x <= 15/31/63`, `interpolation <= 1785/1275/1778/1270`), every palette / pixel
index is in range (`lut[index as usize]`, `alpha_bytes[i * 2 + 1]`, `pixels[i * 4 + j]`), every shift amount is
below the width (`indexes >> (i * 2)`, `>> (j * 3)`), the divisor of `to_straight_alpha` is non-zero — and the
16 pixels are those of `Bc.decodeBlock`. -/
theorem bc1to5_bodies_trapfree (f : Bc.Fmt) (pr : Bc.Prec) (blk : Nat → Nat) (hb : ∀ i, blk i < 256) :
    TrapBc.blockT f pr blk = some (Bc.decodeBlock f pr blk) :=
  TrapBc.blockT_eq f pr blk hb

/-- non-vacuity: concrete blocks through the mirror (BC1 in three-colour mode with a transparent pixel at
U16, a premultiplied BC3 block with alpha 0 at U8, a BC5_SNORM block with endpoints −128 / 127 at U16);
the mirror is not constantly `some`: an out-of-range 5-bit field makes `n5::n8`'s `debug_assert!` fail,
a 300 "byte" makes `x as u16 * 257` overflow -/
example :
    let b1 : Nat → Nat := fun i => [0x34, 0x12, 0x78, 0x56, 0xE4, 0x1B, 0xFF, 0x00].getD i 0
    let b3 : Nat → Nat := fun i =>
      [0x00, 0xFF, 0x88, 0xC6, 0xFA, 0x53, 0x97, 0x1F, 0xFF, 0xFF, 0x00, 0x00, 0xE4, 0x1B, 0x4E, 0xB1].getD i 0
    let b5 : Nat → Nat := fun i =>
      [0x80, 0x7F, 0x88, 0xC6, 0xFA, 0x53, 0x97, 0x1F, 0x7F, 0x80, 0x00, 0x11, 0x22, 0x33, 0x44, 0x55].getD i 0
    (TrapBc.blockT .bc1 .u16 b1).map (·.take 4) =
      some [[4112, 17733, 42405, 65535], [21074, 52942, 50629, 65535], [12593, 35466, 46517, 65535], [0, 0, 0, 0]] ∧
    (TrapBc.blockT .bc3p .u8 b3).map (·.take 4) =
      some [[255, 255, 255, 0], [0, 0, 0, 255], [255, 255, 255, 51], [212, 212, 212, 102]] ∧
    (TrapBc.blockT .bc5s .u16 b5).map (·.take 4) =
      some [[0, 65535, 32768], [65535, 65535, 32768], [13107, 37449, 32768], [26214, 65535, 32768]] ∧
    TrapBc.blockT .bc1 .u16 b1 = some (Bc.decodeBlock .bc1 .u16 b1) ∧
    TrapBc.n5n8T 32 = none ∧ TrapBc.n8n16T 300 = none := by
  decide +kernel

/-- **BC7 body** (`src/decode/bc7.rs` in full, `BitStream` / `Indexes` of `bcn_util.rs`, `get_subset_index` of
`bcn_data.rs`).  For EVERY block (any `Nat`, in particular every 128-bit value; modes 0–7 and the reserved mode):
every shift amount is below the width (`state >>= n` on `u128`, `1_u16 << count`, `(1 << bits) - 1`,
`(1 << keep_count) - 1`, `>>= keep_count`, `<<= keep_count` on `u64`, `number <<= 8 - number_bits` on `u8`),
the `u8` products `16 * bits - k`, `index * bits`, `pixel_index * self.bits`, `mode + 1` do not overflow, every
`debug_assert!` holds (`0 < count <= 8`, `count <= 64`, `bits <= 4`, `0 < p2_fixup < p3_fixup`,
`pixel_index < 16`, `(4..8).contains(&number_bits)`, the `MODE` tests), every table index is in range
(`PARTITION_SET_2/3[partition_set_id]` with 64 entries, `WEIGHTS_2/3/4[index]`, `endpoints[2 * subset_index + 1]`,
`r[i]`, `output[pixel_index]`), no `unreachable!()` is reached, and the `u16` interpolation
`(256 - weight) * e0 + weight * e1 + 128` stays below 65 536 — and the 16 pixels are those of `Bc7.decodeBlock`;
the U16 wrapper (`x as u16 * 257`) does not overflow either. -/
theorem bc7_body_trapfree (b : Nat) :
    TrapBc7.decodeBlockT b = some (Bc7.decodeBlock b) ∧
    ∀ (prec : Nat) (f32of : Nat → Nat), TrapBc7.decodeT prec f32of b =
      some (if prec = 0 then Bc7.decodeBlock b
        else if prec = 1 then (Bc7.decodeBlock b).map (List.map (· * 257))
        else (Bc7.decodeBlock b).map (List.map f32of)) :=
  ⟨TrapBc7.decodeBlockT_eq b, fun prec f => TrapBc7.decodeT_eq prec f b⟩

/-- non-vacuity: one block per mode 0..7 and a reserved-mode block through the mirror (first pixel shown), and
the mirror does trap outside the proved ranges: a weight of 300 underflows `256 - weight`, an index width of 5
shifts a `u64` by 75, `promote(_, 8)` fails its `debug_assert!` -/
example :
    ([0xfedcba98765432100123456789abcde1, 0xfedcba98765432100123456789abcde2, 0xfedcba98765432100123456789abcde4,
      0xfedcba98765432100123456789abcde8, 0xfedcba98765432100123456789abcd10, 0xfedcba98765432100123456789abcd20,
      0xfedcba98765432100123456789abcd40, 0xfedcba98765432100123456789abcd80,
      0xfedcba98765432100123456789abcd00].map fun b => (TrapBc7.decodeBlockT b).map (·.take 1)) =
    [some [[211, 162, 112, 255]], some [[71, 147, 3, 255]], some [[73, 109, 121, 255]], some [[231, 43, 9, 255]],
     some [[107, 82, 198, 120]], some [[155, 76, 173, 72]], some [[52, 154, 88, 34]], some [[125, 207, 36, 101]],
     some [[0, 0, 0, 0]]] ∧
    TrapBc7.lerpT 255 255 300 = none ∧ TrapBc7.getIndexT ⟨0, 5, 31⟩ 15 = none ∧ TrapBc7.promoteT 3 8 = none := by
  decide +kernel

/-- **BC6H body, whole block** (`src/decode/bc6.rs` in full, `consume_bits_32` / `consume_bits_rev`, the `Indexes`
of BC7, and the six decoders `bc6_{s,u}_{u8,u16,f32}` of `bc.rs` with `fp16::*` / `bc6h_uf16::*` / `two_powi`).
For EVERY block, both formats (`signed = true`: `BC6H_SF16`), all three precisions (0 = U8, 1 = U16, 2 = F32):
* header: the `unreachable!()` arms of `extract_mode` are not reached, every `consume!` of the ten two-region
  sequences and the reads of the four one-region modes satisfy `0 < count <= 31` resp. `count <= 8`, the `u8`
  subtractions `20 - a0_bit_count`, `a0_bit_count - 10`, `8 - count`, `32 - bit_count` do not underflow,
  `partition < 32` indexes the 64-entry table, the fix-up index satisfies `0 < p2_fixup`;
* endpoints: all three `debug_assert!`s of `sign_extend` hold at each of its calls (in particular
  `x & !((1 << bit_count) - 1) == 0`: the raw fields are below `2^width` by `C03x.bc6_extract_eq_fields`, the
  transformed ones are masked), `(1 << a_bit_count) - 1` does not overflow;
* `unquantize`, the interpolation `a * (64 - w) + b * w + 32` and `finish_unquantize`: no `i32` operation
  overflows (`+`, `*`, unary `-`), every shift amount is below 32;
* `palette[index]` (16 entries) and `palette[subset_index][index]` (2 × 8) are in range;
* conversion: for `BC6H_UF16` every decoded half is `< 0x7C00`, so both `debug_assert!`s of `bc6h_uf16::{n8,n16,f32}`
  hold; `exp as i8 - 25` stays in `i8`, `two_powi`'s `debug_assert!(-126 <= exponent)` holds;
and the result is the wrapping model's block `Bc6.decodeBlock` with the model's conversion applied per channel.
(The mirror traps on `i32 <<` only for amounts ≥ 32, as Rust does; `C03x.bc6_no_i32_overflow` is the stronger
statement that those shifts lose no bits either.) -/
theorem bc6_body_trapfree (signed : Bool) (b : Nat) :
    TrapBc6.decodeBlockT signed b = some (Bc6.decodeBlock signed b) ∧
    (signed = false → ∀ px ∈ Bc6.decodeBlock signed b, ∀ v ∈ px, v < 0x7C00) ∧
    ∀ prec, TrapBc6.decodeT signed prec b =
      some ((Bc6.decodeBlock signed b).map (List.map (TrapBc6.conv signed prec))) :=
  ⟨(TrapBc6.decodeBlockT_eq signed b).1, (TrapBc6.decodeBlockT_eq signed b).2,
   fun prec => TrapBc6.decodeT_eq signed prec b⟩

/-- non-vacuity: a two-region block (mode 01100-style code `…ec`) as `BC6H_UF16`, a one-region block (`…03`) as
`BC6H_SF16` through block decode and conversion, a reserved code; and the mirror traps outside the proved ranges:
`bc6h_uf16::n8(0x7C00)` (Inf) and `(0x8001)` (negative) fail their `debug_assert!`s, `sign_extend(64, 6)` fails its
bit-pattern assert, `-(i32::MIN)` and `i32::MAX * 64` overflow -/
example :
    (TrapBc6.decodeBlockT false 0x00000000000000000123456789abcdec).map (·.take 3) =
      some [[19328, 26520, 29899], [19328, 26520, 29899], [19328, 26086, 29403]] ∧
    (TrapBc6.decodeBlockT true 0x0123456789abcdef0011223344556603).map (·.take 3) =
      some [[37586, 9611, 33863], [3289, 8652, 60905], [1938, 8812, 56398]] ∧
    (TrapBc6.decodeT true 1 0x0123456789abcdef0011223344556603).map (·.take 3) =
      some [[0, 1419, 0], [19, 742, 0], [8, 822, 0]] ∧
    (TrapBc6.decodeBlockT true 0xfedcba98765432100123456789abcd13).map (·.take 1) = some [[0, 0, 0]] ∧
    TrapBc6.convT false 0 0x7C00 = none ∧ TrapBc6.convT false 0 0x8001 = none ∧
    TrapBc6.signExtendT 64 6 = none ∧ TrapBc6.finishUnquantizeT (-2147483648) true = none ∧
    TrapBc6.paletteEntryT 2147483647 1 0 false = none := by
  decide +kernel

/-- **Uncompressed / packed formats, all 45 rows of C04's table × every precision** (`src/decode/uncompressed.rs`
and the conversion functions of `src/color/formats.rs` it calls; the 7 sub-sampled and 3 bi-planar rows are included:
their per-pixel conversions are the same functions).  For EVERY encoded unit value `word` (no bound: fields are
extracted by shift and mask) and every pixel `p` of the unit, the trapping mirror returns the pixel of the wrapping
model `Unc.decodePx`:
* every `debug_assert!(x <= 1 / 3 / 15 / 31 / 63 / 1023)` of `n1 … n10` holds because the argument is a 1/2/4/5/6/10-bit
  field; no multiply-add overflows its type: `x * 85`, `x * 17` (`u8`), `x as u16 * 21845 / 4369 / 257`,
  `x as u16 * 2108 + 92`, `x as u16 * 1036 + 132`, `x as u32 * 138547200` (31 · 138 547 200 = 2^32 − 4 096),
  `x as u32 * 68173056 + 30976`, `x as u32 * 16336 + 32656`, `x as u32 * 4198340 + 32660`, `x as u32 * 255 + 32895`,
  SNORM `x as u16 * 258 + 2`, `x as u32 * 16909064 + 32520`, `x as u32 * 65282 + 8388354`, `x as u32 * 65538 + 2`;
* XR_BIAS: `x as i16 - 0x180` stays in `i16` because `x` is a 10-bit field (it would NOT for `x = 0x8000`: see the
  example), `(x + 1) >> 1`, `x as u32 * 8421376 + 65535` (510 · 8 421 376 + 65 535 = 2^32 − 1: the last value that fits);
* fp16 / fp11 / fp10 / R9G9B9E5: `exp as i8 - 25 / 21 / 20 / 24` stays in `i8`, `two_powi`'s
  `debug_assert!(-126 <= exponent)` holds, `(exponent as i32 + 127) as u32) << 23` shifts by less than 32,
  `(mant + 7) >> 4`, `(mant + 3) >> 3` stay in `u16`;
* `f32` paths (`n*::f32`, `s*::uf32`, `fp::n8/n16`, the YUV matrices, clamps, `as u8` / `as u16` of floats): no panic site.
`Unc.formats.length = 45`. -/
theorem uncompressed_bodies_trapfree :
    Unc.formats.length = 45 ∧
    ∀ fm ∈ Unc.formats, ∀ prec word p : Nat,
      TrapUnc.decodePxT fm prec word p = some (Unc.decodePx fm prec word p) :=
  ⟨TrapUnc.formats_len, fun fm hfm prec word p =>
    TrapUnc.decodePxT_eq fm (TrapUnc.formats_ok fm hfm) prec word p⟩

/-- non-vacuity: pixels through the mirror (B5G6R5 at U16, XR_BIAS at U16 with the bias value 0x180 → 0,
R10G10B10A2 at U8, R16G16_SNORM at U8 with −32768 / 32767 and the blue default ½); the mirror traps outside the
field ranges: `xr10::n8(0x8000)` overflows `i16`, `n10::n16(1024)` fails its `debug_assert!` -/
example :
    (Unc.findFmt "B5G6R5_UNORM").map (fun fm => TrapUnc.decodePxT fm 1 0xF81F 0) = some (some [65535, 0, 65535]) ∧
    (Unc.findFmt "R10G10B10_XR_BIAS_A2_UNORM").map (fun fm => TrapUnc.decodePxT fm 1 0xBFF00180 0) =
      some (some [0, 0, 65535, 43690]) ∧
    (Unc.findFmt "R10G10B10A2_UNORM").map (fun fm => TrapUnc.decodePxT fm 0 0x7FF003FF 0) =
      some (some [255, 0, 255, 85]) ∧
    (Unc.findFmt "R16G16_SNORM").map (fun fm => TrapUnc.decodePxT fm 0 0x80007FFF 0) = some (some [255, 0, 128]) ∧
    TrapUnc.xr10n8T 0x8000 = none ∧ TrapUnc.n10n16T 1024 = none := by
  decide +kernel

/-- **Sub-sampled and bi-planar units** (`src/decode/sub_sampled.rs`, `bi_planar.rs`): all pixels of one encoded
unit — the 2 pixels of a `R8G8_B8G8` / `G8R8_G8B8` / `YUY2` / `UYVY` / `Y210` / `Y216` block, the 8 pixels of an
`R1_UNORM` byte, a luma sample with its chroma pair for `NV12` / `P010` / `P016` — for every unit value, format row
and precision; `r1_bits` (`out[i] = (bits >> (7 - i)) & 1`: `usize` subtraction, `u8` shift by `7 - i < 8`, index
`i < 8`) never traps; `decode_y210` / `to10` shift by the literal 6; the YUV conversions are float arithmetic with
saturating casts (`Conv.yuvTo`).  (Which unit feeds which output pixel — `process_2x1_blocks_helper`,
`process_8x1_blocks_helper`, `process_bi_planar_helper`, chroma line pairing — is `C01.decode_addresses_in_view` /
`decode_addresses_planar` and C04's pairing theorems.) -/
theorem subsampled_biplanar_bodies_trapfree :
    (∀ bits, TrapUnc.r1BitsT bits = some ((List.range 8).map fun i => (bits >>> (7 - i)) &&& 1)) ∧
    ∀ fm ∈ Unc.formats, ∀ prec word : Nat,
      TrapUnc.unitT fm prec word = some ((List.range fm.pxPerUnit).map (Unc.decodePx fm prec word)) :=
  ⟨TrapUnc.r1BitsT_eq, fun fm hfm prec word => TrapUnc.unitT_eq fm (TrapUnc.formats_ok fm hfm) prec word⟩

/-- non-vacuity: the eight pixels of the `R1_UNORM` byte `0xA5` at U16, and the table contains units of 2 and 8 pixels
and bi-planar rows -/
example :
    (Unc.findFmt "R1_UNORM").map (fun fm => TrapUnc.unitT fm 1 0xA5) =
      some (some [[65535], [0], [65535], [0], [0], [65535], [0], [65535]]) ∧
    (Unc.formats.filter (·.pxPerUnit == 2)).length = 6 ∧ (Unc.formats.filter (·.pxPerUnit == 8)).length = 1 ∧
    (Unc.formats.filter (·.planar.isSome)).length = 3 := by
  decide +kernel

/-- **Channel conversion** (`convert_channels_for` / `convert_channels::<Precision>`, `src/color/mod.rs`, with
`cast::from_bytes` of `src/cast.rs`): for every pair of channel layouts, every precision size (1, 2, 4 bytes) and
every pixel count `n`, on buffers of `n` pixels each — which is what the five call sites of
`read_write.rs:781,840,885,945,986` pass (`buffer_chunk` / `out_chunk` or row slices of `chunk_size` resp. `offset_width` pixels) — the three `debug_assert!`s hold, the
`expect("invalid from buffer")` / `expect("invalid to buffer")` of `cast::from_bytes` succeed (the length is a
multiple of the chunk size; byte arrays have alignment 1), `from_chunked.len() == to_chunked.len()`, and
`copy_from_slice` gets equal lengths.  The per-pixel functions of `ch.rs` only use literal indices into
fixed-size arrays (`Unc.convertChannels`).  `cast.rs` itself: `from_bytes` / `from_bytes_mut` return `Option`, the
`unwrap`s of `as_flattened*` and of `slice_le_to_ne_16/32` are on the big-endian path or on non-ZST arrays and the
`assert!(buf.len() % 2 == 0)` / `% 4` are on buffers of whole `u16` / `u32` / `f32` elements (lengths `n * 2`, `n * 4`). -/
theorem channel_conversion_trapfree (src dst : Unc.Channels) (size n : Nat) (hs : size = 1 ∨ size = 2 ∨ size = 4) :
    TrapUnc.convertChannelsT src dst size (n * (size * TrapUnc.chanCount src)) (n * (size * TrapUnc.chanCount dst)) =
      some () ∧
    (n * 2) % 2 = 0 ∧ (n * 4) % 4 = 0 :=
  ⟨TrapUnc.convertChannelsT_eq src dst size n hs, Nat.mul_mod_left .., Nat.mul_mod_left ..⟩

/-- non-vacuity: RGB → RGBA at U16 on 2 pixels (12 → 16 bytes) passes; mismatched or ragged buffers trap -/
example :
    TrapUnc.convertChannelsT .rgb .rgba 2 12 16 = some () ∧ TrapUnc.convertChannelsT .rgb .rgba 2 12 15 = none ∧
    TrapUnc.convertChannelsT .rgb .rgba 2 12 24 = none ∧ TrapUnc.convertChannelsT .rgba .rgba 4 32 16 = none := by
  decide +kernel

/-- **The pixel-loop wrappers around the bodies** (`process_pixels_helper`, `process_pixels_helper_unroll` of
`src/decode/read_write.rs`, the specialised `B8G8R8A8_UNORM` swap loop of `uncompressed.rs:193`), on the lengths they
are called with (`n` pixels on both sides; the callers' slicing is C05 / `decode_addresses_in_view`): the
`expect("Invalid input buffer")` / `expect("Invalid output buffer")` succeed for any non-empty pixel types and `n`
pixels are processed; the unrolled variant (`UNROLL = 4`, `u16 → u16` and `u16 → f32`: the only two instantiations)
slices inside both buffers, its `usize` products do not overflow and `debug_assert!(encoded.len() == decoded.len())`
holds for the rest; `out.swap(i, i + 2)` stays inside a row of whole RGBA pixels. -/
theorem pixel_loop_wrappers_trapfree :
    (∀ a b n, 0 < a → 0 < b → TrapUnc.processPixelsT a b (n * a) (n * b) = some n) ∧
    (∀ b n, (b = 2 ∨ b = 4) → n < 2 ^ 60 → TrapUnc.processPixelsUnrollT 4 2 b (n * 2) (n * b) = some ()) ∧
    (∀ n, TrapUnc.bgraSwapT (4 * n) = some ()) :=
  ⟨TrapUnc.processPixelsT_eq, TrapUnc.processPixelsUnrollT_eq, TrapUnc.bgraSwapT_eq⟩

/-- non-vacuity: 7 half pixels (one unrolled chunk of 4 + a rest of 3) pass; a ragged input, an output that is too
short for the unrolled chunk, and a BGRA row of 6 bytes trap -/
example :
    TrapUnc.processPixelsUnrollT 4 2 4 14 28 = some () ∧ TrapUnc.processPixelsUnrollT 4 2 4 13 28 = none ∧
    TrapUnc.processPixelsUnrollT 4 2 4 14 12 = none ∧ TrapUnc.processPixelsT 2 4 14 28 = some 7 ∧
    TrapUnc.bgraSwapT 8 = some () ∧ TrapUnc.bgraSwapT 6 = none := by
  decide +kernel

/-! ## 7. The generic decode loops of `read_write.rs` do not panic

`TrapLoops.lean`, `TrapLoopsBlock.lean`, `TrapLoopsPlanar.lean` are trapping mirrors of `UntypedLineBuffer`,
`ChannelConversionBuffer::{process_pixels, process_blocks, process_bi_planar}`, `for_each_pixel(_rect)_untyped`,
`for_each_block(_rect)_untyped` with `general_process_blocks` / `process_4x4/2x1/8x1_blocks_helper` /
`handle_width_offset`, `for_each_bi_planar(_rect)` with `process_bi_planar_helper`, `read_exact_image`, `for_each_slice`
and the row access of `ImageViewMut` (`get_row`, `get_row_range`, `rows_mut`, `is_contiguous`): every `a..b` slice, every
plain `usize` / `u32` / `u8` `+ - *`, every `/` `%` `div_ceil` by a run-time value, `step_by`, `chunks_mut`, every
`expect` / `unwrap` / `assert!` / `debug_assert!` and every index into a block's pixel array is a possible `none`.  A
mirror returns the list of events in program order: reader / allocator operations (the vocabulary of C06's traces) and
written byte ranges.  An I/O error or a memory-limit refusal is an early `return`: the operations executed are a prefix
of the list, so `some` covers those runs too; the `while let Some(line)` loops carry a fuel whose exhaustion is `none`, so
`some` also bounds the number of `next_line` calls by `lines + 1`.

Each theorem: for EVERY view `ImageViewMut` can hold (`Img.Ok` = C20's invariant for non-empty views: `u32` sizes,
pitch ≥ row bytes, data exactly the addressable length, a Rust slice), every surface size `< 2^32` whose encoded length
passed `check_likely_overflow`, every rect inside it, every native / target colour pair of equal precision, every
alignment of the output buffer: the mirror returns `some evs`, the reader / allocator trace of `evs` IS the trace of
C06 / C07's model `Stream.lean` (bytes per refill, skips, allocation sizes), and every written range lies inside
`[row · pitch, row · pitch + w · bpp)` of a row `< h` (C05's address statement, re-derived from the slicing itself). -/

open TrapLoops in
/-- **`UntypedLineBuffer`** (`new`: `TARGET_BUFFER_SIZE / bytes_per_line`, `clamp(1, height)`, the `usize` product;
`next_line`: refill arithmetic, `buf[..buf_filled]`, `buf[current_line_start..line_end]`): for every line length
`1 ≤ bytes_per_line < 2^64`, every line count `≥ 1` and every loop body that returns on every line, the loop
`while let Some(line) = next_line()` hands out exactly `height` lines of `bytes_per_line` bytes, terminates within
`height + 1` calls, and reads exactly C06's refill list. -/
theorem line_buffer_trapfree (bpl height : Nat) (hb : 0 < bpl) (hbl : bpl < TrapLoops.USIZE) (hh : 0 < height) :
    ∃ lb, LB.newT bpl height = some (lb, [TrapLoops.Ev.io (.alloc (Stream.lineBufLen bpl height))]) ∧
      ∀ {σ : Type} (body : σ → Sl → Option (σ × List TrapLoops.Ev)) (Inv : Nat → σ → Prop) (R : Sl → Prop) (st : σ),
        (∀ k st line, k < height → Inv k st → line.buf = .line → line.len = bpl →
          ∃ st' e, body st line = some (st', e) ∧ Inv (k + 1) st' ∧ Quiet R e) → Inv 0 st →
        ∃ evs, whileLinesT body (height + 1) lb st = some evs ∧ ios evs = Stream.refills bpl height ∧ Wr R evs :=
  lineLoop_spec hb hbl hh

/-- non-vacuity, and the seeded change `seeded/C01e` (the lower clamp of the line count dropped: `buf_len =
round_down_to_multiple(TARGET_BUFFER_SIZE, bytes_per_line).min(height * bytes_per_line)`): a 70 000-byte line gets a
one-line buffer and two lines are handed out; with the mutated length (0 bytes) the first `next_line` slices
`buf[0..70000]` out of an empty buffer — the mirror traps. -/
example :
    (TrapLoops.LB.newT 70000 2).map (·.1) = some ⟨70000, 0, 70000, 2, 70000⟩ ∧
    TrapLoops.whileLinesT (fun (_ : Unit) _ => some ((), [])) 3 ⟨70000, 0, 70000, 2, 70000⟩ () =
      some [.io (.read 70000), .io (.read 70000)] ∧
    (SrcConsts.TARGET_BUFFER_SIZE - SrcConsts.TARGET_BUFFER_SIZE % 70000 = 0 ∧
      TrapLoops.whileLinesT (fun (_ : Unit) _ => some ((), [])) 3 ⟨0, 0, 70000, 2, 0⟩ () = none) ∧
    TrapLoops.LB.newT 0 2 = none ∧ TrapLoops.LB.newT 16 0 = none := by
  decide +kernel

open TrapLoops in
/-- **`ChannelConversionBuffer`** (`process_pixels`: `out.len() / bpp`, `encoded.len() / pixels`, `3072 / native_bpp`,
`step_by`, the three chunk slices; `process_blocks`: `3072 / (bpp · height)` `as u32`, the width-offset chunk through the
temporary buffer, `round_down_to_multiple`, `block_offset` / `block_count`, `out[chunk_start · bpp ..][y · pitch ..]`,
the per-row `convert_channels_for`; `process_bi_planar`: the same on two planes) — with or without conversion, for every
row of `1 ≤ n < 2^32` pixels, every block row and rect geometry, every pixel function that fits the pixel sizes.
After repair F17 `process_blocks` needs NO bound on the width beyond `u32`. -/
theorem channel_conversion_buffer_trapfree :
    (∀ (native : Color) (target : Unc.Channels) (f : PxFn) (encSize n : Nat) (enc out : Sl),
      (native.psz = 1 ∨ native.psz = 2 ∨ native.psz = 4) → f.Fits encSize native.bpp → encSize < 256 → 0 < n → n < U32B →
      enc.len = n * encSize → out.len = n * (Color.mk target native.psz).bpp →
      ∃ evs, convPixelsT native target f enc out = some evs ∧ Quiet (WrOK out) evs) ∧
    (∀ (native : Color) (target : Unc.Channels) (p : BlkFn) (bpb : Nat) (enc out : Sl) (rowPitch : Nat) (r : Addr.PRange)
      (al : Sl → Bool), ConvPre native target p bpb enc out rowPitch r →
      ∃ evs, convBlocksT native target p bpb al bpb p.bx enc out rowPitch r = some evs ∧
        Quiet (ConvOK out rowPitch (r.re - r.rs) (r.width * (Color.mk target native.psz).bpp)) evs) ∧
    (∀ (native : Color) (target : Unc.Channels) (ssx p1 p2 : Nat) (plane1 plane2 out : Sl) (offset width : Nat),
      (native.psz = 1 ∨ native.psz = 2 ∨ native.psz = 4) → ssx < 16 → p1 < 16 → p2 < 16 →
      PlPre ssx p1 p2 (Color.mk target native.psz).bpp plane1 plane2 out offset width →
      ∃ evs, convPlanarT native target ssx p1 p2 plane1 plane2 out offset width = some evs ∧ Quiet (WrOK out) evs) :=
  ⟨fun _ _ _ _ _ _ _ hp hf hE hn0 hn he ho => convPixelsT_spec hp hf hE hn0 hn he ho,
   fun _ _ _ _ _ _ _ _ al h => convBlocksT_spec al h,
   fun _ _ _ _ _ _ _ _ _ _ hp hs h1 h2 h => convPlanarT_spec hp hs h1 h2 h⟩

open TrapLoops in
/-- the full-width `R1_UNORM` line of finding F17 (4 294 966 273 pixels, native Grayscale U8 → Alpha U8): the contract
of `process_blocks` holds, so the repaired code does not trap … -/
theorem f17_repaired_returns (al : Sl → Bool) :
    ∃ evs, convBlocksT ⟨.gray, 1⟩ .alpha .eight 1 al 1 8 ⟨.line, 0, 536870785⟩ ⟨.out, 0, 4294966273⟩ 4294966273
      ⟨4294966273, 0, 0, 1⟩ = some evs :=
  have pre : ConvPre ⟨.gray, 1⟩ .alpha .eight 1 ⟨.line, 0, 536870785⟩ ⟨.out, 0, 4294966273⟩ 4294966273
      ⟨4294966273, 0, 0, 1⟩ :=
    { shape := ⟨by decide, by decide, by decide, by decide, by decide, fun _ => rfl, by decide⟩, psz := Or.inl rfl, buf := by decide, wo_lt := by decide, w_ok := Or.inl (by decide),
      wsum_lt := by decide, rows := by decide, re_le := by decide, enc_len := by decide +kernel,
      out_len := by decide +kernel, out_lt := by decide }
  (convBlocksT_spec al pre).imp fun _ h => h.1

open TrapLoops in
/-- … while the line as it was before the repair (`chunk_start + preferred_chunk_size` in plain `u32`) traps in the last
chunk (start 4 294 966 272 = 1 398 101 · 3072): the theorem-level record of F17. The conversion buffer size is a tuning
constant that follows the source (`SrcConsts`); the record is stated for the value it had when F17 was found (`hB`, true
on the unchanged tree) — the general theorem above holds for every value. -/
theorem f17_unrepaired_traps (al : Sl → Bool) (hB : BUFFER_BYTES = 3072) :
    convBlocksUnrepairedT ⟨.gray, 1⟩ .alpha .eight 1 al 1 8 ⟨.line, 0, 536870785⟩ ⟨.out, 0, 4294966273⟩ 4294966273
      ⟨4294966273, 0, 0, 1⟩ = none := by
  have hmem : 4294966272 ∈ Addr.stepStarts 4294966273 3072 :=
    (Addr.mem_stepStarts (by decide)).2 ⟨1398101, by decide, by decide⟩
  have hbody : convBlockChunkT (fun a b => ck32 (a + b)) ⟨.gray, 1⟩ .alpha .eight 1 al 1 8 1 1 1 3072 4294966273
      4294966273 ⟨4294966273, 0, 0, 1⟩ ⟨.line, 0, 536870785⟩ ⟨.out, 0, 4294966273⟩ 4294966272 = none := by
    unfold convBlockChunkT
    have : ck32 (4294966272 + 3072) = none := by decide +kernel
    simp only [this]; rfl
  have hloop := forT_none _ _ _ hmem hbody
  unfold convBlocksUnrepairedT convBlocksWithT
  rw [if_neg (by decide), Trap.subU_of_le (Nat.zero_le _), Trap.bind_some', Trap.dbgP_of (by decide), Trap.bind_some',
    Color.bppT_eq _ (Or.inl rfl), Trap.bind_some', ckU_of_lt (by decide), Trap.bind_some', hB, Trap.div_of_ne (by decide),
    Trap.bind_some']
  dsimp only
  rw [Trap.dbgP_of (by decide), Trap.bind_some', Color.bppT_eq _ (Or.inl rfl), Trap.bind_some', if_neg (by decide)]
  unfold convBlocksMainT
  rw [modT_of_ne (by decide), Trap.bind_some', Trap.subU_of_le (Nat.mod_le _ _), Trap.bind_some', Trap.dbgP_of (by decide),
    Trap.bind_some']
  exact hloop

/-- the chunk itself: with the plain addition `none`, with the saturating one the last chunk (1 pixel) is decoded -/
example :
    TrapLoops.convBlockChunkT (fun a b => TrapLoops.ck32 (a + b)) ⟨.gray, 1⟩ .alpha .eight 1 (fun _ => false) 1 8 1 1 1 3072
      4294966273 4294966273 ⟨4294966273, 0, 0, 1⟩ ⟨.line, 0, 536870785⟩ ⟨.out, 0, 4294966273⟩ 4294966272 = none ∧
    (TrapLoops.convBlockChunkT (fun a b => some (TrapLoops.satAdd32 a b)) ⟨.gray, 1⟩ .alpha .eight 1 (fun _ => false) 1 8 1 1 1
      3072 4294966273 4294966273 ⟨4294966273, 0, 0, 1⟩ ⟨.line, 0, 536870785⟩ ⟨.out, 0, 4294966273⟩ 4294966272).map
        TrapLoops.outWrites = some [⟨.out, 4294966272, 1⟩] := by
  decide +kernel

/-! ### surface bounds from `check_likely_overflow` -/

theorem pixel_surface_bound {encSize W H : Nat} (he : 0 < encSize) (hl : encSize < 256)
    (h : checkLikelyOverflow (.pixel encSize none) W H = true) : W * H * encSize ≤ I64MAX := by
  have wf : (Fam.pixel encSize none).WF := ⟨he, hl, fun _ h => by cases h⟩
  exact (checkLikelyOverflow_iff wf W H).1 h

theorem block_surface_bound {bx by_ bpb W H : Nat} (wf : (Fam.block bx by_ bpb).WF)
    (h : checkLikelyOverflow (.block bx by_ bpb) W H = true) : divCeil W bx * divCeil H by_ * bpb ≤ I64MAX := by
  have := (checkLikelyOverflow_iff wf W H).1 h
  obtain ⟨a, _, c, _, _, _⟩ := wf
  simpa only [Fam.px, PixelInfo.surfIdeal, ← divCeil_eq _ _ a, ← divCeil_eq _ _ c, ISIZE_MAX_eq] using this

theorem planar_surface_bound {p1 p2 ssx ssy W H : Nat} (wf : (Fam.biPlanar p1 p2 ssx ssy).WF)
    (h : checkLikelyOverflow (.biPlanar p1 p2 ssx ssy) W H = true) : TrapLoops.PlanarSurf p1 p2 ssx ssy W H := by
  have := (checkLikelyOverflow_iff wf W H).1 h
  obtain ⟨_, _, _, _, a, _, c, _⟩ := wf
  simp only [Fam.px, PixelInfo.surfIdeal, ← divCeil_eq _ _ a, ← divCeil_eq _ _ c, ISIZE_MAX_eq] at this
  have e1 : W * p1 * H = W * H * p1 := Nat.mul_right_comm _ _ _
  have e2 : divCeil W ssx * p2 * divCeil H ssy = divCeil W ssx * divCeil H ssy * p2 := Nat.mul_right_comm _ _ _
  have : W * H * p1 + divCeil W ssx * divCeil H ssy * p2 ≤ I64MAX := this
  exact ⟨by omega, by omega⟩

open TrapLoops in
/-- **`for_each_pixel_untyped` / `for_each_pixel_rect_untyped`** (uncompressed family, every decoder of
`uncompressed.rs`: `PixelCfg` = the entry `debug_assert`s + a pixel function instantiated for the two pixel sizes). -/
theorem pixel_loops_trapfree (img : Img) (ok : img.Ok) (native : Color) (encSize decSize : Nat) (f : PxFn)
    (c : PixelCfg img native encSize decSize f) :
    (∃ evs, pixelFullT img native encSize decSize f = some evs ∧ ios evs = Stream.pixelFull encSize img.w img.h ∧
      Wr (InRows 0 img.pitch img.h (img.w * img.color.bpp)) evs) ∧
    ∀ W H ox oy, ox + img.w ≤ W → oy + img.h ≤ H → checkLikelyOverflow (.pixel encSize none) W H = true →
      ∃ evs, pixelRectT img W H ox oy native encSize decSize f = some evs ∧
        ios evs = Stream.pixelRect encSize W H ox oy img.w img.h ∧
        Wr (InRows 0 img.pitch img.h (img.w * img.color.bpp)) evs :=
  ⟨pixelFullT_spec ok c, fun _ _ _ _ hx hy hs =>
    pixelRectT_spec ok c hx hy (pixel_surface_bound c.enc_pos c.enc_lt hs)⟩

/-- the pixel functions named in `uncompressed.rs` fit the pixel sizes of every decoder they are used in, and every
whole-image COPY decoder is registered for a colour it fits (glue tables `processFnUses`, `copyUses`) -/
theorem pixel_glue_fits :
    (TrapLoops.processFnUses.all fun u => u.2.2.2.fitsB u.2.1 u.2.2.1.bpp) = true ∧
    (TrapLoops.copyUses.all fun u => match u.2.2 with
      | .nothing => u.2.1.psz == 1 | .le16 => u.2.1.psz == 2 | .le32 => u.2.1.psz == 4 | .s8 => u.2.1.psz == 1
      | .bgraSwap => u.2.1 == ⟨.rgba, 1⟩) = true := by
  decide +kernel

theorem pxfn_fits_of_fitsB {f : TrapLoops.PxFn} {e d : Nat} (h : f.fitsB e d = true) : f.Fits e d := by
  cases f with
  | helper a b =>
    simp only [TrapLoops.PxFn.fitsB, Bool.and_eq_true, decide_eq_true_eq, List.any_eq_true, List.mem_range,
      beq_iff_eq] at h
    obtain ⟨⟨ha, hb⟩, c, hc, h1, h2⟩ := h
    exact ⟨ha, hb, c, by omega, h1, h2⟩
  | copy => show e = d; simpa [TrapLoops.PxFn.fitsB] using h
  | unroll a b =>
    simp only [TrapLoops.PxFn.fitsB, Bool.and_eq_true, Bool.or_eq_true, List.any_eq_true, List.mem_range,
      beq_iff_eq] at h
    obtain ⟨⟨ha, hb⟩, c, hc, h1, h2⟩ := h
    exact ⟨ha, hb, c, by omega, h1, h2⟩

/-- non-vacuity: R8G8B8_UNORM 5 × 3 into a strided RGBA U8 view (pitch 20 = row bytes) through the conversion buffer,
full and rect; the hypotheses hold; with a pitch BELOW the row bytes (14 < 20) `rows_mut` cannot cut `[..bytes_per_row]`
out of a 14-byte chunk and the mirror traps; so does a rect that sticks out of the surface (`u32` underflow of
`surface_size.width - offset.x - image.width()`) -/
example :
    (⟨60, 5, 3, 20, ⟨.rgba, 1⟩⟩ : TrapLoops.Img).Ok ∧ TrapLoops.N8_TO_U8.fitsB 3 3 = true ∧
    (TrapLoops.pixelFullT ⟨60, 5, 3, 20, ⟨.rgba, 1⟩⟩ ⟨.rgb, 1⟩ 3 3 TrapLoops.N8_TO_U8).map TrapLoops.ios =
      some (Stream.pixelFull 3 5 3) ∧
    (TrapLoops.pixelRectT ⟨60, 5, 3, 20, ⟨.rgba, 1⟩⟩ 9 7 2 1 ⟨.rgb, 1⟩ 3 3 TrapLoops.N8_TO_U8).map TrapLoops.outWrites =
      some [⟨.out, 0, 20⟩, ⟨.out, 20, 20⟩, ⟨.out, 40, 20⟩] ∧
    TrapLoops.pixelFullT ⟨48, 5, 3, 14, ⟨.rgba, 1⟩⟩ ⟨.rgb, 1⟩ 3 3 TrapLoops.N8_TO_U8 = none ∧
    TrapLoops.pixelRectT ⟨60, 5, 3, 20, ⟨.rgba, 1⟩⟩ 9 7 6 1 ⟨.rgb, 1⟩ 3 3 TrapLoops.N8_TO_U8 = none := by
  decide +kernel

open TrapLoops in
/-- **`read_exact_image` + `for_each_slice`** (the whole-image decoders `COPY_U8/U16/U32/S8` and the BGRA swap): for
every view — contiguous: one read of all data, or strided: one read per row through `rows_mut` — no trap, exactly
`w · h · bpp` bytes are read, the `assert!(buf.len() % 2 == 0)` / `% 4` of `cast::slice_le_to_ne_16/32` and the
`out.swap(i, i + 2)` of the BGRA loop hold on every slice, and nothing is written outside the rows (a contiguous view
has no padding). -/
theorem read_exact_image_trapfree (img : Img) (ok : img.Ok) (g : SliceFn) (hg : g.Fits img.color) :
    ∃ evs, copyFullT img g = some evs ∧
      (ios evs = Stream.copyFull img.color.bpp img.w img.h ∨
        ios evs = List.replicate img.h (.read (img.w * img.color.bpp))) ∧
      Stream.span (ios evs) = img.w * img.h * img.color.bpp ∧ Wr (CopyWr img) evs :=
  copyFullT_spec ok hg

/-- non-vacuity: `COPY_U16` into a contiguous and into a strided RGBA U16 view; an odd data length fails the assertion
of `slice_le_to_ne_16` -/
example :
    (TrapLoops.copyFullT ⟨48, 2, 3, 16, ⟨.rgba, 2⟩⟩ .le16).map TrapLoops.ios = some [.read 48] ∧
    (TrapLoops.copyFullT ⟨56, 2, 3, 20, ⟨.rgba, 2⟩⟩ .le16).map TrapLoops.ios = some [.read 16, .read 16, .read 16] ∧
    TrapLoops.copyFullT ⟨15, 5, 3, 5, ⟨.gray, 1⟩⟩ .le16 = none := by
  decide +kernel

/-- every block / sub-sampled format of the decoder table leaves room for one block row of the widest native pixel
(16 bytes) in the conversion buffer: `debug_assert!(buffer_size.width >= block_width)` (read_write.rs:809) -/
theorem block_formats_fit_conversion_buffer :
    (Stream.formatTable.all fun row => match row.2 with
      | .block bw bh _ => decide (bw * (16 * bh) ≤ TrapLoops.BUFFER_BYTES)
      | _ => true) = true := by
  decide +kernel

open TrapLoops in
/-- **`for_each_block_untyped` / `for_each_block_rect_untyped`** with every `ProcessBlocksFn` shape
(`general_process_blocks::<bx, by>` for ASTC, `process_4x4_blocks_helper` with `handle_width_offset` and the aligned fast
path whichever way the alignment test goes, `process_2x1_blocks_helper`, `process_8x1_blocks_helper`) and
`ChannelConversionBuffer::process_blocks`: no trap for every surface, rect, view and colour pair — with NO bound on the
width (F17 repaired).  `BlockCfg` = the entry `debug_assert`s, the unit sizes of the shape, and
that one block fits the conversion buffer (`table_rows_admissible` for the rows of the table). -/
theorem block_loops_trapfree (img : Img) (ok : img.Ok) (native : Color) (p : BlkFn) (bpb size : Nat)
    (c : BlockCfg img native p bpb size) (al : Sl → Bool) :
    (∃ evs, blockFullT img native p bpb size al = some evs ∧ ios evs = Stream.blockFull p.bx p.by_ bpb img.w img.h ∧
      Wr (InRows 0 img.pitch img.h (img.w * img.color.bpp)) evs) ∧
    ∀ W H ox oy, ox + img.w ≤ W → oy + img.h ≤ H → W < U32B → H < U32B → (Fam.block p.bx p.by_ bpb).WF →
      checkLikelyOverflow (.block p.bx p.by_ bpb) W H = true →
      ∃ evs, blockRectT img W H ox oy native p bpb al = some evs ∧
        ios evs = Stream.blockRect p.bx p.by_ bpb W H oy img.h ∧
        Wr (InRows 0 img.pitch img.h (img.w * img.color.bpp)) evs :=
  ⟨blockFullT_spec al ok c, fun _ _ _ _ hx hy hW hH wf hs =>
    blockRectT_spec al ok c hx hy hW hH (block_surface_bound wf hs)⟩

/-- non-vacuity: BC1 10 × 6 (RGBA U8 native) into RGB U8 through the conversion buffer and into RGBA U8 directly, rect of
a 21 × 13 surface at (3, 2); ASTC 12 × 12 F32 into RGB F32; a data slice one byte too short, and a rect outside the
surface (`block_line[block_range]` out of range), trap -/
example :
    (⟨280, 10, 6, 50, ⟨.rgb, 1⟩⟩ : TrapLoops.Img).Ok ∧
    (TrapLoops.blockFullT ⟨280, 10, 6, 50, ⟨.rgb, 1⟩⟩ ⟨.rgba, 1⟩ .four 8 4 (fun _ => true)).map TrapLoops.ios =
      some (Stream.blockFull 4 4 8 10 6) ∧
    (TrapLoops.blockRectT ⟨290, 10, 6, 50, ⟨.rgba, 1⟩⟩ 21 13 3 2 ⟨.rgba, 1⟩ .four 8 (fun _ => false)).map TrapLoops.ios =
      some (Stream.blockRect 4 4 8 21 13 2 6) ∧
    ((TrapLoops.blockRectT ⟨7960, 30, 20, 400, ⟨.rgb, 4⟩⟩ 100 100 7 5 ⟨.rgba, 4⟩ (.general 12 12) 16 (fun _ => false)).map
      fun e => (TrapLoops.outWrites e).length).isSome = true ∧
    TrapLoops.blockFullT ⟨279, 10, 6, 50, ⟨.rgb, 1⟩⟩ ⟨.rgba, 1⟩ .four 8 4 (fun _ => true) = none ∧
    TrapLoops.blockRectT ⟨290, 10, 6, 50, ⟨.rgba, 1⟩⟩ 21 13 15 2 ⟨.rgba, 1⟩ .four 8 (fun _ => false) = none := by
  decide +kernel

open TrapLoops in
/-- **`for_each_bi_planar` / `for_each_bi_planar_rect`** with `process_bi_planar_helper` and
`ChannelConversionBuffer::process_bi_planar`, for every `BiPlaneInfo` the format table could hold (`Fam.WF`). -/
theorem biplanar_loops_trapfree (img : Img) (ok : img.Ok) (native : Color) (p1 p2 ssx ssy : Nat)
    (c : PlanarCfg img native p1 p2 ssx ssy) (wf : (Fam.biPlanar p1 p2 ssx ssy).WF) :
    (checkLikelyOverflow (.biPlanar p1 p2 ssx ssy) img.w img.h = true →
      ∃ evs, planarFullT img native p1 p2 ssx ssy = some evs ∧
        ios evs = Stream.biPlanarFull p1 p2 ssx ssy img.w img.h ∧
        Wr (InRows 0 img.pitch img.h (img.w * img.color.bpp)) evs) ∧
    ∀ W H ox oy, ox + img.w ≤ W → oy + img.h ≤ H → W < U32B → H < U32B →
      checkLikelyOverflow (.biPlanar p1 p2 ssx ssy) W H = true →
      ∃ evs, planarRectT img W H ox oy native p1 p2 ssx ssy = some evs ∧
        Stream.biPlanarRect p1 p2 ssx ssy W H oy img.h = .ok (ios evs) ∧
        Wr (InRows 0 img.pitch img.h (img.w * img.color.bpp)) evs :=
  ⟨fun hs => planarFullT_spec ok c (planar_surface_bound wf hs), fun _ _ _ _ hx hy hW hH hs =>
    planarRectT_spec ok c hx hy hW hH (planar_surface_bound wf hs)⟩

/-- non-vacuity: NV12 5 × 3 into RGB U8 and (through the conversion buffer) RGBA U8, rect 3 × 2 at (1, 1); a view whose
data is one byte short traps in `get_row` -/
example :
    (TrapLoops.planarFullT ⟨55, 5, 3, 20, ⟨.rgb, 1⟩⟩ ⟨.rgb, 1⟩ 1 2 2 2).map TrapLoops.ios =
      some (Stream.biPlanarFull 1 2 2 2 5 3) ∧
    (TrapLoops.planarRectT ⟨32, 3, 2, 20, ⟨.rgba, 1⟩⟩ 5 3 1 1 ⟨.rgb, 1⟩ 1 2 2 2).map TrapLoops.ios =
      (Stream.biPlanarRect 1 2 2 2 5 3 1 2).toOption ∧
    TrapLoops.planarFullT ⟨54, 5, 3, 20, ⟨.rgb, 1⟩⟩ ⟨.rgb, 1⟩ 1 2 2 2 = none := by
  decide +kernel

open TrapLoops in
/-- **The decode loops of `read_write.rs` are total** — assembled.  For every non-empty output view (`Img.Ok`), every
native colour: each of the four loop families, instantiated the way the decoders of `uncompressed.rs`, `bc.rs`,
`astc.rs`, `sub_sampled.rs`, `bi_planar.rs` instantiate it, returns `some` for the full decode and for every rect of
every surface that passed `check_likely_overflow`; its reader / allocator trace is the one of C06 / C07's model and all
writes stay inside the rows of the view.  With `parse_layout_trapfree`, `cursor_ops_trapfree`,
`decode_geometry_trapfree` and section 6 this closes the decode path from the first header byte to the last output
byte; what remains outside the proof: the `astc-decode` crate, `std` I/O and allocation, termination of the REAL loops
(the mirrors' loops terminate), and the assumption that `f32` arithmetic never panics. -/
theorem decode_loops_trapfree (img : Img) (ok : img.Ok) (native : Color) :
    (∀ encSize decSize f, PixelCfg img native encSize decSize f →
      (∃ evs, pixelFullT img native encSize decSize f = some evs ∧ ios evs = Stream.pixelFull encSize img.w img.h ∧
        Wr (InRows 0 img.pitch img.h (img.w * img.color.bpp)) evs) ∧
      ∀ W H ox oy, ox + img.w ≤ W → oy + img.h ≤ H → checkLikelyOverflow (.pixel encSize none) W H = true →
        ∃ evs, pixelRectT img W H ox oy native encSize decSize f = some evs ∧
          ios evs = Stream.pixelRect encSize W H ox oy img.w img.h ∧
          Wr (InRows 0 img.pitch img.h (img.w * img.color.bpp)) evs) ∧
    (∀ g : SliceFn, g.Fits img.color → ∃ evs, copyFullT img g = some evs ∧
      Stream.span (ios evs) = img.w * img.h * img.color.bpp ∧ Wr (CopyWr img) evs) ∧
    (∀ p bpb size, BlockCfg img native p bpb size → ∀ al : Sl → Bool,
      (∃ evs, blockFullT img native p bpb size al = some evs ∧ ios evs = Stream.blockFull p.bx p.by_ bpb img.w img.h ∧
        Wr (InRows 0 img.pitch img.h (img.w * img.color.bpp)) evs) ∧
      ∀ W H ox oy, ox + img.w ≤ W → oy + img.h ≤ H → W < U32B → H < U32B → (Fam.block p.bx p.by_ bpb).WF →
        checkLikelyOverflow (.block p.bx p.by_ bpb) W H = true →
        ∃ evs, blockRectT img W H ox oy native p bpb al = some evs ∧
          ios evs = Stream.blockRect p.bx p.by_ bpb W H oy img.h ∧
          Wr (InRows 0 img.pitch img.h (img.w * img.color.bpp)) evs) ∧
    (∀ p1 p2 ssx ssy, PlanarCfg img native p1 p2 ssx ssy → (Fam.biPlanar p1 p2 ssx ssy).WF →
      (checkLikelyOverflow (.biPlanar p1 p2 ssx ssy) img.w img.h = true →
        ∃ evs, planarFullT img native p1 p2 ssx ssy = some evs ∧
          ios evs = Stream.biPlanarFull p1 p2 ssx ssy img.w img.h ∧
          Wr (InRows 0 img.pitch img.h (img.w * img.color.bpp)) evs) ∧
      ∀ W H ox oy, ox + img.w ≤ W → oy + img.h ≤ H → W < U32B → H < U32B →
        checkLikelyOverflow (.biPlanar p1 p2 ssx ssy) W H = true →
        ∃ evs, planarRectT img W H ox oy native p1 p2 ssx ssy = some evs ∧
          Stream.biPlanarRect p1 p2 ssx ssy W H oy img.h = .ok (ios evs) ∧
          Wr (InRows 0 img.pitch img.h (img.w * img.color.bpp)) evs) :=
  ⟨fun e d f c => pixel_loops_trapfree img ok native e d f c,
   fun g hg => (read_exact_image_trapfree img ok g hg).imp fun _ h => ⟨h.1, h.2.2.1, h.2.2.2⟩,
   fun p bpb size c al => block_loops_trapfree img ok native p bpb size c al,
   fun p1 p2 ssx ssy c wf => biplanar_loops_trapfree img ok native p1 p2 ssx ssy c wf⟩

/-- the views of C20 are the views of this section: every non-empty `View` with C20's invariant, a slice length
`≤ isize::MAX` (the language's bound for every slice) and a `usize` pitch gives an `Img.Ok` for every colour of its
pixel size -/
theorem view_invariant_is_img_ok (v : View) (inv : C20.Inv v) (hne : ¬ (v.w = 0 ∨ v.h = 0)) (hl : v.len ≤ I64MAX)
    (hp : v.pitch < U64) (c : TrapLoops.Color) (hc : c.bpp = v.bpp) (hpsz : c.psz = 1 ∨ c.psz = 2 ∨ c.psz = 4) :
    (⟨v.len, v.w, v.h, v.pitch, c⟩ : TrapLoops.Img).Ok :=
  { w_pos := by show 0 < v.w; omega, w_lt := inv.w_lt, h_pos := by show 0 < v.h; omega, h_lt := inv.h_lt, psz := hpsz,
    pitch_ge := by show v.w * c.bpp ≤ v.pitch; rw [hc]; exact inv.pitch_ge,
    pitch_lt := hp,
    len_eq := by show v.len = v.pitch * (v.h - 1) + v.w * c.bpp; rw [hc]; exact inv.len_eq hne,
    len_le := hl }

/-- the unit sizes of every row of the decoder table are admissible for the loops: block rows give a `BlkFn.Shape` (for the
helper shape of matching block size) and fit the conversion buffer, bi-planar rows are in `PlanarCfg`'s ranges, pixel rows
have an encoded size `1..255` -/
theorem table_rows_admissible :
    (Stream.formatTable.all fun row => match row.2 with
      | .block bw bh bpb => decide (0 < bw ∧ bw < 16 ∧ 0 < bh ∧ bh < 16 ∧ 0 < bpb ∧ bpb < 256 ∧
          bw * (16 * bh) ≤ TrapLoops.BUFFER_BYTES)
      | .biPlanar p1 p2 sx sy => decide (0 < p1 ∧ p1 < 16 ∧ 0 < p2 ∧ p2 < 16 ∧ 0 < sx ∧ sx < 16 ∧ 0 < sy ∧ sy < 16)
      | .pixel bpp _ => decide (0 < bpp ∧ bpp < 256)) = true := by
  decide +kernel

open TrapLoops in
/-- glue: a block row of the table, decoded by a helper of its block size into a view of the native precision, satisfies
`BlockCfg` for every native colour (so `block_loops_trapfree` applies to all 35 block / sub-sampled rows of the table × every
native / target colour pair) -/
theorem block_cfg_from_table {name : String} {bw bh bpb : Nat} (hrow : (name, Fam.block bw bh bpb) ∈ Stream.formatTable)
    (p : BlkFn) (hbx : p.bx = bw) (hby : p.by_ = bh) (h8 : p = .eight → bpb = 1) (img : Img) (ok : img.Ok)
    (native : Color) (hprec : img.color.psz = native.psz) : BlockCfg img native p bpb native.bpp := by
  have hall := List.all_eq_true.mp table_rows_admissible _ hrow
  simp only [decide_eq_true_eq] at hall
  obtain ⟨a1, a2, a3, a4, a5, a6, a7⟩ := hall
  have hb := Color.bpp_bounds native (hprec ▸ ok.psz)
  refine ⟨hprec, rfl, ⟨by omega, by omega, by omega, by omega, a5, h8, a6⟩, ?_⟩
  rw [hbx, hby]
  have : bw * (native.bpp * bh) ≤ bw * (16 * bh) := Nat.mul_le_mul_left _ (Nat.mul_le_mul_right _ hb.2)
  omega

/-- non-vacuity: BC7 is a row of the table -/
example : ("BC7_UNORM", Fam.block 4 4 16) ∈ Stream.formatTable := by decide

end Dds.C01
