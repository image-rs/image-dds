/-
C13 — block-compressed encoding keeps representable content and emits portable blocks.

PARTIAL by design (DESIGN.md §5 C13, §8): the float endpoint search of the encoders is NOT modelled, so no
theorem here says "the encoder's output decodes to within the bound".  What is proved, for ALL inputs:
  * the discrete encoder logic that decides which blocks can be emitted (`Enc13.lean`): endpoint ordering and
    tie-breaking (`new_p4_strict`), alpha thresholding, palette-mode choice, BC2/BC3 forcing four colours,
    BC4 endpoint order ↔ interpolation mode;
  * that blocks meeting the emitted-block predicate `Portable` decode identically under decoders that differ
    on the unspecified cases (`portable_agreement`, `portable_decoders_agree`), over the decoder models proved
    against the specification in C03;
  * representability floors at specification level (`representable_floor*`) and the quantisation step bounds
    the oracle uses (`step_bounds`);
  * the encoders' fully discrete single-colour paths decode exactly (BC7: the whole block for all 2³² colours;
    BC4-type UNORM and BC3 alpha under any colour block; the SNORM `closest` branch for all 255 levels; BC2's 4-bit
    alpha to the nearest multiple of 17; 5:6:5 corner colours);
  * opacity of BC7, decoder side for EVERY block (modes 0–3 always opaque; any mode: a pixel is opaque when both
    endpoints of the channel routed to alpha are 255; when a stored alpha endpoint is 255), and the discrete
    control flow of the encoder that bears on it (modes tried, forced p-bits, the exactness guard of constant alpha).
  * the discrete core of the BC7 ENCODER (`Enc7.lean`: the block writers `Compressed::mode0 … mode7` with the index-list
    compression and the anchor fix-up, the encoder's own palette arithmetic, the exhaustive `closest_*` index search):
    the writer is a right inverse of the proved decoder on the encoder's intended palette, for EVERY mode, partition,
    rotation, index selector, endpoint tuple, p-bit choice and index list (`bc7_writer_roundtrip`); the encoder's
    palette arithmetic is the decoder's and the specification's (`bc7_encoder_palette_eq_decoder`); `closest_*` returns
    the first palette entry of least squared distance, the error is the sum of those distances and cannot overflow
    (`bc7_closest_is_argmin`); content that is a palette entry comes back exactly (`bc7_mode6_keeps_palette_content`);
    written blocks whose alpha endpoints are all ones decode opaque (`bc7_writer_opaque`).
The clauses about the searched output are decided by exploration with this verified oracle (harness/src/c13.rs).
-/
import DdsModel.Proofs.Enc13
import DdsModel.Proofs.Bc7Single
import DdsModel.Proofs.Bc7Opaque
import DdsModel.Proofs.Enc13Opaque
import DdsModel.Proofs.Enc13Single
import DdsModel.Proofs.Enc7Consequences
import DdsModel.Proofs.Enc7Stats
import DdsModel.Proofs.EncBc15Bc2
import DdsModel.Proofs.EncBc15PaletteAll
namespace Dds.C13
open Dds Dds.Bc Dds.Enc13

/-! ### endpoint ordering (`EndPoints::new_p4`, `new_p3_default`) -/

/-- For ALL valid 5:6:5 pairs `new_p4` returns valid colours with `c0 > c1` as packed `u16` (so the
`debug_assert!` holds, `c1.b -= 1` never underflows and the block is in four-colour mode). -/
theorem new_p4_strict (c0 c1 : C565) (h0 : c0.Valid) (h1 : c1.Valid) :
    (newP4 c0 c1).1.toU16 > (newP4 c0 c1).2.toU16 ∧ (newP4 c0 c1).1.Valid ∧ (newP4 c0 c1).2.Valid ∧
      (newP4 c0 c1).1.toU16 < 65536 :=
  have h := newP4_spec c0 c1 h0 h1
  ⟨h.2.2, h.1, h.2.1, toU16_lt _ h.1⟩

/-- `new_p3_default` returns `c0 ≤ c1` (three-colour mode); equality is possible. -/
theorem new_p3_default_le (c0 c1 : C565) (h0 : c0.Valid) (h1 : c1.Valid) :
    (newP3Default c0 c1).1.toU16 ≤ (newP3Default c0 c1).2.toU16 ∧ (newP3Default c0 c1).1.Valid ∧
      (newP3Default c0 c1).2.Valid :=
  have h := newP3_spec c0 c1 h0 h1
  ⟨h.2.2, h.1, h.2.1⟩

/-- both tie-breaking branches and the swap are reachable -/
example : newP4 ⟨3, 7, 0⟩ ⟨3, 7, 0⟩ = (⟨3, 7, 1⟩, ⟨3, 7, 0⟩) ∧ newP4 ⟨3, 7, 5⟩ ⟨3, 7, 5⟩ = (⟨3, 7, 5⟩, ⟨3, 7, 4⟩) ∧
    newP4 ⟨0, 0, 0⟩ ⟨31, 63, 31⟩ = (⟨31, 63, 31⟩, ⟨0, 0, 0⟩) ∧ newP3Default ⟨0, 0, 0⟩ ⟨0, 0, 0⟩ = (⟨0, 0, 0⟩, ⟨0, 0, 0⟩) := by
  decide

/-- Every colour block assembled from `new_p4` endpoints meets `Portable`: as a BC1 block, and behind any
8-byte alpha block as a BC2 / BC3-family block. -/
theorem p4_blocks_portable (c0 c1 : C565) (h0 : c0.Valid) (h1 : c1.Valid) (idx ok3 : Nat) :
    Portable (some .bc1) (blkOf (withIndexes (newP4 c0 c1) idx)) ok3 = true ∧
    ∀ (alpha : List Nat) (f : Fmt), alpha.length = 8 → f ∈ [Fmt.bc2, .bc2p, .bc3, .bc3p, .rxgb, .bc3n] →
      Portable (some f) (blkOf (alpha ++ withIndexes (newP4 c0 c1) idx)) ok3 = true := by
  have h := new_p4_strict c0 c1 h0 h1
  constructor
  · have e := Enc15.le16_written [] [] (newP4 c0 c1) idx
    simp only [List.nil_append, List.append_nil, List.length_nil, Nat.zero_add] at e
    unfold Portable
    simp only [e.1, e.2, h.1, decide_true, Bool.true_or]
  · exact fun alpha f hlen hf => Enc15.colour_half_portable alpha hlen c0 c1 h0 h1 idx ok3 f hf

/-! ### alpha thresholding and palette-mode choice -/

/-- `get_alpha_map`: bit `i` of the map is set exactly when the 8-bit alpha of pixel `i` is at least 128,
i.e. `alpha/255 ≥ 1/2` (`ALPHA_THRESHOLD = 0.5`, comparison `>=`: one half itself is opaque). -/
theorem alpha_threshold (alphas : List Nat) (hl : alphas.length = 16) (i : Nat) :
    (alphaMap alphas).testBit i = (decide (i < 16) && decide (alphas.getD i 0 ≥ 128)) :=
  alphaMap_testBit alphas hl i

/-- BC2, BC2 premultiplied, BC3, BC3 premultiplied, RXGB and BC3n (`get_bc3_options`: `no_p3_default`) use
ONLY `compress_p4`, whatever the quality and the alpha channel — hence (with `new_p4_strict`) `colour0 > colour1`. -/
theorem bc23_always_p4 (q : Quality) (alphas : List Nat) :
    choice (bc3Options q).1 (bc3Options q).2 alphas = .p4 := by
  cases q <;> simp [choice, bc3Options, bc1Options, ALL_OPAQUE, ALL_TRANSPARENT]

/-- BC1 (`get_bc1_options`): all pixels below one half → the constant transparent block; some below and some
not → three-colour mode only; all opaque → four-colour only at Fast/Normal, the better of both at High and
Unreasonable (ties go to three-colour mode). -/
theorem bc1_choice (q : Quality) (alphas : List Nat) (hl : alphas.length = 16) :
    ((∀ i, i < 16 → alphas.getD i 0 < 128) → choice (bc1Options q).1 (bc1Options q).2 alphas = .transparentBlock) ∧
    ((∃ i, i < 16 ∧ alphas.getD i 0 < 128) → (∃ j, j < 16 ∧ alphas.getD j 0 ≥ 128) →
      choice (bc1Options q).1 (bc1Options q).2 alphas = .p3) ∧
    ((∀ i, i < 16 → alphas.getD i 0 ≥ 128) → choice (bc1Options q).1 (bc1Options q).2 alphas =
      (if q = .fast ∨ q = .normal then .p4 else .best)) := by
  refine ⟨?_, ?_, ?_⟩
  · intro h
    simp [choice, bc1Options, map_all_transparent alphas hl h]
  · intro ⟨i, hi, hti⟩ ⟨j, hj, hoj⟩
    have h0 : alphaMap alphas ≠ ALL_TRANSPARENT := by
      intro he
      have := alpha_threshold alphas hl j
      rw [he, decide_eq_true hj, decide_eq_true hoj] at this
      simp [ALL_TRANSPARENT] at this
    have h1 : alphaMap alphas ≠ ALL_OPAQUE := by
      intro he
      have := alpha_threshold alphas hl i
      rw [he, show ALL_OPAQUE = 2 ^ 16 - 1 from rfl, Nat.testBit_two_pow_sub_one] at this
      have h2 : ¬ alphas.getD i 0 ≥ 128 := by omega
      rw [decide_eq_true hi, decide_eq_false h2] at this
      simp at this
    simp [choice, bc1Options, h0, h1]
  · intro h
    rw [choice]
    simp only [bc1Options, Bool.false_eq_true, if_false, map_all_opaque alphas hl h]
    cases q <;> simp [ALL_OPAQUE, ALL_TRANSPARENT]

/-- the three alpha situations exist -/
example : alphaMap (List.replicate 16 127) = ALL_TRANSPARENT ∧ alphaMap (List.replicate 16 128) = ALL_OPAQUE ∧
    alphaMap ([127, 128] ++ List.replicate 14 255) = 65534 := by decide

/-! ### portability -/

/-- `Portable` as a proposition: BC1 — four-colour mode, or index 3 only where the mask allows it;
BC2/BC3 family — `colour0 > colour1` in the colour block; BC7 — not the reserved mode. -/
theorem portable_predicate_decidable (blk : Nat → Nat) (ok3 : Nat) :
    (Portable (some .bc1) blk ok3 = true ↔
      (le16 blk 0 > le16 blk 2 ∨ ∀ p, p < 16 → colourIndex blk 0 p = 3 → ok3.testBit p = true)) ∧
    (∀ f, f ∈ [Fmt.bc2, .bc2p, .bc3, .bc3p, .rxgb, .bc3n] →
      (Portable (some f) blk ok3 = true ↔ le16 blk 8 > le16 blk 10)) ∧
    (∀ f, f ∈ [Fmt.bc4u, .bc4s, .bc5u, .bc5s] → Portable (some f) blk ok3 = true) ∧
    (Portable none blk ok3 = true ↔ blk 0 ≠ 0) := by
  refine ⟨?_, ?_, ?_, ?_⟩
  · unfold Portable
    simp only [Bool.or_eq_true, decide_eq_true_eq, List.all_eq_true, List.mem_range, bne_iff_ne, ne_eq]
    constructor
    · rintro (h | h)
      · exact Or.inl h
      · refine Or.inr fun p hp h3 => ?_
        rcases h p hp with h' | h'
        · exact absurd h3 h'
        · exact h'
    · rintro (h | h)
      · exact Or.inl h
      · refine Or.inr fun p hp => ?_
        by_cases h3 : colourIndex blk 0 p = 3
        · exact Or.inr (h p hp h3)
        · exact Or.inl h3
  · intro f hf
    simp only [List.mem_cons, List.not_mem_nil, or_false] at hf
    rcases hf with rfl | rfl | rfl | rfl | rfl | rfl <;> simp [Portable]
  · intro f hf
    simp only [List.mem_cons, List.not_mem_nil, or_false] at hf
    rcases hf with rfl | rfl | rfl | rfl <;> rfl
  · simp [Portable]

/-- For EVERY block with `colour0 > colour1` the decoder that can switch to three colours (`bc1_u8_rgba`) and
the always-four-colour decoder (`bc1_no_default_u8_rgba`, BC2/BC3) produce the same pixel. -/
theorem portable_agreement (blk : Nat → Nat) (h : le16 blk 0 > le16 blk 2) (p : Nat) :
    bc1Px blk p = bc1NoDefaultPx blk p := by
  unfold bc1Px bc1NoDefaultPx
  simp only [h, if_true]

/-- In three-colour mode index 3 decodes to transparent black, for every block. -/
theorem three_colour_index3_transparent (blk : Nat → Nat) (h : le16 blk 0 ≤ le16 blk 2) (p : Nat)
    (h3 : colourIndex blk 0 p = 3) : bc1Px blk p = (0, 0, 0, 0) := by
  have hn : ¬ le16 blk 0 > le16 blk 2 := by omega
  unfold colourIndex at h3
  unfold bc1Px
  simp only [hn, if_false, Nat.zero_add] at h3 ⊢
  rw [h3]; rfl

/-- a decoder that shows an arbitrary pixel `alt` for index 3 of the three-colour mode (the case on which
BC1 decoders differ: transparent black, opaque black, or the four-colour entry) -/
def altBc1Px (alt : Rgba) (blk : Nat → Nat) (p : Nat) : Rgba :=
  if le16 blk 0 ≤ le16 blk 2 ∧ colourIndex blk 0 p = 3 then alt else bc1Px blk p

/-- On a `Portable` block every decoder of the family agrees with this library's decoder:
* BC1: at every pixel outside the mask `ok3` (an opaque input pixel inside the image) the deviating decoder
  shows the same pixel, and that pixel is opaque;
* BC2/BC3 family: a decoder that applies BC1's mode switch to the colour block (as many do, and as this
  library did before the repair of F4) shows the same colour as the always-four-colour decoder. -/
theorem portable_decoders_agree (blk : Nat → Nat) (ok3 : Nat) :
    (Portable (some .bc1) blk ok3 = true → ∀ p, p < 16 → ok3.testBit p = false →
      ∀ alt, altBc1Px alt blk p = bc1Px blk p ∧ (bc1Px blk p).2.2.2 = 255) ∧
    (∀ f, f ∈ [Fmt.bc2, .bc2p, .bc3, .bc3p, .rxgb, .bc3n] → Portable (some f) blk ok3 = true →
      ∀ p, bc1Px (upper blk) p = bc1NoDefaultPx (upper blk) p) := by
  constructor
  · intro hp p hlt hm alt
    have h : le16 blk 0 > le16 blk 2 ∨ colourIndex blk 0 p ≠ 3 :=
      ((portable_predicate_decidable blk ok3).1.mp hp).imp_right fun h h3 => by
        rw [h p hlt h3] at hm; exact absurd hm (by decide)
    exact ⟨if_neg (by omega), bc1Px_opaque blk p h⟩
  · intro f hf hp p
    have h := ((portable_predicate_decidable blk ok3).2.1 f hf).mp hp
    apply portable_agreement
    unfold upper le16 at *
    simpa using h

/-- a portable BC1 block in three-colour mode using index 3 under the mask, and a non-portable one -/
example : Portable (some .bc1) (blkOf [0, 0, 0xFF, 0xFF, 0x03, 0, 0, 0]) 1 = true ∧
    Portable (some .bc1) (blkOf [0, 0, 0xFF, 0xFF, 0x03, 0, 0, 0]) 0 = false ∧
    Portable (some .bc3) (blkOf ([255, 0, 0, 0, 0, 0, 0, 0] ++ [0, 0, 0xFF, 0xFF, 0, 0, 0, 0])) 0 = false ∧
    Portable (some .bc3) (blkOf ([255, 0, 0, 0, 0, 0, 0, 0] ++ [0xFF, 0xFF, 0, 0, 0, 0, 0, 0])) 0 = true := by
  decide

/-! ### BC4: endpoint order ↔ interpolation mode -/

/-- `new_inter6` emits `(c0, c1) = (max, min)` with `c0 > c1`, which the decoder reads as the six-interpolant
mode, and `new_inter4 = inter6_to_inter4` emits the swapped pair with `c0 < c1`, which the decoder reads as
the four-interpolant mode with the constants 0 and 1 at indexes 6, 7.  So the palette the encoder searched in
is the palette the decoder uses (6 interpolants iff `e0 > e1`). -/
theorem bc4_mode_coupling (minR maxR minF maxC : Nat) (h1 : minR ≤ maxR) (h2 : minF ≤ maxC) :
    (fixDistinct minR maxR minF maxC).1 < (fixDistinct minR maxR minF maxC).2 ∧
    ∀ (ops : Bc4Ops) (blk : Nat → Nat) (p : Nat),
      (blk 0 = (fixDistinct minR maxR minF maxC).2 → blk 1 = (fixDistinct minR maxR minF maxC).1 →
        bc4uPx ops blk p = bc4Lut ops (ops.fromByte (blk 0)) (ops.fromByte (blk 1)) (blk 0) (blk 1) true (bc4Index blk p)) ∧
      (blk 0 = (fixDistinct minR maxR minF maxC).1 → blk 1 = (fixDistinct minR maxR minF maxC).2 →
        bc4uPx ops blk p = bc4Lut ops (ops.fromByte (blk 0)) (ops.fromByte (blk 1)) (blk 0) (blk 1) false (bc4Index blk p)) := by
  have hlt := Enc15.fixDistinct_lt minR maxR minF maxC h1 h2
  refine ⟨hlt, fun ops blk p => ⟨fun a b => ?_, fun a b => ?_⟩⟩
  · have : blk 0 > blk 1 := by omega
    unfold bc4uPx; simp only [this, decide_true]
  · have : ¬ blk 0 > blk 1 := by omega
    unfold bc4uPx; simp only [this, decide_false]

example : fixDistinct 7 7 7 7 = (6, 7) ∧ fixDistinct 0 0 0 0 = (0, 1) ∧ fixDistinct 7 7 6 7 = (6, 7) := by decide

/-- single 8-bit values (`single_color` via `new_closest`): the emitted block `[v, 0, 0, …]` decodes to `v` at
all 16 pixels, in BC4 UNORM and as BC3 alpha — the "exactly for BC4/BC5 and BC3 alpha" clause for 8-bit input
on the discrete path (all qualities but Unreasonable, which brute-forces). -/
theorem bc4_single_exact : ∀ v, v ≤ 255 →
    Bc.decodeBlock .bc4u .u8 (blkOf (bc4uSingle v)) = List.replicate 16 [v] :=
  fun v _ => bc4uSingle_decodes .u8 v

/-! ### BC7 single colours (`compress_single_color`) -/

/-- the index list `constant(1)` needs no endpoint swap and compresses to 31 bits `…0101011` -/
theorem bc7_single_no_swap : compressP1 constant1 = (0x2AAAAAAB, false) := compressP1_constant1

/-- Channel level, all 256 values: the 7-bit endpoints `optimize(c)`, widened by bit replication and
interpolated with the weight of index 1 (21/64, stored as 84/256), give back exactly `c`. -/
theorem bc7_single_channel_exact : ∀ c, c ≤ 255 →
    Bc7.lerp (Bc7.promote (optimize c).1 7) (Bc7.promote (optimize c).2 7) (Bc7.WEIGHTS_2.getD 1 0) = c ∧
    (optimize c).1 < 128 ∧ (optimize c).2 < 128 := channel_exact

/-- alpha: both endpoints are `a`, any weight gives `a` -/
theorem bc7_single_alpha_exact : ∀ a, a ≤ 255 → ∀ k, k < 4 → Bc7.lerp a a (Bc7.WEIGHTS_2.getD k 0) = a :=
  fun a ha k hk => lerp_self a k ha hk

/-- The mode-5 bit-field layout of `compress_single_color` (`Compressed::mode5` + `BitStream::write_u64`): the block
fits 128 bits, its first byte selects mode 5, rotation 0, and every field the decoder reads positionally
(`Bc7Spec.rd block position width`) is the value the encoder wrote: the six 7-bit colour endpoints `optimize(c)`, the
two 8-bit alpha endpoints `a`, and — through the anchor rule — colour index 1 and alpha index 1 at all 16 pixels. -/
theorem bc7_single_mode5_layout (r g b a : Nat) (hr : r ≤ 255) (hg : g ≤ 255) (hb : b ≤ 255) (ha : a ≤ 255) :
    bc7Single r g b a < 2 ^ 128 ∧ Bc7Spec.modeOf (bc7Single r g b a) = 5 ∧ Bc7Spec.rd (bc7Single r g b a) 6 2 = 0 ∧
    Bc7Spec.rd (bc7Single r g b a) 8 7 = (optimize r).1 ∧ Bc7Spec.rd (bc7Single r g b a) 15 7 = (optimize r).2 ∧
    Bc7Spec.rd (bc7Single r g b a) 22 7 = (optimize g).1 ∧ Bc7Spec.rd (bc7Single r g b a) 29 7 = (optimize g).2 ∧
    Bc7Spec.rd (bc7Single r g b a) 36 7 = (optimize b).1 ∧ Bc7Spec.rd (bc7Single r g b a) 43 7 = (optimize b).2 ∧
    Bc7Spec.rd (bc7Single r g b a) 50 8 = a ∧ Bc7Spec.rd (bc7Single r g b a) 58 8 = a ∧
    ∀ i, i < 16 → Bc7Spec.index1 5 Bc7.r5 (bc7Single r g b a) 0 i = 1 ∧ Bc7Spec.index2 5 Bc7.r5 (bc7Single r g b a) i = 1 :=
  bc7Single_layout r g b a hr hg hb ha

/-- Whole blocks through the BC7 decoder model, for ALL 2³² colours:
`decode_bc7_block (compress_single_color (r, g, b, a)) = 16 × (r, g, b, a)`.
(The block is the writer's mode-5 block, `Enc7.writer_roundtrip` decodes it, the optimised endpoint pair of each colour
channel interpolates at index 1 to the channel value (`channel_exact`), and alpha has equal endpoints.) -/
theorem bc7_single_block_exact (r g b a : Nat) (hr : r ≤ 255) (hg : g ≤ 255) (hb : b ≤ 255) (ha : a ≤ 255) :
    Bc7.decodeBlock (bc7Single r g b a) = List.replicate 16 [r, g, b, a] :=
  bc7Single_decodes r g b a hr hg hb ha

/-- a colour off the grey diagonal and off the axes, computed -/
example : Bc7.decodeBlock (bc7Single 201 17 128 93) = List.replicate 16 [201, 17, 128, 93] ∧
    bc7Single 255 255 255 255 = 0x55555556aaaaaaafffffffffffffff20 := by decide +kernel

/-- fully opaque single colours stay opaque (the alpha clause of `bc7_single_block_exact`) -/
theorem bc7_single_opaque (r g b : Nat) (hr : r ≤ 255) (hg : g ≤ 255) (hb : b ≤ 255) (i : Nat) (hi : i < 16) :
    ((Bc7.decodeBlock (bc7Single r g b 255)).getD i []).getD 3 0 = 255 := by
  rw [bc7_single_block_exact r g b 255 hr hg hb (by decide)]
  simp only [List.getD_eq_getElem?_getD, List.getElem?_replicate, if_pos hi, Option.getD_some]
  rfl

/-! ### BC7 opacity, decoder side (every block) -/

/-- For EVERY 128-bit block `b` (any `Nat`; only bits 0..127 are looked at):
* modes 0–3 decode alpha 255 at every pixel;
* any mode with record `r`: pixel `i` decodes alpha 255 whenever the two fully decoded endpoints (after p-bit and
  bit replication) of its subset are 255 in the channel `alphaSrc rot` that the rotation field routes to alpha
  (rotation 0: the alpha endpoints themselves; rotation 1/2/3 of modes 4, 5: the R/G/B endpoints);
* modes without a rotation field (0–3, 6, 7) route alpha to alpha. -/
theorem bc7_opaque_decode (b : Nat) :
    (Bc7Spec.modeOf b ≤ 3 → ∀ i, i < 16 → ((Bc7.decodeBlock b).getD i []).getD 3 0 = 255) ∧
    (∀ r, Bc7Spec.modes[Bc7Spec.modeOf b]? = some r → ∀ i, i < 16 →
      Bc7Spec.endpoint (Bc7Spec.modeOf b) r b
        (2 * BcTables.specSubset r.subsets (Bc7Spec.rd b (Bc7Spec.modeOf b + 1) r.partBits) i)
        (Bc7Spec.alphaSrc (Bc7Spec.rotOf (Bc7Spec.modeOf b) r b)) = 255 →
      Bc7Spec.endpoint (Bc7Spec.modeOf b) r b
        (2 * BcTables.specSubset r.subsets (Bc7Spec.rd b (Bc7Spec.modeOf b + 1) r.partBits) i + 1)
        (Bc7Spec.alphaSrc (Bc7Spec.rotOf (Bc7Spec.modeOf b) r b)) = 255 →
      ((Bc7.decodeBlock b).getD i []).getD 3 0 = 255) ∧
    (∀ r, Bc7Spec.modes[Bc7Spec.modeOf b]? = some r → r.rotBits = 0 →
      Bc7Spec.alphaSrc (Bc7Spec.rotOf (Bc7Spec.modeOf b) r b) = 3) := by
  refine ⟨fun hm i hi => ?_, fun r hr i hi e0 e1 => ?_, fun r _ h0 => Bc7Spec.alphaSrc_of_no_rot _ r b h0⟩
  · obtain ⟨r, hr, ha, h0⟩ := Bc7Spec.modes_le3 _ hm
    rw [Bc7Spec.decodeBlock_mode b r hr]
    exact Bc7Spec.decodeMode_opaque _ r b i hi ha h0
  · rw [Bc7Spec.decodeBlock_mode b r hr]
    exact Bc7Spec.decodeMode_alpha _ r b i hi e0 e1

/-- the hypotheses are satisfiable: a mode-1 block; a mode-6 block with alpha fields 127 and both p-bits 1 (pixel 0:
subset 0, endpoints 0 and 1); a mode-5 block with rotation 1 whose R endpoints are 127 → 255 while its alpha
endpoints are 0: the decoded ALPHA is 255 and the decoded red is 0 -/
example : Bc7Spec.modeOf 0xfedcba98765432100123456789abcdee ≤ 3 ∧
    Bc7Spec.modeOf (64 + 127 * 2 ^ 49 + 127 * 2 ^ 56 + 3 * 2 ^ 63) = 6 ∧
    Bc7Spec.endpoint 6 Bc7.r6 (64 + 127 * 2 ^ 49 + 127 * 2 ^ 56 + 3 * 2 ^ 63) 0 3 = 255 ∧
    Bc7Spec.endpoint 6 Bc7.r6 (64 + 127 * 2 ^ 49 + 127 * 2 ^ 56 + 3 * 2 ^ 63) 1 3 = 255 ∧
    Bc7.decodeBlock (64 + 127 * 2 ^ 49 + 127 * 2 ^ 56 + 3 * 2 ^ 63) = List.replicate 16 [1, 1, 1, 255] ∧
    Bc7Spec.rotOf 5 Bc7.r5 (32 + 1 * 2 ^ 6 + 127 * 2 ^ 8 + 127 * 2 ^ 15) = 1 ∧
    Bc7.decodeBlock (32 + 1 * 2 ^ 6 + 127 * 2 ^ 8 + 127 * 2 ^ 15) = List.replicate 16 [0, 0, 0, 255] := by
  decide +kernel

/-- When is a stored alpha endpoint 255?  For every block `b` and endpoint number `e`, in terms of the raw fields:
mode 4 — the 6-bit field is 63; mode 5 — the 8-bit field is 255; mode 6 — the 7-bit field is 127 AND the endpoint's
p-bit is 1; mode 7 — the 5-bit field is 31 AND the endpoint's p-bit is 1.  (`Bc7.r4 … r7` are the records of the
specification's mode table.) -/
theorem bc7_alpha_endpoint_255_iff (b e : Nat) :
    Bc7Spec.modes[4]? = some Bc7.r4 ∧ Bc7Spec.modes[5]? = some Bc7.r5 ∧ Bc7Spec.modes[6]? = some Bc7.r6 ∧
    Bc7Spec.modes[7]? = some Bc7.r7 ∧
    (Bc7Spec.endpoint 4 Bc7.r4 b e 3 = 255 ↔ Bc7Spec.rd b (Bc7Spec.alphaStart 4 Bc7.r4 + e * 6) 6 = 63) ∧
    (Bc7Spec.endpoint 5 Bc7.r5 b e 3 = 255 ↔ Bc7Spec.rd b (Bc7Spec.alphaStart 5 Bc7.r5 + e * 8) 8 = 255) ∧
    (Bc7Spec.endpoint 6 Bc7.r6 b e 3 = 255 ↔
      Bc7Spec.rd b (Bc7Spec.alphaStart 6 Bc7.r6 + e * 7) 7 = 127 ∧ Bc7Spec.rd b (Bc7Spec.pStart 6 Bc7.r6 + e) 1 = 1) ∧
    (Bc7Spec.endpoint 7 Bc7.r7 b e 3 = 255 ↔
      Bc7Spec.rd b (Bc7Spec.alphaStart 7 Bc7.r7 + e * 5) 5 = 31 ∧ Bc7Spec.rd b (Bc7Spec.pStart 7 Bc7.r7 + e) 1 = 1) :=
  ⟨rfl, rfl, rfl, rfl, Bc7Spec.alpha_endpoint_255_iff b e⟩

/-! ### BC7 opacity, encoder side: the discrete control flow (float results are parameters) -/

/-- `compress_bc7_block` (bc7.rs 95–136) with the presets of `BC7_UNORM` (bc.rs 480–491, `force_modes` empty): for a
fully opaque block (`stats.min.a = 255`) the modes tried are exactly the allowed modes among 0–6 — never mode 7 — for
every `allowed_modes` that contains one of them, in particular at all four quality levels (Fast {0,4,6}, Normal
{1,3,4,5,6}, High/Unreasonable {0..6}); and a block mixing opaque and non-opaque pixels is never tried in mode 6. -/
theorem bc7_opaque_modes :
    (∀ allowed, allowed ≤ 255 → allowed &&& 127 ≠ 0 →
      bc7ModesTried 255 255 allowed 0 = allowed &&& 127 ∧ bc7ModesTried 255 255 allowed 0 &&& MODE 7 = 0) ∧
    (∀ q, bc7ModesTried 255 255 (bc7Allowed q) 0 = bc7Allowed q &&& 127 ∧ bc7Allowed q &&& 127 ≠ 0) ∧
    (∀ minA, minA < 255 → ∀ q, bc7ModesTried minA 255 (bc7Allowed q) 0 &&& MODE 6 = 0) :=
  ⟨opaque_modes.1, opaque_modes.2, mixed_no_mode6⟩
example : bc7Allowed .fast ≤ 255 ∧ bc7Allowed .fast &&& 127 ≠ 0 ∧ bc7ModesTried 255 255 (bc7Allowed .normal) 0 = 0b1111010 := by
  decide

/-- `compress_rgba` (modes 6 and 7; bc7.rs 629–631 → `PBitHandling::pick_best` 761–785 → `pick_best_of_directly`
786–808 → `Compressed::mode6/mode7` swap): for a fully opaque subset the p-bits written are (1, 1) — for every
`max_p_bit_combinations`, every float estimate (`best1`, `best2`) and every error the float search reports (`err`),
with or without the endpoint swap.  By `bc7_alpha_endpoint_255_iff` this is NECESSARY for an alpha endpoint of 255;
that the 7-bit / 5-bit alpha fields are all ones is decided by `Quantization::pick_best` in f32 — not modelled. -/
theorem bc7_opaque_pbits (maxComb : Nat) (best1 : List (Bool × Bool) → Bool × Bool)
    (best2 : List (Bool × Bool) → List (Bool × Bool)) (err : Bool × Bool → Nat) (swap : Bool) :
    pickBestStates (possiblePBits true) ALL_UNIQUE maxComb best1 best2 = [(true, true)] ∧
    (pickBestOfDirectly (pickBestStates (possiblePBits true) ALL_UNIQUE maxComb best1 best2) err).map (pSwap · swap) =
      some (true, true) ∧
    (∀ (S : Type) (poss : List S) (e : S → Nat) (s : S), pickBestOfDirectly poss e = some s → s ∈ poss) :=
  ⟨(opaque_pbits maxComb best1 best2 err swap).1, (opaque_pbits maxComb best1 best2 err swap).2,
   fun _ poss e s h => pickBestOfDirectly_mem poss e s h⟩

/-- ties keep the first state (strict `<`), a smaller error later wins -/
example : pickBestOfDirectly [(false, true), (true, true)] (fun _ => 0) = some (false, true) ∧
    pickBestOfDirectly ALL_UNIQUE (fun p => if p = (true, false) then 1 else 2) = some (true, false) := by decide

/-- Constant alpha in modes 4 and 5 (`compress_color_separate_alpha_with_rotation`, bc7.rs 534–545): whatever
`Alpha::<A>::round / floor / ceil` return (f32, parameters here), if the guard `round.promote().a == a` holds both
stored endpoints promote to exactly `a`, and every interpolation weight returns `a`; for `a = 255` the guard allows
exactly the all-ones endpoint (63 in mode 4, 255 in mode 5).  The other branch (floor / ceil) is float-dependent. -/
theorem bc7_single_alpha_guard (A a round floor ceil : Nat) :
    ((singleAlpha A a round floor ceil).2 = true → ∀ w, w ≤ 64 →
      promoteAlpha A (singleAlpha A a round floor ceil).1.1 = a ∧ promoteAlpha A (singleAlpha A a round floor ceil).1.2 = a ∧
      Bc7Spec.interp (promoteAlpha A (singleAlpha A a round floor ceil).1.1)
        (promoteAlpha A (singleAlpha A a round floor ceil).1.2) w = a) ∧
    (round < 64 → (promoteAlpha 6 round = 255 ↔ round = 63)) ∧
    (round < 256 → (promoteAlpha 8 round = 255 ↔ round = 255)) :=
  ⟨fun h w hw => singleAlpha_exact A a round floor ceil h w hw, singleAlpha_opaque_guard.1 round,
   singleAlpha_opaque_guard.2 round⟩
example : (singleAlpha 6 255 63 63 63).2 = true ∧ (singleAlpha 6 254 63 62 63).2 = false := by decide

/-! ### single values on the remaining discrete paths: SNORM, BC3 alpha, BC2 alpha -/

/-- BC4 / BC5 SNORM, the analogue of `bc4_single_exact`: the block `[from_norm(n), from_norm(0), 0, …]` that
`single_color(value, snorm)` emits on its `closest` branch decodes at all 16 pixels — 8-bit and 16-bit output — to
exactly the decoder's value of SNORM level `n`, for ALL 255 levels; side by side for BC5 (8 bit, third channel 128).
Which inputs take the branch is decided in f32 (`|c0_f − value| < 2⁻¹⁶`; `Enc13.snormGuardF32` over the binary32 model);
an 8-bit UNORM input passes it exactly for 0 and 255 (`Proofs/Enc13F32.snorm_closest_branch_iff`; blocks `81 81 00…` → 0
and `7f 81 00…` → 255, compared with `dds::encode` on every run), every other 8-bit value goes through the float palette
search and is explored. -/
theorem bc4s_closest_exact : ∀ n, n ≤ 254 →
    Bc.decodeBlock .bc4s .u8 (blkOf (bc4sClosest n)) = List.replicate 16 [s8n8 (fromNorm n)] ∧
    Bc.decodeBlock .bc4s .u16 (blkOf (bc4sClosest n)) = List.replicate 16 [s8n16 (fromNorm n)] ∧
    s8norm (fromNorm n) = n ∧
    (∀ m, m ≤ 254 → ∀ p, p < 16 →
      Bc.px .bc5s .u8 (blkOf (bc4sClosest n ++ bc4sClosest m)) p = [s8n8 (fromNorm n), s8n8 (fromNorm m), 128]) :=
  fun n hn => ⟨bc4sClosest_decodes .u8 n, bc4sClosest_decodes .u16 n, (fromNorm_norm n hn).1,
    fun m _ p hp => bc5sClosest_px .u8 n m p hp⟩
example : bc4sClosest 0 = [0x81, 0x81, 0, 0, 0, 0, 0, 0] ∧ bc4sClosest 254 = [0x7f, 0x81, 0, 0, 0, 0, 0, 0] ∧
    s8n8 (fromNorm 0) = 0 ∧ s8n8 (fromNorm 254) = 255 ∧ s8n8 (fromNorm 127) = 128 := by decide

/-- BC3 alpha (BC3, BC3 premultiplied): whatever the colour block is, a block whose alpha half is `single_color`'s
`[a, 0, 0, …]` decodes alpha exactly `a` at all 16 pixels, all 256 values (in particular 255 stays 255). -/
theorem bc3_alpha_single_exact (a : Nat) (ha : a ≤ 255) (blk : Nat → Nat)
    (h : ∀ i, i < 8 → blk i = (bc4uSingle a).getD i 0) (p : Nat) (hp : p < 16) :
    (px8 .bc3 blk p).getD 3 0 = a ∧ (px8 .bc3p blk p).getD 3 0 = a := bc3_alpha_single a blk h p hp
example : ∀ i, i < 8 → blkOf (bc4uSingle 200 ++ [1, 2, 3, 4, 5, 6, 7, 8]) i = (bc4uSingle 200).getD i 0 := by decide

/-- BC2 explicit alpha (BC2, BC2 premultiplied; `bc2_alpha` without alpha dithering): for a block of constant 8-bit
alpha `a` the eight alpha bytes are all `17·q` with `q = round(a/17)` (`n4FromU8`), and under ANY colour block every
pixel decodes alpha `17·q`: within 8 of `a` (inside the 4-bit step bound 17), exactly `a` when 17 divides `a` — so 255
stays 255 and 0 stays 0. -/
theorem bc2_alpha_single_step (a : Nat) (ha : a ≤ 255) :
    bc2AlphaSingle a = List.replicate 8 (17 * n4FromU8 a) ∧ n4FromU8 a ≤ 15 ∧
    dist (17 * n4FromU8 a) a ≤ 8 ∧ 8 < STEP4 ∧ (a % 17 = 0 → 17 * n4FromU8 a = a) ∧
    ∀ blk : Nat → Nat, (∀ i, i < 8 → blk i = (bc2AlphaSingle a).getD i 0) → ∀ p, p < 16 →
      (px8 .bc2 blk p).getD 3 0 = 17 * n4FromU8 a ∧ (px8 .bc2p blk p).getD 3 0 = 17 * n4FromU8 a :=
  ⟨bc2AlphaSingle_eq a ha, n4FromU8_le a ha, (n4FromU8_near a).1, by decide, (n4FromU8_near a).2,
    fun blk hb p hp => bc2_alpha_single a ha blk hb p hp⟩
example : ∀ i, i < 8 → blkOf (bc2AlphaSingle 200 ++ [1, 2, 3, 4, 5, 6, 7, 8]) i = (bc2AlphaSingle 200).getD i 0 := by decide
example : bc2AlphaSingle 255 = List.replicate 8 255 ∧ bc2AlphaSingle 127 = List.replicate 8 119 ∧
    bc2AlphaSingle 128 = List.replicate 8 136 ∧ (255 : Nat) % 17 = 0 := by decide

/-! ### exactly representable 5:6:5 colours -/

/-- The 8 corner colours: the block of `compress_single_color` (`min == max`), in four-colour and in
three-colour mode, decodes to the colour at all 16 pixels, opaque; the four-colour one is `Portable` in every
format and the three-colour one never uses index 3. -/
theorem exact_single_decodes : ∀ c ∈ [(⟨0, 0, 0⟩ : C565), ⟨31, 0, 0⟩, ⟨0, 63, 0⟩, ⟨31, 63, 0⟩, ⟨0, 0, 31⟩, ⟨31, 0, 31⟩,
      ⟨0, 63, 31⟩, ⟨31, 63, 31⟩], ∀ p4 : Bool,
    Bc.decodeBlock .bc1 .u8 (blkOf (exactSingle p4 c)) =
      List.replicate 16 [c.r / 31 * 255, c.g / 63 * 255, c.b / 31 * 255, 255] ∧
    Portable (some .bc1) (blkOf (exactSingle p4 c)) 0 = true := by
  decide +kernel

/-! ### representability floors (specification level, `BcSpec`) -/

/-- If a value is exactly an entry of a palette — of ANY endpoint pair, colour or BC4 — the nearest-palette
assignment has zero error. -/
theorem representable_floor (pal : List Nat) (v : Nat) (h : v ∈ pal) : nearestErr pal v = 0 := by
  have := (foldl_min_le (fun x => dist x v) pal 256).2.1 v h
  unfold nearestErr
  have hd : dist v v = 0 := by unfold dist; simp
  omega

theorem representable_floor_spec (four : Bool) (e0 e1 m v : Nat) :
    (v ∈ specPalette four e0 e1 m → nearestErr (specPalette four e0 e1 m) v = 0) ∧
    (v ∈ specPalette4 e0 e1 → nearestErr (specPalette4 e0 e1) v = 0) :=
  ⟨representable_floor _ v, representable_floor _ v⟩

example : 85 ∈ specPalette true 0 31 31 ∧ 128 ∈ specPalette false 0 31 31 ∧ 73 ∈ specPalette4 255 0 := by decide +kernel

/-- Single colours, BC1-type palettes: for EVERY 8-bit grey level `g` there is an endpoint pair per channel
whose four-colour palette entry 2 (the same index for all channels) is within 1 of `g` in the specification's
decoded values — far inside the step bounds `STEP5`, `STEP6` the oracle demands, so the oracle's bound is
achievable for every grey level.  (The floor 1 is exact: e.g. no entry equals 1.) -/
theorem representable_floor_grey (g : Nat) (hg : g ≤ 255) :
    ∃ r0 r1 g0 g1, r0 ≤ 31 ∧ r1 ≤ 31 ∧ g0 ≤ 63 ∧ g1 ≤ 63 ∧
      dist (BcSpec.chan8 true 2 r0 r1 31) g ≤ 1 ∧ dist (BcSpec.chan8 true 2 g0 g1 63) g ≤ 1 ∧
      1 ≤ STEP5 ∧ 1 ≤ STEP6 := by
  obtain ⟨a, b⟩ := splitThird_le 31 _ (greyNum_le 31 g hg)
  obtain ⟨c, d⟩ := splitThird_le 63 _ (greyNum_le 63 g hg)
  refine ⟨_, _, _, _, a, b, c, d, ?_, ?_, by decide, by decide⟩
  · rw [← chan5_eq true 2 _ _ (by decide) a b]; exact grey5_near g hg
  · rw [← chan6_eq true 2 _ _ (by decide) c d]; exact grey6_near g hg

/-- BC4 / BC5 / BC3 alpha: every 8-bit value is exactly an endpoint (entry 0 of the palette with `e0 = v`), in
both interpolation modes: error 0 is achievable. -/
theorem representable_floor_bc4 : ∀ v, v ≤ 255 → v ∈ specPalette4 v 0 ∧ v ∈ specPalette4 v 255 :=
  fun v hv => ⟨mem_specPalette4 v 0 hv, mem_specPalette4 v 255 hv⟩

/-! ### the quantisation step bounds of the oracle -/

/-- Each bound is the largest difference between the decoded 8-bit values of two adjacent endpoint levels of
the channel ("one endpoint quantisation step", read on decoded values): 5-bit 9, 6-bit 5, BC2's 4-bit alpha 17,
8-bit UNORM 1, 8-bit SNORM shown at 8 bit 2 (255 levels on 256 values), BC7's coarsest colour grid (mode 0,
4 bits + p-bit) 9 and coarsest alpha grid (mode 4, 6 bits) 5. -/
theorem step_bounds :
    maxGap n5n8 31 = STEP5 ∧ maxGap n6n8 63 = STEP6 ∧ maxGap n4n8 15 = STEP4 ∧ maxGap (fun v => v) 255 = STEP8U ∧
    maxGap (fun s => s8n8 (w8 (s + 1 + 128))) 254 = STEP8S ∧
    maxGap (fun x => Bc7.promote x 5) 31 = STEP7C ∧ maxGap (fun x => Bc7.promote x 6) 63 = STEP7A := by
  decide +kernel

/-! ### BC7: the block writers, the anchor fix-up, the encoder's palette arithmetic and index search (`Enc7.lean`) -/

/-- For EVERY mode 0..7, every partition / rotation / index-selector value of that mode, every endpoint tuple whose
channels fit the mode's bit widths, every p-bit choice and EVERY index list (any `u64` holding 16 indexes of the mode's
width; the anchors are NOT assumed normalised), the block `Compressed::modeN(..)` writes decodes — under the
implementation-shaped decoder and under the specification decoder (C03x) — at each of the 16 pixels to exactly
`interpolate(p_promote(e0), p_promote(e1), index_i)` over the subset of pixel `i`, computed with the ENCODER's arithmetic
on the UN-normalised arguments, with the rotation applied (`Enc7.intended`).  So the anchor fix-up (swap the subset's
endpoints, swap its p-bits where they are per endpoint, invert the subset's indexes, drop the anchor's top bit) is
invisible after decoding, and the block is a 16-byte value. -/
theorem bc7_writer_roundtrip (f : Enc7.Fields) (h : f.WF) :
    Bc7.decodeBlock (Enc7.write f) = (List.range 16).map (Enc7.intended f) ∧
    Bc7Spec.decodeBlock (Enc7.write f) = (List.range 16).map (Enc7.intended f) ∧
    Enc7.write f < 2 ^ 128 := by
  refine ⟨Enc7.writer_roundtrip f h, ?_, Enc7.write_lt f⟩
  rw [← Bc7.decodeBlock_eq]; exact Enc7.writer_roundtrip f h

/-- one subset, mode 6: index 0 has its top bit set, so `compress_p1` reports a swap (endpoints AND p-bits are exchanged,
all 16 indexes inverted) -/
def exF6 : Enc7.Fields :=
  ⟨6, 0, 0, 0, [[1, 2, 3, 4], [120, 64, 127, 0]], [], [1, 0], 0x0123456789ABCDEF, 0⟩
example : exF6.WF ∧ (Enc7.compressP1 4 exF6.indexes).2 = true ∧
    Bc7.decodeBlock (Enc7.write exF6) = (List.range 16).map (Enc7.intended exF6) := by decide +kernel

/-- two subsets, mode 7, partition 13 (rows 0–1 / rows 2–3, anchors 0 and 15): both anchors have the top bit set -/
def exF7 : Enc7.Fields :=
  ⟨7, 13, 0, 0, [[1, 2, 3, 4], [30, 16, 31, 0], [9, 9, 9, 31], [0, 31, 0, 17]], [], [1, 0, 0, 1], 0xE4E4E4E7, 0⟩
example : exF7.WF ∧ (Enc7.compressP2 2 exF7.indexes (BcTables.implP2 13)).2 = (true, true) ∧
    Bc7.decodeBlock (Enc7.write exF7) = (List.range 16).map (Enc7.intended exF7) := by decide +kernel

/-- three subsets, mode 0, partition 1: every index is 7, so all three anchors have the top bit set and all three
subsets are swapped and inverted -/
def exF0 : Enc7.Fields :=
  ⟨0, 1, 0, 0, [[1, 2, 3], [15, 0, 8], [4, 4, 4], [9, 10, 11], [0, 0, 15], [7, 7, 7]], [], [1, 0, 0, 1, 1, 1],
    0xFFFFFFFFFFFF, 0⟩
example : exF0.WF ∧ (Enc7.compressP3 3 exF0.indexes (BcTables.implP3 1)).2 = (true, true, true) ∧
    Bc7.decodeBlock (Enc7.write exF0) = (List.range 16).map (Enc7.intended exF0) := by decide +kernel

/-- mode 4 with the swapped index selector (`C3A2`): the 3-bit list indexes the colour; both lists have the anchor's top
bit set, rotation `AG` -/
def exF4 : Enc7.Fields :=
  ⟨4, 0, 2, 1, [[1, 2, 3], [31, 0, 17]], [5, 60], [], 0xFFFFFFFE, 0xFAC688FAC68C⟩
example : exF4.WF ∧ (Enc7.compressP1 2 exF4.indexes).2 = true ∧ (Enc7.compressP1 3 exF4.indexes2).2 = true ∧
    Bc7.decodeBlock (Enc7.write exF4) = (List.range 16).map (Enc7.intended exF4) := by decide +kernel

/-- The encoder's own palette arithmetic (src/encode/bc7.rs) is the decoder's (src/decode/bc7.rs) for ALL inputs,
and on in-range inputs the specification's: `promote` = bit replication, `p_promote` = `(v << 1 | p)` then replication,
the weight tables are the decoder's, `interpolate::<W>` = the decoder's `lerp` on the decoder's table = the
specification's `((64 - w)·e0 + w·e1 + 32) >> 6`; swapping the endpoints and inverting the index does not change the
interpolated value (what makes the anchor fix-up sound). -/
theorem bc7_encoder_palette_eq_decoder :
    (∀ v bits, Enc7.promote v bits = Bc7.promote v bits) ∧
    (∀ B v, Enc7.promoteCh B v = if B = 8 then v else Bc7.promote v B) ∧
    (∀ B v p, Enc7.pPromoteCh B v p = if B = 7 then Bc7.withP v p else Bc7.promote (Bc7.withP v p) (B + 1)) ∧
    (Enc7.WEIGHTS_2 = Bc7.WEIGHTS_2 ∧ Enc7.WEIGHTS_3 = Bc7.WEIGHTS_3 ∧ Enc7.WEIGHTS_4 = Bc7.WEIGHTS_4) ∧
    (∀ W e0 e1 k, Enc7.interpolate W e0 e1 k =
      Bc7.lerp e0 e1 ((if W = 2 then Bc7.WEIGHTS_2 else if W = 3 then Bc7.WEIGHTS_3 else Bc7.WEIGHTS_4).getD k 0)) ∧
    (∀ bits v, 4 ≤ bits → bits < 8 → v < 2 ^ bits → Enc7.promote v bits = Bc7Spec.expand bits v) ∧
    (∀ B v p, 4 ≤ B → B < 8 → v < 2 ^ B → p < 2 → Enc7.pPromoteCh B v p = Bc7Spec.expand (B + 1) (v * 2 + p)) ∧
    (∀ W e0 e1 k, (W = 2 ∨ W = 3 ∨ W = 4) → e0 < 256 → e1 < 256 → k < 2 ^ W →
      Enc7.interpolate W e0 e1 k = Bc7Spec.interp e0 e1 ((BcTables.specWeights W).getD k 0)) ∧
    (∀ W e0 e1 k, (W = 2 ∨ W = 3 ∨ W = 4) → k < 2 ^ W →
      Enc7.interpolate W e1 e0 (2 ^ W - 1 - k) = Enc7.interpolate W e0 e1 k) :=
  ⟨Enc7.promote_eq_dec, fun _ _ => rfl, fun _ _ _ => rfl, Enc7.weights_eq_dec, Enc7.interpolate_eq_lerp,
    fun bits v h4 h8 hv => Enc7.promote_eq_spec bits v h4 h8 hv,
    fun B v p h4 h8 hv hp => Enc7.pPromoteCh_eq_spec B v p h4 h8 hv hp,
    fun W e0 e1 k hW h0 h1 hk => Enc7.interpolate_eq_spec W e0 e1 k hW h0 h1 hk,
    fun W e0 e1 k hW hk => Enc7.interpolate_sym W e0 e1 k hW hk⟩

example : Enc7.interpolate 3 200 17 2 = 149 ∧ Enc7.interpolate 3 17 200 5 = 149 ∧ Enc7.pPromoteCh 4 9 1 = 156 := by decide

/-- `closest_rgb`, `closest_rgba`, `closest_alpha` are EXHAUSTIVE over the whole palette (no shortcut), with a strict
`<` update, for every index width, all byte endpoints and every slice of at most 16 byte pixels (`Enc7.ArgminSpec`):
the index stored for pixel `i` is in range; its palette entry is at least as close (squared distance, `dist_sq`) as EVERY
entry and strictly closer than every entry with a LOWER index (ties go to the lowest index); the returned error is the sum
of the chosen distances, at most `n·4·255²` (`n·3·255²`, `n·255²`) ≤ 4 161 600, so the `u32` accumulator cannot overflow;
the index word holds 16 entries.  The palette list the search runs over is entry by entry the encoder's interpolation
table `j ↦ interpolate(e0, e1, j)` (the first and last entries, which the code takes from the endpoints themselves,
included). -/
theorem bc7_closest_is_argmin (I : Nat) (hI : I = 2 ∨ I = 3 ∨ I = 4) :
    (∀ (e0 e1 : List Nat) (pixels : List (List Nat)), Enc7.Byte4 e0 → Enc7.Byte4 e1 → (∀ p ∈ pixels, Enc7.Byte4 p) →
      pixels.length ≤ 16 →
      Enc7.ArgminSpec I Enc7.distSqRgba (Enc7.palette I (Enc7.interpolateRgba I) e0 e1) pixels [] (4 * 255 ^ 2)
        (Enc7.closestRgba I e0 e1 pixels)) ∧
    (∀ (e0 e1 : List Nat) (pixels : List (List Nat)), Enc7.Byte3 e0 → Enc7.Byte3 e1 → (∀ p ∈ pixels, Enc7.Byte3 p) →
      pixels.length ≤ 16 →
      Enc7.ArgminSpec I Enc7.distSqRgb (Enc7.palette I (Enc7.interpolateRgb I) e0 e1) pixels [] (3 * 255 ^ 2)
        (Enc7.closestRgb I e0 e1 pixels)) ∧
    (∀ (e0 e1 : Nat) (pixels : List Nat), e0 ≤ 255 → e1 ≤ 255 → (∀ p ∈ pixels, p ≤ 255) → pixels.length ≤ 16 →
      Enc7.ArgminSpec I Enc7.sqDiff (Enc7.palette I (Enc7.interpolateAlpha I) e0 e1) pixels 0 (255 ^ 2)
        (Enc7.closestAlpha I e0 e1 pixels)) ∧
    16 * (4 * 255 ^ 2) < U32 ∧
    (∀ a0 a1 a2 a3 b0 b1 b2 b3 j, j < 2 ^ I → a0 < 256 ∧ a1 < 256 ∧ a2 < 256 ∧ a3 < 256 →
      b0 < 256 ∧ b1 < 256 ∧ b2 < 256 ∧ b3 < 256 →
      (Enc7.palette I (Enc7.interpolateRgba I) [a0, a1, a2, a3] [b0, b1, b2, b3]).getD j [] =
        Enc7.interpolateRgba I [a0, a1, a2, a3] [b0, b1, b2, b3] j) ∧
    (∀ a0 a1 a2 b0 b1 b2 j, j < 2 ^ I → a0 < 256 ∧ a1 < 256 ∧ a2 < 256 → b0 < 256 ∧ b1 < 256 ∧ b2 < 256 →
      (Enc7.palette I (Enc7.interpolateRgb I) [a0, a1, a2] [b0, b1, b2]).getD j [] =
        Enc7.interpolateRgb I [a0, a1, a2] [b0, b1, b2] j) ∧
    (∀ a b j, j < 2 ^ I → a < 256 → b < 256 →
      (Enc7.palette I (Enc7.interpolateAlpha I) a b).getD j 0 = Enc7.interpolateAlpha I a b j) := by
  refine ⟨?_, ?_, ?_, by decide, ?_, ?_, ?_⟩
  · intro e0 e1 pixels h0 h1 hp hn; exact Enc7.closestRgba_argmin I e0 e1 pixels hI h0 h1 hp hn
  · intro e0 e1 pixels h0 h1 hp hn; exact Enc7.closestRgb_argmin I e0 e1 pixels hI h0 h1 hp hn
  · intro e0 e1 pixels h0 h1 hp hn; exact Enc7.closestAlpha_argmin I e0 e1 pixels hI h0 h1 hp hn
  · intro a0 a1 a2 a3 b0 b1 b2 b3 j hj ha hb; exact Enc7.paletteRgba_getD I _ _ _ _ _ _ _ _ j hI hj ha hb
  · intro a0 a1 a2 b0 b1 b2 j hj ha hb; exact Enc7.paletteRgb_getD I _ _ _ _ _ _ j hI hj ha hb
  · intro a b j hj ha hb; exact Enc7.paletteAlpha_getD I a b j hI hj ha hb

/-- ties: endpoints 10, 10 give the palette `[10, 10, 10, 10]` and every pixel takes index 0 (the FIRST of the equal
entries); endpoints 0, 255 give `[0, 84, 171, 255]`; the error is the sum of the squared distances -/
example : Enc7.closestAlpha 2 10 10 [7, 10, 12] = (0, 9 + 0 + 4) ∧
    Enc7.closestAlpha 2 0 255 [0, 85, 170, 255, 128] = (Enc7.ofList 2 [0, 1, 2, 3, 2], 1 + 1 + 43 * 43) := by decide

/-- Representable content is kept, mode 6. If every one of the 16 pixels IS an entry of the palette of the 7-bit
endpoints `e0, e1` with p-bits `p0, p1` — in particular if every pixel equals one of the two promoted endpoints — then
`Compressed::mode6` of the index list `closest_rgba::<4>` selects decodes to exactly the 16 pixels. -/
theorem bc7_mode6_keeps_palette_content (e0 e1 : List Nat) (p0 p1 : Nat) (pixels : List (List Nat))
    (hlen : pixels.length = 16) (he0 : ∀ c, c < 4 → Enc7.px e0 c < 2 ^ 7) (he1 : ∀ c, c < 4 → Enc7.px e1 c < 2 ^ 7)
    (hp0 : p0 < 2) (hp1 : p1 < 2)
    (hpx : ∀ p ∈ pixels, ∃ k, k < 16 ∧
      p = Enc7.interpolateRgba 4 (Enc7.pPromoteRgba 7 e0 p0) (Enc7.pPromoteRgba 7 e1 p1) k) :
    Bc7.decodeBlock (Enc7.mode6 [e0, e1] [p0, p1]
      (Enc7.closestRgba 4 (Enc7.pPromoteRgba 7 e0 p0) (Enc7.pPromoteRgba 7 e1 p1) pixels).1) = pixels :=
  Enc7.mode6_exact e0 e1 p0 p1 pixels hlen he0 he1 hp0 hp1 hpx

/-- two colours that are exactly the promoted endpoints, in a pattern whose first pixel is the SECOND endpoint: the
anchor index is 15, the writer swaps, and the block still decodes to the pixels -/
example :
    let a := Enc7.pPromoteRgba 7 [10, 20, 30, 127] 1
    let b := Enc7.pPromoteRgba 7 [100, 90, 80, 127] 1
    let pixels := [b, a, a, b, b, b, a, a, b, a, b, a, a, a, b, b]
    (Enc7.compressP1 4 (Enc7.closestRgba 4 a b pixels).1).2 = true ∧
    Bc7.decodeBlock (Enc7.mode6 [[10, 20, 30, 127], [100, 90, 80, 127]] [1, 1] (Enc7.closestRgba 4 a b pixels).1) = pixels := by
  decide +kernel

/-- Opacity. A block written with alpha endpoints that decode to 255 — modes 0–3 (no alpha field); mode 4 / 5
unrotated with alpha endpoints 63 / 255; mode 6 with 7-bit alpha 127 and both p-bits 1 (what `bc7_opaque_pbits` forces
for an opaque block); mode 7 with 5-bit alpha 31 and p-bit 1 at all four endpoints — shows alpha 255 at every pixel,
whatever the colour endpoints, partition and index lists are. -/
theorem bc7_writer_opaque (f : Enc7.Fields) (h : f.WF) (ha : Enc7.AlphaOnes f) :
    ∀ i, i < 16 → Enc7.alphaAt (Bc7.decodeBlock (Enc7.write f)) i = 255 :=
  fun i hi => Enc7.writer_opaque f h ha i hi

example : Enc7.AlphaOnes ⟨6, 0, 0, 0, [[1, 2, 3, 127], [120, 64, 127, 127]], [], [1, 1], 0x0123456789ABCDEF, 0⟩ := by
  decide

/-- `BlockStats::opaque()` (`min.a == 255` over the running minima of `BlockStats::new`) holds exactly when every pixel of
the block has alpha 255 (byte alphas) — the `opaque` that selects modes 0–3 / excludes mode 7 (`bc7_opaque_modes`) and
forces p-bits (1,1) (`bc7_opaque_pbits`), which with `bc7_writer_opaque` leaves only "the alpha FIELDS are all ones"
(float-dependent) between an opaque input and an opaque output. -/
theorem bc7_block_stats_opaque (block : List (List Nat)) (hb : ∀ p ∈ block, Enc7.px p 3 ≤ 255) :
    Enc7.isOpaque (Enc7.blockStats block) = true ↔ ∀ p ∈ block, Enc7.px p 3 = 255 :=
  Enc7.isOpaque_iff block hb

/-- `BlockStats`: `opaque()`, `single_color()` (compares all four channels), `single_alpha()` on concrete blocks -/
example : Enc7.isOpaque (Enc7.blockStats [[1, 2, 3, 255], [9, 9, 9, 255]]) = true ∧
    Enc7.isOpaque (Enc7.blockStats [[1, 2, 3, 255], [9, 9, 9, 254]]) = false ∧
    Enc7.singleColor (Enc7.blockStats [[1, 2, 3, 4], [1, 2, 3, 4]]) = some [1, 2, 3, 4] ∧
    Enc7.singleColor (Enc7.blockStats [[1, 2, 3, 4], [1, 2, 3, 5]]) = none ∧
    Enc7.singleAlpha (Enc7.blockStats [[1, 2, 3, 77], [9, 2, 3, 77]]) = some 77 := by decide

/-! ## BC1–BC5 encoders: the discrete core (`EncBc15.lean`; src/encode/bc1.rs, bc4.rs, bc.rs)

What the BC1 / BC2 / BC3 / RXGB / BC3n / BC4 / BC5 encoders WRITE decodes to what they COMPUTED: the block writers
(`EndPoints::with_indexes` of bc1.rs and bc4.rs, the two `IndexList`s with the `debug_assert!`s of `set`, `AlphaMap`,
`transparent_index`, `concat_blocks` and the channel wiring of bc.rs) are right inverses of the proved decoders of C03 on
the palette entries the index lists name; the endpoint order that `new_p4` / `new_p3_default` / `new_inter6` /
`inter6_to_inter4` establish selects, in the decoder, the palette the encoder built.  The float endpoint search is a
parameter (two valid 5:6:5 colours; two bytes / SNORM levels), and so is every per-pixel choice of `closest`. -/

open Dds.Enc15 in
/-- BC1 and the colour half of BC2 / BC3 / RXGB / BC3n.  For EVERY palette mode, EVERY pair of valid 5:6:5 colours
(in any order, equal or not), every alpha map and every per-pixel choice of `closest` (`< 4`; `< 3` in P3, where the scan
stops before the filler entry), with P4 only ever given the all-opaque map (`compress_p4`):
no `debug_assert!` of `IndexList::set` / `transparent_index` fires; the list holds `closest`'s choice at opaque and 3 at
transparent pixels; the 8 bytes decode under `Bc.decodeBlock` (= `BcSpec`, C03), at every precision and pixel, to entry
`index_p` of the palette over the ORDERED pair `create_endpoints(e0, e1)` in the encoder's mode — the swap and the
tie-break included; there is no re-mapping of indexes in the code because the palette is built after the ordering —
and the block is `Portable` as BC1 (index 3 of three-colour mode only under the transparency mask).
Behind ANY 8 first bytes the P4 block decodes, under the always-four-colour decoder of BC2 / BC3, to the same P4 entries
with alpha 255, and the 16-byte block is `Portable` for all six BC2 / BC3-family formats. -/
theorem bc1_writer_roundtrip (mode : PaletteMode) (e0 e1 : C565) (v0 : e0.Valid) (v1 : e1.Valid)
    (alphaMap : Nat) (sel : Nat → Nat)
    (hs : ∀ i, i < 16 → isOpaque alphaMap i = true → sel i < (if mode = .p3 then 3 else 4))
    (hm : mode = .p4 → ∀ i, i < 16 → isOpaque alphaMap i = true) :
    ∃ idx, blockIndexes mode alphaMap sel = some idx ∧ idx < 2 ^ 32 ∧
      (∀ p, p < 16 → idxGet 2 idx p = indexAt alphaMap sel p) ∧
      emitColour mode e0 e1 alphaMap sel = some (withIndexes (createEndpoints mode e0 e1) idx) ∧
      (∀ pr, Bc.decodeBlock .bc1 pr (blkOf (withIndexes (createEndpoints mode e0 e1) idx)) =
        (List.range 16).map fun p =>
          (intendedColour mode (createEndpoints mode e0 e1) (indexAt alphaMap sel p)).map (BcSpec.widen pr)) ∧
      (∀ ok3, (∀ p, p < 16 → isOpaque alphaMap p = false → ok3.testBit p = true) →
        Portable (some .bc1) (blkOf (withIndexes (createEndpoints mode e0 e1) idx)) ok3 = true) ∧
      (mode = .p4 → ∀ first : List Nat, first.length = 8 → (∀ x ∈ first, x < 256) →
        (∀ p, p < 16 →
          let c := Bc.bc1NoDefaultPx (Bc.upper (blkOf (concatBlocks first (withIndexes (createEndpoints .p4 e0 e1) idx)))) p
          [c.1, c.2.1, c.2.2.1] = intendedRgb .p4 (createEndpoints .p4 e0 e1) (indexAt alphaMap sel p) ∧ c.2.2.2 = 255) ∧
        ∀ f ∈ [Fmt.bc2, .bc2p, .bc3, .bc3p, .rxgb, .bc3n], ∀ ok3,
          Portable (some f) (blkOf (concatBlocks first (withIndexes (createEndpoints .p4 e0 e1) idx))) ok3 = true) := by
  obtain ⟨idx, h1, h2, h3, h4, h5, h6, h7⟩ := bc1_block mode e0 e1 v0 v1 alphaMap sel hs hm
  refine ⟨idx, h1, h2, h3, h4, h6, h7, ?_⟩
  intro hmode first hl hf
  subst hmode
  refine ⟨fun p hp => ?_, fun f hfm ok3 => colour_half_portable first hl e0 e1 v0 v1 idx ok3 f hfm⟩
  have hb := blkOf_lt _ (concat_lt hf h5)
  have h := colour_half first hl e0 e1 v0 v1 idx h2 p
  rw [Bc.colorUpper_eq _ hb p, ← h3 p hp]
  exact h

open Dds.Enc15 in
/-- P4 with `e0 < e1` (the swap of `new_p4` runs), equal colours with `b = 0` and `b ≠ 0` (both tie-breaks), and P3 with
`e0 > e1` (the swap of `new_p3_default` runs) under a map with transparent pixels: the blocks and what they decode to -/
example :
    createEndpoints .p4 ⟨1, 2, 3⟩ ⟨30, 60, 20⟩ = (⟨30, 60, 20⟩, ⟨1, 2, 3⟩) ∧
    emitColour .p4 ⟨1, 2, 3⟩ ⟨30, 60, 20⟩ 0xFFFF (fun i => i % 4) = some [148, 247, 67, 8, 0xE4, 0xE4, 0xE4, 0xE4] ∧
    (Bc.decodeBlock .bc1 .u8 (blkOf [148, 247, 67, 8, 0xE4, 0xE4, 0xE4, 0xE4])).take 4 =
      [[247, 243, 165, 255], [8, 8, 25, 255], [167, 165, 118, 255], [88, 86, 71, 255]] ∧
    (List.range 4).map (intendedColour .p4 (createEndpoints .p4 ⟨1, 2, 3⟩ ⟨30, 60, 20⟩)) =
      [[247, 243, 165, 255], [8, 8, 25, 255], [167, 165, 118, 255], [88, 86, 71, 255]] ∧
    createEndpoints .p4 ⟨3, 7, 0⟩ ⟨3, 7, 0⟩ = (⟨3, 7, 1⟩, ⟨3, 7, 0⟩) ∧
    createEndpoints .p4 ⟨3, 7, 5⟩ ⟨3, 7, 5⟩ = (⟨3, 7, 5⟩, ⟨3, 7, 4⟩) ∧
    createEndpoints .p3 ⟨30, 60, 20⟩ ⟨1, 2, 3⟩ = (⟨1, 2, 3⟩, ⟨30, 60, 20⟩) ∧
    emitColour .p3 ⟨30, 60, 20⟩ ⟨1, 2, 3⟩ 0x0F0F (fun i => i % 3) = some [67, 8, 148, 247, 0x24, 0xFF, 0x92, 0xFF] ∧
    (Bc.decodeBlock .bc1 .u8 (blkOf [67, 8, 148, 247, 0x24, 0xFF, 0x92, 0xFF])).take 5 =
      [[8, 8, 25, 255], [247, 243, 165, 255], [128, 125, 95, 255], [8, 8, 25, 255], [0, 0, 0, 0]] ∧
    -- an assertion fires: a second palette without transparent entry asked for one; an index that is not 2 bits
    emitColour .p4 ⟨1, 2, 3⟩ ⟨30, 60, 20⟩ 0xFFFE (fun _ => 0) = none ∧
    emitColour .p3 ⟨1, 2, 3⟩ ⟨30, 60, 20⟩ 0xFFFF (fun _ => 4) = none := by decide +kernel

open Dds.Enc15 in
/-- The BC4 family: BC4 UNORM / SNORM, both halves of BC5 UNORM / SNORM, the alpha block of BC3 and the red block of
RXGB / BC3n in front of the colour block.  For EVERY pair of endpoint bytes and every sixteen 3-bit indexes — as an index
list built by sixteen `set`s (no assertion fires, `get` returns the values) or by `new_all` — the proved decoder returns
at every pixel and precision the quantised value of entry `index_p` of the BC4 palette of the pair: eight values when
`c0 > c1` (SNORM: as `i8`), six values plus 0 and 1 otherwise, over the bytes (UNORM, `/255`) or the levels
`0..254` (SNORM, `/254`, `0x80` and `0x81` both level 0).  And the constructors tie the order to the palette the encoder
built: `new_inter6` gives the eight-value order (never swaps under SNORM, never writes `0x80`), `new_inter4` /
`inter6_to_inter4` the six-value order, `new_closest` keeps level `n` at index 0. -/
theorem bc4_writer_roundtrip :
    -- index lists
    (∀ v : Nat → Nat, (∀ j, v j < 8) →
      idxFill 3 U64 (fun i => some (v i)) = some (packed 3 v 16) ∧ packed 3 v 16 < 2 ^ 48 ∧
      ∀ i, i < 16 → idxGet 3 (packed 3 v 16) i = v i) ∧
    (∀ value, value < 8 → ∃ d, newAll value = some d ∧ d < 2 ^ 48 ∧ ∀ i, i < 16 → idxGet 3 d i = value) ∧
    -- BC4 and BC5, UNORM and SNORM
    (∀ (snorm : Bool) (c0 c1 data : Nat), c0 < 256 → c1 < 256 → data < 2 ^ 48 → ∀ pr,
      Bc.decodeBlock (if snorm then .bc4s else .bc4u) pr (blkOf (withIndexes4 c0 c1 data)) =
        (List.range 16).map fun p => [BcSpec.quant pr (intended4 (sixOfBytes snorm c0 c1) (levelOfByte snorm c0)
          (levelOfByte snorm c1) (if snorm then 254 else 255) (idxGet 3 data p))]) ∧
    (∀ (snorm : Bool) (r0 r1 rdata g0 g1 gdata : Nat), r0 < 256 → r1 < 256 → g0 < 256 → g1 < 256 → rdata < 2 ^ 48 →
      gdata < 2 ^ 48 → ∀ pr,
      Bc.decodeBlock (if snorm then .bc5s else .bc5u) pr
          (blkOf (concatBlocks (withIndexes4 r0 r1 rdata) (withIndexes4 g0 g1 gdata))) =
        (List.range 16).map fun p =>
          [BcSpec.quant pr (intended4 (sixOfBytes snorm r0 r1) (levelOfByte snorm r0) (levelOfByte snorm r1)
              (if snorm then 254 else 255) (idxGet 3 rdata p)),
           BcSpec.quant pr (intended4 (sixOfBytes snorm g0 g1) (levelOfByte snorm g0) (levelOfByte snorm g1)
              (if snorm then 254 else 255) (idxGet 3 gdata p)),
           BcSpec.quant pr (if snorm then 1 / 2 else 0)]) ∧
    -- BC3 (alpha block first), RXGB (red block first, green / blue from the colour block), BC3n at 8 bit
    (∀ (a0 a1 adata : Nat) (e0 e1 : C565) (idx : Nat), a0 < 256 → a1 < 256 → adata < 2 ^ 48 → e0.Valid → e1.Valid →
      idx < 2 ^ 32 →
      let blk := blkOf (concatBlocks (withIndexes4 a0 a1 adata) (withIndexes (createEndpoints .p4 e0 e1) idx))
      let a (p : Nat) := BcSpec.rnd (255 * intended4 (decide (a0 > a1)) a0 a1 255 (idxGet 3 adata p))
      let rgb (p : Nat) := intendedRgb .p4 (createEndpoints .p4 e0 e1) (idxGet 2 idx p)
      (∀ pr, Bc.decodeBlock .bc3 pr blk = (List.range 16).map fun p => (rgb p ++ [a p]).map (BcSpec.widen pr)) ∧
      (∀ pr, Bc.decodeBlock .rxgb pr blk = (List.range 16).map fun p => ([a p] ++ (rgb p).drop 1).map (BcSpec.widen pr)) ∧
      (∀ p, p < 16 → Bc.px8 .bc3n blk p = [a p, (rgb p).getD 1 0, Bc.calcB (a p) ((rgb p).getD 1 0)])) ∧
    -- the constructors
    (∀ (snorm : Bool) (minR maxR minF maxC : Nat), minR ≤ maxR → minF ≤ maxC →
      maxR ≤ (if snorm then 254 else 255) → maxC ≤ (if snorm then 254 else 255) →
      let mm := fixDistinct minR maxR minF maxC
      let e := newInter6 snorm minR maxR minF maxC
      e.c0 < 256 ∧ e.c1 < 256 ∧ sixOfBytes snorm e.c0 e.c1 = true ∧
      sixOfBytes snorm (newInter4 snorm minR maxR minF maxC).c0 (newInter4 snorm minR maxR minF maxC).c1 = false ∧
      levelOfByte snorm e.c0 = mm.2 ∧ levelOfByte snorm e.c1 = mm.1 ∧ mm.1 < mm.2 ∧
      (snorm = true → e.c0 = fromNorm mm.2 ∧ e.c1 = fromNorm mm.1 ∧ e.c0 ≠ 128 ∧ e.c1 ≠ 128)) ∧
    (∀ (snorm : Bool) (n : Nat), n ≤ (if snorm then 254 else 255) →
      (newClosest snorm n).c0 < 256 ∧ (newClosest snorm n).c1 < 256 ∧ levelOfByte snorm (newClosest snorm n).c0 = n ∧
      (snorm = true → (newClosest snorm n).c0 ≠ 128 ∧ (newClosest snorm n).c1 = 129)) :=
  ⟨fun v hv => idxFill_spec 3 U64 (by decide) (by decide) v hv _ fun _ _ => rfl,
    fun value hv => ⟨_, newAll_spec value hv, packed_lt 3 (by decide) _ (fun _ => hv) 16,
      idxGet_packed 3 (by decide) _ (fun _ => hv) 16⟩,
    bc4_block_decodes, bc5_block_decodes, bc3_block_decodes, newInter6_spec, newClosest_spec⟩

open Dds.Enc15 in
/-- six-interpolant and four-interpolant order, UNORM and SNORM (`from_norm 200 = 73`, `from_norm 10 = 139 = −117`), a
`new_all` list, and BC5 with the two halves in different modes -/
example :
    (newInter6 false 10 200 10 200).c0 = 200 ∧ (newInter6 false 10 200 10 200).c1 = 10 ∧
    (newInter4 false 10 200 10 200).c0 = 10 ∧ (newInter6 true 10 200 10 200).c0 = 73 ∧
    (newInter6 true 10 200 10 200).c1 = 139 ∧ (newInter6 false 7 7 7 7).c0 = 7 ∧ (newInter6 false 7 7 7 7).c1 = 6 ∧
    idxFill 3 U64 (fun i => some (i % 8)) = some 0xFAC688FAC688 ∧ newAll 5 = some 0xB6DB6DB6DB6D ∧
    Bc.decodeBlock .bc4u .u8 (blkOf (withIndexes4 200 10 0xFAC688FAC688)) =
      (List.range 16).map (fun p => [[200, 10, 173, 146, 119, 91, 64, 37].getD (p % 8) 0]) ∧
    Bc.decodeBlock .bc4u .u8 (blkOf (withIndexes4 10 200 0xFAC688FAC688)) =
      (List.range 16).map (fun p => [[10, 200, 48, 86, 124, 162, 0, 255].getD (p % 8) 0]) ∧
    (Bc.decodeBlock .bc5s .u8 (blkOf (concatBlocks (withIndexes4 73 139 0xFAC688FAC688) (withIndexes4 139 73 0xB6DB6DB6DB6D)))).take 3 =
      [[201, 163, 128], [10, 163, 128], [174, 163, 128]] := by decide +kernel

open Dds.Enc15 in
/-- BC2 = `concat_blocks(bc2_alpha(alpha), compress_bc1_block(..))`.  For ANY sixteen 8-bit alphas and any P4 colour
block the 16 bytes decode, at every precision, to the P4 entry of the colour index and alpha `17·⌊(2a + 17)/34⌋`
(`Enc13Single.bc2_alpha_px` for the alpha bytes); the nibble layout of the writer is the decoder's for all sixteen 4-bit
values at once: byte `k` = `n₂ₖ + 16·n₂ₖ₊₁`, pixel `p` shows `17·nₚ`. -/
theorem bc2_writer_roundtrip :
    (∀ (alphas : List Nat) (e0 e1 : C565) (idx : Nat), (∀ a ∈ alphas, a ≤ 255) → e0.Valid → e1.Valid → idx < 2 ^ 32 → ∀ pr,
      Bc.decodeBlock .bc2 pr (blkOf (concatBlocks (bc2AlphaBlock alphas) (withIndexes (createEndpoints .p4 e0 e1) idx))) =
        (List.range 16).map fun p =>
          (intendedRgb .p4 (createEndpoints .p4 e0 e1) (idxGet 2 idx p) ++ [17 * n4FromU8 (alphas.getD p 0)]).map
            (BcSpec.widen pr)) ∧
    (∀ n : List Nat, n.length = 16 → (∀ x ∈ n, x ≤ 15) →
      (∀ k, k < 8 → (bc2AlphaBlock (n.map (17 * ·))).getD k 0 = n.getD (2 * k) 0 + 16 * n.getD (2 * k + 1) 0) ∧
      ∀ p, p < 16 → Bc.bc2Alpha (blkOf (bc2AlphaBlock (n.map (17 * ·)))) p = 17 * n.getD p 0) :=
  ⟨fun alphas e0 e1 idx ha v0 v1 hi pr => bc2_full alphas ha e0 e1 v0 v1 idx hi pr, bc2_nibbles⟩

open Dds.Enc15 in
example :
    bc2AlphaBlock ((List.range 16).map (17 * ·)) = [0x10, 0x32, 0x54, 0x76, 0x98, 0xBA, 0xDC, 0xFE] ∧
    (Bc.decodeBlock .bc2 .u8 (blkOf (concatBlocks (bc2AlphaBlock ((List.range 16).map (17 * ·)))
      [148, 247, 67, 8, 0xE4, 0xE4, 0xE4, 0xE4]))).take 4 =
      [[247, 243, 165, 0], [8, 8, 25, 17], [167, 165, 118, 34], [88, 86, 71, 51]] := by decide +kernel

open Dds.Enc15 in
/-- Colour. The encoder's OWN palette of bc1.rs, evaluated in binary32 exactly as `R5G6B5Color::to_vec`
(`n5::f32`, `n6::f32`) and `Palette::new_p4` (`c0 * (2/3) + c1 * (1/3)`, `c0 * (1/3) + c1 * (2/3)`) / `Palette::new_p3`
(`(c0 + c1) * 0.5`) compute it, against the decoder's palette.  For BOTH channel widths, EVERY pair of endpoint levels
(32 × 32, 64 × 64), both modes and every entry that can be selected (4 in P4, 3 in P3): the f32 entry `v`
* is finite, non-negative, with negative exponent, so that its value is the fraction `f32Frac v` (first clause: this IS
  `CF32.toRat v`);
* rounds to nearest (`⌊255·v + ½⌋`) to exactly the 8-bit value the DECODER shows for that entry
  (`BcSpec.chan8` = `Bc`'s multiply-add-shift palette, C03) — including the exact ties `a + b = 31` / `63` of the P3 mid
  colour, where `(c0 + c1) * 0.5` is exactly `0.5` and both sides go up;
* lies within `2^-22` of the exact rational entry `(w0·a + w1·b)/((w0 + w1)·m)`, which is the specification's entry.
So the errors the encoder minimises are errors against the decoded colours up to 8-bit rounding.  Kernel-checked by
complete evaluation (`Proofs/EncBc15PalColour.lean`). -/
theorem bc1_palette_f32_rounds_to_decoder :
    (∀ v, f32Small v = true → CF32.toRat v = ((f32Frac v).1 : Rat) / ((f32Frac v).2 : Rat)) ∧
    (∀ (mode : PaletteMode) (a b k : Nat), a ≤ 31 → b ≤ 31 → k < (if mode = .p3 then 3 else 4) →
      let v := paletteEntry mode (Conv.n5f32 a) (Conv.n5f32 b) k
      let w := paletteWeights mode k
      f32Small v = true ∧ f32Nearest8 v = BcSpec.chan8 (decide (mode = .p4)) k a b 31 ∧
      f32Within22 v (w.1 * a + w.2 * b) ((w.1 + w.2) * 31) = true ∧
      BcSpec.colorEntry (decide (mode = .p4)) k a b 31 = some (BcSpec.interp w.1 w.2 a b 31)) ∧
    (∀ (mode : PaletteMode) (a b k : Nat), a ≤ 63 → b ≤ 63 → k < (if mode = .p3 then 3 else 4) →
      let v := paletteEntry mode (Conv.n6f32 a) (Conv.n6f32 b) k
      let w := paletteWeights mode k
      f32Small v = true ∧ f32Nearest8 v = BcSpec.chan8 (decide (mode = .p4)) k a b 63 ∧
      f32Within22 v (w.1 * a + w.2 * b) ((w.1 + w.2) * 63) = true ∧
      BcSpec.colorEntry (decide (mode = .p4)) k a b 63 = some (BcSpec.interp w.1 w.2 a b 63)) := by
  have hw : ∀ (mode : PaletteMode) (a b k m : Nat), k < (if mode = .p3 then 3 else 4) →
      BcSpec.colorEntry (decide (mode = .p4)) k a b m =
        some (BcSpec.interp (paletteWeights mode k).1 (paletteWeights mode k).2 a b m) := by
    intro mode a b k m hk
    cases mode with
    | p4 =>
      simp only [reduceCtorEq, if_false] at hk
      have : k = 0 ∨ k = 1 ∨ k = 2 ∨ k = 3 := by omega
      rcases this with rfl | rfl | rfl | rfl <;> rfl
    | p3 =>
      simp only [if_true] at hk
      have : k = 0 ∨ k = 1 ∨ k = 2 := by omega
      rcases this with rfl | rfl | rfl <;> rfl
  refine ⟨f32Frac_spec, ?_, ?_⟩
  · intro mode a b k ha hb hk
    have h := palette_of_chk pal5_all Bc.chan5_eq mode a b k ha hb hk
    exact ⟨h.1, h.2.1, h.2.2, hw mode a b k 31 hk⟩
  · intro mode a b k ha hb hk
    have h := palette_of_chk pal6_all Bc.chan6_eq mode a b k ha hb hk
    exact ⟨h.1, h.2.1, h.2.2, hw mode a b k 63 hk⟩

open Dds.Enc15 in
/-- the P4 entry 3 of red endpoints 1 and 30 is the pattern 1059580410 = 0.65591…, which rounds to 167 = the decoder's
second third colour; the P3 mid of 1 and 30 is exactly 0.5 (a tie: 127.5) and both sides show 128 -/
example :
    paletteEntry .p4 (Conv.n5f32 1) (Conv.n5f32 30) 3 = 1059580410 ∧ f32Nearest8 1059580410 = 167 ∧
    BcSpec.chan8 true 3 1 30 31 = 167 ∧
    paletteEntry .p3 (Conv.n5f32 1) (Conv.n5f32 30) 2 = 0x3F000000 ∧ f32Frac 0x3F000000 = (8388608, 16777216) ∧
    f32Nearest8 0x3F000000 = 128 ∧ BcSpec.chan8 false 2 1 30 31 = 128 := by decide +kernel

open Dds.Enc15 in
/-- Index maps of bc4.rs. `Inter6Palette::closest` turns the interpolation step `j = blend7` (counted from `c1`:
`closest = j·factor2 + c1`) into the index `INDEX_MAP[j]`; for EVERY endpoint pair that index's entry of the decoder's
eight-value palette is exactly the `j`-th point: weights `j : 7 − j` on `(c0, c1)` (`j = 0` ↦ `c1`, `j = 7` ↦ `c0`), and
`INDEX_MAP` is a permutation of `0..7`.  `Inter4Palette` uses the index as position in `colors`: entry `k` of the
decoder's six-value palette has weights `6 − k : k − 1` (the `0.8/0.2 … 0.2/0.8` of `Inter4Palette::new`), 6 is 0, 7 is 1. -/
theorem bc4_index_map_spec (c0 c1 m : Nat) :
    (∀ j, 1 ≤ j → j ≤ 6 → intended4 true c0 c1 m (INDEX_MAP.getD j 0) = BcSpec.interp j (7 - j) c0 c1 m) ∧
    intended4 true c0 c1 m (INDEX_MAP.getD 0 0) = BcSpec.interp 0 1 c0 c1 m ∧
    intended4 true c0 c1 m (INDEX_MAP.getD 7 0) = BcSpec.interp 1 0 c0 c1 m ∧
    (∀ k, k < 8 → ∃ j, j < 8 ∧ INDEX_MAP.getD j 0 = k) ∧
    intended4 false c0 c1 m 0 = BcSpec.interp 1 0 c0 c1 m ∧ intended4 false c0 c1 m 1 = BcSpec.interp 0 1 c0 c1 m ∧
    (∀ k, 2 ≤ k → k ≤ 5 → intended4 false c0 c1 m k = BcSpec.interp (6 - k) (k - 1) c0 c1 m) ∧
    intended4 false c0 c1 m 6 = 0 ∧ intended4 false c0 c1 m 7 = 1 := by
  have h4 := indexMap4 c0 c1 m
  refine ⟨indexMap6 c0 c1 m, (indexMap6_ends c0 c1 m).1, (indexMap6_ends c0 c1 m).2, ?_, h4.1, h4.2.1, h4.2.2.1,
    h4.2.2.2.1, h4.2.2.2.2⟩
  decide

open Dds.Enc15 in
/-- BC4 palettes in binary32, PARTIAL.  Full statement: for EVERY pair of endpoint levels `hi > lo` (UNORM bytes
`0..255`, SNORM levels `0..254` written as `from_norm`), the value `Inter6Palette::closest` computes for step `j`,
`j as f32 * factor2 + c1` with `factor2 = (1/7)·(c0 − c1)` over `n8::f32` / `s8::uf32`, and the eight
`Inter4Palette::new(c0, c1).colors` (`c0 * 0.8 + c1 * 0.2` …) round to the decoder's 8-bit entry of the written index
(exact ties of the exact entry excepted — they exist only under SNORM, e.g. 889/1778 — where the decoder goes up) and lie
within `2^-22` of the exact entry.  PROVED here on the sub-domain `hi = max, lo ≥ 1` and `hi = lo + 1, lo ≥ 1` (2 × 254 resp.
2 × 253 pairs per mode; steps `j = 1..7`, all 8 entries of the four-interpolant palette), kernel-checked
(`Proofs/EncBc15PalBc4.lean`).  GAP: the remaining pairs (4 × 32 640 pairs of about 30 operations each)
and step 0 / `lo = 0` (adding a zero in the software float rounds a 150-bit sum, which the kernel evaluates
very slowly) are evaluated by the compiled model only (the same checks over the whole domain: no exception for UNORM; under
SNORM 2 + 79 exact ties; notes/C13.md) — a test, not a theorem.  The emitted INDEXES do not depend on these values (`bc4_index_map_spec`; `cl15`). -/
theorem bc4_palette_f32_partial (snorm : Bool) (kind i : Nat) (hk : kind < 2) (hi : i + 1 < denOf snorm) :
    let hl := subPair snorm kind i
    hl.2 < hl.1 ∧ hl.1 ≤ denOf snorm ∧ 1 ≤ hl.2 ∧
    (∀ j, 1 ≤ j → j < 8 →
      let e := endpointsOfBytes snorm (byteOf snorm hl.1) (byteOf snorm hl.2)
      let v := (Inter6Palette.new e.c0f e.c1f).stepValue j
      f32Small v = true ∧
      (f32Nearest8 v = dec4 snorm true hl.1 hl.2 (INDEX_MAP.getD j 0) ∨
        510 * (j * hl.1 + (7 - j) * hl.2) + 7 * denOf snorm =
          2 * dec4 snorm true hl.1 hl.2 (INDEX_MAP.getD j 0) * (7 * denOf snorm)) ∧
      f32Within22 v (j * hl.1 + (7 - j) * hl.2) (7 * denOf snorm) = true) ∧
    (∀ k, k < 8 →
      let e := endpointsOfBytes snorm (byteOf snorm hl.2) (byteOf snorm hl.1)
      let v := (inter4Colors e.c0f e.c1f).getD k 0
      f32Small v = true ∧
      (f32Nearest8 v = dec4 snorm false hl.2 hl.1 k ∨
        510 * num4 hl.2 hl.1 (denOf snorm) k + den4 (denOf snorm) k =
          2 * dec4 snorm false hl.2 hl.1 k * den4 (denOf snorm) k) ∧
      f32Within22 v (num4 hl.2 hl.1 (denOf snorm) k) (den4 (denOf snorm) k) = true) ∧
    (∀ six l0 l1 k, dec4 false six l0 l1 k = Bc.bc4Lut (Bc.bc4uOps .u8) l0 l1 l0 l1 six k) ∧
    (∀ six l0 l1 k, dec4 true six l0 l1 k =
      Bc.bc4Lut (Bc.bc4sOps .u8) (Bc.s8n8 (fromNorm l0)) (Bc.s8n8 (fromNorm l1)) l0 l1 six k) := by
  have f := subPair_facts snorm kind i hi
  have h := bc4_palette_sub snorm kind i hk hi
  exact ⟨f.1, f.2.1, f.2.2, fun j hj1 hj => (okEntryT_iff _ _ _ _).mp (h.1 j hj1 hj),
    fun k hk8 => (okEntryT_iff _ _ _ _).mp (h.2 k hk8), dec4_unorm, dec4_snorm⟩

open Dds.Enc15 in
/-- UNORM pair (255, 1): step 3 has index 5, the decoder shows 110 and so does the f32 value; SNORM levels (254, 1) are
the bytes (127, 0x82) -/
example :
    subPair false 0 0 = (255, 1) ∧ INDEX_MAP.getD 3 0 = 5 ∧ dec4 false true 255 1 5 = 110 ∧
    f32Nearest8 ((Inter6Palette.new (Conv.n8f32 255) (Conv.n8f32 1)).stepValue 3) = 110 ∧
    subPair true 0 0 = (254, 1) ∧ byteOf true 254 = 127 ∧ byteOf true 1 = 130 := by decide +kernel

end Dds.C13
