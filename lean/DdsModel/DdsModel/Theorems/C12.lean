/-
Property C12 — uncompressed encoding is exact where the format can hold the input, else nearest.
Only the property theorems and non-vacuity examples; helpers are in the `Proofs` modules imported below.
Unbounded unless the name says otherwise; finite statements are settled over their WHOLE domain.
-/
import DdsModel.Proofs.Quant
import DdsModel.Proofs.QuantFloat
import DdsModel.Proofs.QuantInt16
import DdsModel.Proofs.QuantFin
import DdsModel.Proofs.QuantF32Thr
import DdsModel.Proofs.EncCarrier
namespace Dds.C12
open Dds.Quant

/-! ## exactness: an n-bit value stored in a wider field comes back -/

/-- (must, unbounded in n, m) `q_n (deq_m (q_m (deq_n v))) = v` for `1 ≤ n ≤ m`, `v ≤ 2^n − 1`. -/
theorem widen_roundtrip (n m v : Nat) (hn : 1 ≤ n) (hnm : n ≤ m) (hv : v ≤ 2 ^ n - 1) :
    q n (deq m (q m (deq n v))) = v := by
  unfold q deq maxCode
  have h1 : 2 ^ 1 ≤ 2 ^ n := Nat.pow_le_pow_right (by omega) hn
  have h2 : 2 ^ n ≤ 2 ^ m := Nat.pow_le_pow_right (by omega) hnm
  exact qL_roundtrip _ _ v (by omega) (by omega) hv
example : q 8 (deq 10 (q 10 (deq 8 200))) = 200 := widen_roundtrip 8 10 200 (by omega) (by omega) (by omega)

/-- the same for any numbers of levels `N ≤ L` (covers SNORM's `2^m − 2` and the shared exponent's `2^k`) -/
theorem levels_roundtrip (N L v : Nat) (hN : 0 < N) (hNL : N ≤ L) (hv : v ≤ N) :
    qL N (deqL L (qL L (deqL N v))) = v := qL_roundtrip N L v hN hNL hv
example : qL 255 (deqL 256 (qL 256 (deqL 255 77))) = 77 := levels_roundtrip 255 256 77 (by omega) (by omega) (by omega)

/-- SNORM analogue: an n-bit UNORM value survives an m-bit SNORM field for `n < m`
(bit pattern through `from_norm` / `norm`, i.e. including the bias and the doubled minimum). -/
theorem snorm_widen_roundtrip (n m v : Nat) (hn : 1 ≤ n) (hnm : n < m) (hv : v ≤ 2 ^ n - 1) :
    q n (sdeq m (sencode m (deq n v))) = v := by
  unfold sdeq sencode sq
  rw [snormNorm_ofNorm m _ (by omega) (qL_le _ _)]
  unfold q deq maxCode snormLevels
  have h1 : 2 ^ 1 ≤ 2 ^ n := Nat.pow_le_pow_right (by omega) hn
  have h2 : 2 ^ (n + 1) ≤ 2 ^ m := Nat.pow_le_pow_right (by omega) hnm
  rw [Nat.pow_succ] at h2
  exact qL_roundtrip _ _ v (by omega) (by omega) hv
example : q 8 (sdeq 16 (sencode 16 (deq 8 255))) = 255 :=
  snorm_widen_roundtrip 8 16 255 (by omega) (by omega) (by omega)

/-- both minimum codes (−2^(m−1) and −2^(m−1)+1) decode to −1.0 (norm 0), and the encoder never emits
the first one -/
theorem snorm_min_codes (m : Nat) (hm : 2 ≤ m) :
    snormNorm m (2 ^ (m - 1)) = 0 ∧ snormNorm m (2 ^ (m - 1) + 1) = 0 ∧ ∀ x : Rat, sencode m x ≠ 2 ^ (m - 1) :=
  ⟨(snormNorm_min m hm).1, (snormNorm_min m hm).2, fun x => snormOfNorm_ne_min m _ hm (qL_le _ x)⟩
example : sencode 8 0 = 0x81 ∧ sencode 8 1 = 0x7F ∧ sencode 8 (1/2) = 0 := by decide +kernel

/-- SNORM of the same width is NOT exact (255 levels for 256 values): the property puts it under "nearest" -/
theorem snorm8_not_injective : sencode 8 (deq 8 127) = sencode 8 (deq 8 128) := by decide +kernel

/-! ## nearest: half a quantisation step -/

/-- (must) for every real `x`: `|deq_m (q_m x) − clamp x| ≤ 1/(2(2^m−1))`, stated as two inequalities -/
theorem half_step (m : Nat) (hm : 1 ≤ m) (x : Rat) :
    deq m (q m x) - clamp01 x ≤ 1 / (2 * ((2 ^ m - 1 : Nat) : Rat)) ∧
    -(1 / (2 * ((2 ^ m - 1 : Nat) : Rat))) ≤ deq m (q m x) - clamp01 x := by
  have h1 : 2 ^ 1 ≤ 2 ^ m := Nat.pow_le_pow_right (by omega) hm
  exact qL_half_step (2 ^ m - 1) (by omega) x
example : deq 5 (q 5 (1/3)) - clamp01 (1/3) ≤ 1 / (2 * ((2 ^ 5 - 1 : Nat) : Rat)) := (half_step 5 (by omega) _).1

/-- the same for SNORM (`2^m − 2` steps) -/
theorem snorm_half_step (m : Nat) (hm : 2 ≤ m) (x : Rat) :
    sdeq m (sencode m x) - clamp01 x ≤ 1 / (2 * ((2 ^ m - 2 : Nat) : Rat)) ∧
    -(1 / (2 * ((2 ^ m - 2 : Nat) : Rat))) ≤ sdeq m (sencode m x) - clamp01 x := by
  unfold sdeq sencode sq
  rw [snormNorm_ofNorm m _ (by omega) (qL_le _ _)]
  have h1 : 2 ^ 2 ≤ 2 ^ m := Nat.pow_le_pow_right (by omega) hm
  exact qL_half_step (2 ^ m - 2) (by omega) x

/-- the code never exceeds the field -/
theorem code_in_field (m : Nat) (x : Rat) : q m x ≤ 2 ^ m - 1 := qL_le _ x

/-! ## float targets (finite, whole domain) -/

/-- (must) every 8-bit value survives nearest-half and nearest-binary32, decoded back at 8 bits -/
theorem float_targets_hold_u8 (v : Nat) (hv : v < 256) :
    q 8 (halfVal (half ((v : Rat) / 255))) = v ∧ q 8 (f32Val (f32Bits ((v : Rat) / 255))) = v := by
  exact ⟨half_holds_u8 v hv, f32_roundtrip (N := v) (D := 255) (by omega) (by decide)⟩

/-- (must) shared exponent: for every exponent the encoder can choose for input ≤ 1 (`e ≤ 16`),
every 8-bit channel value survives — a direct instance of `levels_roundtrip` with `2^(24−e) ≥ 256`. -/
theorem float_targets_hold_u8_sharedexp (e v : Nat) (he : e ≤ 16) (hv : v ≤ 255) :
    qL 255 (deqL (2 ^ (24 - e)) (qL (2 ^ (24 - e)) (deqL 255 v))) = v := by
  have : 2 ^ 8 ≤ 2 ^ (24 - e) := Nat.pow_le_pow_right (by omega) (by omega)
  exact qL_roundtrip 255 _ v (by omega) (by omega) hv

/-- the shared exponent chosen for a maximum channel `mx/255` is at most 16, and then every channel
`v ≤ mx` gets a mantissa that fits 9 bits (the 256 maxima evaluated; the mantissa is monotone in `v`) -/
theorem sharedexp_exponent_and_mantissa (mx v : Nat) (hmx : 1 ≤ mx) (hmx' : mx ≤ 255) (hv : v ≤ mx) :
    e9Exp ((mx : Rat) / 255) ≤ 16 ∧ qRatio (2 ^ (24 - e9Exp ((mx : Rat) / 255))) v 255 ≤ 511 := by
  have _ := hmx  -- not needed: `mx = 0` gives exponent 15 and mantissa 0
  obtain ⟨h1, h2⟩ := e9_max_all mx hmx'
  exact ⟨h1, Nat.le_trans (qRatio_mono _ _ hv) h2⟩

/-- (must) every 16-bit value survives nearest-binary32 (`f32_roundtrip`: so does every value of a format with fewer
than `2^23` steps) -/
theorem float_targets_hold_u16 (v : Nat) (hv : v < 65536) :
    q 16 (f32Val (f32Bits ((v : Rat) / 65535))) = v := by
  exact f32_roundtrip (N := v) (D := 65535) (by omega) (by decide)

/-! ## integer paths: implementation = specification over the whole domain -/

/-- `n8::n16` (×257) is the 16-bit quantiser of the 8-bit value -/
theorem n8_n16_spec (v : Nat) (hv : v < 256) : n8_n16 v = q 16 (deq 8 v) := by
  unfold q deq deqL maxCode; rw [qL_ratio _ _ _ (by omega) (by omega)]
  revert v
  exact forall_lt_of_allRange (d := 3) (by decide +kernel)

/-- `n16::n8` is the 8-bit quantiser of the 16-bit value (all 65 536) -/
theorem n16_n8_spec (x : Nat) (hx : x < 65536) : n16_n8 x = q 8 (deq 16 x) := by
  unfold q deq deqL maxCode; rw [qL_ratio _ _ _ (by omega) (by omega)]
  exact n16_n8_eq x hx

/-- `s8::from_n8` = nearest SNORM8 of the 8-bit value -/
theorem s8_from_n8_spec (v : Nat) (hv : v < 256) : s8_from_n8 v = sencode 8 (deq 8 v) := by
  unfold sencode sq s8_from_n8 deq deqL maxCode snormLevels; rw [qL_ratio _ _ _ (by omega) (by omega)]
  have : ∀ v, v < 256 → s8_norm_from_n8 v = qRatio (2 ^ 8 - 2) v (2 ^ 8 - 1) :=
    forall_lt_of_allRange (d := 3) (by decide +kernel)
  rw [this v hv]

/-- `s16::from_n16` = nearest SNORM16 of the 16-bit value (all 65 536) -/
theorem s16_from_n16_spec (x : Nat) (hx : x < 65536) : s16_from_n16 x = sencode 16 (deq 16 x) := by
  unfold sencode sq s16_from_n16 deq deqL maxCode snormLevels; rw [qL_ratio _ _ _ (by omega) (by omega)]
  rw [s16_norm_from_n16_eq x hx]

/-- decoders on the round-trip path: `s16::n8`, `s16::n16`, `s8::n8`, `s8::n16`, `n10::n8`, `n10::n16`
are the quantisers of the stored value (whole code domains) -/
theorem snorm16_decoders_spec (c : Nat) (hc : c < 65536) :
    s16_n8 c = q 8 (sdeq 16 c) ∧ s16_n16 c = q 16 (sdeq 16 c) := by
  have _ := hc  -- not needed: `snormNorm 16 c ≤ 65534` for every `c`
  have hb : snormNorm 16 c ≤ 2 ^ 16 - 2 := snormNorm16_le c
  unfold q sdeq deqL maxCode snormLevels
  rw [qL_ratio _ _ _ (by omega) hb, qL_ratio _ _ _ (by omega) hb]
  exact ⟨s16_n8_eq c, s16_n16_eq c⟩

theorem snorm8_decoders_spec (c : Nat) (hc : c < 256) :
    s8_n8 c = q 8 (sdeq 8 c) ∧ s8_n16 c = q 16 (sdeq 8 c) := by
  have hb : snormNorm 8 c ≤ 2 ^ 8 - 2 := by
    unfold snormNorm; omega
  unfold q sdeq deqL maxCode snormLevels
  rw [qL_ratio _ _ _ (by omega) hb, qL_ratio _ _ _ (by omega) hb]
  clear hb
  revert c
  exact forall_lt_of_allRange (d := 3) (by decide +kernel)

theorem n10_decoders_spec (c : Nat) (hc : c < 1024) :
    n10_n8 c = q 8 (deq 10 c) ∧ n10_n16 c = q 16 (deq 10 c) := by
  unfold q deq deqL maxCode
  rw [qL_ratio _ _ _ (by omega) (by omega), qL_ratio _ _ _ (by omega) (by omega)]
  revert c
  exact forall_lt_of_allRange (d := 5) (by decide +kernel)

/-- consequence: the integer pipeline U8 → 16-bit UNORM field → U8 is the identity -/
theorem int_roundtrip_u8_via_16 (v : Nat) (hv : v < 256) : n16_n8 (n8_n16 v) = v := by
  revert v
  exact forall_lt_of_allRange (d := 3) (by decide +kernel)

/-! ## the binary32 evaluation of the quantisers: ALL 2^32 input bit patterns

`nK::from_f32` and `s8::from_uf32` of formats.rs, operator by operator on the software binary32 (`QuantBits.*` of
`EncTotal.lean`, `QuantF32.n8/n16`), against the exact quantiser `q m x = ⌊clamp(x)·(2^m−1) + ½⌋` of this file's
other theorems, for EVERY binary32 bit pattern `b` (`toRat b` = its value).  Proof: the software float is monotone
(`Proofs/F32Mono.lean`), so two kernel-checked points per output code (`Proofs/F32Thr*.lean`, generated tables,
every entry validated by `decide +kernel`) settle all patterns in between; NaN, negative values, zeros and
infinities are symbolic cases.

RESULT.  The quantisers equal `q m` EXCEPT on a finite, exactly known set of patterns (`nKDev`: 2, 8, 16, 32, 128,
512, 32 768 patterns for m = 2, 4, 5, 6, 8, 10, 16; 128 for the SNORM8 norm): each exception is the largest float
below a tie `(2k−1)/(2(2^m−1))`; the binary32 product/sum rounds onto the tie, the stored code is `k` instead of
`k−1`, and it decodes to MORE than half a step above the input — by at most the tie tolerance `2^-12/255` of the
property reading (`…_known_deviation`).  `…_half_step` is the property's clause as it holds for every finite input.
NaN gives the MAX code in the `x.min(1.0)` quantisers and 0 in `n8`, `n16` (observation O1; the property demands
nothing for NaN). -/

open Dds.CF32 Dds.EncTotal Dds.QuantF32 Dds.F32Thr in
/-- `n8::from_f32` (`(x * 255.0 + 0.5) as u8`): every pattern outside `n8Dev` -/
theorem n8_from_f32_spec_partial : ∀ b, b < 2 ^ 32 → b ∉ n8Dev →
    QuantF32.n8 b = if isNaN b then 0 else if isInf b then (if isNeg b then 0 else 255) else q 8 (toRat b) := by
  intro b hb hne
  have := sat_all pipeQ_n8 b hb
  rw [if_neg (show ¬ b ∈ devOf _ from hne), Nat.add_zero] at this
  exact this

open Dds.CF32 Dds.EncTotal Dds.QuantF32 Dds.F32Thr in
theorem n8_from_f32_known_deviation : ∀ b, b ∈ n8Dev →
    0 < b ∧ b < 0x7F800000 ∧ QuantF32.n8 b = q 8 (toRat b) + 1 ∧
    1 / (2 * 255) < deq 8 (QuantF32.n8 b) - clamp01 (toRat b) ∧
    deq 8 (QuantF32.n8 b) - clamp01 (toRat b) ≤ 1 / (2 * 255) + 1 / (4096 * 255) :=
  fun b hm => dev_sat pipeQ_n8 (by decide) b hm

open Dds.CF32 Dds.EncTotal Dds.QuantF32 Dds.F32Thr in
theorem n8_from_f32_half_step : ∀ b, b < 2 ^ 32 → isNaN b = false → isInf b = false →
    -(1 / (2 * 255)) ≤ deq 8 (QuantF32.n8 b) - clamp01 (toRat b) ∧
    deq 8 (QuantF32.n8 b) - clamp01 (toRat b) ≤ 1 / (2 * 255) + (if b ∈ n8Dev then 1 / (4096 * 255) else 0) :=
  fun b hb hn hi => pipe_half_step pipeQ_n8 (by decide) b _ _ hn hi (sat_all pipeQ_n8 b hb)

open Dds.CF32 Dds.EncTotal Dds.QuantF32 Dds.F32Thr in
/-- `n16::from_f32` (`(x * 65535.0 + 0.5) as u16`): every pattern outside `n16Dev` (32 768 patterns) -/
theorem n16_from_f32_spec_partial : ∀ b, b < 2 ^ 32 → b ∉ n16Dev →
    QuantF32.n16 b = if isNaN b then 0 else if isInf b then (if isNeg b then 0 else 65535) else q 16 (toRat b) := by
  intro b hb hne
  have := sat_all pipeQ_n16 b hb
  rw [if_neg (show ¬ b ∈ devOf _ from hne), Nat.add_zero] at this
  exact this

open Dds.CF32 Dds.EncTotal Dds.QuantF32 Dds.F32Thr in
theorem n16_from_f32_known_deviation : ∀ b, b ∈ n16Dev →
    0 < b ∧ b < 0x7F800000 ∧ QuantF32.n16 b = q 16 (toRat b) + 1 ∧
    1 / (2 * 65535) < deq 16 (QuantF32.n16 b) - clamp01 (toRat b) ∧
    deq 16 (QuantF32.n16 b) - clamp01 (toRat b) ≤ 1 / (2 * 65535) + 1 / (4096 * 255) :=
  fun b hm => dev_sat pipeQ_n16 (by decide) b hm

open Dds.CF32 Dds.EncTotal Dds.QuantF32 Dds.F32Thr in
theorem n16_from_f32_half_step : ∀ b, b < 2 ^ 32 → isNaN b = false → isInf b = false →
    -(1 / (2 * 65535)) ≤ deq 16 (QuantF32.n16 b) - clamp01 (toRat b) ∧
    deq 16 (QuantF32.n16 b) - clamp01 (toRat b) ≤ 1 / (2 * 65535) + (if b ∈ n16Dev then 1 / (4096 * 255) else 0) :=
  fun b hb hn hi => pipe_half_step pipeQ_n16 (by decide) b _ _ hn hi (sat_all pipeQ_n16 b hb)

open Dds.CF32 Dds.EncTotal Dds.QuantF32 Dds.F32Thr in
/-- `n2::from_f32`: `(x.min(1.0) * 3.0 + 0.5) as u8`: every pattern outside `n2Dev` (NaN ↦ 3 through `min`) -/
theorem n2_from_f32_spec_partial : ∀ b, b < 2 ^ 32 → b ∉ n2Dev →
    QuantBits.n2 b = if isNaN b then 3 else if isInf b then (if isNeg b then 0 else 3) else q 2 (toRat b) := by
  intro b hb hne
  have := unorm_all pipeQ_n2 b hb
  rw [if_neg (show ¬ b ∈ devOf _ from hne), Nat.add_zero] at this
  exact this

open Dds.CF32 Dds.EncTotal Dds.QuantF32 Dds.F32Thr in
theorem n2_from_f32_known_deviation : ∀ b, b ∈ n2Dev →
    0 < b ∧ b < 0x3F800000 ∧ QuantBits.n2 b = q 2 (toRat b) + 1 ∧
    1 / (2 * 3) < deq 2 (QuantBits.n2 b) - clamp01 (toRat b) ∧
    deq 2 (QuantBits.n2 b) - clamp01 (toRat b) ≤ 1 / (2 * 3) + 1 / (4096 * 255) :=
  fun b hm => dev_min pipeQ_n2 (by decide) b hm

open Dds.CF32 Dds.EncTotal Dds.QuantF32 Dds.F32Thr in
theorem n2_from_f32_half_step : ∀ b, b < 2 ^ 32 → isNaN b = false → isInf b = false →
    -(1 / (2 * 3)) ≤ deq 2 (QuantBits.n2 b) - clamp01 (toRat b) ∧
    deq 2 (QuantBits.n2 b) - clamp01 (toRat b) ≤ 1 / (2 * 3) + (if b ∈ n2Dev then 1 / (4096 * 255) else 0) :=
  fun b hb hn hi => pipe_half_step pipeQ_n2 (by decide) b _ _ hn hi (unorm_all pipeQ_n2 b hb)

open Dds.CF32 Dds.EncTotal Dds.QuantF32 Dds.F32Thr in
/-- `n4::from_f32`: `(x.min(1.0) * 15.0 + 0.5) as u8`: every pattern outside `n4Dev` (NaN ↦ 15 through `min`) -/
theorem n4_from_f32_spec_partial : ∀ b, b < 2 ^ 32 → b ∉ n4Dev →
    QuantBits.n4 b = if isNaN b then 15 else if isInf b then (if isNeg b then 0 else 15) else q 4 (toRat b) := by
  intro b hb hne
  have := unorm_all pipeQ_n4 b hb
  rw [if_neg (show ¬ b ∈ devOf _ from hne), Nat.add_zero] at this
  exact this

open Dds.CF32 Dds.EncTotal Dds.QuantF32 Dds.F32Thr in
theorem n4_from_f32_known_deviation : ∀ b, b ∈ n4Dev →
    0 < b ∧ b < 0x3F800000 ∧ QuantBits.n4 b = q 4 (toRat b) + 1 ∧
    1 / (2 * 15) < deq 4 (QuantBits.n4 b) - clamp01 (toRat b) ∧
    deq 4 (QuantBits.n4 b) - clamp01 (toRat b) ≤ 1 / (2 * 15) + 1 / (4096 * 255) :=
  fun b hm => dev_min pipeQ_n4 (by decide) b hm

open Dds.CF32 Dds.EncTotal Dds.QuantF32 Dds.F32Thr in
theorem n4_from_f32_half_step : ∀ b, b < 2 ^ 32 → isNaN b = false → isInf b = false →
    -(1 / (2 * 15)) ≤ deq 4 (QuantBits.n4 b) - clamp01 (toRat b) ∧
    deq 4 (QuantBits.n4 b) - clamp01 (toRat b) ≤ 1 / (2 * 15) + (if b ∈ n4Dev then 1 / (4096 * 255) else 0) :=
  fun b hb hn hi => pipe_half_step pipeQ_n4 (by decide) b _ _ hn hi (unorm_all pipeQ_n4 b hb)

open Dds.CF32 Dds.EncTotal Dds.QuantF32 Dds.F32Thr in
/-- `n5::from_f32`: `(x.min(1.0) * 31.0 + 0.5) as u8`: every pattern outside `n5Dev` (NaN ↦ 31 through `min`) -/
theorem n5_from_f32_spec_partial : ∀ b, b < 2 ^ 32 → b ∉ n5Dev →
    QuantBits.n5 b = if isNaN b then 31 else if isInf b then (if isNeg b then 0 else 31) else q 5 (toRat b) := by
  intro b hb hne
  have := unorm_all pipeQ_n5 b hb
  rw [if_neg (show ¬ b ∈ devOf _ from hne), Nat.add_zero] at this
  exact this

open Dds.CF32 Dds.EncTotal Dds.QuantF32 Dds.F32Thr in
theorem n5_from_f32_known_deviation : ∀ b, b ∈ n5Dev →
    0 < b ∧ b < 0x3F800000 ∧ QuantBits.n5 b = q 5 (toRat b) + 1 ∧
    1 / (2 * 31) < deq 5 (QuantBits.n5 b) - clamp01 (toRat b) ∧
    deq 5 (QuantBits.n5 b) - clamp01 (toRat b) ≤ 1 / (2 * 31) + 1 / (4096 * 255) :=
  fun b hm => dev_min pipeQ_n5 (by decide) b hm

open Dds.CF32 Dds.EncTotal Dds.QuantF32 Dds.F32Thr in
theorem n5_from_f32_half_step : ∀ b, b < 2 ^ 32 → isNaN b = false → isInf b = false →
    -(1 / (2 * 31)) ≤ deq 5 (QuantBits.n5 b) - clamp01 (toRat b) ∧
    deq 5 (QuantBits.n5 b) - clamp01 (toRat b) ≤ 1 / (2 * 31) + (if b ∈ n5Dev then 1 / (4096 * 255) else 0) :=
  fun b hb hn hi => pipe_half_step pipeQ_n5 (by decide) b _ _ hn hi (unorm_all pipeQ_n5 b hb)

open Dds.CF32 Dds.EncTotal Dds.QuantF32 Dds.F32Thr in
/-- `n6::from_f32`: `(x.min(1.0) * 63.0 + 0.5) as u8`: every pattern outside `n6Dev` (NaN ↦ 63 through `min`) -/
theorem n6_from_f32_spec_partial : ∀ b, b < 2 ^ 32 → b ∉ n6Dev →
    QuantBits.n6 b = if isNaN b then 63 else if isInf b then (if isNeg b then 0 else 63) else q 6 (toRat b) := by
  intro b hb hne
  have := unorm_all pipeQ_n6 b hb
  rw [if_neg (show ¬ b ∈ devOf _ from hne), Nat.add_zero] at this
  exact this

open Dds.CF32 Dds.EncTotal Dds.QuantF32 Dds.F32Thr in
theorem n6_from_f32_known_deviation : ∀ b, b ∈ n6Dev →
    0 < b ∧ b < 0x3F800000 ∧ QuantBits.n6 b = q 6 (toRat b) + 1 ∧
    1 / (2 * 63) < deq 6 (QuantBits.n6 b) - clamp01 (toRat b) ∧
    deq 6 (QuantBits.n6 b) - clamp01 (toRat b) ≤ 1 / (2 * 63) + 1 / (4096 * 255) :=
  fun b hm => dev_min pipeQ_n6 (by decide) b hm

open Dds.CF32 Dds.EncTotal Dds.QuantF32 Dds.F32Thr in
theorem n6_from_f32_half_step : ∀ b, b < 2 ^ 32 → isNaN b = false → isInf b = false →
    -(1 / (2 * 63)) ≤ deq 6 (QuantBits.n6 b) - clamp01 (toRat b) ∧
    deq 6 (QuantBits.n6 b) - clamp01 (toRat b) ≤ 1 / (2 * 63) + (if b ∈ n6Dev then 1 / (4096 * 255) else 0) :=
  fun b hb hn hi => pipe_half_step pipeQ_n6 (by decide) b _ _ hn hi (unorm_all pipeQ_n6 b hb)

open Dds.CF32 Dds.EncTotal Dds.QuantF32 Dds.F32Thr in
/-- `n10::from_f32`: `(x.min(1.0) * 1023.0 + 0.5) as u16`: every pattern outside `n10Dev` (NaN ↦ 1023 through `min`) -/
theorem n10_from_f32_spec_partial : ∀ b, b < 2 ^ 32 → b ∉ n10Dev →
    QuantBits.n10 b = if isNaN b then 1023 else if isInf b then (if isNeg b then 0 else 1023) else q 10 (toRat b) := by
  intro b hb hne
  have := unorm_all pipeQ_n10 b hb
  rw [if_neg (show ¬ b ∈ devOf _ from hne), Nat.add_zero] at this
  exact this

open Dds.CF32 Dds.EncTotal Dds.QuantF32 Dds.F32Thr in
theorem n10_from_f32_known_deviation : ∀ b, b ∈ n10Dev →
    0 < b ∧ b < 0x3F800000 ∧ QuantBits.n10 b = q 10 (toRat b) + 1 ∧
    1 / (2 * 1023) < deq 10 (QuantBits.n10 b) - clamp01 (toRat b) ∧
    deq 10 (QuantBits.n10 b) - clamp01 (toRat b) ≤ 1 / (2 * 1023) + 1 / (4096 * 255) :=
  fun b hm => dev_min pipeQ_n10 (by decide) b hm

open Dds.CF32 Dds.EncTotal Dds.QuantF32 Dds.F32Thr in
theorem n10_from_f32_half_step : ∀ b, b < 2 ^ 32 → isNaN b = false → isInf b = false →
    -(1 / (2 * 1023)) ≤ deq 10 (QuantBits.n10 b) - clamp01 (toRat b) ∧
    deq 10 (QuantBits.n10 b) - clamp01 (toRat b) ≤ 1 / (2 * 1023) + (if b ∈ n10Dev then 1 / (4096 * 255) else 0) :=
  fun b hb hn hi => pipe_half_step pipeQ_n10 (by decide) b _ _ hn hi (unorm_all pipeQ_n10 b hb)

open Dds.CF32 Dds.EncTotal Dds.QuantF32 Dds.F32Thr in
/-- `s8::from_uf32`: the norm `(x.min(1.0) * 254.0 + 0.5) as u8` is the SNORM quantiser `sq 8` (254 steps) outside
`s8Dev`, so the stored byte is `sencode 8` of the value (`from_norm` never overflows: C15 `s8_some`) -/
theorem s8_from_uf32_spec_partial : ∀ b, b < 2 ^ 32 → b ∉ s8Dev →
    QuantF32.s8norm b = (if isNaN b then 254 else if isInf b then (if isNeg b then 0 else 254) else sq 8 (toRat b)) ∧
    (isNaN b = false → isInf b = false → QuantBits.s8 b = some (sencode 8 (toRat b))) := by
  intro b hb hne
  have h := unorm_all pipeQ_s8 b hb
  rw [if_neg (show ¬ b ∈ devOf _ from hne), Nat.add_zero] at h
  refine ⟨h, ?_⟩
  intro hn hi
  rw [specQ_fin 254 254 b hn hi] at h
  have e : sq 8 (toRat b) = qL 254 (toRat b) := rfl
  have hle : qL 254 (toRat b) ≤ 254 := qL_le _ _
  have hs : QuantBits.s8 b = snormFromNorm 8 (QuantBits.unorm QuantBits.k254 255 b) := rfl
  rw [hs, h]
  unfold sencode snormOfNorm snormFromNorm
  rw [e, if_pos (by omega)]
  show some ((qL 254 (toRat b) + 1 + 256 - 128) % 256) = some ((qL 254 (toRat b) + 1 + 128) % 256)
  have : qL 254 (toRat b) + 1 + 256 - 128 = qL 254 (toRat b) + 1 + 128 := by omega
  rw [this]

open Dds.CF32 Dds.EncTotal Dds.QuantF32 Dds.F32Thr in
theorem s8_from_uf32_known_deviation : ∀ b, b ∈ s8Dev →
    0 < b ∧ b < 0x3F800000 ∧ QuantF32.s8norm b = sq 8 (toRat b) + 1 ∧
    1 / (2 * 254) < deqL 254 (QuantF32.s8norm b) - clamp01 (toRat b) ∧
    deqL 254 (QuantF32.s8norm b) - clamp01 (toRat b) ≤ 1 / (2 * 254) + 1 / (4096 * 255) :=
  fun b hm => dev_min pipeQ_s8 (by decide) b hm

open Dds.CF32 Dds.EncTotal Dds.QuantF32 Dds.F32Thr in
theorem s8_from_uf32_half_step : ∀ b, b < 2 ^ 32 → isNaN b = false → isInf b = false →
    -(1 / (2 * 254)) ≤ deqL 254 (QuantF32.s8norm b) - clamp01 (toRat b) ∧
    deqL 254 (QuantF32.s8norm b) - clamp01 (toRat b) ≤ 1 / (2 * 254) + (if b ∈ s8Dev then 1 / (4096 * 255) else 0) :=
  fun b hb hn hi => pipe_half_step pipeQ_s8 (by decide) b _ _ hn hi (unorm_all pipeQ_s8 b hb)

open Dds.QuantF32 in
/-- the exception sets: explicit for 2 and 4 bits, sizes for the others (the lists themselves are the generated,
kernel-validated tables of `Proofs/F32ThrTab.lean`) -/
theorem from_f32_deviation_sets :
    n2Dev = [0x3E2AAAAA, 0x3F555555] ∧
    n4Dev = [0x3D088888, 0x3F111111, 0x3F222222, 0x3F333333, 0x3F444444, 0x3F555555, 0x3F666666, 0x3F777777] ∧
    n5Dev.length = 16 ∧ n6Dev.length = 32 ∧ n8Dev.length = 128 ∧ n10Dev.length = 512 ∧ n16Dev.length = 32768 ∧
    s8Dev.length = 128 :=
  ⟨n2Dev_eq, n4Dev_eq, n5Dev_length, n6Dev_length, n8Dev_length, n10Dev_length, n16Dev_length, s8Dev_length⟩

open Dds.CF32 Dds.EncTotal Dds.QuantF32 in
example : QuantF32.n8 0x3F000000 = 128 ∧ QuantF32.n8 0x7FC00000 = 0 ∧ QuantBits.n5 0x7FC00000 = 31 ∧ QuantBits.n5 0x3F000000 = 16 ∧
    QuantBits.n2 0x3E2AAAAA = 1 ∧ q 2 (toRat 0x3E2AAAAA) = 0 ∧ QuantBits.n2 0x3E2AAAAB = 1 ∧ q 2 (toRat 0x3E2AAAAB) = 1 ∧
    QuantBits.n10 0xBF800000 = 0 ∧ QuantBits.n10 0x7F800000 = 1023 ∧ QuantF32.n16 0x40000000 = 65535 ∧
    QuantBits.s8 0x3F000000 = some 0 ∧ sencode 8 (toRat 0x3F000000) = 0 := by decide +kernel
open Dds.QuantF32 in
example : 0x3E2AAAAA ∈ n2Dev ∧ 0x3E2AAAAB ∉ n2Dev ∧ 0x3F010101 ∈ n8Dev ∧ 0 ∉ n8Dev ∧ 0x37000080 ∈ n16Dev := by
  decide +kernel

/-! ## encoder selection over the pinned table (finite: 45 formats × 12 colour formats) -/

def pickOk (name : String) (c : Color) : Bool :=
  match pickEncoder (encoderTable name) c with
  | none => false
  | some e =>
    -- never a dithering encoder without dithering
    e.kind != .dither
    -- the exactness test on the real flag word says what the declaration says
    && (contains e.flags (exactFor c.p) == contains e.exact (exactFor c.p))
    -- if some applicable encoder advertises exactness for this precision, the picked one does
    && (!((encoderTable name).any fun e' => e'.accepts c && contains e'.exact (exactFor c.p))
        || contains e.exact (exactFor c.p))
    -- an advertised-exact pick is an integer path at that precision or the format's only quantising path
    && (!contains e.exact (exactFor c.p) || (match e.kind with
        | .copy c' => c' == c
        | .convert p _ => p == c.p
        | .universal => true
        | .dither => false))

/-- (must) `EncoderSet::pick_encoder` with `Dithering::None`: total, never picks a dithering encoder,
honours advertised exactness, and `DITHER_ALPHA = 0x16` fools no exactness test of any picked encoder -/
theorem pick_encoder_exact : ∀ name ∈ formatNames, ∀ c ∈ allColors, pickOk name c = true := by
  decide +kernel

/-- (must) no encoder of the table has flags on which the overlapping bit patterns change the answer
of an exactness test or of `get_dithering` -/
theorem flags_overlap_harmless : ∀ name ∈ formatNames, ∀ e ∈ encoderTable name,
    (∀ p ∈ [Prec.u8, Prec.u16, Prec.f32], contains e.flags (exactFor p) = contains e.exact (exactFor p))
    ∧ getDithering e.flags = getDithering e.dither := by
  decide +kernel

/-- the hazard is real: an encoder declared `EXACT_U8 | DITHER_ALL` would pass the F32 exactness test -/
theorem flags_overlap_exists :
    contains (EXACT_U8 ||| DITHER_ALL) EXACT_F32 = true ∧ contains EXACT_U8 EXACT_F32 = false := by decide

/-- with dithering requested, an advertised-exact encoder still wins (first loop of `pick_encoder`) -/
theorem pick_encoder_exact_beats_dither : ∀ name ∈ formatNames, ∀ c ∈ allColors,
    ∀ d ∈ [(true, false), (false, true), (true, true)],
    ((encoderTable name).any fun e' => e'.accepts c && contains e'.flags (exactFor c.p)) = true →
    ∃ e, pickEncoder (encoderTable name) c d = some e ∧ contains e.flags (exactFor c.p) = true := by
  decide +kernel
example : ((encoderTable "R8_UNORM").any fun e' => e'.accepts ⟨.gray, .u8⟩ && contains e'.flags (exactFor .u8)) = true := by
  decide

/-! ## carrier independence

Last clause of C12: "the encoded bytes do not depend on which of the 12 colour formats … carried the same pixel
values".  Model: `EncCarrier.lean` — for every encodable non-BC format and every colour format (`Channels` ×
`Precision`) the function "pixel of the `ImageView` ↦ stored elements ↦ bytes" along the encoder that
`pick_encoder` selects from the pinned table: `Encoder::copy`, the integer encoders (`color_convert!` /
`simple_color_convert`, the hand-written B8G8R8* `process_line`s: `convert_channels`, `swap(0, 2)`, `p[3] = 0xFF`,
`s8::from_n8`, `s16::from_n16`), or `universal!` = `as_rgba_f32` (`n8::f32` / `n16::f32` per channel, `ch::*_to_rgba`
with the `f32` defaults 0.0 / 1.0) followed by the format's closure, bit-level on the software binary32 / binary64.

"The same pixel values" is read exactly as the harness oracle builds its carriers (harness/src/c12.rs
`carrier_value`, `carriers`, `logical_px`): an 8-bit value `v` is carried as U8 `v`, U16 `257·v`, F32 the nearest
binary32 to `v/255` — which is `n8::f32 v` (`carrier_fields_u8`, C04 `n8f32_exact`); a 16-bit value `w` as U16 `w` or
F32 the nearest binary32 to `w/65535` = `n16::f32 w`; Grayscale `g` as RGB `(g, g, g)` or RGBA `(g, g, g, ONE)`,
RGB as RGBA with alpha `ONE`, Alpha `a` as RGBA `(ZERO, ZERO, ZERO, a)` (`ONE` = 255 / 65535 / 1.0, `ZERO` = 0 / 0.0:
`Norm` of src/color/mod.rs).

No exception: for every one of the 45 formats the bytes are the same for every carrier, over the WHOLE
8-bit and 16-bit value domains (scalar facts by kernel evaluation: 256 points, resp. the 65 536 points of
`Proofs/ConvF16W0.lean`, `ConvF16W1.lean`, the evaluation of `n16::f32` that C04 uses).
The scalar conversions without a bit-level model (`fp16 / fp11 / fp10 /
xr10::from_f32`, `yuv8 / yuv10 / yuv16::from_rgb_f32`) are parameters `Q : Ext` of every theorem: for the half / small
float / XR fields and for ALL YUV, sub-sampled and bi-planar formats independence is proved at the level the code
supports — the same `f32` pixels reach the closure (these formats have universal encoders only), whatever the
closure computes.  That every quantiser involved returns a value (`some`) for every input is C15
(`quantiser_range_unorm_bits`, `quantiser_range_snorm16_bits`, `quantiser_range_shared_exp`). -/

section CarrierIndependence
open Dds.EncCarrier Dds.Conv Dds.CF32 Dds.EncTotal

/-- per field quantiser, all 256 values `v`: the U16 carrier `257·v` turns into the same `f32` as the U8 carrier; the
F32 carrier of the oracle (nearest binary32 to `v/255`) IS `n8::f32 v`; and every quantiser that has an integer
short cut undoes the widening exactly: UNORM8 (`copy`), SNORM8 (`s8::from_n8`), UNORM16 (`n8::n16`), SNORM16
(`s16::from_n16 ∘ n8::n16`) -/
theorem carrier_fields_u8 (v : Nat) (hv : v < 256) :
    n16f32 (n8_n16 v) = n8f32 v ∧ n8f32 v = roundF32 (Spec.unorm 8 v) ∧
    QuantF32.n8 (n8f32 v) = v ∧ QuantBits.s8 (n8f32 v) = some (s8_from_n8 v) ∧
    QuantF32.n16 (n8f32 v) = n8_n16 v ∧ QuantBits.s16 (n8f32 v) = some (s16_from_n16 (n8_n16 v)) :=
  ⟨n16f32_257 v hv, n8f32_nearest v hv, n8_n8f32 v hv, s8_n8f32 v hv, n16_n8f32 v hv, s16_n8f32 v hv⟩

/-- per field quantiser, all 65 536 values `w`: the F32 carrier of the oracle is `n16::f32 w`, and UNORM16 (`copy`) /
SNORM16 (`s16::from_n16`) undo it exactly -/
theorem carrier_fields_u16 (w : Nat) (hw : w < 65536) :
    n16f32 w = roundF32 (Spec.unorm 16 w) ∧
    QuantF32.n16 (n16f32 w) = w ∧ QuantBits.s16 (n16f32 w) = some (s16_from_n16 w) :=
  ⟨n16f32_nearest w hw, n16_n16f32 w hw, s16_n16f32 w hw⟩

/-- every encoder of every plain format computes the `universal!` closure of `as_rgba_f32` of the pixel: the integer
encoders (`copy`, `color_convert!`, B8G8R8*) are short cuts that agree with it on every valid pixel -/
theorem encoders_compute_the_closure (Q : Ext) : ∀ name ∈ plainNames, ∀ (p : Prec) (px : Pix),
    px.below (precBound p) → pixelCodes Q name p px = uni Q name (asRgbaF32 p px) :=
  fun name hn p px hpx => pixelCodes_normal Q name hn p px hpx

/-- (must) 8-bit values, the 35 plain formats, every channel layout: the bytes of a pixel do not depend on whether
its values are carried as U8 `v`, U16 `257·v` or F32 `n8::f32 v` -/
theorem carrier_independent_u8 (Q : Ext) : ∀ name ∈ plainNames, ∀ px : Pix, px.below 256 →
    pixelBytes Q name .u16 (px.map n8_n16) = pixelBytes Q name .u8 px ∧
    pixelBytes Q name .f32 (px.map n8f32) = pixelBytes Q name .u8 px := by
  intro name hn px hpx
  unfold pixelBytes
  rw [(codes_u8 Q name hn px hpx).1, (codes_u8 Q name hn px hpx).2]
  exact ⟨rfl, rfl⟩

/-- (must) 16-bit values: U16 `w` or F32 `n16::f32 w` -/
theorem carrier_independent_u16 (Q : Ext) : ∀ name ∈ plainNames, ∀ px : Pix, px.below 65536 →
    pixelBytes Q name .f32 (px.map n16f32) = pixelBytes Q name .u16 px := by
  intro name hn px hpx
  unfold pixelBytes
  rw [codes_u16 Q name hn px hpx]

/-- (must) the same colour in a wider channel layout, at every precision: Grayscale as RGB / RGBA, RGB as RGBA,
Alpha as RGBA -/
theorem channel_carrier_independent (Q : Ext) : ∀ name ∈ plainNames, ∀ (p : Prec) (r g b a : Nat),
    r < precBound p → g < precBound p → b < precBound p → a < precBound p →
    pixelBytes Q name p (.rgb g g g) = pixelBytes Q name p (.gray g) ∧
    pixelBytes Q name p (.rgba g g g (normOne p)) = pixelBytes Q name p (.gray g) ∧
    pixelBytes Q name p (.rgba r g b (normOne p)) = pixelBytes Q name p (.rgb r g b) ∧
    pixelBytes Q name p (.rgba 0 0 0 a) = pixelBytes Q name p (.alpha a) := by
  intro name hn p r g b a hr hg hb ha
  obtain ⟨h1, h2, h3, h4⟩ := codes_channels Q name hn p r g b a hr hg hb ha
  unfold pixelBytes
  rw [h1, h2, h3, h4]
  exact ⟨rfl, rfl, rfl, rfl⟩

/-- both axes at once, the two farthest carriers of a grey value: Grayscale / U8 `g` and RGBA / F32
`(n8::f32 g, n8::f32 g, n8::f32 g, 1.0)` -/
theorem carrier_independent_gray_u8_rgba_f32 (Q : Ext) : ∀ name ∈ plainNames, ∀ g, g < 256 →
    pixelBytes Q name .f32 (.rgba (n8f32 g) (n8f32 g) (n8f32 g) CF32.one) = pixelBytes Q name .u8 (.gray g) := by
  intro name hn g hg
  have hb := n8f32_lt g hg
  have h := (channel_carrier_independent Q name hn .f32 (n8f32 g) (n8f32 g) (n8f32 g) (n8f32 g) hb hb hb hb).2.1
  have h2 := (carrier_independent_u8 Q name hn (.gray g) hg).2
  exact h.trans h2

/-- (must) sub-sampled and bi-planar formats (universal encoders only; `ch` = the channel layout of the image, the
pixels of one block): the block's bytes are `uniBlock` of the `as_rgba_f32` pixels, and those do not depend on the
precision that carries 8-bit / 16-bit values.  This is independence at the level the code supports: the YUV matrix
and the averaging act on the `f32` pixels, for ANY `yuv8 / yuv10 / yuv16::from_rgb_f32` (`Q`). -/
theorem carrier_independent_blocks (Q : Ext) : ∀ name ∈ blockNames, ∀ (ch : Chan) (pxs : List Pix),
    (∀ p, blockBytes Q name p ch pxs = (uniBlock Q name (pxs.map (asRgbaF32 p))).map (bytesOf name)) ∧
    ((∀ px ∈ pxs, px.below 256) →
      blockBytes Q name .u16 ch (pxs.map (Pix.map n8_n16)) = blockBytes Q name .u8 ch pxs ∧
      blockBytes Q name .f32 ch (pxs.map (Pix.map n8f32)) = blockBytes Q name .u8 ch pxs) ∧
    blockBytes Q name .f32 ch (pxs.map (Pix.map n16f32)) = blockBytes Q name .u16 ch pxs := by
  intro name hn ch pxs
  refine ⟨fun p => ?_, fun h => ⟨?_, ?_⟩, ?_⟩ <;> unfold blockBytes <;> simp only [blockCodes_eq_uni Q name hn]
  · rw [map_asRgba_u16_of_u8 pxs h]
  · rw [map_asRgba_f32_of_u8]
  · rw [map_asRgba_f32_of_u16]

/-- (must) … and not on the channel layout that carries the same colours: a block of grey values as Grayscale / RGB /
RGBA, of RGB triples as RGB / RGBA, of alpha values as Alpha / RGBA -/
theorem channel_carrier_independent_blocks (Q : Ext) : ∀ name ∈ blockNames, ∀ (p : Prec)
    (gs : List Nat) (cs : List (Nat × Nat × Nat)),
    blockBytes Q name p .rgb (gs.map fun g => .rgb g g g) = blockBytes Q name p .gray (gs.map .gray) ∧
    blockBytes Q name p .rgba (gs.map fun g => .rgba g g g (normOne p)) = blockBytes Q name p .gray (gs.map .gray) ∧
    blockBytes Q name p .rgba (cs.map fun c => .rgba c.1 c.2.1 c.2.2 (normOne p)) =
      blockBytes Q name p .rgb (cs.map fun c => .rgb c.1 c.2.1 c.2.2) ∧
    blockBytes Q name p .rgba (gs.map fun a => .rgba 0 0 0 a) = blockBytes Q name p .alpha (gs.map .alpha) := by
  intro name hn p gs cs
  unfold blockBytes
  simp only [blockCodes_eq_uni Q name hn, List.map_map]
  refine ⟨?_, ?_, ?_, ?_⟩
  · congr 2
  · congr 2; apply List.map_congr_left; intro g _; exact asRgba_gray_rgba p g
  · congr 2; apply List.map_congr_left; intro c _; exact asRgba_rgb_rgba p c.1 c.2.1 c.2.2
  · congr 2; apply List.map_congr_left; intro a _; exact asRgba_alpha_rgba p a

/-- which encoder runs, as read off `pick_encoder` over the pinned table: the ten block formats have the universal
path for all 12 colour formats; among the plain formats an integer path exists exactly at the precision the format
stores (nine at U8, four at U16, three at F32) -/
theorem carrier_paths :
    (∀ name ∈ blockNames, ∀ c ∈ allColors, pathOf name c = .uni) ∧
    (plainNames.filter fun n => pathOf n ⟨.rgba, .u8⟩ != .uni) =
      ["R8G8B8_UNORM", "B8G8R8_UNORM", "R8G8B8A8_UNORM", "R8G8B8A8_SNORM", "B8G8R8A8_UNORM", "B8G8R8X8_UNORM",
       "R8_SNORM", "R8_UNORM", "A8_UNORM"] ∧
    (plainNames.filter fun n => pathOf n ⟨.rgba, .u16⟩ != .uni) =
      ["R16_UNORM", "R16_SNORM", "R16G16B16A16_UNORM", "R16G16B16A16_SNORM"] ∧
    (plainNames.filter fun n => pathOf n ⟨.rgba, .f32⟩ != .uni) =
      ["R32_FLOAT", "R32G32B32_FLOAT", "R32G32B32A32_FLOAT"] :=
  ⟨fun name hn c _ => block_uni name hn c.p c.ch, by decide +kernel⟩

/-- non-vacuity: the compared values are `some` bytes, on each kind of path — SNORM8 through `color_convert!`
(U8 carrier), through `universal!` (U16, F32 carriers); B8G8R8X8 swap + 0xFF; 16-bit `copy`; Alpha into RGB -/
example : pixelBytes extZero "R8G8B8A8_SNORM" .u8 (.gray 200) = some [72, 72, 72, 127] ∧
    pixelBytes extZero "R8G8B8A8_SNORM" .u16 (.gray (n8_n16 200)) = some [72, 72, 72, 127] ∧
    pixelBytes extZero "R8G8B8A8_SNORM" .f32 (.rgba (n8f32 200) (n8f32 200) (n8f32 200) CF32.one) = some [72, 72, 72, 127] ∧
    pixelBytes extZero "B8G8R8X8_UNORM" .u8 (.rgb 1 2 3) = some [3, 2, 1, 255] ∧
    pixelBytes extZero "B8G8R8X8_UNORM" .f32 (.rgb (n8f32 1) (n8f32 2) (n8f32 3)) = some [3, 2, 1, 255] ∧
    pixelBytes extZero "R16_UNORM" .u16 (.gray 0xABCD) = some [0xCD, 0xAB] ∧
    pixelBytes extZero "R16_UNORM" .f32 (.rgb (n16f32 0xABCD) 0 0) = some [0xCD, 0xAB] ∧
    pixelBytes extZero "R8G8B8_UNORM" .u8 (.alpha 9) = some [0, 0, 0] ∧
    pixelBytes extZero "B5G6R5_UNORM" .u16 (.rgb 65535 0 65535) = some [0x1F, 0xF8] ∧
    pathOf "R8G8B8A8_SNORM" ⟨.gray, .u8⟩ = .conv .rgba false false true ∧
    pathOf "R16_UNORM" ⟨.gray, .u16⟩ = .copy ∧ pathOf "R16_UNORM" ⟨.gray, .u8⟩ = .uni := by decide +kernel
example : blockBytes extZero "R8G8_B8G8_UNORM" .u8 .gray [.gray 10, .gray 20] = some [15, 10, 15, 20] ∧
    blockBytes extZero "R8G8_B8G8_UNORM" .f32 .rgb [.rgb (n8f32 10) (n8f32 10) (n8f32 10), .rgb (n8f32 20) (n8f32 20) (n8f32 20)]
      = some [15, 10, 15, 20] ∧
    blockBytes extZero "R1_UNORM" .u16 .gray [.gray 65535, .gray 0, .gray 40000] = some [0xBF] := by decide +kernel

end CarrierIndependence

end Dds.C12
