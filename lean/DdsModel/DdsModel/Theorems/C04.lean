/-
C04 — Uncompressed, packed, sub-sampled and planar formats decode to the ideal values.

Only property theorems and non-vacuity examples live here; the complete-evaluation lemmas are in
`Proofs/ConvInt.lean`, `Proofs/ConvFloat.lean`, `Proofs/ConvShared.lean`, `Proofs/ConvF16*.lean` (→ F32, small floats
and R9G9B9E5, on the integer representation of the software float of `Proofs/ConvFast*.lean`), `Proofs/F32Mono.lean` + `Proofs/F32Thr*.lean`
(binary32 sources: monotonicity of the software float + kernel-checked threshold tables), the list lemmas in
`Proofs/Pairing.lean`.

Reading of the statements.  `Conv.*` are the implementation-shaped models of `color/formats.rs`
(integer code on `Nat` with the wrapping steps written out; `f32` code operator by operator on the
software binary32 of `ConvF32.lean`).  `Spec.*` is the rational specification: `unorm n v =
v/(2^n-1)`, `snorm`, `xr`, `smallFloat`, `sharedExp`; `toCode max q = ⌊max·clamp01 q + 1/2⌋` is the
nearest code with an exact tie going up (`nearest_is_nearest` below), `isTie` says whether the
scaled ideal is exactly half way, `roundF32 q` is the bit pattern of the binary32 nearest to `q`
(ties to even).  Every theorem quantifies over the WHOLE input domain of the conversion.
-/
import DdsModel.Proofs.ConvInt
import DdsModel.Proofs.ConvFloat
import DdsModel.Proofs.ConvShared
import DdsModel.Proofs.ConvF16All
import DdsModel.Proofs.ConvF32Thr
import DdsModel.Proofs.YuvErr
import DdsModel.Proofs.F32ErrRound
import DdsModel.Proofs.Pairing
import DdsModel.Proofs.FieldsWF
namespace Dds.C04
open Dds Dds.Conv Dds.Spec Dds.CF32 Dds.Unc Dds.ConvProofs

/-! ### what "nearest" means -/

/-- `nearest q = ⌊q + 1/2⌋` is an integer at distance at most 1/2 from `q`, and an exact tie is
resolved upwards: `-1/2 ≤ q - nearest q < 1/2`. -/
theorem nearest_is_nearest (q : Rat) :
    ((nearest q : Int) : Rat) - 1 / 2 ≤ q ∧ q < ((nearest q : Int) : Rat) + 1 / 2 := by
  unfold nearest
  have h1 := Rat.floor_le (q + 1 / 2)
  have h2 := Rat.lt_floor_add_one (q + 1 / 2)
  rw [Rat.intCast_add] at h2
  constructor
  · exact Rat.sub_right_le_iff_le_add.mpr h1
  · have e : ((q + 1 / 2).floor : Rat) + 1 / 2 + 1 / 2 = ((q + 1 / 2).floor : Rat) + ((1 : Int) : Rat) := by
      rw [Rat.add_assoc]
      have : (1 / 2 + 1 / 2 : Rat) = ((1 : Int) : Rat) := by decide +kernel
      rw [this]
    have h3 : q + 1 / 2 < ((q + 1 / 2).floor : Rat) + 1 / 2 + 1 / 2 := by rw [e]; exact h2
    exact (Rat.add_lt_add_right).mp h3

/-! ### UNORM → UNORM8 / UNORM16: nearest code, and a tie never occurs -/

theorem n1n8_nearest : ∀ x, x < 2 → (n1n8 x : Int) = toCode 255 (unorm 1 x) ∧ isTie (255 * clamp01 (unorm 1 x)) = false :=
  fun x h => okNat_nearest (by decide) (unorm_clamp 1 x (by decide) h) (n1n8_ok x h)
theorem n2n8_nearest : ∀ x, x < 4 → (n2n8 x : Int) = toCode 255 (unorm 2 x) ∧ isTie (255 * clamp01 (unorm 2 x)) = false :=
  fun x h => okNat_nearest (by decide) (unorm_clamp 2 x (by decide) h) (n2n8_ok x h)
theorem n4n8_nearest : ∀ x, x < 16 → (n4n8 x : Int) = toCode 255 (unorm 4 x) ∧ isTie (255 * clamp01 (unorm 4 x)) = false :=
  fun x h => okNat_nearest (by decide) (unorm_clamp 4 x (by decide) h) (n4n8_ok x h)
theorem n5n8_nearest : ∀ x, x < 32 → (n5n8 x : Int) = toCode 255 (unorm 5 x) ∧ isTie (255 * clamp01 (unorm 5 x)) = false :=
  fun x h => okNat_nearest (by decide) (unorm_clamp 5 x (by decide) h) (n5n8_ok x h)
theorem n6n8_nearest : ∀ x, x < 64 → (n6n8 x : Int) = toCode 255 (unorm 6 x) ∧ isTie (255 * clamp01 (unorm 6 x)) = false :=
  fun x h => okNat_nearest (by decide) (unorm_clamp 6 x (by decide) h) (n6n8_ok x h)
theorem n10n8_nearest : ∀ x, x < 1024 → (n10n8 x : Int) = toCode 255 (unorm 10 x) ∧ isTie (255 * clamp01 (unorm 10 x)) = false :=
  fun x h => okNat_nearest (by decide) (unorm_clamp 10 x (by decide) h) (n10n8_ok x h)
theorem n16n8_nearest : ∀ x, x < 65536 → (n16n8 x : Int) = toCode 255 (unorm 16 x) ∧ isTie (255 * clamp01 (unorm 16 x)) = false :=
  fun x h => okNat_nearest (by decide) (unorm_clamp 16 x (by decide) h) (n16n8_ok x h)
theorem n1n16_nearest : ∀ x, x < 2 → (n1n16 x : Int) = toCode 65535 (unorm 1 x) ∧ isTie (65535 * clamp01 (unorm 1 x)) = false :=
  fun x h => okNat_nearest (by decide) (unorm_clamp 1 x (by decide) h) (n1n16_ok x h)
theorem n2n16_nearest : ∀ x, x < 4 → (n2n16 x : Int) = toCode 65535 (unorm 2 x) ∧ isTie (65535 * clamp01 (unorm 2 x)) = false :=
  fun x h => okNat_nearest (by decide) (unorm_clamp 2 x (by decide) h) (n2n16_ok x h)
theorem n4n16_nearest : ∀ x, x < 16 → (n4n16 x : Int) = toCode 65535 (unorm 4 x) ∧ isTie (65535 * clamp01 (unorm 4 x)) = false :=
  fun x h => okNat_nearest (by decide) (unorm_clamp 4 x (by decide) h) (n4n16_ok x h)
theorem n5n16_nearest : ∀ x, x < 32 → (n5n16 x : Int) = toCode 65535 (unorm 5 x) ∧ isTie (65535 * clamp01 (unorm 5 x)) = false :=
  fun x h => okNat_nearest (by decide) (unorm_clamp 5 x (by decide) h) (n5n16_ok x h)
theorem n6n16_nearest : ∀ x, x < 64 → (n6n16 x : Int) = toCode 65535 (unorm 6 x) ∧ isTie (65535 * clamp01 (unorm 6 x)) = false :=
  fun x h => okNat_nearest (by decide) (unorm_clamp 6 x (by decide) h) (n6n16_ok x h)
theorem n8n16_nearest : ∀ x, x < 256 → (n8n16 x : Int) = toCode 65535 (unorm 8 x) ∧ isTie (65535 * clamp01 (unorm 8 x)) = false :=
  fun x h => okNat_nearest (by decide) (unorm_clamp 8 x (by decide) h) (n8n16_ok x h)
theorem n10n16_nearest : ∀ x, x < 1024 → (n10n16 x : Int) = toCode 65535 (unorm 10 x) ∧ isTie (65535 * clamp01 (unorm 10 x)) = false :=
  fun x h => okNat_nearest (by decide) (unorm_clamp 10 x (by decide) h) (n10n16_ok x h)

/-! ### SNORM → UNORM8 / UNORM16: nearest code; the only tie is the code 0 (ideal 0.5), it goes up
(128 resp. 32768 = `Norm::HALF`) -/

theorem s8n8_nearest : ∀ x, x < 256 → (s8n8 x : Int) = toCode 255 (snorm 8 x) ∧ isTie (255 * clamp01 (snorm 8 x)) = (x == 0) :=
  fun x h => okNat_nearest (by decide) (snorm_clamp 8 x (by decide) h) (s8n8_ok x h)
theorem s8n16_nearest : ∀ x, x < 256 → (s8n16 x : Int) = toCode 65535 (snorm 8 x) ∧ isTie (65535 * clamp01 (snorm 8 x)) = (x == 0) :=
  fun x h => okNat_nearest (by decide) (snorm_clamp 8 x (by decide) h) (s8n16_ok x h)
theorem s16n8_nearest : ∀ x, x < 65536 → (s16n8 x : Int) = toCode 255 (snorm 16 x) ∧ isTie (255 * clamp01 (snorm 16 x)) = (x == 0) :=
  fun x h => okNat_nearest (by decide) (snorm_clamp 16 x (by decide) h) (s16n8_ok x h)
theorem s16n16_nearest : ∀ x, x < 65536 → (s16n16 x : Int) = toCode 65535 (snorm 16 x) ∧ isTie (65535 * clamp01 (snorm 16 x)) = (x == 0) :=
  fun x h => okNat_nearest (by decide) (snorm_clamp 16 x (by decide) h) (s16n16_ok x h)

/-- both minimum codes are -1 (ideal 0), 0 is 0.5, the maximum is 1 -/
theorem snorm_anchors : snorm 8 128 = 0 ∧ snorm 8 129 = 0 ∧ snorm 8 0 = 1 / 2 ∧ snorm 8 127 = 1 ∧
    snorm 16 32768 = 0 ∧ snorm 16 32769 = 0 ∧ snorm 16 0 = 1 / 2 ∧ snorm 16 32767 = 1 := by
  decide +kernel

/-! ### XR_BIAS → UNORM8 / UNORM16: nearest code of the value clamped to [0,1]; the scaled ideal is
`c/2` resp. `257 c/2`, a tie for every odd `c = x - 384` strictly inside the range, going up -/

theorem xr10n8_nearest : ∀ x, x < 1024 → (xr10n8 x : Int) = toCode 255 (xr x) ∧
    isTie (255 * clamp01 (xr x)) = (384 < x && x < 894 && x % 2 == 1) :=
  fun x h => okNat_nearest (by decide) (xr_clamp x) (xr10n8_ok x h)
theorem xr10n16_nearest : ∀ x, x < 1024 → (xr10n16 x : Int) = toCode 65535 (xr x) ∧
    isTie (65535 * clamp01 (xr x)) = (384 < x && x < 894 && x % 2 == 1) :=
  fun x h => okNat_nearest (by decide) (xr_clamp x) (xr10n16_ok x h)

/-! ### 11-bit / 10-bit float denormals → UNORM16 (integer formulas) -/

theorem fp11_denorm_n16_nearest : ∀ m, m < 64 →
    (fp11DenormN16 m : Int) = toCode 65535 ((smallFloat 6 false m).getD 0) :=
  fun m h => (okNat_nearest (by decide) (denorm_clamp 6 m h) (fp11Denorm_ok m h)).1
theorem fp10_denorm_n16_nearest : ∀ m, m < 32 →
    (fp10DenormN16 m : Int) = toCode 65535 ((smallFloat 5 false m).getD 0) :=
  fun m h => (okNat_nearest (by decide) (denorm_clamp 5 m h) (fp10Denorm_ok m h)).1

/-! ### no intermediate of the integer code overflows its Rust type (so the overflow-checking
profile computes the same values and the `% 2^n` of the model are the identity) -/

theorem int_no_overflow :
    (∀ x, x < 4 → x * 85 < 256 ∧ x * 21845 < 65536) ∧
    (∀ x, x < 16 → x * 17 < 256 ∧ x * 4369 < 65536) ∧
    (∀ x, x < 32 → x * 2108 + 92 < 65536 ∧ x * 138547200 < 4294967296) ∧
    (∀ x, x < 64 → x * 1036 + 132 < 65536 ∧ x * 68173056 + 30976 < 4294967296) ∧
    (∀ x, x < 256 → x * 257 < 65536) ∧
    (∀ x, x < 1024 → x * 16336 + 32656 < 4294967296 ∧ x * 4198340 + 32660 < 4294967296) ∧
    (∀ x, x < 65536 → x * 255 + 32895 < 4294967296) ∧
    (∀ x, x < 256 → s8norm x ≤ 254 ∧ s8norm x * 258 + 2 < 65536 ∧ s8norm x * 16909064 + 32520 < 4294967296) ∧
    (∀ x, x < 65536 → s16norm x ≤ 65534 ∧ s16norm x * 65282 + 8388354 < 4294967296 ∧
      s16norm x * 65538 + 2 < 4294967296) ∧
    (∀ x, x < 1024 → xrClamp x ≤ 510 ∧ xrClamp x * 8421376 + 65535 < 4294967296) := by
  refine ⟨?_, ?_, ?_, ?_, ?_, ?_, ?_, ?_, ?_, ?_⟩ <;> intro x h
  · omega
  · omega
  · omega
  · omega
  · omega
  · omega
  · omega
  · have : s8norm x ≤ 254 := by unfold s8norm w8; omega
    omega
  · have : s16norm x ≤ 65534 := by unfold s16norm w16; omega
    omega
  · have : xrClamp x ≤ 510 := by unfold xrClamp; omega
    omega

/-! ### → F32: the Rust `f32` expression yields the correctly rounded binary32 of the ideal -/

/-- the constants are the correctly rounded values of their defining expressions -/
theorem f32_constants : kThird = roundF32 (1 / 3) ∧ k1_n8 = roundF32 (1 / 765) ∧ k255 = roundF32 (1 / 255) ∧
    kY = roundF32 (1164383 / 1000000) ∧ kRV = roundF32 (1596027 / 1000000) ∧
    kGU = roundF32 (391762 / 1000000) ∧ kGV = roundF32 (812968 / 1000000) ∧
    kBU = roundF32 (2017232 / 1000000) := by
  have h := constants_ok
  exact ⟨h.1, h.2.2.2.2.1, h.2.2.2.2.2.2.2.2.2.2.2.1, h.2.2.2.2.2.2.2.2.2.2.2.2.2.2.2.1,
    h.2.2.2.2.2.2.2.2.2.2.2.2.2.2.2.2.1, h.2.2.2.2.2.2.2.2.2.2.2.2.2.2.2.2.2.1,
    h.2.2.2.2.2.2.2.2.2.2.2.2.2.2.2.2.2.2.1, h.2.2.2.2.2.2.2.2.2.2.2.2.2.2.2.2.2.2.2⟩

theorem n1f32_exact : ∀ x, x < 2 → n1f32 x = roundF32 (unorm 1 x) := n1f32_ok
theorem n2f32_exact : ∀ x, x < 4 → n2f32 x = roundF32 (unorm 2 x) := n2f32_ok
theorem n4f32_exact : ∀ x, x < 16 → n4f32 x = roundF32 (unorm 4 x) := n4f32_ok
theorem n5f32_exact : ∀ x, x < 32 → n5f32 x = roundF32 (unorm 5 x) := n5f32_ok
theorem n6f32_exact : ∀ x, x < 64 → n6f32 x = roundF32 (unorm 6 x) := n6f32_ok
theorem n8f32_exact : ∀ x, x < 256 → n8f32 x = roundF32 (unorm 8 x) := n8f32_ok
theorem n10f32_exact : ∀ x, x < 1024 → n10f32 x = roundF32 (unorm 10 x) := n10f32_ok
theorem s8f32_exact : ∀ x, x < 256 → s8f32 x = roundF32 (snorm 8 x) := s8f32_ok
/-- `xr10::f32` as fixed in 785f0f7 (division): the correctly rounded value -/
theorem xr10f32_exact : ∀ x, x < 1024 → xr10f32 x = roundF32 (xr x) := xr10f32_ok
/-- the former formula (multiplication by the rounded reciprocal) was not: field value 0 -/
theorem xr10f32_reciprocal_not_nearest : xr10f32Reciprocal 0 ≠ roundF32 (xr 0) := by decide +kernel

/-! ### 16-bit UNORM / SNORM → F32 and the half-float conversions, whole 16-bit domains

All 65 536 inputs of each conversion are evaluated in the kernel (`decide +kernel`, kernel reduction only).  The
software binary32 of `ConvF32.lean` is slow to evaluate there, so the evaluation runs on an integer
representation of the same float (`Proofs/ConvFast.lean`: biased natural exponents, kernel-accelerated `Nat`
primitives only) that is PROVED equal to the model's `roundPack`, `fmul`, `fadd`, `ofNat`, `toNatSat` for all
arguments; likewise `roundF32 (N/D)` and `toCode max (N/D)` of the specification (`Proofs/ConvFastSpec.lean`).
The evaluations are `Proofs/ConvF16W0.lean`, `ConvF16W1.lean` (`n16::f32`), `ConvF16S.lean` (`s16::uf32`) and
`ConvF16H.lean` (the halves). -/

/-- `n16::f32` (`t*C0 + t*C1`, two products and a sum in `f32`) is the correctly rounded `v / 65535` -/
theorem n16_f32_eq_spec : ∀ v, v < 65536 → n16f32 v = roundF32 (unorm 16 v) := Dds.ConvFast.n16f32_all

/-- `s16::uf32` (SNORM16 mapped to [0, 1], `(n as f32 * 73.0) * (1/(65534*73))` with `n = s16::norm`) is the
correctly rounded ideal value `(max(s, −32767)/32767 + 1)/2` -/
theorem s16_uf32_eq_spec : ∀ v, v < 65536 → s16f32 v = roundF32 (snorm 16 v) := Dds.ConvFast.s16f32_all

/-- both minimum codes (−32768 and −32767) give 0.0, code 0 gives 0.5, the maximum 1.0 -/
theorem s16_uf32_anchors : s16f32 32768 = 0 ∧ s16f32 32769 = 0 ∧ s16f32 0 = half ∧ s16f32 32767 = one := by
  decide +kernel

/-- `fp16::f32`, every half bit pattern: a finite half (normal or subnormal) gives the binary32 of exactly its
value (`roundF32` of a representable value; a zero keeps its sign), `±∞` gives `±∞`, a NaN gives a NaN -/
theorem fp16_f32_eq_spec : ∀ x, x < 65536 →
    match smallFloat 10 true x with
    | some v => smallF32 10 true x = if v = 0 then (if x < 32768 then 0 else signBit) else roundF32 v
    | none => if x % 1024 = 0 then smallF32 10 true x = (if x < 32768 then posInf else negInf)
        else isNaN (smallF32 10 true x) = true :=
  Dds.ConvFast.half_f32_all

/-- `fp16::n8`, every half bit pattern: the nearest 8-bit code of the value clamped to [0, 1] (tie up);
`+∞` gives 255, `−∞` and NaN give 0 -/
theorem fp16_n8_eq_spec : ∀ x, x < 65536 →
    (smallN8 10 true x : Int) = match smallFloat 10 true x with
      | some v => toCode 255 v
      | none => if x % 1024 = 0 ∧ x < 32768 then 255 else 0 :=
  Dds.ConvFast.half_n8_all

/-- `fp16::n16`, every half bit pattern EXCEPT the four halves `0x3801 … 0x3804` (0.5·(1 + k/1024), k = 1…4):
the nearest 16-bit code of the value clamped to [0, 1] (tie up); `+∞` gives 65535, `−∞` and NaN give 0.
`_partial`: the property demands the nearest code for every half; for the four excluded ones the code is one too
high (`fp16_n16_known_deviation`, finding F14b), so the exception set is exact. -/
theorem fp16_n16_eq_spec_partial : ∀ x, x < 65536 → ¬ (0x3801 ≤ x ∧ x ≤ 0x3804) →
    (smallN16 10 true x : Int) = match smallFloat 10 true x with
      | some v => toCode 65535 v
      | none => if x % 1024 = 0 ∧ x < 32768 then 65535 else 0 := by
  intro x hx hne
  have h := Dds.ConvFast.half_n16_all x hx
  have hne' : ¬ (14337 ≤ x ∧ x ≤ 14340) := hne
  rw [h]
  cases smallFloat 10 true x with
  | none => rfl
  | some v => simp only [if_neg hne', Int.add_zero]

/-- the four halves really deviate: the `f32` product `v * 65535.0` needs 25 bits, rounds onto the tie
`c + 0.5` and the code comes out ONE TOO HIGH (32800, 32832, 32864, 32896 instead of 32799, 32831, 32863,
32895); each ideal is within 2^-9 code of the tie, inside the stated tie tolerance (`admissible`) -/
theorem fp16_n16_known_deviation : ∀ x, 0x3801 ≤ x → x ≤ 0x3804 →
    ∃ v, smallFloat 10 true x = some v ∧ (smallN16 10 true x : Int) = toCode 65535 v + 1 ∧
      admissible 65535 v (smallN16 10 true x) = true := by
  intro x h1 h2
  have : x = 14337 ∨ x = 14338 ∨ x = 14339 ∨ x = 14340 := by omega
  rcases this with rfl | rfl | rfl | rfl
  · exact ⟨(smallFloat 10 true 14337).getD 0, by decide +kernel, by decide +kernel, by decide +kernel⟩
  · exact ⟨(smallFloat 10 true 14338).getD 0, by decide +kernel, by decide +kernel, by decide +kernel⟩
  · exact ⟨(smallFloat 10 true 14339).getD 0, by decide +kernel, by decide +kernel, by decide +kernel⟩
  · exact ⟨(smallFloat 10 true 14340).getD 0, by decide +kernel, by decide +kernel, by decide +kernel⟩

/-! ### binary32 sources → UNORM8 / UNORM16: `fp::n8`, `fp::n16` on ALL 2^32 bit patterns

`fp::n8(x) = (x * 255.0 + 0.5) as u8` and `fp::n16(x) = (x * 65535.0 + 0.5) as u16` serve every `f32`-valued source
(R32*_FLOAT, and the YUV → U8/U16 paths).  The model is the expression operator by operator on the software binary32
(`fpn8 b = toNatSat (fadd (fmul b 255.0) 0.5) 255`).  The specification: NaN ↦ 0, `+∞` ↦ MAX, `−∞` ↦ 0, a finite
value ↦ `toCode MAX (toRat b)` = the nearest code of the value clamped to [0, 1] (negative values and −0 ↦ 0).

Method (no enumeration of 2^32 points): `Proofs/F32Mono.lean` proves that `roundPack` is monotone in the exact value,
hence `x ↦ (x * K + 0.5) as uN` is monotone on the patterns `0 … +∞`; for every code `k` a generated table gives the
first pattern `t_k` with result ≥ `k`, and the kernel evaluates the model at `t_k` and `t_k − 1` and compares the
values of `t_k`, `t_k ± 1` with the exact tie `(2k − 1)/(2·MAX)` (`Proofs/F32Thr.lean`, `F32ThrRows*.lean`); NaN,
negative values, zeros and infinities are symbolic cases.

The conversion is NOT the nearest code on all inputs.  For 128 (U8) resp. 32 768 (U16) patterns — each the
LARGEST float below a tie `(2k − 1)/(2·MAX)` — the binary32 product `x * MAX` (or the sum `+ 0.5`) rounds up onto the
tie and the result is `k`, one above the nearest code `k − 1` (the double rounding of finding F14).  Everywhere else
(all other 2^32 − 128 resp. 2^32 − 32 768 patterns) the result is exactly the specification.  Every exception is
within one input ulp of the tie, inside the stated tie tolerance of `f32`-valued fields (`admissible`). -/

/-- `fp::n8`, every binary32 pattern EXCEPT the 128 listed ones (`0x3B008080` = the largest float below 1/510, and
`0x3F000000 + j·0x010101`, `j = 1 … 127` = the largest floats below `(255 + 2j)/510`): exactly the specification.
`_partial`: the property demands the nearest code everywhere; on the excluded patterns the code is one too high
(`fp_n8_known_deviation`), so the exception set is exact. -/
theorem fp_n8_eq_spec_partial : ∀ b, b < 2 ^ 32 →
    ¬ (b = 0x3B008080 ∨ (0x3F000000 < b ∧ b < 0x3F800000 ∧ (b - 0x3F000000) % 0x010101 = 0)) →
    (fpn8 b : Int) = if isNaN b then 0 else if isInf b then (if isNeg b then 0 else 255) else toCode 255 (toRat b) := by
  intro b hb hne
  have h := Dds.F32Thr.fpn8_all b hb
  rw [if_neg (fun hm => hne ((Dds.F32Thr.fpN8Dev_closed b).mp hm)), Int.add_zero] at h
  exact h

/-- the 128 excluded patterns really deviate: each is a positive finite float strictly below the tie
`(2k − 1)/510` of its result `k = fpn8 b` while its successor `b + 1` is at or above it, so the nearest code is
`k − 1`; the result is within the tie tolerance -/
theorem fp_n8_known_deviation : ∀ b,
    (b = 0x3B008080 ∨ (0x3F000000 < b ∧ b < 0x3F800000 ∧ (b - 0x3F000000) % 0x010101 = 0)) →
    (fpn8 b : Int) = toCode 255 (toRat b) + 1 ∧ 1 ≤ fpn8 b ∧
    toRat b < ((2 * fpn8 b - 1 : Nat) : Rat) / 510 ∧ ((2 * fpn8 b - 1 : Nat) : Rat) / 510 ≤ toRat (b + 1) ∧
    admissible 255 (toRat b) (fpn8 b) = true := by
  intro b hb
  obtain ⟨_, h1, h2, h3, h4, h5⟩ := Dds.F32Thr.fpn8_dev b ((Dds.F32Thr.fpN8Dev_closed b).mpr hb)
  exact ⟨h1, h2, h3, h4, h5⟩

/-- `fp::n16`, every binary32 pattern EXCEPT the 32 768 patterns of the table `fpN16Dev` (generated, every entry
validated in the kernel): exactly the specification.  `_partial`: see `fp_n16_known_deviation`. -/
theorem fp_n16_eq_spec_partial : ∀ b, b < 2 ^ 32 → b ∉ Dds.F32Thr.fpN16Dev →
    (fpn16 b : Int) =
      if isNaN b then 0 else if isInf b then (if isNeg b then 0 else 65535) else toCode 65535 (toRat b) := by
  intro b hb hne
  have h := Dds.F32Thr.fpn16_all b hb
  rw [if_neg hne, Int.add_zero] at h
  exact h

/-- the 32 768 excluded patterns really deviate, and they are characterised: `b` is a positive finite float strictly
below the tie `(2k − 1)/131070` of its result `k = fpn16 b`, its successor is at or above the tie (so `b` is the
largest float below that tie and the nearest code is `k − 1`), and the result is within the tie tolerance -/
theorem fp_n16_known_deviation : ∀ b, b ∈ Dds.F32Thr.fpN16Dev →
    (fpn16 b : Int) = toCode 65535 (toRat b) + 1 ∧ 1 ≤ fpn16 b ∧
    toRat b < ((2 * fpn16 b - 1 : Nat) : Rat) / 131070 ∧ ((2 * fpn16 b - 1 : Nat) : Rat) / 131070 ≤ toRat (b + 1) ∧
    admissible 65535 (toRat b) (fpn16 b) = true := by
  intro b hb
  obtain ⟨_, h1, h2, h3, h4, h5⟩ := Dds.F32Thr.fpn16_dev b hb
  exact ⟨h1, h2, h3, h4, h5⟩

/-- the exception set of `fp::n16` has exactly 32 768 elements (about every second tie; every tie `k ≤ 128`, none
for `129 ≤ k ≤ 256`) -/
theorem fp_n16_deviation_count : Dds.F32Thr.fpN16Dev.length = 32768 := Dds.F32Thr.fpN16Dev_length

/-- the statement behind both: the monotonicity of the software float used to extend the checked points.  For
non-negative non-NaN patterns `a ≤ b ≤ +∞` (bit patterns of non-negative floats are ordered like their values) and a
positive finite constant `c`: `a * c ≤ b * c`, `a + c ≤ b + c`, `a as uN ≤ b as uN` -/
theorem f32_ops_monotone (a b c : Nat) (hab : a ≤ b) (hb : b ≤ posInf) (hc : c < posInf) (hc0 : 0 < c) (mx : Nat) :
    fmul a c ≤ fmul b c ∧ fadd a c ≤ fadd b c ∧ toNatSat a mx ≤ toNatSat b mx :=
  ⟨(Dds.F32Mono.fmul_mono_nonneg hab hb hc hc0).1, (Dds.F32Mono.fadd_mono_nonneg hab hb hc).1,
    Dds.F32Mono.toNatSat_mono_nonneg mx hab hb⟩

/-- and the whole conversion `x ↦ (x * K + 0.5) as uN` (`K` a positive finite constant) is monotone for the order of
the values (`key`; `−0 = +0`) on ALL non-NaN bit patterns -/
theorem f32_to_unorm_monotone (K mx a b : Nat) (hK : K < posInf) (hK0 : 0 < K) (ha : a < 2 ^ 32) (hb : b < 2 ^ 32)
    (hna : isNaN a = false) (hnb : isNaN b = false) (h : key a ≤ key b) :
    toNatSat (fadd (fmul a K) half) mx ≤ toNatSat (fadd (fmul b K) half) mx :=
  Dds.F32Thr.pipe_mono_key K mx a b hK hK0 ha hb hna hnb h
example : key 0xBF800000 ≤ key 0x80000000 ∧ key 0x80000000 ≤ key 0 ∧ key 0 ≤ key 0x3F000000 ∧
    isNaN 0xBF800000 = false := by decide

/-! ### 11-bit, 10-bit floats and the shared-exponent format: all outputs, whole domain -/

/-- every 10-bit float code: F32 is the exact value (`+inf`, NaN for `exp = 31`); U8/U16 are the
nearest codes of the clamped value (tie up), infinity saturates, NaN gives 0 -/
theorem fp10_all : ∀ x, x < 1024 → okSmall 5 false x = true := fp10_ok
theorem fp11_all : ∀ x, x < 2048 → okSmall 6 false x = true := fp11_ok
/-- R9G9B9E5, every exponent and mantissa: F32 is the exact value, U8 the nearest code, U16 the
nearest code EXCEPT for the single pair exponent 15, mantissa 257 (value 257/512, ideal code
32895.498…): the `f32` product `257 * (2^-9 * 65535)` needs 25 bits, rounds onto the tie 32895.5 and
the code comes out one too high (32896).  The ideal is 2^-9 codes from a tie, inside the stated tie
tolerance of float-evaluated conversions; recorded in notes/C04.md. -/
theorem shared_all : ∀ e m, e < 32 → m < 512 →
    sharedF32 e m = roundF32 (sharedExp e m) ∧ (sharedN8 e m : Int) = toCode 255 (sharedExp e m) ∧
    (sharedN16 e m : Int) = toCode 65535 (sharedExp e m) + (if e = 15 ∧ m = 257 then 1 else 0) :=
  shared_ok
/-- the exceptional code is admissible under the tie tolerance -/
theorem shared_exception_admissible : admissible 65535 (sharedExp 15 257) (sharedN16 15 257) = true := by
  decide +kernel

/-! ### the pinned format table -/

/-- 45 formats (35 uncompressed, 7 sub-sampled, 3 bi-planar), distinct names; in every record the
fields lie inside the unit, are pairwise disjoint, have a width their kind admits, every pixel of
the unit gets each component it needs from exactly one field, an absent blue channel is 0.5 exactly
for the two-channel SNORM formats (else 0), luma/chroma sit in their planes -/
theorem fields_wellformed :
    formats.all wellformed = true ∧ formats.length = 45 ∧ (formats.map (·.name)).Nodup ∧
    countWhere (fun f => f.pxPerUnit == 1 && f.planar.isNone) = 35 ∧
    countWhere (fun f => f.pxPerUnit != 1) = 7 ∧ countWhere (fun f => f.planar.isSome) = 3 := by
  decide +kernel

/-- defaults: absent channels are 0, opaque alpha is the maximum, HALF is 128 / 32768 / 0.5 -/
theorem defaults_documented :
    (∀ p, defaultVal .zero p = 0) ∧ defaultVal .one 0 = 255 ∧ defaultVal .one 1 = 65535 ∧
    defaultVal .one 2 = roundF32 1 ∧ defaultVal .half 0 = 128 ∧ defaultVal .half 1 = 32768 ∧
    defaultVal .half 2 = roundF32 (1 / 2) ∧
    (toCode 255 (1 / 2) = 128 ∧ toCode 65535 (1 / 2) = 32768) := by
  refine ⟨fun _ => rfl, ?_, ?_, ?_, ?_, ?_, ?_, ?_⟩ <;> decide +kernel

/-! ### pairing: every pixel uses the samples of its own cell, for all widths and heights -/

/-- 2×1 formats: pixel `x` of a row is pixel `x % 2` of block `x / 2`; exactly `w` pixels -/
theorem pairing_2x1 {α} (g : Nat → α × α) (w : Nat) :
    (process2x1 g w).length = w ∧
    ∀ x, x < w → (process2x1 g w)[x]? = some (if x % 2 = 0 then (g (x / 2)).1 else (g (x / 2)).2) :=
  ⟨process2x1_length g w, fun x h => process2x1_get g w x h⟩

/-- R1_UNORM: pixel `x` is bit `x % 8` (from the top) of byte `x / 8`; exactly `w` pixels -/
theorem pairing_8x1 {α} (g : Nat → List α) (hg : ∀ i, (g i).length = 8) (w : Nat) :
    (process8x1 g w).length = w ∧ ∀ x, x < w → (process8x1 g w)[x]? = (g (x / 8))[x % 8]? :=
  ⟨process8x1_length g hg w, fun x h => process8x1_get g hg w x h⟩

/-- bi-planar rows: luma sample `x` is combined with chroma sample `x / 2` -/
theorem pairing_biplanar_row {α} (f : Nat → Nat → α) (luma chroma : Nat → Nat) (w : Nat) :
    (biPlanarRow f luma chroma w).length = w ∧
    ∀ x, x < w → (biPlanarRow f luma chroma w)[x]? = some (f (luma x) (chroma (x / 2))) :=
  ⟨biPlanarRow_length f luma chroma w, fun x h => biPlanarRow_get f luma chroma w x h⟩

/-- bi-planar surfaces: with `⌈h/2⌉` chroma lines exactly `h` rows are produced and row `y` uses
chroma line `y / 2` -/
theorem pairing_biplanar_rows {α} (row : Nat → Nat → α) (h : Nat) :
    biPlanarRows row h ((h + 1) / 2) = (List.range h).map fun y => row y (y / 2) :=
  biPlanarRows_eq row h

/-! ### non-vacuity / sanity -/

example : n5n8 11 = 90 ∧ toCode 255 (unorm 5 11) = 90 := by decide +kernel
example : s8n8 0 = 128 ∧ isTie (255 * clamp01 (snorm 8 0)) = true := by decide +kernel
example : xr10n8 385 = 1 ∧ isTie (255 * clamp01 (xr 385)) = true := by decide +kernel
example : roundF32 1 = 0x3F800000 ∧ roundF32 (1 / 3) = 0x3EAAAAAB ∧ roundF32 (-3 / 2) = 0xBFC00000 ∧
    roundF32 16777217 = 0x4B800000 ∧ roundF32 16777219 = 0x4B800002 ∧
    roundF32 (1 / 2 ^ 149) = 1 ∧ roundF32 (1 / 2 ^ 150) = 0 ∧ roundF32 (2 ^ 128) = 0x7F800000 := by
  decide +kernel
example : n16f32 65535 = one ∧ n16f32 1 = roundF32 (1 / 65535) ∧ unorm 16 32768 = 32768 / 65535 := by decide +kernel
example : snorm 16 32768 = 0 ∧ snorm 16 65535 = 16383 / 32767 ∧ s16f32 65535 = roundF32 (16383 / 32767) := by
  decide +kernel
example : smallFloat 10 true 0x3C00 = some 1 ∧ smallF32 10 true 0x3C00 = one ∧ smallN8 10 true 0x3C00 = 255 ∧
    smallFloat 10 true 0x0001 = some (1 / 16777216) ∧ smallF32 10 true 0x0001 = 0x33800000 ∧
    smallFloat 10 true 0xC000 = some (-2) ∧ smallF32 10 true 0xC000 = 0xC0000000 ∧ smallN16 10 true 0xC000 = 0 ∧
    smallFloat 10 true 0x7C00 = none ∧ smallF32 10 true 0xFC00 = negInf ∧ smallN16 10 true 0x7C00 = 65535 ∧
    smallF32 10 true 0x8000 = signBit ∧ smallFloat 10 true 0x3801 = some (1025 / 2048) ∧
    smallN16 10 true 0x3801 = 32800 ∧ toCode 65535 (1025 / 2048) = 32799 := by decide +kernel
example : fpn8 0x3F800000 = 255 ∧ fpn8 0x3F000000 = 128 ∧ fpn8 0x7FC00000 = 0 ∧ fpn8 0x7F800000 = 255 ∧ fpn8 0xFF800000 = 0 ∧
    fpn8 0xBF000000 = 0 ∧ fpn8 0x80000000 = 0 ∧ fpn8 0x00000001 = 0 ∧ fpn8 0x3B008081 = 1 ∧ toCode 255 (toRat 0x3B008081) = 1 ∧
    fpn8 0x3B008080 = 1 ∧ toCode 255 (toRat 0x3B008080) = 0 ∧ fpn8 0x3F010101 = 129 ∧ toCode 255 (toRat 0x3F010101) = 128 := by
  decide +kernel
example : fpn16 0x3F800000 = 65535 ∧ fpn16 0x3F000000 = 32768 ∧ fpn16 0x7FC00000 = 0 ∧ fpn16 0x7F800000 = 65535 ∧
    fpn16 0x477FFF00 = 65535 ∧ fpn16 0xC0000000 = 0 ∧ fpn16 0x3F1C201C = 39968 ∧ toCode 65535 (toRat 0x3F1C201C) = 39967 ∧
    fpn16 0x3F1C201D = 39968 ∧ toCode 65535 (toRat 0x3F1C201D) = 39968 ∧ fpn16 0x37000080 = 1 ∧
    toCode 65535 (toRat 0x37000080) = 0 := by
  decide +kernel
set_option maxRecDepth 100000 in
example : 0x37000080 ∈ Dds.F32Thr.fpN16Dev ∧ 0x3F1C201D ∉ Dds.F32Thr.fpN16Dev := by
  -- by `fpn16_all` a pattern is in the set exactly when its code is one above the nearest: two evaluations
  have h1 := Dds.F32Thr.fpn16_all 0x37000080 (by decide)
  have h2 := Dds.F32Thr.fpn16_all 0x3F1C201D (by decide)
  have e1 : (fpn16 0x37000080 : Int) = Dds.F32Thr.specCode 65535 0x37000080 + 1 := by decide +kernel
  have e2 : (fpn16 0x3F1C201D : Int) = Dds.F32Thr.specCode 65535 0x3F1C201D := by decide +kernel
  constructor
  · apply Classical.byContradiction
    intro h
    rw [if_neg h, e1] at h1
    omega
  · intro h
    rw [if_pos h, e2] at h2
    omega
example : process2x1 (fun i => (2 * i, 2 * i + 1)) 5 = [0, 1, 2, 3, 4] := by decide
example : biPlanarRows (fun y uv => (y, uv)) 3 2 = [(0, 0), (1, 0), (2, 1)] := by decide
example : (findFmt "NV12").isSome = true := by decide

/-! ### YUV decoders: ALL inputs (2^24 / 2^30 / 2^48 triples), by a rounding-error bound

`yuvTo bits prec y u v` is the operator-by-operator binary32 model of `yuv8/yuv10/yuv16::{n8, n16, f32}`
(`prec` 0 = U8, 1 = U16, 2 = F32), `Spec.yuv bits y u v` the three ideal values (BT.601 limited range, the documented
6-decimal constants, exact `Rat`, clamped to [0, 1]).  Reading (DESIGN.md §3, the oracle of `harness/src/c04.rs`):
an integer code `k` is accepted iff `|k/max − ideal| ≤ 1/(2·max) + τ`, `τ = 2^-12/255` (`Spec.admissible`: the nearest
code, or either neighbour when the ideal value is within `τ` of a tie); an F32 output iff it is finite and
`|out − ideal| ≤ τ + 2^-24` (`Spec.admissibleF32`).  `yuvAll P ideal out`: `out` has exactly three channels and `P`
holds for each.  No enumeration: `Proofs/F32Err.lean` proves the standard model of floating-point arithmetic for the
software binary32 (each `fmul`/`fadd`/`fsub` on finite operands = exact result rounded once, error ≤ half an ulp of the
result's binade; integer → float casts and the differences `y − 16` … exact), `Proofs/YuvErr.lean` composes it along
the Rust expression with interval bounds from the input ranges (rounding of the five matrix constants and of `1/max`
included) and obtains `|out − ideal| ≤ 10·2^-24` for every F32 channel at every depth; the integer outputs follow from
`fp_n8/fp_n16_eq_spec_partial` + `…_known_deviation` (all 2^32 patterns) — a code is the nearest code of the FLOAT or
one above it when the float is the largest one below a tie, i.e. within `1/(2·max) + 2^-24` of the float — and
`10·2^-24 + 2^-24 ≤ τ = 16.06·2^-24`.  The tolerance needed is therefore the oracle's `τ` at every depth (nothing is
`_partial` here). -/

/-- `yuv8::n8` (`(sum + 0.5) as u8` on the unnormalised sums), all 2^24 inputs -/
theorem yuv8_n8_within_tolerance (y u v : Nat) (hy : y < 256) (hu : u < 256) (hv : v < 256) :
    yuvAll (admissible 255) (Spec.yuv 8 y u v) (yuvTo 8 0 y u v) = true :=
  Dds.YuvErr.yuv8_n8_ok y u v hy hu hv
/-- `yuv8::n16` (= `f32` then `fp::n16`), all 2^24 inputs -/
theorem yuv8_n16_within_tolerance (y u v : Nat) (hy : y < 256) (hu : u < 256) (hv : v < 256) :
    yuvAll (admissible 65535) (Spec.yuv 8 y u v) (yuvTo 8 1 y u v) = true :=
  Dds.YuvErr.yuv_n16_ok Dds.YuvErr.depth8 y u v hy hu hv
/-- `yuv8::f32` (`(sum * (1/255)).clamp(0, 1)`), all 2^24 inputs -/
theorem yuv8_f32_within_tolerance (y u v : Nat) (hy : y < 256) (hu : u < 256) (hv : v < 256) :
    yuvAll admissibleF32 (Spec.yuv 8 y u v) (yuvTo 8 2 y u v) = true :=
  (Dds.YuvErr.yuv_f32_ok Dds.YuvErr.depth8 y u v hy hu hv).2

/-- `yuv10::n8` (= `f32` then `fp::n8`), all 2^30 inputs -/
theorem yuv10_n8_within_tolerance (y u v : Nat) (hy : y < 1024) (hu : u < 1024) (hv : v < 1024) :
    yuvAll (admissible 255) (Spec.yuv 10 y u v) (yuvTo 10 0 y u v) = true :=
  Dds.YuvErr.yuv_n8_ok Dds.YuvErr.depth10 rfl y u v hy hu hv
theorem yuv10_n16_within_tolerance (y u v : Nat) (hy : y < 1024) (hu : u < 1024) (hv : v < 1024) :
    yuvAll (admissible 65535) (Spec.yuv 10 y u v) (yuvTo 10 1 y u v) = true :=
  Dds.YuvErr.yuv_n16_ok Dds.YuvErr.depth10 y u v hy hu hv
theorem yuv10_f32_within_tolerance (y u v : Nat) (hy : y < 1024) (hu : u < 1024) (hv : v < 1024) :
    yuvAll admissibleF32 (Spec.yuv 10 y u v) (yuvTo 10 2 y u v) = true :=
  (Dds.YuvErr.yuv_f32_ok Dds.YuvErr.depth10 y u v hy hu hv).2

/-- `yuv16::n8`, all 2^48 inputs -/
theorem yuv16_n8_within_tolerance (y u v : Nat) (hy : y < 65536) (hu : u < 65536) (hv : v < 65536) :
    yuvAll (admissible 255) (Spec.yuv 16 y u v) (yuvTo 16 0 y u v) = true :=
  Dds.YuvErr.yuv_n8_ok Dds.YuvErr.depth16 rfl y u v hy hu hv
theorem yuv16_n16_within_tolerance (y u v : Nat) (hy : y < 65536) (hu : u < 65536) (hv : v < 65536) :
    yuvAll (admissible 65535) (Spec.yuv 16 y u v) (yuvTo 16 1 y u v) = true :=
  Dds.YuvErr.yuv_n16_ok Dds.YuvErr.depth16 y u v hy hu hv
theorem yuv16_f32_within_tolerance (y u v : Nat) (hy : y < 65536) (hu : u < 65536) (hv : v < 65536) :
    yuvAll admissibleF32 (Spec.yuv 16 y u v) (yuvTo 16 2 y u v) = true :=
  (Dds.YuvErr.yuv_f32_ok Dds.YuvErr.depth16 y u v hy hu hv).2

/-- the bound actually proved for the F32 outputs, every depth, every input: each channel is finite and within
`ε = 10·2^-24` (≈ 5.96e-7; the tolerance is `τ + 2^-24` ≈ 1.017e-6) of the ideal value -/
theorem yuv_f32_error_bound (bits y u v : Nat) (hb : bits = 8 ∨ bits = 10 ∨ bits = 16)
    (hy : y < 2 ^ bits) (hu : u < 2 ^ bits) (hv : v < 2 ^ bits) :
    yuvAll (nearF32 (10 / 16777216)) (Spec.yuv bits y u v) (yuvTo bits 2 y u v) = true := by
  rcases hb with rfl | rfl | rfl
  · exact (Dds.YuvErr.yuv_f32_ok Dds.YuvErr.depth8 y u v hy hu hv).1
  · exact (Dds.YuvErr.yuv_f32_ok Dds.YuvErr.depth10 y u v hy hu hv).1
  · exact (Dds.YuvErr.yuv_f32_ok Dds.YuvErr.depth16 y u v hy hu hv).1

/-- SATURATION (most of the `u, v` cube): whenever the unclamped ideal value of a channel (`Spec.yuvRaw`) is at least
`1 + 2^-20` the output is exactly the maximum — 255, 65535, the float 1.0 — and whenever it is at most `−2^-20` it is
exactly 0 (the float `+0.0`), at every depth and precision, for all inputs.  (`Spec.satOk`; the margin 2^-20 covers
the proved evaluation error `10·2^-24`.) -/
theorem yuv_saturation (bits prec y u v : Nat) (hb : bits = 8 ∨ bits = 10 ∨ bits = 16) (hp : prec < 3)
    (hy : y < 2 ^ bits) (hu : u < 2 ^ bits) (hv : v < 2 ^ bits) :
    yuvAll (satOk prec) (Spec.yuvRaw bits y u v) (yuvTo bits prec y u v) = true := by
  have hp' : prec = 0 ∨ prec = 1 ∨ prec = 2 := by omega
  rcases hb with rfl | rfl | rfl
  · obtain ⟨s2, s1, _⟩ := Dds.YuvErr.yuv_sat Dds.YuvErr.depth8 y u v hy hu hv
    rcases hp' with rfl | rfl | rfl
    · exact Dds.YuvErr.yuv8_sat_n8 y u v hy hu hv
    · exact s1
    · exact s2
  · obtain ⟨s2, s1, s0⟩ := Dds.YuvErr.yuv_sat Dds.YuvErr.depth10 y u v hy hu hv
    rcases hp' with rfl | rfl | rfl
    · exact s0 rfl
    · exact s1
    · exact s2
  · obtain ⟨s2, s1, s0⟩ := Dds.YuvErr.yuv_sat Dds.YuvErr.depth16 y u v hy hu hv
    rcases hp' with rfl | rfl | rfl
    · exact s0 rfl
    · exact s1
    · exact s2
example : yuvTo 8 2 255 255 255 = [one, 1056673386, one] ∧ yuvTo 8 2 0 0 0 = [0, 1057495908, 0] ∧
    Spec.yuvRaw 8 255 255 255 = (240491483 / 127500000, 125286827 / 255000000, 178158667 / 85000000) ∧
    Spec.yuvRaw 8 0 0 0 = (-13932599 / 15937500, 8473457 / 15937500, -5767413 / 5312500) ∧
    (1 + 1 / 1048576 ≤ (Spec.yuvRaw 8 255 255 255).1) ∧ ((Spec.yuvRaw 8 0 0 0).1 ≤ -(1 / 1048576)) ∧
    Spec.yuv 8 255 255 255 = (clamp01 (Spec.yuvRaw 8 255 255 255).1, clamp01 (Spec.yuvRaw 8 255 255 255).2.1,
      clamp01 (Spec.yuvRaw 8 255 255 255).2.2) := by decide +kernel

/-- the statement behind them — the standard model of floating-point arithmetic, proved for the software binary32: on
finite operands whose exact result `v` lies in `(−2^E, 2^E)` (`E ≤ 127`, so no overflow) each of `a * b`, `a + b`,
`a − b` is finite and within `2^(E−25)` (half an ulp of the binade below `2^E`) of `v` -/
theorem f32_ops_standard_model (a b E : Nat) (ha : Dds.F32Err.FinP a) (hb : Dds.F32Err.FinP b) (hE : E ≤ 127) :
    (-((2 ^ E : Nat) : Rat) < toRat a * toRat b → toRat a * toRat b < ((2 ^ E : Nat) : Rat) →
      Dds.F32Err.FinP (fmul a b) ∧ Dds.F32Err.Near (toRat (fmul a b)) (toRat a * toRat b) (((2 ^ E : Nat) : Rat) / 33554432)) ∧
    (-((2 ^ E : Nat) : Rat) < toRat a + toRat b → toRat a + toRat b < ((2 ^ E : Nat) : Rat) →
      Dds.F32Err.FinP (fadd a b) ∧ Dds.F32Err.Near (toRat (fadd a b)) (toRat a + toRat b) (((2 ^ E : Nat) : Rat) / 33554432)) ∧
    (-((2 ^ E : Nat) : Rat) < toRat a - toRat b → toRat a - toRat b < ((2 ^ E : Nat) : Rat) →
      Dds.F32Err.FinP (fsub a b) ∧ Dds.F32Err.Near (toRat (fsub a b)) (toRat a - toRat b) (((2 ^ E : Nat) : Rat) / 33554432)) :=
  ⟨fun h1 h2 => Dds.F32Err.fmul_ulp a b ha hb E _ hE rfl h1 h2, fun h1 h2 => Dds.F32Err.fadd_ulp a b ha hb E _ hE rfl h1 h2,
    fun h1 h2 => Dds.F32Err.fsub_ulp a b ha hb E _ hE rfl h1 h2⟩
example : Dds.F32Err.FinP 0x3F950A81 ∧ Dds.F32Err.FinP 0xC3000000 ∧ toRat 0x3F950A81 * toRat 0xC3000000 < ((2 ^ 8 : Nat) : Rat) ∧
    -((2 ^ 8 : Nat) : Rat) < toRat 0x3F950A81 * toRat 0xC3000000 := by decide +kernel

/-- and for the specification function itself: `roundF32 q` ("the nearest binary32 of `q`", the right-hand side of the
`…_exact` / `…_eq_spec` theorems above) of ANY rational in the normal range `2^-126 ≤ |q| < 2^127` is a finite binary32
within the relative error `2^-24` of `q` -/
theorem roundF32_relative_error (q : Rat) (hlo : 1 ≤ q.abs * ((2 ^ 126 : Nat) : Rat)) (hhi : q.abs < ((2 ^ 127 : Nat) : Rat)) :
    Dds.F32Err.FinP (roundF32 q) ∧ Dds.F32Err.Near (toRat (roundF32 q)) q (q.abs / 16777216) :=
  Dds.F32Err.roundF32_rel q hlo hhi
example : (1 : Rat) ≤ (1 / 3 : Rat).abs * ((2 ^ 126 : Nat) : Rat) ∧ (1 / 3 : Rat).abs < ((2 ^ 127 : Nat) : Rat) ∧
    roundF32 (1 / 3) = 0x3EAAAAAB ∧ toRat 0x3EAAAAAB - 1 / 3 = 1 / 100663296 := by decide +kernel

/-- non-vacuity / special values: black (`y = 16`, `u = v = 128` resp. the 10/16-bit offsets) is exactly 0 at every
precision; nominal white (`y = 235`: ideal 254.999877/255) gives the maximum codes and the float `0x3F7FFFFA`
(0.99999964, ideal 0.99999952); saturated corners; a tolerance-free check of three values against the specification -/
example : yuvTo 8 0 16 128 128 = [0, 0, 0] ∧ yuvTo 8 1 16 128 128 = [0, 0, 0] ∧ yuvTo 8 2 16 128 128 = [0, 0, 0] ∧
    yuvTo 10 2 64 512 512 = [0, 0, 0] ∧ yuvTo 16 1 4096 32768 32768 = [0, 0, 0] ∧ Spec.yuv 8 16 128 128 = (0, 0, 0) ∧
    yuvTo 8 0 235 128 128 = [255, 255, 255] ∧ yuvTo 8 1 235 128 128 = [65535, 65535, 65535] ∧
    yuvTo 8 2 235 128 128 = [0x3F7FFFFA, 0x3F7FFFFA, 0x3F7FFFFA] ∧
    Spec.yuv 8 235 128 128 = (84999959 / 85000000, 84999959 / 85000000, 84999959 / 85000000) ∧
    yuvTo 8 0 0 0 0 = [0, 136, 0] ∧ yuvTo 8 0 255 255 255 = [255, 125, 255] ∧
    yuvTo 16 1 65535 0 65535 = [65535, 57737, 5438] ∧ yuvTo 8 0 81 90 240 = [254, 0, 0] ∧
    Spec.yuv 8 81 90 240 = (254439919 / 255000000, 0, 0) := by decide +kernel
example : yuvAll (admissible 255) (Spec.yuv 8 81 90 240) [254, 0, 0] = true ∧
    yuvAll (admissible 255) (Spec.yuv 8 81 90 240) [253, 0, 0] = false ∧
    yuvAll admissibleF32 (Spec.yuv 8 235 128 128) [0x3F7FFFFA, 0x3F7FFFFA, 0x3F7FFFFA] = true ∧
    yuvAll admissibleF32 (Spec.yuv 8 235 128 128) [0x3F7FFF00, 0x3F7FFFFA, 0x3F7FFFFA] = false ∧
    yuvAll admissibleF32 (Spec.yuv 8 235 128 128) [0x3F7FFFFA, 0x3F7FFFFA] = false := by decide +kernel


end Dds.C04
