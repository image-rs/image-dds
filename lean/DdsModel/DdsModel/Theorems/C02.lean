/-
C02 — The data layout tiles the data section exactly as the DDS rules prescribe.

The specification (`specFlatten`, `specTotal`, `HeaderInRange`) is defined here; helper lemmas are in
`Proofs/Layout.lean`.  All statements are about the model `Layout.lean`, for every
`u32` width/height/depth/array size, every mip count and every pixel-info shape.
-/
import DdsModel.Proofs.Layout
import DdsModel.Drv.C02
namespace Dds.C02
open Dds

/-- header fields are `u32`s -/
structure HeaderInRange (hd : LayoutHeader) : Prop where
  w : hd.width < U32
  h : hd.height < U32
  d : ∀ x, hd.depth = some x → x < U32
  arr : ∀ c dim n, hd.kind = .dx10 c dim n → n < U32

/-- the invariant every produced layout satisfies -/
def LayoutValid : DataLayout → Prop
  | .texture t => t.Valid ∧ t.offsetIndex = 0
  | .textureArray a => a.Valid
  | .volume v => v.Valid

/-- the specification: array element, then mip level, then depth slice, with ideal
(unbounded) arithmetic, running offsets and the formula lengths -/
def specFlatten : DataLayout → List Surface
  | .texture t => specMips t.px t.w t.h 0 t.mips 0
  | .textureArray a => specArray a.px a.w a.h a.mips a.arrayLen
  | .volume v => specVolFlat v.px v.w v.h v.d 0 v.mips 0

def specTotal : DataLayout → Nat
  | .texture t => texIdeal t.px t.w t.h 0 t.mips
  | .textureArray a => a.arrayLen * texIdeal a.px a.w a.h 0 a.mips
  | .volume v => volIdeal v.px v.w v.h v.d 0 v.mips

/-- `mip size = max(1, dim >> level)` for every `u32` dimension and every level. -/
theorem mipSize_spec (d l : Nat) (hd : d < U32) : mipSize d l = max 1 (d / 2 ^ l) :=
  mipSize_eq_max d l hd

/-- `surface_bytes` is the formula `ceil(w/bw)*ceil(h/bh)*bytes` (or the planar sum)
exactly when that fits 64 bits, `None` otherwise. -/
theorem surfaceBytes_spec (p : PixelInfo) (hp : p.WF) (w h : Nat) :
    p.surfaceBytes w h = if p.surfIdeal w h < U64 then some (p.surfIdeal w h) else none :=
  surfaceBytes_eq p hp w h

/-- what a produced layout inherits from the header -/
def ShapeOf (L : DataLayout) (hd : LayoutHeader) : Prop :=
  L.mips = hd.mipmapCount ∧ hd.mipmapCount < 256 ∧
    (∀ v, L = .volume v → hd.depth = some v.d ∧ 0 < v.d) ∧
    (∀ a, L = .textureArray a → a.arrayLen < U32)

/-- Every layout the constructor returns satisfies the invariant from which everything
else follows (all checked lengths fit; the cached short length is consistent). -/
theorem layoutOf_valid (hd : LayoutHeader) (px : PixelInfo) (hp : px.WF) (hr : HeaderInRange hd)
    (L : DataLayout) (h : layoutOf hd px = some (.ok L)) :
    LayoutValid L ∧ L.px = px ∧ ShapeOf L hd := by
  rcases layoutOf_cases hd px with ⟨e, he⟩ | hvol | ⟨info, hpx, hmi, hml, ht | ⟨kind, n, hn, ha⟩⟩
  · rw [he] at h; cases h
  · rw [hvol] at h
    obtain ⟨v, hv, rfl⟩ := Except.map_eq_ok (Option.some.inj h)
    obtain ⟨vv, hpx', hm', hml', hdd, hdp⟩ := volumeFromHeader_ok hp hv
    refine ⟨vv, hpx', hm', hml', fun v' hv' => ?_, fun _ ha => ?_⟩
    · cases hv'; exact ⟨hdd, hdp⟩
    · cases ha
  · rw [ht] at h
    obtain ⟨t, hc, rfl⟩ := Except.map_eq_ok (Option.some.inj h)
    obtain ⟨v, _, _, h4, h5, h0⟩ := Texture.create_ok (hpx ▸ hp) hc
    refine ⟨⟨v, h0⟩, h5.trans hpx, h4.trans hmi, hml, fun _ hv => ?_, fun _ ha => ?_⟩
    · cases hv
    · cases ha
  · rw [ha] at h
    obtain ⟨a, hca, rfl⟩ := liftArr_eq_ok h
    have hn' : n < U32 := hn.elim id fun ⟨c, dim, hk⟩ => hr.arr c dim n hk
    obtain ⟨va, h4, h5⟩ := info.createArray_ok (hpx ▸ hp) hn' hca
    refine ⟨va, h5.trans hpx, h4.trans hmi, hml, fun _ hv => ?_, fun a' ha' => ?_⟩
    · cases hv
    · cases ha'; exact va.len

/-- For a valid layout the iterators of the source produce exactly the specification
list, the reported total is the ideal total and it fits 64 bits: no `unwrap` panics
and no unchecked `u64` operation wraps. -/
theorem flatten_eq_spec (L : DataLayout) (hv : LayoutValid L) :
    L.flattenP = some (specFlatten L) ∧ L.dataLenP = some (specTotal L) ∧ specTotal L < U64 := by
  cases L with
  | texture t =>
    obtain ⟨v, h0⟩ := hv
    refine ⟨?_, ?_, ?_⟩
    · show t.iterMipsP = _
      rw [v.iterMipsP, h0]; simp [specFlatten]
    · show t.dataLenP = _
      rw [v.dataLenP]; rfl
    · exact v.len_lt
  | textureArray a => exact ⟨hv.flattenP, hv.dataLenP, hv.fits⟩
  | volume v => exact ⟨hv.flattenP, hv.dataLenP, hv.fits⟩

/-- The surfaces start at offset 0, are contiguous (no gap, no overlap) and their
lengths add up to the reported total. -/
theorem spec_contiguous (L : DataLayout) : Contig 0 (specFlatten L) (specTotal L) := by
  cases L with
  | texture t =>
    have := specMips_contig t.px t.w t.h t.mips 0 0
    simpa [specFlatten, specTotal] using this
  | textureArray a => exact specArray_contig _ _ _ _ _
  | volume v =>
    have := specVolFlat_contig v.px v.w v.h v.d v.mips 0 0
    simpa [specFlatten, specTotal] using this

/-- C02, assembled: whenever a header yields a layout, iteration yields a list that
starts at 0, is contiguous, sums to the reported total, and the total is below 2^64. -/
theorem flatten_contiguous (hd : LayoutHeader) (px : PixelInfo) (hp : px.WF)
    (hr : HeaderInRange hd) (L : DataLayout) (h : layoutOf hd px = some (.ok L)) :
    ∃ l total, L.flattenP = some l ∧ L.dataLenP = some total ∧ total < U64 ∧ Contig 0 l total := by
  obtain ⟨hv, _, _⟩ := layoutOf_valid hd px hp hr L h
  obtain ⟨h1, h2, h3⟩ := flatten_eq_spec L hv
  exact ⟨_, _, h1, h2, h3, spec_contiguous L⟩

/-- Every mip surface of a texture has size `max(1, dim >> level)` and the formula length. -/
theorem texture_surface_spec (px : PixelInfo) (w h mips off j : Nat) (s : Surface)
    (hw : w < U32) (hh : h < U32) (hs : (specMips px w h 0 mips off)[j]? = some s) :
    j < mips ∧ s.w = max 1 (w / 2 ^ j) ∧ s.h = max 1 (h / 2 ^ j) ∧
      s.len = px.surfIdeal s.w s.h := by
  rw [specMips_getElem, Nat.zero_add] at hs
  split at hs
  · next hj =>
    cases hs
    exact ⟨hj, mipSize_eq_max w j hw, mipSize_eq_max h j hh, rfl⟩
  · cases hs

/-- Indexed access agrees with iteration (arrays). -/
theorem array_get_eq_iter (a : TextureArray) (i : Nat) : a.get i = a.iter[i]? := by
  unfold TextureArray.get TextureArray.iter
  by_cases hi : i < a.arrayLen
  · simp [hi]
  · simp [hi]

/-- Indexed access agrees with iteration (mip levels; `get` is `iter_mips().nth`). -/
theorem texture_get_eq_iter (t : Texture) (l : Nat) :
    t.getP l = t.iterMipsP.map (·[l]?) := rfl

/-- Indexed access agrees with iteration (depth slices). -/
theorem depth_slice_get_eq_iter (v : VolumeDesc) (k : Nat) :
    v.getDepthSlice k = v.iterDepthSlices[k]? := by
  unfold VolumeDesc.getDepthSlice VolumeDesc.iterDepthSlices
  by_cases hk : k < v.d
  · simp [hk]
  · simp [hk]

/-- Array element `i` starts at `i * len` and ends at `(i+1) * len`, computed without wrap. -/
theorem array_element_offsets (a : TextureArray) (v : a.Valid) (i : Nat) (hi : i < a.arrayLen) :
    ∃ t, a.get i = some t ∧
      t.dataOffsetP = some (i * texIdeal a.px a.w a.h 0 a.mips) ∧
      t.dataEndP = some ((i + 1) * texIdeal a.px a.w a.h 0 a.mips) ∧
      (i + 1) * texIdeal a.px a.w a.h 0 a.mips < U64 := by
  refine ⟨{ a.first with offsetIndex := i }, by simp [TextureArray.get, hi], ?_, ?_, ?_⟩
  · exact (v.elem hi).dataOffsetP
  · exact (v.elem hi).dataEndP
  · exact (v.elem hi).fits

/-- Headers whose total would not fit are rejected: a texture is created iff its ideal
length is below 2^64 (`DataLayoutTooBig` otherwise); same for volumes and arrays. -/
theorem texture_accept_iff_fits (w h mips : Nat) (px : PixelInfo) (hp : px.WF) :
    (∃ t, Texture.create w h mips px = .ok t) ↔ texIdeal px w h 0 mips < U64 := by
  rw [Texture.create_eq hp]
  by_cases hl : texIdeal px w h 0 mips < U64
  · simp [hl]
  · simp [hl]

theorem volume_accept_iff_fits (w h d mips : Nat) (px : PixelInfo) (hp : px.WF) :
    (∃ v, Volume.create w h d mips px = .ok v) ↔ volIdeal px w h d 0 mips < U64 := by
  rw [Volume.create_eq hp]
  by_cases hl : volIdeal px w h d 0 mips < U64
  · simp [hl]
  · simp [hl]

theorem array_accept_iff_fits (kind : ArrayKind) (n : Nat) (t : Texture) (v : t.Valid)
    (h0 : t.offsetIndex = 0) :
    (∃ a, TextureArray.new kind n t = some (.ok a)) ↔ t.len * n < U64 := by
  rw [TextureArray.new_eq v]
  by_cases hl : t.len * n < U64
  · simp [hl]
  · simp [hl]

/-- The driver's bounded iteration helper is the prefix of the real iteration. -/
theorem depthSlicesTake_eq (v : VolumeDesc) (n : Nat) :
    Drv.depthSlicesTake v n = v.iterDepthSlices.take n := by
  unfold Drv.depthSlicesTake VolumeDesc.iterDepthSlices
  rw [← List.map_take, List.take_range]
  rw [Nat.min_comm]

/-! ### non-vacuity: concrete headers that meet the hypotheses -/

def exHeader1 : LayoutHeader :=
  { width := 5, height := 3, depth := none, mipmapCount := 3, kind := HeaderKind.dx9 0 }
def exHeader2 : LayoutHeader :=
  { width := 4294967295, height := 4294967295, depth := none, mipmapCount := 1,
    kind := HeaderKind.dx10 false ResDim.tex2D 4294967295 }

/-- a 5x3 BC1 texture with 3 mips is accepted, with surfaces at 0, 16, 24 and total 32 -/
example : (layoutOf exHeader1 (.block 8 4 4)).bind (fun r => r.toOption.bind DataLayout.flattenP) =
    some [⟨5, 3, 0, 16⟩, ⟨2, 1, 16, 8⟩, ⟨1, 1, 24, 8⟩] := by decide

example : HeaderInRange exHeader1 ∧ (PixelInfo.block 8 4 4).WF := by
  refine ⟨⟨by decide, by decide, ?_, ?_⟩, by decide⟩
  · intro x hx; cases hx
  · intro c dim n hk; cases hk

/-- a layout that does not fit is rejected -/
example : (match layoutOf exHeader2 (.fixed 16) with
    | some (.error .dataLayoutTooBig) => true
    | _ => false) = true := by decide

end Dds.C02
