/-
C10 — The encoder writes a complete, re-readable DDS file of exactly the declared size.

* the writer loops of every encoder family (`EncLen.lean`) write exactly the layout length
  of the surface, for EVERY width, height, buffer size and chunk size;
* together with C11's invariant a finished encoder has written exactly the layout's data
  length, every surface at its layout offset, in layout order (`C11.finished_file_len`,
  `C11.history`);
* re-opening (`reopen`): the models of header writer/parser (C09), layout (C02), encoder (C11) and
  decoder (C08) composed: the bytes of a finished encoder parse back to the same header, hence the
  same layout, and a decoder that walks all surfaces stops exactly at the last byte written.
-/
import DdsModel.Proofs.EncLen
import DdsModel.Proofs.Layout
import DdsModel.Theorems.C11
import DdsModel.Theorems.C09
import DdsModel.Proofs.HeaderLayout
namespace Dds.C10
open Dds

/-- `for_each_chunk`, contiguous image: the chunk writes add up to `pixels * encoded bpp`,
whatever the buffer size. -/
theorem uncompressed_contig_len (totalPx bufPx encBpp : Nat) (hb : 1 ≤ bufPx) :
    (chunksContig totalPx bufPx encBpp).sum = totalPx * encBpp :=
  chunksContig_sum totalPx bufPx encBpp hb

/-- `for_each_chunk`, strided image (buffer filled row by row, flushed when full, final
flush): the writes add up to `w * h * encoded bpp`, whatever the buffer size. -/
theorem uncompressed_rows_len (w h bufPx encBpp : Nat) (hb : 1 ≤ bufPx) :
    (chunksRows w h bufPx encBpp).sum = w * h * encBpp :=
  chunksRows_sum w h bufPx encBpp hb

/-- the dithering encoder cuts every row separately; the lengths still add up to the surface -/
theorem dither_len (w h chunkPx encBpp : Nat) (hc : 1 ≤ chunkPx) :
    (chunksPerRow w h chunkPx encBpp).sum = w * h * encBpp :=
  chunksPerRow_sum w h chunkPx encBpp hc

/-- sub-sampled formats (`bw x 1` blocks): a row cut into chunks that are multiples of the
block width writes `ceil(w / bw)` blocks — partial chunks included. -/
theorem subsample_len (w h chunkPx bw blockBytes : Nat) (hbw : 1 ≤ bw) (hcp : 1 ≤ chunkPx)
    (hdvd : chunkPx % bw = 0) :
    (chunksSubsample w h chunkPx bw blockBytes).sum =
      (PixelInfo.block blockBytes bw 1).surfIdeal w h :=
  chunksSubsample_sum w h chunkPx bw blockBytes hbw hcp hdvd

/-- the chunk size the code uses, `512 / bw * bw`, is a positive multiple of the block width
for every block width up to 512 -/
theorem subsample_chunk_ok (bw : Nat) (h1 : 1 ≤ bw) (h2 : bw ≤ 512) :
    1 ≤ 512 / bw * bw ∧ (512 / bw * bw) % bw = 0 :=
  Dds.subsample_chunk_ok bw h1 h2

/-- block-compressed formats: one write of `ceil(w / bw)` blocks per group of `bh` rows,
`ceil(h / bh)` groups (the last one padded): exactly the layout length. -/
theorem block_len (w h bw bh blockBytes : Nat) (hbw : 1 ≤ bw) (hbh : 1 ≤ bh) :
    (writesBlock w h bw bh blockBytes).sum = (PixelInfo.block blockBytes bw bh).surfIdeal w h :=
  writesBlock_sum w h bw bh blockBytes hbw hbh

/-- bi-planar formats (sizes are multiples of 2x2): plane 1 per pair of rows, then plane 2. -/
theorem biplanar_len (w h p1 p2 : Nat) (hw : w % 2 = 0) (hh : h % 2 = 0) :
    (writesBiPlanar w h p1 p2).sum = (PixelInfo.biPlanar p1 p2 2 2).surfIdeal w h :=
  writesBiPlanar_sum w h p1 p2 hw hh

/-- C10, per surface: for every encoder family and every size the bytes written equal
the layout length `surface_bytes` of the surface (the value C02 proves the layout uses). -/
theorem encoded_len_eq_layout_len (px : PixelInfo) (w h : Nat) :
    (∀ bpp bufPx, px = .fixed bpp → 1 ≤ bufPx →
      (chunksContig (w * h) bufPx bpp).sum = px.surfIdeal w h ∧
      (chunksRows w h bufPx bpp).sum = px.surfIdeal w h ∧
      (chunksPerRow w h bufPx bpp).sum = px.surfIdeal w h) ∧
    (∀ bytes bw bh, px = .block bytes bw bh → 1 ≤ bw → 1 ≤ bh →
      (writesBlock w h bw bh bytes).sum = px.surfIdeal w h) ∧
    (∀ bytes bw, px = .block bytes bw 1 → 1 ≤ bw → bw ≤ 512 →
      (chunksSubsample w h (512 / bw * bw) bw bytes).sum = px.surfIdeal w h) ∧
    (∀ p1 p2, px = .biPlanar p1 p2 2 2 → w % 2 = 0 → h % 2 = 0 →
      (writesBiPlanar w h p1 p2).sum = px.surfIdeal w h) := by
  refine ⟨?_, ?_, ?_, ?_⟩
  · rintro bpp bufPx rfl hb
    exact ⟨uncompressed_contig_len _ _ _ hb, uncompressed_rows_len _ _ _ _ hb, dither_len _ _ _ _ hb⟩
  · rintro bytes bw bh rfl hbw hbh
    exact block_len _ _ _ _ _ hbw hbh
  · rintro bytes bw rfl h1 h2
    obtain ⟨c1, c2⟩ := subsample_chunk_ok bw h1 h2
    exact subsample_len _ _ _ _ _ h1 c1 c2
  · rintro p1 p2 rfl hw hh
    exact biplanar_len _ _ _ _ hw hh

/-- C10, whole file: after any history of calls, if `finish` succeeds the data bytes written
are exactly the layout's data length — the file is magic + header + data, complete. -/
theorem file_len (ops : List EncOp) (e : Enc) (v : C11.EncInv e)
    (hf : (C11.run e ops).1.finish = .ok) :
    (C11.run e ops).1.written = C08.total (C11.run e ops).1.iter :=
  C11.finished_file_len _ (C11.history ops e v).1 hf

/-- C10, re-opening, all models composed. For EVERY well-formed header `h` whose format is
detected (`pi h = some px`) and whose layout `L` is accepted, every history of encoder calls that ends
with a successful `finish`, any bytes `rest` that follow the header in the file, and every history of
decoder calls that ends at the end of the surface list:
* the encoder wrote exactly the layout's data length `specTotal L` (C02's ideal total), which is
  also what `Header::layout_len`-style arithmetic reports for the header (`layoutLen`);
* `Header::read` of the written words returns exactly `h` and leaves the data unread — strict, and
  permissive with the true file length `4 + header + data` — so the re-opened file has the same
  format (`pi h`) and the same layout (a function of `h` and `px`);
* the decoder's reader then stands exactly `written` bytes into the data section: the end of the last
  surface is the end of the file. -/
theorem reopen (pi : Header → Option PixelInfo) (h : Header) (hwf : h.WF) (px : PixelInfo)
    (hpx : pi h = some px) (hp : px.WF) (L : DataLayout)
    (hL : layoutOf h.toLayoutHeader px = some (.ok L)) (hsmall : C02.specTotal L ≤ I64MAX)
    (mw mh : Nat) (eops : List EncOp) (hf : (C11.run (Enc.new L mw mh) eops).1.finish = .ok)
    (rest : List Nat) (dops : List DecOp)
    (hend : C08.abs (C08.run (Dec.new L) dops).1.iter = C08.count (C08.run (Dec.new L) dops).1.iter) :
    (C11.run (Enc.new L mw mh) eops).1.written = C02.specTotal L ∧
    h.layoutLen px = some (C02.specTotal L) ∧
    Header.read pi ParseOptions.strict (h.write pi ++ rest) = .ok (h, rest) ∧
    Header.read pi (ParseOptions.newPermissive (some (4 + h.byteLen + C02.specTotal L)))
      (h.write pi ++ rest) = .ok (h, rest) ∧
    (C08.run (Dec.new L) dops).1.pos = ((C11.run (Enc.new L mw mh) eops).1.written : Int) := by
  have fr := C08.Fresh.ofHeader hwf hp hL
  have dinv := fr.dec hsmall
  have einv : C11.EncInv (Enc.new L mw mh) := C11.new_inv L mw mh fr.iter
  have hw : (C11.run (Enc.new L mw mh) eops).1.written = C02.specTotal L := by
    rw [file_len eops _ einv hf, C11.run_total eops _ einv]
    exact fr.total
  have hlen : h.layoutLen px = some (C02.specTotal L) := by
    unfold Header.layoutLen
    rw [hL]
    exact (C02.flatten_eq_spec L fr.valid).2.1
  obtain ⟨_, _, _, r1, _, r3⟩ := C09.header_roundtrip_words pi h hwf rest
  obtain ⟨dv, _⟩ := C08.history dops (Dec.new L) dinv
  have hpos := C08.end_position _ dv hend
  have hlay : (C08.run (Dec.new L) dops).1.layout = L := C08.run_layout dops (Dec.new L) dinv
  have htot : C08.total (C08.run (Dec.new L) dops).1.iter = C02.specTotal L := by
    rw [← dv.total_eq, hlay]; exact fr.total
  refine ⟨hw, hlen, r1, r3 px _ hpx hlen, ?_⟩
  rw [hpos, htot, hw]

/-! ### non-vacuity -/

/-- the hypotheses of `reopen` on a 16x16 BC1 cube map (DX10, 6 faces of 128 bytes): six
`write_surface` calls then `finish`; six `read_surface` calls reach the end -/
def reopenEx : Bool :=
  match layoutOf C09.exHeader.toLayoutHeader (.block 8 4 4) with
  | some (.ok L) =>
    let d := (C08.run (Dec.new L) (List.replicate 6 (.read 16 16))).1
    decide (C02.specTotal L = 768) &&
    decide ((C11.run (Enc.new L 1 1) (List.replicate 6 (.write 16 16))).1.finish = .ok) &&
    decide (C08.abs d.iter = C08.count d.iter) && decide (d.pos = 768)
  | _ => false

/-- the hypotheses of `reopen` are satisfiable -/
example : C09.exHeader.WF ∧ pixelInfoOf C09.exHeader = some (.block 8 4 4) ∧ reopenEx = true := by decide +kernel

example : (chunksRows 5 3 4 2) = [8, 8, 8, 6] ∧ (chunksRows 5 3 4 2).sum = 5 * 3 * 2 := by decide +kernel
example : (chunksSubsample 7 2 4 2 4) = [8, 8, 8, 8] := by decide +kernel
example : (writesBiPlanar 4 2 1 2).sum = 12 := by decide +kernel

end Dds.C10
