/-
C18 — Permissive parsing repairs known writer bugs and never harms a consistent file.

Helper lemmas are in `Proofs/Header.lean`, `Proofs/HeaderDefects.lean` and `Proofs/HeaderLayout.lean`.  `pi` is any pixel-info detection (`PixelInfo::from_header`); layout
lengths are those of `Layout.lean` (C02).
-/
import DdsModel.Proofs.Header
import DdsModel.Proofs.HeaderDefects
import DdsModel.Proofs.HeaderLayout
import DdsModel.HeaderTables
import DdsModel.Drv.C18
namespace Dds.C18
open Dds

/-- Without a file length permissive parsing changes nothing that strict parsing accepts:
for every raw header, strict `ok h` implies permissive `ok h`. -/
theorem strict_implies_permissive (pi : Header → Option PixelInfo) (raw : RawHeader) (h : Header)
    (hs : Header.fromRaw pi ParseOptions.strict raw = .ok h) :
    Header.fromRaw pi (ParseOptions.newPermissive none) raw = .ok h := by
  rw [Header.fromRaw_strict] at hs
  rw [Header.fromRaw_perm, Header.fromRawNoFix_strict_perm hs]
  rfl

/-- With a file length: if the strictly parsed header's layout length equals
`file_len - (magic + header bytes)`, permissive parsing returns the same header.
(If the pixel info of the header is unknown, permissive parsing leaves it alone as well.) -/
theorem consistent_untouched (pi : Header → Option PixelInfo) (raw : RawHeader) (h : Header)
    (fileLen : Nat) (hs : Header.fromRaw pi ParseOptions.strict raw = .ok h)
    (hcons : ∀ px, pi h = some px → h.layoutLen px = some (fileLen - (4 + h.byteLen))) :
    Header.fromRaw pi (ParseOptions.newPermissive (some fileLen)) raw = .ok h := by
  rw [Header.fromRaw_strict] at hs
  rw [Header.fromRaw_perm, Header.fromRawNoFix_strict_perm hs]
  show Except.ok _ = _
  rcases Header.fixBasedOnFileLen_cases pi (some fileLen) h with e | ⟨n, e, px, hn, hsub, hpx, heq⟩
  · rw [e]
  · cases hn
    rw [heq, Header.fixCore_of_test]
    rw [Header.testLen, hcons px hpx, (ckSub_eq_some_iff.mp hsub).2]
    exact beq_self_eq_true _

def exHeader : Header := .dx10 (Dx10Header.new .cubeMap 16 16 0 71)
example : Header.fromRaw pixelInfoOf ParseOptions.strict (exHeader.toRaw pixelInfoOf) = .ok exHeader ∧
    pixelInfoOf exHeader = some (.block 8 4 4) ∧
    exHeader.layoutLen (.block 8 4 4) = some (916 - (4 + exHeader.byteLen)) :=
  ⟨by rw [Header.fromRaw_strict]; exact Header.fromRawNoFix_toRaw _ _ _ (by decide), by decide, by decide⟩

/-- The file-length repair touches nothing but the mip count and the array size, and whenever
the permissive result differs from the pre-repair header in mip count or array size (other
than 0 -> 1), its layout length equals the file's data length `file_len - (magic + header)`. -/
theorem repair_exact (pi : Header → Option PixelInfo) (raw : RawHeader) (fileLen : Nat)
    (h0 h1 : Header) (hp0 : Header.fromRaw pi (ParseOptions.newPermissive none) raw = .ok h0)
    (hp1 : Header.fromRaw pi (ParseOptions.newPermissive (some fileLen)) raw = .ok h1) :
    h1.core = h0.core ∧
    ((h1.mipmapCount ≠ h0.mipmapCount ∨
        (h1.arraySize ≠ h0.arraySize ∧ ¬ (h0.arraySize = 0 ∧ h1.arraySize = 1))) →
      ∃ px, pi h0 = some px ∧ 4 + h1.byteLen ≤ fileLen ∧
        h1.layoutLen px = some (fileLen - (4 + h1.byteLen))) := by
  rw [Header.fromRaw_perm] at hp0 hp1
  cases hn : Header.fromRawNoFix true raw with
  | error e => rw [hn] at hp0; cases hp0
  | ok a =>
    rw [hn] at hp0 hp1
    cases hp0
    cases hp1
    have hcore := Header.fixBasedOnFileLen_core pi (some fileLen) a
    refine ⟨hcore, fun hchg => ?_⟩
    rw [Header.byteLen_of_core hcore]
    rcases Header.fixBasedOnFileLen_cases pi (some fileLen) a with e | ⟨n, e, px, hn, hsub, hpx, heq⟩
    · -- nothing was tried: no change
      rw [e] at hchg
      exact absurd hchg (by simp [Header.fixBasedOnFileLen_none])
    · cases hn
      obtain ⟨hle, rfl⟩ := ckSub_eq_some_iff.mp hsub
      rw [heq] at hchg ⊢
      cases hres : (a.fixCore (Header.testLen px (fileLen - (4 + a.byteLen))) (fileLen - (4 + a.byteLen))).2 with
      | true => exact ⟨px, hpx, hle, eq_of_beq ((Header.fixCore_snd _ _ _).1 hres)⟩
      | false =>
        -- no candidate matched: only array size 0 -> 1 can have happened
        exfalso
        rw [(Header.fixCore_snd _ _ _).2 hres, Header.fixBasedOnFileLen_none] at hchg
        cases hz : a.arrayZero? (fileLen - (4 + a.byteLen)) with
        | none => rw [hz] at hchg; simp at hchg
        | some a1 =>
          obtain ⟨x, rfl, hx0, _, rfl⟩ := Header.arrayZero?_some hz
          rw [hz] at hchg
          simp [Header.mipmapCount, Header.arraySize, hx0] at hchg

/-- **A successful repair is a fixed point**: when the file-length repair reports a header whose layout
matches the file (second component `true`), repairing that header again with the same file length
returns it unchanged — a repaired header is a consistent header, so re-reading a file whose header was
rewritten from the repaired value changes nothing (the length-independent part of `consistent_untouched`
applied to the repair's own output). `…_partial`: the unmatched case (second component `false`, the
header is returned as parsed apart from array size 0 → 1) is not covered by this statement. -/
theorem repair_idempotent_of_match_partial (pi : Header → Option PixelInfo) (hs : PiStable pi)
    (fileLen : Nat) (a : Header) (hm : (a.fixBasedOnFileLen pi (some fileLen)).2 = true) :
    (a.fixBasedOnFileLen pi (some fileLen)).1.fixBasedOnFileLen pi (some fileLen) =
      ((a.fixBasedOnFileLen pi (some fileLen)).1, true) := by
  have hcore := Header.fixBasedOnFileLen_core pi (some fileLen) a
  have hpi : pi (a.fixBasedOnFileLen pi (some fileLen)).1 = pi a :=
    hs _ _ (by rw [← Header.fmtKey_core, hcore, Header.fmtKey_core])
  rcases Header.fixBasedOnFileLen_cases pi (some fileLen) a with e | ⟨n, e, px, hn, hsub, hpx, heq⟩
  · rw [e] at hm; cases hm
  · cases hn
    rw [← Header.byteLen_of_core hcore] at hsub
    rw [Header.fixBasedOnFileLen_eq hsub (hpi ▸ hpx)]
    rw [heq] at hm ⊢
    exact Header.fixCore_of_test ((Header.fixCore_snd _ _ _).1 hm)

/-- non-vacuity: for a cube map written with array size 6 (defect) the repair reports a match -/
example : ((Header.dx10 { (Dx10Header.new .cubeMap 16 16 0 71) with arraySize := 6 }).fixBasedOnFileLen
      pixelInfoOf (some 916)).2 = true := by decide

/-- the pinned pixel-info detection looks at the format only -/
theorem pixelInfoOf_stable : PiStable pixelInfoOf := by
  intro a b hk
  cases a with
  | dx9 x =>
    cases b with
    | dx9 y =>
      simp only [Header.fmtKey, Prod.mk.injEq] at hk
      simp only [pixelInfoOf, hk.1]
    | dx10 y =>
      simp only [Header.fmtKey, Prod.mk.injEq] at hk
      -- a DX9 header with four CC DX10 and DXGI code 0: both have no pixel info
      simp only [pixelInfoOf, hk.1, ← hk.2]
      decide
  | dx10 x =>
    cases b with
    | dx9 y =>
      simp only [Header.fmtKey, Prod.mk.injEq] at hk
      simp only [pixelInfoOf, ← hk.1, hk.2]
      decide
    | dx10 y =>
      simp only [Header.fmtKey, Prod.mk.injEq] at hk
      simp only [pixelInfoOf, hk.2]

/-- Every single known defect (`Defect.Applies`: array size 0 / 6-for-one-cube / 3D array size,
mip count such that the true count is 1, the full chain or one off, dropped mip flags, header
size 24, pixel-format size 0 or 24, missing FourCC flag, bad alpha mode) applied to `to_raw h`
of a valid header `h` (well-formed, with a layout of positive length `L`, array size not 0) is
parsed — permissively, with the true file length — to a header whose layout length is `L`.
The result need not be `h` itself: an earlier candidate is accepted only when its length is
`L` as well (and the alpha mode of a bad-alpha file is `Unknown`). -/
theorem defect_recovered (pi : Header → Option PixelInfo) (hs : PiStable pi) (h : Header)
    (hwf : h.WF) (px : PixelInfo) (hpx : pi h = some px) (L : Nat) (hL : h.layoutLen px = some L)
    (hLpos : 0 < L) (harr : h.arraySize ≠ 0) (d : Defect) (happ : d.Applies h) :
    ∃ h', Header.fromRaw pi (ParseOptions.newPermissive (some (4 + h.byteLen + L)))
        (d.apply (h.toRaw pi)) = .ok h' ∧ h'.layoutLen px = some L ∧ pi h' = some px :=
  defect_recovered_single pi hs h hwf px hpx L hL hLpos harr d happ

/-- Array size 0 combined with a mip defect (wrong count or dropped flags). -/
theorem defect_recovered_array0_with_mips (pi : Header → Option PixelInfo) (hs : PiStable pi)
    (x : Dx10Header) (hwf : (Header.dx10 x).WF) (px : PixelInfo) (hpx : pi (.dx10 x) = some px) (L : Nat)
    (hL : (Header.dx10 x).layoutLen px = some L) (hLpos : 0 < L) (harr : x.arraySize = 1)
    (md : Defect) (hmd : (∃ m, md = .mipCount m) ∨ md = .dropMipFlags) (happ : md.Applies (.dx10 x)) :
    ∃ h', Header.fromRaw pi (ParseOptions.newPermissive (some (4 + (Header.dx10 x).byteLen + L)))
        (Defect.applyAll [.arraySize 0, md] ((Header.dx10 x).toRaw pi)) = .ok h' ∧
      h'.layoutLen px = some L ∧ pi h' = some px :=
  defect_recovered_array0_mips pi hs x hwf px hpx L hL hLpos harr md hmd happ

def exMip : Header := .dx10 { Dx10Header.new .image 16 16 0 71 with mipmapCount := 5 }
example : exMip.WF ∧ pixelInfoOf exMip = some (.block 8 4 4) ∧ exMip.layoutLen (.block 8 4 4) = some 184 ∧
    exMip.arraySize ≠ 0 ∧ (Defect.mipCount 4).Applies exMip ∧ (Defect.mipCount 1).Applies exMip ∧
    (Defect.arraySize 0).Applies exMip ∧ (Defect.miscFlags2 7).Applies exMip ∧
    Defect.dropMipFlags.Applies exMip ∧ (Defect.pfSize 0).Applies exMip := by decide
example : (Defect.arraySize 6).Applies exHeader ∧
    (Defect.pfFlags 0).Applies (.dx9 (Dx9Header.new .image 4 4 0 (.fourCC FOURCC_DXT1))) := by decide


/-- The model folds a panic inside the `test` closure of `fix_based_on_file_len` into "length
unknown"; this is sound because there is none: for every well-formed header (every parsed
header and every repair candidate is one, `C09.parsed_wf`) and well-formed pixel info,
`DataLayout::from_header_with` returns and `data_len()` of the layout is defined and `< 2^64`. -/
theorem repair_no_panic (h : Header) (hwf : h.WF) (px : PixelInfo) (hp : px.WF) :
    layoutOf h.toLayoutHeader px ≠ none ∧
    ∀ L, layoutOf h.toLayoutHeader px = some (.ok L) → ∃ n, L.dataLenP = some n ∧ n < U64 :=
  Header.layoutLen_no_panic hwf hp

/-- every pixel info of the format tables (rows translated from the source on every run) is
well-formed (block sizes 1..15 etc.) -/
theorem pinned_pixel_infos_wf :
    (∀ r ∈ dxgiRows, ∀ px, r.px = some px → px.WF) ∧
    (∀ f ∈ Format.all, ∀ px, f.pixelInfo = some px → px.WF) := by
  constructor <;> decide +kernel

end Dds.C18
