/-
C15 — Encoding is total: any pixel data, geometry and options give bytes or a documented error.

Proved here, about the model `EncTotal.lean` (tied to the code by the differential run):

* `size_rule`, `size_multiple_table`, `unsupported_refused` — which calls are refused, and that a
  refusal happens before the first `write_all`;
* `write_fault_general`, `write_fault_is_io_error`, `no_fault_ok` — a writer that fails at byte
  `k` gives an I/O error exactly when `k` is below the encoded length (for every family, size,
  writer loop and `k`), otherwise `Ok` with exactly the layout length;
* `quantiser_range_*`, `packing_cannot_overflow`, `packed_formats_fit` — every scalar quantiser
  of src/color/formats.rs stays within its bit field for EVERY input including NaN and the
  infinities, so no shift of the packing pushes a bit out or into a neighbouring field;
* `quantiser_range_shared_exp`, `shared_exp_zero_sign_irrelevant`, `shared_exp_channel_bounds`,
  `shared_exp_scaling_exact` —
  R9G9B9E5 (`rgb9995f::from_f32`) at the bit level, on binary32 bit patterns with a software
  binary32 (no assumption on the rounding): for EVERY triple of patterns no `debug_assert!`
  fails, the mantissas are at most 511, the exponent at most 31, the word is the 9+9+9+5 packing;
* `quantiser_range_unorm_bits`, `packed_formats_fit_bits` — the binary32 quantisers
  `n1, n2, n4, n5, n6, n10::from_f32`, `s8::from_uf32` and the packed formats built from them, again
  on bit patterns with the software binary32: the rounding hypotheses of `quantiser_range_unorm`,
  `quantiser_range_snorm` (8 bit) and `packed_formats_fit` are discharged for binary32;
* `quantiser_range_snorm16_bits`, `s16_from_uf32_exact`, `s16_encodes_nearest`,
  `snorm16_formats_fit_bits` — `s16::from_uf32`, the one quantiser that computes in **binary64**
  (`x.min(1.0) as f64 * 65534.0 + 0.5`), on binary32 bit patterns with the software binary64 of
  `ConvF64.lean`: no pattern makes `norm + 1` overflow; the binary64 evaluation is exact, so
  `norm = ⌊clamp(v)·65534 + 1/2⌋` and the stored code is `Quant.sencode 16` (C12's specification)
  of the value, within half a SNORM16 step of the clamped input; R16_SNORM, R16G16_SNORM and
  R16G16B16A16_SNORM encode every pixel to exactly the 16-bit field packing;
* `refine_loops_bounded` — the only data-dependent loop of the block encoders runs at most
  `max_iter` times, and `max_iter ≤ 10` at every quality;
* `empty_image_ok` — empty images give `Ok` and not a single byte, in every family, even with
  a writer that accepts nothing.

Further down, about the trapping mirrors of the encoder loops (`TrapEnc*.lean`), of the float →
integer sites of the BC1/BC4/BC7 block encoders (`EncBcSites.lean`) and of mipmap generation
(`TrapMip.lean`): the slicing and index arithmetic of the loops (`dither_loop_trapfree` among them)
and each of those sites do not panic.

NOT proved (explored by the harness under `catch_unwind` + watchdog in both build profiles):
panic-freedom of the float bodies of the block encoders between those sites, and of the pixel
readers.  The check is therefore `partial` with respect to the
property's "never panics" clause.
-/
import DdsModel.Theorems.C11
import DdsModel.Proofs.TrapMipWrite
import DdsModel.Proofs.EncTotal
import DdsModel.Proofs.EncQuant
import DdsModel.Proofs.SharedExp
import DdsModel.Proofs.SharedExpTie
import DdsModel.Proofs.QuantBits
import DdsModel.Proofs.QuantBits64
import DdsModel.Proofs.TrapEncSplit
import DdsModel.Proofs.FormatTables
import DdsModel.TrapEncSeeds
import DdsModel.Proofs.EncBcSitesQ
namespace Dds.C15
open Dds Dds.EncTotal

/-! ### which calls are refused -/

/-- **Size rule.** For every encodable format of the table, every writer loop, every size and
every writer: the call is refused with `InvalidSize` exactly when
`EncodingSupport::supports_size` refuses the (normalised) size; a refusal has written nothing
and its trace contains no write; and in every trace the check precedes all writes. -/
theorem size_rule (r : Row) (hr : r ∈ table) (he : r.encodable = true) (lp : Loop) (w h : Nat)
    (fault : Option Nat) :
    ((encode r lp w h fault).res = .invalidSize ↔
        r.supportsSize (normView w h).1 (normView w h).2 = false) ∧
    ((encode r lp w h fault).res = .invalidSize →
        (encode r lp w h fault).bytes = 0 ∧ noWrite (encode r lp w h fault).trace = true) ∧
    checkFirst (encode r lp w h fault).trace = true := by
  rcases encode_table r hr he lp w h fault with ⟨hs, e⟩ | ⟨hs, pre, hp, e⟩ <;> rw [e, hs]
  · exact ⟨⟨fun _ => rfl, fun _ => rfl⟩, fun _ => ⟨rfl, rfl⟩, rfl⟩
  · have hne : (runWrites fault (writes r.px lp (normView w h).1 (normView w h).2)).1 ≠
        .invalidSize := by
      rcases runWrites_res fault (writes r.px lp (normView w h).1 (normView w h).2) with h | h <;>
        rw [h] <;> decide
    refine ⟨⟨fun h => absurd h hne, fun h => nomatch h⟩, fun h => absurd h hne, ?_⟩
    rcases hp with rfl | rfl <;>
      exact checkFirst_of_no_check (performed fault _) (performed_no_check _ _)

/-- the formats with a size multiple are exactly NV12, P010, P016, all 2x2; 57 formats are
encodable, 16 are not (BC6H and ASTC) -/
theorem size_multiple_table :
    ((table.filter fun r => r.mulW ≠ 1 || r.mulH ≠ 1).map fun r => (r.name, r.mulW, r.mulH)) =
      [("NV12", 2, 2), ("P010", 2, 2), ("P016", 2, 2)] ∧
    table.length = 73 ∧ (table.filter (·.encodable)).length = 57 ∧
    ((table.filter fun r => !r.encodable).map (·.name)) =
      ["BC6H_UF16", "BC6H_SF16", "ASTC_4X4_UNORM", "ASTC_5X4_UNORM", "ASTC_5X5_UNORM",
       "ASTC_6X5_UNORM", "ASTC_6X6_UNORM", "ASTC_8X5_UNORM", "ASTC_8X6_UNORM", "ASTC_8X8_UNORM",
       "ASTC_10X5_UNORM", "ASTC_10X6_UNORM", "ASTC_10X8_UNORM", "ASTC_10X10_UNORM",
       "ASTC_12X10_UNORM", "ASTC_12X12_UNORM"] := by
  decide +kernel

/-- a format without encoders is refused before anything happens, whatever the arguments -/
theorem unsupported_refused (r : Row) (he : r.encodable = false) (lp : Loop) (w h : Nat)
    (fault : Option Nat) : encode r lp w h fault = ⟨.unsupportedFormat, 0, []⟩ := by
  unfold encode
  simp [he]

/-! ### a writer failing at byte `k` -/

/-- **`write_all` semantics, all size lists.** A sequence of `write_all` calls of sizes `l`
against a writer that accepts `k` bytes: I/O error iff `k < Σ l`; the writer has accepted
`min k (Σ l)` bytes; `Ok` iff `Σ l ≤ k`. -/
theorem write_fault_general (l : List Nat) (k : Nat) :
    ((runWrites (some k) l).1 = .ioError ↔ k < l.sum) ∧
    ((runWrites (some k) l).1 = .ok ↔ l.sum ≤ k) ∧
    (runWrites (some k) l).2 = min k l.sum := by
  by_cases h : l.sum ≤ k
  · rw [runWrites_ok l k h]
    refine ⟨⟨fun e => (by cases e), fun e => (by omega)⟩, ⟨fun _ => h, fun _ => rfl⟩, ?_⟩
    show l.sum = min k l.sum
    omega
  · rw [runWrites_fail l k (by omega)]
    refine ⟨⟨fun _ => (by omega), fun _ => rfl⟩, ⟨fun e => (by cases e), fun e => absurd e h⟩, ?_⟩
    show k = min k l.sum
    omega

/-- **Writer fault, instantiated with the writer loops of every family.** For every encodable
format, every writer loop, every supported size and every `k`: below the encoded length the
result is the I/O error and the writer holds exactly the `k`-byte prefix; from the encoded
length on the result is `Ok` with exactly the layout length `surface_bytes`. -/
theorem write_fault_is_io_error (r : Row) (hr : r ∈ table) (he : r.encodable = true) (lp : Loop)
    (hl : lp.ok = true) (w h k : Nat)
    (hs : r.supportsSize (normView w h).1 (normView w h).2 = true) :
    (k < r.px.surfIdeal (normView w h).1 (normView w h).2 →
      (encode r lp w h (some k)).res = .ioError ∧ (encode r lp w h (some k)).bytes = k) ∧
    (r.px.surfIdeal (normView w h).1 (normView w h).2 ≤ k →
      (encode r lp w h (some k)).res = .ok ∧
      (encode r lp w h (some k)).bytes = r.px.surfIdeal (normView w h).1 (normView w h).2) := by
  obtain ⟨e1, e2⟩ := encode_eq_runWrites r hr he lp w h (some k) hs
  have hsum := writes_sum r (good_of_mem hr) lp hl _ _ hs
  rw [e1, e2]
  constructor
  · intro hk
    rw [runWrites_fail _ k (by rw [hsum]; exact hk)]
    exact ⟨rfl, rfl⟩
  · intro hk
    rw [runWrites_ok _ k (by rw [hsum]; exact hk), hsum]
    exact ⟨rfl, rfl⟩

/-- without a fault every supported call is `Ok` with exactly the layout length -/
theorem no_fault_ok (r : Row) (hr : r ∈ table) (he : r.encodable = true) (lp : Loop)
    (hl : lp.ok = true) (w h : Nat)
    (hs : r.supportsSize (normView w h).1 (normView w h).2 = true) :
    (encode r lp w h none).res = .ok ∧
    (encode r lp w h none).bytes = r.px.surfIdeal (normView w h).1 (normView w h).2 := by
  obtain ⟨e1, e2⟩ := encode_eq_runWrites r hr he lp w h none hs
  rw [e1, e2, runWrites_none, writes_sum r (good_of_mem hr) lp hl _ _ hs]
  exact ⟨rfl, rfl⟩

/-! ### empty images -/

/-- **Empty images.** `w = 0` or `h = 0`: every encodable format (the repaired bi-planar path
included) returns `Ok` and the writer receives no byte — every `write_all` of the trace is
empty — even if the writer accepts nothing at all (`fault = some 0`). -/
theorem empty_image_ok (r : Row) (hr : r ∈ table) (he : r.encodable = true) (lp : Loop)
    (hl : lp.ok = true) (w h : Nat) (hwh : w = 0 ∨ h = 0) (fault : Option Nat) :
    (encode r lp w h fault).res = .ok ∧ (encode r lp w h fault).bytes = 0 ∧
    (∀ s ∈ writes r.px lp 0 0, s = 0) := by
  have hn : normView w h = (0, 0) := by unfold normView; rw [if_pos hwh]
  have hs : r.supportsSize (normView w h).1 (normView w h).2 = true := by
    rw [hn]; unfold Row.supportsSize; simp
  have hs0 : r.supportsSize 0 0 = true := by unfold Row.supportsSize; simp
  have hi : r.px.surfIdeal 0 0 = 0 := by
    have hg := good_of_mem hr
    unfold Row.good at hg
    cases hpx : r.px with
    | fixed bpp => simp [PixelInfo.surfIdeal]
    | block bytes bw bh =>
      rw [hpx] at hg
      simp only [Bool.and_eq_true, decide_eq_true_eq] at hg
      have : (bw - 1) / bw = 0 := Nat.div_eq_of_lt (by omega)
      simp [PixelInfo.surfIdeal, this]
    | biPlanar p1 p2 sx sy =>
      rw [hpx] at hg
      simp only [Bool.and_eq_true, decide_eq_true_eq] at hg
      obtain ⟨⟨⟨hx, hy⟩, _⟩, _⟩ := hg
      subst hx; subst hy
      simp [PixelInfo.surfIdeal]
  have hsum := writes_sum r (good_of_mem hr) lp hl 0 0 hs0
  rw [hi] at hsum
  have hrun : runWrites fault (writes r.px lp 0 0) = (.ok, 0) := by
    cases fault with
    | none => rw [runWrites_none, hsum]
    | some k => rw [runWrites_ok _ k (by omega), hsum]
  obtain ⟨e1, e2⟩ := encode_eq_runWrites r hr he lp w h fault hs
  rw [hn, hrun] at e1 e2
  exact ⟨e1, e2, sum_zero_all_zero _ hsum⟩

/-! ### quantisers: every input, NaN and the infinities included -/

/-- **UNORM with `min(1.0)`** (`n2, n4, n5, n6, n10::from_f32`, `MAX = 2^n − 1`, also the SNORM
`norm`): `(x.min(1.0) * MAX + 0.5) as uN ≤ MAX` for every extended-real input and every rounding
that is monotone and represents `MAX` and `MAX + 0.5` (binary32 does for `MAX ≤ 2^23`).
`n1::from_f32` gives 0 or 1. -/
theorem quantiser_range_unorm (R : Rounding) (x : ExtReal) :
    qN1 x ≤ 1 ∧
    ∀ max ty : Nat, R.fixes max → R.fixes (max + 1/2) → qUnormMin R max ty x ≤ max :=
  ⟨qN1_le x, fun max ty h1 h2 => qUnormMin_le R max ty x h1 h2⟩

/-- **UNORM without a clamp** (`n8, n16::from_f32`, `fp::n8`, `fp::n16`): the saturating cast alone
keeps `(x * MAX + 0.5) as uN` within `N` bits, for every input and every rounding. -/
theorem quantiser_range_unorm_sat (R : Rounding) (max ty : Nat) (x : ExtReal) :
    qUnormSat R max ty x < 2 ^ ty := qUnormSat_lt R max ty x

/-- **SNORM** (`s8::from_uf32`, `s16::from_uf32`): `norm ≤ 2^n − 2`, hence `norm + 1` does not
overflow the integer type (no panic in the checked profile) and the result fits `n` bits. -/
theorem quantiser_range_snorm (R : Rounding) (bits : Nat) (hb : 2 ≤ bits) (x : ExtReal)
    (h1 : R.fixes ((2 ^ bits - 2 : Nat) : Rat)) (h2 : R.fixes (((2 ^ bits - 2 : Nat) : Rat) + 1/2)) :
    ∃ v, qSnorm R bits x = some v ∧ v < 2 ^ bits := qSnorm_some R bits hb x h1 h2

/-- **XR bias and YUV**: `xr10` and the 10-bit YUV components are at most 1023, the 8/16-bit
YUV components fit their types — for every input, also when the matrix row evaluates to
NaN (`∞ − ∞`). -/
theorem quantiser_range_xr_yuv (R : Rounding) (row : YuvRow) (x r g b : ExtReal) :
    qXr10 R x ≤ 1023 ∧ qYuv8 R row r g b < 256 ∧ qYuv10 R row r g b ≤ 1023 ∧
    qYuv16 R row r g b < 65536 :=
  ⟨qXr10_le R x, qYuv8_lt R row r g b, qYuv10_le R row r g b, qYuv16_lt R row r g b⟩

/-- **11/10-bit floats** (`f32_to_unsigned_fp_e5`): whatever half-precision pattern the
conversion produced, `(exp << n) | mant` fits `n + 5` bits. -/
theorem quantiser_range_small_float (f16 : Nat) :
    fpE5 6 f16 < 2 ^ 11 ∧ fpE5 5 f16 < 2 ^ 10 :=
  ⟨fpE5_lt 6 (by omega) f16, fpE5_lt 5 (by omega) f16⟩

/-- **R9G9B9E5, every input** (`rgb9995f::from_f32` with `util::clamp_0_max`, `util::two_powi`;
model `SharedExp.fields` / `SharedExp.fromF32` on binary32 bit patterns, every `f32` operator one
correctly rounded operation of `ConvF32.lean`).  For every triple of bit patterns — NaN of any
payload, the infinities, negative values, both zeros, subnormals, huge values; `r g b` are not
even required to be below `2^32` — and every choice `tie` of the zero that `f32::max` returns on a
`-0.0`/`+0.0` tie at each of its five call sites:
* the model answers `some`: neither `debug_assert!(exp <= 31)`, nor the three
  `debug_assert!(x_mant <= 511)`, nor the assertion inside `two_powi`, nor an `i8` overflow in
  `-(exp as i8 - 24)` can fire (so the checked and the release profile compute the same word);
* `r_mant, g_mant, b_mant ≤ 511` and `exp ≤ 31`;
* the returned `u32` is exactly the field packing `pack` of 9 + 9 + 9 + 5 bits: no `<<` drops or
  overlaps a bit. -/
theorem quantiser_range_shared_exp (tie : Nat → Bool) (r g b : Nat) :
    ∃ rm gm bm e, SharedExp.fields tie r g b = some (rm, gm, bm, e) ∧
      rm ≤ 511 ∧ gm ≤ 511 ∧ bm ≤ 511 ∧ e ≤ 31 ∧
      SharedExp.fromF32 tie r g b = some (pack [(rm, 9), (gm, 9), (bm, 9), (e, 5)]) ∧
      pack [(rm, 9), (gm, 9), (bm, 9), (e, 5)] < 2 ^ 32 :=
  SharedExp.fromF32_range tie r g b

/-- **R9G9B9E5: the sign of zero never reaches the result.**  Rust documents that `f32::max`
may return either operand when `-0.0` meets `+0.0`; the model leaves that choice open at each of
the five `max` calls (`tie`).  Whatever is chosen, the fields and the encoded word are the same —
so the one choice the differential driver runs speaks for all. -/
theorem shared_exp_zero_sign_irrelevant (tie tie' : Nat → Bool) (r g b : Nat) :
    SharedExp.fields tie r g b = SharedExp.fields tie' r g b ∧
    SharedExp.fromF32 tie r g b = SharedExp.fromF32 tie' r g b :=
  ⟨SharedExp.fields_tie_irrelevant tie tie' r g b, SharedExp.fromF32_tie_irrelevant tie tie' r g b⟩

/-- **R9G9B9E5, the mechanism, per channel.**  `c` is a clamped non-zero channel (a pattern in
`[1, 0x477F8000]`, i.e. a positive value up to 65408.0, subnormals included) whose exponent field
is at most `exp + 111` — true of every channel when `exp = max(raw_exp − 111, 0)` is computed from
the exponent field `raw_exp` of the largest channel.  Then
* first pass: `(c * 2^(24−exp) + 0.5) as u32 ≤ 512` (the scaled value is below 512, the product is
  rounded to at most 512.0, the sum to at most 512.5);
* second pass, after `exp += 1`: at most 256 — a 512 never survives;
* `exp = 31`: at most 511 already in the first pass (65408 · 2^-7 = 511, the sum is at most 511.5),
  so the second pass is not entered there and `exp` never becomes 32.
A zero channel (either sign) has mantissa 0 at every scale. -/
theorem shared_exp_channel_bounds (c exp : Nat) (hc1 : 1 ≤ c) (hc2 : c ≤ SharedExp.c65408)
    (he : exp ≤ 31) (hX : CF32.expField c ≤ exp + 111) :
    SharedExp.mantOf c (CF32.twoPowi (24 - exp)) ≤ 512 ∧
    SharedExp.mantOf c (CF32.twoPowi (24 - ((exp + 1 : Nat) : Int))) ≤ 256 ∧
    (exp = 31 → SharedExp.mantOf c (CF32.twoPowi (24 - exp)) ≤ 511) ∧
    (∀ n : Int, -126 ≤ n → n ≤ 127 → SharedExp.mantOf 0 (CF32.twoPowi n) = 0 ∧
      SharedExp.mantOf CF32.signBit (CF32.twoPowi n) = 0) := by
  refine ⟨SharedExp.mantOf_le_first c exp hc1 hc2 he hX,
    SharedExp.mantOf_le_second c (exp + 1) hc1 hc2 (by omega) (by omega), ?_, ?_⟩
  · intro h31
    subst h31
    exact SharedExp.mantOf_le_top c hc2
  · intro n h1 h2
    exact ⟨SharedExp.mantOf_zero 0 n (Or.inl rfl) h1 h2,
      SharedExp.mantOf_zero CF32.signBit n (Or.inr rfl) h1 h2⟩

/-- **What is used of binary32 multiplication: scaling by a power of two.**  `c * two_powi(n)`
for a positive finite `c` is ONE rounding of the exact product (`roundPack`, round to nearest
even with gradual underflow); when `c` is normal and the result is in the normal range it is
EXACT — the exponent field moves by `n`, the fraction bits are untouched — and in every case
(subnormal `c`, underflow of the result) it is at most the pattern of the power of two
`2^(K+1)` above the exact product.  Nothing is assumed: these are theorems about the software
binary32 that the differential run ties to the hardware. -/
theorem shared_exp_scaling_exact (c : Nat) (n : Int) (hc : c < CF32.posInf) (h1 : -126 ≤ n)
    (h2 : n ≤ 127) :
    CF32.fmul c (CF32.twoPowi n) =
      CF32.roundPack false (CF32.mant c * 2 ^ 23) (CF32.expo c + (n - 23)) ∧
    (1 ≤ CF32.expField c → 1 ≤ (CF32.expField c : Int) + n → (CF32.expField c : Int) + n ≤ 254 →
      CF32.fmul c (CF32.twoPowi n) =
        ((CF32.expField c : Int) + n).toNat * 2 ^ 23 + CF32.fracField c) ∧
    (∀ K : Int, CF32.mant c ≠ 0 → (CF32.expField c : Int) + n - 127 ≤ K → -127 ≤ K →
      CF32.fmul c (CF32.twoPowi n) ≤ (K + 128).toNat * 2 ^ 23) :=
  ⟨SharedExp.fmul_twoPowi c n hc h1 h2,
   fun hX hr1 hr2 => SharedExp.fmul_twoPowi_exact c n hc h1 h2 hX hr1 hr2,
   fun K hc0 hK hK2 => SharedExp.fmul_twoPowi_le c n K hc hc0 h1 h2 hK hK2⟩

/-- **R9G9B9E5 for any monotone rounding** (the abstract form: it does not
depend on binary32, so it also covers an evaluation in higher precision).  A channel whose scaled
value `c · 2^(24−exp)` is at most 512 gets a mantissa of at most 512, at most 256 gives at most
256, and with `exp = 31` the clamp to 65408 gives at most 511.  That the exponent read from the
bits of the largest channel makes every scaled value `< 512` is the bit-level step proved in
`quantiser_range_shared_exp` / `shared_exp_channel_bounds`. -/
theorem quantiser_range_shared_exp_any_rounding (R : Rounding) (exp : Nat) (c : Rat)
    (h512 : R.fixes (512 + 1/2)) (h256 : R.fixes (256 + 1/2)) (h511 : R.fixes (511 + 1/2)) :
    (c * (2 : Rat) ^ ((24 : Int) - exp) ≤ 512 → mant9995 R exp c ≤ 512) ∧
    (c * (2 : Rat) ^ ((24 : Int) - exp) ≤ 256 → mant9995 R exp c ≤ 256) ∧
    (exp = 31 → c ≤ 65408 → mant9995 R exp c ≤ 511) := by
  refine ⟨fun h => mant9995_le R exp c 512 512 h (by grind) h512,
          fun h => mant9995_le R exp c 256 256 h (by grind) h256, ?_⟩
  intro he hc
  subst he
  have e : (2 : Rat) ^ ((24 : Int) - (31 : Nat)) = 1 / 128 := by decide +kernel
  refine mant9995_le R 31 c 511 511 ?_ (by grind) h511
  rw [e]
  grind

/-- **The binary32 UNORM / SNORM8 quantisers, every bit pattern, no rounding hypothesis.**
`n1::from_f32` (`x >= 0.5`), `n2, n4, n5, n6, n10::from_f32` (`(x.min(1.0) * MAX + 0.5) as u8|u16`
with the literals 3.0, 15.0, 31.0, 63.0, 1023.0) and `s8::from_uf32` (254.0, then `from_norm`) on
binary32 bit patterns, every operator one correctly rounded operation of `ConvF32.lean`: for
EVERY pattern `x` (NaN of any payload and sign, ±∞, both zeros, negative, subnormal, huge) the
result is at most `MAX`; in `s8::from_norm` the `debug_assert!(x <= 254)` holds and `x + 1` does
not overflow `u8`.  This is `quantiser_range_unorm` / `quantiser_range_snorm` (8 bit) with the
hypotheses `R.fixes MAX`, `R.fixes (MAX + ½)` discharged for binary32.  (`s16::from_uf32`
computes in `f64`: `quantiser_range_snorm16_bits` below.) -/
theorem quantiser_range_unorm_bits (x : Nat) (hx : x < 2 ^ 32) :
    QuantBits.n1 x ≤ 1 ∧ QuantBits.n2 x ≤ 3 ∧ QuantBits.n4 x ≤ 15 ∧ QuantBits.n5 x ≤ 31 ∧
    QuantBits.n6 x ≤ 63 ∧ QuantBits.n10 x ≤ 1023 ∧ ∃ v, QuantBits.s8 x = some v ∧ v < 2 ^ 8 :=
  ⟨QuantBits.n1_le x, QuantBits.n2_le x hx, QuantBits.n4_le x hx, QuantBits.n5_le x hx,
   QuantBits.n6_le x hx, QuantBits.n10_le x hx, QuantBits.s8_some x hx⟩

/-- **The packed formats made of these quantisers, every RGBA `f32` pixel** (the `universal!`
closures of src/encode/uncompressed.rs with their `u16` / `u32` shifts, which silently drop bits
shifted past the type): B5G6R5, B5G5R5A1, B4G4R4A4, A4B4G4R4, R10G10B10A2 and R8G8B8A8_SNORM
encode every pixel to exactly the field packing `pack` — no shift drops a bit, no field reaches
into its neighbour — and the word fits 16 / 32 bits; for R8G8B8A8_SNORM no channel panics.
`packed_formats_fit` for these formats without any hypothesis on the rounding. -/
theorem packed_formats_fit_bits (r g b a : Nat) (hr : r < 2 ^ 32) (hg : g < 2 ^ 32)
    (hb : b < 2 ^ 32) (ha : a < 2 ^ 32) :
    (QuantBits.encode "B5G6R5_UNORM" r g b a =
        some (pack [(QuantBits.n5 b, 5), (QuantBits.n6 g, 6), (QuantBits.n5 r, 5)]) ∧
      pack [(QuantBits.n5 b, 5), (QuantBits.n6 g, 6), (QuantBits.n5 r, 5)] < 2 ^ 16) ∧
    (QuantBits.encode "B5G5R5A1_UNORM" r g b a =
        some (pack [(QuantBits.n5 b, 5), (QuantBits.n5 g, 5), (QuantBits.n5 r, 5), (QuantBits.n1 a, 1)]) ∧
      pack [(QuantBits.n5 b, 5), (QuantBits.n5 g, 5), (QuantBits.n5 r, 5), (QuantBits.n1 a, 1)] < 2 ^ 16) ∧
    (QuantBits.encode "B4G4R4A4_UNORM" r g b a =
        some (pack [(QuantBits.n4 b, 4), (QuantBits.n4 g, 4), (QuantBits.n4 r, 4), (QuantBits.n4 a, 4)]) ∧
      pack [(QuantBits.n4 b, 4), (QuantBits.n4 g, 4), (QuantBits.n4 r, 4), (QuantBits.n4 a, 4)] < 2 ^ 16 ∧
      QuantBits.encode "A4B4G4R4_UNORM" r g b a =
        some (pack [(QuantBits.n4 a, 4), (QuantBits.n4 b, 4), (QuantBits.n4 g, 4), (QuantBits.n4 r, 4)]) ∧
      pack [(QuantBits.n4 a, 4), (QuantBits.n4 b, 4), (QuantBits.n4 g, 4), (QuantBits.n4 r, 4)] < 2 ^ 16) ∧
    (QuantBits.encode "R10G10B10A2_UNORM" r g b a =
        some (pack [(QuantBits.n10 r, 10), (QuantBits.n10 g, 10), (QuantBits.n10 b, 10), (QuantBits.n2 a, 2)]) ∧
      pack [(QuantBits.n10 r, 10), (QuantBits.n10 g, 10), (QuantBits.n10 b, 10), (QuantBits.n2 a, 2)] < 2 ^ 32) ∧
    (∃ r' g' b' a', QuantBits.s8 r = some r' ∧ QuantBits.s8 g = some g' ∧ QuantBits.s8 b = some b' ∧
      QuantBits.s8 a = some a' ∧
      QuantBits.encode "R8G8B8A8_SNORM" r g b a = some (pack [(r', 8), (g', 8), (b', 8), (a', 8)]) ∧
      pack [(r', 8), (g', 8), (b', 8), (a', 8)] < 2 ^ 32) :=
  ⟨QuantBits.encode_b5g6r5 r g b a hr hg hb, QuantBits.encode_b5g5r5a1 r g b a hr hg hb,
   QuantBits.encode_b4g4r4a4 r g b a hr hg hb ha, QuantBits.encode_r10g10b10a2 r g b a hr hg hb ha,
   QuantBits.encode_rgba8_snorm r g b a hr hg hb ha⟩

/-- **`s16::from_uf32`, every bit pattern, no rounding hypothesis.**
`let x = x.min(1.0) as f64; let norm = (x * 65534.0 + 0.5) as u16; (norm + 1).wrapping_sub(32768)`
on binary32 bit patterns: `f32::min` of `ConvF32.lean`, then the exact widening, one correctly
rounded binary64 multiplication, one correctly rounded binary64 addition and the saturating cast
of `ConvF64.lean`.  For EVERY pattern `x` (NaN of any payload and sign, ±∞, both zeros, negative,
subnormal, huge) `norm + 1` does not overflow `u16` (`some`: no panic in the checked profile)
and the result fits 16 bits.  This is `quantiser_range_snorm` at 16 bits with the hypotheses
`R.fixes 65534`, `R.fixes (65534 + ½)` discharged for binary64. -/
theorem quantiser_range_snorm16_bits (x : Nat) (hx : x < 2 ^ 32) :
    ∃ v, QuantBits.s16 x = some v ∧ v < 2 ^ 16 :=
  QuantBits.s16_some x hx

example : QuantBits.s16 0x7FC00000 = some 32767 ∧ QuantBits.s16 0xFF800000 = some 32769 ∧
    QuantBits.s16 0x3F000000 = some 0 := by decide +kernel

/-- **The binary64 evaluation of `s16::from_uf32` is exact.**  `norm` (before `from_norm`) for
every binary32 pattern, by class:
* NaN (any payload, either sign) gives 65534 — `f32::min` returns the other operand, 1.0;
* every pattern from 1.0 up to and including `+∞` gives 65534;
* every negative pattern, `-0.0` and `-∞` included, gives 0;
* for `0 ≤ x ≤ 1`, with `x = m·2^-k` (`m = mant x`, `k = -expo x`): `norm = ⌊(m·65534 + 2^(k-1)) /
  2^k⌋ = ⌊v·65534 + 1/2⌋` in exact integer resp. rational arithmetic.  The widening is exact, the
  product of a 24-bit and a 16-bit significand has at most 40 bits, the sum with 0.5 has at most
  53 bits when `k ≤ 53`; for `k > 53` (`x < 2^-30`, product below `2^-14`) the sum IS rounded,
  stays below 0.75, and the cast gives 0 = the floor of the exact sum;
* in every case `norm = Quant.sq 16 (uvalue x)`, C12's real-number quantiser
  `⌊clamp01(v)·65534 + 1/2⌋` of the value (`uvalue`: NaN ↦ 1, `+∞ ↦ 2`, `-∞ ↦ -1`, finite ↦ value). -/
theorem s16_from_uf32_exact (x : Nat) (hx : x < 2 ^ 32) :
    (CF32.isNaN x = true → QuantBits.s16Norm x = 65534) ∧
    (CF32.one ≤ x → x ≤ CF32.posInf → QuantBits.s16Norm x = 65534) ∧
    (CF32.signBit ≤ x → x ≤ CF32.negInf → QuantBits.s16Norm x = 0) ∧
    (x ≤ CF32.one →
      QuantBits.s16Norm x =
        (CF32.mant x * 65534 + 2 ^ ((-CF32.expo x).toNat - 1)) / 2 ^ (-CF32.expo x).toNat ∧
      QuantBits.s16Norm x = Quant.roundHalfUp (CF32.toRat x * 65534)) ∧
    QuantBits.s16Norm x = Quant.sq 16 (QuantBits.uvalue x) :=
  ⟨fun h => QuantBits.s16Norm_of_fmin_one x (QuantBits.fmin_of_nan x h),
   fun h1 h2 => QuantBits.s16Norm_of_fmin_one x (QuantBits.fmin_of_ge_one x h1 h2),
   fun h1 h2 => QuantBits.s16Norm_negR x ⟨h1, h2⟩,
   fun h => ⟨QuantBits.s16Norm_le_one x h, QuantBits.s16Norm_le_one_rat x h⟩,
   QuantBits.s16Norm_eq_sq x hx⟩

/-- the classes are inhabited and cover the rounding boundary: `0.5/65534` rounded to `f32`
(`0x37000100`) is below the exact tie and gives 0, its successor gives 1; the smallest subnormal
(`k = 149`: the sum with 0.5 is rounded in binary64) gives 0 -/
example : QuantBits.s16Norm 0x7FA55AA5 = 65534 ∧ QuantBits.s16Norm 0x7F7FFFFF = 65534 ∧
    QuantBits.s16Norm 0x80000000 = 0 ∧ QuantBits.s16Norm 0x37000101 = 1 ∧
    QuantBits.s16Norm 0x37000100 = 0 ∧ QuantBits.s16Norm 1 = 0 ∧
    QuantBits.s16Norm 0x3F7FFFFF = 65534 ∧ QuantBits.s16Norm 0x3F7FFF00 = 65533 := by
  decide +kernel

/-- **Connection to C12** (`Quant.sencode`, `C12.snorm_half_step`): the SNORM16 code the code
stores for ANY binary32 input is the specified one, `Quant.sencode 16` of its value — so for the
`f32` evaluation that C12 leaves to the exhaustive tie, SNORM16 needs no tie: decoding the stored
code (`Quant.sdeq 16`) lands within half a SNORM16 step, `1/(2·65534)`, of the clamped input. -/
theorem s16_encodes_nearest (x : Nat) (hx : x < 2 ^ 32) :
    QuantBits.s16 x = some (Quant.sencode 16 (QuantBits.uvalue x)) ∧
    ∃ v, QuantBits.s16 x = some v ∧ v < 2 ^ 16 ∧
      Quant.sdeq 16 v - Quant.clamp01 (QuantBits.uvalue x) ≤ 1 / (2 * 65534) ∧
      -(1 / (2 * 65534)) ≤ Quant.sdeq 16 v - Quant.clamp01 (QuantBits.uvalue x) :=
  ⟨QuantBits.s16_eq_sencode x hx, QuantBits.s16_half_step x hx⟩

/-- **R16_SNORM, R16G16_SNORM, R16G16B16A16_SNORM, every RGBA `f32` pixel**: no channel panics,
the encoded pixel is exactly the packing of the 16-bit codes and fits 16 / 32 / 64 bits. -/
theorem snorm16_formats_fit_bits (r g b a : Nat) (hr : r < 2 ^ 32) (hg : g < 2 ^ 32)
    (hb : b < 2 ^ 32) (ha : a < 2 ^ 32) :
    ∃ r' g' b' a', QuantBits.s16 r = some r' ∧ QuantBits.s16 g = some g' ∧
      QuantBits.s16 b = some b' ∧ QuantBits.s16 a = some a' ∧
      QuantBits.encode16 "R16_SNORM" r g b a = some r' ∧ r' < 2 ^ 16 ∧
      QuantBits.encode16 "R16G16_SNORM" r g b a = some (pack [(r', 16), (g', 16)]) ∧
      pack [(r', 16), (g', 16)] < 2 ^ 32 ∧
      QuantBits.encode16 "R16G16B16A16_SNORM" r g b a =
        some (pack [(r', 16), (g', 16), (b', 16), (a', 16)]) ∧
      pack [(r', 16), (g', 16), (b', 16), (a', 16)] < 2 ^ 64 :=
  QuantBits.encode16_fit r g b a hr hg hb ha

/-- **Packing.** Fields that fit their widths pack into the sum of the widths, and the lowest
field and the remaining fields are read back unchanged: no shift overflows into a neighbour. -/
theorem packing_cannot_overflow (l : List (Nat × Nat)) (h : ∀ f ∈ l, f.1 < 2 ^ f.2) :
    pack l < 2 ^ widthSum l ∧
    (∀ v w rest, l = (v, w) :: rest → pack l % 2 ^ w = v ∧ pack l >>> w = pack rest) := by
  refine ⟨pack_lt l h, ?_⟩
  intro v w rest e
  subst e
  exact pack_low v w rest (h (v, w) List.mem_cons_self)

/-- the packed uncompressed formats, for every input pixel: the encoded pixel fits its 16/32
bits (B5G6R5, B5G5R5A1, B4G4R4A4/A4B4G4R4, R10G10B10A2, XR bias, Y410, R11G11B10) and the
10-bit luma of P010 survives its `<< 6` in 16 bits -/
theorem packed_formats_fit (R : Rounding) (r g b a : ExtReal) (f1 f2 f3 : Nat)
    (hK : ∀ K ∈ [3, 15, 31, 63, 1023], R.fixes ((K : Nat) : Rat) ∧ R.fixes (((K : Nat) : Rat) + 1/2)) :
    pack [(qUnormMin R 31 8 b, 5), (qUnormMin R 63 8 g, 6), (qUnormMin R 31 8 r, 5)] < 2 ^ 16 ∧
    pack [(qUnormMin R 31 8 b, 5), (qUnormMin R 31 8 g, 5), (qUnormMin R 31 8 r, 5), (qN1 a, 1)] < 2 ^ 16 ∧
    pack [(qUnormMin R 15 8 b, 4), (qUnormMin R 15 8 g, 4), (qUnormMin R 15 8 r, 4),
          (qUnormMin R 15 8 a, 4)] < 2 ^ 16 ∧
    pack [(qUnormMin R 1023 16 r, 10), (qUnormMin R 1023 16 g, 10), (qUnormMin R 1023 16 b, 10),
          (qUnormMin R 3 8 a, 2)] < 2 ^ 32 ∧
    pack [(qXr10 R r, 10), (qXr10 R g, 10), (qXr10 R b, 10), (qUnormMin R 3 8 a, 2)] < 2 ^ 32 ∧
    pack [(qYuv10 R (uRow (1025/2)) r g b, 10), (qYuv10 R (yRow (129/2)) r g b, 10),
          (qYuv10 R (vRow (1025/2)) r g b, 10), (qUnormMin R 3 8 a, 2)] < 2 ^ 32 ∧
    pack [(fpE5 6 f1, 11), (fpE5 6 f2, 11), (fpE5 5 f3, 10)] < 2 ^ 32 ∧
    qYuv10 R (yRow (129/2)) r g b <<< 6 < 2 ^ 16 := by
  have un : ∀ K ty x, K ∈ [3, 15, 31, 63, 1023] → qUnormMin R K ty x < K + 1 := fun K ty x hm =>
    Nat.lt_succ_of_le (qUnormMin_le R K ty x (hK K hm).1 (hK K hm).2)
  have n2 : ∀ x, qUnormMin R 3 8 x < 2 ^ 2 := fun x => un 3 8 x (by decide)
  have n4 : ∀ x, qUnormMin R 15 8 x < 2 ^ 4 := fun x => un 15 8 x (by decide)
  have n5 : ∀ x, qUnormMin R 31 8 x < 2 ^ 5 := fun x => un 31 8 x (by decide)
  have n6 : ∀ x, qUnormMin R 63 8 x < 2 ^ 6 := fun x => un 63 8 x (by decide)
  have n10 : ∀ x, qUnormMin R 1023 16 x < 2 ^ 10 := fun x => un 1023 16 x (by decide)
  have xr : ∀ x, qXr10 R x < 2 ^ 10 := fun x => Nat.lt_succ_of_le (qXr10_le R x)
  have yv : ∀ row, qYuv10 R row r g b < 2 ^ 10 := fun row => Nat.lt_succ_of_le (qYuv10_le R row r g b)
  have a1 : qN1 a < 2 ^ 1 := Nat.lt_succ_of_le (qN1_le a)
  refine ⟨?_, ?_, ?_, ?_, ?_, ?_, ?_, ?_⟩
  · exact pack_lt _ (fits_cons (n5 b) (fits_cons (n6 g) (fits_cons (n5 r) fits_nil)))
  · exact pack_lt _ (fits_cons (n5 b) (fits_cons (n5 g) (fits_cons (n5 r) (fits_cons a1 fits_nil))))
  · exact pack_lt _ (fits_cons (n4 b) (fits_cons (n4 g) (fits_cons (n4 r) (fits_cons (n4 a) fits_nil))))
  · exact pack_lt _ (fits_cons (n10 r) (fits_cons (n10 g) (fits_cons (n10 b) (fits_cons (n2 a) fits_nil))))
  · exact pack_lt _ (fits_cons (xr r) (fits_cons (xr g) (fits_cons (xr b) (fits_cons (n2 a) fits_nil))))
  · exact pack_lt _ (fits_cons (yv _) (fits_cons (yv _) (fits_cons (yv _) (fits_cons (n2 a) fits_nil))))
  · exact pack_lt _ (fits_cons (fpE5_lt 6 (by omega) f1) (fits_cons (fpE5_lt 6 (by omega) f2)
      (fits_cons (fpE5_lt 5 (by omega) f3) fits_nil)))
  · exact shiftLeft_lt_pow _ 6 10 (yv _)

/-! ### refinement loops -/

/-- **Bounded refinement.** `bcn_util::refine_endpoints` is the only loop of the block encoders
whose trip count depends on the data; whatever the float comparison `step > step_min` does
(NaN included) it runs at most `max_iter` times and, given `max_iter` units of fuel, has
stopped; the `max_iter` values that reach it are, per quality, `[BC1 line, BC1, BC4, BC7]` =
Fast `[0,0,0,0]`, Normal `[3,0,2,0]`, High `[3,4,10,1]`, Unreasonable `[3,10,10,8]` — never more
than 10, so one call evaluates the error function at most `1 + 10·12` times. -/
theorem refine_loops_bounded :
    (∀ stepOk maxIter fuel, refineIters stepOk maxIter fuel 0 ≤ maxIter) ∧
    (∀ stepOk maxIter, loopGuard stepOk maxIter (refineIters stepOk maxIter maxIter 0) = false) ∧
    (Quality.all.map maxIters = [[0, 0, 0, 0], [3, 0, 2, 0], [3, 4, 10, 1], [3, 10, 10, 8]]) ∧
    (∀ q ∈ Quality.all, ∀ m ∈ maxIters q, m ≤ 10 ∧ refineCallsBound m 12 ≤ 121) :=
  ⟨fun s m f => refineIters_le s m f 0 (Nat.zero_le _),
   fun s m => refineIters_stops s m m 0 (by omega),
   by decide, by decide⟩

/-! ### non-vacuity -/

def nv12 : Row := ⟨"NV12", .biPlanar 1 2 2 2, true, 2, 2⟩
def bc1 : Row := ⟨"BC1_UNORM", .block 8 4 4, true, 1, 1⟩
def rgba8 : Row := ⟨"R8G8B8A8_UNORM", .fixed 4, true, 1, 1⟩

example : nv12 ∈ table ∧ bc1 ∈ table ∧ rgba8 ∈ table := by decide +kernel
-- a refused size: the check, no write
example : encode nv12 (.contig 512) 3 2 none = ⟨.invalidSize, 0, [.check]⟩ := by decide +kernel
-- an accepted size: check, then plane 1 per row pair, then plane 2
example : encode nv12 (.contig 512) 4 2 none = ⟨.ok, 12, [.check, .write 8, .write 4]⟩ := by decide +kernel
-- a fault inside the second write
example : encode nv12 (.contig 512) 4 2 (some 9) = ⟨.ioError, 9, [.check, .write 8, .write 4]⟩ := by
  decide +kernel
-- partial blocks: 5x5 BC1 is 2x2 blocks
example : encode bc1 (.contig 512) 5 5 none = ⟨.ok, 32, [.write 16, .write 16]⟩ := by decide +kernel
-- empty images: 0 x 7
example : encode nv12 (.contig 512) 0 7 (some 0) = ⟨.ok, 0, [.check, .write 0]⟩ := by decide +kernel
example : encode rgba8 (.rows 512) 0 7 (some 0) = ⟨.ok, 0, []⟩ := by decide +kernel
-- the hypotheses on the rounding are satisfiable: exact arithmetic
example : ∀ K ∈ [3, 15, 31, 63, 1023],
    Rounding.exact.fixes ((K : Nat) : Rat) ∧ Rounding.exact.fixes (((K : Nat) : Rat) + 1/2) :=
  fun _ _ => ⟨exact_fixes _, exact_fixes _⟩
-- NaN goes to the maximum through `min(1.0)` and to 0 through a bare cast
example : qUnormMin Rounding.exact 31 8 .nan = 31 ∧ qUnormSat Rounding.exact 255 8 .nan = 0 ∧
    qUnormMin Rounding.exact 31 8 .ninf = 0 ∧ qUnormSat Rounding.exact 255 8 .pinf = 255 := by
  decide +kernel
-- ∞ − ∞ in a chroma row is NaN and is cast to 0
example : qYuv10 Rounding.exact (uRow (1025/2)) .pinf .pinf .pinf = 0 := by decide +kernel
-- R9G9B9E5 on bit patterns: 1.0/0.5/0.25 share exponent 16; 1023.0 takes the second pass (the first
-- gives 512 at exponent 25, the result is 256 at exponent 26); 65408.0 with NaN and -inf is
-- (511, 0, 0) at the top exponent 31; +inf, -0.0 and a subnormal: the same; all-NaN is the word 0
example : SharedExp.fields (fun _ => false) 0x3F800000 0x3F000000 0x3E800000 = some (256, 128, 64, 16) ∧
    SharedExp.fields (fun _ => true) 0x447FC000 0 0x3F800000 = some (256, 0, 0, 26) ∧
    SharedExp.mantOf 0x447FC000 (CF32.twoPowi (24 - 25)) = 512 ∧
    SharedExp.fields (fun _ => false) 0x477F8000 0x7FC00000 0xFF800000 = some (511, 0, 0, 31) ∧
    SharedExp.fields (fun _ => true) 0x7F800000 0x80000000 0x00000001 = some (511, 0, 0, 31) ∧
    SharedExp.fromF32 (fun _ => false) 0x7FC00000 0xFFC00001 0x7F800001 = some 0 ∧
    SharedExp.fromF32 (fun _ => false) 0x3F800000 0x3F000000 0x3E800000 = some 0x81010100 := by
  decide +kernel
-- the tie is real: `(-0.0).max(0.0)` is `-0.0` or `+0.0` depending on the choice, the word is 0 both times
example : SharedExp.clamp0Max true 0x80000000 = 0x80000000 ∧ SharedExp.clamp0Max false 0x80000000 = 0 ∧
    SharedExp.fromF32 (fun _ => true) 0x80000000 0 0x80000000 = some 0 ∧
    SharedExp.fromF32 (fun _ => false) 0x80000000 0 0x80000000 = some 0 := by decide +kernel
-- the hypotheses of `shared_exp_channel_bounds` and of the exactness clause are satisfiable:
-- c = 1023.0 (exponent field 136 = 25 + 111), and 1023.0 * 2^-1 = 511.5 exactly
example : 1 ≤ 0x447FC000 ∧ 0x447FC000 ≤ SharedExp.c65408 ∧ 25 ≤ 31 ∧
    CF32.expField 0x447FC000 ≤ 25 + 111 ∧ 0x447FC000 < CF32.posInf ∧
    CF32.fmul 0x447FC000 (CF32.twoPowi (-1)) = 0x43FFC000 := by decide +kernel
-- the bit-level UNORM quantisers: the constants are the `f32` literals; NaN (any sign) and +inf go to
-- MAX, -inf and -0.0 to 0, 0.5 to round(15.5 + 0.5) = 16, a value one ulp below 1 to MAX; SNORM8 of NaN
-- is +127; a pixel of (NaN, -inf, +inf, 0.5) in B5G5R5A1 is b=31, g=0, r=31, a=1
example : CF32.ofNat 3 = QuantBits.k3 ∧ CF32.ofNat 15 = QuantBits.k15 ∧ CF32.ofNat 31 = QuantBits.k31 ∧
    CF32.ofNat 63 = QuantBits.k63 ∧ CF32.ofNat 1023 = QuantBits.k1023 ∧ CF32.ofNat 254 = QuantBits.k254 ∧
    QuantBits.n5 0x7FC00000 = 31 ∧ QuantBits.n5 0xFFC00001 = 31 ∧ QuantBits.n5 0x7F800000 = 31 ∧
    QuantBits.n5 0xFF800000 = 0 ∧ QuantBits.n5 0x80000000 = 0 ∧ QuantBits.n5 0x3F000000 = 16 ∧
    QuantBits.n10 0x3F7FFFFF = 1023 ∧ QuantBits.s8 0x7FC00000 = some 127 ∧ QuantBits.s8 0 = some 129 ∧
    QuantBits.encode "B5G5R5A1_UNORM" 0x7FC00000 0xFF800000 0x7F800000 0x3F000000 = some 0xFC1F := by
  decide +kernel
-- the loop guard can cut the loop short, and `max_iter` cuts it when the guard never does
example : refineIters (fun i => i < 2) 10 10 0 = 2 ∧ refineIters (fun _ => true) 4 100 0 = 4 := by
  decide

/-! ## The slicing and index arithmetic of the ENCODER loops does not panic

Trapping mirrors (`TrapEnc.lean`, `TrapEncBlk.lean`, `TrapEncSplit.lean`: the loops written once more with operators
that return `Option`, `none` = the Rust code panics in the `checked` profile — slice range, `copy_from_slice` of
unequal lengths, `chunks(0)`, `split_at`, `expect`, `assert!` / `debug_assert!`, `usize` / `u32` overflow, division by
zero, `Vec` capacity overflow) of `for_each_chunk`, `copy_directly`, `uncompressed_untyped`, `uncompressed_universal`,
`uncompressed_universal_dither`, `uncompressed_universal_subsample`, `for_each_f32_rgba_rows`, `bi_planar_universal`,
`block_universal` + `get_4x4_*`, `SplitView::{new, get}`, `ImageView::{is_contiguous, rows, cropped}`,
`encode_parallel`, `EncoderSet::encode`.  Each theorem: for EVERY view the public API can construct
(`TrapEnc.VOK`: C20's invariant `C20.Inv` — established by `ImageView::new`, `new_with` and `cropped`:
`C20.new_with_inv`, `C20.crop_spec` — with ANY row pitch ≥ the row bytes, any `w, h < 2^32` including 0×0, 1×1 and
sizes not divisible by the block size; plus two facts about Rust values: a slice has at most `isize::MAX` bytes, a
`usize` is below `2^64`), every one of the 12 input colours and every option, the mirror is `some` of the write sizes
of `EncLen.lean` — so C10's length theorems and `write_fault_general` above hold for the trapping semantics.
What is computed per pixel / block is not part of the mirrors (total functions: the quantiser theorems above, C13,
and the sampled float bodies).  Buffer sizes and cadences are `SrcConsts.*`, regenerated from the source on every run. -/

end Dds.C15
namespace Dds.C15
open Dds Dds.TrapEnc

/-- a `w × h` view of `bpp` bytes per pixel with `extra` bytes of row padding (0: contiguous), for the `example`s -/
def exView (w h bpp extra : Nat) : View := ⟨0, (w * bpp + extra) * (h - 1) + w * bpp, w, h, bpp, w * bpp + extra⟩
/-- a row wider than the staging buffer of `uncompressed_universal`, whatever its size is tuned to -/
def exWide : Nat := SrcConsts.UNIVERSAL_BUFFER_PIXELS + 88
/-- a row of which two no longer fit the staging buffer -/
def exHalf : Nat := SrcConsts.UNIVERSAL_BUFFER_PIXELS / 2 + 44

/-- the tuning constants of the loops (staging buffers, report cadences), as extracted from the source by
`tools/extract_consts.py`, satisfy what the theorems below need: every staging buffer holds at least one pixel of
every colour / encoded format (so `chunks(n)` never gets `n = 0` and `buffer_pixels - fill_pixels` makes progress), the
sub-sampled encoder's block buffer holds the blocks of a full chunk, the dithering buffer is at least as aligned as
every encoded pixel, no report cadence is zero.  Retuning a constant re-proves everything below for the new value. -/
theorem loop_constants_ok : TrapEnc.ConstsOK := TrapEnc.constsOK

/-- **`for_each_chunk` and its three callers.**  For every view `v` of colour `c` (contiguous or strided with any
pitch), every staging buffer of `bufLen ≤ 2^32` elements with `1 ≤ epp ≤ bufLen` elements per pixel, and every
`copy_to_buffer` closure that accepts `p` source pixels into `p` buffer pixels (`CopyOK`):
`for_each_chunk` hands `process_chunk` exactly the chunks of `EncLen.lean` — `chunkLens` of all pixels on the
contiguous path, `chunksRowsAux` (fill / flush across rows, final flush) on the strided path — there are
`ceil(w·h / buffer_pixels)` of them on both paths, each of 1 … `buffer_pixels` pixels; `row_pitch * height`,
`y * row_pitch + bytes_per_row`, `(fill + write) * epp` never overflow, no slice leaves `data` / `buffer`, the inner
`while` loop terminates within `row.len() + 1` iterations.  Hence (`copy_directly`, `uncompressed_untyped` with a
colour-converting or BGR line closure of the input's precision, `uncompressed_universal::<Out>`) are `some` of
`chunksContig` / `chunksRows` with the buffers of the source, the progress fraction `chunk_index / chunk_count` never
exceeds 1, and the `as_rgba_f32` fast path for aligned RGBA-F32 input changes nothing. -/
theorem chunk_loops_trapfree (v : View) (c : Color) (hv : VOK v c) (hc : c.OK) :
    (∀ bufLen epp copyT, 1 ≤ epp → epp ≤ bufLen → bufLen ≤ 4294967296 → CopyOK copyT (bufLen / epp) v.bpp epp →
      forEachChunkT v bufLen epp copyT = some ((chunkPx v (bufLen / epp)).map (· * epp)) ∧
      (chunkPx v (bufLen / epp)).length = divCeil (v.w * v.h) (bufLen / epp) ∧
      ∀ p ∈ chunkPx v (bufLen / epp), 1 ≤ p ∧ p ≤ bufLen / epp) ∧
    copyDirectlyT v c =
      some (if v.pitch = v.w * v.bpp then [v.w * v.h * v.bpp]
            else chunksRows v.w v.h (SrcConsts.COPY_BUFFER_BYTES / v.bpp) v.bpp) ∧
    (∀ k : UntypedLine, k.Fits c →
      uncompressedUntypedT v c k =
        some (if v.pitch = v.w * v.bpp then chunksContig (v.w * v.h) (SrcConsts.UNTYPED_BUFFER_BYTES / k.bpe) k.bpe
              else chunksRows v.w v.h (SrcConsts.UNTYPED_BUFFER_BYTES / k.bpe) k.bpe)) ∧
    (∀ aligned size prim, 1 ≤ size → size ≤ 65536 → (prim = 1 ∨ (prim ≠ 0 ∧ size % prim = 0)) →
      uncompressedUniversalT v c aligned size prim =
        some (if v.pitch = v.w * v.bpp then chunksContig (v.w * v.h) SrcConsts.UNIVERSAL_BUFFER_PIXELS size
              else chunksRows v.w v.h SrcConsts.UNIVERSAL_BUFFER_PIXELS size)) := by
  obtain ⟨k1, k2, k3, k4, _⟩ := constsOK
  refine ⟨fun bufLen epp copyT h1 h2 h3 h4 => ?_, copyDirectlyT_eq hv hc k1,
    fun k hk => uncompressedUntypedT_eq hv hc hk k2 k3,
    fun aligned size prim h1 h2 h3 => uncompressedUniversalT_eq hv hc aligned ⟨h1, h2⟩ h3 k4 k3⟩
  have hbp : 1 ≤ bufLen / epp := (Nat.one_le_div_iff (by omega)).2 h2
  exact ⟨forEachChunkT_eq hv h1 h2 h3 h4, chunkPx_length hbp, chunkPx_bounds hbp⟩

/-- non-vacuity (stated with the constants of the source, so that retuning a buffer does not break an `example`): a
3-row RGBA-U8 view wider than the staging buffer into a 2-byte format through `uncompressed_universal` — contiguous and
with 8 bytes of row padding — gives the writes of `EncLen.lean`; so does a row that spans three fills of the buffer;
the 1 × 1 view with an absurd pitch and the 0 × 0 view are fine; a view that violates the invariant (data shorter than
its rows) IS a panic of the mirror -/
example :
    uncompressedUniversalT (exView exWide 3 4 0) ⟨.rgba, 1⟩ false 2 2 =
      some (chunksContig (exWide * 3) SrcConsts.UNIVERSAL_BUFFER_PIXELS 2) ∧
    uncompressedUniversalT (exView exWide 3 4 8) ⟨.rgba, 1⟩ false 2 2 =
      some (chunksRows exWide 3 SrcConsts.UNIVERSAL_BUFFER_PIXELS 2) ∧
    uncompressedUniversalT (exView (2 * exWide + 200) 2 4 8) ⟨.rgba, 1⟩ false 2 2 =
      some (chunksRows (2 * exWide + 200) 2 SrcConsts.UNIVERSAL_BUFFER_PIXELS 2) ∧
    2 ≤ (chunksRows exWide 3 SrcConsts.UNIVERSAL_BUFFER_PIXELS 2).length ∧
    uncompressedUniversalT ⟨0, 16, 1, 1, 16, 9223372036854775807⟩ ⟨.rgba, 4⟩ true 16 4 = some [16] ∧
    uncompressedUniversalT ⟨0, 0, 0, 0, 4, 0⟩ ⟨.rgba, 1⟩ false 2 2 = some [] ∧
    copyDirectlyT (exView 600 3 16 4) ⟨.rgba, 4⟩ = some (chunksRows 600 3 (SrcConsts.COPY_BUFFER_BYTES / 16) 16) ∧
    uncompressedUntypedT (exView 1500 2 4 8) ⟨.rgba, 1⟩ (.convert ⟨.rgb, 1⟩ false) =
      some (chunksRows 1500 2 (SrcConsts.UNTYPED_BUFFER_BYTES / 3) 3) ∧
    uncompressedUniversalT ⟨0, 7000, 600, 3, 4, 2400⟩ ⟨.rgba, 1⟩ false 2 2 = none := by
  decide +kernel

/-- the hypotheses are satisfiable: the views of the example satisfy `VOK` (shown for the strided one), and a
colour-converting closure fits its input -/
example : VOK ⟨0, 7216, 600, 3, 4, 2408⟩ ⟨.rgba, 1⟩ ∧ exView 600 3 4 8 = ⟨0, 7216, 600, 3, 4, 2408⟩ ∧ (⟨.rgba, 1⟩ : Color).OK ∧
    (UntypedLine.convert ⟨.rgb, 1⟩ false).Fits ⟨.rgba, 1⟩ :=
  ⟨⟨⟨by decide, by decide, by decide, by decide, by decide, fun h => by simp at h, by decide, fun _ => by decide⟩,
    rfl, by decide, by decide⟩, rfl, Or.inl rfl, rfl, fun h => by cases h⟩

/-- **seed C15g would have failed `chunk_loops_trapfree`.**  `Seeds.uncompressedUniversalT_C15g` is
`uncompressed_universal` over the mutated strided branch of `/verif/seeded/C15g` ("flush if the row no longer fits,
then copy the whole row"): a strided row wider than the staging buffer panics (`buffer[..600]` of 512), and even where
it does not panic (rows of which two do not fit: one chunk per row) the chunks are not those of the loop that exists;
contiguous input is untouched.  (A strided 300-pixel image of more than 2048 rows also trips the progress
`debug_assert!` in the variant — more chunks than `chunk_count` —: `#eval` gives `none` for 300 × 5000; left out of
the `example` because kernel evaluation of it is slow.)  Seed C12i (head / rest rewrite with one flush per row) does not
panic but loses the middle part of a row that spans three fills: fewer bytes than `surface_bytes`. -/
example :
    Seeds.uncompressedUniversalT_C15g (exView exWide 3 4 8) ⟨.rgba, 1⟩ false 2 2 = none ∧
    Seeds.uncompressedUniversalT_C15g (exView exHalf 3 4 8) ⟨.rgba, 1⟩ false 2 2 =
      some (List.replicate 3 (exHalf * 2)) ∧
    uncompressedUniversalT (exView exHalf 3 4 8) ⟨.rgba, 1⟩ false 2 2 =
      some (chunksRows exHalf 3 SrcConsts.UNIVERSAL_BUFFER_PIXELS 2) ∧
    List.replicate 3 (exHalf * 2) ≠ chunksRows exHalf 3 SrcConsts.UNIVERSAL_BUFFER_PIXELS 2 ∧
    Seeds.uncompressedUniversalT_C15g (exView exWide 3 4 0) ⟨.rgba, 1⟩ false 2 2 =
      some (chunksContig (exWide * 3) SrcConsts.UNIVERSAL_BUFFER_PIXELS 2) ∧
    ((Seeds.uncompressedUniversalT_C12i (exView (2 * exWide + 200) 2 4 8) ⟨.rgba, 1⟩ false 2 2).map List.sum).getD 0
      < (2 * exWide + 200) * 2 * 2 ∧
    (Seeds.uncompressedUniversalT_C12i (exView (2 * exWide + 200) 2 4 8) ⟨.rgba, 1⟩ false 2 2).isSome = true := by
  decide +kernel

/-- **`uncompressed_universal_dither`.**  For every view, colour, encoded pixel of `size ≤ BUFFER_PIXELS · 8` bytes
with alignment at most that of the `u64` staging buffer: `some` of the per-row chunk writes of `EncLen.chunksPerRow`
with `chunk_pixels = min(BUFFER_PIXELS, buffer bytes / size)`.  In particular the two error lines of
`width + 2·padding` elements are indexed inside their bounds by `current[off .. off + n]`,
`next[off - 1 .. off + n + 1]` and by `next[i - 1], next[i], next[i + 1]` within a chunk — for `width = 1` and the
empty image too —, `cast::from_bytes_mut::<Out>(encoded)` gets whole elements, `chunk_count = height ·
ceil(width·bpp / chunk_size)` does not overflow and is never exceeded, `chunk_size ≠ 0`. -/
theorem dither_loop_trapfree (v : View) (c : Color) (hv : VOK v c) (hc : c.OK) (aligned : Bool)
    (size align prim : Nat) (hs : 1 ≤ size)
    (hs2 : size ≤ SrcConsts.DITHER_BUFFER_PIXELS * SrcConsts.DITHER_ENCODED_ELEM_BYTES)
    (ha : align ≤ SrcConsts.DITHER_ENCODED_ELEM_BYTES) (hp : prim = 1 ∨ size % prim = 0) :
    ditherT v c aligned size align prim =
      some (chunksPerRow v.w v.h
        (min SrcConsts.DITHER_BUFFER_PIXELS
          (SrcConsts.DITHER_BUFFER_PIXELS * SrcConsts.DITHER_ENCODED_ELEM_BYTES / size)) size) := by
  obtain ⟨_, _, k3, _, k5, _⟩ := constsOK
  exact ditherT_eq hv hc aligned ⟨hs, hs2⟩ ha hp k5 k3

/-- 600 × 2 strided RGBA-U8 into a 3-byte format; a 1-pixel-wide image into `[u16; 4]`; the empty image; an encoded
pixel larger than the staging buffer (`chunk_pixels = 0`) or more aligned than it IS a panic of the mirror -/
example :
    ditherT (exView 600 2 4 8) ⟨.rgba, 1⟩ false 3 1 1 =
      some (chunksPerRow 600 2 (min SrcConsts.DITHER_BUFFER_PIXELS
        (SrcConsts.DITHER_BUFFER_PIXELS * SrcConsts.DITHER_ENCODED_ELEM_BYTES / 3)) 3) ∧
    ditherT (exView 1 2 4 4) ⟨.rgba, 1⟩ false 8 2 2 = some [8, 8] ∧
    ditherT ⟨0, 0, 0, 0, 4, 0⟩ ⟨.rgba, 1⟩ false 8 2 2 = some [] ∧
    ditherT (exView 1 2 4 4) ⟨.rgba, 1⟩ false
      (SrcConsts.DITHER_BUFFER_PIXELS * SrcConsts.DITHER_ENCODED_ELEM_BYTES + 1) 2 2 = none ∧
    ditherT (exView 1 2 4 4) ⟨.rgba, 1⟩ false 8 (SrcConsts.DITHER_ENCODED_ELEM_BYTES + 1) 2 = none := by
  decide +kernel

/-- **`uncompressed_universal_subsample` + `process_subsample`.**  For every view, colour and block width
`2 ≤ bw ≤ BUFFER_PIXELS` (2 and 8 occur): `some` of `EncLen.chunksSubsample` with `chunk_pixels = BUFFER_PIXELS / bw ·
bw` — a positive multiple of the block width (`C10.subsample_chunk_ok`) —: the block buffer of `BUFFER_PIXELS / 2`
elements holds the `ceil(p / bw)` blocks of every chunk; in `process_subsample` `data[..full]`, `data[full..]`,
`last_block[..rest]`, `data[data.len() - 1]` and `out[full.len()]` are in range for the partial block at the end of a
row (also for `width < bw`, `width = 1`). -/
theorem subsample_loop_trapfree (v : View) (c : Color) (hv : VOK v c) (hc : c.OK) (aligned : Bool)
    (bw blockBytes prim : Nat) (hbw : 2 ≤ bw) (hbw2 : bw ≤ SrcConsts.SUBSAMPLE_BUFFER_PIXELS) (hbb : blockBytes ≤ 65536)
    (hp : prim = 1 ∨ blockBytes % prim = 0) :
    subsampleT v c aligned bw blockBytes prim =
      some (chunksSubsample v.w v.h (SrcConsts.SUBSAMPLE_BUFFER_PIXELS / bw * bw) bw blockBytes) ∧
    1 ≤ SrcConsts.SUBSAMPLE_BUFFER_PIXELS / bw * bw ∧ (SrcConsts.SUBSAMPLE_BUFFER_PIXELS / bw * bw) % bw = 0 := by
  obtain ⟨_, _, _, _, _, _, _, k8, _, k10, _⟩ := constsOK
  refine ⟨subsampleT_eq hv hc aligned ⟨hbw, hbw2⟩ hbb hp k8 k10, ?_, Nat.mul_mod_left ..⟩
  have hq1 : 1 ≤ SrcConsts.SUBSAMPLE_BUFFER_PIXELS / bw := (Nat.one_le_div_iff (by omega)).2 hbw2
  have : 1 * 1 ≤ SrcConsts.SUBSAMPLE_BUFFER_PIXELS / bw * bw := Nat.mul_le_mul hq1 (by omega)
  omega

/-- 1025 × 2 strided RGBA-U8 into a 2×1 format of 4 bytes (with the 512-pixel buffer: two full chunks and a chunk of
one pixel = one partial block per row); RGB-F32 of width 1 into R1_UNORM (8×1 blocks of 1 byte); a block width of 1 IS
a panic (`assert!(block_width >= 2)`).  **Seed C10g** (`chunk_pixels = min(.., 4096 / bpp)`, odd for 12-byte pixels)
does not panic, but its writes are not those of `EncLen.lean`: more than the 2400 bytes of the surface for 400 × 3
RGB-F32 → YUY2 (2412 with the 512-pixel buffer), so the equation of `subsample_loop_trapfree` fails for the mutated
loop. -/
example :
    subsampleT (exView 1025 2 4 7) ⟨.rgba, 1⟩ false 2 4 1 =
      some (chunksSubsample 1025 2 (SrcConsts.SUBSAMPLE_BUFFER_PIXELS / 2 * 2) 2 4) ∧
    subsampleT (exView 1 2 12 3) ⟨.rgb, 4⟩ false 8 1 1 = some [1, 1] ∧
    subsampleT (exView 1 2 12 3) ⟨.rgb, 4⟩ false 1 1 1 = none ∧
    (Seeds.subsampleT_C10g (exView 400 3 12 0) ⟨.rgb, 4⟩ false 2 4 1).isSome = true ∧
    Seeds.subsampleT_C10g (exView 400 3 12 0) ⟨.rgb, 4⟩ false 2 4 1 ≠
      some (chunksSubsample 400 3 (SrcConsts.SUBSAMPLE_BUFFER_PIXELS / 2 * 2) 2 4) ∧
    ((Seeds.subsampleT_C10g (exView 400 3 12 0) ⟨.rgb, 4⟩ false 2 4 1).map List.sum).getD 0 > 2400 ∧
    (subsampleT (exView 400 3 12 0) ⟨.rgb, 4⟩ false 2 4 1).map List.sum = some 2400 ∧
    (PixelInfo.block 4 2 1).surfIdeal 400 3 = 2400 := by
  decide +kernel

/-- **`bi_planar_universal` over `for_each_f32_rgba_rows`.**  For every view and colour, plane-1 samples of
`s1 ≤ 4096` bytes and plane-2 samples of `s2 ≤ 4` bytes: an odd width or height is refused (`InvalidSize`, inner
`none`) before anything is allocated or written; otherwise `some` of `EncLen.writesBiPlanar`.  `report_frequency =
ceil(2^20 / max(2·width, 1))` is never zero (the empty image included: the repaired F10), so `group_index %
report_frequency` cannot divide by zero; `Vec::with_capacity((w/2)·(h/2))` stays below `isize::MAX` bytes because
`w·h ≤ data.len()`; the 2×2 cell indices `y·width + 2·macro_x + x` stay inside the f32 row-pair buffer and
`plane1_buffer`; `plane2` has exactly `plane2_len` elements at the end (`debug_assert_eq!`); the row iterator of
`for_each_f32_rgba_rows` is consumed exactly (`expect("Image has too few rows")`, `debug_assert!(rows.next()
.is_none())`). -/
theorem biplanar_loop_trapfree (v : View) (c : Color) (hv : VOK v c) (hc : c.OK) (s1 prim1 s2 prim2 : Nat)
    (hs1 : s1 ≤ 4096) (hs2 : s2 ≤ 4) (hp1 : prim1 = 1 ∨ s1 % prim1 = 0) (hp2 : prim2 = 1 ∨ s2 % prim2 = 0) :
    biPlanarT v c s1 prim1 s2 prim2 =
      some (if v.w % 2 ≠ 0 ∨ v.h % 2 ≠ 0 then none else some (writesBiPlanar v.w v.h s1 s2)) ∧
    (∀ bh, 1 ≤ bh → bh ≤ 65536 → forEachRowsT v c bh = some (v.w * bh, rowGroups v.h bh)) := by
  obtain ⟨_, _, _, _, _, _, _, _, _, _, k11, _⟩ := constsOK
  exact ⟨biPlanarT_eq hv hc hs1 hs2 hp1 hp2 k11, fun bh h1 h2 => forEachRowsT_eq hv hc ⟨h1, h2⟩⟩

/-- P010-like planes (2 and 4 bytes) on a strided 6 × 4 view; an odd width is refused; the empty image writes the
empty plane 2; plane-2 samples of 9 exabytes would be a capacity overflow -/
example :
    biPlanarT ⟨0, 105, 6, 4, 4, 27⟩ ⟨.rgba, 1⟩ 2 2 4 2 = some (some [24, 24, 24]) ∧
    biPlanarT ⟨0, 101, 5, 4, 4, 27⟩ ⟨.rgba, 1⟩ 2 2 4 2 = some none ∧
    biPlanarT ⟨0, 0, 0, 0, 4, 0⟩ ⟨.rgba, 1⟩ 2 2 4 2 = some (some [0]) ∧
    biPlanarT ⟨0, 105, 6, 4, 4, 27⟩ ⟨.rgba, 1⟩ 2 2 9223372036854775807 1 = none := by
  decide +kernel

/-- **`block_universal` + `get_4x4_*`.**  For every view and colour, `bw × bh` blocks (`≤ 256` each way) of
`bb ≤ 65536` bytes, every non-zero report frequency and every `encode_block` that reads at most a `bw × bh` block at the
start of the slice it is handed, rows `row_pitch` apart (`EncBlockOK`; the `get_4x4_*` readers every BC closure uses
satisfy it for 4 × 4): `some` of `EncLen.writesBlock`.  Full blocks get `&rows[bi·bw ..]` with
`3·width + 4 ≤ len`; the partial block at the right edge is gathered from `rows[bi·bw + i·width ..][.. width % bw]`
into `block_data[i·bw .. (i+1)·bw]` for `i < bh` — for every width including `width < bw` —; the rows missing at the
bottom are copied from the first row of the rest inside the buffer (`copy_within(..width, i·width)`);
`encoded_buffer[block_index]` is in range; `block_index` never exceeds `block_count = ceil(w/bw)·ceil(h/bh)`. -/
theorem block_rows_trapfree (v : View) (c : Color) (hv : VOK v c) (hc : c.OK) :
    (∀ encT bw bh bb freq, EncBlockOK encT bw bh → 1 ≤ bw → bw ≤ 256 → 1 ≤ bh → bh ≤ 256 → bb ≤ 65536 → freq ≠ 0 →
      blockUniversalT encT v c bw bh (bw * bh) bb freq = some (writesBlock v.w v.h bw bh bb)) ∧
    EncBlockOK get4x4T 4 4 ∧
    (∀ bb quality, bb ≤ 65536 → block4x4T v c bb quality = some (writesBlock v.w v.h 4 4 bb)) := by
  obtain ⟨_, _, _, _, _, _, _, _, _, _, _, k12⟩ := constsOK
  exact ⟨fun encT bw bh bb freq hok h1 h2 h3 h4 h5 h6 => blockUniversalT_eq hv hc hok ⟨h1, h2⟩ ⟨h3, h4⟩ h5 h6,
    get4x4T_ok, fun bb quality hbb => block4x4T_eq hv hc hbb quality k12⟩

/-- 9 × 6 strided (partial block right and below), 1 × 1, empty; a reader that looks one row too far (`5·pitch`) is
out of range in the last block column, i.e. `EncBlockOK` is what makes the theorem go through -/
example :
    block4x4T ⟨0, 231, 9, 6, 4, 39⟩ ⟨.rgba, 1⟩ 8 0 = some [24, 24] ∧
    block4x4T ⟨0, 16, 1, 1, 16, 19⟩ ⟨.rgba, 4⟩ 16 3 = some [16] ∧
    block4x4T ⟨0, 0, 0, 0, 16, 0⟩ ⟨.rgba, 4⟩ 16 3 = some [] ∧
    blockUniversalT (fun len pitch => idxLen len (5 * pitch)) ⟨0, 231, 9, 6, 4, 39⟩ ⟨.rgba, 1⟩ 4 4 16 8 1 = none := by
  decide +kernel

/-- **`SplitView::{new, get}` and `ImageView::cropped`.**  For every view, support record with a `NonZeroU8` split
height, dithering and quality: the trapping `get_fragment_height` (`fragment_pixels / width`, `/ split_height`,
`* split_height` in `u64`) and `SplitView::new` (`div_ceil`) are `some` of C14's wrapping models; `get(i)` is `Some`
exactly for `i < len` — `index * fragment_height` does not overflow `u32`, `debug_assert!(start_y < height)` holds,
`end_y - start_y` does not underflow, the rectangle passes `cropped`'s `assert!`, its `usize` arithmetic does not
overflow and `data[start..end]` is in range — and the fragment is again a view the loops accept (`VOK`: same pitch,
full width, rows `[y, y + f.h)` of C14's `SplitView.get`), non-empty when a fragment height was chosen. -/
theorem split_view_trapfree (v : View) (c : Color) (hv : VOK v c) (sup : Option Support) (dith : Dithering)
    (q : Quality) (hwf : ∀ s, sup = some s → s.WF) :
    getFragmentHeightT v.w v.h sup dith q = some (getFragmentHeight v.w v.h sup dith q) ∧
    SplitView.newT v.w v.h sup dith q = some (SplitView.new v.w v.h sup dith q) ∧
    ∀ i, ((SplitView.new v.w v.h sup dith q).len ≤ i →
        SplitView.getT (SplitView.new v.w v.h sup dith q) v i = some none) ∧
      (i < (SplitView.new v.w v.h sup dith q).len →
        ∃ f, SplitView.getT (SplitView.new v.w v.h sup dith q) v i = some (some f) ∧ VOK f c ∧ f.w = v.w ∧
          f.pitch = v.pitch ∧
          ∃ y, (SplitView.new v.w v.h sup dith q).get i = some (y, f.h) ∧ y + f.h ≤ v.h ∧
            ((SplitView.new v.w v.h sup dith q).fragmentHeight ≠ none → 0 < f.h)) := by
  refine ⟨getFragmentHeightT_eq _ _ _ _ _ hwf, SplitView.newT_eq _ _ _ _ _ hwf, fun i => ?_⟩
  obtain ⟨h1, h2⟩ := SplitView.getT_eq hv sup dith q hwf i
  refine ⟨h1, fun hi => ?_⟩
  obtain ⟨f, e1, e2, e3, e4, y, e5, e6, e7, _⟩ := h2 hi
  exact ⟨f, e1, e2, e3, e4, y, e5, e6, e7⟩

/-- a 100 × 203 strided RGBA-U8 image with BC1's support record (fragments of 2^12 / 2^8 / 2^8 pixels) at quality High: 51 fragments of height 4 (the last of 3); fragment 50
starts at row 200; `get(51)` is `None`; cropping outside the image IS the documented panic -/
example :
    SplitView.newT 100 203 (some (supBc .colorAndAlpha (.fragment 12 8 8))) .none .high = some ⟨100, 203, 51, some 4⟩ ∧
    SplitView.getT ⟨100, 203, 51, some 4⟩ ⟨0, 82614, 100, 203, 4, 407⟩ 50 =
      some (some ⟨81400, 1214, 100, 3, 4, 407⟩) ∧
    SplitView.getT ⟨100, 203, 51, some 4⟩ ⟨0, 82614, 100, 203, 4, 407⟩ 51 = some none ∧
    croppedT ⟨0, 82614, 100, 203, 4, 407⟩ 0 200 100 4 = none ∧
    (supBc .colorAndAlpha (.fragment 12 8 8)).WF := by
  refine ⟨by decide +kernel, by decide +kernel, by decide +kernel, by decide +kernel, ?_⟩
  intro sh h
  simp only [supBc, Option.some.injEq] at h
  subst h; decide

/-- **`encode_parallel`.**  For every view, colour, 4 × 4 block format of `bb ≤ 16` bytes per block, support record
with a `NonZeroU8` split height whose preferred fragment is the entire image or at most `2^48` pixels (`SupOK`; checked
for all 73 rows of `Split.lean`'s table at all four qualities by `parallel_support_table`), dithering and quality:
the mirror is `some`; with one fragment it is the sequential encoder on the image; otherwise every
`split.get(i).expect(..)` succeeds, `surface_bytes(fragment)` is `Some` and `Vec::with_capacity(bytes)` is below
`isize::MAX`, the fragment is encoded by the block loop without a panic, `debug_assert_eq!(buffer.len(), bytes)` holds
(C10's `block_len` for the trapping semantics), the heights submitted to `ParallelProgress` never exceed its total
`height + 1`, and the writes on the real writer are the fragments' surface sizes in index order, fragment `i` having
the height C14's `SplitView.get i` says.  (`TrapEnc.encodeParallelT_eq` is the same statement for ANY sequential
encoder that is trap-free on full-width views and writes `surface_bytes` — every family by `encode_loops_trapfree`.) -/
theorem parallel_fragments_trapfree (v : View) (c : Color) (hv : VOK v c) (hc : c.OK) (bb quality : Nat)
    (hbb : bb ≤ 16) (sup : Option Support) (dith : Dithering) (q : Quality) (hok : ∀ s, sup = some s → SupOK s) :
    ∃ ws, encodeParallelT (fun f => block4x4T f c bb quality) (.block bb 4 4) v sup dith q = some ws ∧
      ((SplitView.new v.w v.h sup dith q).len = 1 → ws.sum = (PixelInfo.block bb 4 4).surfIdeal v.w v.h) ∧
      ((SplitView.new v.w v.h sup dith q).len ≠ 1 →
        ∃ hs : List Nat, hs.length = (SplitView.new v.w v.h sup dith q).len ∧
          ws = hs.map ((PixelInfo.block bb 4 4).surfIdeal v.w) ∧
          ∀ i k, (SplitView.new v.w v.h sup dith q).get i = some k → hs[i]? = some k.2) := by
  obtain ⟨_, _, _, _, _, _, _, _, _, _, _, k12⟩ := constsOK
  apply encodeParallelT_eq hv _ _ (by simp [PixelInfo.WF]; omega) sup dith q (fun s hs => (hok s hs).1)
  · exact fun f hf _ => ⟨_, block4x4T_eq hf hc (by omega) quality k12, writesBlock_sum f.w f.h 4 4 bb (by omega) (by omega)⟩
  · exact block_fragment_surface hv.inv.w_lt hv.inv.h_lt hbb hok

/-- every row of `Split.lean`'s support table (all 73 format names) has a `NonZeroU8` split height and a preferred
fragment of at most `2^48` pixels at every quality, or the entire image — `SupOK` for every format -/
theorem parallel_support_table : ∀ (f : C19.Format) (s : Support), supportOf f.name = some (some s) → SupOK s := by
  have h : ∀ f : C19.Format, supportCheck f.name = true := C19.forall_format (by decide +kernel)
  exact fun f s hs => supOK_of_check hs (h f)

/-- 100 × 203 strided as BC1 (8 bytes per block), quality High: 51 fragment buffers, 50 of 25 blocks × 8 bytes and
the same for the last (3 rows pad to one block row); together the 10 200 bytes of the surface -/
example :
    (encodeParallelT (fun f => block4x4T f ⟨.rgba, 1⟩ 8 0) (.block 8 4 4) ⟨0, 82614, 100, 203, 4, 407⟩
      (some (supBc .colorAndAlpha (.fragment 12 8 8))) .none .high).map (fun ws => (ws.length, ws.sum)) = some (51, 10200) ∧
    (PixelInfo.block 8 4 4).surfIdeal 100 203 = 10200 := by
  decide +kernel

/-- **the dispatch table**: for all 73 formats × 12 input colours × 4 dithering options (complete evaluation over
C19's pinned encoder table): the format's layout is one the loops handle (`pxOKb`), `pick_encoder` finds an encoder
(`expect("all color formats to be supported")`), its colour set contains the input colour (the `assert!` "Picked the
wrong encoder" of `Encoder::encode`), and `Body.Matches` — which loop an encoder of the table runs, transcribed by
reading — covers the picked encoder. -/
theorem encoder_dispatch_table : ∀ (f : C19.Format) (c : C19.ColorFormat) (d : C19.Dithering),
    dispatchCheck f c d = true := by
  have h : ∀ f : C19.Format,
      (C19.ColorFormat.all.all fun c => C19.Dithering.all.all fun d => dispatchCheck f c d) = true :=
    C19.forall_format (by decide +kernel)
  intro f c d
  have h1 := List.all_eq_true.mp (h f) c (C19.ColorFormat.mem_all c)
  exact List.all_eq_true.mp h1 d (C19.Dithering.mem_all d)

/-- **encode_loops_trapfree** (assembled).  For EVERY encodable format `f`, input colour `c` (12), dithering option
`d`: `EncoderSet::encode` picks an encoder `e` without panicking, whose colour set contains `c`; and for EVERY body
`b` that encoder can run (`Body.Matches`: which of the seven loops, with everything the table does not pin left open;
at least one exists), EVERY view `v` of that colour (`VOK`: any `w, h < 2^32`, contiguous or strided with any pitch ≥
the row bytes) and either alignment of the input: the mirror of the body returns `some` — no slice out of range, no
`usize` / `u32` overflow, no zero divisor, no failing `assert!` / `debug_assert!` / `expect`, every inner loop
terminates — with either the `InvalidSize` refusal, exactly for a bi-planar format and an odd size, before anything is
written, or write sizes `ws` that add up to `surface_bytes`; and then for every writer that fails after `k` bytes:
`Err(Io)` iff `k < surface_bytes`, `Ok` iff `surface_bytes ≤ k`, `min k surface_bytes` bytes accepted. -/
theorem encode_loops_trapfree (f : C19.Format) (s : C19.EncSet) (hs : C19.encoderSet f = some s)
    (c : C19.ColorFormat) (d : C19.Dithering) :
    ∃ e, pickEncoderT s c d = some e ∧ e.colors.contains c = true ∧
      (∃ b, Body.Matches s.ctor f.row.px e b) ∧
      ∀ b, Body.Matches s.ctor f.row.px e b → ∀ (v : View), VOK v (colorOf c) → ∀ aligned : Bool,
        ∃ r, b.runT v (colorOf c) aligned = some r ∧
          (r = none ↔ (∃ p1 p2 sx sy, f.row.px = .biPlanar p1 p2 sx sy) ∧ (v.w % 2 ≠ 0 ∨ v.h % 2 ≠ 0)) ∧
          ∀ ws, r = some ws → ws.sum = f.row.px.surfIdeal v.w v.h ∧
            ∀ k, ((EncTotal.runWrites (some k) ws).1 = .ioError ↔ k < f.row.px.surfIdeal v.w v.h) ∧
              ((EncTotal.runWrites (some k) ws).1 = .ok ↔ f.row.px.surfIdeal v.w v.h ≤ k) ∧
              (EncTotal.runWrites (some k) ws).2 = min k (f.row.px.surfIdeal v.w v.h) := by
  obtain ⟨hpx, e, he, hcol, hb⟩ := dispatch_of_check hs (encoder_dispatch_table f c d)
  refine ⟨e, he, hcol, hb, fun b hm v hv aligned => ?_⟩
  obtain ⟨r, h1, h2, h3⟩ := Body.runT_eq hm hpx hcol hv aligned
  refine ⟨r, h1, h2, fun ws hws => ⟨h3 ws hws, fun k => ?_⟩⟩
  have := write_fault_general ws k
  rw [h3 ws hws] at this
  exact this

/-- non-vacuity of the assembled theorem: R8G8B8A8_UNORM from RGBA-U8 picks `copy_directly` (one write of the whole
data for a contiguous view), from RGB-U8 the colour conversion, B5G6R5 with colour dithering the Floyd–Steinberg body,
NV12 the bi-planar body, BC1 the block body; `Body.Matches` holds for them; the view of the first example is `VOK` -/
example :
    (pickEncoderT ⟨.plain, [.copy C19.rgbaU8, .convert C19.rgbaU8, .universal, .ditherCA]⟩ C19.rgbaU8 .none).map
      (·.colors) = some (.single C19.rgbaU8) ∧
    (pickEncoderT ⟨.plain, [.copy C19.rgbaU8, .convert C19.rgbaU8, .universal, .ditherCA]⟩ C19.rgbU8 .none).map
      (·.colors) = some (.ofPrec .u8) ∧
    (pickEncoderT ⟨.plain, [.universal, .ditherC]⟩ C19.rgbaF32 ⟨true, false⟩).map (·.kind) = some .fsDither ∧
    Body.Matches .plain (.fixed 4) (.copy C19.rgbaU8) .copy ∧
    Body.Matches .plain (.fixed 2) .ditherC (.dither 2 2 2) ∧
    Body.Matches .biPlanar (.biPlanar 1 2 2 2) .universal (.biPlanar 1 1 2 1) ∧
    Body.Matches .bc (.block 8 4 4) (.bcCA C19.wJoint) (.block 8 1) ∧
    (Body.copy.runT ⟨0, 7200, 600, 3, 4, 2400⟩ (colorOf C19.rgbaU8) false = some (some [7200])) := by
  refine ⟨by decide +kernel, by decide +kernel, by decide +kernel, .copy 4 _ _ (by decide),
    .dither 2 2 2 _ (by omega) (Or.inr rfl), .biPlanar 1 2 1 1 _ (Or.inl rfl) (Or.inl rfl), .block 8 1 _,
    by decide +kernel⟩

end Dds.C15

/-! ## The float → integer sites of the block-compression encoders (`EncBcSites.lean`)

Every place of src/encode/bc4.rs, bc1.rs, bc7.rs where an `f32` becomes an integer that is then a checked `u8`
operand, an index or a `debug_assert!`-guarded field (inventory with the data flow: notes/C15.md), as a trapping
mirror on binary32 bit patterns: `none` = a panic of the overflow-checking / debug-assertion profile.  Proved
for EVERY bit pattern of the site's guaranteed input set — all 2^32 (2^64 for pairs) unless a hypothesis says
otherwise; the hypotheses `≤ one` are themselves theorems about the loaders (`bc4_block_clamp_range`).  glam's
`min`/`max`/`clamp` are its SSE2 backend's `_mm_min_ps`/`_mm_max_ps` (`sseMin`, `sseMax`); where it matters both
that and `f32::min` are covered.  NOT covered: assertions on float VALUES (`Inter6Palette::new`'s `c0 != c1`,
`best_error.is_finite()`, `best_c0 <= best_c1` of `optimal_channel`, which depend on float comparisons of the
search loops) — these stay with the harness. -/
namespace Dds.C15
open Dds Dds.CF32 Dds.EncBcSites

/-- `Block::from_raw` (bc4.rs:31) and `compress_bc1_block` (bc1.rs:76): glam's SSE2 `clamp(ZERO, ONE)` maps EVERY
pattern — NaN of any payload, ±∞, −0.0, negative, huge, subnormal — to a pattern `+0.0 … 1.0`, and lane-wise /
horizontal SSE2 `min`/`max` of such values (`Block::min_max`, `get_single_color`) stay there. -/
theorem bc4_block_clamp_range (x : Nat) (hx : x < 2 ^ 32) :
    sseClamp01 x ≤ one ∧
    ∀ a b, a ≤ one → b ≤ one → sseMin a b ≤ one ∧ sseMax a b ≤ one := by
  refine ⟨sseClamp01_le x hx, fun a b ha hb => ⟨?_, ?_⟩⟩
  · unfold sseMin; split <;> assumption
  · unfold sseMax; split <;> assumption

/-- `reference_brute_force` (bc4.rs:126–135; reached at quality Unreasonable): for every block minimum and maximum
(any patterns) and every `min` of the outer loop `0..min_max`, `min + 1` does not overflow `u8` and every `max` of the
inner loop `max_min.max(min + 1)..=255` passes `debug_assert!(c0 > c1)` of `new_inter6_unorm(max, min)`. -/
theorem bc4_brute_force_bounds_trapfree (blockMin blockMax mn : Nat) (h : mn < bruteMinMax blockMax) :
    ∃ lo, bruteInnerLo (bruteMaxMin blockMin) mn = some lo ∧ mn < lo ∧
      ∀ mx, lo ≤ mx → newInter6Unorm mx mn = some (mx, mn) :=
  brute_ok blockMin blockMax mn h

/-- the single-colour path (bc4.rs:97–99, 401–422): for block extrema in `[+0, 1]` (guaranteed by
`bc4_block_clamp_range`) `value = (min + max) * 0.5` is again a pattern `+0.0 … 1.0`, and for such a value
`new_closest` passes `debug_assert!(x <= 254)` of `s8::from_norm` (snorm) — UNORM has no assertion. -/
theorem bc4_single_color_sites_trapfree (bmin bmax : Nat) (h1 : bmin ≤ one) (h2 : bmax ≤ one) (snorm : Bool) :
    singleValue bmin bmax ≤ one ∧
    ∃ c0 c1, newClosest snorm (singleValue bmin bmax) = some (c0, c1) ∧ c0 < 256 ∧ c1 < 256 :=
  ⟨singleValue_le bmin bmax h1 h2, newClosest_some snorm _ (singleValue_le bmin bmax h1 h2)⟩

/-- `EndPoints::quantize` and `EndPoints::new_inter6` (bc4.rs:425–565), UNORM and SNORM, for EVERY pair of bit
patterns (NaN, ±∞, negative, > 1, both zeros) and every choice of `f32::min`/`f32::max` on a ±0 tie: no `u8`
subtraction underflows (`254 - …`, `255 - …`, `min -= 1`), `debug_assert!(min < max)` holds, both
`s8::from_norm` assertions hold, `debug_assert!(c0 != c1)` holds; the codes are distinct bytes, `c0 > c1` as `u8`
(UNORM) resp. as `i8` (`new_inter6`, SNORM): the block is in 6-interpolation mode. -/
theorem bc4_endpoint_sites_trapfree (t1 t2 snorm : Bool) (e0 e1 : Nat) (h0 : e0 < 2 ^ 32) (h1 : e1 < 2 ^ 32) :
    (∃ c0 c1, quantizeEnds t1 t2 snorm e0 e1 = some (c0, c1) ∧ c0 < 256 ∧ c1 < 256 ∧ c0 ≠ c1 ∧
      (snorm = false → c1 < c0)) ∧
    (∃ c0 c1, newInter6 t1 t2 snorm e0 e1 = some (c0, c1) ∧ c0 < 256 ∧ c1 < 256 ∧
      (snorm = false → c1 < c0) ∧ (snorm = true → asI8 c1 < asI8 c0)) := by
  obtain ⟨c0, c1, e, a, b, c, d, _⟩ := quantizeEnds_some t1 t2 snorm e0 e1 h0 h1
  exact ⟨⟨c0, c1, e, a, b, c, d⟩, newInter6_some t1 t2 snorm e0 e1 h0 h1⟩

/-- what the proof of `bc4_endpoint_sites_trapfree` rests on: for every non-NaN pattern
`(255·x) as u8 + (255·(1 − x)) as u8 ≤ 255` (so `255 − …` is at least the rounded-down minimum), and the same with
254 on the clamped range.  Not an error bound: `x ↦ (K·x) as u8` is monotone, `x ↦ (K·(1 − x)) as u8` antitone
(`rpU_mono_m`), and the checked cut points (`halfCuts`, `decide +kernel`) cover `[+0, 1]`. -/
theorem bc4_floor_ceil_sum (x : Nat) (hx : x < 2 ^ 32) (hn : isNaN x = false) :
    floorK k255 x + ceilTermK k255 x ≤ 255 ∧
    (x = signBit ∨ x ≤ one → floorK k254 x + ceilTermK k254 x ≤ 254) :=
  ⟨sum255 x hx hn, sum254 x⟩

/-- `Inter6Palette::closest` (bc4.rs:758–762): for EVERY `pixel`, `factor1`, `add1` (so every `blend`, NaN
included) `INDEX_MAP[blend7 as usize]` is in bounds and the index value passes `debug_assert!(value < 8)` of
`IndexList::set`. -/
theorem bc4_index_map_in_range (pixel factor1 add1 : Nat) :
    ∃ b v, inter6Closest pixel factor1 add1 = some (b, v) ∧ b ≤ 7 ∧ indexValueOk v = true :=
  inter6Closest_some pixel factor1 add1

/-- `R5G6B5Color::round`, `floor`, `ceil` (bc1.rs:637–650) for EVERY colour (three arbitrary patterns), with glam's
SSE2 `min` (`sse = true`) as well as with `f32::min` (`false`): the three `debug_assert!`s of `R5G6B5Color::new`
hold. -/
theorem bc1_r5g6b5_round_in_range (sse : Bool) (x y z : Nat) :
    (∃ r g b, r5g6b5Round sse x y z = some (r, g, b) ∧ r ≤ 31 ∧ g ≤ 63 ∧ b ≤ 31) ∧
    (∃ r g b, r5g6b5Floor sse x y z = some (r, g, b) ∧ r ≤ 31 ∧ g ≤ 63 ∧ b ≤ 31) ∧
    (∃ r g b, r5g6b5Ceil sse x y z = some (r, g, b) ∧ r ≤ 31 ∧ g ≤ 63 ∧ b ≤ 31) :=
  ⟨r5g6b5_lanes sse _ x y z, r5g6b5_lanes sse _ x y z, r5g6b5_lanes sse _ x y z⟩

/-- `optimal_channel` (bc1.rs:379–401) for EVERY `color`, `w0`, `w1`, `c0` and `max ∈ {31, 63}`: the loop bound
`c0_max ≤ max`; `c1_floor + 1` does not overflow `u8`; `c1_floor ≤ c1_ceil ≤ max` (the `best_c1 <= max` half of the
final `debug_assert!`, and `R5G6B5Color::new`'s).  The other half, `best_c0 <= best_c1`, depends on which candidate
the float error comparison picks and is NOT proved here. -/
theorem bc1_single_color_sites_trapfree (color w0 w1 c0 mx : Nat) (hmx : mx = 31 ∨ mx = 63) :
    optC0Max color mx ≤ mx ∧
    ∃ f c, optC1 color w0 w1 mx c0 = some (f, c) ∧ f ≤ c ∧ c ≤ mx :=
  ⟨optC0Max_le color mx, optC1_some color w0 w1 mx c0 (by omega)⟩

/-- `channel_round::<B>` (bc7.rs:2197) behind `Rgb/Rgba/Alpha::<B>::new` for every `B` the encoder instantiates
(4 … 8) and EVERY pattern: not `unreachable!()`, no `u8` over/underflow of `nearest ± 1`, and
`debug_assert!(x <= MAX)` holds. -/
theorem bc7_channel_round_in_range (B v : Nat) (hB : 4 ≤ B ∧ B ≤ 8) (hv : v < 2 ^ 32) :
    ∃ r, quantRound B v = some r ∧ r ≤ 2 ^ B - 1 := by
  obtain ⟨r, e, h⟩ := channelRound_some B v hB hv
  unfold quantRound chanNew; rw [e]; dsimp only; rw [if_pos h]; exact ⟨r, rfl, h⟩

/-- `channel_floor::<B>` (bc7.rs:2216), likewise -/
theorem bc7_channel_floor_in_range (B v : Nat) (hB : 4 ≤ B ∧ B ≤ 8) (hv : v < 2 ^ 32) :
    ∃ r, quantFloor B v = some r ∧ r ≤ 2 ^ B - 1 := by
  obtain ⟨r, e, h⟩ := channelFloor_some B v hB hv
  unfold quantFloor chanNew; rw [e]; dsimp only; rw [if_pos h]; exact ⟨r, rfl, h⟩

/-- `channel_ceil::<B>` (bc7.rs:2234), likewise -/
theorem bc7_channel_ceil_in_range (B v : Nat) (hB : 4 ≤ B ∧ B ≤ 8) :
    ∃ r, quantCeil B v = some r ∧ r ≤ 2 ^ B - 1 := by
  obtain ⟨r, e, h⟩ := channelCeil_some B v hB
  unfold quantCeil chanNew; rw [e]; dsimp only; rw [if_pos h]; exact ⟨r, rfl, h⟩

-- the clamp: NaN (either sign), −0.0, −∞ ↦ +0.0; +∞ ↦ 1.0; a subnormal stays
example : sseClamp01 0x7FC00000 = 0 ∧ sseClamp01 0xFFC00001 = 0 ∧ sseClamp01 0x80000000 = 0 ∧
    sseClamp01 0xFF800000 = 0 ∧ sseClamp01 0x7F800000 = one ∧ sseClamp01 1 = 1 := by decide +kernel
-- the `[+0, 1]` hypothesis of the single-colour site is needed (1.01 ↦ norm 255: `s8::from_norm` would panic) and
-- satisfiable (1.0 ↦ 254 ↦ 0x7F; 0.5 ↦ 127 ↦ 0x00)
example : newClosest true 0x3F8147AE = none ∧ newClosest true one = some (127, 129) ∧
    newClosest true half = some (0, 129) ∧ one ≤ one ∧ singleValue one one = one := by decide +kernel
-- endpoints: equal values take the second stage (0.5/0.5: floor 127, 255 − floor(127.5) = 128); NaN/NaN gives
-- (255, 0); a pair far outside [0, 1] saturates; SNORM: 0.5/0.5 gives norms 126/127 = codes 0xFF/0x00;
-- −0.0 against +0.0 with either tie choice
example : quantizeEnds false false false half half = some (128, 127) ∧
    quantizeEnds true true false 0x7FC00000 0xFFC00000 = some (255, 0) ∧
    quantizeEnds false true false 0xC2C80000 0x42C80000 = some (255, 0) ∧
    quantizeEnds false false true half half = some (0, 255) ∧
    newInter6 false false true half half = some (0, 255) ∧
    quantizeEnds true false false 0x80000000 0 = some (1, 0) ∧
    quantizeEnds false true true 0x80000000 0 = some (130, 129) := by decide +kernel
-- the brute-force bounds of an all-ones block: `min_max = 255`, so `min = 254` is the last outer iteration
example : bruteMinMax one = 255 ∧ bruteMaxMin one = 254 ∧ 254 < bruteMinMax one ∧
    bruteInnerLo (bruteMaxMin one) 254 = some 255 := by decide +kernel
-- BC1: NaN quantises to the maximum through `min` (SSE2 and scalar alike), −∞ to 0, 1.0 to 31/63/31
example : r5g6b5Round true 0x7FC00000 0xFF800000 one = some (31, 0, 31) ∧
    r5g6b5Round false 0x7FC00000 0xFF800000 one = some (31, 0, 31) ∧
    r5g6b5Ceil true one one 0 = some (31, 63, 0) ∧ r5g6b5Floor true one 0x7F800000 half = some (31, 63, 15) := by
  decide +kernel
-- BC7: NaN ↦ 0 behind `clamp`, +∞ ↦ MAX, 1.0 ↦ MAX, and the `min` of the 4-bit case
example : quantRound 5 0x7FC00000 = some 0 ∧ quantRound 7 0x7F800000 = some 127 ∧ quantRound 6 one = some 63 ∧
    quantRound 4 0x7FC00000 = some 15 ∧ quantCeil 5 half = some 16 ∧ quantFloor 5 half = some 15 ∧
    quantRound 3 one = none := by decide +kernel

end Dds.C15

/-! ## Section Q — `Encoder::write_surface_impl` with mipmap generation does not panic (`TrapMip.lean`)

`writeSurfaceT` evaluates, in program order, every operation of src/encoder.rs:156–241 that can panic in the
overflow-checking profile: `iter.current()`, `current.mipmap_level + 1` (`u8`), `saturating_sub`, the progress
sub-ranges (`level as i32 + 1`, `ProgressRange::from_to`'s `debug_assert!(from <= to)` on `1 − 0.4^l`, exact
rationals), `iter.advance()`, `Vec::with_capacity(16)`, the look-ahead loop, `MipmapCache::generate` with all of
section Q of `Theorems/C16.lean` behind it, and the `u8` counter `level += 1` of the callback.  `encode` itself is
section M (`encode_loops_trapfree`). -/
namespace Dds.C15
open Dds Dds.TrapMip Dds.TrapEnc

/-- For every encoder state satisfying C11's invariant (any layout, any cursor position, generation on or off) whose
iterator is the layout's (`Linked`, established by `Encoder::new`: `linked_new`), every cache state, every image the
public API can build (C20's invariant: any size — also a wrong one —, address, pitch, colour; pixel bytes ≤ `BMAX`),
every filter and alpha setting, cancelled or not: the trapping mirror of `write_surface_impl` returns `some`, and
what it returns is exactly `Enc.write` — the function C11's theorems (`step_inv`, `history`, …) are about — so those
theorems hold in the trapping semantics; the cache stays well-formed for the next call. -/
theorem write_surface_trapfree (al : Alloc) (ha : AlOK al) (rayon : Bool) (e : Enc) (v : C11.EncInv e)
    (hL : Linked e) (k : Cache) (hk : CacheOK k) (im : Img) (him : ImgOK im) (pre : Bool) :
    ∃ k', writeSurfaceT al rayon e k im pre =
        some ((e.write im.v.w im.v.h pre).1, (e.write im.v.w im.v.h pre).2, k') ∧ CacheOK k' ∧
      e.step (if pre then .writeCancelled im.v.w im.v.h else .write im.v.w im.v.h) = e.write im.v.w im.v.h pre ∧
      C11.EncInv (e.write im.v.w im.v.h pre).1 ∧ (e.write im.v.w im.v.h pre).2 ≠ .panic := by
  obtain ⟨k', e1, e2⟩ := writeSurfaceT_ok ha rayon e v.iter hL hk him pre
  refine ⟨k', e1, e2, ?_, ?_⟩
  · cases pre <;> rfl
  · cases pre with
    | true => exact C11.step_inv e v (.writeCancelled im.v.w im.v.h)
    | false => exact C11.step_inv e v (.write im.v.w im.v.h)

/-- `Encoder::new` links the iterator to the layout -/
theorem linked_new (L : DataLayout) (mw mh : Nat) : Linked (Enc.new L mw mh) := by
  cases L <;> simp [Linked, Enc.new, SurfIter.new, DataLayout.isVolume, DataLayout.mips, TextureArray.first]

/-- a 2×2 RGBA8 texture with 2 levels, cursor at level `l`, generation on -/
def exEnc (l : Nat) : Enc :=
  { Enc.new (.texture ⟨2, 2, 2, .fixed 4, 0, some 20⟩) 1 1 with iter := .tex ⟨⟨2, 2, 2, .fixed 4, 0, some 20⟩, 1, 0, l⟩ }
def exAlQ : Alloc := fun _ n => 64 * (n + 1)

-- the hypotheses are satisfiable; level 0 at an odd address with a pitch generates level 1 (Triangle on 2×2: the
-- one-level case of previous-two) and the encoder is done
example : Linked (exEnc 0) ∧ AlOK exAlQ ∧ ImgOK ⟨1001, ⟨0, 19, 2, 2, 4, 11⟩, ⟨.rgba, 1⟩, .triangle, true⟩ ∧
    (writeSurfaceT exAlQ true (exEnc 0) Cache.new ⟨1001, ⟨0, 19, 2, 2, 4, 11⟩, ⟨.rgba, 1⟩, .triangle, true⟩ false).map
      (fun r => (r.1.written, r.2.1, r.1.finish)) = some (20, .ok, .ok) := by
  refine ⟨⟨rfl, rfl⟩, fun _ n => by show 64 * (n + 1) % 4 = 0; omega, ⟨⟨⟨by decide, by decide, by decide, by decide,
    by decide, by decide, by decide, by decide⟩, rfl, by decide, by decide⟩, Or.inl rfl, by unfold BMAX; decide⟩, by decide +kernel⟩
-- seed C11b (`mipmaps_to_generate = mipmaps − 1`): writing the LAST level by hand with generation on enters the
-- mipmap branch with an empty size list and `generate_from_previous` panics at `sizes[0]`; the code as it is
-- writes the level (4 bytes) and is done.  (For a level-0 surface both agree.)
example : writeSurfaceWithT toGenSeedT exAlQ true (exEnc 1) Cache.new ⟨1000, ⟨0, 4, 1, 1, 4, 4⟩, ⟨.rgba, 1⟩, .box, true⟩ false
      = none ∧
    (writeSurfaceT exAlQ true (exEnc 1) Cache.new ⟨1000, ⟨0, 4, 1, 1, 4, 4⟩, ⟨.rgba, 1⟩, .box, true⟩ false).map
      (fun r => (r.1.written, r.2.1)) = some (4, .ok) ∧
    writeSurfaceWithT toGenSeedT exAlQ true (exEnc 0) Cache.new ⟨1000, ⟨0, 16, 2, 2, 4, 8⟩, ⟨.rgba, 1⟩, .box, true⟩ false =
      writeSurfaceT exAlQ true (exEnc 0) Cache.new ⟨1000, ⟨0, 16, 2, 2, 4, 8⟩, ⟨.rgba, 1⟩, .box, true⟩ false := by
  decide +kernel
-- a layout with a single level: the seed's `1 − 1 = 0`; with `mipmaps() = 0` impossible (`NonZeroU8`)
example : toGenSeedT (exEnc 0) ⟨2, 2, 16, 0⟩ = some 1 ∧ toGenT (exEnc 1) ⟨1, 1, 4, 1⟩ = some 0 ∧
    toGenT (exEnc 0) ⟨1, 1, 4, 255⟩ = none := by decide +kernel

end Dds.C15

/-! ## Section Q, continued — `write_surface_trapfree` for every reachable encoder state

`Linked` is kept by every call kind of `Enc.step` (`TrapMip.linked_step`: the only assignment to `iter` is
`SurfaceIterator::advance`, which keeps the variant and a texture iterator's texture; nothing assigns `layout`), hence
by every history (`linked_reachable`), and `Encoder::new` establishes it (`linked_new`) together with C11's
invariant (`C11.new_inv`).  So the hypothesis `Linked e` of `write_surface_trapfree` can be discharged. -/
namespace Dds.C15
open Dds Dds.TrapMip Dds.TrapEnc

/-- every call — accepted, rejected or cancelled write, a write that failed while generating a mipmap, the
`mipmaps.generate` switch, `finish` — keeps the iterator linked to the layout (no other hypothesis on the state) -/
theorem linked_preserved (e : Enc) (hL : Linked e) (op : EncOp) : Linked (e.step op).1 :=
  linked_step e hL op

theorem linked_reachable (L : DataLayout) (mw mh : Nat) (ops : List EncOp) :
    Linked (C11.run (Enc.new L mw mh) ops).1 :=
  linked_history ops _ (linked_new L mw mh)

/-- For every layout whose fresh iterator satisfies C08's invariant (what `C11.new_inv` asks of an accepted header),
every size multiple and EVERY history of calls `ops` (writes of any size, cancelled writes, switching generation on
and off, `finish` queries; no bound on the length): the next `write_surface` call in the state reached has the
conclusion of `write_surface_trapfree` — no hypothesis on the state is left. -/
theorem write_surface_trapfree_history (L : DataLayout) (hnew : C08.IterInv (SurfIter.new L)) (mw mh : Nat)
    (ops : List EncOp) (al : Alloc) (ha : AlOK al) (rayon : Bool) (k : Cache) (hk : CacheOK k) (im : Img)
    (him : ImgOK im) (pre : Bool) :
    let e := (C11.run (Enc.new L mw mh) ops).1
    ∃ k', writeSurfaceT al rayon e k im pre =
        some ((e.write im.v.w im.v.h pre).1, (e.write im.v.w im.v.h pre).2, k') ∧ CacheOK k' ∧
      e.step (if pre then .writeCancelled im.v.w im.v.h else .write im.v.w im.v.h) = e.write im.v.w im.v.h pre ∧
      C11.EncInv (e.write im.v.w im.v.h pre).1 ∧ (e.write im.v.w im.v.h pre).2 ≠ .panic :=
  write_surface_trapfree al ha rayon _ (C11.history ops _ (C11.new_inv L mw mh hnew)).1
    (linked_reachable L mw mh ops) k hk im him pre

/-- The same from the header: for every header (`u32` fields, `NonZeroU32` mip count) and pixel format for which
`DataLayout::from_header_with` — the only fallible step of `Encoder::new` besides `encoding_support` and the header
write — returns a layout, every size multiple of the format, and EVERY call history from the new encoder: the next
`write_surface` / `write_surface_with_progress` call (any image the API can build, any cache state, cancelled or
not) does not panic in the overflow-checking profile, computes exactly `Enc.write`, keeps C11's invariant and leaves a
well-formed cache. -/
theorem write_surface_trapfree_reachable (hd : LayoutHeader) (px : PixelInfo) (hp : px.WF)
    (hr : C02.HeaderInRange hd) (hm : 1 ≤ hd.mipmapCount) (L : DataLayout) (hl : layoutOf hd px = some (.ok L))
    (mw mh : Nat) (ops : List EncOp) (al : Alloc) (ha : AlOK al) (rayon : Bool) (k : Cache) (hk : CacheOK k)
    (im : Img) (him : ImgOK im) (pre : Bool) :
    let e := (C11.run (Enc.new L mw mh) ops).1
    ∃ k', writeSurfaceT al rayon e k im pre =
        some ((e.write im.v.w im.v.h pre).1, (e.write im.v.w im.v.h pre).2, k') ∧ CacheOK k' ∧
      e.step (if pre then .writeCancelled im.v.w im.v.h else .write im.v.w im.v.h) = e.write im.v.w im.v.h pre ∧
      C11.EncInv (e.write im.v.w im.v.h pre).1 ∧ (e.write im.v.w im.v.h pre).2 ≠ .panic :=
  write_surface_trapfree_history L (C08.fresh_iterInv hd px hp hr hm L hl) mw mh ops al ha rayon k hk im him pre

-- the header hypotheses are satisfiable (2×2 RGBA8, 2 levels: the layout of `exEnc`), and after the history
-- "generation off, write level 0, generation on" the cursor is at level 1 (16 bytes written) and the next write of
-- the 1×1 level by hand completes the file
example :
    PixelInfo.WF (.fixed 4) ∧
    (match layoutOf ⟨2, 2, none, 2, .dx10 false .tex2D 1⟩ (.fixed 4) with
     | some (.ok L) => decide (L = .texture ⟨2, 2, 2, .fixed 4, 0, some 20⟩)
     | _ => false) = true ∧
    Enc.new (.texture ⟨2, 2, 2, .fixed 4, 0, some 20⟩) 1 1 = exEnc 0 ∧
    (fun e : Enc => (e.written, e.generate, decide (e.iter = (exEnc 1).iter)))
      (C11.run (exEnc 0) [.setGenerate false, .write 2 2, .finish, .setGenerate true]).1 = (16, true, true) ∧
    (writeSurfaceT exAlQ true (C11.run (exEnc 0) [.setGenerate false, .write 2 2, .finish, .setGenerate true]).1
        Cache.new ⟨1000, ⟨0, 4, 1, 1, 4, 4⟩, ⟨.rgba, 1⟩, .box, true⟩ false).map
      (fun r => (r.1.written, r.2.1, r.1.finish)) = some (20, .ok, .ok) := by
  decide +kernel
example : C02.HeaderInRange ⟨2, 2, none, 2, .dx10 false .tex2D 1⟩ :=
  ⟨by decide, by decide, fun _ h => (by cases h), fun _ _ _ h => (by cases h; decide)⟩

end Dds.C15
