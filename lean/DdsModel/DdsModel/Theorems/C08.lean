/-
C08 — Any sequence of decoder operations stays in step with the file layout.

Model: `Iter.lean` (both surface iterators, verbatim) and `Decoder.lean` (the `Decoder`
calls over an ideal, long-enough, fault-free reader; `decode`/`decode_rect` represented by
their stream contract C06). Helper lemmas: `Proofs/Iter.lean` (each iterator),
`Proofs/SurfIter.lean` (either iterator against the cursor), `Proofs/DecStep.lean` (the calls in
closed form, the invariant).

The specification is a cursor `k` into the flattened surface list of C02
(`C02.specFlatten`): the abstraction `abs` maps the iterator state to `k`. The abstraction, the
iterator invariant `IterInv` and the decoder invariant `DecInv` are defined in
`Proofs/SurfIter.lean` and `Proofs/DecStep.lean`.
-/
import DdsModel.Proofs.DecRun
namespace Dds.C08
open Dds

/-! ### iterator-level refinement -/

/-- `advance` moves the cursor one surface forward, saturating at the end; never panics. -/
theorem advance_refines (it : SurfIter) (v : IterInv it) :
    ∃ it', it.advanceP = some it' ∧ IterInv it' ∧ abs it' = min (abs it + 1) (count it) ∧
      count it' = count it ∧ total it' = total it ∧ flat it' = flat it := by
  obtain ⟨it', ha, hi, hb, habs, _⟩ := advance_spec v
  exact ⟨it', ha, hi, habs, of_base_eq hb⟩

/-- `rewind` moves the cursor one surface back, saturating at the start; never panics. -/
theorem rewind_refines (it : SurfIter) (v : IterInv it) :
    ∃ it', it.rewindP = some it' ∧ IterInv it' ∧ abs it' = abs it - 1 ∧
      count it' = count it ∧ total it' = total it ∧ flat it' = flat it := by
  obtain ⟨it', hr, hi, hb, habs, _⟩ := rewind_spec v
  exact ⟨it', hr, hi, habs, of_base_eq hb⟩

/-- `elapsed_bytes` is the ideal offset of the cursor (no panic, no `u64` wrap) and is
bounded by the data length. -/
theorem elapsed_refines (it : SurfIter) (v : IterInv it) :
    it.elapsedP = some (elapsed it) ∧ elapsed it ≤ total it :=
  ⟨elapsedP_eq v, elapsed_le_total v⟩

/-- `current` never panics and is `none` exactly at the end of the list. -/
theorem current_total (it : SurfIter) (v : IterInv it) :
    ∃ r, it.currentP = some r ∧ (r.isSome ↔ abs it < count it) := by
  rcases current_cases v with ⟨hc, he⟩ | ⟨cur, hc, hlt⟩
  · exact ⟨none, hc, (fun h => by cases h), (fun h => by omega)⟩
  · exact ⟨some cur, hc, fun _ => hlt, fun _ => rfl⟩

/-! ### the flattened list at the cursor -/

theorem specArray_getElem (px : PixelInfo) (w h mips : Nat) : ∀ (n i l : Nat), i < n → l < mips →
    (specArray px w h mips n)[i * mips + l]? =
      (specMips px w h 0 mips (i * texIdeal px w h 0 mips))[l]? := by
  intro n i l hi hl
  rw [← levelSum_const mips 0 i]
  exact flatten_range_getElem _ _ (fun _ => specMips_length ..) _ _ _ hi hl

/-- For texture layouts the surface reported by `current()` — size and length — is the
element of the flattened list at the cursor, and the ideal elapsed bytes are its offset. -/
theorem tex_current_is_flat (t : TexIter) (v : t.Inv) (hi : t.idx < t.len) :
    ∃ s, (flat (.tex t))[t.abs]? = some s ∧ s.offset = t.elapsed ∧
      t.currentP = some (some ⟨s.w, s.h, s.len, t.level⟩) := by
  have hl := v.level_lt hi
  unfold flat TexIter.abs
  rw [specArray_getElem _ _ _ _ _ _ _ hi hl, specMips_getElem, if_pos hl]
  refine ⟨_, rfl, ?_, ?_⟩
  · simp [TexIter.elapsed, TexIter.T]
  · rw [v.currentP, if_pos hi]; simp

theorem specSlices_length (v : VolumeDesc) : (specSlices v).length = v.d := by
  simp [specSlices]

/-- For volume layouts the surface reported by `current()` is the element of the flattened
list at the cursor, and the ideal elapsed bytes are its offset. -/
theorem vol_current_is_flat (t : VolIter) (v : t.Inv) (hl : t.level < t.volume.mips) :
    ∃ s, (flat (.vol t))[t.abs]? = some s ∧ s.offset = t.elapsed ∧
      t.currentP = some (some ⟨s.w, s.h, s.len, t.level⟩) := by
  have hd := v.depth_lt hl
  simp only [flat, VolIter.abs, specVolFlat]
  rw [depthSum_eq_levelSum, specVol_eq_map, List.map_map,
    flatten_range_getElem _ (mipSize t.volume.d) (fun _ => specSlices_length _) _ _ _ hl hd]
  simp only [Function.comp, specSlices, List.getElem?_map, List.getElem?_range hd, Option.map_some]
  refine ⟨_, rfl, ?_, ?_⟩
  · simp [VolIter.elapsed, Volume.sliceLen]
  · rw [v.currentP, if_pos hl]; simp [Volume.sliceLen]

/-! ### decoder-level invariant over arbitrary histories -/

theorem skipMipmaps_refines (it : SurfIter) (v : IterInv it) :
    it.skipMipmapsP = some (.error ()) ∨
    ∃ it' n, it.skipMipmapsP = some (.ok (it', n)) ∧ IterInv it' ∧ elapsed it' = elapsed it + n ∧
      count it' = count it ∧ total it' = total it ∧ flat it' = flat it :=
  (skip_spec v).imp id fun ⟨it', n, h, m⟩ => ⟨it', n, h, m.inv, m.elapsed, of_base_eq m.base⟩

/-- Every decoder call keeps the invariant (reader position = offset of the surface the
decoder reports as next) and none of them panics. -/
theorem step_inv (d : Dec) (v : DecInv d) (op : DecOp) :
    DecInv (d.step op).1 ∧ (d.step op).2.1 ≠ .panic :=
  ⟨(step_kept v op).inv, (step_kept v op).noPanic⟩

/-- C08, histories: after ANY sequence of decoder operations (no depth bound) the reader
position equals the layout offset of the surface the decoder reports as next (the data
length at the end), the iterator invariant holds, and no call panicked. -/
theorem history (ops : List DecOp) : ∀ (d : Dec), DecInv d →
    DecInv (run d ops).1 ∧ ∀ r ∈ (run d ops).2, r ≠ .panic :=
  run_induction (step := fun d op => ((d.step op).1, (d.step op).2.1)) (run := run) (fun _ => rfl)
    (fun _ _ _ => rfl) (fun d op v => step_inv d v op) ops

/-- Rejected calls (wrong size, out-of-bounds rect, past the end, skip inside a volume)
change nothing: neither the cursor nor the reader position. -/
theorem rejected_unchanged (d : Dec) (v : DecInv d) (op : DecOp)
    (hop : ∀ w h, op ≠ .readCubeMap w h) (hr : (d.step op).2.1 ≠ .ok) : (d.step op).1 = d := by
  cases op with
  | read w h =>
    have h := (consumeIf_spec v (rejects_readGuard d w h)).2.1
    rw [← Dec.readSurface_eq] at h
    exact h hr
  | readRect ox oy w h =>
    rw [Dec.step_readRect_eq] at hr ⊢
    exact (consumeIf_spec v (rejects_rectGuard d ox oy w h)).2.1 hr
  | skipSurface =>
    rw [Dec.step_skipSurface_eq] at hr ⊢
    exact (consumeIf_spec v (fun _ _ h => by cases h)).2.1 hr
  | skipMipmaps => exact (skipMipmaps_spec v).2 hr
  | rewindPrev =>
    obtain ⟨it', _, _, _, _, _, h⟩ := Dec.step_rewindPrev_eq v.iter v.small
    rw [h] at hr; exact absurd rfl hr
  | rewindStart =>
    rw [Dec.step_rewindStart_eq v.iter v.small] at hr; exact absurd rfl hr
  | readCubeMap w h => exact absurd rfl (hop w h)

/-- C08, the cursor: the calls that consume a surface (`read_surface`, `read_surface_rect`,
`skip_surface`) move the cursor of the flattened list forward by exactly one when they
succeed, and fail with `NoMoreSurfaces` exactly at the end of the list. -/
theorem consuming_calls_cursor (d : Dec) (v : DecInv d) (op : DecOp)
    (hop : (∃ w h, op = .read w h) ∨ (∃ ox oy w h, op = .readRect ox oy w h) ∨ op = .skipSurface) :
    ((d.step op).2.1 = .ok → abs (d.step op).1.iter = abs d.iter + 1 ∧ abs d.iter < count d.iter) ∧
    ((d.step op).2.1 = .noMoreSurfaces ↔ abs d.iter = count d.iter) := by
  rcases hop with ⟨w, h, rfl⟩ | ⟨ox, oy, w, h, rfl⟩ | rfl
  · have h := (consumeIf_spec v (rejects_readGuard d w h)).2.2
    rw [← Dec.readSurface_eq] at h
    exact h
  · rw [Dec.step_readRect_eq]
    exact (consumeIf_spec v (rejects_rectGuard d ox oy w h)).2.2
  · rw [Dec.step_skipSurface_eq]
    exact (consumeIf_spec v (fun _ _ h => by cases h)).2.2

/-- C08, the cursor: `rewind_to_previous_surface` moves it back by one (staying at 0),
`rewind_to_start` sets it to 0; both always succeed. -/
theorem rewinding_calls_cursor (d : Dec) (v : DecInv d) :
    ((d.step .rewindPrev).2.1 = .ok ∧ abs (d.step .rewindPrev).1.iter = abs d.iter - 1) ∧
    ((d.step .rewindStart).2.1 = .ok ∧ abs (d.step .rewindStart).1.iter = 0) := by
  obtain ⟨it', _, _, _, habs, _, h⟩ := Dec.step_rewindPrev_eq v.iter v.small
  rw [h, Dec.step_rewindStart_eq v.iter v.small]
  exact ⟨⟨rfl, habs⟩, rfl, (new_zero _).1⟩

/-- The cube-map cross: cells are pairwise distinct and lie inside the 4x3 grid (so the
face cells of a `4w x 3h` image are pairwise disjoint and inside the image). -/
theorem cube_cells_disjoint :
    (faceOffsets.map fun (_, x, y) => (x, y)).Nodup ∧
      ∀ c ∈ faceOffsets, c.2.1 < 4 ∧ c.2.2 < 3 := by decide

/-- The faces are visited in the documented order +X, -X, +Y, -Y, +Z, -Z. -/
theorem cube_face_order : faceOffsets.map (·.1) = [1, 2, 4, 8, 16, 32] := by decide

/-! ### the initial state satisfies the invariant -/

/-- A decoder created for any accepted header starts in a state satisfying the invariant. -/
theorem new_inv (hd : LayoutHeader) (px : PixelInfo) (hp : px.WF) (hr : C02.HeaderInRange hd)
    (hm : 1 ≤ hd.mipmapCount) (L : DataLayout) (h : layoutOf hd px = some (.ok L))
    (hsmall : C02.specTotal L ≤ I64MAX) : DecInv (Dec.new L) :=
  (Fresh.ofLayout hp hr hm h).dec hsmall

/-- Reading every surface in order consumes exactly the data section: when the cursor is
at the end the reader position is the data length. -/
theorem end_position (d : Dec) (v : DecInv d) (hend : abs d.iter = count d.iter) :
    d.pos = (total d.iter : Int) := by
  rw [v.pos, elapsed_eq_total_of_end v.iter hend]

/-! ### non-vacuity -/

/-- a cube map with 2 mips: `read_cube_map` then everything is consumed (12 surfaces, 6 read) -/
example :
    let hd : LayoutHeader := { width := 2, height := 2, depth := none, mipmapCount := 2,
                               kind := HeaderKind.dx10 true ResDim.tex2D 1 }
    (match layoutOf hd (.fixed 1) with
     | some (.ok L) =>
       let r := (Dec.new L).step (.readCubeMap 8 6)
       (r.2.1, r.1.pos, r.2.2.length)
     | _ => (DecRes.panic, 0, 0)) = (DecRes.ok, 30, 6) := by decide

end Dds.C08
