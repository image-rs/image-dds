/-
C05 — A decoded pixel does not depend on how it was asked for.

Only property theorems and non-vacuity examples live here; helper lemmas are in
`Proofs/Addr.lean`, `Proofs/AddrBlock.lean` and `Proofs/AddrPlanar.lean`.  All statements are about
the addressing model `Addr.lean`, for every surface size, rectangle, block shape, row pitch and
conversion setting (no bounds).

Reading guide: a decode is a list of `Run`s (writes); `lastWrite bw bh runs row col` is the source
pixel `(sx, sy)` (absolute in the surface) whose decoded value ends up at output pixel `(row, col)`
of the view, `none` if the pixel keeps its previous contents.  `image` applies an arbitrary
per-unit decode function to it.
-/
import DdsModel.Proofs.Addr
import DdsModel.Proofs.AddrBlock
import DdsModel.Proofs.AddrPlanar
import DdsModel.Drv.C05
namespace Dds.C05
open Dds Dds.Addr

/-! ## per-pixel (uncompressed) family -/

/-- **rect = crop, uncompressed family.**  For every surface `W × H`, rectangle inside it, and any
conversion settings of the two decodes (`conv`, native bytes per pixel): output pixel `(i, j)` of the
rectangle decode carries source pixel `(ox+i, oy+j)`, which is what the full decode puts at
`(ox+i, oy+j)`; no pixel outside the `w × h` view is written; and for every row pitch
`≥ w·bpp` the bytes of every write lie inside the addressed part `[row·pitch, row·pitch + w·bpp)` of
an addressed row (so row padding and bytes before / after the view are never touched). -/
theorem rect_eq_crop_pixel (conv convF : Bool) (nbpp nbppF W H ox oy w h : Nat)
    (hb : 0 < BUFFER_BYTES / nbpp) (hbF : 0 < BUFFER_BYTES / nbppF)
    (hw : 0 < w) (hx : ox + w ≤ W) (hy : oy + h ≤ H) :
    (∀ i j, i < w → j < h →
      lastWrite 1 1 (pixelRect conv nbpp W ox oy w h) j i = some (ox + i, oy + j) ∧
      lastWrite 1 1 (pixelRect conv nbpp W ox oy w h) j i =
        lastWrite 1 1 (pixelFull convF nbppF W H) (oy + j) (ox + i)) ∧
    (∀ row col, ¬ (col < w ∧ row < h) → lastWrite 1 1 (pixelRect conv nbpp W ox oy w h) row col = none) ∧
    (∀ r ∈ pixelRect conv nbpp W ox oy w h, ∀ pitch obpp, w * obpp ≤ pitch →
      r.row < h ∧ r.row * pitch ≤ r.byteLo pitch obpp ∧ r.byteHi pitch obpp ≤ r.row * pitch + w * obpp) := by
  obtain ⟨hs, hc⟩ := pixelRect_crop conv nbpp W ox oy w h hb hw hx
  obtain ⟨hsF, hcF⟩ := pixelFull_crop convF nbppF W H hbF (by omega)
  exact crop_pair hs hc hsF hcF hx hy

example : 0 < BUFFER_BYTES / 16 ∧ (0:Nat) < 3 ∧ 2 + 3 ≤ 7 ∧ 1 + 2 ≤ 4 := by decide

/-- the same for the full decode itself (rect = whole surface, offset 0): every pixel is written with
its own source pixel, nothing else is written. -/
theorem full_pixel (conv : Bool) (nbpp W H : Nat) (hb : 0 < BUFFER_BYTES / nbpp) (hw : 0 < W) :
    (∀ i j, i < W → j < H → lastWrite 1 1 (pixelFull conv nbpp W H) j i = some (i, j)) ∧
    (∀ row col, ¬ (col < W ∧ row < H) → lastWrite 1 1 (pixelFull conv nbpp W H) row col = none) :=
  crop_full (pixelFull_crop conv nbpp W H hb hw).1 (pixelFull_crop conv nbpp W H hb hw).2

/-- **fast path = general path** (`COPY_U8/U16/U32/S8`, BGRA swap): the whole-image copy paths put
every source pixel where the general per-row path puts it. -/
theorem fastpath_eq_general (conv : Bool) (nbpp W H : Nat) (hb : 0 < BUFFER_BYTES / nbpp) (hw : 0 < W)
    (row col : Nat) :
    lastWrite 1 1 (copyFull W H) row col = lastWrite 1 1 (pixelFull conv nbpp W H) row col := by
  obtain ⟨hs, hc⟩ := copyFull_crop W H
  obtain ⟨hs', hc'⟩ := pixelFull_crop conv nbpp W H hb hw
  exact lastWrite_eq_of_crop hs hc hs' hc' row col

/-! ## block family: the arithmetic core -/

/-- **rows_partition** (`for_each_block_rect_untyped`): for every block line `k` that is read
(`k < block_lines_to_read`) the row range `rows = [rowStart k, rowEnd k)` is non-empty and inside the
block; its first row is absolute surface row `oy + pixel_row` (so output row `pixel_row + t` receives
surface row `oy + pixel_row + t`); the output ranges `[pixelRow k, pixelRow (k+1))` are consecutive
(hence ordered and disjoint) and end exactly at the rectangle height. -/
theorem rows_partition (g : RectGeom) (hbh : 0 < g.bh) (hh : 0 < g.h) :
    g.pixelRow 0 = 0 ∧ g.pixelRow g.linesToRead = g.h ∧
    ∀ k, k < g.linesToRead →
      g.rowStart k < g.rowEnd k ∧ g.rowEnd k ≤ g.bh ∧
      (g.skipBefore + k) * g.bh + g.rowStart k = g.oy + g.pixelRow k ∧
      g.pixelRow (k + 1) = g.pixelRow k + (g.rowEnd k - g.rowStart k) ∧
      g.pixelRow k < g.pixelRow (k + 1) ∧ g.pixelRow (k + 1) ≤ g.h ∧
      (g.skipBefore + k) * g.bh < g.oy + g.h := by
  refine ⟨rfl, pixelRow_end g hbh, fun k hk => ?_⟩
  have hk' := lt_linesToRead g hbh hk
  obtain ⟨r1, r2, r3, r4, r5⟩ := rows_facts g hbh hh k hk'
  exact ⟨r1, r2, r3, r4, by omega, r5, hk'⟩

example : (⟨4, 4, 3, 5, 6, 9⟩ : RectGeom).linesToRead = 3 ∧ (⟨4, 4, 3, 5, 6, 9⟩ : RectGeom).pixelRow 1 = 3 := by decide

/-- the skipped / read / skipped block lines add up to the surface's block lines, and the
subtractions of the code do not underflow. -/
theorem block_lines_account (g : RectGeom) (H : Nat) (hbh : 0 < g.bh) (hy : g.oy + g.h ≤ H) :
    g.skipBefore ≤ divCeil (g.h + g.oy) g.bh ∧ divCeil (g.h + g.oy) g.bh ≤ divCeil H g.bh ∧
    g.skipBefore + g.linesToRead + g.skipAfter H = divCeil H g.bh := by
  have a : g.skipBefore ≤ divCeil (g.h + g.oy) g.bh :=
    Nat.le_trans (div_le_divCeil g.oy g.bh) (divCeil_mono hbh (Nat.le_add_left _ _))
  have b : divCeil (g.h + g.oy) g.bh ≤ divCeil H g.bh := divCeil_mono hbh (by omega)
  refine ⟨a, b, ?_⟩
  unfold RectGeom.skipAfter RectGeom.linesToRead
  omega

/-- **block_range_covers**: the block range `[brStart, brEnd)` of a block line covers the pixel
columns `[ox, ox+w)` and is minimal (dropping the first or the last block would lose a column);
its length is the block count `div_ceil(width_offset + w, bw)` the pixel functions expect. -/
theorem block_range_covers (g : RectGeom) (hbw : 0 < g.bw) (hw : 0 < g.w) :
    g.brStart * g.bw ≤ g.ox ∧ g.ox < (g.brStart + 1) * g.bw ∧
    g.ox + g.w ≤ g.brEnd * g.bw ∧ (g.brEnd - 1) * g.bw < g.ox + g.w ∧
    g.brStart < g.brEnd ∧ g.brEnd - g.brStart = divCeil (g.widthOffset + g.w) g.bw := by
  have h1 := Nat.div_mul_le_self g.ox g.bw
  have h2 : g.ox < g.ox / g.bw * g.bw + g.bw := Nat.lt_div_mul_add hbw
  have d1 := le_divCeil_mul (g.ox + g.w) hbw
  have hlen := brLen_eq g hbw
  have hpos : 0 < divCeil (g.widthOffset + g.w) g.bw := divCeil_pos (by omega) hbw
  have d2 : (g.brEnd - 1) * g.bw < g.ox + g.w := (lt_divCeil_iff hbw).1 (by unfold RectGeom.brEnd at hlen ⊢; omega)
  exact ⟨h1, by rw [Nat.succ_mul]; exact h2, d1, d2, by omega, hlen⟩

example : (⟨4, 4, 3, 5, 6, 9⟩ : RectGeom).brStart = 0 ∧ (⟨4, 4, 3, 5, 6, 9⟩ : RectGeom).brEnd = 3 := by decide

/-- **width_offset_ok**: the width offset is a position inside the first block of the range
(`< bw`, so it fits the `u8` field for all block widths ≤ 255); the separately handled first chunk of
`min(bw - wo, w)` pixels is non-empty, stays in that block, and what follows starts on a block
boundary (or nothing follows). -/
theorem width_offset_ok (g : RectGeom) (hbw : 0 < g.bw) (hw : 0 < g.w) :
    g.widthOffset < g.bw ∧ g.brStart * g.bw + g.widthOffset = g.ox ∧
    0 < min (g.bw - g.widthOffset) g.w ∧ g.widthOffset + min (g.bw - g.widthOffset) g.w ≤ g.bw ∧
    (g.w - min (g.bw - g.widthOffset) g.w = 0 ∨
      (g.ox + min (g.bw - g.widthOffset) g.w) % g.bw = 0) := by
  have h1 := Nat.div_add_mod g.ox g.bw
  have h2 := Nat.mod_lt g.ox hbw
  have e : g.brStart * g.bw = g.bw * (g.ox / g.bw) := Nat.mul_comm _ _
  unfold RectGeom.widthOffset
  refine ⟨h2, by omega, by omega, by omega, ?_⟩
  by_cases hc : g.bw - g.ox % g.bw < g.w
  · right
    have : g.ox + min (g.bw - g.ox % g.bw) g.w = g.bw * (g.ox / g.bw + 1) := by
      rw [Nat.mul_add, Nat.mul_one]; omega
    rw [this]; exact Nat.mul_mod_right _ _
  · left; omega

/-- **chunks_partition** (`ChannelConversionBuffer::process_blocks`): with
`buffer_width = 3072 / (native_bpp · height) ≥ bw` the preferred chunk size
`round_down(buffer_width, bw)` is positive (so `step_by` does not panic) and a multiple of `bw`;
the chunks `[cs, min(cs + pref, width))` tile `[0, width)` — every column lies in exactly one chunk
—, every chunk starts on a block boundary with `block_offset · bw = cs`, and the pixels decoded for
a chunk (`chunk_size · height` pixels of `native_bpp` bytes) fit the 3072-byte buffer. -/
theorem chunks_partition (bw nbpp height width pref : Nat) (hbw : 0 < bw)
    (hfit : bw ≤ BUFFER_BYTES / (nbpp * height))
    (hpref : pref = roundDown (BUFFER_BYTES / (nbpp * height)) bw) :
    0 < pref ∧ pref % bw = 0 ∧
    (∀ x, x < width → ∃ cs ∈ stepStarts width pref, cs ≤ x ∧ x < min (cs + pref) width ∧
      ∀ cs' ∈ stepStarts width pref, cs' ≤ x → x < min (cs' + pref) width → cs' = cs) ∧
    (∀ cs ∈ stepStarts width pref, cs < width ∧ cs % bw = 0 ∧ cs / bw * bw = cs ∧
      (min (cs + pref) width - cs) * nbpp * height ≤ BUFFER_BYTES) := by
  obtain ⟨p1, p2, p3⟩ := roundDown_props hbw hfit
  rw [← hpref] at p1 p2 p3
  refine ⟨p1, p2, fun x hx => ?_, fun cs hcs => ?_⟩
  · obtain ⟨cs, hcs, h1, h2⟩ := stepStarts_tiles p1 hx
    refine ⟨cs, hcs, h1, h2, fun cs' hcs' l1 l2 => ?_⟩
    -- both chunks are chunk `x / pref`
    obtain ⟨k, -, rfl⟩ := (mem_stepStarts p1).1 hcs
    obtain ⟨k', -, rfl⟩ := (mem_stepStarts p1).1 hcs'
    rw [← Nat.div_eq_of_lt_le l1 (by rw [Nat.succ_mul]; omega), ← Nat.div_eq_of_lt_le h1 (by rw [Nat.succ_mul]; omega)]
  · have e := stepStart_aligned p2 hcs
    refine ⟨stepStart_lt p1 hcs, by rw [← e]; exact Nat.mul_mod_left _ _, e, ?_⟩
    have hc : min (cs + pref) width - cs ≤ BUFFER_BYTES / (nbpp * height) := by omega
    have := Nat.mul_le_mul_right (nbpp * height) hc
    have := Nat.div_mul_le_self BUFFER_BYTES (nbpp * height)
    rw [Nat.mul_assoc]
    omega

example : (4 : Nat) ≤ BUFFER_BYTES / (16 * 4) ∧ 4 ≤ roundDown (BUFFER_BYTES / (16 * 4)) 4 ∧
    roundDown (BUFFER_BYTES / (16 * 4)) 4 % 4 = 0 := by decide

/-- `pref_pos`, finite part: for every block shape of the format table (2×1, 8×1, 4×4 and the 13 ASTC
shapes), every native pixel size (1..16 bytes) and every range height `1..bh` the buffer width is at
least one block, so `chunks_partition` applies to every call the code can make. -/
theorem pref_pos :
    ∀ s ∈ [(2, 1), (8, 1), (4, 4), (5, 4), (5, 5), (6, 5), (6, 6), (8, 5), (8, 6), (8, 8), (10, 5), (10, 6),
           (10, 8), (10, 10), (12, 10), (12, 12)],
    ∀ nbpp ∈ [1, 2, 3, 4, 6, 8, 12, 16], nbpp * s.2 * s.1 ≤ BUFFER_BYTES ∧
      ∀ height ∈ List.range' 1 s.2, s.1 ≤ BUFFER_BYTES / (nbpp * height) := by
  -- one block fits the buffer; every range height is at most the block height (`buf_fits`)
  suffices h : ∀ s : Nat × Nat, s ∈ _ → ∀ nbpp : Nat, nbpp ∈ _ → 0 < nbpp ∧ nbpp * s.2 * s.1 ≤ BUFFER_BYTES from
    fun s hs nbpp hn =>
    ⟨(h s hs nbpp hn).2, fun height hh => by
      have := List.mem_range'_1.1 hh
      exact buf_fits (h s hs nbpp hn).1 (by omega) (by omega) (h s hs nbpp hn).2⟩
  decide

/-! ## block family: assembled -/

/-- **rect = crop, block family** (all block shapes `bw × bh`, all three `ProcessBlocksFn` shapes
incl. the aligned 4×4 fast path taken or not per block line (`fastAt` arbitrary), with or without
channel conversion, all surface sizes and rectangles).  Hypotheses (`RectOk`): `g.bw = p.bw > 0`,
`bh > 0`, the shape is one the helper is instantiated for (4×4 helper: `bh = 4`; 2×1 helper:
`bh = 1`), the rectangle is non-empty, and with conversion one block fits the conversion buffer
(`native_bpp · bh · bw ≤ 3072`, see `pref_pos`).
Conclusions: output pixel `(i, j)` of the rectangle decode carries source pixel `(ox+i, oy+j)` — the
same the full decode (any settings) puts at `(ox+i, oy+j)`; nothing outside the `w × h` view is
written; every write stays in the addressed bytes of an addressed row for every pitch `≥ w·bpp`;
every run reads inside one block. -/
theorem rect_eq_crop_block (p : Proc) (g : RectGeom) (fastAt fastAtF : Nat → Bool) (conv convF : Bool)
    (nbpp nbppF W H : Nat) (ok : RectOk p g conv nbpp)
    (hfitF : convF = true → 0 < nbppF ∧ nbppF * g.bh * p.bw ≤ BUFFER_BYTES)
    (hx : g.ox + g.w ≤ W) (hy : g.oy + g.h ≤ H) :
    (∀ i j, i < g.w → j < g.h →
      lastWrite g.bw g.bh (blockRect p g fastAt conv nbpp) j i = some (g.ox + i, g.oy + j) ∧
      lastWrite g.bw g.bh (blockRect p g fastAt conv nbpp) j i =
        lastWrite g.bw g.bh (blockFull p g.bh fastAtF convF nbppF W H) (g.oy + j) (g.ox + i)) ∧
    (∀ row col, ¬ (col < g.w ∧ row < g.h) →
      lastWrite g.bw g.bh (blockRect p g fastAt conv nbpp) row col = none) ∧
    (∀ r ∈ blockRect p g fastAt conv nbpp, ∀ pitch obpp, g.w * obpp ≤ pitch →
      r.row < g.h ∧ r.row * pitch ≤ r.byteLo pitch obpp ∧ r.byteHi pitch obpp ≤ r.row * pitch + g.w * obpp) ∧
    (∀ r ∈ blockRect p g fastAt conv nbpp, r.px + r.n ≤ g.bw ∧ r.py < g.bh) := by
  obtain ⟨hs, hc, hu⟩ := blockRect_spec p g fastAt conv nbpp ok
  obtain ⟨hsF, hcF, -⟩ := blockFull_spec p g.bh fastAtF convF nbppF W H (ok.bw ▸ ok.bwpos) ok.bhpos ok.bhok
    (Nat.lt_of_lt_of_le ok.w (Nat.le_trans (Nat.le_add_left _ _) hx)) hfitF
  rw [← ok.bw] at hsF
  obtain ⟨h1, h2, h3⟩ := crop_pair hs hc hsF hcF hx hy
  exact ⟨h1, h2, h3, hu⟩

example : RectOk .four ⟨4, 4, 3, 5, 6, 9⟩ true 16 :=
  ⟨rfl, by decide, by decide, rfl, by decide, by decide, fun _ => by decide⟩
example : RectOk (.general 12) ⟨12, 12, 7, 1, 30, 40⟩ true 16 :=
  ⟨rfl, by decide, by decide, trivial, by decide, by decide, fun _ => by decide⟩
example : RectOk .two ⟨2, 1, 1, 0, 5, 3⟩ false 3 :=
  ⟨rfl, by decide, by decide, rfl, by decide, by decide, fun h => by cases h⟩

/-- the full decode of the block family: every pixel `(i, j)` of the surface gets its own source pixel,
nothing else is written. -/
theorem full_block (p : Proc) (bh : Nat) (fastAt : Nat → Bool) (conv : Bool) (nbpp W H : Nat)
    (hbw : 0 < p.bw) (hbh : 0 < bh) (hok : p.bhOk bh) (hW : 0 < W)
    (hfit : conv = true → 0 < nbpp ∧ nbpp * bh * p.bw ≤ BUFFER_BYTES) :
    (∀ i j, i < W → j < H → lastWrite p.bw bh (blockFull p bh fastAt conv nbpp W H) j i = some (i, j)) ∧
    (∀ row col, ¬ (col < W ∧ row < H) → lastWrite p.bw bh (blockFull p bh fastAt conv nbpp W H) row col = none) := by
  obtain ⟨hs, hc, -⟩ := blockFull_spec p bh fastAt conv nbpp W H hbw hbh hok hW hfit
  exact crop_full hs hc

/-- **decoding into a non-native channel layout = native decode + channel mapping, addressing part**:
the source pixel that reaches an output pixel does not depend on whether / how the channel conversion
buffer is used (conversion on or off, any native pixel size, fast path or not); the colour values then
differ exactly by the per-pixel table of `channel_map`. -/
theorem conversion_independent (p : Proc) (g : RectGeom) (fastAt fastAt' : Nat → Bool) (conv conv' : Bool)
    (nbpp nbpp' : Nat) (ok : RectOk p g conv nbpp) (ok' : RectOk p g conv' nbpp') (row col : Nat) :
    lastWrite g.bw g.bh (blockRect p g fastAt conv nbpp) row col =
      lastWrite g.bw g.bh (blockRect p g fastAt' conv' nbpp') row col := by
  obtain ⟨hs, hc, -⟩ := blockRect_spec p g fastAt conv nbpp ok
  obtain ⟨hs', hc', -⟩ := blockRect_spec p g fastAt' conv' nbpp' ok'
  exact lastWrite_eq_of_crop hs hc hs' hc' row col

/-! ## line buffer -/

/-- **`UntypedLineBuffer`** hands out the lines of the reader in order, whatever its capacity
(`64 KiB / bytes_per_line` clamped to `[1, height]`): the k-th `next_line` is line `k`, and there are
exactly `height` of them. -/
theorem line_buffer_in_order (bytesPerLine height : Nat) :
    lineBuffer bytesPerLine height = List.range height := by
  unfold lineBuffer
  rcases Nat.eq_zero_or_pos height with rfl | h0
  · rfl
  · rw [lbLines_eq _ (lbCapacity_pos _ _ h0) _ _ _ (Nat.le_refl _)]
    simp only [Nat.zero_add, List.map_id']

/-! ## bi-planar family -/

/-- chroma-line accounting of `for_each_bi_planar_rect`: the skipped / read / skipped chroma lines add
up to the surface's chroma lines without underflow, the lines read start at the chroma line of row
`oy` and end with the chroma line of row `oy + h - 1` (minimal cover). -/
theorem planar_lines_account (g : PlGeom) (hs : 0 < g.ssy) (hh : 0 < g.h) (hy : g.oy + g.h ≤ g.H) :
    g.uvBefore + g.uvLines + g.uvAfter = divCeil g.H g.ssy ∧
    g.uvBefore + g.uvLines = divCeil (g.oy + g.h) g.ssy ∧
    g.uvBefore * g.ssy ≤ g.oy ∧ g.oy < (g.uvBefore + 1) * g.ssy ∧
    g.oy + g.h ≤ (g.uvBefore + g.uvLines) * g.ssy ∧ (g.uvBefore + g.uvLines - 1) * g.ssy < g.oy + g.h := by
  obtain ⟨a, b, e⟩ := uvLines_eq g hs hh hy
  refine ⟨?_, e, Nat.div_mul_le_self _ _, by rw [Nat.succ_mul]; exact Nat.lt_div_mul_add hs, ?_, ?_⟩
  · unfold PlGeom.uvLines PlGeom.uvAfter at e ⊢
    omega
  · rw [e]
    exact le_divCeil_mul _ hs
  · rw [e]
    exact (lt_divCeil_iff hs).1 (by omega)

/-- row level of the bi-planar family for sub-sampling 2 (NV12, P010, P016), stated directly on
`process_bi_planar_helper::<2, ..>`: one row of a rectangle decode without channel conversion (the helper on
the slices `plane1[ox .. ox+w]`, `uv[ox/2 .. div_ceil(ox+w, 2)]` with `offset = ox % 2`) computes output
pixel `c` from luma sample `ox + c` and chroma sample `(ox + c) / 2` — exactly the samples the full decode
uses for surface column `ox + c` — writes every pixel of the row and nothing outside it.
(The `SSX = 2` case of `planarHelper_spec`; the assembled statement for whole views, every sub-sampling and
the conversion chunks is `rect_eq_crop_planar` below.) -/
theorem rect_eq_crop_planar_row (ox w yoff ly cy row : Nat) :
    (∀ r ∈ planarHelper 2 (ox % 2) w yoff, ∀ col, r.col ≤ col → col < r.col + r.n →
      col < w ∧
      (PlRun.shift row 0 ox ly (ox / 2) cy r).srcAt 2 col = (ox + col, ly, (ox + col) / 2, cy, yoff)) ∧
    (∀ c, c < w → ∃ r ∈ planarHelper 2 (ox % 2) w yoff, r.col ≤ c ∧ c < r.col + r.n) := by
  have hsp := planarHelper_spec 2 (ox % 2) w yoff (by decide) (Nat.mod_lt _ (by decide))
  refine ⟨fun r hr col h1 h2 => ?_, hsp.cover⟩
  have s := hsp.sound r hr
  refine ⟨by omega, ?_⟩
  simp only [PlRun.srcAt, PlRun.shift, Prod.mk.injEq]
  omega

example : ∃ r ∈ planarHelper 2 (3 % 2) 4 1, r.col ≤ 2 ∧ 2 < r.col + r.n := by decide

/-- **the full decode of the bi-planar family** (`for_each_bi_planar`), for every sub-sampling
`(ssx, ssy)` with `ssx, ssy ≥ 1`, every surface size, with or without channel conversion (`PlOk`: with
conversion one macro pixel fits the buffer, `ssx ≤ 3072 / native_bpp`): output pixel `(i, j)` is computed
from luma sample `(i, j)`, chroma sample `(i / ssx, j / ssy)` and `y` argument `j % ssy`; nothing else is
written.  The full decode is the rectangle decode of the whole surface (`planarFull_eq_rect`), so this
is `rect_eq_crop_planar` at offset 0. -/
theorem full_planar (conv : Bool) (nbpp ssx ssy W H : Nat) (ok : PlOk ssx ssy conv nbpp) :
    (∀ i j, i < W → j < H →
      lastWritePl ssx (planarFull conv nbpp ssx ssy W H) j i = some (i, j, i / ssx, j / ssy, j % ssy)) ∧
    (∀ row col, ¬ (col < W ∧ row < H) → lastWritePl ssx (planarFull conv nbpp ssx ssy W H) row col = none) := by
  obtain ⟨hs, hc⟩ := planarFull_crop conv nbpp ssx ssy W H ok
  refine ⟨fun i j hi hj => ?_, lastWritePl_outside hs⟩
  rw [lastWritePl_crop hs hc i j hi hj, Nat.zero_add, Nat.zero_add]

/-- **rect = crop, bi-planar family — assembled** (`for_each_bi_planar_rect` against
`for_each_bi_planar`), for every sub-sampling `(ssx, ssy)` with `ssx, ssy ≥ 1` (shipped: `(2, 2)`),
every surface `W × H`, every rectangle inside it (any offset parity), with or without channel conversion
on either side (`PlOk`: with conversion `ssx ≤ 3072 / native_bpp`), every row pitch.
Conclusions (as in `rect_eq_crop_block`): (1) output pixel `(i, j)` of the rectangle decode is computed
from luma sample `(ox+i, oy+j)`, chroma sample `((ox+i)/ssx, (oy+j)/ssy)` and `y` argument `(oy+j) % ssy`
— the same the full decode (any settings) uses for `(ox+i, oy+j)`; (2) nothing outside the `w × h` view is
written; (3) every write stays in the addressed bytes of an addressed row for every pitch `≥ w·bpp`;
(4) every run feeds slots of ONE macro pixel (one chroma sample; slots `0..n`, see `imagePl`), and every
sample it reads lies inside its plane (`luma x < W`, `luma y < H`, `chroma x < div_ceil(W, ssx)`,
`chroma y < div_ceil(H, ssy)`).
Assembles (i) the `y_offset` loops with the running counter `y` — rows before the rectangle skipped,
loop left after it, `y = (uv_before + k)·ssy` at every chroma line (`mem_planarRect`) —
and (ii) the chunk composition of `ChannelConversionBuffer::process_bi_planar` — the offset chunk ends on
a macro-pixel boundary, `preferred_chunk_size` is a positive multiple of `ssx`, so every chunk start is
aligned and `plane2_start · ssx = chunk_start` (`convPlanar_spec`). -/
theorem rect_eq_crop_planar (g : PlGeom) (conv convF : Bool) (nbpp nbppF W : Nat)
    (ok : PlOk g.ssx g.ssy conv nbpp) (okF : PlOk g.ssx g.ssy convF nbppF)
    (hx : g.ox + g.w ≤ W) (hy : g.oy + g.h ≤ g.H) :
    (∀ i j, i < g.w → j < g.h →
      lastWritePl g.ssx (planarRect conv nbpp g) j i =
        some (g.ox + i, g.oy + j, (g.ox + i) / g.ssx, (g.oy + j) / g.ssy, (g.oy + j) % g.ssy) ∧
      lastWritePl g.ssx (planarRect conv nbpp g) j i =
        lastWritePl g.ssx (planarFull convF nbppF g.ssx g.ssy W g.H) (g.oy + j) (g.ox + i)) ∧
    (∀ row col, ¬ (col < g.w ∧ row < g.h) → lastWritePl g.ssx (planarRect conv nbpp g) row col = none) ∧
    (∀ r ∈ planarRect conv nbpp g, ∀ pitch obpp, g.w * obpp ≤ pitch →
      r.row < g.h ∧ r.row * pitch ≤ r.byteLo pitch obpp ∧ r.byteHi pitch obpp ≤ r.row * pitch + g.w * obpp) ∧
    (∀ r ∈ planarRect conv nbpp g, r.px + r.n ≤ g.ssx ∧ r.ly < g.H ∧ r.cy < divCeil g.H g.ssy ∧
      ∀ t, t < r.n → r.lx + t < W ∧ r.cx + (r.px + t) / g.ssx < divCeil W g.ssx) := by
  obtain ⟨hs, hc⟩ := planarRect_crop conv nbpp g ok hy
  obtain ⟨hsF, hcF⟩ := planarFull_crop convF nbppF g.ssx g.ssy W g.H okF
  refine ⟨fun i j hi hj => ?_, lastWritePl_outside hs,
    fun r hr pitch obpp _ => ⟨(hs r hr).1, bytes_in_row (hs r hr).2.1⟩, fun r hr => ?_⟩
  · rw [lastWritePl_crop hs hc i j hi hj, lastWritePl_crop hsF hcF (g.ox + i) (g.oy + j) (by omega) (by omega),
      Nat.zero_add, Nat.zero_add]
    exact ⟨rfl, rfl⟩
  · obtain ⟨h1, h2, h3, h4, h5, h6, h7, h8, h9⟩ := hs r hr
    have hcy : r.cy * g.ssy ≤ g.oy + r.row := by rw [h8]; exact Nat.div_mul_le_self _ _
    refine ⟨h5, by omega, by rw [lt_divCeil_iff ok.sy]; omega, fun t ht => ?_⟩
    rw [Nat.div_eq_of_lt (by omega : r.px + t < g.ssx), Nat.add_zero, lt_divCeil_iff ok.sx]
    omega

/-- the hypotheses are satisfiable: NV12-like `5 × 3` surface, rectangle `3 × 2` at the odd offset `(1, 1)`,
without conversion and with a conversion buffer of exactly one macro pixel (`3072 / 1536 = 2`, so the
row is cut into the offset chunk and aligned chunks of 2). -/
example : PlOk 2 2 false 4 ∧ PlOk 2 2 true 1536 ∧ (1 : Nat) + 3 ≤ 5 ∧ (1 : Nat) + 2 ≤ 3 :=
  ⟨⟨by decide, by decide, fun h => by cases h⟩, ⟨by decide, by decide, fun _ => by decide⟩, by decide, by decide⟩
/-- ... and the model really computes it: pixel `(2, 1)` of that rectangle is surface pixel `(3, 2)` with
chroma sample `(1, 1)`, `y` argument 0, through the chunked conversion path as well; the whole `3 × 2`
view agrees with the crop of the full decode and the pixel right of / below the view is untouched. -/
example : lastWritePl 2 (planarRect false 4 ⟨2, 2, 3, 1, 1, 3, 2⟩) 1 2 = some (3, 2, 1, 1, 0) ∧
    lastWritePl 2 (planarRect true 1536 ⟨2, 2, 3, 1, 1, 3, 2⟩) 1 2 = some (3, 2, 1, 1, 0) ∧
    (∀ j ∈ List.range 2, ∀ i ∈ List.range 3,
      lastWritePl 2 (planarRect true 1536 ⟨2, 2, 3, 1, 1, 3, 2⟩) j i =
        lastWritePl 2 (planarFull false 4 2 2 5 3) (1 + j) (1 + i)) ∧
    lastWritePl 2 (planarRect true 1536 ⟨2, 2, 3, 1, 1, 3, 2⟩) 0 3 = none ∧
    lastWritePl 2 (planarRect true 1536 ⟨2, 2, 3, 1, 1, 3, 2⟩) 2 0 = none ∧
    (planarRect true 1536 ⟨2, 2, 3, 1, 1, 3, 2⟩).length = 4 :=
  ⟨by decide, by decide, by decide, by decide, by decide, by decide⟩
/-- asymmetric sub-sampling `(4, 1)` with offset `ox % 4 = 3` -/
example : PlOk 4 1 true 16 ∧
    lastWritePl 4 (planarRect true 16 ⟨4, 1, 3, 3, 1, 6, 2⟩) 1 4 = some (7, 2, 1, 2, 0) := by
  refine ⟨⟨by decide, by decide, fun _ => by decide⟩, by decide⟩

/-- **rect = crop for the decoded values**: for any slot-wise pixel function `f luma chroma y` and any
plane contents, pixel `(i, j)` of the rectangle decode equals pixel `(ox+i, oy+j)` of the full decode. -/
theorem rect_eq_crop_planar_image {β₁ β₂ γ : Type} (f : β₁ → β₂ → Nat → γ) (plane1 : Nat → Nat → β₁)
    (plane2 : Nat → Nat → β₂) (g : PlGeom) (conv convF : Bool) (nbpp nbppF W : Nat)
    (ok : PlOk g.ssx g.ssy conv nbpp) (okF : PlOk g.ssx g.ssy convF nbppF)
    (hx : g.ox + g.w ≤ W) (hy : g.oy + g.h ≤ g.H) (i j : Nat) (hi : i < g.w) (hj : j < g.h) :
    imagePl g.ssx f plane1 plane2 (planarRect conv nbpp g) j i =
      imagePl g.ssx f plane1 plane2 (planarFull convF nbppF g.ssx g.ssy W g.H) (g.oy + j) (g.ox + i) ∧
    imagePl g.ssx f plane1 plane2 (planarRect conv nbpp g) j i =
      some (f (plane1 (g.ox + i) (g.oy + j)) (plane2 ((g.ox + i) / g.ssx) ((g.oy + j) / g.ssy))
        ((g.oy + j) % g.ssy)) := by
  obtain ⟨e1, e2⟩ := (rect_eq_crop_planar g conv convF nbpp nbppF W ok okF hx hy).1 i j hi hj
  unfold imagePl
  rw [← e2, e1]
  exact ⟨rfl, rfl⟩

/-- `PlOk`, finite part: for the shipped sub-sampling 2 (and every `ssx < 16` a `u8` pair of the format
table could hold) and every native pixel size `1..16` bytes the conversion buffer holds at least one macro
pixel, so `step_by(preferred_chunk_size)` never sees 0. -/
theorem planar_pref_pos :
    ∀ ssx ∈ List.range' 1 15, ∀ nbpp ∈ [1, 2, 3, 4, 6, 8, 12, 16],
      ssx ≤ BUFFER_BYTES / nbpp ∧ 0 < roundDown (BUFFER_BYTES / nbpp) ssx := by
  decide

/-! ## channel mapping and decoder selection -/

/-- **channel_map, structure of the 16-entry `convert_channels` table** (complete evaluation):
the output has the target's channel count and reads only channels the native pixel has; the identity
entries copy; grey replicates into all colour channels; a colour source gives its first (red) channel
as grey; the output alpha is the source alpha if there is one and opaque (`ONE`) otherwise; an
alpha-only source gives black (`ZERO`) colour. -/
theorem channel_map :
    (∀ f ∈ allChannels, ∀ t ∈ allChannels,
      (chanMap f t).length = t.count ∧ (∀ s ∈ chanMap f t, s.inRange f.count = true)) ∧
    (∀ c ∈ allChannels, chanMap c c = (List.range c.count).map .ch) ∧
    chanMap .gray .rgb = [.ch 0, .ch 0, .ch 0] ∧ chanMap .gray .rgba = [.ch 0, .ch 0, .ch 0, .one] ∧
    chanMap .rgb .gray = [.ch 0] ∧ chanMap .rgba .gray = [.ch 0] ∧
    chanMap .rgb .rgba = [.ch 0, .ch 1, .ch 2, .one] ∧ chanMap .rgba .rgb = [.ch 0, .ch 1, .ch 2] ∧
    chanMap .rgba .alpha = [.ch 3] ∧ chanMap .gray .alpha = [.one] ∧ chanMap .rgb .alpha = [.one] ∧
    chanMap .alpha .gray = [.zero] ∧ chanMap .alpha .rgb = [.zero, .zero, .zero] ∧
    chanMap .alpha .rgba = [.zero, .zero, .zero, .ch 0] := by
  decide

/-- mapping a native pixel to its own layout is the identity (on pixels of the right length) -/
theorem mapPixel_id (z o a b c d : Nat) :
    mapPixel z o [a] (chanMap .gray .gray) = [a] ∧
    mapPixel z o [a] (chanMap .alpha .alpha) = [a] ∧
    mapPixel z o [a, b, c] (chanMap .rgb .rgb) = [a, b, c] ∧
    mapPixel z o [a, b, c, d] (chanMap .rgba .rgba) = [a, b, c, d] := by
  refine ⟨rfl, rfl, rfl, rfl⟩

/-- **decoder selection** (`DecoderSet::get_decoder`): if some decoder of the set is native for the
requested colour it is the one chosen (no conversion happens); otherwise the chosen decoder has the
requested precision, so the conversion is a pure channel mapping at that precision; and a decoder is
found whenever the set has one of that precision. -/
theorem getDecoder_spec (natives : List Color) (c : Color) :
    (c ∈ natives → getDecoder natives c = some c) ∧
    (∀ d, getDecoder natives c = some d → d ∈ natives ∧ d.pr = c.pr) ∧
    ((∃ d ∈ natives, d.pr = c.pr) → (getDecoder natives c).isSome) := by
  unfold getDecoder
  refine ⟨fun hc => ?_, fun d hd => ?_, fun ⟨d, hd, hp⟩ => ?_⟩
  · obtain ⟨d, e, -, hb⟩ := exists_find?_of_mem (p := (· == c)) hc (beq_self_eq_true c)
    rw [e, eq_of_beq hb]
  · cases h1 : natives.find? (· == c) with
    | some d' =>
      rw [h1] at hd
      obtain rfl : d' = d := Option.some.inj hd
      exact ⟨List.mem_of_find?_eq_some h1, by rw [eq_of_beq (List.find?_some (p := fun x : Color => x == c) h1)]⟩
    | none =>
      rw [h1] at hd
      exact ⟨List.mem_of_find?_eq_some hd, eq_of_beq (List.find?_some (p := fun x : Color => x.pr == c.pr) hd)⟩
  · cases natives.find? (· == c) with
    | some d' => rfl
    | none =>
      obtain ⟨d', e, -⟩ := exists_find?_of_mem (p := (·.pr == c.pr)) hd (beq_iff_eq.2 hp)
      rw [e]
      rfl

/-- every format of the driver's table finds a decoder for each of the 12 colours, and the decoder
found is the exact native one whenever the set has it (finite check over the table). -/
theorem table_decoders_total :
    ∀ natives ∈ [Drv.C05.stdNat .gray, Drv.C05.stdNat .alpha, Drv.C05.stdNat .rgb, Drv.C05.stdNat .rgba,
                 Drv.C05.stdNat .rgb ++ [⟨.rgba, .u8⟩], Drv.C05.stdNat .rgba ++ Drv.C05.stdNat .rgb],
    ∀ ch ∈ allChannels, ∀ pr ∈ allPrecisions,
      (getDecoder natives ⟨ch, pr⟩).isSome ∧
      ((⟨ch, pr⟩ : Color) ∈ natives → getDecoder natives ⟨ch, pr⟩ = some ⟨ch, pr⟩) := by
  decide

/-! ## locality -/

/-- **locality**: the decoded value at an output pixel is a function of the one encoded unit that
contains its source pixel — two data sets that agree on that unit give the same pixel (for any
per-unit decode function and any run list; which unit that is, is fixed by `rect_eq_crop_*`). -/
theorem locality {β γ : Type} (bw bh : Nat) (dec : β → Nat → Nat → γ) (data data' : Nat → Nat → β)
    (runs : List Run) (row col sx sy : Nat) (hsrc : lastWrite bw bh runs row col = some (sx, sy))
    (hagree : data (sx / bw) (sy / bh) = data' (sx / bw) (sy / bh)) :
    image bw bh dec data runs row col = image bw bh dec data' runs row col := by
  unfold image
  rw [hsrc]
  simp only [Option.map_some]
  rw [hagree]

end Dds.C05
