/-
C06 — Surface decoding keeps the documented stream-position contract.

All statements are about the model `Stream.lean` of `dds::decode` / `dds::decode_rect`:
for every format family with admissible unit sizes (`Fam.WF`; `formatTable_wf` shows every row of
the format table is admissible), every colour, every surface size and every rect, every memory
limit, every stream (length, fault offset, seek behaviour), every short-read pattern and every
allocator behaviour — no bound on sizes. Helper lemmas: `Proofs/Stream.lean`, `Proofs/StreamPaths.lean`.
-/
import DdsModel.Proofs.StreamPaths
import DdsModel.Drv.C06
namespace Dds.C06
open Dds Dds.Stream

/-- the allocator grants every request that the budget admits -/
def AllocatorGrants (e : Env) : Prop := ∀ n, e.allocOk n = true

/-- every row of the format table has admissible unit sizes, and a specialised whole-image decoder
only for a colour whose pixels have exactly the encoded size -/
theorem formatTable_wf : ∀ p ∈ formatTable, p.2.WF := by decide

/-- Validation accepts every call whose surface has at most `isize::MAX` encoded bytes and whose
rect lies inside the surface (so the theorems below, which assume `plan … = .ok ops`, speak about
all of these), and it accepts nothing else. -/
theorem validation_accepts_iff {f : Fam} (hf : f.WF) (c : Colour) (call : Call) :
    (∃ ops, plan f c call = .ok ops) ↔
      (call.bytes f ≤ ISIZE_MAX ∧
        match call with
        | .full _ _ => True
        | .rect W H x y w h => if w = 0 ∨ h = 0 then x ≤ W ∧ y ≤ H else x + w ≤ W ∧ y + h ≤ H) := by
  show _ ↔ accepts f call
  constructor
  · rintro ⟨ops, h⟩
    refine Decidable.by_contra fun ha => ?_
    rw [plan_rejected hf c ha] at h; cases h
  · exact fun ha => (plan_accepted hf c ha).imp fun _ h => h.1

/-- **Every allocation precedes the first reader operation**, on every path (full strength; this is
what the repair `fix: allocate decode buffers before moving the reader` established). -/
theorem allocs_precede_reader {f : Fam} (hf : f.WF) {c : Colour} {call : Call} {ops : List Op}
    (h : plan f c call = .ok ops) : allocFirst ops :=
  (plan_facts hf h).1.af

/-- the reader operations of every path add up to the surface's encoded byte length -/
theorem trace_covers_surface {f : Fam} (hf : f.WF) {c : Colour} {call : Call} {ops : List Op}
    (h : plan f c call = .ok ops) : span ops = call.bytes f :=
  (plan_facts hf h).1.sp

/-- **Success consumes exactly the surface.** On a stream that is long enough and fault-free
(`pos + bytes ≤ e.lim`), with a limit that covers the need and an allocator that grants, the result
is `ok` and the reader is at `pos + surface bytes`, for every short-read pattern. -/
theorem success_consumes_exactly {f : Fam} (hf : f.WF) (c : Colour) (call : Call) {ops : List Op}
    (hplan : plan f c call = .ok ops) (e : Env) (pats : List (List Nat)) (pos limit : Nat)
    (hgrant : AllocatorGrants e) (hlimit : need ops ≤ limit) (hlen : e.len < U64)
    (hfit : pos + call.bytes f ≤ e.lim) :
    (run e pats (plan f c call) pos limit).1 = .ok ∧
    (run e pats (plan f c call) pos limit).2.pos = pos + call.bytes f := by
  have hll := lim_le_len e
  rw [← trace_covers_surface hf hplan] at hfit ⊢
  cases run_outcome hf hplan e pats pos limit (by omega) with
  | ok hr hpos _ => exact ⟨hr, hpos⟩
  | io _ hlim => exact absurd (hlim hlen) (by omega)
  | mem _ hbud => exact absurd (hbud hgrant) (by omega)

/-- **Chunking is irrelevant.** The whole outcome (result, final position, budget, allocator calls,
reader log) is the same for any two short-read / `Interrupted` patterns. -/
theorem chunking_irrelevant (e : Env) (p : Except Res (List Op)) (pos limit : Nat)
    (pats pats' : List (List Nat)) : run e pats p pos limit = run e pats' p pos limit := by
  cases p with
  | error r => rfl
  | ok ops => exact interp_pats e ops pats pats' _

/-- `read_exact` over any reader behaviour equals its specification -/
theorem read_exact_chunking (e : Env) (pat : List Nat) (pos n : Nat) :
    readExact e pat pos n = readSpec e pos n := readExact_eq e pat pos n

/-- **An I/O error is never swallowed (1).** A hard reader error at an offset inside the surface is
returned as `ioError`, wherever it lies (inside a read, a refill, a leading or trailing skip). -/
theorem io_error_propagates {f : Fam} (hf : f.WF) (c : Colour) (call : Call) {ops : List Op}
    (hplan : plan f c call = .ok ops) (e : Env) (pats : List (List Nat)) (pos limit k : Nat)
    (hgrant : AllocatorGrants e) (hlimit : need ops ≤ limit) (hfault : e.fault = some k)
    (hU : pos + call.bytes f < U64) (h1 : pos ≤ k) (h2 : k < pos + call.bytes f) :
    (run e pats (plan f c call) pos limit).1 = .ioError := by
  rw [← trace_covers_surface hf hplan] at hU h2
  cases run_outcome hf hplan e pats pos limit hU with
  | ok _ _ hstop => exact absurd (hstop k (fun o _ => Env.stops_fault hfault o) h1) (by omega)
  | io hr _ => exact hr
  | mem _ hbud => exact absurd (hbud hgrant) (by omega)

/-- **An I/O error is never swallowed (2).** If the stream ends inside the surface and `seek` does
not go past the end, the result is `ioError` (`UnexpectedEof` from `read_exact` or from the
position comparison of `io_skip_exact`). -/
theorem io_error_propagates_eof {f : Fam} (hf : f.WF) (c : Colour) (call : Call) {ops : List Op}
    (hplan : plan f c call = .ok ops) (e : Env) (pats : List (List Nat)) (pos limit : Nat)
    (hgrant : AllocatorGrants e) (hlimit : need ops ≤ limit) (hclamp : e.clampSeek = true)
    (hU : pos + call.bytes f < U64) (h1 : pos ≤ e.len) (h2 : e.len < pos + call.bytes f) :
    (run e pats (plan f c call) pos limit).1 = .ioError := by
  rw [← trace_covers_surface hf hplan] at hU h2
  cases run_outcome hf hplan e pats pos limit hU with
  | ok _ _ hstop => exact absurd (hstop e.len (fun o _ => Env.stops_len hclamp o) h1) (by omega)
  | io hr _ => exact hr
  | mem _ hbud => exact absurd (hbud hgrant) (by omega)

/-- **An I/O error is never swallowed (3).** On *every* stream (any length, any fault, any seek
behaviour), once the limit covers the need: the result is `ioError`, or it is `ok` and the reader
moved by exactly the surface's bytes. There is no success after a failed operation, and with a
`Cursor`-like seek the end of the stream is only missed by a trailing skip. -/
theorem io_error_or_exact_success {f : Fam} (hf : f.WF) (c : Colour) (call : Call) {ops : List Op}
    (hplan : plan f c call = .ok ops) (e : Env) (pats : List (List Nat)) (pos limit : Nat)
    (hgrant : AllocatorGrants e) (hlimit : need ops ≤ limit) (hU : pos + call.bytes f < U64) :
    (run e pats (plan f c call) pos limit).1 = .ioError ∨
    ((run e pats (plan f c call) pos limit).1 = .ok ∧
     (run e pats (plan f c call) pos limit).2.pos = pos + call.bytes f) := by
  rw [← trace_covers_surface hf hplan] at hU ⊢
  cases run_outcome hf hplan e pats pos limit hU with
  | ok hr hpos _ => exact .inr ⟨hr, hpos⟩
  | io hr _ => exact .inl hr
  | mem _ hbud => exact absurd (hbud hgrant) (by omega)

/-- **A non-I/O error keeps the position.** For every call, stream, limit, pattern and allocator
behaviour: if the result is neither `ok` nor `ioError` — i.e. `memLimit` from the overflow check,
from `reserve_bytes`, from a refused allocation, or `rectOutOfBounds` — the reader is where it was
and not a single reader call was made. -/
theorem non_io_error_keeps_position {f : Fam} (hf : f.WF) (c : Colour) (call : Call) (e : Env)
    (pats : List (List Nat)) (pos limit : Nat)
    (hne1 : (run e pats (plan f c call) pos limit).1 ≠ .ok)
    (hne2 : (run e pats (plan f c call) pos limit).1 ≠ .ioError) :
    (run e pats (plan f c call) pos limit).2.pos = pos ∧
    (run e pats (plan f c call) pos limit).2.log = [] := by
  cases hplan : plan f c call with
  | error r => exact ⟨rfl, rfl⟩
  | ok ops =>
    rw [hplan] at hne1 hne2
    rcases interp_allocFirst e ops pats { pos := pos, budget := limit } (allocs_precede_reader hf hplan)
      with ⟨h | h, _⟩ | h
    · exact (hne1 h).elim
    · exact (hne2 h).elim
    · exact ⟨h.2.1, h.2.2.1⟩

/-- the result of a call is never a panic (no `assert!`, `clamp`, division or `expect` fails), and
the only non-I/O errors are `MemoryLimitExceeded` and `RectOutOfBounds` -/
theorem result_kinds {f : Fam} (hf : f.WF) (c : Colour) (call : Call) (e : Env)
    (pats : List (List Nat)) (pos limit : Nat) :
    (run e pats (plan f c call) pos limit).1 ∈ [Res.ok, .ioError, .memLimit, .rectOutOfBounds] := by
  cases hplan : plan f c call with
  | error r =>
    rcases plan_error hf hplan with h | h <;> simp [run, h]
  | ok ops =>
    simp only [run]
    rcases interp_allocFirst e ops pats { pos := pos, budget := limit } (allocs_precede_reader hf hplan)
      with ⟨h | h, _⟩ | h
    · simp [h]
    · simp [h]
    · simp [h.1]

/-! ### non-vacuity: concrete instances of the hypotheses -/

/-- BC1, 16×16 surface, rect 5×5 at (4,4), reader at 100: `S32 R64 S32`, ends at 228 -/
example : (run { len := 1000 } [] (plan (.block 4 4 8) (3, 0) (.rect 16 16 4 4 5 5)) 100 64).1 = .ok ∧
    (run { len := 1000 } [] (plan (.block 4 4 8) (3, 0) (.rect 16 16 4 4 5 5)) 100 64).2.pos = 228 := by
  decide
/-- same call, hard error at 150 (inside the read): `ioError` -/
example : (run { len := 1000, fault := some 150 } [[3, 0, 1]] (plan (.block 4 4 8) (3, 0)
    (.rect 16 16 4 4 5 5)) 100 64).1 = .ioError := by decide
/-- same call, limit 63 < need 64: `memLimit`, reader untouched -/
example : (run { len := 1000 } [] (plan (.block 4 4 8) (3, 0) (.rect 16 16 4 4 5 5)) 100 63).1 = .memLimit ∧
    (run { len := 1000 } [] (plan (.block 4 4 8) (3, 0) (.rect 16 16 4 4 5 5)) 100 63).2.pos = 100 := by
  decide
/-- NV12 6×6 full decode: need 54, 54 bytes consumed -/
example : (run { len := 54 } [] (plan (.biPlanar 1 2 2 2) (2, 0) (.full 6 6)) 0 54).1 = .ok ∧
    (run { len := 54 } [] (plan (.biPlanar 1 2 2 2) (2, 0) (.full 6 6)) 0 54).2.pos = 54 := by decide
/-- stream one byte short, clamping seek: `ioError` -/
example : (run { len := 53, clampSeek := true } [] (plan (.biPlanar 1 2 2 2) (2, 0) (.full 6 6)) 0 54).1
    = .ioError := by decide
/-- a rect outside the surface: `rectOutOfBounds` -/
example : (run { len := 9 } [] (plan (.pixel 4 none) (3, 0) (.rect 8 8 1 0 8 8)) 5 0).1 = .rectOutOfBounds := by
  decide
/-- a surface of more than `isize::MAX` bytes: `memLimit` before anything else -/
example : (run { len := 9 } [] (plan (.pixel 4 none) (3, 0) (.rect 4294967295 4294967295 0 0 1 1)) 5 0).1
    = .memLimit := by decide

end Dds.C06
