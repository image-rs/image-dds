/-
C17 — Progress only moves forward to 100 % and cancellation is honoured.

Helper lemmas are in `Proofs/Progress.lean`.  All statements are about the model `Progress.lean`: exact rational progress
values (the `f32` rounding of the real computation is outside the model — the tie compares with a
1e-6 slack), every encoder family with ANY geometry (number of chunks / blocks / line groups, report
frequency), any number of generated mip levels, and for parallel levels ANY list of submitted
heights (= any interleaving of the fragment jobs).

Not proved here: anything about real threads.  A parallel level is linearised in submission order
(`ParallelProgress::submit` is atomic under its mutex); a job that passed its last check before the
token was cancelled may still submit afterwards in the real program — that only adds reports below
100 % and cannot make the call succeed, because the main thread's checks of the write-out loop
follow the join (`cancel_honoured` (a)).
-/
import DdsModel.Proofs.Progress
import DdsModel.Drv.C17
namespace Dds.C17
open Dds

/-- `project` is monotone and maps `[0,1]` into the range; `sub_range` composes
projections and nests inside the outer range; the level ranges start at 0, have non-negative
length, stay inside `[0,1]`, abut (`end of level l = start of level l+1`) and are `FULL` when no
mipmaps are generated.  NOTE (model the code that exists): with generated mipmaps the last level
range does NOT end at 1 — every level range ends strictly below 1 and the gap is closed by the
final `checked_report(1.0)` of `write_surface_impl`. -/
theorem range_algebra :
    (∀ (r : ProgressRange) (p q : Rat), 0 ≤ r.length → p ≤ q → r.project p ≤ r.project q) ∧
    (∀ (r : ProgressRange) (p : Rat), 0 ≤ r.length → 0 ≤ p → p ≤ 1 →
      r.start ≤ r.project p ∧ r.project p ≤ r.stop) ∧
    (∀ (s o : ProgressRange) (p : Rat), (s.subRange o).project p = s.project (o.project p)) ∧
    (∀ (s o : ProgressRange), 0 ≤ s.length → 0 ≤ o.start → 0 ≤ o.length → o.stop ≤ 1 →
      s.start ≤ (s.subRange o).start ∧ (s.subRange o).stop ≤ s.stop ∧
      0 ≤ (s.subRange o).length) ∧
    (∀ m l, 0 < m → (levelRange m l).stop = (levelRange m (l + 1)).start) ∧
    (∀ m, (levelRange m 0).start = 0) ∧
    (∀ m l, 0 ≤ (levelRange m l).length ∧ 0 ≤ (levelRange m l).start ∧
      (levelRange m l).stop ≤ 1) ∧
    (∀ m l, 0 < m → (levelRange m l).stop < 1) ∧
    (∀ l, (levelRange 0 l).start = 0 ∧ (levelRange 0 l).stop = 1) := by
  refine ⟨fun r p q hl h => ProgressRange.project_mono hl h,
    fun r p hl h0 h1 => ProgressRange.project_mem hl h0 h1,
    ProgressRange.subRange_project, ?_, fun m l hm => levelRange_abut hm l, ?_,
    fun m l => ⟨levelRange_length_nonneg m l, levelRange_start_nonneg m l,
      levelRange_stop_le_one m l⟩, ?_, ?_⟩
  · intro s o hs ho hol host
    unfold ProgressRange.stop at host
    unfold ProgressRange.subRange ProgressRange.stop
    simp only
    have h1 := Rat.mul_nonneg ho hs
    have h2 := Rat.mul_nonneg hol hs
    have h3 := Rat.mul_le_mul_of_nonneg_right host hs
    refine ⟨by grind, by grind, h2⟩
  · intro m
    by_cases hm : m = 0
    · subst hm; rw [levelRange_zero]; rfl
    · rw [(levelRange_pos (by omega) 0).1]; simp only [Rat.pow_zero]; grind
  · intro m l hm
    rw [(levelRange_pos hm l).2]
    have := pow25_pos (l + 1)
    grind
  · intro l
    rw [levelRange_zero]
    unfold ProgressRange.full ProgressRange.stop
    constructor
    · rfl
    · simp only; grind

/-- a level that runs sequentially (`parallel = false`, or a single fragment) -/
def Sequential : LevelRun → Prop
  | .seq _ => True
  | .parSingle _ => True
  | .par _ _ _ => False

private theorem Sequential.valid {x : LevelRun} (h : Sequential x) : x.Valid := by
  cases x with
  | par _ _ _ => exact False.elim h
  | _ => trivial

/-- One `write_surface_with_progress` call whose levels all run
sequentially — every encoder family, any geometry, any number of generated mip levels: the reported
values never decrease, lie in `[0,1]`, the last one is 1, and the uncancelled call returns `Ok`
having made exactly these reports. -/
theorem sequential_monotone (lv0 : LevelRun) (mips : List LevelRun)
    (hs : ∀ x, x ∈ lv0 :: mips → Sequential x) :
    let tr := surfaceTrace lv0 mips
    (reports tr).Pairwise (· ≤ ·) ∧
    (∀ x, x ∈ reports tr → 0 ≤ x ∧ x ≤ 1) ∧
    (reports tr).getLast? = some 1 ∧
    exec none tr false 0 = ⟨true, reports tr, writes tr⟩ := by
  intro tr
  obtain ⟨hw, hl⟩ := surface_reports lv0 mips (fun x hx => (hs x hx).valid)
  exact ⟨hw.mono, hw.bounds, hl, exec_none tr 0⟩

/-- the free function `dds::encode` on its sequential / single-fragment path: non-decreasing,
within `[0,1]` — and every report is strictly below 1: this path never reports 100 %
(known finding F8; the model states what the code does). -/
theorem free_sequential_reports (lv : LevelRun) (hs : Sequential lv) :
    (reports lv.trace).Pairwise (· ≤ ·) ∧
    (∀ x, x ∈ reports lv.trace → 0 ≤ x ∧ x < 1) ∧
    exec none lv.trace false 0 = ⟨true, reports lv.trace, writes lv.trace⟩ := by
  obtain ⟨fam, h⟩ : ∃ fam : Family, reports lv.trace = reports fam.trace := by
    cases lv with
    | seq fam => exact ⟨fam, (reports_seq fam).1⟩
    | parSingle fam => exact ⟨fam, (reports_seq fam).2⟩
    | par _ _ _ => exact False.elim hs
  have := family_reports fam
  rw [← h] at this
  exact ⟨this.1.mono, fun x hx => ⟨(this.1.bounds x hx).1, this.2 x hx⟩, exec_none _ 0⟩

/-- `encode_parallel` with a thread-safe reporter, for EVERY interleaving of
the fragment submissions — any list `incs` of positive heights summing to the image height, with
`total = height + 1`: the reports are the cumulative sums over `total` followed by the final 1,
strictly increasing, all but the final one strictly below 1 (100 % is reported only after the
write-out), one report per fragment plus one. -/
theorem parallel_monotone (incs : List Nat) (height : Nat)
    (hpos : ∀ k, k ∈ incs → 0 < k) (hsum : incs.sum = height) :
    let r := reports (LevelRun.par true incs (height + 1)).trace
    r = (cumul incs 0).map (fun (s : Nat) => (s : Rat) / ((height + 1 : Nat) : Rat)) ++ [1] ∧
    r.Pairwise (· < ·) ∧
    (∀ x, x ∈ r.dropLast → 0 ≤ x ∧ x < 1) ∧
    r.getLast? = some 1 ∧
    r.length = incs.length + 1 := by
  intro r
  have hr : r = (cumul incs 0).map (fun (s : Nat) => (s : Rat) / ((height + 1 : Nat) : Rat)) ++ [1] := by
    show reports (LevelRun.par true incs (height + 1)).trace = _
    rw [reports_par, reports_parJobs_true]
  have hb : ∀ s ∈ cumul incs 0, s < height + 1 := fun s hs => by
    have := cumul_bounds incs 0 s hs; omega
  rw [hr]
  refine ⟨rfl, ?_, ?_, by simp, by simp [length_cumul]⟩
  · rw [List.pairwise_append]
    refine ⟨?_, List.pairwise_singleton _ _, ?_⟩
    · rw [List.pairwise_map]
      exact (cumul_pairwise_lt incs 0 hpos).1.imp (fun hab =>
        rat_div_lt_div_right (Rat.natCast_lt_natCast.mpr hab) (Rat.natCast_pos.mpr (by omega)))
    · intro x hx y hy
      obtain rfl := List.mem_singleton.mp hy
      exact (natDiv_mem hb hx).2
  · rw [List.dropLast_concat]
    exact fun x hx => natDiv_mem hb hx

/-- **any schedule, whole call.**  One `write_surface_with_progress` call whose levels run in any
mix of sequential and parallel mode, the parallel ones with ANY submission order / heights (sum of
the submitted heights below `total = height + 1`): never decreasing, within `[0,1]`, ends with 1. -/
theorem surface_monotone_any_schedule (lv0 : LevelRun) (mips : List LevelRun)
    (hv : ∀ x, x ∈ lv0 :: mips → x.Valid) :
    let tr := surfaceTrace lv0 mips
    (reports tr).Pairwise (· ≤ ·) ∧
    (∀ x, x ∈ reports tr → 0 ≤ x ∧ x ≤ 1) ∧
    (reports tr).getLast? = some 1 ∧
    exec none tr false 0 = ⟨true, reports tr, writes tr⟩ := by
  intro tr
  obtain ⟨hw, hl⟩ := surface_reports lv0 mips hv
  exact ⟨hw.mono, hw.bounds, hl, exec_none tr 0⟩

/-- Cancellation (`Encoder::write_surface_with_progress`, every family / geometry / mip
count / schedule).
(a) in the trace every `report p` with `p < 1` is followed by a `check` before the call returns;
(b) hence: if the token is cancelled when report number `k` arrives and that report is below
    100 %, the call returns `Cancelled`;
(c) a call whose token is cancelled before it starts returns `Cancelled` with no report and no
    write;
(d) after `reset` the same call is accepted: it runs to completion and returns `Ok`. -/
theorem cancel_honoured (lv0 : LevelRun) (mips : List LevelRun) :
    let tr := surfaceTrace lv0 mips
    (∀ pre p post, tr = pre ++ Ev.report p :: post → p < 1 → Ev.check ∈ post) ∧
    (∀ k p, (reports tr)[k]? = some p → p < 1 → (exec (some k) tr false 0).ok = false) ∧
    (∀ ca, exec ca tr true 0 = ⟨false, [], 0⟩) ∧
    exec none tr false 0 = ⟨true, reports tr, writes tr⟩ := by
  obtain ⟨t, ht⟩ := surface_head lv0 mips
  exact cancel_clauses (honours_final _) ht

/-- the same four clauses for the free function `dds::encode` -/
theorem cancel_honoured_free (lv : LevelRun) :
    (∀ pre p post, lv.trace = pre ++ Ev.report p :: post → p < 1 → Ev.check ∈ post) ∧
    (∀ k p, (reports lv.trace)[k]? = some p → p < 1 →
      (exec (some k) lv.trace false 0).ok = false) ∧
    (∀ ca, exec ca lv.trace true 0 = ⟨false, [], 0⟩) ∧
    exec none lv.trace false 0 = ⟨true, reports lv.trace, writes lv.trace⟩ := by
  obtain ⟨t, ht⟩ := levelRun_head lv
  exact cancel_clauses (levelRun_honours lv) ht

/-- **ends with 1 exactly on success** (completes `sequential_monotone` / `cancel_honoured`): a call
whose token is cancelled when report number `k` (value `p < 1`) arrives returns `Cancelled`, has made
exactly the reports `0..k` — every report is a `checked_report`, so nothing is reported after the
request — and all of them are below 1; whereas the uncancelled call returns `Ok` and its last report
is 1.  (Sequential semantics; in a real parallel level jobs that had passed their last check may
still submit, adding reports below 1 only — see `parallel_monotone`.) -/
theorem ends_with_one_iff_success (lv0 : LevelRun) (mips : List LevelRun)
    (hv : ∀ x, x ∈ lv0 :: mips → x.Valid) (k : Nat) (p : Rat)
    (hk : (reports (surfaceTrace lv0 mips))[k]? = some p) (hp : p < 1) :
    let tr := surfaceTrace lv0 mips
    let o := exec (some k) tr false 0
    o.ok = false ∧ o.reports = (reports tr).take (k + 1) ∧ (∀ x, x ∈ o.reports → x < 1) ∧
    (exec none tr false 0).ok = true ∧ (exec none tr false 0).reports.getLast? = some 1 := by
  intro tr o
  have hm := surface_monotone_any_schedule lv0 mips hv
  have hr : o.reports = (reports tr).take (k + 1) :=
    (exec_cancel tr 0 k k (by omega) p hk).2 false (guarded_surface lv0 mips)
  refine ⟨(cancel_honoured lv0 mips).2.1 k p hk hp, hr, ?_, by rw [hm.2.2.2], ?_⟩
  · intro x hx
    -- x is one of the first k+1 reports, hence ≤ p
    rw [hr, List.take_add_one, hk, Option.toList_some, List.mem_append, List.mem_singleton] at hx
    rcases hx with hx | rfl
    · exact Std.lt_of_le_of_lt (rel_of_mem_take hm.1 hk hx) hp
    · exact hp
  · rw [hm.2.2.2]; exact hm.2.2.1

/-! ### non-vacuity -/

/-- a BC1 level of 3 x 2 blocks reporting every 2nd block: reports 0, 2/6, 4/6 -/
example : reports (Family.block 3 2 2).trace = [0, 2 / 6, 4 / 6] := by decide +kernel

/-- a surface with two generated mip levels, all sequential -/
example : reports (surfaceTrace (.seq (.copy 1)) [.seq (.chunked 1 2048), .parSingle (.copy 1)]) =
    [0, 3 / 5, 21 / 25, 1] := by decide +kernel

/-- two interleavings of the same three fragments (heights 4,4,2; total 11) -/
example : reports (LevelRun.par true [4, 4, 2] 11).trace = [4 / 11, 8 / 11, 10 / 11, 1] := by
  decide +kernel
example : reports (LevelRun.par true [2, 4, 4] 11).trace = [2 / 11, 6 / 11, 10 / 11, 1] := by
  decide +kernel

/-- a report below 1 exists (hypothesis of `cancel_honoured` (b)) and cancelling there fails the call -/
example : (exec (some 1) (surfaceTrace (.par true [4, 4, 2] 11) []) false 0).ok = false := by
  decide +kernel

end Dds.C17
