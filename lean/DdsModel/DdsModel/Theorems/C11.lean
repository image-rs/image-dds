/-
C11 — The encoder accepts surfaces only in layout order; rejected calls change nothing.

Model: `Encoder.lean` (`write_surface_impl`, `finish`, the `mipmaps.generate` switch; after
repair F13) on top of the iterator model. Specification: the cursor `abs` into C02's
flattened surface list and the ideal offset `elapsed` (defined in `Proofs/SurfIter.lean`).
-/
import DdsModel.Encoder
import DdsModel.Theorems.C08
namespace Dds.C11
open Dds Dds.C08

/-- the encoder invariant: the data bytes written so far equal the layout offset of the
surface the encoder reports as next -/
structure EncInv (e : Enc) : Prop where
  iter : IterInv e.iter
  written : e.written = elapsed e.iter

private theorem EncInv.move {e : Enc} (v : EncInv e) {s : SurfInfo} {it' : SurfIter}
    (h : Consumed e.iter s it') : EncInv { e with iter := it', written := e.written + s.len } :=
  ⟨h.inv, by show e.written + s.len = elapsed it'; rw [h.elapsed, v.written]⟩

private theorem consume (e : Enc) (v : EncInv e) (s : SurfInfo)
    (hc : e.iter.currentP = some (some s)) :
    ∃ it', e.iter.advanceP = some it' ∧ EncInv { e with iter := it', written := e.written + s.len } ∧
      abs it' = min (abs e.iter + 1) (count e.iter) ∧ count it' = count e.iter ∧
      total it' = total e.iter := by
  obtain ⟨it', h⟩ := consume_spec v.iter hc
  exact ⟨it', h.adv, v.move h, h.abs.trans (Nat.min_eq_left h.lt).symm, (of_base_eq h.base).1,
    (of_base_eq h.base).2.1⟩

private structure Generated (e : Enc) (b : Enc × EncRes) : Prop where
  inv : EncInv b.1
  res : b.2 = .ok ∨ b.2 = .invalidSizeMip
  le : abs e.iter ≤ abs b.1.iter
  base : b.1.iter.base = e.iter.base

private theorem genLoop_spec : ∀ (fuel : Nat) (e : Enc), EncInv e → Generated e (e.genLoop fuel) := by
  intro fuel
  induction fuel with
  | zero => intro e v; exact ⟨v, Or.inl rfl, Nat.le_refl _, rfl⟩
  | succ fuel ih =>
    intro e v
    unfold Enc.genLoop
    rcases current_cases v.iter with ⟨hc, _⟩ | ⟨s, hc, _⟩ <;> rw [hc]
    · exact ⟨v, Or.inl rfl, Nat.le_refl _, rfl⟩
    · simp only
      split
      · exact ⟨v, Or.inl rfl, Nat.le_refl _, rfl⟩
      · split
        · exact ⟨v, Or.inr rfl, Nat.le_refl _, rfl⟩
        · obtain ⟨it', h⟩ := consume_spec v.iter hc
          simp only [h.adv]
          have g := ih _ (v.move h)
          have hle : abs it' ≤ _ := g.le
          exact ⟨g.inv, g.res, by have := h.abs; omega, g.base.trans h.base⟩

private theorem write_cases (e : Enc) (v : EncInv e) (w h : Nat) (c : Bool) :
    (abs e.iter = count e.iter ∧ e.write w h c = (e, .tooManySurfaces)) ∨
    (abs e.iter < count e.iter ∧
      ((∃ r, (r = .unexpectedSurfaceSize ∨ r = .cancelled ∨ r = .invalidSize) ∧
          e.write w h c = (e, r)) ∨
       ∃ s it', Consumed e.iter s it' ∧
         Generated { e with iter := it', written := e.written + s.len } (e.write w h c) ∧
         (e.toGen s = 0 →
           e.write w h c = ({ e with iter := it', written := e.written + s.len }, .ok)))) := by
  unfold Enc.write
  rcases current_cases v.iter with ⟨hc, he⟩ | ⟨s, hc, hlt⟩ <;> rw [hc]
  · exact Or.inl ⟨he, rfl⟩
  · refine Or.inr ⟨hlt, ?_⟩
    simp only
    split
    · exact Or.inl ⟨_, Or.inl rfl, rfl⟩
    · split
      · exact Or.inl ⟨_, Or.inr (Or.inl rfl), rfl⟩
      · split
        · exact Or.inl ⟨_, Or.inr (Or.inr rfl), rfl⟩
        · obtain ⟨it', hcons⟩ := consume_spec v.iter hc
          simp only [hcons.adv]
          refine Or.inr ⟨s, it', hcons, ?_⟩
          split
          · exact ⟨genLoop_spec 255 _ (v.move hcons), fun h0 => by omega⟩
          · exact ⟨⟨v.move hcons, Or.inl rfl, Nat.le_refl _, rfl⟩, fun _ => rfl⟩

/-- no call changes the layout the encoder walks: its data length stays the same -/
theorem step_total (e : Enc) (v : EncInv e) (op : EncOp) :
    total (e.step op).1.iter = total e.iter := by
  have key : ∀ w h c, total (e.write w h c).1.iter = total e.iter := by
    intro w h c
    rcases write_cases e v w h c with ⟨_, hw⟩ | ⟨_, ⟨r, _, hw⟩ | ⟨s, it', hc, g, _⟩⟩
    · rw [hw]
    · rw [hw]
    · exact (of_base_eq (g.base.trans hc.base)).2.1
  cases op with
  | setGenerate b => rfl
  | finish => rfl
  | write w h => exact key w h false
  | writeCancelled w h => exact key w h true

/-- C11 invariant: after EVERY call — accepted, rejected, or failed while generating a
mipmap — the bytes written equal the layout offset of the surface reported as next, and no
call panics. -/
theorem step_inv (e : Enc) (v : EncInv e) (op : EncOp) :
    EncInv (e.step op).1 ∧ (e.step op).2 ≠ .panic := by
  have key : ∀ w h c, EncInv (e.write w h c).1 ∧ (e.write w h c).2 ≠ .panic := by
    intro w h c
    rcases write_cases e v w h c with ⟨_, hw⟩ | ⟨_, ⟨r, hr, hw⟩ | ⟨s, it', _, g, _⟩⟩
    · rw [hw]; exact ⟨v, (by decide : EncRes.tooManySurfaces ≠ .panic)⟩
    · rw [hw]; exact ⟨v, by show r ≠ .panic; rcases hr with rfl | rfl | rfl <;> decide⟩
    · exact ⟨g.inv, by rcases g.res with h | h <;> rw [h] <;> decide⟩
  cases op with
  | setGenerate b => exact ⟨⟨v.iter, v.written⟩, (by decide : EncRes.ok ≠ .panic)⟩
  | finish =>
    refine ⟨v, ?_⟩
    show e.finish ≠ .panic
    unfold Enc.finish
    rcases current_cases v.iter with ⟨hc, _⟩ | ⟨s, hc, _⟩ <;> rw [hc] <;> simp only <;> decide
  | write w h => exact key w h false
  | writeCancelled w h => exact key w h true

def run (e : Enc) : List EncOp → Enc × List EncRes
  | [] => (e, [])
  | op :: rest =>
    let r := e.step op
    let (e', rs) := run r.1 rest
    (e', r.2 :: rs)

/-- The invariant holds after any sequence of calls (no bound on its length). -/
theorem history (ops : List EncOp) : ∀ (e : Enc), EncInv e →
    EncInv (run e ops).1 ∧ ∀ r ∈ (run e ops).2, r ≠ .panic :=
  run_induction (step := Enc.step) (run := run) (fun _ => rfl) (fun _ _ _ => rfl)
    (fun e op v => step_inv e v op) ops

/-- no history of calls changes the data length the iterator walks -/
theorem run_total (ops : List EncOp) : ∀ (e : Enc), EncInv e →
    total (run e ops).1.iter = total e.iter := by
  induction ops with
  | nil => intro e _; rfl
  | cons op rest ih =>
    intro e v
    simp only [run]
    rw [ih _ (step_inv e v op).1, step_total e v op]

/-- Calls rejected for wrong size, too many surfaces, an already cancelled token, or a size
the format does not support write nothing and leave the encoder exactly as it was. -/
theorem rejections_are_noops (e : Enc) (w h : Nat) (c : Bool)
    (hr : (e.write w h c).2 = .tooManySurfaces ∨ (e.write w h c).2 = .unexpectedSurfaceSize ∨
          (e.write w h c).2 = .cancelled ∨ (e.write w h c).2 = .invalidSize)
    (v : EncInv e) : (e.write w h c).1 = e := by
  rcases write_cases e v w h c with ⟨_, hw⟩ | ⟨_, ⟨r, _, hw⟩ | ⟨s, it', _, g, _⟩⟩
  · rw [hw]
  · rw [hw]
  · -- the generation loop ends with `ok` or the `InvalidSize` of a mipmap
    rcases g.res with k | k <;> rw [k] at hr <;> rcases hr with h' | h' | h' | h' <;> cases h'

/-- `finish` succeeds exactly when no surface is missing. -/
theorem finish_iff_done (e : Enc) (v : EncInv e) :
    e.finish = .ok ↔ abs e.iter = count e.iter := by
  unfold Enc.finish
  rcases current_cases v.iter with ⟨hc, he⟩ | ⟨s, hc, hlt⟩ <;> rw [hc]
  · exact ⟨fun _ => he, fun _ => rfl⟩
  · exact ⟨(fun h => by cases h), (fun h => by omega)⟩

/-- An accepted write consumes the current surface: the cursor moves forward by at least one
surface, and — with generation off, or for a volume — by exactly one. -/
theorem accepts_in_layout_order (e : Enc) (v : EncInv e) (w h : Nat)
    (hok : (e.write w h false).2 = .ok) :
    abs e.iter < count e.iter ∧ abs e.iter + 1 ≤ abs (e.write w h false).1.iter ∧
      ((e.generate = false ∨ e.layout.isVolume = true) →
        abs (e.write w h false).1.iter = abs e.iter + 1) := by
  rcases write_cases e v w h false with ⟨_, hw⟩ | ⟨hlt, ⟨r, hr, hw⟩ | ⟨s, it', hc, g, h0⟩⟩
  · rw [hw] at hok; cases hok
  · rw [hw] at hok; rcases hr with rfl | rfl | rfl <;> cases hok
  · have hle : abs it' ≤ _ := g.le
    refine ⟨hlt, by have := hc.abs; omega, fun hno => ?_⟩
    have hz : e.toGen s = 0 := by
      unfold Enc.toGen
      rcases hno with hg | hv
      · simp [hg]
      · simp [hv]
    rw [h0 hz]; exact hc.abs

/-- Volumes never get generated mipmaps: the number of mipmaps to generate is 0 whatever the
switch says (so by `accepts_in_layout_order` an accepted write consumes exactly one slice). -/
theorem volume_never_generates (e : Enc) (s : SurfInfo) (hv : e.layout.isVolume = true) :
    e.toGen s = 0 := by
  unfold Enc.toGen; simp [hv]

/-- The initial state of an encoder for any accepted header satisfies the invariant. -/
theorem new_inv (L : DataLayout) (mw mh : Nat) (h : IterInv (SurfIter.new L)) :
    EncInv (Enc.new L mw mh) :=
  ⟨h, (new_zero L).2.symm⟩
/-- C10 corollary: when `finish` succeeds the data bytes written are exactly the layout's
data length (header + data = file length). -/
theorem finished_file_len (e : Enc) (v : EncInv e) (hf : e.finish = .ok) :
    e.written = total e.iter := by
  rw [v.written, elapsed_eq_total_of_end v.iter ((finish_iff_done e v).1 hf)]

/-! ### non-vacuity / the witness of repair F13 -/

/-- NV12 4x4 with 3 mip levels and generation on: the write fails at the 1x1 level with
`InvalidSize`, 30 of 33 bytes are written, one surface is still missing and `finish` refuses. -/
example :
    let hd : LayoutHeader := { width := 4, height := 4, depth := none, mipmapCount := 3,
                               kind := HeaderKind.dx10 false ResDim.tex2D 1 }
    (match layoutOf hd (.biPlanar 1 2 2 2) with
     | some (.ok L) =>
       let r := (Enc.new L 2 2).step (.write 4 4)
       (r.2, r.1.written, r.1.finish)
     | _ => (EncRes.panic, 0, EncRes.panic)) = (EncRes.invalidSizeMip, 30, EncRes.missingSurfaces) := by
  decide

end Dds.C11
