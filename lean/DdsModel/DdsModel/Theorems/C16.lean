/-
C16 — Generated mipmaps have the declared sizes and preserve flat colour and opacity.

Model: `Mip.lean` (look-ahead gather, `MipmapCache::generate` strategy + index bookkeeping,
`resize.rs` plain and straight-alpha paths with the code's rounding), on top of `Iter.lean`
and `Encoder.lean`. The `resize` crate is a parameter `K : Kernel`; what is ASSUMED of it is
stated as the hypothesis `K.Normalised f` (all filters) or `K.Convex f` (Point, Box, Triangle).
Arithmetic is exact (`Rat`); binary32 rounding inside the resizer is outside the model, which is
why the oracle of the tie allows the property's "one output unit" while the theorems give the
exact interval. Alignment and row pitch do not exist in the model (an image is its pixel values).

Lemmas are in `Proofs/Mip*.lean` and, for the trapping mirrors, `Proofs/TrapMip*.lean`.
-/
import DdsModel.Proofs.MipChain
import DdsModel.Proofs.TrapMipGen
import DdsModel.Theorems.C02
namespace Dds.C16
open Dds Dds.Mip

/-! ### levels and sizes -/

/-- For a texture (or array element / cube face) with `mips ≥ 2` whose level-0 surface is being
written with generation on: after the main surface the look-ahead gathers exactly the declared
levels `1 .. mips-1`; whatever strategy `generate` selects for whatever filter, it does not
panic and emits exactly these levels, in this order, with sizes `max(1, dim >> level)`, each
resized from the source or from a level emitted before it; and the encoder's cursor loop
(`Enc.genLoop`, the model C11 is about) consumes exactly as many surfaces. -/
theorem levels_and_sizes (e : Enc) (t : TexIter) (he : e.iter = .tex t) (v : t.Inv) (hi : t.idx < t.len)
    (hl0 : t.level = 0) (hm : 2 ≤ t.first.mips) (hw : t.first.w < U32) (hh : t.first.h < U32)
    (hok : ∀ l, e.sizeOk (mipSize t.first.w l) (mipSize t.first.h l) = true) (f : Filter) :
    ∃ it1 pl, e.iter.advanceP = some it1 ∧
      gatherSizes 255 it1 = some (declared t.first.w t.first.h 1 (t.first.mips - 1)) ∧
      emitted it1 f (t.first.w, t.first.h) = some pl ∧
      pl.map (·.1) = (List.range' 1 (t.first.mips - 1)).map
        (fun l => (max 1 (t.first.w / 2 ^ l), max 1 (t.first.h / 2 ^ l))) ∧
      (∀ k (hk : k < pl.length), (pl[k]'hk).2 ≤ k) ∧
      ∀ written, let e1 : Enc := { e with iter := it1, written := written }
        (e1.genLoop 255).2 = .ok ∧ advN pl.length it1 = some (e1.genLoop 255).1.iter := by
  have hadv : t.advance = { t with level := 1 } := by rw [v.advance_eq hi, if_pos (by omega), hl0]
  have hg := gather_tex 255 t.advance v.advance.1 (by rw [hadv]; exact hi) (by rw [hadv]; exact Nat.le_refl 1)
    (by rw [hadv]; have := v.mips_lt; show t.first.mips ≤ 255 + 1; omega)
  rw [hadv] at hg
  have hg' : gatherSizes 255 (.tex t.advance) = some (declared t.first.w t.first.h 1 (t.first.mips - 1)) := by
    rw [hadv]; exact hg
  have hne : declared t.first.w t.first.h 1 (t.first.mips - 1) ≠ [] := by
    rw [show t.first.mips - 1 = (t.first.mips - 2) + 1 by omega, declared_succ]
    exact List.cons_ne_nil _ _
  obtain ⟨pl, hpl⟩ := plan_some f (t.first.w, t.first.h) _ hne
  have hfst := plan_fst hpl
  refine ⟨.tex t.advance, pl, by rw [he]; rfl, hg', ?_, ?_, plan_earlier hpl, ?_⟩
  · unfold emitted; rw [hg']; exact hpl
  · rw [hfst]
    apply List.map_congr_left
    intro l _
    rw [C02.mipSize_spec _ _ hw, C02.mipSize_spec _ _ hh]
  · intro written e1
    obtain ⟨r1, r2, _⟩ := genLoop_follows_gather 255 e1 _ hg' (by
      intro s hs
      obtain ⟨l, rfl⟩ := mem_declared hs
      exact hok l)
    rw [← hfst, List.length_map] at r2
    exact ⟨r1, r2⟩

/-- a 5x4 texture with its full chain of 3 levels (the size hypothesis `hok` is not instantiated here) -/
example : ∃ (e : Enc) (t : TexIter), e.iter = .tex t ∧ t.Inv ∧ t.idx < t.len ∧ t.level = 0 ∧ 2 ≤ t.first.mips ∧
    emitted (.tex t.advance) .box (5, 4) = some [((2, 2), 0), ((1, 1), 0)] ∧
    emitted (.tex { t with first := { t.first with w := 4 } }.advance) .box (4, 4) = some [((2, 2), 0), ((1, 1), 1)] := by
  refine ⟨Enc.new (.texture ⟨5, 4, 3, .fixed 4, 0, some 100⟩) 1 1, ⟨⟨5, 4, 3, .fixed 4, 0, some 100⟩, 1, 0, 0⟩,
    rfl, ⟨by decide, rfl, by decide, by decide, by decide, by decide, by decide, by decide, by decide⟩,
    by decide, rfl, by decide, by decide, by decide⟩

/-! ### strategy -/

/-- The selection is a total function of (filter, source size, level sizes) and it leaves
"from source" only when the filter is not Nearest and EVERY size, the source included, is a power
of two in both dimensions: then Box uses from-previous and the other filters from-previous-two. -/
theorem strategy_total (f : Filter) (src : Sz) (sizes : List Sz) :
    (selectStrategy f src sizes = .fromPrevious ↔ f = .box ∧ AllPow2 src sizes) ∧
    (selectStrategy f src sizes = .fromPreviousTwo ↔ f ≠ .nearest ∧ f ≠ .box ∧ AllPow2 src sizes) ∧
    (selectStrategy f src sizes = .fromSource ↔ f = .nearest ∨ ¬ AllPow2 src sizes) := by
  rw [← allPow2_iff]
  unfold selectStrategy
  cases h : allPow2 src sizes <;> cases f <;> simp

/-- which image every level comes from, per strategy: from-source always image 0; from-previous
level number k+1 from image k; from-previous-two the first two levels from the source and level
number k+1 (k ≥ 2) from image k-1 -/
theorem plan_sources (f : Filter) (src : Sz) (sizes : List Sz) (pl : List (Sz × Nat))
    (h : plan f src sizes = some pl) :
    pl.map (·.1) = sizes ∧
    pl.map (·.2) =
      match selectStrategy f src sizes with
      | .fromSource => List.replicate sizes.length 0
      | .fromPrevious => List.range' 0 sizes.length
      | .fromPreviousTwo => (List.range' 0 sizes.length).map (· - 1) :=
  ⟨plan_fst h, plan_snd h⟩

example : selectStrategy .box (4, 4) [(2, 2), (1, 1)] = .fromPrevious ∧
    selectStrategy .box (5, 4) [(2, 2), (1, 1)] = .fromSource ∧
    selectStrategy .lanczos3 (8, 1) [(4, 1), (2, 1), (1, 1)] = .fromPreviousTwo ∧
    plan .lanczos3 (8, 1) [(4, 1), (2, 1), (1, 1)] = some [((4, 1), 0), ((2, 1), 0), ((1, 1), 1)] := by decide

/-! ### range -/

/-- Over `Rat`, for ANY weights `wᵢ ≥ 0` with `Σ wᵢ = 1` and any inputs: the weighted sum lies
between the smallest and the largest input. -/
theorem convex_range (t : Taps) (x : Nat → Rat) (lo hi : Rat) (nn : t.NonNeg) (hs : t.sumW = 1)
    (hx : ∀ iw ∈ t, lo ≤ x iw.1 ∧ x iw.1 ≤ hi) : lo ≤ dot t x ∧ dot t x ≤ hi := by
  have hb := dot_bounds t x lo hi nn (fun iw hiw _ => hx iw hiw)
  rwa [hs, Rat.mul_one, Rat.mul_one] at hb

/-- The code's rounding `(acc + 0.5) as u8|u16` (identity for `f32`) maps an interval whose end
points are representable into itself: there is no "one unit" excursion in exact arithmetic. -/
theorem rounding_stays_in_range (p : Prec) (lo hi : Nat) (v : Rat) (hm : p = .f32 ∨ (hi : Rat) ≤ p.maxVal)
    (h1 : (lo : Rat) ≤ v) (h2 : v ≤ (hi : Rat)) : (lo : Rat) ≤ p.quant v ∧ p.quant v ≤ (hi : Rat) :=
  quant_range p lo hi v hm h1 h2

/-- Range clause along the whole chain, plain path (straight-alpha handling off, or not RGBA),
for every strategy (any plan): if channel `c` of the source lies in `[lo, hi]` (end points
representable), channel `c` of EVERY generated level lies in `[lo, hi]` — the bound does not
grow along chains of rounded levels. -/
theorem range_all_levels (K : Kernel) (f : Filter) (hK : K.Convex f) (p : Prec) (sa : Bool) (src : Img)
    (hplain : sa = false ∨ src.planes.length ≠ 4) (c : Nat) (pl0 : Plane) (h0 : src.planes[c]? = some pl0)
    (hlen : pl0.length = src.w * src.h) (lo hi : Rat) (hg : p.Grid lo hi) (hv : ∀ v ∈ pl0, lo ≤ v ∧ v ≤ hi)
    (plan : List (Sz × Nat)) :
    ∀ l ∈ runPlan (resizeImg K f p sa) src plan [],
      ∃ pl, l.planes[c]? = some pl ∧ pl.length = l.w * l.h ∧ ∀ v ∈ pl, lo ≤ v ∧ v ≤ hi := by
  apply chain_plain (fun n pl => pl.length = n ∧ ∀ v ∈ pl, lo ≤ v ∧ v ≤ hi) _ c src hplain pl0 h0 ⟨hlen, hv⟩
  intro sw sh dw dh pl ⟨h1, h2⟩
  have ok := hK.1.ok sw sh dw dh
  exact ⟨(List.length_map _).trans ok.len,
    resizePlane_range p lo hi hg _ _ _ ok (hK.2 sw sh dw dh) pl h1 h2⟩

/-- Range clause along the whole chain, straight-alpha path (RGBA): alpha stays in its source
interval `[alo, ahi]`, and the colour `c ∈ {0,1,2}` of every generated pixel that is not fully
transparent lies in the interval `[lo, hi]` spanned by the source pixels that are not fully
transparent. Nothing is claimed about the colour of fully transparent output pixels. -/
theorem range_all_levels_straight (K : Kernel) (f : Filter) (hK : K.Convex f) (p : Prec) (src : Img)
    (c : Nat) (alo ahi lo hi : Rat) (hga : p.Grid alo ahi) (ha0 : 0 ≤ alo) (hg : p.Grid lo hi)
    (hs : SAInv (QRange alo ahi lo hi) c src) (plan : List (Sz × Nat)) :
    ∀ l ∈ runPlan (resizeImg K f p true) src plan [], SAInv (QRange alo ahi lo hi) c l := by
  apply chain_sa (QRange alo ahi lo hi) (QRange alo ahi lo hi) (fun _ _ _ h => h) _ c src hs
  intro sw sh dw dh x a h
  exact step_QRange p alo ahi lo hi hga ha0 hg _ _ _ (hK.1.ok sw sh dw dh) (hK.2 sw sh dw dh) x a h

/-- With straight alpha, an output pixel with positive accumulated alpha has the colour
`Σ uᵢ·cᵢ` with `uᵢ = wᵢ·aᵢ / Σ wⱼ·aⱼ`, and these weights are convex (`≥ 0`, sum 1). -/
theorem straight_alpha_convex (t : Taps) (c a : Nat → Rat) (nn : t.NonNeg) (ha : ∀ iw ∈ t, 0 ≤ a iw.1)
    (hpos : 0 < dot t a) :
    let u : Taps := t.map fun iw => (iw.1, iw.2 * a iw.1 * (1 / dot t a))
    dot t (fun i => c i * a i) * (1 / dot t a) = dot u c ∧ u.NonNeg ∧ u.sumW = 1 := by
  intro u
  -- the premultiplied taps, every weight scaled by `1 / Σ wⱼ·aⱼ`
  have hu : u = (t.map fun iw => (iw.1, iw.2 * a iw.1)).map fun iw => (iw.1, iw.2 * (1 / dot t a)) := by
    rw [List.map_map]; rfl
  refine ⟨?_, ?_, ?_⟩
  · rw [hu, dot_scale, ← dot_premul, Rat.mul_comm]
  · intro iw hm
    obtain ⟨jw, hj, rfl⟩ := List.mem_map.mp hm
    exact Rat.mul_nonneg (Rat.mul_nonneg (nn jw hj) (ha jw hj)) (Rat.le_of_lt (one_div_pos _ hpos))
  · rw [hu, sumW_eq_dot, dot_scale, ← sumW_eq_dot, sumW_premul, Rat.mul_comm]
    exact mul_one_div_cancel _ (Rat.ne_of_gt hpos)

/-! ### constant colour, opacity -/

/-- Plain path: if channel `c` of the source is uniformly `v` (representable), channel `c` of
every generated level is uniformly `v`, exactly, for every filter (negative lobes allowed) and
every strategy. Taking all channels gives "a constant image yields mipmaps of that colour". -/
theorem constant_preserved (K : Kernel) (f : Filter) (hK : K.Normalised f) (p : Prec) (sa : Bool) (src : Img)
    (hplain : sa = false ∨ src.planes.length ≠ 4) (c : Nat) (pl0 : Plane) (h0 : src.planes[c]? = some pl0)
    (hlen : pl0.length = src.w * src.h) (v : Rat) (hg : p.Grid v v) (hv : ∀ x ∈ pl0, x = v)
    (plan : List (Sz × Nat)) :
    ∀ l ∈ runPlan (resizeImg K f p sa) src plan [],
      ∃ pl, l.planes[c]? = some pl ∧ pl.length = l.w * l.h ∧ ∀ x ∈ pl, x = v := by
  apply chain_plain (fun n pl => pl.length = n ∧ ∀ x ∈ pl, x = v) _ c src hplain pl0 h0 ⟨hlen, hv⟩
  intro sw sh dw dh pl ⟨h1, h2⟩
  have ok := hK.ok sw sh dw dh
  exact ⟨(List.length_map _).trans ok.len, resizePlane_const p v hg _ _ _ ok pl h1 h2⟩

/-- Straight-alpha path: a uniformly coloured RGBA image with alpha `ca > 0` yields levels of
exactly that colour and that alpha (colour channel `c ∈ {0,1,2}`). -/
theorem constant_preserved_straight (K : Kernel) (f : Filter) (hK : K.Normalised f) (p : Prec) (src : Img)
    (c : Nat) (cx ca : Rat) (hgx : p.Grid cx cx) (hga : p.Grid ca ca) (hpos : 0 < ca)
    (hs : SAInv (QConst cx ca) c src) (plan : List (Sz × Nat)) :
    ∀ l ∈ runPlan (resizeImg K f p true) src plan [], SAInv (QConst cx ca) c l := by
  apply chain_sa (QConst cx ca) (QConst cx ca) (fun _ _ _ h => h) _ c src hs
  intro sw sh dw dh x a h
  exact step_QConst p cx ca hgx hga hpos _ _ _ (hK.ok sw sh dw dh) x a h

/-- Straight-alpha path, alpha uniformly 0: every generated pixel is (0,0,0,0) whatever the
colour was (the property leaves the colour of fully transparent pixels unconstrained; this is
what the code does for all three precisions). -/
theorem constant_transparent (K : Kernel) (f : Filter) (hK : K.Normalised f) (p : Prec) (src : Img)
    (c : Nat) (hs : SAInv SZero c src) (plan : List (Sz × Nat)) :
    ∀ l ∈ runPlan (resizeImg K f p true) src plan [], SAInv QZero c l := by
  apply chain_sa SZero QZero (fun _ _ _ h => h.1) _ c src hs
  intro sw sh dw dh x a h
  exact step_QZero p _ _ _ (hK.ok sw sh dw dh) x a h

/-- A fully opaque image stays fully opaque, plain path: the alpha channel (index `c`) of every
level is exactly the maximum. -/
theorem opaque_preserved (K : Kernel) (f : Filter) (hK : K.Normalised f) (p : Prec) (sa : Bool) (src : Img)
    (hplain : sa = false ∨ src.planes.length ≠ 4) (c : Nat) (pl0 : Plane) (h0 : src.planes[c]? = some pl0)
    (hlen : pl0.length = src.w * src.h) (hv : ∀ x ∈ pl0, x = p.maxVal) (plan : List (Sz × Nat)) :
    ∀ l ∈ runPlan (resizeImg K f p sa) src plan [],
      ∃ pl, l.planes[c]? = some pl ∧ pl.length = l.w * l.h ∧ ∀ x ∈ pl, x = p.maxVal :=
  constant_preserved K f hK p sa src hplain c pl0 h0 hlen p.maxVal (grid_max p) hv plan

/-- A fully opaque image stays fully opaque, straight-alpha path. -/
theorem opaque_preserved_straight (K : Kernel) (f : Filter) (hK : K.Normalised f) (p : Prec) (src : Img)
    (c : Nat) (hs : SAInv (QOpaque p) c src) (plan : List (Sz × Nat)) :
    ∀ l ∈ runPlan (resizeImg K f p true) src plan [], SAInv (QOpaque p) c l := by
  apply chain_sa (QOpaque p) (QOpaque p) (fun _ _ _ h => h) _ c src hs
  intro sw sh dw dh x a h
  exact step_QOpaque p _ _ _ (hK.ok sw sh dw dh) x a h

/-! ### independence -/

/-- Without straight-alpha handling (or for a colour format that is not RGBA) each channel's
result is a function of that channel only: two sources of the same size that agree on channel
`c` produce, level by level, identical channels `c` — whatever the other channels contain, for
any kernel at all. -/
theorem independent_channels (K : Kernel) (f : Filter) (p : Prec) (sa : Bool) (c : Nat) (src src' : Img)
    (hplain : sa = false ∨ (src.planes.length ≠ 4 ∧ src'.planes.length ≠ 4))
    (hw : src.w = src'.w) (hh : src.h = src'.h) (hc : src.planes[c]? = src'.planes[c]?)
    (plan : List (Sz × Nat)) :
    AllRel (fun l l' => l.w = l'.w ∧ l.h = l'.h ∧ l.planes[c]? = l'.planes[c]?)
      (runPlan (resizeImg K f p sa) src plan []) (runPlan (resizeImg K f p sa) src' plan []) :=
  chain_plain_rel c src src' hplain hw hh hc plan

/-! ### the chain statements on concrete images -/

def boxK : Kernel := ⟨fun _ sw sh dw dh =>
  List.replicate (dw * dh) ((List.range (sw * sh)).map fun i => (i, 1 / ((sw * sh : Nat) : Rat)))⟩

example : (boxK.taps .box 2 2 1 1) = [[(0, 1/4), (1, 1/4), (2, 1/4), (3, 1/4)]] := by decide +kernel

/-- the chain on a concrete 2x2 RGBA u8 image with a transparent pixel: plain path averages the
colours, straight alpha ignores the colour of the transparent pixel -/
example :
    (runPlan (resizeImg boxK .box .u8 false) ⟨2, 2, [[100, 100, 100, 0], [255, 255, 255, 255]]⟩ [((1, 1), 0)] []).map
      (·.planes) = [[[75], [255]]] := by decide +kernel

example :
    (runPlan (resizeImg boxK .box .u8 true)
      ⟨2, 2, [[100, 100, 100, 7], [0, 0, 0, 0], [9, 9, 9, 200], [255, 255, 255, 0]]⟩ [((1, 1), 0)] []).map
      (·.planes) = [[[100], [0], [9], [191]]] := by decide +kernel

end Dds.C16

/-! ## The buffer and index arithmetic of the mipmap generator does not panic (`TrapMip.lean`)

Trapping mirrors (`Option`, `none` = panic in the overflow-checking profile) of `MipmapCache` (src/encoder.rs) and of
`get_aligned_slice`, `Aligner::align`, `AlignedView`, `AlignedBuffer`, `ResizeState`, `resize_into`, `resize_typed`
(src/resize.rs).  The `resize` crate is an external call whose ASSUMED contract (read from resize-0.8.9/src/lib.rs,
stated at the top of `TrapMip.lean`) is: `Resizer::new` fails iff a size is 0, `resize` fails iff the source has fewer
than `w1·h1` pixels or the destination not exactly `w2·h2`; a call violating it makes the mirror return `none`
(`expect`).  Assumed of the allocator: `Vec<u32>` storage is 4-aligned; an allocation failure aborts (outside the model).
Bound: pixel buffers of at most `BMAX = 2^62 − 16` bytes (beyond it `Vec`'s amortised doubling can itself exceed
`isize::MAX`; no 64-bit machine holds such an image). -/
namespace Dds.C16
open Dds Dds.Mip Dds.TrapMip Dds.TrapEnc

/-- For every allocator returning 4-aligned storage, with or without the `rayon` feature:
(1) `get_aligned_slice` returns, for ANY previous state of the buffer (any `len ≤ capacity`), a slice of exactly the
    requested `w·h·bpp` bytes at a 4-aligned address, and leaves the buffer well-formed;
(2) every SEQUENCE of generating calls through one `MipmapCache` (both buffers reused across calls) returns `some`:
    no slice, index, `expect`, `debug_assert`, capacity or `resize`-crate precondition fails, the caches stay
    well-formed, and the levels emitted by each call — sizes as the callback sees them and the image each is resized
    from — are exactly `Mip.plan` (hence the sizes of `levels_and_sizes` / `Encoder.lean`);
(3) an admissible call is: any view with C20's invariant and non-empty size (`w, h < 2^32`, ANY address — odd ones for
    U16/F32 — and ANY pitch ≥ the row bytes), any of the 12 colours, any filter, both alpha settings, any non-empty
    non-increasing list of non-empty sizes; in particular every mip chain `declared w0 h0 (l+1) (n+1)` started at ANY
    level `l` with ANY number `n+1` of further levels (also beyond 1×1) of any `w0, h0`;
(4) the 12 colour formats are `Color.OK`;
(5) the straight-alpha `to_value`s never take the reciprocal of zero, for every accumulator value. -/
theorem mip_cache_trapfree (al : Alloc) (ha : AlOK al) (rayon : Bool) :
    (∀ (b : VecBuf) (w h : Nat) (c : Color), VecOK b → c.OK → w * h * c.bpp ≤ BMAX →
      ∃ b', getAlignedSliceT al b w h c = some (b', ⟨b'.addr, w * h * c.bpp⟩) ∧ VecOK b' ∧ b'.addr % 4 = 0 ∧
        w * h * c.bpp ≤ b'.len * 4) ∧
    (∀ (calls : List Call) (k : Cache), CacheOK k → (∀ q ∈ calls, CallOK q) →
      ∃ k' outs, generateSeqT al rayon k calls = some (k', outs) ∧ CacheOK k' ∧
        calls.map (fun q => plan q.f (q.v.w, q.v.h) q.sizes) = outs.map some) ∧
    (∀ (w0 h0 l n addr : Nat) (v : View) (c : Color) (f : Filter) (sa : Bool), VOK v c → c.OK →
      v.w = mipSize w0 l → v.h = mipSize h0 l → v.w * v.h * c.bpp ≤ BMAX →
      CallOK ⟨addr, v, c, declared w0 h0 (l + 1) (n + 1), f, sa⟩) ∧
    (∀ c ∈ Color.all, c.OK) ∧
    (∀ (p : Prec) (accC accA : Rat), saColourT p accC accA = some (saColour p accC accA)) := by
  refine ⟨?_, fun calls k hk h => generateSeqT_ok ha rayon calls k hk h, ?_, ?_, saColourT_eq⟩
  rotate_left 2
  · exact (by decide : ∀ c ∈ Color.all, c.psize = 1 ∨ c.psize = 2 ∨ c.psize = 4)
  · intro b w h c hb hc hs
    obtain ⟨b', e1, e2, e3, _⟩ := getAlignedSliceT_ok ha hb hc hs
    exact ⟨b', e1, e2, e2.addr, e3⟩
  · intro w0 h0 l n addr v c f sa hv hc hw hh hb
    exact callOK_declared hv hc hw hh hb

/-- The bytes handed to the resizer do not depend on alignment or row pitch (the discrete half of C16's last
sentence): two views of the same size and colour whose rows hold the same bytes — at different addresses, with
different pitches, copied or not, into aligner buffers with different previous contents — give the same `w·h·bpp`
bytes, namely the rows back to back. -/
theorem aligned_view_independent (mem1 mem2 old1 old2 : Nat → Nat) (a1 a2 : Nat) {v1 v2 : View} {c : Color}
    (h1 : VOK v1 c) (h2 : VOK v2 c) (hw : v1.w = v2.w) (hh : v1.h = v2.h) (pw : 1 ≤ v1.w) (ph : 1 ≤ v1.h)
    (same : ∀ y, y < v1.h → ∀ j, j < v1.w * c.bpp → mem1 (a1 + y * v1.pitch + j) = mem2 (a2 + y * v2.pitch + j)) :
    ∀ i, i < v1.w * v1.h * c.bpp →
      alignBytes mem1 old1 a1 v1 c i = alignBytes mem2 old2 a2 v2 c i ∧
      alignBytes mem1 old1 a1 v1 c i = mem1 (a1 + (i / (v1.w * c.bpp)) * v1.pitch + i % (v1.w * c.bpp)) := by
  intro i hi
  have e1 := alignBytes_spec mem1 old1 a1 h1 pw ph i hi
  have e2 := alignBytes_spec mem2 old2 a2 h2 (by omega) (by omega) i (by rw [← hw, ← hh]; exact hi)
  refine ⟨?_, e1⟩
  rw [e1, e2, ← hw]
  have hb : 1 ≤ c.bpp := by have := h1.inv.bpp_pos; rw [h1.bpp] at this; exact this
  have hpos : 0 < v1.w * c.bpp := Nat.mul_pos pw hb
  apply same
  · apply Nat.div_lt_of_lt_mul
    rw [Nat.mul_comm v1.w v1.h, Nat.mul_assoc, Nat.mul_comm] at hi
    exact hi
  · exact Nat.mod_lt _ hpos

/-! non-vacuity, and `none` where it should be -/

def exAl : Alloc := fun _ n => 64 * (n + 1)
/-- 4×4 RGBA-U16 with pitch 35 (> 32 row bytes): len = 35·3 + 32; the examples put it at the odd address 1001 -/
def exView : View := ⟨0, 137, 4, 4, 8, 35⟩
def exCol : Color := ⟨.rgba, 2⟩

-- the hypotheses are satisfiable and the mirror runs: a strided view at an odd address, then the same pixels
-- contiguous at an odd address, through ONE cache; Triangle on 4x4 uses previous-two, Box previous
example : AlOK exAl ∧ CacheOK Cache.new ∧
    generateSeqT exAl true Cache.new
      [⟨1001, exView, exCol, [(2, 2), (1, 1), (1, 1)], .triangle, true⟩,
       ⟨2001, ⟨0, 128, 4, 4, 8, 32⟩, exCol, [(2, 2), (1, 1)], .box, false⟩] =
    some (⟨⟨2112, 32, 32⟩, VecBuf.empty⟩,
      [[((2, 2), 0), ((1, 1), 0), ((1, 1), 1)], [((2, 2), 0), ((1, 1), 1)]]) := by
  refine ⟨fun _ n => by show 64 * (n + 1) % 4 = 0; omega, CacheOK.new, by decide +kernel⟩
-- without rayon the sequential path reuses `ResizeState::dest_buffer`
example : (generateT exAl false Cache.new ⟨1001, exView, exCol, [(2, 2), (1, 1)], .nearest, true⟩).map (·.2) =
    some [((2, 2), 0), ((1, 1), 0)] := by decide +kernel
-- the mirrors are not constantly `some`: a source slice one byte short, a destination of the wrong size, a zero
-- size, an unaligned source all violate the crate's / zerocopy's preconditions
example : resizeTypedT ⟨1000, 127⟩ ⟨64, 32⟩ 4 4 2 2 4 2 = none ∧ resizeTypedT ⟨1000, 120⟩ ⟨64, 32⟩ 4 4 2 2 4 2 = none ∧
    resizeTypedT ⟨1000, 128⟩ ⟨64, 40⟩ 4 4 2 2 4 2 = none ∧ resizeTypedT ⟨1000, 128⟩ ⟨64, 0⟩ 4 4 0 2 4 2 = none ∧
    resizeTypedT ⟨1001, 128⟩ ⟨64, 32⟩ 4 4 2 2 4 2 = none ∧ resizeTypedT ⟨1000, 128⟩ ⟨64, 32⟩ 4 4 2 2 4 2 = some () := by
  decide +kernel
-- `generate_from_previous` with no sizes panics at `sizes[0]` (reached only by seed C11b, see `Theorems/C15.lean`)
example : genFromPreviousT exAl Cache.new 1000 ⟨0, 4, 1, 1, 4, 4⟩ ⟨.rgba, 1⟩ [] true = none := by decide +kernel
-- seed C16a (`split_at(2)` up front, no `len == 1` return): `none` for a single level — 2×2, 2×1, 1×2 sources —
-- where the code as it is returns the one level; identical for two or more levels
example : genFromPreviousTwoSplitT exAl Cache.new 1000 ⟨0, 16, 2, 2, 4, 8⟩ ⟨.rgba, 1⟩ [(1, 1)] true = none ∧
    (genFromPreviousTwoT exAl Cache.new 1000 ⟨0, 16, 2, 2, 4, 8⟩ ⟨.rgba, 1⟩ [(1, 1)] true).map (·.2) =
      some [((1, 1), 0)] ∧
    genFromPreviousTwoSplitT exAl Cache.new 1000 exView exCol [(2, 2), (1, 1), (1, 1)] true =
      genFromPreviousTwoT exAl Cache.new 1000 exView exCol [(2, 2), (1, 1), (1, 1)] true := by decide +kernel
-- seed C16d (`buffer.capacity() < buffer_len`): a buffer that has grown once (len 48, capacity 96 — the README's
-- 192-byte / 256-byte sequence) is a well-formed state on which the seeded function slices past the end, while
-- the code as it is resizes; clause (1) of `mip_cache_trapfree` is false for the seeded function
example : VecOK ⟨64, 48, 96⟩ ∧ getAlignedSliceCapT exAl ⟨64, 48, 96⟩ 8 8 ⟨.rgba, 1⟩ = none ∧
    getAlignedSliceT exAl ⟨64, 48, 96⟩ 8 8 ⟨.rgba, 1⟩ = some (⟨64, 64, 96⟩, ⟨64, 256⟩) := by
  refine ⟨⟨by decide, by decide, by decide⟩, by decide +kernel, by decide +kernel⟩
-- seed C16f's integer `/ a` for a fully transparent block is `recipT 0`; the code's guards never reach it
example : recipT 0 = none ∧ saColourT .u8 0 0 = some 0 ∧ saColourT .u16 0 0 = some 0 ∧ saColourT .f32 0 0 = some 0 := by
  decide +kernel
-- the alignment copy: row 1, byte 2 of a strided view lands at index 1·bpr + 2
example : alignBytes (fun a => a) (fun _ => 7) 1001 exView exCol 34 = 1001 + 35 + 2 := by decide +kernel

end Dds.C16
