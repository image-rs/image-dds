/-
C20 — Image views exist only for addressable geometry and never reach outside it.

Model: `View.lean` (`ImageView` / `ImageViewMut`: `new`, `new_with`, `rows`, `rows_mut`,
`cropped` / `cropped_data`), after the repairs F1 (checked arithmetic in `new_with`) and F2
(`rows_mut` of empty views). All statements hold for every buffer length, row pitch
(< 2^64), width/height (< 2^32) and bytes per pixel 1..16.
-/
import DdsModel.Proofs.View
namespace Dds.C20
open Dds

/-- `new_with` returns a view EXACTLY when the row pitch covers a row and every pixel row
lies inside the buffer — computed in ℕ, so extreme pitches can neither panic nor wrap — and
`None` otherwise. Non-empty sizes. -/
theorem new_with_iff (dataLen pitch w h bpp : Nat) (hd : dataLen < U64) (hp : pitch < U64)
    (hw : w < U32) (hh : h < U32) (hb : bpp ≤ 16) (hne : ¬ (w = 0 ∨ h = 0)) :
    View.newWith dataLen pitch w h bpp =
      if w * bpp ≤ pitch ∧ pitch * (h - 1) + w * bpp ≤ dataLen then
        some ⟨0, pitch * (h - 1) + w * bpp, w, h, bpp, pitch⟩
      else none := by
  unfold View.newWith
  simp only [hne, if_false]
  rw [wMul_bpr hw hb]
  by_cases h1 : pitch < w * bpp
  · rw [if_pos h1, if_neg (by omega)]
  · rw [if_neg h1]
    simp only [ckMul_ckSome, ckAdd_ckSome]
    by_cases h2 : pitch * (h - 1) < U64
    · rw [ckSome_lt h2]
      simp only
      by_cases h3 : pitch * (h - 1) + w * bpp < U64
      · rw [ckSome_lt h3]
        simp only
        by_cases h4 : dataLen < pitch * (h - 1) + w * bpp
        · rw [if_pos h4, if_neg (by omega)]
        · rw [if_neg h4, if_pos (by omega)]
      · rw [ckSome_ge h3, if_neg (by omega)]
    · rw [ckSome_ge h2, if_neg (by omega)]

/-- Empty sizes are normalised to the 0x0 view with pitch 0 over no data. -/
theorem new_with_empty (dataLen pitch w h bpp : Nat) (he : w = 0 ∨ h = 0) :
    View.newWith dataLen pitch w h bpp = some ⟨0, 0, 0, 0, bpp, 0⟩ := by
  unfold View.newWith
  simp [he, wMul, ckMul, ckAdd, U64]

/-- The contiguous constructor accepts exactly when the length matches `w*h*bpp`
(slice lengths are at most `isize::MAX`). -/
theorem new_iff (dataLen w h bpp : Nat) (hd : dataLen ≤ I64MAX) (hw : w < U32) (hb : bpp ≤ 16)
    (hne : ¬ (w = 0 ∨ h = 0)) :
    View.new dataLen w h bpp =
      if dataLen = w * h * bpp then some ⟨0, dataLen, w, h, bpp, w * bpp⟩ else none := by
  unfold View.new
  simp only [hne, if_false]
  rw [wMul_bpr hw hb]
  unfold satMul64
  have hI : I64MAX < U64 - 1 := by decide
  by_cases h1 : w * h * bpp < U64
  · rw [if_pos h1]
    by_cases h2 : dataLen = w * h * bpp
    · rw [if_neg (by omega), if_pos h2]
    · rw [if_pos h2, if_neg h2]
  · rw [if_neg h1, if_pos (by omega), if_neg (by omega)]

theorem new_empty (dataLen w h bpp : Nat) (he : w = 0 ∨ h = 0) :
    View.new dataLen w h bpp = if dataLen = 0 then some ⟨0, 0, 0, 0, bpp, 0⟩ else none := by
  unfold View.new
  simp only [he, if_true, Nat.zero_mul, satMul64, wMul]
  by_cases h0 : dataLen = 0
  · subst h0; simp [U64]
  · have : (0 : Nat) < U64 := by decide
    simp [h0, this]

/-- Every view returned by `new_with` satisfies the invariant. -/
theorem new_with_inv (dataLen pitch w h bpp : Nat) (v : View) (hd : dataLen < U64)
    (hp : pitch < U64) (hw : w < U32) (hh : h < U32) (hb1 : 1 ≤ bpp) (hb : bpp ≤ 16)
    (hv : View.newWith dataLen pitch w h bpp = some v) : Inv v := by
  by_cases he : w = 0 ∨ h = 0
  · rw [new_with_empty _ _ _ _ _ he] at hv
    simp only [Option.some.injEq] at hv
    subst hv
    exact ⟨hb1, hb, by show 0 < U32; decide, by show 0 < U32; decide, by show 0 < U64; decide,
      fun _ => ⟨rfl, rfl, rfl, rfl⟩, by simp, fun h => absurd (Or.inl rfl) h⟩
  · rw [new_with_iff _ _ _ _ _ hd hp hw hh hb he] at hv
    by_cases hc : w * bpp ≤ pitch ∧ pitch * (h - 1) + w * bpp ≤ dataLen
    · rw [if_pos hc] at hv
      simp only [Option.some.injEq] at hv
      subst hv
      exact ⟨hb1, hb, hw, hh, by show pitch * (h - 1) + w * bpp < U64; omega,
        fun h' => absurd h' he, hc.1, fun _ => rfl⟩
    · rw [if_neg hc] at hv; cases hv

/-! ### rows -/

/-- the rows a view must expose: `height` slices of `width*bpp` bytes at multiples of the pitch -/
def specRows (v : View) : List (Nat × Nat) :=
  (List.range v.h).map fun y => (y * v.pitch, y * v.pitch + v.w * v.bpp)

/-- `rows()` exposes exactly the specified rows, all inside the data; also for empty views
(zero rows); no slice panics and no index arithmetic wraps. -/
theorem rows_spec (v : View) (hv : Inv v) :
    v.rowsP = some (specRows v) ∧ ∀ r ∈ specRows v, r.1 ≤ r.2 ∧ r.2 ≤ v.len := by
  constructor
  · unfold View.rowsP specRows
    by_cases he : v.w = 0 ∨ v.h = 0
    · simp [(hv.empty he).2.1, sequenceOpt]
    · simp only [he, if_false]
      apply sequenceOpt_map_some
      intro y hy
      have hb := hv.row_bound (List.mem_range.mp hy)
      have hl := hv.len_lt
      rw [wMul_bpr hv.w_lt hv.bpp_le, wMul_eq (by omega), wAdd_eq (by omega)]
      unfold sliceP
      rw [if_pos ⟨by omega, hb⟩]
  · intro r hr
    obtain ⟨y, hy, rfl⟩ := List.mem_map.mp hr
    exact ⟨by simp, hv.row_bound (List.mem_range.mp hy)⟩

private theorem chunk_count {pitch h bpr : Nat} (hp : 1 ≤ pitch) (hb1 : 1 ≤ bpr) (hb : bpr ≤ pitch)
    (hh : 1 ≤ h) : (pitch * (h - 1) + bpr + pitch - 1) / pitch = h := by
  obtain ⟨k, rfl⟩ : ∃ k, h = k + 1 := ⟨h - 1, by omega⟩
  apply Nat.div_eq_of_lt_le <;>
    simp only [Nat.add_sub_cancel, Nat.add_mul, Nat.one_mul, Nat.mul_comm pitch k] <;> omega

/-- `rows_mut()` (via `chunks_mut(pitch)`) exposes exactly the same rows, also for empty
views (no chunk-size-zero panic). -/
theorem rows_mut_spec (v : View) (hv : Inv v) : v.rowsMutP = some (specRows v) := by
  unfold View.rowsMutP specRows
  by_cases he : v.w = 0 ∨ v.h = 0
  · obtain ⟨_, h2, h3, h4⟩ := hv.empty he
    simp [h2, h3, h4, sequenceOpt]
  · have hbpr : 1 ≤ v.w * v.bpp := Nat.mul_pos (by omega) hv.bpp_pos
    have hp := hv.pitch_ge
    simp only
    rw [show max v.pitch 1 = v.pitch by omega, wMul_bpr hv.w_lt hv.bpp_le, hv.len_eq he,
      chunk_count (h := v.h) (by omega) hbpr hp (by omega), ← hv.len_eq he]
    apply sequenceOpt_map_some
    intro y hy
    have := hv.row_bound (List.mem_range.mp hy)
    rw [if_pos (Nat.le_min.mpr ⟨hp, by omega⟩)]

/-! ### cropping -/

/-- Cropping a rectangle inside a view yields a view that satisfies the invariant, shares the
pitch, and starts at the parent's row `oy`, byte `ox*bpp`; nothing panics or wraps. -/
theorem crop_spec (v : View) (hv : Inv v) (ox oy w h : Nat)
    (hin : v.containsRect ox oy w h = true) (hne : ¬ (w = 0 ∨ h = 0)) :
    ∃ c, v.croppedP ox oy w h = some c ∧ Inv c ∧ c.w = w ∧ c.h = h ∧ c.pitch = v.pitch ∧
      c.bpp = v.bpp ∧ c.base = v.base + oy * v.pitch + ox * v.bpp := by
  obtain ⟨hw, hh⟩ := View.containsRect_iff.mp hin
  exact ⟨_, croppedP_eq hv hw hh hne, hv.crop hw hh hne _, rfl, rfl, rfl, rfl, rfl⟩

/-- Byte `i` of row `j` of the crop is byte `ox*bpp + i` of row `oy + j` of the parent. -/
theorem crop_addresses (v c : View) (ox oy j i : Nat)
    (hb : c.base = v.base + oy * v.pitch + ox * v.bpp) (hp : c.pitch = v.pitch) :
    c.base + j * c.pitch + i = v.base + (oy + j) * v.pitch + (ox * v.bpp + i) := by
  rw [hb, hp, Nat.add_mul]; omega

/-- **Cropping composes**: a crop of a crop is the crop of the parent at the summed offsets — the same
base address, length, size, pitch; so any chain of crops addresses precisely the sub-rectangle it names in
the original buffer (non-empty rectangles; empty ones are `crop_empty`). -/
theorem crop_crop (v : View) (hv : Inv v) (ox1 oy1 w1 h1 ox2 oy2 w2 h2 : Nat)
    (hin1 : v.containsRect ox1 oy1 w1 h1 = true) (hne1 : ¬ (w1 = 0 ∨ h1 = 0))
    (hne2 : ¬ (w2 = 0 ∨ h2 = 0)) (hin2 : ox2 + w2 ≤ w1 ∧ oy2 + h2 ≤ h1) :
    (v.croppedP ox1 oy1 w1 h1).bind (fun c => c.croppedP ox2 oy2 w2 h2) =
      v.croppedP (ox1 + ox2) (oy1 + oy2) w2 h2 ∧
    (v.croppedP (ox1 + ox2) (oy1 + oy2) w2 h2).isSome = true := by
  obtain ⟨hw, hh⟩ := View.containsRect_iff.mp hin1
  rw [croppedP_eq hv hw hh hne1, Option.bind_some,
    croppedP_eq (hv.crop hw hh hne1 _) hin2.1 hin2.2 hne2,
    croppedP_eq hv (by omega) (by omega) hne2, Nat.add_mul, Nat.add_mul]
  simp only [Option.some.injEq, View.mk.injEq, and_true, Option.isSome_some]
  omega

/-- non-vacuity: a 2×2 crop at (1,1) of a 6×5 crop at (2,1) of a 10×8 RGBA view with pitch 48 is the
2×2 crop at (3,2) -/
example : ((View.mk 0 (48 * 7 + 40) 10 8 4 48).croppedP 2 1 6 5).bind (fun c => c.croppedP 1 1 2 2) =
    (View.mk 0 (48 * 7 + 40) 10 8 4 48).croppedP 3 2 2 2 ∧
    (View.mk 0 (48 * 7 + 40) 10 8 4 48).croppedP 3 2 2 2 = some ⟨2 * 48 + 12, 48 + 8, 2, 2, 4, 48⟩ := by
  decide

/-- **The full crop is the identity**: cropping a non-empty view at offset (0,0) with its own size returns
exactly that view (same base, length, pitch). -/
theorem crop_full_id (v : View) (hv : Inv v) (hne : ¬ (v.w = 0 ∨ v.h = 0)) :
    v.croppedP 0 0 v.w v.h = some v := by
  rw [croppedP_eq hv (by omega) (by omega) hne, ← hv.len_eq hne]
  simp only [Nat.zero_mul, Nat.add_zero]

/-- Empty crops inside the parent give the empty view. -/
theorem crop_empty (v : View) (ox oy w h : Nat) (hin : v.containsRect ox oy w h = true)
    (he : w = 0 ∨ h = 0) : v.croppedP ox oy w h = some ⟨v.base, 0, 0, 0, v.bpp, 0⟩ := by
  unfold View.croppedP
  simp [hin, he]

/-- Rectangles outside the parent are rejected (the documented panic), including offsets and
sizes whose `u32` sum would overflow (the test is made in `u64`). -/
theorem crop_rejects_outside (v : View) (ox oy w h : Nat)
    (hout : ¬ (ox + w ≤ v.w ∧ oy + h ≤ v.h)) : v.croppedP ox oy w h = none := by
  unfold View.croppedP
  rw [Bool.eq_false_iff.mpr (fun h => hout (View.containsRect_iff.mp h))]; rfl

/-! ### non-vacuity and the witness of defect F1 -/

/-- F1's witness: pitch = 2^64-1, 1x3 RGBA over 64 bytes is rejected (ideal sum ≫ 64). -/
example : View.newWith 64 18446744073709551615 1 3 4 = none := by decide

/-- a 3x2 RGB8 view with pitch 16 inside a 32-byte buffer, and a crop of it -/
example : (View.newWith 32 16 3 2 3).bind (fun v => v.croppedP 1 1 2 1) =
    some ⟨19, 6, 2, 1, 3, 16⟩ := by decide

example : Inv ⟨0, 25, 3, 2, 3, 16⟩ :=
  ⟨by decide, by decide, by decide, by decide, by decide, fun h => by simp at h, by decide,
    fun _ => by decide⟩

end Dds.C20
