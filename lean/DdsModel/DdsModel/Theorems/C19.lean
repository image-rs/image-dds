/-
C19 — Format metadata agrees with what the codecs actually do.

Only the property theorems and non-vacuity examples live here; helper lemmas are in
`Proofs/FormatTables.lean` and `Proofs/Dither.lean`.  All statements are about the tables of
`FormatTables.lean` (header / detection rows translated from the source on every run via `SrcTables.lean`,
so the `decide` theorems are checked against the rows of the source as it is; format layouts, colours and encoder lists
pinned) and the dataflow model `Dither.lean`; the tie to the library is the C19 stream
of check.py (tables: exhaustive; codecs: every format × sizes × dithering modes).
-/
import DdsModel.Proofs.FormatTables
import DdsModel.Proofs.Dither
import DdsModel.Drv.C19
namespace Dds.C19
open Dds

/-! ## (a) the layout derived from the header is the layout of the detected format -/

/-- For every header from which a format is detected — every valid DXGI code with any alpha mode,
ANY FourCC value, ANY mask pixel format with a valid bit count — `PixelInfo::from_header` does not
panic and returns exactly `PixelInfo::from(Format::from_header(..))`. -/
theorem pixelinfo_agrees (h : Hdr) (hv : h.Valid) (f : Format) (hf : formatOfHeader h = .ok f) :
    ∃ px, formatPixelInfoP f = some px ∧ pixelInfoOfHeaderP h = some (.ok px) :=
  -- `hv` is not needed: a header from which a format is detected has that format's layout, valid or not
  ⟨f.row.px, formatPixelInfoP_eq f, pixelInfoOfHeaderP_of_detected hf⟩

-- the hypotheses are satisfiable in each arm, including the special case and the default arms
example : formatOfHeader (.dx10 29 0) = .ok .R8G8B8A8_UNORM := by rfl
example : formatOfHeader (.dx10 77 2) = .ok .BC3_UNORM_PREMULTIPLIED_ALPHA := by rfl
example : formatOfHeader (.fourCC FCC_ATI2) = .ok .BC5_UNORM := by rfl
example : formatOfHeader (.fourCC 113) = .ok .R16G16B16A16_FLOAT := by rfl
example : formatOfHeader (.mask ⟨0x20001, 16, 0xFF, 0, 0, 0xFF00⟩) = .ok .R8G8_UNORM := by rfl
example : formatOfHeader (.mask ⟨0x40, 24, 0xFF, 0xFF00, 0xFF0000, 0⟩) = .ok .R8G8B8_UNORM := by rfl
example : formatOfHeader (.fourCC 12345) = .error .fourCC := by rfl
-- a valid DXGI code with a layout but no supported format: the layout exists, no format is detected
example : formatOfHeader (.dx10 110 0) = .error .dxgi ∧
    pixelInfoOfHeaderP (.dx10 110 0) = some (.ok (.biPlanar 1 2 4 1)) := ⟨by rfl, by rfl⟩

/-- The range pattern of `DxgiFormat::try_from` accepts exactly the codes of the named `DxgiFormat` constants
(both translated from the source; no row count is pinned). -/
theorem dxgi_codes_complete (code : Nat) : dxgiValid code = (dxgiRow? code).isSome :=
  dxgiValid_eq_row code

/-! ## (b) the metadata of a format is consistent with itself and with the codec tables -/

/-- everything clause (b) says about one format, as a Boolean evaluated on the pinned tables -/
def metadataCheck (f : Format) : Bool :=
  let px := f.row.px
  -- the layout computed by the code (`From<Format> for PixelInfo`) is the pinned one, well formed
  (formatPixelInfoP f == some px) && decide px.WF &&
  -- bits per pixel = the value derived from the layout (8·bytes/pixel of a large surface, rounded up)
  (bitsPerPixel px == bitsPerPixelSpec px) &&
  -- the canonical DXGI code is valid, has the same layout, and is detected as this format again
  -- (BC3_UNORM_NORMAL is documented as undetectable: it is written as BC3_UNORM)
  (match f.row.dxgi with
   | none => true
   | some dx => dxgiValid dx && (dxgiPixelInfo dx == some px) &&
       ((dxgiToFormat dx == some f) ||
        (f == .BC3_UNORM_NORMAL && dxgiToFormat dx == some .BC3_UNORM))) &&
  -- the FourCC written for the format is detected as this format
  (match f.row.fourCC with
   | none => true
   | some cc => fourCCToFormat cc == some f) &&
  -- the mask pattern written for the format is detected as this format
  (match formatToMask f with
   | none => true
   | some pf => (maskToFormat pf == some f) && bitCountValid pf.bitCount) &&
  (match encoderSet f with
   | none => true
   | some s =>
     -- encodable: every colour format × option finds an encoder (no `expect` panic)
     (ColorFormat.all.all fun c => Dithering.all.all fun d => (s.pick c d).isSome) &&
     -- a verbatim-copy encoder exists only for the decoder's native colour, whose size is the
     -- layout's pixel size
     (s.encs.all fun e =>
        match e.colors with
        | .single c => (c == f.row.color) &&
            (px == .fixed ((match c.channels with | .gray | .alpha => 1 | .rgb => 3 | .rgba => 4) *
                           (match c.precision with | .u8 => 1 | .u16 => 2 | .f32 => 4)))
        | _ => true) &&
     -- the size multiple is the chroma sub-sampling of the layout (and absent otherwise)
     (s.support.sizeMultiple == match px with
                                | .biPlanar _ _ sx sy => some (sx, sy) | _ => none) &&
     -- the split height is the block height; none for bi-planar
     (s.support.splitHeight == match px with
                               | .fixed _ => some 1 | .block _ _ bh => some bh
                               | .biPlanar .. => none) &&
     -- documented: "dithering() == None implies local_dithering() == false"
     (!s.support.localDithering || (s.support.dithering != Dithering.none)))

/-- Clause (b) for all 73 formats (complete evaluation of the tables). -/
theorem metadata_consistent : ∀ f : Format, metadataCheck f = true :=
  forall_format (by decide +kernel)

/-- `supports_size` tests exactly divisibility by the advertised size multiple, for every size. -/
theorem supports_size_iff (s : Support) (w h : Nat) :
    s.supportsSize w h = true ↔
      ∀ mw mh, s.sizeMultiple = some (mw, mh) → w % mw = 0 ∧ h % mh = 0 := by
  unfold Support.supportsSize
  cases hs : s.sizeMultiple with
  | none => simp
  | some m =>
    obtain ⟨a, b⟩ := m
    simp only [Bool.and_eq_true, beq_iff_eq, Option.some.injEq, Prod.mk.injEq]
    constructor
    · intro h mw mh hm; obtain ⟨rfl, rfl⟩ := hm; exact h
    · intro h; exact h a b ⟨rfl, rfl⟩

/-- Encoding is advertised as possible exactly when an encoder list exists, and for the three
bi-planar formats exactly the even sizes are supported; every other encodable format supports every
size. -/
theorem encodable_sizes (f : Format) (s : Support) (hs : encodingSupport f = some s) (w h : Nat) :
    s.supportsSize w h = true ↔
      ((f = .NV12 ∨ f = .P010 ∨ f = .P016) → w % 2 = 0 ∧ h % 2 = 0) := by
  have key : ∀ f : Format, (match encodingSupport f with
      | none => true
      | some s => s.sizeMultiple ==
          if f = .NV12 ∨ f = .P010 ∨ f = .P016 then some (2, 2) else none) = true :=
    forall_format (by decide +kernel)
  have hk := key f
  rw [hs] at hk
  simp only [beq_iff_eq] at hk
  rw [supports_size_iff, hk]
  by_cases hf : f = .NV12 ∨ f = .P010 ∨ f = .P016
  · rw [if_pos hf]
    constructor
    · intro h' _; exact h' 2 2 rfl
    · intro h' mw mh hm
      simp only [Option.some.injEq, Prod.mk.injEq] at hm
      obtain ⟨rfl, rfl⟩ := hm
      exact h' hf
  · rw [if_neg hf]
    constructor
    · intro _ h'; exact absurd h' hf
    · intro _ mw mh hm; simp at hm

example : (encodingSupport .NV12).map (·.supportsSize 4 6) = some true := by decide
example : (encodingSupport .NV12).map (·.supportsSize 4 5) = some false := by decide
example : encodingSupport .BC6H_UF16 = none := by decide

/-! ## the overlapping flag bits (`DITHER_ALPHA = 0x16`) -/

/-- the encoder table is free of flag confusion: Boolean evaluated per format -/
def flagsCheck (f : Format) : Bool :=
  match encoderSet f with
  | none => true
  | some s =>
    -- per encoder: the exactness test `flags.contains(exact_for(p))` answers what was meant …
    (s.encs.all fun e => [Precision.u8, .u16, .f32].all fun p =>
        flagsContain e.flags.bits (exactFor p) == e.flags.exactAt p) &&
    -- … and `get_dithering` reads back exactly the dithering flags that were set
    (s.encs.all fun e =>
        getDithering e.flags.bits == ⟨e.flags.ditherColor, e.flags.ditherAlpha⟩) &&
    -- the advertised dithering (from the OR of all flag bytes) is the union of the encoders' flags
    (s.support.dithering ==
        s.encs.foldl (fun acc e => acc.union ⟨e.flags.ditherColor, e.flags.ditherAlpha⟩)
          Dithering.none)

/-- With the source's exact bit values and bit tests, no encoder of the table passes an exactness
test it should fail (or vice versa), and no format advertises dithering it lacks (or hides one). -/
theorem flags_no_confusion : ∀ f : Format, flagsCheck f = true :=
  forall_format (by decide +kernel)

-- The theorem is about the table, not about the encoding: an encoder that were both EXACT_U8 and
-- DITHER_ALPHA would pass the EXACT_F32 test …
example : flagsContain (SymFlags.bits ⟨some .u8, false, true⟩) (exactFor .f32) = true := by decide
example : (SymFlags.exactAt ⟨some .u8, false, true⟩ .f32) = false := by decide
-- … and an `intersects` test instead of `contains` would make R32_FLOAT advertise alpha dithering.
example : flagsIntersect (SymFlags.bits ⟨some .f32, false, false⟩) FLAG_DITHER_ALPHA = true := by decide
example : (encodingSupport .R32_FLOAT).map (·.dithering) = some Dithering.none := by decide

/-! ## (c) dithering acts only where advertised and requested -/

/-- Floyd–Steinberg encoders, arbitrary image (any number of rows of any lengths), arbitrary
quantiser `q`: if the error mask is 0 on the lanes of a channel group `G`, then every view of the
stored pixel that depends only on the `G` lanes of the quantiser's input (e.g. the stored alpha
bits) is identical to the view of the undithered encoding. -/
theorem dither_mask_independent {Out β : Type} (q : V4 → Out × V4) (mask : V4) (G : Ch → Prop)
    (hmask : ∀ c, G c → mask.get c = 0) (view : Out → β)
    (hview : ∀ p p', (∀ c, G c → p.get c = p'.get c) → view (q p).1 = view (q p').1)
    (rows : List (List V4)) :
    (ditherImage q mask rows).map (·.map view) = (plainImage q rows).map (·.map view) := by
  have h := ditherRows_view (G := G) q hmask view hview rows (fun _ => V4.zero)
    (fun _ => zeroOn_zero G)
  unfold ditherImage plainImage
  rw [h]
  simp only [List.map_map, Function.comp_def]

/-- The instance the property names: with `Dithering::Color` the stored alpha, and with
`Dithering::Alpha` the stored colour, are those of `Dithering::None` — for the mask the source
derives from the option. -/
theorem dither_unrequested_group_untouched {Out β : Type} (q : V4 → Out × V4) (d : Dithering)
    (g : Group) (hd : d.has g = false) (view : Out → β)
    (hview : ∀ p p', (∀ c, g.has c → p.get c = p'.get c) → view (q p).1 = view (q p').1)
    (rows : List (List V4)) :
    (ditherImage q (errorMask d) rows).map (·.map view) =
      (ditherImage q (errorMask Dithering.none) rows).map (·.map view) := by
  rw [dither_mask_independent q (errorMask d) g.has (errorMask_zeroOn d g hd) view hview rows,
    dither_mask_independent q (errorMask Dithering.none) g.has
      (errorMask_zeroOn Dithering.none g (by cases g <;> rfl)) view hview rows]

-- a quantiser whose alpha output depends on the alpha lane only, and whose colour *does* dither:
-- 1-bit quantisation of every lane; the hypotheses hold and the colour output really changes
private def q1 (p : V4) : (Bool × Bool) × V4 :=
  let b := fun (r : Rat) => decide (r ≥ 1 / 2)
  let back := fun (r : Rat) => if r ≥ 1 / 2 then (1 : Rat) else 0
  ((b p.x, b p.w), ⟨p.x - back p.x, p.y - back p.y, p.z - back p.z, p.w - back p.w⟩)
private def row1 : List (List V4) := [[⟨2/5, 0, 0, 2/5⟩, ⟨2/5, 0, 0, 2/5⟩, ⟨2/5, 0, 0, 2/5⟩]]
example : (ditherImage q1 (errorMask ⟨true, false⟩) row1).map (·.map (·.2)) =
    (plainImage q1 row1).map (·.map (·.2)) := by decide +kernel
example : (ditherImage q1 (errorMask ⟨true, false⟩) row1).map (·.map (·.1)) ≠
    (plainImage q1 row1).map (·.map (·.1)) := by decide +kernel

/-- BC2 / BC3 wiring, arbitrary block encoders: when the alpha block is handed the alpha switch, the
colour block the colour switch, and no switch rewrites a joint block, then the alpha block is a
function of the alpha inputs and the alpha switch only, and the colour block of the pixel inputs and
the colour switch only. -/
theorem bc_blocks_independent {A P α β : Type} (w : BcWiring) (encA : Bool → A → α)
    (encC : Bool → Bool → P → β) (hA : w.alphaBlock = some .alpha) (hC : w.colorBlock = .color)
    (hJ : w.alphaJoint = false) (d d' : Dithering) (alphaIn : A) (px : P) :
    (d.alpha = d'.alpha → (bcBlock w encA encC d alphaIn px).1 = (bcBlock w encA encC d' alphaIn px).1) ∧
    (d.color = d'.color → (bcBlock w encA encC d alphaIn px).2 = (bcBlock w encA encC d' alphaIn px).2) := by
  unfold bcBlock
  rw [hA, hC, hJ]
  constructor
  · intro h; simp only [Option.map_some, Switch.on, h]
  · intro h; simp only [Switch.on, h, Bool.false_and]

/-- every encodable BC format that stores an alpha block separately (BC2, BC3 and their premultiplied
variants) has exactly that wiring; the only formats outside the alpha-independent class are the
joint-block formats BC1 and BC7 -/
theorem bc_wiring_table :
    (∀ f ∈ [Format.BC2_UNORM, .BC2_UNORM_PREMULTIPLIED_ALPHA, .BC3_UNORM, .BC3_UNORM_PREMULTIPLIED_ALPHA],
      (encoderSet f).map (·.encs.map (·.kind)) = some [.bc ⟨.color, some .alpha, false⟩]) ∧
    (∀ f : Format, alphaIndependent f = true ↔
      ((encoderSet f).isSome = true ∧ f ≠ .BC1_UNORM ∧ f ≠ .BC7_UNORM)) :=
  ⟨by decide +kernel, forall_format (by decide +kernel)⟩

-- if the alpha block were handed the colour switch (the defect fixed in /repo commit 24de876), the
-- alpha block would follow colour-only dithering: the hypothesis `hA` is necessary
example : (bcBlock (A := Unit) (P := Unit) ⟨.color, some .color, false⟩ (fun b _ => b) (fun b _ _ => b)
    ⟨true, false⟩ () ()).1 ≠
    (bcBlock ⟨.color, some .color, false⟩ (fun b _ => b) (fun b _ _ => b) ⟨false, false⟩ () ()).1 := by
  decide

/-- the path statement for one format: Boolean over all 12 colour formats × 4 options -/
def pathCheck (f : Format) : Bool :=
  match encoderSet f with
  | none => true
  | some s =>
    ColorFormat.all.all fun c => Dithering.all.all fun d =>
      match effectiveDithering f c d with
      | none => false
      | some eff =>
        -- only where advertised: a group the format does not advertise is never dithered
        (s.support.dithering.color || !eff.color) && (s.support.dithering.alpha || !eff.alpha) &&
        -- only where requested (this includes R1_UNORM's unconditional ordered dithering: that
        -- encoder is reached only when colour dithering is requested)
        (d.color || !eff.color) && (d.alpha || !eff.alpha)

/-- For every format, colour format and option: the encoder `pick_encoder` selects exists (no panic)
and dithers a channel group only if the format advertises dithering for it AND the option requests
it. -/
theorem dither_support_selects_path : ∀ f : Format, pathCheck f = true :=
  forall_format (by decide +kernel)

-- paths that do dither exist (the statement is not vacuous)
example : effectiveDithering .B5G5R5A1_UNORM rgbaF32 ⟨true, false⟩ = some ⟨true, false⟩ := by decide
example : effectiveDithering .A8_UNORM rgbaF32 ⟨true, true⟩ = some ⟨false, true⟩ := by decide
example : effectiveDithering .R8G8B8A8_UNORM rgbaU8 ⟨true, true⟩ = some ⟨false, false⟩ := by decide
example : effectiveDithering .BC3_UNORM rgbaU8 ⟨false, true⟩ = some ⟨false, true⟩ := by decide

end Dds.C19
