/-
C09 — Headers survive serialisation.

Helper lemmas are in `Proofs/Header.lean`, `Proofs/HeaderStruct.lean` and `Proofs/HeaderTables.lean`.  Statements are about the models
`Header.lean` / `HeaderTables.lean`; `pi` is any pixel-info detection (`PixelInfo::from_header`),
the modelled one is `pixelInfoOf`. The rows of the format tables are translated from the source on every run
(`SrcTables.lean`), so the table theorems here (`dxgi_table_complete`, `dx_conversion_*`, `constructed_wf`) are
re-checked for the rows the code has now.
-/
import DdsModel.Proofs.Header
import DdsModel.Proofs.HeaderTables
import DdsModel.Proofs.HeaderStruct
import DdsModel.HeaderTables
import DdsModel.Drv.C09
namespace Dds.C09
open Dds

/-! ### Raw header: bit-for-bit -/

/-- `RawHeader`: reading what was written gives the value back (whenever the `dx10` member is
present exactly when the pixel format announces it), and writing what was read reproduces the
consumed words exactly — for every word stream, i.e. every 124/144-byte image. -/
theorem raw_roundtrip :
    (∀ (r : RawHeader) (rest : List Nat), r.Consistent → RawHeader.read (r.write ++ rest) = some (r, rest)) ∧
    (∀ (ws : List Nat) (r : RawHeader) (rest : List Nat), RawHeader.read ws = some (r, rest) →
        r.write ++ rest = ws ∧ r.Consistent ∧ (r.write.length = 31 ∨ r.write.length = 36)) := by
  refine ⟨fun r rest hc => RawHeader.read_write r hc rest, fun ws r rest h => ?_⟩
  obtain ⟨h1, h2⟩ := RawHeader.write_read ws r rest h
  refine ⟨h1, h2, ?_⟩
  cases hd : r.dx10 <;> simp [RawHeader.write, hd]

/-- The same at byte level (little endian): any byte image of whole words that the raw header
reads is rewritten bit-for-bit; and the bytes of a written header decode to its words. -/
theorem raw_roundtrip_bytes :
    (∀ (n : Nat) (bs : List Nat) (r : RawHeader) (rest : List Nat), bs.length = 4 * n →
        (∀ b ∈ bs, b < 256) → RawHeader.read (leWords bs) = some (r, rest) →
        leBytes (r.write ++ rest) = bs) ∧
    (∀ (r : RawHeader), r.InRange → leWords (leBytes r.write) = r.write ∧
        (leBytes r.write).length = 4 * r.write.length ∧ ∀ b ∈ leBytes r.write, b < 256) := by
  refine ⟨fun n bs r rest hl hb h => ?_, fun r hr => ⟨leWords_leBytes _ hr, leBytes_length _, leBytes_lt _⟩⟩
  rw [(RawHeader.write_read _ r rest h).1]
  exact leBytes_leWords n bs hl hb

example : (RawHeader.read ((List.range 36).map (· + 7))).isSome = true := by decide
example : ∃ r : RawHeader, r.Consistent ∧ r.dx10.isSome = true :=
  ⟨(Header.dx10 (Dx10Header.new .image 4 4 0 28)).toRaw pixelInfoOf, by decide, by decide⟩

/-! ### Header: write then read is the identity -/

/-- `from_raw(to_raw(h)) = h` for every well-formed header, in strict mode and in permissive
mode without a file length. -/
theorem header_roundtrip (pi : Header → Option PixelInfo) (h : Header) (hwf : h.WF) :
    Header.fromRaw pi ParseOptions.strict (h.toRaw pi) = .ok h ∧
    Header.fromRaw pi (ParseOptions.newPermissive none) (h.toRaw pi) = .ok h := by
  constructor
  · rw [Header.fromRaw_strict, Header.fromRawNoFix_toRaw pi false h hwf]
  · rw [Header.fromRaw_perm, Header.fromRawNoFix_toRaw pi true h hwf]
    rfl

/-- ... and in permissive mode with the true file length (magic + header + layout length). -/
theorem header_roundtrip_file_len (pi : Header → Option PixelInfo) (h : Header) (hwf : h.WF)
    (px : PixelInfo) (hpx : pi h = some px) (L : Nat) (hL : h.layoutLen px = some L) :
    Header.fromRaw pi (ParseOptions.newPermissive (some (4 + h.byteLen + L))) (h.toRaw pi) = .ok h := by
  have ht : Header.testLen px L h = true := by rw [Header.testLen, hL]; exact beq_self_eq_true _
  have hs : ckSub (4 + h.byteLen + L) (4 + h.byteLen) = some L := ckSub_eq_some_iff.mpr (by omega)
  simp only [Header.fromRaw_perm, Header.fromRawNoFix_toRaw pi true h hwf, Header.fixBasedOnFileLen_eq hs hpx,
    Header.fixCore_of_test ht]

/-- The written image is magic + 124 (DX9) or 144 (DX10) bytes, every word is a `u32`, and
`Header::read` of it (followed by any data) returns the header and leaves the data unread —
strict, permissive, and permissive with the true file length. -/
theorem header_roundtrip_words (pi : Header → Option PixelInfo) (h : Header) (hwf : h.WF)
    (data : List Nat) :
    4 * (h.write pi).length = 4 + h.byteLen ∧ (h.byteLen = 124 ∨ h.byteLen = 144) ∧
    (∀ w ∈ h.write pi, w < U32) ∧
    Header.read pi ParseOptions.strict (h.write pi ++ data) = .ok (h, data) ∧
    Header.read pi (ParseOptions.newPermissive none) (h.write pi ++ data) = .ok (h, data) ∧
    (∀ px L, pi h = some px → h.layoutLen px = some L →
      Header.read pi (ParseOptions.newPermissive (some (4 + h.byteLen + L))) (h.write pi ++ data)
        = .ok (h, data)) := by
  have hrw := RawHeader.read_write (h.toRaw pi) (Header.toRaw_consistent pi h hwf) data
  obtain ⟨r1, r2⟩ := header_roundtrip pi h hwf
  refine ⟨Header.write_length pi h, (match h with | .dx9 _ => Or.inl rfl | .dx10 _ => Or.inr rfl), ?_,
    Header.read_of rfl hrw r1, Header.read_of rfl hrw r2,
    fun px L hpx hL => Header.read_of rfl hrw (header_roundtrip_file_len pi h hwf px hpx L hL)⟩
  intro w hw
  rcases List.mem_cons.mp hw with rfl | hw
  · decide
  · exact Header.toRaw_inRange pi h hwf w hw

def exHeader : Header := .dx10 (Dx10Header.new .cubeMap 16 16 0 71)
example : exHeader.WF ∧ pixelInfoOf exHeader = some (.block 8 4 4) ∧
    exHeader.layoutLen (.block 8 4 4) = some 768 := by decide

/-! ### Every parsed header is well-formed; parsing is a normalisation -/

/-- Every header `from_raw` returns for a raw header that was read from words (`u32` fields, the
extension present exactly when announced) is well-formed — strict or permissive, with or
without a file length. -/
theorem parsed_wf (pi : Header → Option PixelInfo) (opts : ParseOptions) (raw : RawHeader)
    (h : Header) (hr : raw.InRange) (hc : raw.Consistent)
    (hp : Header.fromRaw pi opts raw = .ok h) : h.WF :=
  Header.fromRaw_WF hp hr hc

/-- ... in particular every header `Header::read` returns from a stream of `u32` words. -/
theorem parsed_wf_words (pi : Header → Option PixelInfo) (opts : ParseOptions) (ws : List Nat)
    (hws : ∀ w ∈ ws, w < U32) (h : Header) (rest : List Nat)
    (hp : Header.read pi opts ws = .ok (h, rest)) : h.WF := by
  obtain ⟨ws', raw, hws', hraw, hh⟩ := Header.read_ok hp
  obtain ⟨e, hc⟩ := RawHeader.write_read _ _ _ hraw
  refine Header.fromRaw_WF hh (fun w hw => hws w ?_) hc
  have hw' : w ∈ ws' := e ▸ List.mem_append_left _ hw
  rcases hws' with rfl | rfl
  · exact hw'
  · exact List.mem_cons_of_mem _ hw'

/-- Parsing is a normalisation: the header parsed from `raw` (in any mode, with any file length),
written out and parsed again — strictly or permissively — is the same header. -/
theorem normalisation (pi : Header → Option PixelInfo) (opts : ParseOptions) (raw : RawHeader)
    (h : Header) (hr : raw.InRange) (hc : raw.Consistent)
    (hp : Header.fromRaw pi opts raw = .ok h) :
    Header.fromRaw pi ParseOptions.strict (h.toRaw pi) = .ok h ∧
    Header.fromRaw pi (ParseOptions.newPermissive none) (h.toRaw pi) = .ok h :=
  header_roundtrip pi h (Header.fromRaw_WF hp hr hc)


/-! ### Constructors and builder chains -/

/-- `Header::new_image / new_volume / new_cube_map` never panic (every `Format` has a DXGI code
or a DX9 pixel format) and, for `u32` arguments, the header they build and every header reached
from it by a chain of `with_size / with_dimensions / with_mipmap_count / with_mipmaps` (with
`u32` arguments) is well-formed; the chain panics only for the documented `with_mipmap_count(0)`.
(`Dx10Header::with_array_size` etc. are not `Header` builder methods; they can build headers
outside `WF`, e.g. a 3D texture with array size 2, which strict parsing rejects.) -/
theorem constructed_wf (k : CtorKind) (w h d : Nat) (f : Format) (hw : w < U32) (hh : h < U32)
    (hd : d < U32) (ops : List BuilderOp) (hops : ∀ op ∈ ops, op.InRange) :
    ∃ h0, Header.new k w h d f = some h0 ∧ h0.WF ∧
      (∀ h', h0.applyOps ops = some h' → h'.WF) ∧
      (h0.applyOps ops = none → BuilderOp.withMipmapCount 0 ∈ ops) := by
  obtain ⟨h0, e, hwf⟩ := Header.new_WF k w h d f hw hh hd
  exact ⟨h0, e, hwf, fun h' ha => Header.applyOps_WF ops hwf hops ha, Header.applyOps_none ops⟩

/-- ... hence they all survive serialisation (strict and permissive). -/
theorem constructed_roundtrip (pi : Header → Option PixelInfo) (k : CtorKind) (w h d : Nat)
    (f : Format) (hw : w < U32) (hh : h < U32) (hd : d < U32) (ops : List BuilderOp)
    (hops : ∀ op ∈ ops, op.InRange) (h0 h' : Header) (e0 : Header.new k w h d f = some h0)
    (e1 : h0.applyOps ops = some h') :
    Header.fromRaw pi ParseOptions.strict (h'.toRaw pi) = .ok h' ∧
    Header.fromRaw pi (ParseOptions.newPermissive none) (h'.toRaw pi) = .ok h' := by
  obtain ⟨h0', e, _, hall, _⟩ := constructed_wf k w h d f hw hh hd ops hops
  rw [e0] at e; cases e
  exact header_roundtrip pi h' (hall h' e1)

example : ∃ h', (Header.new .volume 16 9 5 .BC1_UNORM).bind
    (·.applyOps [.withMipmaps, .withSize 7 300, .withMipmapCount 3]) = some h' := ⟨_, rfl⟩

/-- The struct-level constructors `Dx9Header::new_*` / `Dx10Header::new_*` followed by ANY chain of the
struct-level setters (`with_size`, `with_dimensions`, `with_mipmap_count`, `with_cube_map_faces`,
`with_pixel_format`; `with_dxgi_format`, `with_resource_dimension`, `with_misc_flags`, `with_array_size`,
`with_alpha_mode`) with arguments the Rust types can hold: the result is well-formed exactly when it does not
combine `Texture3D` with an array size other than 1 — the one thing these setters can build that a DDS file
cannot say (`from_raw` rejects it with `InvalidArraySizeForTexture3D`, or repairs it in permissive mode). -/
theorem struct_builders_wf (h0 h' : Header) (ops : List StructOp)
    (h0def : (∃ k w h d p, w < U32 ∧ h < U32 ∧ d < U32 ∧ p.WF ∧ h0 = .dx9 (Dx9Header.new k w h d p)) ∨
             (∃ k w h d c, w < U32 ∧ h < U32 ∧ d < U32 ∧ dxgiValid c = true ∧
                h0 = .dx10 (Dx10Header.new k w h d c)))
    (hops : ∀ op ∈ ops, op.InRange) (e : h0.applyStructOps ops = some h') :
    (h'.WF ↔ h'.ArrayOk) := by
  have hwf0 : h0.WF := by
    rcases h0def with ⟨k, w, h, d, p, hw, hh, hd, hp, rfl⟩ | ⟨k, w, h, d, c, hw, hh, hd, hv, rfl⟩
    · exact Dx9Header.new_WF k w h d p hw hh hd hp
    · exact Dx10Header.new_WF k w h d c hw hh hd hv
  have h0' := Header.applyStructOps_WF0 ops ((Header.WF_iff h0).1 hwf0).1 hops e
  rw [Header.WF_iff]
  exact ⟨fun x => x.2, fun x => ⟨h0', x⟩⟩

/-- ... hence every such header that a file can express survives serialisation (strict and permissive). -/
theorem struct_builders_roundtrip (pi : Header → Option PixelInfo) (h0 h' : Header) (ops : List StructOp)
    (h0def : (∃ k w h d p, w < U32 ∧ h < U32 ∧ d < U32 ∧ p.WF ∧ h0 = .dx9 (Dx9Header.new k w h d p)) ∨
             (∃ k w h d c, w < U32 ∧ h < U32 ∧ d < U32 ∧ dxgiValid c = true ∧
                h0 = .dx10 (Dx10Header.new k w h d c)))
    (hops : ∀ op ∈ ops, op.InRange) (e : h0.applyStructOps ops = some h') (hok : h'.ArrayOk) :
    Header.fromRaw pi ParseOptions.strict (h'.toRaw pi) = .ok h' ∧
    Header.fromRaw pi (ParseOptions.newPermissive none) (h'.toRaw pi) = .ok h' :=
  header_roundtrip pi h' ((struct_builders_wf h0 h' ops h0def hops e).2 hok)

/-- the excluded combination is reachable (so the side condition is not vacuous), and a well-formed one too -/
example : ∃ h', (Header.dx10 (Dx10Header.new .volume 4 4 2 28)).applyStructOps [.withArraySize 2] = some h' ∧
    ¬ h'.ArrayOk := ⟨_, rfl, by decide⟩
example : ∃ h', (Header.dx9 (Dx9Header.new .image 4 4 0 (.fourCC FOURCC_DXT5))).applyStructOps
      [.withCubeMapFaces 0b100101, .withMipmapCount 3, .withDimensions 8 8 none] = some h' ∧ h'.WF :=
  ⟨_, rfl, by decide⟩

/-! ### DX9 <-> DX10 -/

/-- The DXGI table is consistent with `DxgiFormat::try_from`: the named constants (`define_dxgi_formats!`, rows
translated from the source on every run) are exactly the accepted codes, every constant names a different code, and
every accepted code fits the `u8` behind `DxgiFormat` (`value as u8` does not truncate). No row count is pinned:
adding a named, accepted code re-proves this; a named constant that `try_from` rejects (or an accepted code without
a name) fails it. -/
theorem dxgi_table_complete :
    (∀ c, c < 256 → (dxgiValid c = (dxgiRow? c).isSome)) ∧ (dxgiRows.map (·.code)).Nodup ∧
    (∀ c, dxgiValid c = true → c < 256) := by
  refine ⟨fun c _ => ?_, SrcTables.dxgiNamed_nodup, fun c h => dxgiValid_lt256 h⟩
  rw [dxgiRow?, find?_isSome_eq_any]
  exact SrcTables.codeAccepted_eq_named c

-- the table is not empty and not trivial: 28 = R8G8B8A8_UNORM is a named, accepted code; 116 is neither
example : dxgiValid 28 = true ∧ (dxgiRow? 28).isSome = true ∧ dxgiValid 116 = false := by decide

/-- `to_dx9`, when it exists, keeps width, height, depth and mip count, the pixel info
(`PixelInfo::from_header`, i.e. the bytes-per-pixel / block shape) and — for 2D textures, cube
maps and volumes — the data layout (same result or same error, for any pixel info).  A DX10
*1D* texture becomes the DX9 2D texture of the same width x height: its layout is that of the
header with `Texture2D` (it differs from the 1D layout unless height = 1).  Texture arrays
(`array_size != 1`) and cube maps that are not 2D have no DX9 form. -/
theorem dx_conversion_to_dx9 (x : Dx10Header) (y : Dx9Header) (hv : dxgiValid x.dxgiFormat = true)
    (h : (Header.dx10 x).toDx9 = some y) :
    y.width = x.width ∧ y.height = x.height ∧ y.depth = x.depth ∧ y.mipmapCount = x.mipmapCount ∧
    x.arraySize = 1 ∧
    pixelInfoOf (.dx9 y) = pixelInfoOf (.dx10 x) ∧
    (∀ px, x.resourceDimension ≠ .tex1D →
      layoutOf (Header.dx9 y).toLayoutHeader px = layoutOf (Header.dx10 x).toLayoutHeader px) ∧
    (∀ px, layoutOf (Header.dx9 y).toLayoutHeader px =
      layoutOf (Header.dx10 { x with resourceDimension :=
        if x.resourceDimension = .tex1D then .tex2D else x.resourceDimension }).toLayoutHeader px) := by
  -- `hv` is not needed: whatever the code, `to_dx9` keeps the pixel info or fails (`toDx9Format_px`)
  have h' : x.toDx9 = some y := h
  obtain ⟨e1, e2, e3, e4, e5, _, _, e6⟩ := Dx10Header.toDx9_shape h'
  refine ⟨e1, e2, e3, e4, e5, ?_, ?_, fun px => Dx10Header.toDx9_layout h' px⟩
  · rw [pixelInfoOf_dx9, toDx9Format_px e6]; rfl
  · intro px h1
    have := Dx10Header.toDx9_layout h' px
    rw [if_neg h1] at this
    exact this

/-- `to_dx10`, when it exists, keeps width, height, depth, mip count and alpha mode, the pixel
info, and the data layout (same result or same error, for any pixel info) — for every DX9
header: plain, cube (all six faces; partial cubes have no DX10 form) and volume. -/
theorem dx_conversion_to_dx10 (y : Dx9Header) (x : Dx10Header) (h : (Header.dx9 y).toDx10 = some x) :
    x.width = y.width ∧ x.height = y.height ∧ x.depth = y.depth ∧ x.mipmapCount = y.mipmapCount ∧
    x.arraySize = 1 ∧ x.alphaMode = y.alphaMode ∧
    pixelInfoOf (.dx10 x) = pixelInfoOf (.dx9 y) ∧
    (∀ px, layoutOf (Header.dx10 x).toLayoutHeader px = layoutOf (Header.dx9 y).toLayoutHeader px) := by
  have h' : y.toDx10 = some x := h
  obtain ⟨e1, e2, e3, e4, e5, e6, _, _, _, e7⟩ := Dx9Header.toDx10_shape h'
  refine ⟨e1, e2, e3, e4, e5, e6, ?_, fun px => Dx9Header.toDx10_layout h' px⟩
  rw [pixelInfoOf_dx9, ← toDx10_px e7]; rfl

/-- converting a header to its own form is the identity -/
theorem dx_conversion_self (x : Dx10Header) (y : Dx9Header) :
    (Header.dx10 x).toDx10 = some x ∧ (Header.dx9 y).toDx9 = some y := ⟨rfl, rfl⟩

example : (Header.dx10 (Dx10Header.new .cubeMap 8 8 0 71)).toDx9.isSome = true ∧
    (Header.dx9 (Dx9Header.new .volume 8 8 3 (.fourCC FOURCC_DXT5))).toDx10.isSome = true := by decide

end Dds.C09
