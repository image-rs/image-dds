/-
Trapping mirrors of the generic decode loops of `src/decode/read_write.rs` (property C01), part 1:
the vocabulary (slices, events), `ImageViewMut` row access (`src/lib.rs`), `UntypedLineBuffer`,
`ChannelConversionBuffer::process_pixels`, `for_each_pixel_untyped`, `for_each_pixel_rect_untyped`,
`read_exact_image`, `for_each_slice` and the whole-image COPY decoders of `uncompressed.rs`.
Part 2 (`TrapLoopsBlock.lean`): the block helpers, `process_blocks`, the two block loops.
Part 3 (`TrapLoopsPlanar.lean`): `process_bi_planar_helper`, `process_bi_planar`, the two bi-planar loops.

What a mirror is.  The function written once more, line by line, in the `Option` monad: `none` = a panic of the
`checked` profile (overflow-checks + debug-assertions).  Every `a..b` slice is `Sl.range` (`a ≤ b ∧ b ≤ len`), every
`[..b]` / `[a..]` `Sl.upto` / `Sl.drop`, every plain `usize` `+ *` is `ckU` (`< 2^64`), every plain `u32` `+ *` `ck32`,
every unsigned `-` `subU`, every `/` and `%` by a run-time value `div` / `modT`, every `assert!` / `debug_assert!` /
`expect` / `unwrap` `dbgP` or a `match … | none => none`, `step_by(0)` and `chunks_mut(0)` are `dbgP (… ≠ 0)`;
`as` casts truncate (`% 256`, `% 2^32`); `saturating_*`, `min`, `clamp`'s comparison chain and `div_ceil` on a
non-zero divisor do not trap.  The per-unit decode functions (the codec bodies, total by
`bc*_body_trapfree` / `uncompressed_bodies_trapfree` / …) contribute nothing but the fixed size of their result
arrays, so they do not appear; what appears is every index into those arrays.

A slice is (buffer, offset, length); the result of a mirror is the list of observable events in program order:
reader / allocator operations (`Stream.Op`, the vocabulary of C06's traces) and the byte ranges written.  An I/O
error or a memory-limit refusal is an early `return Err(..)`: the operations executed are then a PREFIX of the
list, so `some` for the whole list covers every failing run as well (the reader's data never influences an index).
Loops whose trip count is decided by the line buffer (`while let Some(line) = next_line()`) carry a fuel; running
out of fuel is `none` too, so the theorems also show that these loops terminate within `lines + 1` calls.

The tuning constants come from `SrcConsts` (regenerated from the source on every run).
-/
import DdsModel.Trap
import DdsModel.TrapUnc
import DdsModel.Addr
import DdsModel.Stream
import DdsModel.SrcConsts
namespace Dds.TrapLoops
open Dds Dds.Trap

/-- `usize::MAX + 1` (64-bit target) -/
def USIZE : Nat := 18446744073709551616
/-- `u32::MAX + 1` -/
def U32B : Nat := 4294967296

/-- result of a plain `usize` / `u64` `+` or `*` -/
def ckU (x : Nat) : Option Nat := ck USIZE x
/-- result of a plain `u32` `+` or `*` -/
def ck32 (x : Nat) : Option Nat := ck U32B x
/-- `a % b` with a run-time divisor -/
def modT (a b : Nat) : Option Nat := if b = 0 then none else some (a % b)
/-- `a.div_ceil(b)` on an unsigned type: traps only for `b = 0` (`d + 1` cannot overflow when `r > 0`) -/
def divCeilT (a b : Nat) : Option Nat := if b = 0 then none else some (divCeil a b)
/-- `u32::saturating_add` -/
def satAdd32 (a b : Nat) : Nat := if a + b < U32B then a + b else U32B - 1

theorem ckU_of_lt {x : Nat} (h : x < USIZE) : ckU x = some x := ck_of_lt h
theorem ck32_of_lt {x : Nat} (h : x < U32B) : ck32 x = some x := ck_of_lt h
theorem modT_of_ne {a b : Nat} (h : b ≠ 0) : modT a b = some (a % b) := if_neg h
theorem divCeilT_of_ne {a b : Nat} (h : b ≠ 0) : divCeilT a b = some (divCeil a b) := if_neg h

theorem ckU_bind {β} {f : Nat → Option β} {x : Nat} (h : x < USIZE) : (ckU x >>= f) = f x := ck_bind h
theorem ck32_bind {β} {f : Nat → Option β} {x : Nat} (h : x < U32B) : (ck32 x >>= f) = f x := ck_bind h
theorem modT_bind {β} {f : Nat → Option β} {a b : Nat} (h : b ≠ 0) : (modT a b >>= f) = f (a % b) := by
  rw [modT_of_ne h, bind_some']
theorem divCeilT_bind {β} {f : Nat → Option β} {a b : Nat} (h : b ≠ 0) : (divCeilT a b >>= f) = f (divCeil a b) := by
  rw [divCeilT_of_ne h, bind_some']

/-- the buffers a decode touches -/
inductive Buf where
  /-- `image.data` of the output view -/
  | out
  /-- `ChannelConversionBuffer::buffer` (3072 bytes) -/
  | tmp
  /-- `UntypedLineBuffer::buf` -/
  | line
  /-- the `row` box of `for_each_pixel_rect_untyped` -/
  | row
  /-- the `plane1` box of the bi-planar loops -/
  | plane1
deriving DecidableEq, Repr

/-- a (sub-)slice: `len` bytes (or elements) starting at `off` of buffer `buf` -/
structure Sl where
  buf : Buf
  off : Nat
  len : Nat
deriving DecidableEq, Repr

/-- `s[a..b]` -/
def Sl.range (s : Sl) (a b : Nat) : Option Sl :=
  if a ≤ b ∧ b ≤ s.len then some ⟨s.buf, s.off + a, b - a⟩ else none
/-- `s[..b]` -/
def Sl.upto (s : Sl) (b : Nat) : Option Sl := s.range 0 b
/-- `s[a..]` -/
def Sl.drop (s : Sl) (a : Nat) : Option Sl := s.range a s.len

theorem Sl.range_of {s : Sl} {a b : Nat} (h : a ≤ b ∧ b ≤ s.len) : s.range a b = some ⟨s.buf, s.off + a, b - a⟩ :=
  if_pos h
theorem Sl.upto_of {s : Sl} {b : Nat} (h : b ≤ s.len) : s.upto b = some ⟨s.buf, s.off, b⟩ := by
  unfold Sl.upto; rw [Sl.range_of ⟨Nat.zero_le _, h⟩]; rfl
theorem Sl.drop_of {s : Sl} {a : Nat} (h : a ≤ s.len) : s.drop a = some ⟨s.buf, s.off + a, s.len - a⟩ := by
  unfold Sl.drop; rw [Sl.range_of ⟨h, Nat.le_refl _⟩]

theorem Sl.range_bind {β} {f : Sl → Option β} {s : Sl} {a b : Nat} (h : a ≤ b ∧ b ≤ s.len) :
    (s.range a b >>= f) = f ⟨s.buf, s.off + a, b - a⟩ := by rw [Sl.range_of h, bind_some']
theorem Sl.upto_bind {β} {f : Sl → Option β} {s : Sl} {b : Nat} (h : b ≤ s.len) :
    (s.upto b >>= f) = f ⟨s.buf, s.off, b⟩ := by rw [Sl.upto_of h, bind_some']
theorem Sl.drop_bind {β} {f : Sl → Option β} {s : Sl} {a : Nat} (h : a ≤ s.len) :
    (s.drop a >>= f) = f ⟨s.buf, s.off + a, s.len - a⟩ := by rw [Sl.drop_of h, bind_some']

attribute [irreducible] ckU ck32 modT divCeilT Sl.range Sl.upto Sl.drop

/-- observable events of a decode, in program order -/
inductive Ev where
  /-- a reader / allocator operation (`context.alloc`, `io_skip_exact`, `read_exact`, `alloc_read`) -/
  | io (o : Stream.Op)
  /-- the bytes of this slice are (over)written -/
  | wr (s : Sl)
deriving DecidableEq, Repr

/-- the reader / allocator trace of an event list -/
def ios : List Ev → List Stream.Op
  | [] => []
  | .io o :: t => o :: ios t
  | .wr _ :: t => ios t

/-- the slices of the output view that are written -/
def outWrites : List Ev → List Sl
  | [] => []
  | .wr s :: t => if s.buf = .out then s :: outWrites t else outWrites t
  | .io _ :: t => outWrites t

/-- a loop whose body may panic and whose iterations do not depend on each other: all events in order -/
def forT {α} (body : α → Option (List Ev)) (l : List α) : Option (List Ev) :=
  match mapT body l with
  | some r => some r.flatten
  | none => none

/-! ### colour formats and the output view (`src/color/mod.rs`, `src/lib.rs`) -/

/-- `ColorFormat`: channels and `size_of` of the precision (1, 2, 4) -/
structure Color where
  ch : Unc.Channels
  psz : Nat
deriving DecidableEq, Repr

/-- `channels.count() * precision.size()` -/
def Color.bpp (c : Color) : Nat := TrapUnc.chanCount c.ch * c.psz
/-- `ColorFormat::bytes_per_pixel` (color/mod.rs:87): a `u8` product -/
def Color.bppT (c : Color) : Option Nat := ck 256 (c.bpp)

/-- `ImageViewMut` (lib.rs:345): `data.len()`, size, row pitch, colour -/
structure Img where
  len : Nat
  w : Nat
  h : Nat
  pitch : Nat
  color : Color
deriving DecidableEq, Repr

/-- `image.data()` -/
def Img.data (i : Img) : Sl := ⟨.out, 0, i.len⟩

/-- what `ImageViewMut::new` / `new_with` / `cropped` guarantee for a non-empty view (C20's `Inv`): sizes are
`u32`s, the pitch is a `usize` that covers a row, the data slice is exactly the addressable length, and it is a Rust
slice (at most `isize::MAX` bytes, as the language guarantees for every slice) -/
structure Img.Ok (i : Img) : Prop where
  w_pos : 0 < i.w
  w_lt : i.w < U32B
  h_pos : 0 < i.h
  h_lt : i.h < U32B
  psz : i.color.psz = 1 ∨ i.color.psz = 2 ∨ i.color.psz = 4
  pitch_ge : i.w * i.color.bpp ≤ i.pitch
  pitch_lt : i.pitch < USIZE
  len_eq : i.len = i.pitch * (i.h - 1) + i.w * i.color.bpp
  len_le : i.len ≤ I64MAX

instance (i : Img) : Decidable i.Ok :=
  decidable_of_iff (0 < i.w ∧ i.w < U32B ∧ 0 < i.h ∧ i.h < U32B ∧ (i.color.psz = 1 ∨ i.color.psz = 2 ∨ i.color.psz = 4) ∧
    i.w * i.color.bpp ≤ i.pitch ∧ i.pitch < USIZE ∧ i.len = i.pitch * (i.h - 1) + i.w * i.color.bpp ∧ i.len ≤ I64MAX)
    ⟨fun ⟨a, b, c, d, e, f, g, h, k⟩ => ⟨a, b, c, d, e, f, g, h, k⟩, fun ⟨a, b, c, d, e, f, g, h, k⟩ => ⟨a, b, c, d, e, f, g, h, k⟩⟩

/-- `bytes_per_row` (lib.rs:436): `self.width() as usize * self.color.bytes_per_pixel() as usize` -/
def Img.bytesPerRowT (i : Img) : Option Nat := do
  let b ← i.color.bppT
  ckU (i.w * b)

/-- `get_row(y)` (lib.rs:505) -/
def Img.getRowT (i : Img) (y : Nat) : Option Sl := do
  let start ← ckU (y * i.pitch)
  let bpr ← i.bytesPerRowT
  let stop ← ckU (start + bpr)
  i.data.range start stop

/-- `get_row_range(y, height)` (lib.rs:510) -/
def Img.getRowRangeT (i : Img) (y height : Nat) : Option Sl := do
  dbgP (height > 0)
  let start ← ckU (y * i.pitch)
  let h1 ← subU height 1
  let m ← ckU (h1 * i.pitch)
  let a ← ckU (start + m)
  let bpr ← i.bytesPerRowT
  let stop ← ckU (a + bpr)
  i.data.range start stop

/-- `is_contiguous` (lib.rs:440): `self.row_pitch * self.height() as usize == self.data.len()` -/
def Img.isContiguousT (i : Img) : Option Bool := do
  let m ← ckU (i.pitch * i.h)
  pure (m == i.len)

/-- number of items of `rows_mut()` (lib.rs:497): `data.chunks_mut(row_pitch.max(1))` yields `ceil(len / p)` chunks -/
def Img.rowsMutCount (i : Img) : Nat := (i.len + max i.pitch 1 - 1) / max i.pitch 1

/-- the `k`-th item of `rows_mut()`: chunk `k` (the last one may be shorter), cut to `[..bytes_per_row]` -/
def Img.rowsMutItemT (i : Img) (bpr k : Nat) : Option Sl :=
  let p := max i.pitch 1
  (Sl.mk .out (k * p) (min p (i.len - k * p))).upto bpr

/-! ### `UntypedLineBuffer` (read_write.rs:992–1046) -/

structure LB where
  /-- `buf.len()` -/
  bufLen : Nat
  bufFilled : Nat
  bpl : Nat
  linesOnDisk : Nat
  cur : Nat
deriving DecidableEq, Repr

/-- `Ord::clamp(q, 1, height)` after its `assert!(min <= max)` -/
def clampLines (q height : Nat) : Nat := if q < 1 then 1 else if height < q then height else q

/-- `UntypedLineBuffer::new` (:1004): the division (:1011), `clamp`'s assertion, the `usize` product (:1012) and the
allocation (:1013; a refusal is `Err(MemoryLimitExceeded)`, not a panic) -/
def LB.newT (bpl height : Nat) : Option (LB × List Ev) := do
  let q ← div SrcConsts.TARGET_BUFFER_SIZE bpl
  dbgP (1 ≤ height)
  let bufLen ← ckU (clampLines q height * bpl)
  pure (⟨bufLen, 0, bpl, height, bufLen⟩, [.io (.alloc bufLen)])

/-- the tail of `next_line` (:1041–1044): `line_end`, `&self.buf[current_line_start..line_end]` -/
def LB.lineT (b : LB) (evs : List Ev) : Option (Option Sl × LB × List Ev) := do
  let lineEnd ← ckU (b.cur + b.bpl)
  let line ← (Sl.mk .line 0 b.bufLen).range b.cur lineEnd
  pure (some line, { b with cur := lineEnd }, evs)

/-- `UntypedLineBuffer::next_line` (:1025): `Ok(None)` when everything was handed out, else a refill
(`buf.len() / bytes_per_line`, `lines_on_disk -= …`, `lines_to_read * bytes_per_line`, `&mut self.buf[..buf_filled]`,
`read_exact`) if the buffer is used up, then the next line -/
def LB.nextLineT (b : LB) : Option (Option Sl × LB × List Ev) :=
  if b.cur ≥ b.bufFilled then
    if b.linesOnDisk = 0 then some (none, b, [])
    else do
      let q ← div b.bufLen b.bpl
      let n := min q b.linesOnDisk
      let rest ← subU b.linesOnDisk n
      let filled ← ckU (n * b.bpl)
      let s ← (Sl.mk .line 0 b.bufLen).upto filled
      LB.lineT { b with linesOnDisk := rest, bufFilled := filled, cur := 0 } [.io (.read s.len)]
  else LB.lineT b []

/-- `while let Some(line) = line_buffer.next_line(r)? { body }` with the loop variables `σ`.  The fuel bounds the number
of `next_line` calls; running out of it is `none` (the theorems show `lines + 1` calls always suffice). -/
def whileLinesT {σ : Type} (body : σ → Sl → Option (σ × List Ev)) : Nat → LB → σ → Option (List Ev)
  | 0, _, _ => none
  | fuel + 1, lb, st =>
    match lb.nextLineT with
    | none => none
    | some (none, _, e1) => some e1
    | some (some line, lb', e1) =>
      match body st line with
      | none => none
      | some (st', e2) =>
        match whileLinesT body fuel lb' st' with
        | none => none
        | some e3 => some (e1 ++ e2 ++ e3)

/-! ### pixel functions (`ProcessPixelsFn`, uncompressed.rs) and `convert_channels_for` -/

/-- the three shapes of `ProcessPixelsFn` in `uncompressed.rs`: `process_pixels_helper::<In, Out>` with element sizes
`a`, `b` (whole pixels for the closures of the `$f:expr` macro arm, single channels for `N8_TO_U16` …), `PROCESS_COPY`,
and `process_pixels_helper_unroll::<4, In, Out>` (`F16_TO_U16`, `F16_TO_F32`) -/
inductive PxFn where
  | helper (a b : Nat)
  | copy
  | unroll (a b : Nat)
deriving DecidableEq, Repr

/-- a `ProcessPixelsFn` applied to `(encoded, decoded)`; mirrors of the bodies: `TrapUnc.processPixelsT`,
`processPixelsUnrollT`; `PROCESS_COPY` (uncompressed.rs:123): `debug_assert!(encoded.len() == decoded.len())`,
`copy_from_slice` (panics on unequal lengths) -/
def PxFn.runT (f : PxFn) (enc dec : Sl) : Option (List Ev) :=
  match f with
  | .helper a b => do
    let n ← TrapUnc.processPixelsT a b enc.len dec.len
    pure [.wr ⟨dec.buf, dec.off, n * b⟩]
  | .copy => do
    dbgP (enc.len = dec.len)
    dbgP (dec.len = enc.len)
    pure [.wr dec]
  | .unroll a b => do
    TrapUnc.processPixelsUnrollT 4 a b enc.len dec.len
    pure [.wr dec]

/-- the function is instantiated for pixels of `encSize` encoded and `decSize` decoded bytes: `c` elements per pixel -/
def PxFn.Fits (f : PxFn) (encSize decSize : Nat) : Prop :=
  match f with
  | .helper a b => 0 < a ∧ 0 < b ∧ ∃ c, c ≤ 16 ∧ encSize = c * a ∧ decSize = c * b
  | .copy => encSize = decSize
  | .unroll a b => a = 2 ∧ (b = 2 ∨ b = 4) ∧ ∃ c, c ≤ 16 ∧ encSize = c * a ∧ decSize = c * b

/-- `convert_channels_for(from, to, from_buffer, to_buffer)` (color/mod.rs:314): dispatch on the precision to
`convert_channels::<u8 | u16 | f32>` (mirror `TrapUnc.convertChannelsT`); every arm writes the whole `to_buffer` -/
def convertChannelsForT (native : Color) (target : Unc.Channels) (src dst : Sl) : Option (List Ev) := do
  TrapUnc.convertChannelsT native.ch target native.psz src.len dst.len
  pure [.wr dst]

/-- `ChannelConversionBuffer::BUFFER_BYTES` -/
def BUFFER_BYTES : Nat := SrcConsts.CONVERSION_BUFFER_BYTES
/-- `cast::as_bytes_mut(&mut self.buffer)`: `[u32; BUFFER_BYTES / 4]` viewed as bytes (cast.rs:26, no check) -/
def tmpBuffer : Sl := ⟨.tmp, 0, BUFFER_BYTES / 4 * 4⟩

/-- `ChannelConversionBuffer::process_pixels` (:750) -/
def convPixelsT (native : Color) (target : Unc.Channels) (f : PxFn) (enc out : Sl) : Option (List Ev) :=
  if native.ch = target then f.runT enc out                              -- :752
  else do
    let obpp ← (Color.mk target native.psz).bppT                         -- :757
    let pixels ← div out.len obpp                                        -- :759
    let ebpp ← div enc.len pixels                                        -- :760
    let m ← modT obpp (TrapUnc.chanCount target)                         -- :761
    dbgP (m = 0)
    let nbpp ← native.bppT                                               -- :762
    let bufPx ← div BUFFER_BYTES nbpp                                    -- :763
    dbgP (bufPx ≠ 0)                                                     -- :767 `step_by(0)` panics
    forT (fun cs => do
      let t ← ckU (cs + bufPx)                                           -- :768
      let ce := min t pixels
      let csz ← subU ce cs                                               -- :769
      let a ← ckU (cs * ebpp)
      let b ← ckU (ce * ebpp)
      let encChunk ← enc.range a b                                       -- :771
      let c ← ckU (cs * obpp)
      let d ← ckU (ce * obpp)
      let outChunk ← out.range c d                                       -- :773
      let e ← ckU (csz * nbpp)
      let bufChunk ← tmpBuffer.upto e                                    -- :775
      let w1 ← f.runT encChunk bufChunk                                  -- :778
      let w2 ← convertChannelsForT native target bufChunk outChunk       -- :781
      pure (w1 ++ w2)) (Addr.stepStarts pixels bufPx)

/-! ### `for_each_pixel_untyped` (:87) -/

/-- the `for buf in image.rows_mut()` loop (:106–113): item `k` of `rows_mut`, `next_line(r)?.expect(..)`,
`debug_assert!(line.len() % size_of_in == 0)`, `process_pixels` -/
def pixelRowsT (img : Img) (native : Color) (encSize : Nat) (f : PxFn) (bpr : Nat) : List Nat → LB → Option (List Ev)
  | [], _ => some []
  | k :: ks, lb => do
    let buf ← img.rowsMutItemT bpr k
    match lb.nextLineT with
    | none => none
    | some (none, _, _) => none                                          -- :109 `expect`
    | some (some line, lb', e1) => do
      let m ← modT line.len encSize                                      -- :110
      dbgP (m = 0)
      let e2 ← convPixelsT native img.color.ch f line buf                -- :112
      let e3 ← pixelRowsT img native encSize f bpr ks lb'
      pure (e1 ++ e2 ++ e3)

/-- `for_each_pixel_untyped` (the surface size is the image size) -/
def pixelFullT (img : Img) (native : Color) (encSize decSize : Nat) (f : PxFn) : Option (List Ev) := do
  dbgP (img.color.psz = native.psz)                                      -- :95
  let nb ← native.bppT
  dbgP (nb = decSize)                                                    -- :96
  let bpl ← ckU (img.w * encSize)                                        -- :101
  let (lb, e0) ← LB.newT bpl img.h                                       -- :100
  let bpr ← img.bytesPerRowT                                             -- lib.rs:498
  dbgP (max img.pitch 1 ≠ 0)                                             -- lib.rs:502 `chunks_mut(0)` panics
  let e1 ← pixelRowsT img native encSize f bpr (List.range img.rowsMutCount) lb
  pure (e0 ++ e1)

/-! ### `for_each_pixel_rect_untyped` (:120) -/

/-- one iteration `y` of the row loop (:161–175) -/
def pixelRectRowT (img : Img) (native : Color) (encSize : Nat) (f : PxFn) (before after : Nat) (row : Sl) (y : Nat) :
    Option (List Ev) := do
  let e0 ← if y > 0 then (do let g ← ckU (before + after); pure [Ev.io (.skip g)]) else pure []   -- :165
  let buf ← img.getRowT y                                                -- :171
  let ibpp ← img.color.bppT                                              -- :148
  let q1 ← div row.len encSize                                           -- :172
  let q2 ← div buf.len ibpp
  dbgP (q1 = q2)
  let e2 ← convPixelsT native img.color.ch f row buf                     -- :174
  pure (e0 ++ [Ev.io (.read row.len)] ++ e2)                             -- :169

/-- `for_each_pixel_rect_untyped`: surface `W × H`, rect = the image at `(ox, oy)` -/
def pixelRectT (img : Img) (W H ox oy : Nat) (native : Color) (encSize decSize : Nat) (f : PxFn) : Option (List Ev) := do
  dbgP (img.color.psz = native.psz)                                      -- :129
  let nb ← native.bppT
  dbgP (nb = decSize)                                                    -- :130
  let px ← ckU (W * H)                                                   -- :138 `Size::pixels`
  dbgP (px * encSize < USIZE ∧ px * encSize ≤ I64MAX)                    -- :137 `assert!(checked_mul … <= i64::MAX)`
  let perRow ← ckU (W * encSize)                                         -- :143
  let before ← ckU (ox * encSize)                                        -- :144
  let t1 ← subU W ox                                                     -- :146 (`u32`)
  let t2 ← subU t1 img.w
  let after ← ckU (t2 * encSize)
  let rowLen ← ckU (img.w * encSize)                                     -- :152
  let row : Sl := ⟨.row, 0, rowLen⟩
  let s1 ← ckU (perRow * oy)                                             -- :157
  let s2 ← ckU (s1 + before)
  let e1 ← forT (pixelRectRowT img native encSize f before after row) (List.range img.h)   -- :161
  let t3 ← subU H oy                                                     -- :181 (`u32`)
  let t4 ← subU t3 img.h
  let m ← ckU (t4 * perRow)
  let s3 ← ckU (after + m)                                               -- :180
  pure ([Ev.io (.alloc rowLen), Ev.io (.skip s2)] ++ e1 ++ [Ev.io (.skip s3)])

/-! ### `read_exact_image`, `for_each_slice` (:1295–1317) and the COPY decoders (uncompressed.rs:93–112, :185–196) -/

/-- `read_exact_image(r, image)`: one `read_exact(image.data())` if contiguous, else one per item of `rows_mut()` -/
def readExactImageT (img : Img) : Option (List Ev) := do
  let c ← img.isContiguousT
  if c then pure [Ev.io (.read img.len), Ev.wr img.data]
  else do
    let bpr ← img.bytesPerRowT
    dbgP (max img.pitch 1 ≠ 0)
    forT (fun k => do
      let row ← img.rowsMutItemT bpr k
      pure [Ev.io (.read row.len), Ev.wr row]) (List.range img.rowsMutCount)

/-- what the whole-image decoders do with every slice after reading: nothing (`COPY_U8`), `cast::slice_le_to_ne_16`
(cast.rs:171 `assert!(buf.len() % 2 == 0)`), `slice_le_to_ne_32` (:187 `assert!(buf.len() % 4 == 0)`), the `s8::n8` map
(`COPY_S8`), the BGRA swap loop (`out.swap(i, i + 2)`, mirror `TrapUnc.bgraSwapT`) -/
inductive SliceFn where
  | nothing | le16 | le32 | s8 | bgraSwap
deriving DecidableEq, Repr

def SliceFn.runT (g : SliceFn) (s : Sl) : Option (List Ev) :=
  match g with
  | .nothing => pure []
  | .le16 => do dbgP (s.len % 2 = 0); pure []            -- little-endian target: no write
  | .le32 => do dbgP (s.len % 4 = 0); pure []
  | .s8 => pure [.wr s]
  | .bgraSwap => do TrapUnc.bgraSwapT s.len; pure [.wr s]

/-- `for_each_slice(image, f)` -/
def forEachSliceT (img : Img) (g : SliceFn) : Option (List Ev) := do
  let c ← img.isContiguousT
  if c then g.runT img.data
  else do
    let bpr ← img.bytesPerRowT
    dbgP (max img.pitch 1 ≠ 0)
    forT (fun k => do
      let row ← img.rowsMutItemT bpr k
      g.runT row) (List.range img.rowsMutCount)

/-- `COPY_U8` / `COPY_U16` / `COPY_U32` / `COPY_S8` / the `B8G8R8A8_UNORM` swap decoder -/
def copyFullT (img : Img) (g : SliceFn) : Option (List Ev) := do
  let e1 ← readExactImageT img
  let e2 ← if g = .nothing then pure [] else forEachSliceT img g
  pure (e1 ++ e2)

/-- the colour a whole-image decoder is registered for (`add_specialized`): `COPY_U16` only for U16 colours, `COPY_U32`
only for F32 colours, the swap only for RGBA U8, `COPY_U8` / `COPY_S8` for U8 colours -/
def SliceFn.Fits (g : SliceFn) (c : Color) : Prop :=
  match g with
  | .nothing => c.psz = 1
  | .le16 => c.psz = 2
  | .le32 => c.psz = 4
  | .s8 => c.psz = 1
  | .bgraSwap => c = ⟨.rgba, 1⟩

/-! ### glue table: the `process_fn = …` uses of uncompressed.rs (format, encoded pixel size, native colour, function) -/

def N8_TO_U8 : PxFn := .copy
def N8_TO_U16 : PxFn := .helper 1 2
def N8_TO_F32 : PxFn := .helper 1 4
def S8_TO_U8 : PxFn := .helper 1 1
def S8_TO_U16 : PxFn := .helper 1 2
def S8_TO_F32 : PxFn := .helper 1 4
def N16_TO_U8 : PxFn := .helper 2 1
def N16_TO_U16 : PxFn := .helper 2 2
def N16_TO_F32 : PxFn := .helper 2 4
def S16_TO_U8 : PxFn := .helper 2 1
def S16_TO_U16 : PxFn := .helper 2 2
def S16_TO_F32 : PxFn := .helper 2 4
def F16_TO_U8 : PxFn := .helper 2 1
def F16_TO_U16 : PxFn := .unroll 2 2
def F16_TO_F32 : PxFn := .unroll 2 4
def F32_TO_U8 : PxFn := .helper 4 1
def F32_TO_U16 : PxFn := .helper 4 2
def F32_TO_F32 : PxFn := .helper 4 4

/-- every decoder of `uncompressed.rs` built with `process_fn = F` (the other decoders use the `$f:expr` macro arm:
`process_pixels_helper::<InPixel, OutPixel>` with `PIXEL_SIZE` taken from the same two types, i.e. `.helper e d` for
pixel sizes `(e, d)`, which fits by construction) -/
def processFnUses : List (String × Nat × Color × PxFn) := [
  ("R8G8B8_UNORM", 3, ⟨.rgb, 1⟩, N8_TO_U8), ("R8G8B8_UNORM", 3, ⟨.rgb, 2⟩, N8_TO_U16), ("R8G8B8_UNORM", 3, ⟨.rgb, 4⟩, N8_TO_F32),
  ("R8G8B8A8_UNORM", 4, ⟨.rgba, 1⟩, N8_TO_U8), ("R8G8B8A8_UNORM", 4, ⟨.rgba, 2⟩, N8_TO_U16),
  ("R8G8B8A8_UNORM", 4, ⟨.rgba, 4⟩, N8_TO_F32),
  ("R8G8B8A8_SNORM", 4, ⟨.rgba, 1⟩, S8_TO_U8), ("R8G8B8A8_SNORM", 4, ⟨.rgba, 2⟩, S8_TO_U16),
  ("R8G8B8A8_SNORM", 4, ⟨.rgba, 4⟩, S8_TO_F32),
  ("R8_UNORM", 1, ⟨.gray, 1⟩, N8_TO_U8), ("R8_UNORM", 1, ⟨.gray, 2⟩, N8_TO_U16), ("R8_UNORM", 1, ⟨.gray, 4⟩, N8_TO_F32),
  ("R8_SNORM", 1, ⟨.gray, 1⟩, S8_TO_U8), ("R8_SNORM", 1, ⟨.gray, 2⟩, S8_TO_U16), ("R8_SNORM", 1, ⟨.gray, 4⟩, S8_TO_F32),
  ("A8_UNORM", 1, ⟨.alpha, 1⟩, N8_TO_U8), ("A8_UNORM", 1, ⟨.alpha, 2⟩, N8_TO_U16), ("A8_UNORM", 1, ⟨.alpha, 4⟩, N8_TO_F32),
  ("R16_UNORM", 2, ⟨.gray, 2⟩, N16_TO_U16), ("R16_UNORM", 2, ⟨.gray, 1⟩, N16_TO_U8), ("R16_UNORM", 2, ⟨.gray, 4⟩, N16_TO_F32),
  ("R16_SNORM", 2, ⟨.gray, 2⟩, S16_TO_U16), ("R16_SNORM", 2, ⟨.gray, 1⟩, S16_TO_U8), ("R16_SNORM", 2, ⟨.gray, 4⟩, S16_TO_F32),
  ("R16G16B16A16_UNORM", 8, ⟨.rgba, 2⟩, N16_TO_U16), ("R16G16B16A16_UNORM", 8, ⟨.rgba, 1⟩, N16_TO_U8),
  ("R16G16B16A16_UNORM", 8, ⟨.rgba, 4⟩, N16_TO_F32),
  ("R16G16B16A16_SNORM", 8, ⟨.rgba, 2⟩, S16_TO_U16), ("R16G16B16A16_SNORM", 8, ⟨.rgba, 1⟩, S16_TO_U8),
  ("R16G16B16A16_SNORM", 8, ⟨.rgba, 4⟩, S16_TO_F32),
  ("R16_FLOAT", 2, ⟨.gray, 4⟩, F16_TO_F32), ("R16_FLOAT", 2, ⟨.gray, 1⟩, F16_TO_U8), ("R16_FLOAT", 2, ⟨.gray, 2⟩, F16_TO_U16),
  ("R16G16B16A16_FLOAT", 8, ⟨.rgba, 4⟩, F16_TO_F32), ("R16G16B16A16_FLOAT", 8, ⟨.rgba, 1⟩, F16_TO_U8),
  ("R16G16B16A16_FLOAT", 8, ⟨.rgba, 2⟩, F16_TO_U16),
  ("R32_FLOAT", 4, ⟨.gray, 4⟩, F32_TO_F32), ("R32_FLOAT", 4, ⟨.gray, 1⟩, F32_TO_U8), ("R32_FLOAT", 4, ⟨.gray, 2⟩, F32_TO_U16),
  ("R32G32B32_FLOAT", 12, ⟨.rgb, 4⟩, F32_TO_F32), ("R32G32B32_FLOAT", 12, ⟨.rgb, 1⟩, F32_TO_U8),
  ("R32G32B32_FLOAT", 12, ⟨.rgb, 2⟩, F32_TO_U16),
  ("R32G32B32A32_FLOAT", 16, ⟨.rgba, 4⟩, F32_TO_F32), ("R32G32B32A32_FLOAT", 16, ⟨.rgba, 1⟩, F32_TO_U8),
  ("R32G32B32A32_FLOAT", 16, ⟨.rgba, 2⟩, F32_TO_U16)]

/-- decidable form of `PxFn.Fits` for the table check -/
def PxFn.fitsB (f : PxFn) (encSize decSize : Nat) : Bool :=
  match f with
  | .helper a b => decide (0 < a) && decide (0 < b) && (List.range 17).any fun c => encSize == c * a && decSize == c * b
  | .copy => encSize == decSize
  | .unroll a b => a == 2 && (b == 2 || b == 4) && (List.range 17).any fun c => encSize == c * a && decSize == c * b

/-- the whole-image decoders of uncompressed.rs: (format, colour, function) -/
def copyUses : List (String × Color × SliceFn) := [
  ("R8G8B8_UNORM", ⟨.rgb, 1⟩, .nothing), ("R8G8B8A8_UNORM", ⟨.rgba, 1⟩, .nothing), ("R8G8B8A8_SNORM", ⟨.rgba, 1⟩, .s8),
  ("B8G8R8A8_UNORM", ⟨.rgba, 1⟩, .bgraSwap), ("R8_UNORM", ⟨.gray, 1⟩, .nothing), ("R8_SNORM", ⟨.gray, 1⟩, .s8),
  ("A8_UNORM", ⟨.alpha, 1⟩, .nothing), ("R16_UNORM", ⟨.gray, 2⟩, .le16), ("R16G16B16A16_UNORM", ⟨.rgba, 2⟩, .le16),
  ("R32_FLOAT", ⟨.gray, 4⟩, .le32), ("R32G32B32_FLOAT", ⟨.rgb, 4⟩, .le32), ("R32G32B32A32_FLOAT", ⟨.rgba, 4⟩, .le32)]

end Dds.TrapLoops
