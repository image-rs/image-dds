/-
Trapping mirrors of the ENCODER loops, part 1: slice / `usize` operators, image rows, and the chunk loops of the
uncompressed encoders.

A mirror is the loop written once more with operators that return `Option` (`none` = the Rust code panics in the
`checked` profile — overflow checks and debug assertions on; slice bounds, `copy_from_slice`, `chunks(0)`,
`split_at`, `expect` and `assert!` panic in every profile).  Only LENGTHS are modelled: whether a slice operation
panics depends on nothing else, so a `&[T]` is the number of its elements.  What is computed per pixel / per block
(`process`, `f`, `encode_block`, the quantisers) does not occur — those are total functions of their inputs (C15's
quantiser theorems; the BC encoders' float bodies are C15's sampled part).  A mirror returns the byte counts of its
successive `write_all` calls, in program order; the writer is the one of `EncTotal.lean` (`runWrites`): since a
mirror evaluates every operation of the complete run, `some` implies that every prefix of the run (a writer that
fails after `k` bytes, a cancellation) is panic-free as well.

Mirrored here (file:line of /repo/src):
* `ImageView::is_contiguous` (lib.rs:288), `ImageView::rows` (lib.rs:327)
* `as_rgba_f32`, `convert_to_rgba_f32`, `convert_t_to_rgba_f32` (color/mod.rs:327–404), `convert_channels` is
  `TrapUnc.convertChannelsT`
* `cast::ToLe::to_le` (cast.rs:171–243)
* `Progress::checked_report_if` → `ProgressRange::project` (progress.rs:46, :198)
* `for_each_chunk` (encode/write_util.rs:66–116), both branches
* `copy_directly` (encode/encoder.rs:257–291)
* `uncompressed_untyped` (encode/uncompressed.rs:157–198) with `simple_color_convert` (:199–227) and the
  `process_line`s of B8G8R8 / B8G8R8A8 / B8G8R8X8 (:401, :442, :471)
* `uncompressed_universal` (:19–63) with `process_line` of `universal!` (:260)
* `uncompressed_universal_dither` (:73–155) with `process_chunk` of `universal_dither!` (:283–323)

Buffer sizes and cadences are `SrcConsts.*` (regenerated from the source on every check run).
`Theorems/C15.lean` (`chunk_loops_trapfree`, `dither_loop_trapfree`) shows: every mirror is `some` of the write
sizes of `EncLen.lean`, for every view satisfying C20's invariant.
-/
import DdsModel.Trap
import DdsModel.EncLen
import DdsModel.View
import DdsModel.TrapUnc
import DdsModel.SrcConsts
namespace Dds.TrapEnc
open Dds Dds.Trap

/-! ## `usize` and slice operators -/

/-- plain `a * b` on `usize` (64 bit) -/
def mulU (a b : Nat) : Option Nat := if a * b < 18446744073709551616 then some (a * b) else none
/-- plain `a + b` on `usize` -/
def addU (a b : Nat) : Option Nat := if a + b < 18446744073709551616 then some (a + b) else none
/-- plain `a % b` -/
def remU (a b : Nat) : Option Nat := if b = 0 then none else some (a % b)
/-- `usize::div_ceil(a, b)` (core: `d = a / b; r = a % b; if r > 0 { d + 1 } else { d }`): only the zero divisor -/
def divCeilU (a b : Nat) : Option Nat := if b = 0 then none else some (divCeil a b)
/-- `&s[..e]` on a slice of `len` elements: the new length -/
def sliceTo (len e : Nat) : Option Nat := if e ≤ len then some e else none
/-- `&s[a..]` -/
def sliceFrom (len a : Nat) : Option Nat := if a ≤ len then some (len - a) else none
/-- `&s[a..b]` -/
def sliceRange (len a b : Nat) : Option Nat := if a ≤ b ∧ b ≤ len then some (b - a) else none
/-- `s[i]` -/
def idxLen (len i : Nat) : Option Unit := if i < len then some () else none
/-- `s.chunks(n)`: panics for `n = 0` (also on an empty slice); the chunk lengths -/
def chunksT (len n : Nat) : Option (List Nat) := if n = 0 then none else some (chunkLens n len len)
/-- `dst.copy_from_slice(src)`: the lengths must be equal -/
def copyFromSliceT (dst src : Nat) : Option Unit := if dst = src then some () else none
/-- `s.split_at(mid)` / `split_at_mut` -/
def splitAtT (len mid : Nat) : Option (Nat × Nat) := if mid ≤ len then some (mid, len - mid) else none
/-- `Vec::with_capacity(n)` / `vec![x; n]` of elements of `size` bytes: "capacity overflow" beyond `isize::MAX`
bytes (an allocation FAILURE aborts, it is not a panic; the allocator is an external) -/
def allocT (n size : Nat) : Option Unit := if n * size ≤ 9223372036854775807 then some () else none
/-- a loop `for (i, x) in xs.enumerate()` whose body may panic -/
def mapIdxT {α β} (f : Nat → α → Option β) (l : List α) : Option (List β) :=
  mapT (fun p => f p.2 p.1) l.zipIdx

theorem mulU_of_lt {a b : Nat} (h : a * b < 18446744073709551616) : mulU a b = some (a * b) := if_pos h
theorem addU_of_lt {a b : Nat} (h : a + b < 18446744073709551616) : addU a b = some (a + b) := if_pos h
theorem remU_of_ne {a b : Nat} (h : b ≠ 0) : remU a b = some (a % b) := if_neg h
theorem divCeilU_of_ne {a b : Nat} (h : b ≠ 0) : divCeilU a b = some (divCeil a b) := if_neg h
theorem sliceTo_of_le {len e : Nat} (h : e ≤ len) : sliceTo len e = some e := if_pos h
theorem sliceFrom_of_le {len a : Nat} (h : a ≤ len) : sliceFrom len a = some (len - a) := if_pos h
theorem sliceRange_of {len a b : Nat} (h : a ≤ b ∧ b ≤ len) : sliceRange len a b = some (b - a) := if_pos h
theorem idxLen_of_lt {len i : Nat} (h : i < len) : idxLen len i = some () := if_pos h
theorem chunksT_of_ne {len n : Nat} (h : n ≠ 0) : chunksT len n = some (chunkLens n len len) := if_neg h
theorem copyFromSliceT_of_eq {dst src : Nat} (h : dst = src) : copyFromSliceT dst src = some () := if_pos h
theorem splitAtT_of_le {len mid : Nat} (h : mid ≤ len) : splitAtT len mid = some (mid, len - mid) := if_pos h
theorem allocT_of_le {n size : Nat} (h : n * size ≤ 9223372036854775807) : allocT n size = some () := if_pos h

theorem mulU_bind {β} {f : Nat → Option β} {a b : Nat} (h : a * b < 18446744073709551616) :
    (mulU a b >>= f) = f (a * b) := by rw [mulU_of_lt h, bind_some']
theorem addU_bind {β} {f : Nat → Option β} {a b : Nat} (h : a + b < 18446744073709551616) :
    (addU a b >>= f) = f (a + b) := by rw [addU_of_lt h, bind_some']
theorem remU_bind {β} {f : Nat → Option β} {a b : Nat} (h : b ≠ 0) : (remU a b >>= f) = f (a % b) := by
  rw [remU_of_ne h, bind_some']
theorem divCeilU_bind {β} {f : Nat → Option β} {a b : Nat} (h : b ≠ 0) : (divCeilU a b >>= f) = f (divCeil a b) := by
  rw [divCeilU_of_ne h, bind_some']
theorem sliceTo_bind {β} {f : Nat → Option β} {len e : Nat} (h : e ≤ len) : (sliceTo len e >>= f) = f e := by
  rw [sliceTo_of_le h, bind_some']
theorem sliceFrom_bind {β} {f : Nat → Option β} {len a : Nat} (h : a ≤ len) : (sliceFrom len a >>= f) = f (len - a) := by
  rw [sliceFrom_of_le h, bind_some']
theorem sliceRange_bind {β} {f : Nat → Option β} {len a b : Nat} (h : a ≤ b ∧ b ≤ len) :
    (sliceRange len a b >>= f) = f (b - a) := by rw [sliceRange_of h, bind_some']
theorem idxLen_bind {β} {f : Unit → Option β} {len i : Nat} (h : i < len) : (idxLen len i >>= f) = f () := by
  rw [idxLen_of_lt h, bind_some']
theorem allocT_bind {β} {f : Unit → Option β} {n size : Nat} (h : n * size ≤ 9223372036854775807) :
    (allocT n size >>= f) = f () := by rw [allocT_of_le h, bind_some']

/- opaque to the elaborator from here on (see `Trap.lean`); proofs use the `…_of_…` and `…_bind` lemmas -/
attribute [irreducible] mulU addU remU divCeilU sliceTo sliceFrom sliceRange idxLen chunksT copyFromSliceT splitAtT
  allocT

/-! ## colour formats -/

/-- `ColorFormat`: channels and `Precision::size()` (1, 2, 4) -/
structure Color where
  ch : Unc.Channels
  psize : Nat
deriving DecidableEq, Repr

/-- `ColorFormat::bytes_per_pixel` (`u8 * u8`, at most 4 · 4) -/
def Color.bpp (c : Color) : Nat := TrapUnc.chanCount c.ch * c.psize

/-- the 12 colour formats -/
def Color.all : List Color :=
  [⟨.gray, 1⟩, ⟨.alpha, 1⟩, ⟨.rgb, 1⟩, ⟨.rgba, 1⟩, ⟨.gray, 2⟩, ⟨.alpha, 2⟩, ⟨.rgb, 2⟩, ⟨.rgba, 2⟩,
   ⟨.gray, 4⟩, ⟨.alpha, 4⟩, ⟨.rgb, 4⟩, ⟨.rgba, 4⟩]

/-! ## `ImageView` -/

/-- `ImageView::is_contiguous` (lib.rs:288): `self.row_pitch * self.height() as usize == self.data.len()` -/
def isContiguousT (v : View) : Option Bool := do
  let p ← mulU v.pitch v.h
  pure (decide (p = v.len))

/-- `ImageView::rows` (lib.rs:327–341): `bytes_per_row = width as usize * bytes_per_pixel as usize`, then for
`y in 0..height` (0 for an empty size) `start = y * row_pitch`, `end = start + bytes_per_row`, `&data[start..end]`.
The lengths of the rows. -/
def rowsT (v : View) : Option (List Nat) := do
  let height := if v.w = 0 ∨ v.h = 0 then 0 else v.h
  let bpr ← mulU v.w v.bpp
  mapT (fun y => do
    let start ← mulU y v.pitch
    let stop ← addU start bpr
    sliceRange v.len start stop) (List.range height)

/-! ## conversions of a run of pixels -/

/-- `convert_t_to_rgba_f32::map::<C, T>` (color/mod.rs:381–396): `cast::from_bytes::<[T::Bytes; C]>(from).expect(..)`
and `debug_assert!(from_chunked.len() == to_buffer.len())` -/
def convertTToRgbaF32T (c : Color) (fromLen toLen : Nat) : Option Unit := do
  let n ← TrapUnc.fromBytesT fromLen (c.psize * TrapUnc.chanCount c.ch)
  dbgP (n = toLen)

/-- `convert_to_rgba_f32(from, from_buffer, to_buffer)` (color/mod.rs:341–372); `toLen` in pixels -/
def convertToRgbaF32T (c : Color) (fromLen toLen : Nat) : Option Unit := do
  let r ← remU fromLen (c.psize * TrapUnc.chanCount c.ch)            -- :349
  dbgP (r = 0)
  let q ← div fromLen (c.psize * TrapUnc.chanCount c.ch)             -- :350
  dbgP (q = toLen)
  if c.psize = 4 then
    -- :364 `convert_channels::<f32>(channels, Rgba, from_buffer, cast::as_bytes_mut(to_buffer))`
    TrapUnc.convertChannelsT c.ch .rgba 4 fromLen (toLen * 16)
  else
    convertTToRgbaF32T c fromLen toLen                               -- :359, :360

/-- `as_rgba_f32(from, from_buffer, to_buffer)` (color/mod.rs:327–340): the length of the returned slice.  For
`RGBA_F32` input whose bytes happen to be 4-aligned (`aligned`, a fact about the caller's pointer) the input is
returned re-cast and `to_buffer` is not looked at. -/
def asRgbaF32T (c : Color) (aligned : Bool) (fromLen toLen : Nat) : Option Nat :=
  if c.ch = .rgba ∧ c.psize = 4 ∧ aligned = true ∧ fromLen % 16 = 0 then some (fromLen / 16)
  else do
    convertToRgbaF32T c fromLen toLen
    pure toLen

/-- `cast::ToLe::to_le(buffer)` on `bytes` bytes of elements built from a primitive of `prim` bytes
(cast.rs:214–243): `u8` does nothing; `u16` / `u32` / `f32` go through `slice_ne_to_le_16/32`:
`assert!(buf.len() % 2 == 0)` / `% 4` (cast.rs:172, :188); arrays are flattened first (`as_flattened_mut`:
`from_bytes_mut(as_bytes_mut(..)).unwrap()`, a multiple of the element size and aligned by construction). -/
def toLeT (prim bytes : Nat) : Option Unit :=
  if prim = 1 then some () else dbgP (bytes % prim = 0)

/-- `cast::slice_ne_to_le(precision, buffer)` (cast.rs:206) -/
def sliceNeToLeT (psize bytes : Nat) : Option Unit := toLeT psize bytes

/-- `progress.checked_report_if(index % freq == 0, index as f32 / count as f32)?; index += 1` — the reporting
idiom of every loop.  `Progress::report` → `ProgressRange::project` (progress.rs:47) has
`debug_assert!((0.0..=1.0).contains(&progress))`: for `0 ≤ index ≤ count`, `count ≠ 0` the `f32` quotient of the
two (monotonically) rounded integers is in `[0, 1]`; `0 / 0` would be NaN and fail.  Stated on the integers. -/
def progT (index count freq : Nat) : Option Unit := do
  let r ← remU index freq
  if r = 0 then dbgP (index ≤ count ∧ count ≠ 0) else pure ()
  let _ ← addU index 1
  pure ()

/-! ## `for_each_chunk` (encode/write_util.rs:66–116) -/

/-- the inner `while !row.is_empty()` loop (write_util.rs:90–107) on a row of `rowLen` bytes.  `buffer` = length of
the buffer (elements), `fill` = `fill_pixels`.  Returns the lengths handed to `process_chunk` by the flushes, and
the new fill.  Running out of `fuel` with a non-empty row = the loop made no progress = `none`. -/
def fillRowT (bufferPixels buffer bpp epp : Nat) (copyT : Nat → Nat → Option Unit) :
    (fuel rowLen fill : Nat) → Option (List Nat × Nat)
  | 0, rowLen, fill => if rowLen = 0 then some ([], fill) else none
  | fuel + 1, rowLen, fill =>
    if rowLen = 0 then some ([], fill) else do
    -- :91–95 `if fill_pixels == buffer_pixels { process_chunk(buffer)?; fill_pixels = 0; }`
    let flushed := if fill = bufferPixels then [buffer] else []
    let fill := if fill = bufferPixels then 0 else fill
    let r ← remU rowLen bpp                                  -- :97 debug_assert!(row.len() % bytes_per_pixel == 0)
    dbgP (r = 0)
    let rowPixels ← div rowLen bpp                           -- :98
    let room ← subU bufferPixels fill                        -- :99
    let writePixels := min rowPixels room
    let srcEnd ← mulU writePixels bpp                        -- :101
    let src ← sliceTo rowLen srcEnd
    let a ← mulU fill epp                                    -- :102
    let e ← addU fill writePixels                            -- :103
    let b ← mulU e epp
    let dst ← sliceRange buffer a b
    copyT src dst                                            -- :100
    let fill' ← addU fill writePixels                        -- :105
    let cut ← mulU writePixels bpp                           -- :106
    let rest ← sliceFrom rowLen cut
    let r ← fillRowT bufferPixels buffer bpp epp copyT fuel rest fill'
    pure (flushed ++ r.1, r.2)

/-- `for mut row in image.rows() { while … }` -/
def fillRowsT (bufferPixels buffer bpp epp : Nat) (copyT : Nat → Nat → Option Unit) :
    (rows : List Nat) → (fill : Nat) → Option (List Nat × Nat)
  | [], fill => some ([], fill)
  | row :: rest, fill => do
    let r ← fillRowT bufferPixels buffer bpp epp copyT (row + 1) row fill
    let s ← fillRowsT bufferPixels buffer bpp epp copyT rest r.2
    pure (r.1 ++ s.1, s.2)

/-- write_util.rs:109–112 `if fill_pixels > 0 { process_chunk(&mut buffer[..fill_pixels * buffer_elements_per_pixel])?; }` -/
def finishT (buffer epp : Nat) (r : List Nat × Nat) : Option (List Nat) :=
  if r.2 > 0 then do
    let m ← mulU r.2 epp
    let last ← sliceTo buffer m
    pure (r.1 ++ [last])
  else pure r.1

/-- `for_each_chunk(image, buffer, buffer_elements_per_pixel, copy_to_buffer, process_chunk)`.
`bufLen` = `buffer.len()`, `epp` = `buffer_elements_per_pixel`; `copyT src dst` = what `copy_to_buffer` itself
checks on a source of `src` bytes and a destination of `dst` elements.  Returns the lengths (elements) of the
slices handed to `process_chunk`, in order; the caller runs its `process_chunk` mirror over them. -/
def forEachChunkT (v : View) (bufLen epp : Nat) (copyT : Nat → Nat → Option Unit) : Option (List Nat) := do
  let bufferPixels ← div bufLen epp                          -- :73
  let n ← mulU bufferPixels epp                              -- :74
  let buffer ← sliceTo bufLen n
  let bpp := v.bpp                                           -- :75
  let contiguous ← isContiguousT v                           -- :77
  if contiguous then do
    let cs ← mulU bufferPixels bpp                           -- :79
    let chunks ← chunksT v.len cs
    mapT (fun chunk => do
      let pixels ← div chunk bpp                             -- :80
      let m ← mulU pixels epp                                -- :81
      let chunkBuffer ← sliceTo buffer m
      copyT chunk chunkBuffer                                -- :82
      pure chunkBuffer) chunks                               -- :83
  else do
    let rows ← rowsT v                                       -- :89
    let r ← fillRowsT bufferPixels buffer bpp epp copyT rows 0
    finishT buffer epp r

/-! ## `copy_directly` (encode/encoder.rs:257–291) -/

/-- `copy_directly`: one `write_all(image.data())` for a contiguous image (little endian), else `for_each_chunk`
over a `[0_u8; 4096]` with `bytes_per_pixel` elements per pixel -/
def copyDirectlyT (v : View) (c : Color) : Option (List Nat) := do
  let contiguous ← isContiguousT v                           -- :269
  if contiguous then pure [v.len]                            -- :271
  else do
    let lens ← forEachChunkT v SrcConsts.COPY_BUFFER_BYTES c.bpp (fun chunk buffer => do
      dbgP (chunk = buffer)                                  -- :280 debug_assert_eq!
      copyFromSliceT buffer chunk)                           -- :281
    mapT (fun buffer => do
      let r ← remU buffer c.psize                            -- :284 debug_assert!(buffer.len() % precision.size() == 0)
      dbgP (r = 0)
      sliceNeToLeT c.psize buffer                            -- :285
      pure buffer) lens                                      -- :286 write_all(buffer)

/-! ## `uncompressed_untyped` (encode/uncompressed.rs:157–198) -/

/-- the `f(partial, color, encoded)` closures handed to `uncompressed_untyped` -/
inductive UntypedLine where
  /-- `color_convert!(target, snorm)` → `simple_color_convert(line, color, out, target, snorm)` (:199–227) -/
  | convert (target : Color) (snorm : Bool)
  /-- `process_line` of B8G8R8 (`n = 3`), B8G8R8A8 / B8G8R8X8 (`n = 4`): `assert!(precision == U8)`,
  `convert_channels::<u8>(.., Rgb | Rgba, line, out)`, `as_array_chunks_mut::<n>(out).expect(..)` (:401–409) -/
  | bgr (n : Nat)
deriving DecidableEq, Repr

/-- bytes per encoded pixel the macro / call site passes along (`$target.bytes_per_pixel()`, `3`, `4`) -/
def UntypedLine.bpe : UntypedLine → Nat
  | .convert t _ => t.bpp
  | .bgr n => n

def untypedLineT (k : UntypedLine) (c : Color) (line out : Nat) : Option Unit :=
  match k with
  | .convert target snorm => do
    dbgP (c.psize = target.psize)                            -- :206 assert!(color.precision == target.precision)
    TrapUnc.convertChannelsT c.ch target.ch c.psize line out -- :208 convert_channels_for
    if snorm then
      (if target.psize = 2 then do                           -- :216 as_array_chunks_mut::<2>(out).expect(..)
        let _ ← TrapUnc.fromBytesT out 2
        pure ()
      else dbgP (target.psize = 1))                          -- :222 unreachable!() for F32
    else pure ()
    sliceNeToLeT target.psize out                            -- :226
  | .bgr n => do
    dbgP (c.psize = 1)                                       -- :402
    TrapUnc.convertChannelsT c.ch (if n = 3 then .rgb else .rgba) 1 line out   -- :403
    let _ ← TrapUnc.fromBytesT out n                         -- :406
    pure ()

/-- `uncompressed_untyped(args, bytes_per_encoded_pixel, f)` -/
def uncompressedUntypedT (v : View) (c : Color) (k : UntypedLine) : Option (List Nat) := do
  let encodedBuffer := SrcConsts.UNTYPED_BUFFER_BYTES        -- :170–171
  let per ← div encodedBuffer k.bpe                          -- :175
  let chunkCount ← divCeilU (v.w * v.h) per                  -- :173 (`pixels()` is a `u64` product of two `u32`)
  let lens ← forEachChunkT v encodedBuffer k.bpe (untypedLineT k c)   -- :179–183
  mapIdxT (fun chunkIndex encoded => do
    progT chunkIndex chunkCount SrcConsts.UNC_REPORT_FREQUENCY        -- :186–190
    pure encoded) lens                                       -- :192 write_all(encoded)

/-! ## `uncompressed_universal` (encode/uncompressed.rs:19–63) -/

/-- `uncompressed_universal::<EncodedPixel>(args, process)`; `size` = `size_of::<EncodedPixel>()`, `prim` = size of
the primitive it is built from (`[u16; 4]`: 8 and 2) -/
def uncompressedUniversalT (v : View) (c : Color) (aligned : Bool) (size prim : Nat) : Option (List Nat) := do
  let bufferPixels := SrcConsts.UNIVERSAL_BUFFER_PIXELS      -- :34–36
  let chunkCount ← divCeilU (v.w * v.h) bufferPixels         -- :38
  let lens ← forEachChunkT v bufferPixels 1 (fun part encoded => do
    let intermediate ← sliceTo bufferPixels encoded          -- :45 &mut intermediate_buffer[..encoded.len()]
    let line ← asRgbaF32T c aligned part intermediate     -- :46
    dbgP (line = encoded))                                   -- :261 debug_assert!(line.len() == out.len())
  mapIdxT (fun chunkIndex encoded => do
    progT chunkIndex chunkCount SrcConsts.UNC_REPORT_FREQUENCY        -- :50–54
    let bytes ← mulU encoded size                            -- cast::as_bytes
    toLeT prim bytes                                         -- :56
    pure bytes) lens                                         -- :57

/-! ## `uncompressed_universal_dither` (encode/uncompressed.rs:73–155) -/

/-- `process_chunk` of `universal_dither!` (:283–323) on `chunk` pixels, `encoded` bytes, the two error slices -/
def ditherProcessChunkT (size prim chunk encoded curErr nextErr : Nat) : Option Unit := do
  -- :291 `cast::from_bytes_mut::<Out>(encoded).expect(..)`: whole elements (the alignment is the `assert!` at :92
  -- together with the offset 0 into the `u64` buffer)
  let enc ← TrapUnc.fromBytesT encoded size
  dbgP (chunk = enc)                                         -- :294
  dbgP (chunk = curErr)                                      -- :295
  dbgP (chunk + 2 = nextErr)                                 -- :296
  -- :300–318 `zip` of three iterators (stops at the shortest); `error_offset` runs from 1
  let n := min (min chunk enc) curErr
  let _ ← mapT (fun i => do
    let off ← addU 1 i                                       -- :317 error_offset += 1 (accumulated)
    let a ← subU off 1                                       -- :312
    idxLen nextErr a
    idxLen nextErr off                                       -- :313
    let b ← addU off 1                                       -- :314
    idxLen nextErr b) (List.range n)
  toLeT prim encoded                                         -- :320

/-- the chunk loop of one row (:124–151): `error_offset` threaded through -/
def ditherRowT (c : Color) (aligned : Bool) (size prim bufferPixels encodedBytes curErr nextErr chunkCount : Nat) :
    (lines : List Nat) → (chunkIndex errorOffset : Nat) → Option (List Nat × Nat)
  | [], chunkIndex, _ => some ([], chunkIndex)
  | line :: rest, chunkIndex, errorOffset => do
    progT chunkIndex chunkCount SrcConsts.UNC_REPORT_FREQUENCY        -- :126–130
    let r ← remU line c.bpp                                  -- :132
    dbgP (r = 0)
    let pixels ← div line c.bpp                              -- :133
    let intermediate ← sliceTo bufferPixels pixels           -- :135
    let eb ← mulU pixels size                                -- :136
    let encoded ← sliceTo encodedBytes eb
    let inter ← asRgbaF32T c aligned line intermediate       -- :137
    let ce ← addU errorOffset pixels                         -- :144
    let cur ← sliceRange curErr errorOffset ce
    let na ← subU errorOffset 1                              -- :145
    let nb0 ← addU errorOffset pixels
    let nb ← addU nb0 1
    let next ← sliceRange nextErr na nb
    ditherProcessChunkT size prim inter encoded cur next     -- :139
    let errorOffset' ← addU errorOffset pixels               -- :147
    toLeT 1 encoded                                          -- :149 (`u8`)
    let s ← ditherRowT c aligned size prim bufferPixels encodedBytes curErr nextErr chunkCount rest (chunkIndex + 1) errorOffset'
    pure (encoded :: s.1, s.2)                               -- :150

def ditherRowsT (c : Color) (aligned : Bool) (size prim bufferPixels encodedBytes chunkSize chunkCount rowBytes : Nat) :
    (rows : List Nat) → (chunkIndex curErr nextErr : Nat) → Option (List Nat)
  | [], _, _, _ => some []
  | row :: rest, chunkIndex, curErr, nextErr => do
    dbgP (row = rowBytes)                                    -- :116
    -- :119 `std::mem::swap(&mut current_line_error, &mut next_line_error)`
    let cur := nextErr
    let next := curErr
    let lines ← chunksT row chunkSize                        -- :124
    let r ← ditherRowT c aligned size prim bufferPixels encodedBytes cur next chunkCount lines chunkIndex
      SrcConsts.DITHER_ERROR_PADDING                         -- :121
    let s ← ditherRowsT c aligned size prim bufferPixels encodedBytes chunkSize chunkCount rowBytes rest r.2 cur next
    pure (r.1 ++ s)

/-- `uncompressed_universal_dither(args, encoded_pixel_size, encoded_pixel_align, process_chunk)` -/
def ditherT (v : View) (c : Color) (aligned : Bool) (size align prim : Nat) : Option (List Nat) := do
  dbgP (align ≤ SrcConsts.DITHER_ENCODED_ELEM_BYTES)         -- :92
  let pad := SrcConsts.DITHER_ERROR_PADDING                  -- :94
  let p2 ← mulU pad 2                                        -- :95
  let l1 ← addU v.w p2
  let errTotal ← mulU 2 l1
  allocT errTotal 16
  let p2' ← mulU pad 2                                       -- :97
  let mid ← addU v.w p2'
  let halves ← splitAtT errTotal mid
  let bufferPixels := SrcConsts.DITHER_BUFFER_PIXELS         -- :106
  let encodedBytes ← mulU bufferPixels SrcConsts.DITHER_ENCODED_ELEM_BYTES   -- :108–109
  let q ← div encodedBytes size                              -- :111
  let chunkPixels := min bufferPixels q
  let chunkSize ← mulU chunkPixels c.bpp                     -- :112
  let rowBytes ← mulU v.w c.bpp                              -- :113
  let perRow ← divCeilU rowBytes chunkSize
  let chunkCount ← mulU v.h perRow
  let rows ← rowsT v                                         -- :115
  ditherRowsT c aligned size prim bufferPixels encodedBytes chunkSize chunkCount rowBytes rows 0 halves.1 halves.2

end Dds.TrapEnc
