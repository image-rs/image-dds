/-
Complete evaluation over a range by binary splitting (kernel recursion depth stays logarithmic).
-/
namespace Dds

/-- `p` holds on `[x, x+n)`.  Written as a direct recursion with `cond` and `Nat.add` because the kernel evaluates
that far more cheaply than `(List.range' x n).all p`; for sweeps whose predicate is a few integer operations the
loop is a large share of the work. -/
def allFrom (p : Nat → Bool) : Nat → Nat → Bool
  | 0, _ => true
  | n + 1, x => cond (p x) (allFrom p n (Nat.add x 1)) false

theorem allFrom_sound (p : Nat → Bool) (n x : Nat) (h : allFrom p n x = true) :
    ∀ y, x ≤ y → y < x + n → p y = true := by
  induction n generalizing x with
  | zero => intro y h1 h2; omega
  | succ n ih =>
    intro y h1 h2
    rw [allFrom] at h
    cases hp : p x with
    | false => rw [hp] at h; exact absurd h Bool.false_ne_true
    | true =>
      rw [hp] at h
      by_cases hy : y = x
      · rw [hy, hp]
      · exact ih (Nat.add x 1) h y (by show x + 1 ≤ y; omega) (by show y < x + 1 + n; omega)

/-- `p` holds on `[lo, lo+n)`; splits in halves `depth` times (so the kernel's recursion depth stays logarithmic in
the number of leaves), then scans each leaf with `allFrom` -/
def allRange (p : Nat → Bool) : Nat → Nat → Nat → Bool
  | 0, lo, n => allFrom p n lo
  | d + 1, lo, n => allRange p d lo (n / 2) && allRange p d (lo + n / 2) (n - n / 2)

theorem allRange_sound (p : Nat → Bool) (d lo n : Nat) (h : allRange p d lo n = true) :
    ∀ x, lo ≤ x → x < lo + n → p x = true := by
  induction d generalizing lo n with
  | zero => exact allFrom_sound p n lo h
  | succ d ih =>
    intro x h1 h2
    simp only [allRange, Bool.and_eq_true] at h
    by_cases hx : x < lo + n / 2
    · exact ih lo (n / 2) h.1 x h1 hx
    · exact ih (lo + n / 2) (n - n / 2) h.2 x (by omega) (by omega)

/-- a sweep too large for one kernel evaluation is cut where `allRange` itself splits; the two evaluations then give the
whole range back -/
theorem allRange_join {p : Nat → Bool} {d lo n : Nat} (h1 : allRange p d lo (n / 2) = true)
    (h2 : allRange p d (lo + n / 2) (n - n / 2) = true) : allRange p (d + 1) lo n = true := by
  rw [allRange, h1, h2]; rfl

theorem allRange_lt {p : Nat → Bool} {d n : Nat} (h : allRange p d 0 n = true) : ∀ x, x < n → p x = true :=
  fun x hx => allRange_sound p d 0 n h x (Nat.zero_le _) (by omega)

theorem allRange_le {p : Nat → Bool} {d n : Nat} (h : allRange p d 0 (n + 1) = true) : ∀ x, x ≤ n → p x = true :=
  fun x hx => allRange_lt h x (by omega)

/-- the same for a decidable predicate, so that `decide +kernel` on the checker yields the `Prop` directly -/
theorem forall_lt_of_allRange {P : Nat → Prop} [DecidablePred P] {d n : Nat}
    (h : allRange (fun x => decide (P x)) d 0 n = true) : ∀ x, x < n → P x :=
  fun x hx => of_decide_eq_true (allRange_lt h x hx)

theorem forall_le_of_allRange {P : Nat → Prop} [DecidablePred P] {d n : Nat}
    (h : allRange (fun x => decide (P x)) d 0 (n + 1) = true) : ∀ x, x ≤ n → P x :=
  fun x hx => of_decide_eq_true (allRange_le h x hx)

end Dds
