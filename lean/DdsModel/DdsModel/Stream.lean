/-
Reader / allocator operation traces of every surface-decode path (C06, C07).

Modelled code (all in /repo/src):
* `decode/mod.rs`        `decode`, `decode_rect` (+ `inner`), `check_likely_overflow`,
                         `DecodeOptions::default().memory_limit`
* `decode/decoder.rs`    `DecodeContext::{reserve_bytes, alloc, alloc_read}`,
                         `DecoderSet::{decode, decode_rect}` (empty shortcut, specialised fn)
* `decode/read_write.rs` `for_each_pixel_untyped`, `for_each_pixel_rect_untyped`,
                         `for_each_block_untyped`, `for_each_block_rect_untyped`,
                         `for_each_bi_planar`, `for_each_bi_planar_rect`,
                         `UntypedLineBuffer::{new, next_line}`, `read_exact_image`
* `util.rs`              `io_skip_exact`
* per-family files (`uncompressed.rs`, `sub_sampled.rs`, `bi_planar.rs`, `bc.rs`, `astc.rs`):
  only *which* helper a format uses and with which unit sizes (`formatTable`).

A decode path is a pure function to a list of operations `alloc n | skip n | read n`
in program order.  The numbers in the list are the *ideal* (unbounded) values of the
Rust expressions; the interpreter reduces them modulo 2^64 where the Rust code hands
them over in a `u64`/`usize` (release profile), and the theorems show that under the
guarantee of `check_likely_overflow` every value is below 2^63, so nothing wraps and the
overflow-checking profile does not trap.  `Op.panic` stands for a failing
`assert!`/`clamp`/division; the theorems show it is never emitted.
-/
import DdsModel.Layout
import DdsModel.SrcConsts
namespace Dds.Stream
open Dds

/-- `isize::MAX`, the `LIMIT` of `check_likely_overflow` -/
def ISIZE_MAX : Nat := 9223372036854775807
/-- `UntypedLineBuffer::new::TARGET_BUFFER_SIZE` -/
def TARGET_BUFFER_SIZE : Nat := SrcConsts.TARGET_BUFFER_SIZE   -- 65536 at the pinned commit; regenerated from the source
/-- `DecodeOptions::default().memory_limit` (33 MiB) -/
def DEFAULT_MEMORY_LIMIT : Nat := SrcConsts.DEFAULT_MEMORY_LIMIT   -- 33 MiB at the pinned commit; regenerated from the source

inductive Op where
  /-- `DecodeContext::alloc(n)` / the `reserve_bytes + try_reserve_exact` half of `alloc_read` -/
  | alloc (n : Nat)
  /-- `util::io_skip_exact(r, n)` -/
  | skip (n : Nat)
  /-- `r.read_exact(buf)` with `buf.len() = n` / the `io::copy(r.take(n))` half of `alloc_read` -/
  | read (n : Nat)
  /-- a failing `assert!`, `Ord::clamp` with `min > max`, or division by zero -/
  | panic
deriving DecidableEq, Repr, Inhabited

/-- result kinds of `decode` / `decode_rect` -/
inductive Res where
  | ok | ioError | memLimit | rectOutOfBounds | panic
deriving DecidableEq, Repr, Inhabited

/-- colour format of the output image: (channels index, precision index);
channels 0 Grayscale, 1 Alpha, 2 Rgb, 3 Rgba; precision 0 U8, 1 U16, 2 F32 -/
abbrev Colour := Nat × Nat

/-- `ColorFormat::bytes_per_pixel` -/
def colourBytes (c : Colour) : Nat :=
  (match c.1 with | 0 => 1 | 1 => 1 | 2 => 3 | _ => 4) * (match c.2 with | 0 => 1 | 1 => 2 | _ => 4)

/-- which helper of `read_write.rs` a format's decoders call, with the unit sizes they pass -/
inductive Fam where
  /-- `for_each_pixel_untyped` / `for_each_pixel_rect_untyped` with `size_of::<InPixel>() = bpp`;
  `fast = some c`: `add_specialized(c, read_exact_image …)` for full decodes into colour `c` -/
  | pixel (bpp : Nat) (fast : Option Colour)
  /-- `for_each_block_untyped::<bw, bh, bpb, _>` / `for_each_block_rect_untyped::<bw, bh, bpb>` -/
  | block (bw bh bpb : Nat)
  /-- `for_each_bi_planar` / `for_each_bi_planar_rect` with `BiPlaneInfo` -/
  | biPlanar (e1 e2 sx sy : Nat)
deriving DecidableEq, Repr, Inhabited

/-- the `PixelInfo` with the same unit sizes (what `PixelInfo::from(format)` must be, C19) -/
def Fam.px : Fam → PixelInfo
  | .pixel bpp _ => .fixed bpp
  | .block bw bh bpb => .block bpb bw bh
  | .biPlanar e1 e2 sx sy => .biPlanar e1 e2 sx sy

/-- unit sizes are positive; byte counts fit a `u8`, block and plane sizes are below 16; a specialised whole-image function is only registered for a
colour whose pixels have the encoded size (it reads straight into the output) -/
def Fam.WF : Fam → Prop
  | .pixel bpp fast => 0 < bpp ∧ bpp < 256 ∧ ∀ c, fast = some c → colourBytes c = bpp
  | .block bw bh bpb => 0 < bw ∧ bw < 16 ∧ 0 < bh ∧ bh < 16 ∧ 0 < bpb ∧ bpb < 256
  | .biPlanar e1 e2 sx sy => 0 < e1 ∧ e1 < 16 ∧ 0 < e2 ∧ e2 < 16 ∧ 0 < sx ∧ sx < 16 ∧ 0 < sy ∧ sy < 16

instance (f : Fam) : Decidable f.WF := by
  cases f with
  | pixel bpp fast =>
    unfold Fam.WF
    cases fast with
    | none => exact decidable_of_iff (0 < bpp ∧ bpp < 256) (by simp)
    | some c => exact decidable_of_iff (0 < bpp ∧ bpp < 256 ∧ colourBytes c = bpp) (by simp)
  | block => unfold Fam.WF; exact inferInstance
  | biPlanar => unfold Fam.WF; exact inferInstance

/-! ### `UntypedLineBuffer` -/

/-- `(TARGET_BUFFER_SIZE / bytes_per_line).clamp(1, height)` for `1 ≤ height`
(`Ord::clamp`: `if self < min { min } else if self > max { max } else { self }`) -/
def linesInBuffer (bpl lines : Nat) : Nat :=
  let x := TARGET_BUFFER_SIZE / bpl
  if x < 1 then 1 else if lines < x then lines else x

/-- `buf_len = lines_in_buffer * bytes_per_line` -/
def lineBufLen (bpl lines : Nat) : Nat := linesInBuffer bpl lines * bpl

/-- `UntypedLineBuffer::new`: one `context.alloc(buf_len)`. `bytes_per_line = 0` divides by zero
and `height = 0` fails `clamp`'s `assert!(min <= max)`. -/
def lineBufNew (bpl lines : Nat) : List Op :=
  if bpl = 0 ∨ lines = 0 then [.panic] else [.alloc (lineBufLen bpl lines)]

/-- all `read_exact` calls of `UntypedLineBuffer::next_line` until `Ok(None)`:
`lines_to_read = (buf.len() / bytes_per_line).min(lines_on_disk)` per refill -/
def refills (bpl lines : Nat) : List Op :=
  let per := lineBufLen bpl lines / bpl
  List.replicate (lines / per) (.read (per * bpl)) ++
    (if lines % per = 0 then [] else [.read (lines % per * bpl)])

/-! ### the seven helpers -/

/-- specialised whole-image functions (`COPY_U8`, `COPY_U16`, `COPY_U32`, `COPY_S8`, BGRA swap):
`read_exact_image(r, out)` reads `out` in one go if contiguous, else row by row; both are
`w*h*bytes_per_pixel(colour)` bytes of consecutive reads (the tie merges consecutive reads). -/
def copyFull (outBpp w h : Nat) : List Op := [.read (w * h * outBpp)]

/-- `for_each_pixel_untyped` -/
def pixelFull (bpp w h : Nat) : List Op :=
  lineBufNew (w * bpp) h ++ refills (w * bpp) h

/-- rows `1..h` of the `for y in 0..image.height()` loop: skip to the next row, read it -/
def rectRowsRest (gap rd : Nat) : Nat → List Op
  | 0 => []
  | k + 1 => .skip gap :: .read rd :: rectRowsRest gap rd k

/-- the `for y in 0..image.height()` loop of `for_each_pixel_rect_untyped` -/
def rectRows (gap rd : Nat) : Nat → List Op
  | 0 => []
  | k + 1 => .read rd :: rectRowsRest gap rd k

/-- `for_each_pixel_rect_untyped` (surface `W×H`, rect `w×h` at `(x,y)` inside it) -/
def pixelRect (bpp W H x y w h : Nat) : List Op :=
  let perRow := W * bpp
  let before := x * bpp
  let after := (W - x - w) * bpp
  (if W * H * bpp ≤ I64MAX then [] else [.panic]) ++
  [.alloc (w * bpp), .skip (perRow * y + before)] ++
  rectRows (before + after) (w * bpp) h ++
  [.skip (after + (H - y - h) * perRow)]

/-- `for_each_block_untyped::inner` -/
def blockFull (bw bh bpb w h : Nat) : List Op :=
  (if w = 0 ∨ h = 0 then [.panic] else []) ++
  lineBufNew (divCeil w bw * bpb) (divCeil h bh) ++ refills (divCeil w bw * bpb) (divCeil h bh)

/-- `for_each_block_rect_untyped::inner` (only `y`, `h` of the rect matter for I/O:
whole block lines are read) -/
def blockRect (bw bh bpb W H y h : Nat) : List Op :=
  let perLine := divCeil W bw
  let before := y / bh
  let toRead := divCeil (h + y) bh - before
  let after := divCeil H bh - before - toRead
  lineBufNew (perLine * bpb) toRead ++
  [.skip (perLine * before * bpb)] ++
  refills (perLine * bpb) toRead ++
  [.skip (perLine * after * bpb)]

/-- `for_each_bi_planar`: line buffer for plane 2, then `alloc_read` of plane 1, then plane 2 -/
def biPlanarFull (e1 e2 sx sy w h : Nat) : List Op :=
  let uvBpl := divCeil w sx * e2
  let uvLines := divCeil h sy
  lineBufNew uvBpl uvLines ++
  [.alloc (w * e1 * h), .read (w * e1 * h)] ++
  refills uvBpl uvLines

/-- `for_each_bi_planar_rect`; `checked_mul` failing gives `MemoryLimitExceeded` -/
def biPlanarRect (e1 e2 sx sy W H y h : Nat) : Except Res (List Op) :=
  let uvBefore := y / sy
  let uvAfter := divCeil H sy - divCeil (y + h) sy
  let uvLines := divCeil H sy - uvBefore - uvAfter
  let uvBpl := divCeil W sx * e2
  let p1 := W * e1
  if p1 * h < U64 then
    .ok ([.alloc (p1 * h)] ++ lineBufNew uvBpl uvLines ++
      [.skip (p1 * y), .read (p1 * h), .skip (p1 * (H - y - h)), .skip (uvBefore * uvBpl)] ++
      refills uvBpl uvLines ++
      [.skip (uvAfter * uvBpl)])
  else .error .memLimit

/-! ### `decode` and `decode_rect` -/

/-- `check_likely_overflow` -/
def checkLikelyOverflow (f : Fam) (w h : Nat) : Bool :=
  match f.px.surfaceBytes w h with
  | some b => decide (b ≤ ISIZE_MAX)
  | none => false

/-- `DecoderSet::decode` for a non-empty image -/
def fullOps (f : Fam) (c : Colour) (w h : Nat) : List Op :=
  match f with
  | .pixel bpp fast => if fast = some c then copyFull (colourBytes c) w h else pixelFull bpp w h
  | .block bw bh bpb => blockFull bw bh bpb w h
  | .biPlanar e1 e2 sx sy => biPlanarFull e1 e2 sx sy w h

/-- `DecoderSet::decode_rect` for a non-empty rect inside the surface -/
def rectOps (f : Fam) (W H x y w h : Nat) : Except Res (List Op) :=
  match f with
  | .pixel bpp _ => .ok (pixelRect bpp W H x y w h)
  | .block bw bh bpb => .ok (blockRect bw bh bpb W H y h)
  | .biPlanar e1 e2 sx sy => biPlanarRect e1 e2 sx sy W H y h

/-- a call of the public API: full decode of a `w×h` surface, or rect decode -/
inductive Call where
  | full (w h : Nat)
  | rect (W H x y w h : Nat)
deriving DecidableEq, Repr, Inhabited

/-- size of the surface the reader is positioned at -/
def Call.surface : Call → Nat × Nat
  | .full w h => (w, h)
  | .rect W H _ _ _ _ => (W, H)

/-- `decode` / `decode_rect`: validation, shortcuts, then the helper's operations.
`.error r` = returned before any operation. (`ImageViewMut` stores every empty size as `0×0`;
`surface_bytes` is 0 for all of them, `contains_rect` is applied to the stored size.) -/
def plan (f : Fam) (c : Colour) : Call → Except Res (List Op)
  | .full w h =>
    if checkLikelyOverflow f w h = false then .error .memLimit
    else if w = 0 ∨ h = 0 then .ok []                       -- "never decode empty images"
    else .ok (fullOps f c w h)
  | .rect W H x y w h =>
    if checkLikelyOverflow f W H = false then .error .memLimit
    else if w = 0 ∨ h = 0 then
      if x ≤ W ∧ y ≤ H then .ok [.skip ((f.px.surfaceBytes W H).getD (U64 - 1))]  -- skip the surface
      else .error .rectOutOfBounds
    else if x + w ≤ W ∧ y + h ≤ H then rectOps f W H x y w h
    else .error .rectOutOfBounds

/-! ### ideal stream, allocator and interpreter -/

/-- The environment of a decode: an ideal byte stream of `len` bytes, optionally with a hard
error at absolute offset `fault` (bytes `< fault` are readable, a `read` at `fault` or a `seek`
to a target beyond it returns `Err`), a `seek` that either accepts targets beyond the end
(`Cursor`, files) or clamps to the end, and an allocator that may refuse a request. -/
structure Env where
  len : Nat
  fault : Option Nat := none
  clampSeek : Bool := false
  allocOk : Nat → Bool := fun _ => true
  /-- the first `read` at or beyond this offset returns `Ok(0)` although the stream goes on (a file
  that is still being written, a pipe): `read_exact` / `alloc_read` must report `UnexpectedEof`;
  `seek` is not affected -/
  eofOnce : Option Nat := none

/-- first offset that cannot be read -/
def Env.lim (e : Env) : Nat :=
  let a := match e.fault with
    | none => e.len
    | some f => if f < e.len then f else e.len
  match e.eofOnce with
  | none => a
  | some z => if z < a then z else a

def mn (a b : Nat) : Nat := if a ≤ b then a else b

/-- what `read_exact` / `io::copy(take(n))` amount to on the ideal stream: (ok?, new position) -/
def readSpec (e : Env) (pos n : Nat) : Bool × Nat :=
  if n = 0 then (true, pos)
  else if pos + n ≤ e.lim then (true, pos + n)
  else (false, if pos < e.lim then e.lim else pos)

/-- `read_exact` as the loop it is, over a reader that answers the i-th `read` call according
to the i-th element of the short-read pattern: `0` = `Err(Interrupted)` (retried), `c+1` = at most
`c+1` bytes; after the pattern is used up requests are served in full. `Ok(0)` before the buffer is
full is `UnexpectedEof`; the hard error is returned as is. -/
def readExact (e : Env) : List Nat → Nat → Nat → Bool × Nat
  | [], pos, n => readSpec e pos n
  | c :: pat, pos, n =>
    if n = 0 then (true, pos)
    else if c = 0 then readExact e pat pos n
    else if e.lim ≤ pos then (false, pos)
    else readExact e pat (pos + mn (mn c n) (e.lim - pos)) (n - mn (mn c n) (e.lim - pos))

/-- does `seek` to `target` return `Err`? -/
def seekFails (e : Env) (target : Nat) : Bool :=
  match e.fault with
  | none => false
  | some f => decide (f < target)

/-- where `seek(SeekFrom::Current(..))` to `target > pos` lands -/
def seekLand (e : Env) (pos target : Nat) : Nat :=
  if e.clampSeek ∧ e.len < target then (if e.len < pos then pos else e.len) else target

/-- `util::io_skip_exact(r, count)`: (ok?, new position) -/
def skipExact (e : Env) (pos count : Nat) : Bool × Nat :=
  let count := count % U64                      -- the `u64` argument
  if count = 0 then (true, pos)                 -- "don't invoke the reader at all"
  else if I64MAX < count then (false, pos)      -- `i64::try_from(count)` fails: UnexpectedEof
  else
    let target := pos + count
    if seekFails e target then (false, pos)     -- `reader.seek(..)?`
    else
      let actual := seekLand e pos target
      if actual = satAdd64 pos count then (true, actual) else (false, actual)

/-- successful reader mutations, for the tie: relative seek distance / bytes delivered -/
inductive Ev where
  | seek (d : Nat)
  | read (k : Nat)
deriving DecidableEq, Repr, Inhabited

structure St where
  /-- reader position -/
  pos : Nat
  /-- `DecodeContext.memory_limit`: the remaining budget -/
  budget : Nat
  /-- sizes handed to the allocator (`try_reserve_exact`), newest first -/
  calls : List Nat := []
  /-- reader mutations, newest first -/
  log : List Ev := []
deriving Repr, Inhabited

def St.moved (st : St) (p : Nat) (ev : Nat → Ev) : St :=
  { st with pos := p, log := if p = st.pos then st.log else ev (p - st.pos) :: st.log }

/-- executes the operations in order; every one is sequenced with `?`.
`pats` gives the short-read pattern of the 1st, 2nd, … `read`. -/
def interp (e : Env) : List (List Nat) → List Op → St → Res × St
  | _, [], st => (.ok, st)
  | _, .panic :: _, st => (.panic, st)
  | ps, .alloc n :: ops, st =>
    let n := n % U64                                        -- the `usize` argument
    if st.budget < n then (.memLimit, st)                   -- `reserve_bytes`
    else
      let st' := { st with budget := st.budget - n, calls := n :: st.calls }
      if e.allocOk n then interp e ps ops st' else (.memLimit, st')  -- `try_reserve_exact`
  | ps, .skip n :: ops, st =>
    let r := skipExact e st.pos n
    if r.1 then interp e ps ops (st.moved r.2 .seek) else (.ioError, st.moved r.2 .seek)
  | ps, .read n :: ops, st =>
    let r := readExact e (ps.headD []) st.pos n
    if r.1 then interp e ps.tail ops (st.moved r.2 .read) else (.ioError, st.moved r.2 .read)

/-- a whole `decode`/`decode_rect` call on a reader at `pos` with `memory_limit = limit` -/
def run (e : Env) (pats : List (List Nat)) (p : Except Res (List Op)) (pos limit : Nat) : Res × St :=
  match p with
  | .error r => (r, { pos := pos, budget := limit })
  | .ok ops => interp e pats ops { pos := pos, budget := limit }

/-! ### measures of a trace -/

/-- bytes the reader is moved by when nothing fails -/
def span : List Op → Nat
  | [] => 0
  | .skip n :: t => n + span t
  | .read n :: t => n + span t
  | _ :: t => span t

/-- total of all allocation requests -/
def need : List Op → Nat
  | [] => 0
  | .alloc n :: t => n + need t
  | _ :: t => need t

def planNeed : Except Res (List Op) → Nat
  | .ok ops => need ops
  | .error _ => 0

/-- only reader operations -/
def ioOnly : List Op → Prop
  | [] => True
  | .skip _ :: t => ioOnly t
  | .read _ :: t => ioOnly t
  | _ :: _ => False

/-- every allocation precedes the first reader operation; no panic -/
def allocFirst : List Op → Prop
  | [] => True
  | .alloc _ :: t => allocFirst t
  | .skip n :: t => ioOnly (.skip n :: t)
  | .read n :: t => ioOnly (.read n :: t)
  | .panic :: _ => False

/-! ### format table (src/decode/*.rs) -/

def U8c : Nat := 0
def U16c : Nat := 1
def F32c : Nat := 2

/-- `Format` → helper and unit sizes, read off the `DecoderSet` constants -/
def formatTable : List (String × Fam) := [
  ("R8G8B8_UNORM", .pixel 3 (some (2, 0))),
  ("B8G8R8_UNORM", .pixel 3 none),
  ("R8G8B8A8_UNORM", .pixel 4 (some (3, 0))),
  ("R8G8B8A8_SNORM", .pixel 4 (some (3, 0))),
  ("B8G8R8A8_UNORM", .pixel 4 (some (3, 0))),
  ("B8G8R8X8_UNORM", .pixel 4 none),
  ("B5G6R5_UNORM", .pixel 2 none),
  ("B5G5R5A1_UNORM", .pixel 2 none),
  ("B4G4R4A4_UNORM", .pixel 2 none),
  ("A4B4G4R4_UNORM", .pixel 2 none),
  ("R8_SNORM", .pixel 1 (some (0, 0))),
  ("R8_UNORM", .pixel 1 (some (0, 0))),
  ("R8G8_UNORM", .pixel 2 none),
  ("R8G8_SNORM", .pixel 2 none),
  ("A8_UNORM", .pixel 1 (some (1, 0))),
  ("R16_UNORM", .pixel 2 (some (0, 1))),
  ("R16_SNORM", .pixel 2 none),
  ("R16G16_UNORM", .pixel 4 none),
  ("R16G16_SNORM", .pixel 4 none),
  ("R16G16B16A16_UNORM", .pixel 8 (some (3, 1))),
  ("R16G16B16A16_SNORM", .pixel 8 none),
  ("R10G10B10A2_UNORM", .pixel 4 none),
  ("R11G11B10_FLOAT", .pixel 4 none),
  ("R9G9B9E5_SHAREDEXP", .pixel 4 none),
  ("R16_FLOAT", .pixel 2 none),
  ("R16G16_FLOAT", .pixel 4 none),
  ("R16G16B16A16_FLOAT", .pixel 8 none),
  ("R32_FLOAT", .pixel 4 (some (0, 2))),
  ("R32G32_FLOAT", .pixel 8 none),
  ("R32G32B32_FLOAT", .pixel 12 (some (2, 2))),
  ("R32G32B32A32_FLOAT", .pixel 16 (some (3, 2))),
  ("R10G10B10_XR_BIAS_A2_UNORM", .pixel 4 none),
  ("AYUV", .pixel 4 none),
  ("Y410", .pixel 4 none),
  ("Y416", .pixel 8 none),
  ("R1_UNORM", .block 8 1 1),
  ("R8G8_B8G8_UNORM", .block 2 1 4),
  ("G8R8_G8B8_UNORM", .block 2 1 4),
  ("UYVY", .block 2 1 4),
  ("YUY2", .block 2 1 4),
  ("Y210", .block 2 1 8),
  ("Y216", .block 2 1 8),
  ("NV12", .biPlanar 1 2 2 2),
  ("P010", .biPlanar 2 4 2 2),
  ("P016", .biPlanar 2 4 2 2),
  ("BC1_UNORM", .block 4 4 8),
  ("BC2_UNORM", .block 4 4 16),
  ("BC2_UNORM_PREMULTIPLIED_ALPHA", .block 4 4 16),
  ("BC3_UNORM", .block 4 4 16),
  ("BC3_UNORM_PREMULTIPLIED_ALPHA", .block 4 4 16),
  ("BC4_UNORM", .block 4 4 8),
  ("BC4_SNORM", .block 4 4 8),
  ("BC5_UNORM", .block 4 4 16),
  ("BC5_SNORM", .block 4 4 16),
  ("BC6H_UF16", .block 4 4 16),
  ("BC6H_SF16", .block 4 4 16),
  ("BC7_UNORM", .block 4 4 16),
  ("ASTC_4X4_UNORM", .block 4 4 16),
  ("ASTC_5X4_UNORM", .block 5 4 16),
  ("ASTC_5X5_UNORM", .block 5 5 16),
  ("ASTC_6X5_UNORM", .block 6 5 16),
  ("ASTC_6X6_UNORM", .block 6 6 16),
  ("ASTC_8X5_UNORM", .block 8 5 16),
  ("ASTC_8X6_UNORM", .block 8 6 16),
  ("ASTC_8X8_UNORM", .block 8 8 16),
  ("ASTC_10X5_UNORM", .block 10 5 16),
  ("ASTC_10X6_UNORM", .block 10 6 16),
  ("ASTC_10X8_UNORM", .block 10 8 16),
  ("ASTC_10X10_UNORM", .block 10 10 16),
  ("ASTC_12X10_UNORM", .block 12 10 16),
  ("ASTC_12X12_UNORM", .block 12 12 16),
  ("BC3_UNORM_RXGB", .block 4 4 16),
  ("BC3_UNORM_NORMAL", .block 4 4 16)
]

def lookupFormat (name : String) : Option Fam :=
  (formatTable.find? (·.1 = name)).map (·.2)

end Dds.Stream
