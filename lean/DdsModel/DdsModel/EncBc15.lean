/-
The discrete core of the BC1–BC5 ENCODERS: `src/encode/bc1.rs` (BC1 and the colour half of BC2 / BC3 / RXGB / BC3n),
`src/encode/bc4.rs` (BC4, BC5, BC3 alpha, the red channel of RXGB / BC3n) and the wiring of `src/encode/bc.rs`.

The float ENDPOINT SEARCH is not here (line fit, least squares, refinement, quantisation choice, Oklab, dithering): its
results — two 5:6:5 colours, two 8-bit endpoints — are parameters.  What is here, code-shaped, with the Rust function
cited at every definition:

* bc1.rs: `IndexList` (a `u32`, 2 bits × 16, the three `debug_assert!`s of `set` as `Option`), `AlphaMap`,
  `Palette::transparent_index`, `PaletteInfo::create_endpoints` (over `Enc13.newP4` / `newP3Default`), the index
  bookkeeping of `Palette::block_closest` / `block_dither`, `EndPoints::with_indexes` (`Enc13.withIndexes`), the strict-`<`
  scan of `Palette::closest`, and the encoder's OWN palette in binary32: `R5G6B5Color::to_vec`, `Palette::new_p4`,
  `Palette::new_p3`, `ErrorMetric::error_sq` of `Uniform` (glam `Vec3A::distance_squared`);
* bc4.rs: `IndexList` (a `u64`, 3 bits × 16, `new_all`), `EndPoints::{new_closest, new_inter6, new_inter4,
  new_inter6_unorm, inter6_to_inter4, with_indexes}` (the float roundings that produce the integers are parameters),
  `Inter6Palette::{new, closest}` with `INDEX_MAP`, `Inter4Palette::{new, closest}`, `Palette::block_closest`,
  `single_color`, `BC4_EPSILON`;
* bc.rs: `concat_blocks`, the BC2 / BC3 / RXGB / BC3n / BC5 wiring (which channel feeds which half, which half comes
  first), `pre_multiply_alpha`, `get_bc1_options`, `get_bc3_options`, `get_bc4_options` and the per-format overrides.

There is NO re-mapping of indexes when `new_p4` / `new_p3_default` exchange the endpoints: the endpoints are ordered
FIRST (`create_endpoints`), the palette is built from the ordered pair and the indexes are selected against that palette.
`f32` values are bit patterns evaluated with the software binary32 of `ConvF32.lean` (every Rust operator is one correctly
rounded operation); `n5::f32`, `n6::f32`, `n8::f32`, `s8::uf32` are the models of `Conv.lean` (tied exhaustively in C04).
Only core is imported, so the compiled driver runs these definitions.
-/
import DdsModel.Enc13
import DdsModel.Conv
namespace Dds.Enc15
open Dds Dds.Bc Dds.Enc13

/-! ## index lists (bc1.rs `IndexList`: `u32`, 2 bits; bc4.rs `IndexList`: `u64`, 3 bits) -/

/-- `get(index)`: `((self.data >> (index * I)) & (2^I − 1)) as u8` -/
def idxGet (I data index : Nat) : Nat := ((data >>> (index * I)) &&& (2 ^ I - 1)) % U8

/-- the assignment of `set`: `self.data |= (value as uW) << (index * I)` (bits shifted beyond the word are dropped) -/
def idxSetRaw (I W data index value : Nat) : Nat := data ||| (value <<< (index * I)) % W

/-- `set(index, value)` with its `debug_assert!`s (`index < 16`, `value < 2^I`, `self.get(index) == 0` "Cannot set an
index twice"); `none` = the assertion fires (checked profile) -/
def idxSet (I W data index value : Nat) : Option Nat :=
  if index < 16 ∧ value < 2 ^ I ∧ idxGet I data index = 0 then some (idxSetRaw I W data index value) else none

/-- sixteen `set(i, f i)` calls on `new_empty()`, `i = 0..16` in order (how `block_closest` / `block_dither` of both
files fill a list) -/
def idxFill (I W : Nat) (f : Nat → Option Nat) : Option Nat :=
  (List.range 16).foldl (fun acc i => acc.bind fun d => (f i).bind fun v => idxSet I W d i v) (some 0)

/-- bc4.rs `IndexList::new_all(value)`: `(value as u64) * MASK`, `MASK = Σ 1 << (i * 3)` -/
def MASK3 : Nat := (List.range 16).foldl (fun m i => m ||| (1 <<< (i * 3)) % U64) 0
def newAll (value : Nat) : Option Nat := if value < 8 then some ((value * MASK3) % U64) else none

/-! ## bc1.rs -/

/-- `enum PaletteMode { P4, P3 }` -/
inductive PaletteMode | p4 | p3
  deriving DecidableEq, Repr

/-- `AlphaMap::is_transparent(index)`: `(self.data & (1 << index)) == 0` (`u16`) -/
def isTransparent (alphaMap index : Nat) : Bool := alphaMap &&& ((1 <<< index) % U16) == 0
/-- `AlphaMap::is_opaque` -/
def isOpaque (alphaMap index : Nat) : Bool := !isTransparent alphaMap index
/-- `AlphaMap::set_opaque_if(index, cond)`: `self.data |= (cond as u16) << index` -/
def setOpaqueIf (alphaMap index : Nat) (cond : Bool) : Nat := alphaMap ||| ((if cond then 1 else 0) <<< index) % U16

/-- `Palette::transparent_index()`: `3`, `debug_assert!(self.mode == PaletteMode::P3)` -/
def transparentIndex (mode : PaletteMode) : Option Nat := if mode = .p3 then some 3 else none

/-- `PaletteInfo::create_endpoints(e0, e1)` -/
def createEndpoints (mode : PaletteMode) (e0 e1 : C565) : C565 × C565 :=
  match mode with
  | .p4 => newP4 e0 e1
  | .p3 => newP3Default e0 e1

/-- `Palette::closest(color).0`: `best_index = 0; min_error = err 0; for i in 1..4 { if i == 3 && P3 { break }; if err i <
min_error { best_index = i; min_error = err i } }` — `err i` is a key of the f32 `error_sq(color, colors[i])` whose order
is the order of the floats (for non-negative non-NaN floats: the bit pattern) -/
def closestIdx (mode : PaletteMode) (err : Nat → Nat) : Nat :=
  let n := if mode = .p3 then 3 else 4
  ((List.range n).foldl (fun (best : Nat × Nat) i => if i ≠ 0 ∧ err i < best.2 then (i, err i) else best) (0, err 0)).1

/-- index bookkeeping of `Palette::block_closest` and `Palette::block_dither`: an opaque pixel gets `sel i`, the index
`closest` returned for it (a float decision: parameter), a transparent pixel gets `transparent_index()` -/
def blockIndexes (mode : PaletteMode) (alphaMap : Nat) (sel : Nat → Nat) : Option Nat :=
  idxFill 2 U32 fun i => if isOpaque alphaMap i then some (sel i) else transparentIndex mode

/-- the tail of `compress_with_palette`, `compress_single_color` and `CandidateList::add`: `create_endpoints`, the index
list of `PaletteInfo::block`, `endpoints.with_indexes(indexes)`; `none` = a `debug_assert!` fires -/
def emitColour (mode : PaletteMode) (e0 e1 : C565) (alphaMap : Nat) (sel : Nat → Nat) : Option (List Nat) :=
  (blockIndexes mode alphaMap sel).map fun idx => withIndexes (createEndpoints mode e0 e1) idx

/-! ### the encoder's own palette (binary32) -/

/-- `R5G6B5Color::to_vec`: `Vec3A::new(n5::f32(r), n6::f32(g), n5::f32(b))` -/
def toVec (c : C565) : List Nat := [Conv.n5f32 c.r, Conv.n6f32 c.g, Conv.n5f32 c.b]

/-- the literals `2. / 3.`, `1. / 3.` (constant-folded in f32) -/
def K23 : Nat := 0x3F2AAAAB
def K13 : Nat := 0x3EAAAAAB

/-- one channel of `Palette::new_p4(..).colors[k]` (`Uniform`: `srgb_to_color_space` is the identity):
`[c0, c1, c0 * (2/3) + c1 * (1/3), c0 * (1/3) + c1 * (2/3)]` -/
def p4Entry (c0 c1 k : Nat) : Nat :=
  match k with
  | 0 => c0
  | 1 => c1
  | 2 => CF32.fadd (CF32.fmul c0 K23) (CF32.fmul c1 K13)
  | _ => CF32.fadd (CF32.fmul c0 K13) (CF32.fmul c1 K23)

/-- one channel of `Palette::new_p3(..).colors[k]`: `[c0, c1, (c0 + c1) * 0.5, c0]` (the fourth entry is the filler
that `closest` never selects) -/
def p3Entry (c0 c1 k : Nat) : Nat :=
  match k with
  | 0 => c0
  | 1 => c1
  | 2 => CF32.fmul (CF32.fadd c0 c1) CF32.half
  | _ => c0

def paletteEntry (mode : PaletteMode) (c0 c1 k : Nat) : Nat :=
  match mode with
  | .p4 => p4Entry c0 c1 k
  | .p3 => p3Entry c0 c1 k

/-- `Palette::new_p4 / new_p3 (endpoints, Uniform).colors`: four `Vec3A` -/
def paletteF32 (mode : PaletteMode) (e : C565 × C565) : List (List Nat) :=
  (List.range 4).map fun k => (List.range 3).map fun c => paletteEntry mode ((toVec e.1).getD c 0) ((toVec e.2).getD c 0) k

/-- `Uniform::error_sq(a, b) = a.distance_squared(b)`: glam `Vec3A` (SSE2 `dot3_in_x`): `d = a − b` lane-wise, then
`(d.x·d.x + d.y·d.y) + d.z·d.z` -/
def errorSq (a b : List Nat) : Nat :=
  let d (c : Nat) : Nat := CF32.fsub (a.getD c 0) (b.getD c 0)
  CF32.fadd (CF32.fadd (CF32.fmul (d 0) (d 0)) (CF32.fmul (d 1) (d 1))) (CF32.fmul (d 2) (d 2))

/-- `Palette::closest(color).0` over the binary32 palette: the strict-`<` scan on the f32 errors (`a < b` for the
non-negative, non-NaN values that occur is `CF32.flt`) -/
def closestF32 (mode : PaletteMode) (pal : List (List Nat)) (color : List Nat) : Nat :=
  let n := if mode = .p3 then 3 else 4
  ((List.range n).foldl (fun (best : Nat × Nat) i =>
      let e := errorSq color (pal.getD i [])
      if i ≠ 0 ∧ CF32.flt e best.2 then (i, e) else best) (0, errorSq color (pal.getD 0 []))).1

/-- the colour a BC1-family encoder sees for an RGBA8 pixel: `n8::f32` per channel, `Vec3A::clamp(ZERO, ONE)` -/
def colourOfRgb8 (r g b : Nat) : List Nat :=
  [r, g, b].map fun v => CF32.fclamp (Conv.n8f32 v) 0 CF32.one

/-- `BC1_EPSILON = 1.0 / 255.0 / 2.0` (constant-folded in f32) -/
def BC1_EPSILON : Nat := 0x3B008081

/-- `f32::max` for non-NaN operands -/
def fmaxBits (a b : Nat) : Nat := if CF32.flt a b then b else a

/-- `get_single_color(block, alpha_map)`: per channel the minimum and maximum over the OPAQUE pixels (from `INFINITY` /
`NEG_INFINITY`), `diff = (max - min).abs()`, `if diff.max_element() < BC1_EPSILON { Some((min + max) * 0.5) }` -/
def getSingleColor (colours : List (List Nat)) (alphaMap : Nat) : Option (List Nat) :=
  let chan (c : Nat) : Nat × Nat :=
    (List.range 16).foldl (fun (mm : Nat × Nat) i =>
      if isOpaque alphaMap i then
        let v := (colours.getD i []).getD c 0
        (CF32.fmin mm.1 v, fmaxBits mm.2 v)
      else mm) (CF32.posInf, CF32.negInf)
  let mm := (List.range 3).map chan
  if mm.all (fun m => CF32.flt (fabsBits' (CF32.fsub m.2 m.1)) BC1_EPSILON) then
    some (mm.map fun m => CF32.fmul (CF32.fadd m.1 m.2) CF32.half)
  else none
where fabsBits' (x : Nat) : Nat := x % CF32.signBit

/-- the whole colour block as `compress_with_palette` / `compress_single_color` finish it when colour dithering is off and
the metric is `Uniform`: endpoints as given (the float search's result); a block whose opaque pixels are within
`BC1_EPSILON` of each other (`get_single_color`) is compressed as sixteen copies of `(min + max) * 0.5`; indexes by
`block_closest` -/
def emitColourF32 (mode : PaletteMode) (e0 e1 : C565) (alphaMap : Nat) (colours : List (List Nat)) : Option (List Nat) :=
  let e := createEndpoints mode e0 e1
  let pal := paletteF32 mode e
  match getSingleColor colours alphaMap with
  | some c => CF32.force (closestF32 mode pal c) fun k => emitColour mode e0 e1 alphaMap fun _ => k
  | none => emitColour mode e0 e1 alphaMap fun i => closestF32 mode pal (colours.getD i [])

/-! ## bc4.rs -/

/-- `Inter6Palette::INDEX_MAP` -/
def INDEX_MAP : List Nat := [1, 7, 6, 5, 4, 3, 2, 0]

/-- `struct EndPoints { c0, c1, c0_f, c1_f }` -/
structure EndPoints4 where
  c0 : Nat
  c1 : Nat
  c0f : Nat
  c1f : Nat
  deriving DecidableEq, Repr

/-- `x as i8 <= y as i8` -/
def i8le (x y : Nat) : Bool := decide (asI8 x ≤ asI8 y)

/-- `EndPoints::new_closest(value, snorm)`; `closest = (254.0 * value + 0.5) as u8` resp. `(255.0 * value + 0.5) as u8`
is the parameter `n` (≤ 254 under SNORM for `value ≤ 1`) -/
def newClosest (snorm : Bool) (n : Nat) : EndPoints4 :=
  if snorm then ⟨fromNorm n, fromNorm 0, Conv.s8f32 (fromNorm n), Conv.s8f32 (fromNorm 0)⟩
  else ⟨n, 0, Conv.n8f32 n, 0⟩

/-- `EndPoints::new_inter6(e0, e1, snorm)` after the float roundings: `minR`, `maxR` = round to nearest of min / max,
`minF` = floor of min, `maxC` = ceiling of max (`255 − ((255·(1 − max)) as u8)`), all as parameters; the "make sure they
are different" step is `Enc13.fixDistinct`; SNORM: `from_norm`, and the swap `if c0 as i8 <= c1 as i8` -/
def newInter6 (snorm : Bool) (minR maxR minF maxC : Nat) : EndPoints4 :=
  let mm := fixDistinct minR maxR minF maxC
  if snorm then
    let c0 := fromNorm mm.2
    let c1 := fromNorm mm.1
    let (c0, c1) := if i8le c0 c1 then (c1, c0) else (c0, c1)
    ⟨c0, c1, Conv.s8f32 c0, Conv.s8f32 c1⟩
  else ⟨mm.2, mm.1, Conv.n8f32 mm.2, Conv.n8f32 mm.1⟩

/-- `EndPoints::inter6_to_inter4` -/
def inter6ToInter4 (e : EndPoints4) : EndPoints4 := ⟨e.c1, e.c0, e.c1f, e.c0f⟩

/-- `EndPoints::new_inter4` -/
def newInter4 (snorm : Bool) (minR maxR minF maxC : Nat) : EndPoints4 := inter6ToInter4 (newInter6 snorm minR maxR minF maxC)

/-- `EndPoints::new_inter6_unorm(c0, c1)` (`reference_brute_force`), `debug_assert!(c0 > c1)` -/
def newInter6Unorm (c0 c1 : Nat) : Option EndPoints4 :=
  if c0 > c1 then some ⟨c0, c1, Conv.n8f32 c0, Conv.n8f32 c1⟩ else none

/-- the endpoint record the palette of an EMITTED block was built from (what `from_endpoints` reads): the bytes and
their `n8::f32` / `s8::uf32` -/
def endpointsOfBytes (snorm : Bool) (c0 c1 : Nat) : EndPoints4 :=
  if snorm then ⟨c0, c1, Conv.s8f32 c0, Conv.s8f32 c1⟩ else ⟨c0, c1, Conv.n8f32 c0, Conv.n8f32 c1⟩

/-- `EndPoints::with_indexes(indexes)`: `[c0, c1, index_bytes[0..6]]` of `indexes.data.to_le_bytes()` -/
def withIndexes4 (c0 c1 data : Nat) : List Nat :=
  [c0, c1, data % 256, data / 256 % 256, data / 65536 % 256, data / 16777216 % 256, data / 4294967296 % 256,
   data / 1099511627776 % 256]

/-! ### `Inter6Palette` (binary32) -/

/-- the literal `1.0 / 7.0` -/
def K17 : Nat := 0x3E124925

structure Inter6Palette where
  c0 : Nat
  c1 : Nat
  factor1 : Nat
  factor2 : Nat
  add1 : Nat
  deriving Repr

/-- `Inter6Palette::new(c0, c1)`: `factor1 = 7.0 / (c0 - c1)`, `factor2 = (1.0 / 7.0) * (c0 - c1)`,
`add1 = 0.5 - c1 * factor1` -/
def Inter6Palette.new (c0 c1 : Nat) : Inter6Palette :=
  let d := CF32.fsub c0 c1
  let factor1 := CF32.fdiv (CF32.ofNat 7) d
  ⟨c0, c1, factor1, CF32.fmul K17 d, CF32.fsub CF32.half (CF32.fmul c1 factor1)⟩

/-- the interpolation step of `Inter6Palette::closest(pixel)`: `blend7 = ((pixel * factor1 + add1) as u8).min(7)` -/
def Inter6Palette.blend7 (p : Inter6Palette) (pixel : Nat) : Nat :=
  min (CF32.toNatSat (CF32.fadd (CF32.fmul pixel p.factor1) p.add1) 255) 7

/-- the palette value of interpolation step `j` as `closest` computes it: `j as f32 * factor2 + c1` -/
def Inter6Palette.stepValue (p : Inter6Palette) (j : Nat) : Nat := CF32.fadd (CF32.fmul (CF32.ofNat j) p.factor2) p.c1

/-- `Inter6Palette::closest(pixel)`: (`INDEX_MAP[blend7]`, `blend7 as f32 * factor2 + c1`, `|pixel − closest|`) -/
def Inter6Palette.closest (p : Inter6Palette) (pixel : Nat) : Nat × Nat × Nat :=
  let b := p.blend7 pixel
  let closest := p.stepValue b
  let error := CF32.fsub pixel closest
  (INDEX_MAP.getD b 0, closest, error % CF32.signBit)

/-! ### `Inter4Palette` (binary32) -/

/-- the literals `0.8`, `0.6`, `0.4`, `0.2` -/
def K08 : Nat := 0x3F4CCCCD
def K06 : Nat := 0x3F19999A
def K04 : Nat := 0x3ECCCCCD
def K02 : Nat := 0x3E4CCCCD

/-- `Inter4Palette::new(c0, c1).colors` -/
def inter4Colors (c0 c1 : Nat) : List Nat :=
  [c0, c1,
   CF32.fadd (CF32.fmul c0 K08) (CF32.fmul c1 K02),
   CF32.fadd (CF32.fmul c0 K06) (CF32.fmul c1 K04),
   CF32.fadd (CF32.fmul c0 K04) (CF32.fmul c1 K06),
   CF32.fadd (CF32.fmul c0 K02) (CF32.fmul c1 K08),
   0, CF32.one]

/-- `x.abs()` -/
def fabsBits (x : Nat) : Nat := x % CF32.signBit

/-- `Inter4Palette::closest(pixel)`: start with index 7 / 6 (`pixel >= 0.5`: error `1.0 - pixel` / `pixel`), then the
strict-`<` scan over `colors[0..6]`; (`index`, `colors[index]`, `min_error`) -/
def inter4Closest (colors : List Nat) (pixel : Nat) : Nat × Nat × Nat :=
  let start : Nat × Nat :=
    if !CF32.flt pixel CF32.half && !CF32.isNaN pixel then (7, CF32.fsub CF32.one pixel) else (6, pixel)
  let r := (List.range 6).foldl (fun (best : Nat × Nat) i =>
      let e := fabsBits (CF32.fsub pixel (colors.getD i 0))
      if CF32.flt e best.2 then (i, e) else best) start
  (r.1, colors.getD r.1 0, r.2)

/-- `Palette::block_closest(block).0` for the palette an endpoint record is decoded with: six interpolants iff
`six`; `pixels` = the sixteen `f32` values of `Block::from_raw` in block order -/
def blockClosest4 (six : Bool) (e : EndPoints4) (pixels : List Nat) : Option Nat :=
  if six then
    let p := Inter6Palette.new e.c0f e.c1f
    idxFill 3 U64 fun i => some (p.closest (pixels.getD i 0)).1
  else
    let colors := inter4Colors e.c0f e.c1f
    idxFill 3 U64 fun i => some (inter4Closest colors (pixels.getD i 0)).1

/-- the interpolation mode the DECODER applies to a pair of endpoint bytes (`c0 > c1`; SNORM: as `i8`) -/
def sixOfBytes (snorm : Bool) (c0 c1 : Nat) : Bool := if snorm then decide (asI8 c0 > asI8 c1) else decide (c0 > c1)

/-- a BC4-type block as `compress_inter6_impl` / `compress_inter4` / `reference_brute_force` finish it without
dithering: endpoint bytes as given (the float search's result), the palette of the mode their order selects, indexes by
`block_closest` -/
def emitBc4 (snorm : Bool) (c0 c1 : Nat) (pixels : List Nat) : Option (List Nat) :=
  (blockClosest4 (sixOfBytes snorm c0 c1) (endpointsOfBytes snorm c0 c1) pixels).map (withIndexes4 c0 c1)

/-! ### `single_color` (binary32; no dithering) -/

/-- `BC4_EPSILON = 1. / 65536.` -/
def BC4_EPSILON : Nat := 0x37800000

/-- `(k · v + 0.5) as u8` -/
def roundK (k v : Nat) : Nat := CF32.toNatSat (CF32.fadd (CF32.fmul (CF32.ofNat k) v) CF32.half) 255
/-- `(k · v) as u8` -/
def floorK (k v : Nat) : Nat := CF32.toNatSat (CF32.fmul (CF32.ofNat k) v) 255

/-- the four integers `new_inter6(e0, e1, snorm)` derives from its arguments: `k = 254` (SNORM, after
`clamp(0.0, 1.0)`) or `255`; (`minR`, `maxR`, `minF`, `maxC`) -/
def inter6Ints (snorm : Bool) (e0 e1 : Nat) : Nat × Nat × Nat × Nat :=
  let mn := CF32.fmin e0 e1
  let mx := if CF32.flt e0 e1 then e1 else e0
  let k := if snorm then 254 else 255
  let mn := if snorm then CF32.fclamp mn 0 CF32.one else mn
  let mx := if snorm then CF32.fclamp mx 0 CF32.one else mx
  (roundK k mn, roundK k mx, floorK k mn, k - floorK k (CF32.fsub CF32.one mx))

/-- `single_color(value, options)` with `options.dither = false`: the `closest` shortcut, else the better of the inter4 /
inter6 palettes of `new_inter6(value, value)` with `new_all(closest index)` -/
def singleColor (snorm : Bool) (value : Nat) : Option (List Nat) :=
  let closest := newClosest snorm (roundK (if snorm then 254 else 255) value)
  if CF32.flt (fabsBits (CF32.fsub closest.c0f value)) BC4_EPSILON then
    (newAll 0).map (withIndexes4 closest.c0 closest.c1)
  else
    let q := inter6Ints snorm value value
    let e6 := newInter6 snorm q.1 q.2.1 q.2.2.1 q.2.2.2
    let p6 := Inter6Palette.new e6.c0f e6.c1f
    let e4 := inter6ToInter4 e6
    let r4 := inter4Closest (inter4Colors e4.c0f e4.c1f) value
    let r6 := p6.closest value
    if CF32.flt r4.2.2 r6.2.2 then (newAll r4.1).map (withIndexes4 e4.c0 e4.c1)
    else (newAll r6.1).map (withIndexes4 e6.c0 e6.c1)

/-- the value `compress_bc4_block` hands to `single_color` for sixteen equal pixels `v`: `Block::from_raw` clamps,
`(min + max) * 0.5` -/
def singleValue (v : Nat) : Nat :=
  let c := CF32.fclamp v 0 CF32.one
  CF32.fmul (CF32.fadd c c) CF32.half

/-! ## bc.rs: wiring and options -/

/-- `concat_blocks(left, right)` -/
def concatBlocks (left right : List Nat) : List Nat := left ++ right

inductive Dithering | none | color | alpha | colorAndAlpha
  deriving DecidableEq, Repr
def Dithering.hasColor (d : Dithering) : Bool := d = .color ∨ d = .colorAndAlpha
def Dithering.hasAlpha (d : Dithering) : Bool := d = .alpha ∨ d = .colorAndAlpha

/-- `enum Quantization` (bcn_util.rs), as far as `get_bc1_options` selects it -/
inductive Quantization | channelWise | channelWiseOptimized
  deriving DecidableEq, Repr

/-- `struct Bc1Options` -/
structure Bc1Options where
  dither : Bool
  noP3Default : Bool
  perceptual : Bool
  opaqueAlwaysP4 : Bool
  fitOptimal : Bool
  refine : Bool
  refineMaxIter : Nat
  refineLineMaxIter : Nat
  quantization : Quantization
  deriving DecidableEq, Repr

def qRank : Quality → Nat
  | .fast => 0 | .normal => 1 | .high => 2 | .unreasonable => 3

/-- `get_bc1_options(options)` (the rest from `Bc1Options::default()`) -/
def getBc1Options (q : Quality) (d : Dithering) (perceptual : Bool) : Bc1Options :=
  { dither := d.hasColor
    noP3Default := false
    perceptual := perceptual
    opaqueAlwaysP4 := decide (qRank q ≤ 1)
    fitOptimal := decide (qRank q ≥ 1)
    refine := decide (qRank q ≥ 1)
    refineMaxIter := match q with | .fast => 0 | .normal => 0 | .high => 4 | .unreasonable => 10
    refineLineMaxIter := 3
    quantization := if q = .fast then .channelWiseOptimized else .channelWise }

inductive Bc4Quantization | round | mediumQuality | highQuality
  deriving DecidableEq, Repr

/-- `struct Bc4Options` -/
structure Bc4Options where
  dither : Bool
  snorm : Bool
  bruteForce : Bool
  useInter4 : Bool
  useInter4Heuristic : Bool
  quantization : Bc4Quantization
  fastIter : Bool
  maxRefineIter : Nat
  sizeVariations : Bool
  deriving DecidableEq, Repr

/-- `get_bc4_options(options)` -/
def getBc4Options (q : Quality) (d : Dithering) : Bc4Options :=
  { dither := d.hasColor
    snorm := false
    bruteForce := decide (q = .unreasonable)
    useInter4 := decide (qRank q > 0)
    useInter4Heuristic := decide (qRank q < 2)
    quantization := match q with | .fast => .round | .normal => .mediumQuality | _ => .highQuality
    fastIter := decide (qRank q ≤ 1)
    maxRefineIter := match q with | .fast => 0 | .normal => 2 | _ => 10
    sizeVariations := decide (qRank q ≥ 2) }

/-- `get_bc3_options(options)`: `no_p3_default = true`, `snorm = false` -/
def getBc3Options (q : Quality) (d : Dithering) (perceptual : Bool) : Bc1Options × Bc4Options :=
  ({ getBc1Options q d perceptual with noP3Default := true }, { getBc4Options q d with snorm := false })

/-- the options each format's closure hands to `compress_bc1_block` / `compress_bc4_block` (`BC1_UNORM` …
`BC5_SNORM` in bc.rs): BC3 / BC3 premultiplied set `bc4_options.dither = options.dithering.alpha()`; RXGB / BC3n keep
the colour flag; BC4 / BC5 set `snorm` -/
def fmtBc1Options (f : Fmt) (q : Quality) (d : Dithering) (perceptual : Bool) : Option Bc1Options :=
  match f with
  | .bc1 => some (getBc1Options q d perceptual)
  | .bc2 | .bc2p | .bc3 | .bc3p | .rxgb | .bc3n => some (getBc3Options q d perceptual).1
  | _ => none

def fmtBc4Options (f : Fmt) (q : Quality) (d : Dithering) (perceptual : Bool) : Option Bc4Options :=
  match f with
  | .bc3 | .bc3p => some { (getBc3Options q d perceptual).2 with dither := d.hasAlpha }
  | .rxgb | .bc3n => some (getBc3Options q d perceptual).2
  | .bc4u | .bc5u => some { getBc4Options q d with snorm := false }
  | .bc4s | .bc5s => some { getBc4Options q d with snorm := true }
  | _ => none

/-- `compress_bc4_block`: the reference path runs first iff `brute_force && !dither && !snorm` -/
def usesBruteForce (o : Bc4Options) : Bool := o.bruteForce && !o.dither && !o.snorm

/-- which input channel feeds the BC4-type half at byte offset `o` of a block of format `f` (bc.rs closures:
`get_alpha`, `get_4x4_select_channel::<0/1>`, `get_4x4_grayscale` = red) -/
def bc4Channel (f : Fmt) (o : Nat) : Option Nat :=
  match f, o with
  | .bc3, 0 | .bc3p, 0 => some 3
  | .rxgb, 0 | .bc3n, 0 | .bc4u, 0 | .bc4s, 0 | .bc5u, 0 | .bc5s, 0 => some 0
  | .bc5u, 8 | .bc5s, 8 => some 1
  | _, _ => none

/-- byte offset of the 5:6:5 colour block (`concat_blocks(alpha_or_bc4_block, bc1_block)`) -/
def colourOffset (f : Fmt) : Option Nat :=
  match f with
  | .bc1 => some 0
  | .bc2 | .bc2p | .bc3 | .bc3p | .rxgb | .bc3n => some 8
  | _ => none

/-- the RGB the colour half is compressed from, for an RGBA8 pixel: BC1 / BC2 / BC3 as is; premultiplied:
`pre_multiply_alpha` (`clamp_0_1` of all four, `r * a`); RXGB: `pixel[0] = 1.0`; BC3n: `(1.0, g, 0.0)`; then
`compress_bc1_block` clamps again -/
def colourInput (f : Fmt) (p : Px) : List Nat :=
  let c (v : Nat) : Nat := Conv.n8f32 v
  let cl (x : Nat) : Nat := CF32.fclamp x 0 CF32.one
  let raw : List Nat :=
    match f with
    | .bc2p | .bc3p => [CF32.fmul (cl (c p.r)) (cl (c p.a)), CF32.fmul (cl (c p.g)) (cl (c p.a)), CF32.fmul (cl (c p.b)) (cl (c p.a))]
    | .rxgb => [CF32.one, c p.g, c p.b]
    | .bc3n => [CF32.one, c p.g, 0]
    | _ => [c p.r, c p.g, c p.b]
  raw.map cl

/-! ## specification predicates of the theorems (no Rust counterpart) -/

/-- the index `block_closest` / `block_dither` store for pixel `p` -/
def indexAt (alphaMap : Nat) (sel : Nat → Nat) (p : Nat) : Nat := if isOpaque alphaMap p then sel p else 3

/-- what index `k` of the palette the encoder built over the ORDERED 5:6:5 pair `e` in mode `mode` stands for, as the
8-bit RGB the format specification assigns to it: the exact rational entry (`c0`, `c1`, `(2·c0 + c1)/3`, `(c0 + 2·c1)/3`
in P4; `c0`, `c1`, `(c0 + c1)/2`, black in P3) per channel over `e/31`, `e/63`, nearest 8-bit value (`BcSpec.chan8`) -/
def intendedRgb (mode : PaletteMode) (e : C565 × C565) (k : Nat) : List Nat :=
  let four := decide (mode = .p4)
  [BcSpec.chan8 four k e.1.r e.2.r 31, BcSpec.chan8 four k e.1.g e.2.g 63, BcSpec.chan8 four k e.1.b e.2.b 31]

/-- the alpha of entry `k`: 0 only for the transparent entry (index 3 of P3) -/
def intendedA (mode : PaletteMode) (k : Nat) : Nat := if mode = .p3 ∧ k = 3 then 0 else 255

/-- RGBA of entry `k` (BC1) -/
def intendedColour (mode : PaletteMode) (e : C565 × C565) (k : Nat) : List Nat := intendedRgb mode e k ++ [intendedA mode k]

/-- the weights `(w0, w1)` of palette entry `k`: the entry is `(w0·c0 + w1·c1)/(w0 + w1)` (entry 3 of P3 is the filler
`c0` of `Palette::new_p3`, never selected) -/
def paletteWeights (mode : PaletteMode) (k : Nat) : Nat × Nat :=
  match mode, k with
  | _, 0 => (1, 0)
  | _, 1 => (0, 1)
  | .p4, 2 => (2, 1)
  | .p4, _ => (1, 2)
  | .p3, 2 => (1, 1)
  | .p3, _ => (1, 0)

/-- the value in [0, 1] index `k` of a BC4-type palette stands for: endpoints `e0/m`, `e1/m` (`m = 255`: the bytes;
`m = 254`: the SNORM levels `0..254` shown as `(v + 1)/2`), `six` = the eight-value palette -/
def intended4 (six : Bool) (e0 e1 m k : Nat) : Rat := BcSpec.bc4Entry six k e0 e1 m

/-- the SNORM level `0..254` of an endpoint byte (`-128` and `-127` are both level 0) -/
def levelOfByte (snorm : Bool) (c : Nat) : Nat := if snorm then BcSpec.snormU c else c

/-- the exact value of a binary32 pattern `v` that is finite, non-negative and has a negative exponent (every palette
value: `0 ≤ v < 2^24 ulp`), as a fraction of integers: `mant · 2^expo = mant / 2^(−expo)`
(`Proofs/EncBc15Palette.f32Frac_spec`: this is `CF32.toRat v`) -/
def f32Frac (v : Nat) : Nat × Nat := (CF32.mant v, 2 ^ (-(CF32.expo v)).toNat)

/-- the side condition of `f32Frac` -/
def f32Small (v : Nat) : Bool := decide (v < CF32.posInf) && decide (CF32.expo v < 0)

/-- `⌊255·v + 1/2⌋`: the nearest 8-bit UNORM value of the f32 `v` (an exact tie goes up, as in `BcSpec.rnd`) -/
def f32Nearest8 (v : Nat) : Nat := (510 * (f32Frac v).1 + (f32Frac v).2) / (2 * (f32Frac v).2)

/-- `|v − n/d| ≤ 2^-22` (four units in the last place of 1.0) -/
def f32Within22 (v n d : Nat) : Bool :=
  decide (absDiff ((f32Frac v).1 * d) (n * (f32Frac v).2) * 4194304 ≤ d * (f32Frac v).2)

end Dds.Enc15
