/-
Model of src/header.rs: `RawHeader::{read,write}`, `Header::{read,write,from_raw,to_raw,
fix_based_on_file_len}`, `Dx9PixelFormat::from_raw`, the builder methods of `Header`.

A header image is a list of `u32` words (little endian on disk; the byte <-> word step is
`leWords`/`leBytes` below).  All header fields are `Nat`s; "in range" (`< U32`) is an
explicit hypothesis of the theorems.  Bit flags: a single-bit `contains` is
`bitSet x m := x / m % 2 = 1` (m a power of two, same convention as Layout.lean), `|` is `|||`.

The functions that need `PixelInfo::from_header` (`to_raw` for pitch/linear size,
`fix_based_on_file_len`) take it as a parameter `pi : Header → Option PixelInfo`; the
tables that instantiate it are in HeaderTables.lean.  Every theorem that does not mention the
tables therefore holds for *any* pixel-info detection.
-/
import DdsModel.Layout
import DdsModel.SrcTables
namespace Dds

/-! ### constants (src/header.rs bitflags, FourCC) -/

def MAGIC_WORD : Nat := 0x20534444          -- b"DDS " little endian
def RAW_HEADER_SIZE : Nat := 124
def RAW_PF_SIZE : Nat := 32

def DDSD_CAPS : Nat := 0x1
def DDSD_HEIGHT : Nat := 0x2
def DDSD_WIDTH : Nat := 0x4
def DDSD_PITCH : Nat := 0x8
def DDSD_PIXELFORMAT : Nat := 0x1000
def DDSD_MIPMAPCOUNT : Nat := 0x20000
def DDSD_LINEARSIZE : Nat := 0x80000
def DDSD_DEPTH : Nat := 0x800000
def DDSD_REQUIRED : Nat := 0x1007

def CAPS_COMPLEX : Nat := 0x8
def CAPS_MIPMAP : Nat := 0x400000
def CAPS_TEXTURE : Nat := 0x1000

def CAPS2_ALL_FACES : Nat := 0xFC00

def PF_ALPHAPIXELS : Nat := 0x1
def PF_ALPHA : Nat := 0x2
def PF_FOURCC : Nat := 0x4
def PF_RGB : Nat := 0x40
def PF_LUMINANCE : Nat := 0x20000
def PF_BUMP_DUDV : Nat := 0x80000

def MISC_TEXTURE_CUBE : Nat := 0x4

def FOURCC_NONE : Nat := 0
def FOURCC_DX10 : Nat := 0x30315844   -- "DX10"
def FOURCC_DXT1 : Nat := 0x31545844
def FOURCC_DXT2 : Nat := 0x32545844
def FOURCC_DXT3 : Nat := 0x33545844
def FOURCC_DXT4 : Nat := 0x34545844
def FOURCC_DXT5 : Nat := 0x35545844
def FOURCC_RXGB : Nat := 0x42475852
def FOURCC_ATI1 : Nat := 0x31495441
def FOURCC_BC4U : Nat := 0x55344342
def FOURCC_BC4S : Nat := 0x53344342
def FOURCC_ATI2 : Nat := 0x32495441
def FOURCC_BC5U : Nat := 0x55354342
def FOURCC_BC5S : Nat := 0x53354342
def FOURCC_RGBG : Nat := 0x47424752
def FOURCC_GRGB : Nat := 0x42475247
def FOURCC_YUY2 : Nat := 0x32595559
def FOURCC_UYVY : Nat := 0x59565955

/-- `flags.contains(F)` for a single-bit flag `F = m` (a power of two) -/
def bitSet (x m : Nat) : Bool := x / m % 2 == 1

/-! ### Raw header -/

/-- `RawPixelFormat` -/
structure RawPixelFormat where
  size : Nat
  flags : Nat
  fourCC : Nat
  rgbBitCount : Nat
  rMask : Nat
  gMask : Nat
  bMask : Nat
  aMask : Nat
deriving DecidableEq, Repr, Inhabited

/-- `RawDx10Header` -/
structure RawDx10 where
  dxgiFormat : Nat
  resourceDimension : Nat
  miscFlag : Nat
  arraySize : Nat
  miscFlags2 : Nat
deriving DecidableEq, Repr, Inhabited

/-- `reserved1: [u32; 11]` -/
structure Res11 where
  r0 : Nat
  r1 : Nat
  r2 : Nat
  r3 : Nat
  r4 : Nat
  r5 : Nat
  r6 : Nat
  r7 : Nat
  r8 : Nat
  r9 : Nat
  r10 : Nat
deriving DecidableEq, Repr, Inhabited

def Res11.zero : Res11 := ⟨0, 0, 0, 0, 0, 0, 0, 0, 0, 0, 0⟩

/-- `RawHeader` -/
structure RawHeader where
  size : Nat
  flags : Nat
  height : Nat
  width : Nat
  pitchOrLinearSize : Nat
  depth : Nat
  mipmapCount : Nat
  reserved1 : Res11
  pixelFormat : RawPixelFormat
  caps : Nat
  caps2 : Nat
  caps3 : Nat
  caps4 : Nat
  reserved2 : Nat
  dx10 : Option RawDx10
deriving DecidableEq, Repr, Inhabited

/-- the condition under which `RawHeader::read` reads the 20-byte extension -/
def RawPixelFormat.saysDx10 (pf : RawPixelFormat) : Bool :=
  bitSet pf.flags PF_FOURCC && pf.fourCC == FOURCC_DX10

/-- the `dx10` member is present exactly when the pixel format announces it -/
def RawHeader.Consistent (r : RawHeader) : Prop := r.dx10.isSome = r.pixelFormat.saysDx10

instance (r : RawHeader) : Decidable r.Consistent := by unfold RawHeader.Consistent; exact inferInstance

/-- `RawHeader::read` on a word stream: the result and the unread rest; `none` = the reader
ran dry (`io::ErrorKind::UnexpectedEof` from `read_exact`). -/
def RawHeader.read (ws : List Nat) : Option (RawHeader × List Nat) :=
  match ws with
  | w0 :: w1 :: w2 :: w3 :: w4 :: w5 :: w6 :: w7 :: w8 :: w9 :: w10 :: w11 :: w12 :: w13 :: w14 ::
    w15 :: w16 :: w17 :: w18 :: w19 :: w20 :: w21 :: w22 :: w23 :: w24 :: w25 :: w26 :: w27 ::
    w28 :: w29 :: w30 :: rest =>
    let pf : RawPixelFormat := ⟨w18, w19, w20, w21, w22, w23, w24, w25⟩
    let hdr : RawHeader :=
      { size := w0, flags := w1, height := w2, width := w3, pitchOrLinearSize := w4, depth := w5,
        mipmapCount := w6, reserved1 := ⟨w7, w8, w9, w10, w11, w12, w13, w14, w15, w16, w17⟩,
        pixelFormat := pf, caps := w26, caps2 := w27, caps3 := w28, caps4 := w29,
        reserved2 := w30, dx10 := none }
    if pf.saysDx10 then
      match rest with
      | d0 :: d1 :: d2 :: d3 :: d4 :: rest' =>
        some ({ hdr with dx10 := some ⟨d0, d1, d2, d3, d4⟩ }, rest')
      | _ => none
    else some (hdr, rest)
  | _ => none

/-- `RawHeader::write`: 31 words, or 36 when `dx10` is present -/
def RawHeader.write (r : RawHeader) : List Nat :=
  [r.size, r.flags, r.height, r.width, r.pitchOrLinearSize, r.depth, r.mipmapCount,
   r.reserved1.r0, r.reserved1.r1, r.reserved1.r2, r.reserved1.r3, r.reserved1.r4,
   r.reserved1.r5, r.reserved1.r6, r.reserved1.r7, r.reserved1.r8, r.reserved1.r9,
   r.reserved1.r10,
   r.pixelFormat.size, r.pixelFormat.flags, r.pixelFormat.fourCC, r.pixelFormat.rgbBitCount,
   r.pixelFormat.rMask, r.pixelFormat.gMask, r.pixelFormat.bMask, r.pixelFormat.aMask,
   r.caps, r.caps2, r.caps3, r.caps4, r.reserved2] ++
  (match r.dx10 with
   | some d => [d.dxgiFormat, d.resourceDimension, d.miscFlag, d.arraySize, d.miscFlags2]
   | none => [])

/-- all 31/36 words are `u32` -/
def RawHeader.InRange (r : RawHeader) : Prop := ∀ w ∈ r.write, w < U32

/-! ### little-endian bytes <-> words (`util::read_u32_le_array`, `cast::slice_ne_to_le_32`) -/

def leBytes : List Nat → List Nat
  | [] => []
  | w :: ws => w % 256 :: w / 256 % 256 :: w / 65536 % 256 :: w / 16777216 % 256 :: leBytes ws

/-- whole words only; trailing 1..3 bytes are dropped (`read_exact` of the whole buffer would
already have failed) -/
def leWords : List Nat → List Nat
  | b0 :: b1 :: b2 :: b3 :: bs => (b0 + 256 * b1 + 65536 * b2 + 16777216 * b3) :: leWords bs
  | _ => []

/-! ### Parsed header -/

inductive RgbBitCount where
  | c8 | c16 | c24 | c32
deriving DecidableEq, Repr, Inhabited

def RgbBitCount.toU32 : RgbBitCount → Nat
  | .c8 => 8 | .c16 => 16 | .c24 => 24 | .c32 => 32

/-- `RgbBitCount::try_from(u32)` -/
def RgbBitCount.ofU32 (n : Nat) : Option RgbBitCount :=
  if n = 8 then some .c8 else if n = 16 then some .c16 else if n = 24 then some .c24
  else if n = 32 then some .c32 else none

inductive AlphaMode where
  | unknown | straight | premultiplied | opaque | custom
deriving DecidableEq, Repr, Inhabited

def AlphaMode.toU32 : AlphaMode → Nat
  | .unknown => 0 | .straight => 1 | .premultiplied => 2 | .opaque => 3 | .custom => 4

/-- `AlphaMode::try_from(u32)` -/
def AlphaMode.ofU32 (n : Nat) : Option AlphaMode :=
  if n = 0 then some .unknown else if n = 1 then some .straight
  else if n = 2 then some .premultiplied else if n = 3 then some .opaque
  else if n = 4 then some .custom else none

def ResDim.toU32 : ResDim → Nat
  | .tex1D => 2 | .tex2D => 3 | .tex3D => 4

/-- `ResourceDimension::try_from(u32)` -/
def ResDim.ofU32 (n : Nat) : Option ResDim :=
  if n = 2 then some .tex1D else if n = 3 then some .tex2D else if n = 4 then some .tex3D
  else none

def inR (v lo hi : Nat) : Bool := lo ≤ v && v ≤ hi
/-- `DxgiFormat::try_from(u32)`: the accepted codes. The runs of accepted codes are TRANSLATED from the match arms of
the source on every run (`SrcTables.dxgiValidRanges`, tools/extract_tables.py), not pinned. -/
def dxgiValid (v : Nat) : Bool := SrcTables.dxgiValidRanges.any fun r => inR v r.1 r.2

structure MaskPixelFormat where
  flags : Nat
  rgbBitCount : RgbBitCount
  rMask : Nat
  gMask : Nat
  bMask : Nat
  aMask : Nat
deriving DecidableEq, Repr, Inhabited

inductive Dx9PixelFormat where
  | fourCC (c : Nat)
  | mask (m : MaskPixelFormat)
deriving DecidableEq, Repr, Inhabited

structure Dx9Header where
  height : Nat
  width : Nat
  depth : Option Nat
  /-- `NonZeroU32` -/
  mipmapCount : Nat
  caps2 : Nat
  pixelFormat : Dx9PixelFormat
deriving DecidableEq, Repr, Inhabited

structure Dx10Header where
  height : Nat
  width : Nat
  depth : Option Nat
  /-- `NonZeroU32` -/
  mipmapCount : Nat
  /-- `DxgiFormat(u8)`; only codes with `dxgiValid` can be constructed -/
  dxgiFormat : Nat
  resourceDimension : ResDim
  miscFlag : Nat
  arraySize : Nat
  alphaMode : AlphaMode
deriving DecidableEq, Repr, Inhabited

inductive Header where
  | dx9 (h : Dx9Header)
  | dx10 (h : Dx10Header)
deriving DecidableEq, Repr, Inhabited

def Header.width : Header → Nat
  | .dx9 h => h.width | .dx10 h => h.width
def Header.height : Header → Nat
  | .dx9 h => h.height | .dx10 h => h.height
def Header.depth : Header → Option Nat
  | .dx9 h => h.depth | .dx10 h => h.depth
def Header.mipmapCount : Header → Nat
  | .dx9 h => h.mipmapCount | .dx10 h => h.mipmapCount
/-- `Header::array_size` -/
def Header.arraySize : Header → Nat
  | .dx9 _ => 1 | .dx10 h => h.arraySize
/-- `Header::byte_len` -/
def Header.byteLen : Header → Nat
  | .dx9 _ => 124 | .dx10 _ => 144

/-- the part of the header `DataLayout::from_header_with` looks at -/
def Header.toLayoutHeader : Header → LayoutHeader
  | .dx9 h => { width := h.width, height := h.height, depth := h.depth,
                mipmapCount := h.mipmapCount, kind := .dx9 h.caps2 }
  | .dx10 h => { width := h.width, height := h.height, depth := h.depth,
                 mipmapCount := h.mipmapCount,
                 kind := .dx10 (bitSet h.miscFlag MISC_TEXTURE_CUBE) h.resourceDimension h.arraySize }

/-- The invariant of headers that survive serialisation. -/
def Dx9PixelFormat.WF : Dx9PixelFormat → Prop
  | .fourCC c => c < U32 ∧ c ≠ FOURCC_DX10
  | .mask m => m.flags < U32 ∧ bitSet m.flags PF_FOURCC = false ∧ m.rMask < U32 ∧ m.gMask < U32 ∧
      m.bMask < U32 ∧ m.aMask < U32

def optLt (d : Option Nat) (b : Nat) : Prop :=
  match d with
  | none => True
  | some x => x < b

instance (d : Option Nat) (b : Nat) : Decidable (optLt d b) := by
  cases d <;> unfold optLt <;> exact inferInstance

def Header.WF : Header → Prop
  | .dx9 h => h.width < U32 ∧ h.height < U32 ∧ optLt h.depth U32 ∧ 1 ≤ h.mipmapCount ∧
      h.mipmapCount < U32 ∧ h.caps2 < U32 ∧ h.pixelFormat.WF
  | .dx10 h => h.width < U32 ∧ h.height < U32 ∧ optLt h.depth U32 ∧ 1 ≤ h.mipmapCount ∧
      h.mipmapCount < U32 ∧ dxgiValid h.dxgiFormat = true ∧ h.miscFlag < U32 ∧ h.arraySize < U32 ∧
      (h.resourceDimension = .tex3D → h.arraySize = 1)

instance (p : Dx9PixelFormat) : Decidable p.WF := by
  cases p <;> unfold Dx9PixelFormat.WF <;> exact inferInstance
instance (h : Header) : Decidable h.WF := by
  cases h <;> unfold Header.WF <;> exact inferInstance

/-! ### Parsing -/

inductive HeaderErr where
  | invalidMagicBytes (w : Nat)
  | invalidHeaderSize (n : Nat)
  | invalidPixelFormatSize (n : Nat)
  | invalidRgbBitCount (n : Nat)
  | invalidDxgiFormat (n : Nat)
  | invalidResourceDimension (n : Nat)
  | invalidAlphaMode (n : Nat)
  | invalidArraySizeForTexture3D (n : Nat)
  | io
deriving DecidableEq, Repr, Inhabited

structure ParseOptions where
  skipMagicBytes : Bool := false
  permissive : Bool := false
  fileLen : Option Nat := none
deriving DecidableEq, Repr, Inhabited

def ParseOptions.strict : ParseOptions := {}
/-- `ParseOptions::new_permissive` -/
def ParseOptions.newPermissive (fileLen : Option Nat) : ParseOptions :=
  { permissive := true, fileLen }

/-- `Dx9PixelFormat::from_raw` -/
def Dx9PixelFormat.fromRaw (perm : Bool) (pf : RawPixelFormat) : Except HeaderErr Dx9PixelFormat :=
  if pf.size ≠ RAW_PF_SIZE ∧ ¬ (perm = true ∧ (pf.size = 0 ∨ pf.size = 24)) then
    .error (.invalidPixelFormatSize pf.size)
  else
    let flags :=
      if perm = true ∧ pf.rgbBitCount = 0 ∧ pf.fourCC ≠ FOURCC_NONE ∧ pf.fourCC ≠ FOURCC_DX10 ∧
          bitSet pf.flags PF_FOURCC = false
      then pf.flags ||| PF_FOURCC else pf.flags
    if bitSet flags PF_FOURCC then .ok (.fourCC pf.fourCC)
    else
      match RgbBitCount.ofU32 pf.rgbBitCount with
      | none => .error (.invalidRgbBitCount pf.rgbBitCount)
      | some bc => .ok (.mask { flags, rgbBitCount := bc, rMask := pf.rMask, gMask := pf.gMask,
                                 bMask := pf.bMask, aMask := pf.aMask })

/-- alpha mode of `Header::from_raw`: invalid values fall back to `Unknown` only when permissive -/
def parseAlphaMode (perm : Bool) (raw : Nat) : Option AlphaMode :=
  match AlphaMode.ofU32 raw with
  | some a => some a
  | none => if perm then some AlphaMode.unknown else none

/-- the DX10 part of `Header::from_raw` -/
def Dx10Header.fromRaw (perm : Bool) (height width : Nat) (depth : Option Nat) (mipmapCount : Nat)
    (d : RawDx10) : Except HeaderErr Dx10Header :=
  if dxgiValid d.dxgiFormat = false then .error (.invalidDxgiFormat d.dxgiFormat) else
  match ResDim.ofU32 d.resourceDimension with
  | none => .error (.invalidResourceDimension d.resourceDimension)
  | some dim =>
    let rawAlpha := d.miscFlags2 % 8
    match parseAlphaMode perm rawAlpha with
    | none => .error (.invalidAlphaMode rawAlpha)
    | some alpha =>
      if dim = .tex3D ∧ d.arraySize ≠ 1 ∧ perm = false then
        .error (.invalidArraySizeForTexture3D d.arraySize)
      else
        let arraySize := if dim = .tex3D ∧ d.arraySize ≠ 1 then 1 else d.arraySize
        .ok { height, width, depth, mipmapCount, dxgiFormat := d.dxgiFormat,
              resourceDimension := dim, miscFlag := d.miscFlag, arraySize, alphaMode := alpha }

/-- `depth` of `Header::from_raw` -/
def RawHeader.parsedDepth (raw : RawHeader) : Option Nat :=
  if bitSet raw.flags DDSD_DEPTH then some raw.depth else none

/-- `mipmap_count` of `Header::from_raw` -/
def RawHeader.parsedMips (raw : RawHeader) : Nat :=
  let mip0 := if bitSet raw.flags DDSD_MIPMAPCOUNT || bitSet raw.caps CAPS_COMPLEX ||
      bitSet raw.caps CAPS_MIPMAP then raw.mipmapCount else 1
  if mip0 = 0 then 1 else mip0

/-- `Header::from_raw` up to (not including) `fix_based_on_file_len` -/
def Header.fromRawNoFix (perm : Bool) (raw : RawHeader) : Except HeaderErr Header :=
  if raw.size ≠ RAW_HEADER_SIZE ∧ ¬ (perm = true ∧ raw.size = 24) then
    .error (.invalidHeaderSize raw.size)
  else
    match Dx9PixelFormat.fromRaw perm raw.pixelFormat with
    | .error e => .error e
    | .ok pixelFormat =>
      match raw.dx10 with
      | some d =>
        match Dx10Header.fromRaw perm raw.height raw.width raw.parsedDepth raw.parsedMips d with
        | .error e => .error e
        | .ok x => .ok (.dx10 x)
      | none =>
        .ok (.dx9 { height := raw.height, width := raw.width, depth := raw.parsedDepth,
                    mipmapCount := raw.parsedMips, caps2 := raw.caps2, pixelFormat })

/-! ### `fix_based_on_file_len` -/

/-- bit length with fuel -/
def bitLen : Nat → Nat → Nat
  | 0, _ => 0
  | f + 1, n => if n = 0 then 0 else bitLen f (n / 2) + 1

/-- `util::get_maximum_mipmap_count`: `32 - leading_zeros`, at least 1 -/
def maxMipCount (size : Nat) : Nat := max 1 (bitLen 32 size)

/-- the private setter used through `Header::with_mipmap_count` (argument already non-zero) -/
def Header.setMipmapCount (h : Header) (m : Nat) : Header :=
  match h with
  | .dx9 x => .dx9 { x with mipmapCount := m }
  | .dx10 x => .dx10 { x with mipmapCount := m }

def Header.maxDim (h : Header) : Nat := max (max h.width h.height) (h.depth.getD 1)

/-- The layout length of a header for a given pixel info: `DataLayout::from_header_with(..)
.map(|l| l.data_len())`, `none` for a layout error.  (A panic inside would also give `none`;
`Proofs/HeaderLayout.lean: Header.layoutLen_no_panic` (= `C18.repair_no_panic`) shows there is
none for well-formed headers and pixel infos.) -/
def Header.layoutLen (px : PixelInfo) (h : Header) : Option Nat :=
  match layoutOf h.toLayoutHeader px with
  | some (.ok L) => L.dataLenP
  | _ => none

/-- the `test` closure of `fix_based_on_file_len` -/
def Header.testLen (px : PixelInfo) (expected : Nat) (h : Header) : Bool :=
  h.layoutLen px == some expected

/-- array_size 0 -> 1 (kept even when the test fails afterwards) -/
def Header.arrayZero? (expected : Nat) : Header → Option Header
  | .dx10 x => if expected > 0 ∧ x.arraySize = 0 then some (.dx10 { x with arraySize := 1 }) else none
  | .dx9 _ => none

/-- array_size 6 -> 1 candidate for a single 2D cube map -/
def Header.cubeSix? : Header → Option Header
  | .dx10 x =>
    if x.arraySize = 6 ∧ x.resourceDimension = .tex2D ∧ bitSet x.miscFlag MISC_TEXTURE_CUBE = true
    then some (.dx10 { x with arraySize := 1 }) else none
  | .dx9 _ => none

/-- `[1, max_levels, mipmap - 1, mipmap.saturating_add(1)]` filtered for zero -/
def Header.mipGuesses (h : Header) : List Nat :=
  [1, maxMipCount h.maxDim, h.mipmapCount - 1, satAdd32 h.mipmapCount 1].filter (· ≠ 0)

/-- the body of `fix_based_on_file_len` after the preparation; result: the header afterwards
and whether `Some(())` was returned -/
def Header.fixCore (test : Header → Bool) (expected : Nat) (h : Header) : Header × Bool :=
  if test h then (h, true) else
  let z := h.arrayZero? expected
  let h1 := z.getD h
  if z.isSome && test h1 then (h1, true) else
  match (match h1.cubeSix? with
         | some c => if test c then some c else none
         | none => none) with
  | some c => (c, true)
  | none =>
    match h1.mipGuesses.find? (fun g => test (h1.setMipmapCount g)) with
    | some g => (h1.setMipmapCount g, true)
    | none => (h1, false)

/-- `Header::fix_based_on_file_len` -/
def Header.fixBasedOnFileLen (pi : Header → Option PixelInfo) (fileLen : Option Nat) (h : Header) :
    Header × Bool :=
  match fileLen with
  | none => (h, false)
  | some fl =>
    match ckSub fl (4 + h.byteLen) with
    | none => (h, false)
    | some expected =>
      match pi h with
      | none => (h, false)
      | some px => h.fixCore (Header.testLen px expected) expected

/-- `Header::from_raw` -/
def Header.fromRaw (pi : Header → Option PixelInfo) (opts : ParseOptions) (raw : RawHeader) :
    Except HeaderErr Header :=
  match Header.fromRawNoFix opts.permissive raw with
  | .error e => .error e
  | .ok h => if opts.permissive then .ok (h.fixBasedOnFileLen pi opts.fileLen).1 else .ok h

/-- `Header::read` on a word stream; the unread rest (the data section) is returned too -/
def Header.read (pi : Header → Option PixelInfo) (opts : ParseOptions) (ws : List Nat) :
    Except HeaderErr (Header × List Nat) :=
  let afterMagic : Except HeaderErr (List Nat) :=
    if opts.skipMagicBytes then .ok ws else
    match ws with
    | [] => .error .io
    | m :: rest => if m = MAGIC_WORD then .ok rest else .error (.invalidMagicBytes m)
  match afterMagic with
  | .error e => .error e
  | .ok ws' =>
    match RawHeader.read ws' with
    | none => .error .io
    | some (raw, rest) =>
      match Header.fromRaw pi opts raw with
      | .error e => .error e
      | .ok h => .ok (h, rest)

/-! ### Writing -/

/-- pitch / linear size and the flag that goes with it (`Header::to_raw`) -/
def pitchOrLinear (px : Option PixelInfo) (w h : Nat) : Nat × Nat :=
  match px with
  | none => (0, 0)
  | some (.fixed bpp) =>
    match ckMul32 w bpp with
    | some p => (p, DDSD_PITCH)
    | none => (0, 0)
  | some p =>
    match p.surfaceBytes w h with
    | some s => if s < U32 then (s, DDSD_LINEARSIZE) else (0, 0)
    | none => (0, 0)

def RawPixelFormat.newFourCC (c : Nat) : RawPixelFormat :=
  { size := RAW_PF_SIZE, flags := PF_FOURCC, fourCC := c, rgbBitCount := 0, rMask := 0,
    gMask := 0, bMask := 0, aMask := 0 }

def RawPixelFormat.newMask (m : MaskPixelFormat) : RawPixelFormat :=
  { size := RAW_PF_SIZE, flags := m.flags, fourCC := FOURCC_NONE,
    rgbBitCount := m.rgbBitCount.toU32, rMask := m.rMask, gMask := m.gMask, bMask := m.bMask,
    aMask := m.aMask }

/-- `Header::to_raw` -/
def Header.toRaw (pi : Header → Option PixelInfo) (h : Header) : RawHeader :=
  let caps := if h.mipmapCount > 1 then CAPS_TEXTURE ||| (CAPS_MIPMAP ||| CAPS_COMPLEX) else CAPS_TEXTURE
  let flags0 := DDSD_REQUIRED ||| DDSD_MIPMAPCOUNT
  let flags1 := if h.depth.isSome then flags0 ||| DDSD_DEPTH else flags0
  let pl := pitchOrLinear (pi h) h.width h.height
  let flags := flags1 ||| pl.2
  let (caps2, pf, ext) : Nat × RawPixelFormat × Option RawDx10 :=
    match h with
    | .dx9 x =>
      (x.caps2,
       (match x.pixelFormat with
        | .fourCC c => RawPixelFormat.newFourCC c
        | .mask m => RawPixelFormat.newMask m),
       none)
    | .dx10 x =>
      let c0 := if x.resourceDimension = .tex3D then CAPS2_VOLUME else 0
      let c1 := if bitSet x.miscFlag MISC_TEXTURE_CUBE then c0 ||| (CAPS2_CUBE_MAP ||| CAPS2_ALL_FACES) else c0
      (c1, RawPixelFormat.newFourCC FOURCC_DX10,
       some { dxgiFormat := x.dxgiFormat, resourceDimension := x.resourceDimension.toU32,
              miscFlag := x.miscFlag, arraySize := x.arraySize, miscFlags2 := x.alphaMode.toU32 })
  { size := RAW_HEADER_SIZE, flags, height := h.height, width := h.width,
    pitchOrLinearSize := pl.1, depth := h.depth.getD 1, mipmapCount := h.mipmapCount,
    reserved1 := Res11.zero, pixelFormat := pf, caps, caps2, caps3 := 0, caps4 := 0,
    reserved2 := 0, dx10 := ext }

/-- `Header::write`: magic + raw header -/
def Header.write (pi : Header → Option PixelInfo) (h : Header) : List Nat :=
  MAGIC_WORD :: (h.toRaw pi).write

/-! ### Builder methods of `Header` -/

/-- `Header::with_size` -/
def Header.withSize (h : Header) (w ht : Nat) : Header :=
  match h with
  | .dx9 x => .dx9 { x with width := w, height := ht, depth := none }
  | .dx10 x => .dx10 { x with width := w, height := ht, depth := none }

/-- `Header::with_dimensions` -/
def Header.withDimensions (h : Header) (w ht : Nat) (d : Option Nat) : Header :=
  match h with
  | .dx9 x => .dx9 { x with width := w, height := ht, depth := d }
  | .dx10 x => .dx10 { x with width := w, height := ht, depth := d }

/-- `Header::with_mipmap_count`; `none` = the documented panic for 0 -/
def Header.withMipmapCount (h : Header) (m : Nat) : Option Header :=
  if m = 0 then none else some (h.setMipmapCount m)

/-- `Header::with_mipmaps` -/
def Header.withMipmaps (h : Header) : Option Header :=
  h.withMipmapCount (maxMipCount h.maxDim)

inductive BuilderOp where
  | withSize (w h : Nat)
  | withDimensions (w h : Nat) (d : Option Nat)
  | withMipmapCount (m : Nat)
  | withMipmaps
deriving DecidableEq, Repr, Inhabited

/-- arguments are `u32` -/
def BuilderOp.InRange : BuilderOp → Prop
  | .withSize w h => w < U32 ∧ h < U32
  | .withDimensions w h d => w < U32 ∧ h < U32 ∧ optLt d U32
  | .withMipmapCount m => m < U32
  | .withMipmaps => True

def Header.applyOp (h : Header) : BuilderOp → Option Header
  | .withSize w ht => some (h.withSize w ht)
  | .withDimensions w ht d => some (h.withDimensions w ht d)
  | .withMipmapCount m => h.withMipmapCount m
  | .withMipmaps => h.withMipmaps

/-- a builder chain; `none` = a panic along the way -/
def Header.applyOps (h : Header) : List BuilderOp → Option Header
  | [] => some h
  | op :: ops =>
    match h.applyOp op with
    | none => none
    | some h' => h'.applyOps ops


/-! ### Known writer defects (specification side of C18)

A defect is a modification of the raw header a correct writer would have produced.  They are the
ones `Header::from_raw` / `fix_based_on_file_len` name in their comments. -/

inductive Defect where
  /-- DX10 `array_size := a` (0 for one element; 6 for one cube; anything for a 3D texture) -/
  | arraySize (a : Nat)
  /-- `mipmap_count := m` (off by one, 0, 1 or a full chain although the file has a different number) -/
  | mipCount (m : Nat)
  /-- the MIPMAP_COUNT flag and the COMPLEX / MIPMAP caps are missing, so the count is ignored -/
  | dropMipFlags
  /-- header size 24 (Stalker 2) -/
  | headerSize24
  /-- pixel-format size 0 or 24 (Flat Out 2) -/
  | pfSize (n : Nat)
  /-- pixel format flags without `FOURCC` on a four-CC file (Unreal Tournament 2004) -/
  | pfFlags (f : Nat)
  /-- `misc_flags2 := v` with an alpha mode outside 0..4 -/
  | miscFlags2 (v : Nat)
deriving DecidableEq, Repr, Inhabited

/-- clear a single-bit flag -/
def clearBit (x m : Nat) : Nat := if bitSet x m then x - m else x

def Defect.apply (d : Defect) (r : RawHeader) : RawHeader :=
  match d with
  | .arraySize a => { r with dx10 := r.dx10.map fun e => { e with arraySize := a } }
  | .mipCount m => { r with mipmapCount := m }
  | .dropMipFlags => { r with flags := clearBit r.flags DDSD_MIPMAPCOUNT,
                              caps := clearBit (clearBit r.caps CAPS_COMPLEX) CAPS_MIPMAP }
  | .headerSize24 => { r with size := 24 }
  | .pfSize n => { r with pixelFormat := { r.pixelFormat with size := n } }
  | .pfFlags f => { r with pixelFormat := { r.pixelFormat with flags := f } }
  | .miscFlags2 v => { r with dx10 := r.dx10.map fun e => { e with miscFlags2 := v } }

def Defect.applyAll (ds : List Defect) (r : RawHeader) : RawHeader := ds.foldl (fun r d => d.apply r) r

/-- the mip count `from_raw` reads from a raw count -/
def parsedMips (m : Nat) : Nat := if m = 0 then 1 else m

/-- a four-CC pixel format whose code is not `FourCC::NONE` -/
def Dx9PixelFormat.isNamedFourCC : Dx9PixelFormat → Bool
  | .fourCC c => c != FOURCC_NONE
  | .mask _ => false

/-- When a defect counts as "the known defect" for the true header `h`. -/
def Defect.Applies (d : Defect) (h : Header) : Prop :=
  match d, h with
  | .arraySize a, .dx10 x =>
    a < U32 ∧ x.arraySize = 1 ∧
      (a = 0 ∨ (a = 6 ∧ x.resourceDimension = .tex2D ∧ bitSet x.miscFlag MISC_TEXTURE_CUBE = true) ∨
        x.resourceDimension = .tex3D)
  | .arraySize _, .dx9 _ => False
  | .mipCount m, h => m < U32 ∧ h.mipmapCount ∈ (h.setMipmapCount (parsedMips m)).mipGuesses
  | .dropMipFlags, h => h.mipmapCount ∈ (h.setMipmapCount 1).mipGuesses
  | .headerSize24, _ => True
  | .pfSize n, _ => n = 0 ∨ n = 24
  | .pfFlags f, .dx9 x =>
    f < U32 ∧ bitSet f PF_FOURCC = false ∧ x.pixelFormat.isNamedFourCC = true
  | .pfFlags _, .dx10 _ => False
  | .miscFlags2 v, .dx10 _ => v < U32 ∧ 5 ≤ v % 8
  | .miscFlags2 _, .dx9 _ => False

instance (d : Defect) (h : Header) : Decidable (d.Applies h) := by
  cases d <;> cases h <;> simp only [Defect.Applies] <;> exact inferInstance

end Dds
