/-
Model of src/iter.rs: `SurfaceIterator` = `TextureSurfaceIterator` | `VolumeSurfaceIterator`.

`u8`/`u32` counters use release (wrapping) arithmetic; `Proofs/Iter.lean` shows that under
the iterator invariant no operation wraps (`TexIter.Inv.advance_eq`, `rewind_eq`, `VolIter.Inv.advanceP_eq`,
`rewindP_eq`), so the overflow-checking profile does not trap.
Most results of type `Option _` whose `none` stands for a panic carry the suffix `P`.
-/
import DdsModel.Layout
namespace Dds

/-- `SurfaceInfo`: size, encoded length, mipmap level -/
structure SurfInfo where
  w : Nat
  h : Nat
  len : Nat
  level : Nat
deriving DecidableEq, Repr, Inhabited

structure TexIter where
  first : Texture
  len : Nat
  idx : Nat
  level : Nat
deriving DecidableEq, Repr, Inhabited

structure VolIter where
  volume : Volume
  level : Nat
  depth : Nat
deriving DecidableEq, Repr, Inhabited

/-- `TextureSurfaceIterator::current`; outer `none` = panic -/
def TexIter.currentP (it : TexIter) : Option (Option SurfInfo) :=
  if it.idx < it.len then
    match it.first.getP it.level with
    | none => none
    | some none => some none
    | some (some s) => some (some ⟨s.w, s.h, s.len, it.level⟩)
  else some none

/-- `TextureSurfaceIterator::advance` -/
def TexIter.advance (it : TexIter) : TexIter :=
  if it.idx < it.len then
    let next := (it.level + 1) % U8
    if next < it.first.mips then { it with level := next }
    else { it with idx := (it.idx + 1) % U32, level := 0 }
  else it

/-- `TextureSurfaceIterator::rewind` -/
def TexIter.rewind (it : TexIter) : TexIter :=
  if it.level > 0 then { it with level := it.level - 1 }
  else if it.idx > 0 then { it with idx := it.idx - 1, level := (it.first.mips + U8 - 1) % U8 }
  else it

def sumLens (l : List Surface) : Nat := l.foldl (fun acc s => wAdd acc s.len) 0

/-- `TextureSurfaceIterator::skip_mipmaps`: (new state, skipped bytes); `none` = panic -/
def TexIter.skipMipmapsP (it : TexIter) : Option (TexIter × Nat) :=
  if it.idx < it.len ∧ it.level ≠ 0 then
    match it.first.iterMipsP with
    | none => none
    | some l => some ({ it with idx := (it.idx + 1) % U32, level := 0 }, sumLens (l.drop it.level))
  else some (it, 0)

/-- the loop `for level in 0..current_level { bytes += first.get(level).unwrap().data_len() }` -/
def texElapsedLoop (t : Texture) : (n : Nat) → (level : Nat) → (acc : Nat) → Option Nat
  | 0, _, acc => some acc
  | n + 1, level, acc =>
    match t.getP level with
    | some (some s) => texElapsedLoop t n (level + 1) (wAdd acc s.len)
    | _ => none

/-- `TextureSurfaceIterator::elapsed_bytes` -/
def TexIter.elapsedP (it : TexIter) : Option Nat :=
  match it.first.dataLenP with
  | none => none
  | some l => texElapsedLoop it.first it.level 0 (wMul l it.idx)

/-- `VolumeSurfaceIterator::current` -/
def VolIter.currentP (it : VolIter) : Option (Option SurfInfo) :=
  match it.volume.getP it.level with
  | none => none
  | some none => some none
  | some (some v) =>
    match v.getDepthSlice it.depth with
    | none => some none
    | some s => some (some ⟨s.w, s.h, s.len, it.level⟩)

/-- `VolumeSurfaceIterator::advance` -/
def VolIter.advanceP (it : VolIter) : Option VolIter :=
  match it.volume.getP it.level with
  | none => none
  | some none => some it
  | some (some v) =>
    let next := (it.depth + 1) % U32
    if next < v.d then some { it with depth := next }
    else some { it with level := (it.level + 1) % U8, depth := 0 }

/-- `VolumeSurfaceIterator::rewind` -/
def VolIter.rewindP (it : VolIter) : Option VolIter :=
  if it.depth > 0 then some { it with depth := it.depth - 1 }
  else if it.level > 0 then
    match it.volume.getP (it.level - 1) with
    | some (some v) => some { it with level := it.level - 1, depth := (v.d + U32 - 1) % U32 }
    | _ => none
  else some it

def sumVolLens (l : List VolumeDesc) : Nat := l.foldl (fun acc v => wAdd acc v.dataLen) 0

/-- `VolumeSurfaceIterator::skip_mipmaps`: `some (Except.error ())` = `Err(())` -/
def VolIter.skipMipmapsP (it : VolIter) : Option (Except Unit (VolIter × Nat)) :=
  if it.depth ≠ 0 then some (.error ())
  else if it.level = 0 ∨ it.level ≥ it.volume.mips then some (.ok (it, 0))
  else
    match it.volume.iterMipsP with
    | none => none
    | some l => some (.ok ({ it with level := it.volume.mips }, sumVolLens (l.drop it.level)))

def volElapsedLoop (v : Volume) : (n : Nat) → (level : Nat) → (acc : Nat) → Option Nat
  | 0, _, acc => some acc
  | n + 1, level, acc =>
    match v.getP level with
    | some (some d) => volElapsedLoop v n (level + 1) (wAdd acc d.dataLen)
    | _ => none

/-- `VolumeSurfaceIterator::elapsed_bytes` -/
def VolIter.elapsedP (it : VolIter) : Option Nat :=
  match volElapsedLoop it.volume it.level 0 0 with
  | none => none
  | some bytes =>
    match it.volume.getP it.level with
    | none => none
    | some none => some bytes
    | some (some v) =>
      let sliceBytes := match v.getDepthSlice 0 with | some s => s.len | none => 0
      some (wAdd bytes (wMul sliceBytes it.depth))

inductive SurfIter where
  | tex (it : TexIter)
  | vol (it : VolIter)
deriving DecidableEq, Repr, Inhabited

/-- `SurfaceIterator::new` -/
def SurfIter.new : DataLayout → SurfIter
  | .texture t => .tex ⟨t, 1, 0, 0⟩
  | .volume v => .vol ⟨v, 0, 0⟩
  | .textureArray a => .tex ⟨a.first, a.arrayLen % U32, 0, 0⟩

def SurfIter.currentP : SurfIter → Option (Option SurfInfo)
  | .tex it => it.currentP
  | .vol it => it.currentP

def SurfIter.advanceP : SurfIter → Option SurfIter
  | .tex it => some (.tex it.advance)
  | .vol it => it.advanceP.map .vol

def SurfIter.rewindP : SurfIter → Option SurfIter
  | .tex it => some (.tex it.rewind)
  | .vol it => it.rewindP.map .vol

def SurfIter.skipMipmapsP : SurfIter → Option (Except Unit (SurfIter × Nat))
  | .tex it => it.skipMipmapsP.map fun (i, n) => .ok (.tex i, n)
  | .vol it => it.skipMipmapsP.map fun r => r.map fun (i, n) => (.vol i, n)

def SurfIter.elapsedP : SurfIter → Option Nat
  | .tex it => it.elapsedP
  | .vol it => it.elapsedP

end Dds
