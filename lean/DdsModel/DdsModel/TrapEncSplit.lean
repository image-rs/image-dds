/-
Trapping mirrors of the ENCODER loops, part 3: splitting a surface into fragments and the parallel encoder, and the
dispatch from C19's encoder table to the loop mirrors of parts 1 and 2.  Conventions as in `TrapEnc.lean`.

Mirrored here (file:line of /repo/src):
* `get_fragment_height` (split.rs:94–125), `SplitView::new` (:34–46), `SplitView::get` (:58–81), `single` (:85)
* `ImageView::cropped` (lib.rs:297–324)
* `encode_parallel` (encode/mod.rs:162–230): fragment buffers sized by `PixelInfo::surface_bytes`,
  `ParallelProgress::submit` (progress.rs:308–315)
* `EncoderSet::encode` / `pick_encoder` (`.expect("all color formats to be supported")`, encoder.rs:219–254) and
  `Encoder::encode` (`assert!(self.color_formats.contains(..))`, encoder.rs:121–128) over C19's pinned table

`Theorems/C15.lean`: `split_view_trapfree`, `parallel_fragments_trapfree`, `encode_loops_trapfree`.
-/
import DdsModel.TrapEncBlk
import DdsModel.Split
import DdsModel.FormatTables
namespace Dds.TrapEnc
open Dds Dds.Trap

/-! ## `split.rs` -/

/-- plain `a * b` on `u32` -/
def mulU32 (a b : Nat) : Option Nat := if a * b < 4294967296 then some (a * b) else none
theorem mulU32_of_lt {a b : Nat} (h : a * b < 4294967296) : mulU32 a b = some (a * b) := if_pos h
attribute [irreducible] mulU32

/-- `get_fragment_height(size, format, options)` (split.rs:94–125) with the trapping `u64` operators; outer `none`
= panic, inner `none` = `None` -/
def getFragmentHeightT (w h : Nat) (sup : Option Support) (dith : Dithering) (q : Quality) : Option (Option Nat) :=
  if w = 0 ∨ h = 0 then some none else                        -- :95
  match sup with
  | none => some none                                        -- :99
  | some s =>
  match s.splitHeight with
  | none => some none                                        -- :100
  | some sh =>
  if (!s.localDithering) && decide (dith.intersect s.dithering ≠ .none) then some none else   -- :104
  let fp := max (s.fragmentSize.getPreferred q) 1            -- :110
  if fp ≥ w * h then some none else do                       -- :111 (`pixels()`: `u64` product of two `u32`)
  let a ← div fp w                                           -- :119
  let b ← div a sh
  let m ← mulU b sh
  match tryU32 m with                                        -- `u32::try_from(..).ok()?`
  | none => pure none
  | some v => pure (some (if v = 0 then sh else v))          -- :122

/-- `SplitView::new` (split.rs:34–46): `image.height().div_ceil(fragment_height.get())` -/
def SplitView.newT (w h : Nat) (sup : Option Support) (dith : Dithering) (q : Quality) : Option SplitView := do
  let fh ← getFragmentHeightT w h sup dith q
  match fh with
  | some fh => do
    let len ← divCeilU h fh
    pure { w, h, len, fragmentHeight := some fh }
  | none => pure { w, h, len := 1, fragmentHeight := none }

/-- `ImageView::cropped(offset, size)` (lib.rs:297–324); `none` = the documented panic (rectangle outside the
image), an overflow or a slice out of range -/
def croppedT (v : View) (ox oy w h : Nat) : Option View := do
  dbgP (v.containsRect ox oy w h = true)                     -- :298 (`contains_rect` adds in `u64`)
  if w = 0 ∨ h = 0 then pure ⟨v.base, 0, 0, 0, v.bpp, 0⟩ else do   -- :304
  let bpr ← mulU w v.bpp                                     -- :313
  let a ← mulU oy v.pitch                                    -- :314
  let b ← mulU ox v.bpp
  let start ← addU a b
  let h1 ← subU h 1                                          -- :316 `(size.height - 1)` on `u32`
  let c ← mulU h1 v.pitch
  let e0 ← addU start c
  let stop ← addU e0 bpr
  let len ← sliceRange v.len start stop                      -- :319
  pure ⟨v.base + start, len, w, h, v.bpp, v.pitch⟩

/-- `SplitView::get(index)` (split.rs:58–81) on the image `v` the view was made of; inner `none` = `None` -/
def SplitView.getT (s : SplitView) (v : View) (index : Nat) : Option (Option View) :=
  if index ≥ s.len then some none else                        -- :59
  match s.fragmentHeight with
  | some fh => do
    let startY ← mulU32 index fh                             -- :64
    let endY := min (satAdd32 startY fh) v.h                 -- :65–67
    dbgP (startY < v.h)                                      -- :68
    let fragH ← subU endY startY                             -- :72
    let c ← croppedT v 0 startY v.w fragH                    -- :74
    pure (some c)
  | none => some (some v)                                    -- :79

/-! ## `encode_parallel` (encode/mod.rs:162–230) -/

/-- the job of one fragment (mod.rs:193–219): `(bytes of the fragment's buffer, fragment height)` -/
def fragmentT (bodyT : View → Option (List Nat)) (px : PixelInfo) (s : SplitView) (v : View) (i : Nat) :
    Option (Nat × Nat) := do
  let f ← SplitView.getT s v i                               -- :194 `.expect("invalid fragment index")`
  match f with
  | none => none
  | some frag => do
    -- :200–204 `surface_bytes(..).unwrap_or(u64::MAX).try_into().expect("too many bytes")` (`usize` = `u64`)
    let bytes := (px.surfaceBytes frag.w frag.h).getD 18446744073709551615
    allocT bytes 1                                           -- :205 `Vec::with_capacity(bytes)`
    let ws ← bodyT frag                                      -- :210
    dbgP (ws.sum = bytes)                                    -- :217 `debug_assert_eq!(buffer.len(), bytes)`
    pure (bytes, frag.h)

/-- `bodyT` = the sequential encoder of the format on a view (`encode(&mut buffer, fragment, format, None, ..)` with
`parallel = false`), `px` the format's `PixelInfo`.  Returns the sizes of the `write_all` calls on the real writer. -/
def encodeParallelT (bodyT : View → Option (List Nat)) (px : PixelInfo) (v : View) (sup : Option Support)
    (dith : Dithering) (q : Quality) : Option (List Nat) := do
  let s ← SplitView.newT v.w v.h sup dith q                  -- :177
  if s.len = 1 then bodyT v                                  -- :180 `split.single()`
  else do
  let total ← addU v.h 1                                     -- :188 `image.height() as u64 + 1`
  let frags ← mapT (fragmentT bodyT px s v) (List.range s.len)
  -- :215 `parallel_progress.submit(fragment.height())`: `guard.0 += progress`, then
  -- `project(guard.0 as f32 / total as f32)` with its `debug_assert!` (progress.rs:47, :311–312); whatever the
  -- completion order, the running sum is at most the sum over all fragments
  let submitted := (frags.map (·.2)).sum
  dbgP (submitted ≤ total ∧ total ≠ 0)
  pure (frags.map (·.1))                                     -- :223–226

/-! ## from C19's encoder table to the loop mirrors -/

/-- the bodies an `Encoder` of the table can run -/
inductive Body where
  /-- `Encoder::copy` → `copy_directly` -/
  | copy
  /-- `color_convert!`, the BGR fast paths → `uncompressed_untyped` -/
  | untyped (k : UntypedLine)
  /-- `universal!` → `uncompressed_universal::<Out>` -/
  | universal (size prim : Nat)
  /-- `universal_dither!` → `uncompressed_universal_dither` with `size_of::<Out>()`, `align_of::<Out>()` -/
  | dither (size align prim : Nat)
  /-- `universal_subsample!` / `universal_subsample_dither!` → `uncompressed_universal_subsample` -/
  | subsample (bw blockBytes prim : Nat)
  /-- `bi_planar_universal::<P1, P2>` -/
  | biPlanar (s1 prim1 s2 prim2 : Nat)
  /-- `block_4x4::<BLOCK_BYTES>` with `options.quality` -/
  | block (bb quality : Nat)
deriving DecidableEq, Repr

/-- the body on a view: outer `none` = panic, inner `none` = `Err(InvalidSize)` (bi-planar only) -/
def Body.runT (b : Body) (v : View) (c : Color) (aligned : Bool) : Option (Option (List Nat)) :=
  match b with
  | .copy => (copyDirectlyT v c).map some
  | .untyped k => (uncompressedUntypedT v c k).map some
  | .universal size prim => (uncompressedUniversalT v c aligned size prim).map some
  | .dither size align prim => (ditherT v c aligned size align prim).map some
  | .subsample bw bb prim => (subsampleT v c aligned bw bb prim).map some
  | .biPlanar s1 p1 s2 p2 => biPlanarT v c s1 p1 s2 p2
  | .block bb quality => (block4x4T v c bb quality).map some

/-- `Precision::size()` -/
def precSize : C19.Precision → Nat
  | .u8 => 1 | .u16 => 2 | .f32 => 4

def chanOf : C19.Channels → Unc.Channels
  | .gray => .gray | .alpha => .alpha | .rgb => .rgb | .rgba => .rgba

/-- a colour of C19's table as the `Color` of the mirrors -/
def colorOf (c : C19.ColorFormat) : Color := ⟨chanOf c.channels, precSize c.precision⟩

/-- Which `Body` the encoder `e` of a set built with `ctor` for a format of layout `px` runs — transcribed from
the encoder lists by reading (as `EncRows.Runs` for C14); what the table does not pin (the primitive an encoded
pixel is built of, its alignment, the target channels of `color_convert!`) is left open within what the Rust types
allow:
* uncompressed.rs (`fixed bpp`): `Encoder::copy(c)` (`colors = single c`) → `copy_directly`; `color_convert!(t)` /
  `Encoder::new(ColorFormatSet::U8, ..)` (`colors = ofPrec p`) → `uncompressed_untyped` with `bpp` bytes per encoded
  pixel, target of precision `p` (an SNORM conversion only at 8 / 16 bit) or a 3- / 4-byte BGR line at `u8`;
  `universal!` (`colors = all`, kind `plain`) → `uncompressed_universal::<Out>` with `size_of::<Out>() = bpp`;
  `universal_dither!` (kind `fsDither`) → `uncompressed_universal_dither` with `size_of::<Out>() = bpp`,
  `align_of::<Out>() ≤ 8`
* sub_sampled.rs (`block bytes bw 1`): `uncompressed_universal_subsample` with `BLOCK_WIDTH = bw`,
  `size_of::<EncodedBlock>() = bytes`
* bi_planar.rs (`biPlanar p1 p2 2 2`): `bi_planar_universal::<P1, P2>` with `size_of::<P1>() = p1`,
  `size_of::<P2>() = p2`
* bc.rs (`block bytes 4 4`, constructor `new_bc`): `block_4x4::<bytes>` -/
inductive Body.Matches : C19.SetCtor → PixelInfo → C19.Enc → Body → Prop where
  | copy (bpp : Nat) (c : C19.ColorFormat) (fl : C19.SymFlags) (hb : (colorOf c).bpp = bpp) :
      Matches .plain (.fixed bpp) ⟨.single c, fl, .plain⟩ .copy
  | convert (bpp : Nat) (p : C19.Precision) (fl : C19.SymFlags) (t : Color) (snorm : Bool)
      (ht : t.psize = precSize p) (hb : t.bpp = bpp) (hs : snorm = true → p ≠ .f32) :
      Matches .plain (.fixed bpp) ⟨.ofPrec p, fl, .plain⟩ (.untyped (.convert t snorm))
  | bgr (bpp : Nat) (fl : C19.SymFlags) (hb : bpp = 3 ∨ bpp = 4) :
      Matches .plain (.fixed bpp) ⟨.ofPrec .u8, fl, .plain⟩ (.untyped (.bgr bpp))
  | universal (bpp prim : Nat) (fl : C19.SymFlags) (hp : prim = 1 ∨ (prim ≠ 0 ∧ bpp % prim = 0)) :
      Matches .plain (.fixed bpp) ⟨.all, fl, .plain⟩ (.universal bpp prim)
  | dither (bpp align prim : Nat) (fl : C19.SymFlags) (ha : align ≤ 8) (hp : prim = 1 ∨ bpp % prim = 0) :
      Matches .plain (.fixed bpp) ⟨.all, fl, .fsDither⟩ (.dither bpp align prim)
  | subsample (bytes bw prim : Nat) (cs : C19.ColorSet) (fl : C19.SymFlags) (kind : C19.EncKind)
      (hp : prim = 1 ∨ bytes % prim = 0) :
      Matches .plain (.block bytes bw 1) ⟨cs, fl, kind⟩ (.subsample bw bytes prim)
  | biPlanar (p1 p2 prim1 prim2 : Nat) (e : C19.Enc) (h1 : prim1 = 1 ∨ p1 % prim1 = 0)
      (h2 : prim2 = 1 ∨ p2 % prim2 = 0) :
      Matches .biPlanar (.biPlanar p1 p2 2 2) e (.biPlanar p1 prim1 p2 prim2)
  | block (bytes quality : Nat) (e : C19.Enc) :
      Matches .bc (.block bytes 4 4) e (.block bytes quality)

/-- `EncoderSet::encode` up to the call of the body: `pick_encoder` (`.expect(..)`) and the `assert!` of
`Encoder::encode`; returns the chosen encoder -/
def pickEncoderT (s : C19.EncSet) (c : C19.ColorFormat) (d : C19.Dithering) : Option C19.Enc := do
  let i ← s.pick c d                                         -- encoder.rs:239–241
  let e ← s.encs[i]?
  dbgP (e.colors.contains c = true)                          -- encoder.rs:122–125 "Picked the wrong encoder"
  pure e

/-! ## the table check -/

/-- what the loops use of a format's layout -/
def pxOKb : PixelInfo → Bool
  | .fixed bpp => decide (1 ≤ bpp ∧ bpp ≤ 16)
  | .block bytes bw bh => decide (bytes ≤ 16 ∧ ((bh = 1 ∧ 2 ≤ bw ∧ bw ≤ 8) ∨ (bw = 4 ∧ bh = 4)))
  | .biPlanar p1 p2 sx sy => decide (p1 ≤ 2 ∧ p2 ≤ 4 ∧ sx = 2 ∧ sy = 2)

/-- one body that `Body.Matches` admits for an encoder of the table (`none`: the relation does not cover it) -/
def defaultBody (ctor : C19.SetCtor) (px : PixelInfo) (e : C19.Enc) : Option Body :=
  match ctor, px with
  | .plain, .fixed bpp =>
    match e.colors, e.kind with
    | .single c, .plain => if (colorOf c).bpp = bpp then some .copy else none
    | .ofPrec p, .plain =>
      match [Unc.Channels.gray, .rgb, .rgba].find? (fun ch => TrapUnc.chanCount ch * precSize p = bpp) with
      | some ch => some (.untyped (.convert ⟨ch, precSize p⟩ false))
      | none => none
    | .all, .plain => some (.universal bpp 1)
    | .all, .fsDither => some (.dither bpp 1 1)
    | _, _ => none
  | .plain, .block bytes bw bh => if bh = 1 then some (.subsample bw bytes 1) else none
  | .biPlanar, .biPlanar p1 p2 sx sy => if sx = 2 ∧ sy = 2 then some (.biPlanar p1 1 p2 1) else none
  | .bc, .block bytes bw bh => if bw = 4 ∧ bh = 4 then some (.block bytes 0) else none
  | _, _ => none

/-- for one format, input colour and dithering option: the layout is one the loops handle, `pick_encoder` finds an
encoder whose colour set contains the colour (neither the `expect` nor the `assert!` fires), and `Body.Matches`
covers that encoder.  `Theorems/C15.lean` evaluates it on all 73 × 12 × 4 combinations. -/
def dispatchCheck (f : C19.Format) (c : C19.ColorFormat) (d : C19.Dithering) : Bool :=
  match C19.encoderSet f with
  | none => true
  | some s =>
    pxOKb f.row.px &&
      (match pickEncoderT s c d with
       | none => false
       | some e => (defaultBody s.ctor f.row.px e).isSome)

/-- `Split.lean`'s support table for one format name: the split height is a `NonZeroU8` and a preferred fragment
holds at most `2^48` pixels at every quality (so that the buffer of one fragment cannot exceed `isize::MAX` bytes)
— or the whole image is one fragment -/
def supportCheck (name : String) : Bool :=
  match supportOf name with
  | some (some s) =>
    (match s.splitHeight with
     | some sh => decide (0 < sh ∧ sh < 256)
     | none => true) &&
    (s.fragmentSize == .entireImage ||
      [Quality.fast, .normal, .high, .unreasonable].all fun q =>
        decide (max (s.fragmentSize.getPreferred q) 1 ≤ 281474976710656))
  | _ => true

end Dds.TrapEnc
