/-
Data-flow model of the encoder families (which input pixels reach which per-unit encode call, and
in which order the results are written).  VALUES are not modelled: every per-unit function (one
pixel, one block of a row, one row group's blocks, one macro pixel, one dithered row) is an
ARBITRARY parameter; the pixel type `α` and the output element type `β` are arbitrary.  An image is
its list of rows (`image.rows()`), a row is its list of pixels; a fragment of a split view is a
full-width crop, i.e. a consecutive sub-list of the rows (`SplitView.fragmentRows`).

  (a) `for_each_chunk` (src/encode/write_util.rs) as used by `uncompressed_universal`,
      `uncompressed_untyped` (uncompressed.rs) and `copy_directly` (encoder.rs): contiguous path
      (`data.chunks(buffer_pixels)`) and row-wise path (fill / flush of the buffer across rows)
  (b) `uncompressed_universal_subsample` + `process_subsample` (sub_sampled.rs), with the row
      index `y_index` handed to the per-block function (ignored by `universal_subsample!`, used by
      `universal_subsample_dither!` = R1_UNORM's Bayer encoder)
  (c) `for_each_f32_rgba_rows` (write_util.rs) + `block_universal` (bc.rs)
  (d) `bi_planar_universal` (bi_planar.rs): plane 1 per row pair, plane 2 at the END
  (e) `uncompressed_universal_dither` (uncompressed.rs): a state (the error line) carried from row
      to row

The lengths of the writes of the same loops are modelled in `EncLen.lean` (C10);
`write_sizes_match_c10` (lemmas `chunks_lengths`, `fillRowD_lengths` in `Proofs/EncRows.lean`)
connects the two models.
`Theorems/C14.lean` proves that (a), (b) without row index, (c) are row-group local — for every
image and every per-unit function — and that (b) with row index, (d), (e) are never split.
-/
import DdsModel.Split
import DdsModel.EncLen
import DdsModel.FormatTables
namespace Dds
namespace EncRows

variable {α β σ : Type}

/-! ## (a) uncompressed / copy: `for_each_chunk` -/

/-- `copy_to_buffer` / `process` on a run of pixels: every closure handed to `for_each_chunk`
(`process_line` of `universal!`, `simple_color_convert`, the `process_line`s of
`uncompressed_untyped`, `copy_from_slice`) writes one encoded pixel per input pixel, in order.
`encPx` is arbitrary. -/
def encPixels (encPx : α → List β) (px : List α) : List β := px.flatMap encPx

/-- contiguous path: `for chunk in image.data().chunks(buffer_pixels * bytes_per_pixel)` —
`copy_to_buffer(chunk)` then `process_chunk` = one `write_all` per chunk.  The list of writes. -/
def contigWrites (encPx : α → List β) (bufPx : Nat) (img : List (List α)) : List (List β) :=
  (chunks bufPx img.flatten).map (encPixels encPx)

/-- the inner `while !row.is_empty()` loop of the row-wise path.  State: `fill` = `fill_pixels`,
`buf` = the valid part `buffer[..fill_pixels * elements_per_pixel]`.  Returns the flushed buffers
(each one `process_chunk(buffer)` = one write), the new fill and buffer.  Same shape as
`fillRow` of `EncLen.lean` (which keeps only the pixel counts). -/
def fillRowD (encPx : α → List β) (bufPx : Nat) :
    (fuel : Nat) → (row : List α) → (fill : Nat) → (buf : List β) → List (List β) × Nat × List β
  | 0, _, fill, buf => ([], fill, buf)
  | fuel + 1, row, fill, buf =>
    if row = [] then ([], fill, buf) else
    if fill = bufPx then
      -- buffer full: flush it, fill_pixels = 0, then copy at the start of the buffer
      let w := min row.length bufPx
      let r := fillRowD encPx bufPx fuel (row.drop w) w (encPixels encPx (row.take w))
      (buf :: r.1, r.2)
    else
      let w := min row.length (bufPx - fill)
      fillRowD encPx bufPx fuel (row.drop w) (fill + w) (buf ++ encPixels encPx (row.take w))

/-- row-wise path: `for mut row in image.rows() { while .. }`, then
`if fill_pixels > 0 { process_chunk(&mut buffer[..fill_pixels * ..]) }` -/
def rowsWritesAux (encPx : α → List β) (bufPx : Nat) :
    List (List α) → (fill : Nat) → (buf : List β) → List (List β)
  | [], fill, buf => if fill > 0 then [buf] else []
  | row :: rest, fill, buf =>
    let r := fillRowD encPx bufPx (row.length + 1) row fill buf
    r.1 ++ rowsWritesAux encPx bufPx rest r.2.1 r.2.2

def rowsWrites (encPx : α → List β) (bufPx : Nat) (img : List (List α)) : List (List β) :=
  rowsWritesAux encPx bufPx img 0 []

/-- which path `for_each_chunk` takes (`image.is_contiguous()`); `direct` is `copy_directly`'s
single `writer.write_all(image.data())` -/
inductive Path where
  | contiguous | rowWise | direct
  deriving DecidableEq, Repr

/-- bytes written by an uncompressed / copy encoder: the writes in order, concatenated -/
def encUncompressed (p : Path) (encPx : α → List β) (bufPx : Nat) (img : List (List α)) : List β :=
  match p with
  | .contiguous => (contigWrites encPx bufPx img).flatten
  | .rowWise => (rowsWrites encPx bufPx img).flatten
  | .direct => encPixels encPx img.flatten

/-! ## (b) sub-sampled rows: `uncompressed_universal_subsample` -/

/-- fill the rest of a short block with its last pixel
(`last_block[rest..].fill(data[data.len() - 1])`; a full block is unchanged) -/
def padLast (n : Nat) (l : List α) : List α :=
  match l.getLast? with
  | some x => l ++ List.replicate (n - l.length) x
  | none => l

/-- `process_subsample::<BLOCK_WIDTH, _>(data, out, f)`: the full blocks, then the partial block
padded with the last pixel of `data`. -/
def processSubsample (bw : Nat) (f : List α → List β) (data : List α) : List β :=
  let fullLen := data.length / bw * bw
  let rest := data.length - fullLen
  (chunks bw (data.take fullLen)).flatMap f ++
    (if rest > 0 then
       f (match data.getLast? with
          | some x => data.drop fullLen ++ List.replicate (bw - rest) x
          | none => [])
     else [])

/-- one row: `for chunk in y_line.chunks(chunk_size) { process(y_index, chunk, encoded); write }`.
`f` is the per-block function of this row (`encSubsampleFrom` passes `f y`, `y` = index within the image handed to the
encoder, `image.rows().enumerate()`) -/
def subsampleRow (bw chunkPx : Nat) (f : List α → List β) (row : List α) : List β :=
  (chunks chunkPx row).flatMap (processSubsample bw f)

/-- rows `y0, y0+1, …` -/
def encSubsampleFrom (bw chunkPx : Nat) (f : Nat → List α → List β) :
    (y0 : Nat) → List (List α) → List β
  | _, [] => []
  | y, row :: rest => subsampleRow bw chunkPx (f y) row ++ encSubsampleFrom bw chunkPx f (y + 1) rest

/-- `uncompressed_universal_subsample(args, block_width, process)` with
`chunk_pixels = BUFFER_PIXELS / block_width * block_width` -/
def encSubsample (bw chunkPx : Nat) (f : Nat → List α → List β) (img : List (List α)) : List β :=
  encSubsampleFrom bw chunkPx f 0 img

/-- what a row is cut into, independently of the chunking: the blocks of `bw` pixels of the row, the last one padded
(the output of the row is the per-block function over these) -/
def rowBlocks (bw : Nat) (row : List α) : List (List α) := (chunks bw row).map (padLast bw)

/-! ## (c) block formats: `for_each_f32_rgba_rows` + `block_universal` -/

/-- fill the missing rows of the last row group with its FIRST row
(`intermediate_buffer.copy_within(..width, i * width)` for `i in rest_blocks..block_height`) -/
def padRows (bh : Nat) (g : List (List α)) : List (List α) :=
  match g.head? with
  | some r => g ++ List.replicate (bh - g.length) r
  | none => g

/-- `for_each_f32_rgba_rows(image, block_height, f)`: the successive contents of
`intermediate_buffer` handed to `f` — `height / block_height` full groups, then, when
`height % block_height > 0`, the remaining rows followed by copies of the first of them. -/
def rowGroupBuffers (bh : Nat) (img : List (List α)) : List (List (List α)) :=
  let full := img.length / bh
  let rest := img.length % bh
  (List.range full).map (fun g => (img.drop (g * bh)).take bh) ++
    (if rest > 0 then [padRows bh (img.drop (full * bh))] else [])

/-- the closure of `block_universal` on one buffer (`rows` = the flat buffer, pitch `w`):
`encode_block(&rows[block_index * BLOCK_WIDTH ..], width, ..)` for the `width / BLOCK_WIDTH` full
blocks, then — when `width % BLOCK_WIDTH != 0` — the partial block copied into `block_data` with
every row padded by its last pixel, `encode_block(&block_data, BLOCK_WIDTH, ..)`; one write of all
blocks.  `encBlock data pitch` is arbitrary: it may read anything of the slice it is given. -/
def encodeGroup (bw bh w : Nat) (encBlock : List α → Nat → List β) (buf : List (List α)) : List β :=
  let rows := buf.flatten
  ((List.range (w / bw)).flatMap fun bi => encBlock (rows.drop (bi * bw)) w) ++
    (if w % bw ≠ 0 then
       let start := w / bw * bw
       let bwid := w - start
       encBlock ((List.range bh).flatMap fun i =>
         padLast bw ((rows.drop (start + i * w)).take bwid)) bw
     else [])

/-- `block_universal::<BW, BH, _, _>(args, encode_block)` -/
def encBlocks (bw bh w : Nat) (encBlock : List α → Nat → List β) (img : List (List α)) : List β :=
  (rowGroupBuffers bh img).flatMap (encodeGroup bw bh w encBlock)

/-- how the block encoders read their slice (`get_4x4_rgba`, `get_4x4_grayscale`, …:
`block[i * 4 + j] = data[i * row_pitch + j]`): the `bw × bh` pixels at the start of the slice -/
def blockAt (bw bh : Nat) (data : List α) (pitch : Nat) : List α :=
  (List.range bh).flatMap fun i => (data.drop (i * pitch)).take bw

/-- the blocks of a row group `g` (rows of `w` pixels), without any buffer: block column `bi` holds
of every row the pixels `[bi·bw, bi·bw + bw)`, a run cut short by the right edge being padded with
its last pixel -/
def groupBlocks (bw w : Nat) (g : List (List α)) : List (List α) :=
  (List.range (divCeil w bw)).map fun bi =>
    g.flatMap fun row => padLast bw ((row.drop (bi * bw)).take bw)

/-! ## (d) bi-planar: `bi_planar_universal` -/

/-- plane 1 of every row pair is written as the pair is processed, the plane-2 samples are pushed
to a `Vec` that is written after the last pair.  `encPair buf = (plane-1 bytes, plane-2 samples)`
of one buffer is arbitrary.  (The `InvalidSize` refusal for odd sizes is C15's `size_rule`.) -/
def encBiPlanar (encPair : List (List α) → List β × List β) (img : List (List α)) : List β :=
  let groups := (rowGroupBuffers 2 img).map encPair
  groups.flatMap (·.1) ++ groups.flatMap (·.2)

/-! ## (e) global error diffusion: `uncompressed_universal_dither` -/

/-- `for row in image.rows()`: `step` = swap of the error lines + the chunk loop of one row
(arbitrary); `s` = `next_line_error` left by the previous row -/
def encDitherFrom (step : σ → List α → List β × σ) : σ → List (List α) → List β
  | _, [] => []
  | s, row :: rest => (step s row).1 ++ encDitherFrom step (step s row).2 rest

/-- `s0` = the zeroed error buffer every call of the encoder starts with -/
def encDither (step : σ → List α → List β × σ) (s0 : σ) (img : List (List α)) : List β :=
  encDitherFrom step s0 img

/-! ## which family runs for which encoder of the table

`FormatTables.lean` (C19, tied to the library on every run) pins for every format the encoder list
(`encoderSet`: constructor of the set, kind of every body), `pick_encoder` (`EncSet.pick`) and the
pixel layout (`Format.row .px`, block width / height).  `Split.lean` pins `encoding_support()` by
format NAME (tied by C14's `sup` cases).  `Runs` says of which data-flow family the body of an
encoder of the table is an instance — by reading the encoder lists:

* uncompressed.rs (layout `fixed`): `Encoder::copy` → `copy_directly`; `color_convert!` and the
  `Encoder::new(ColorFormatSet::U8, ..)` bodies → `uncompressed_untyped`; `universal!` →
  `uncompressed_universal` — kind `plain`, family (a); `universal_dither!` →
  `uncompressed_universal_dither` — kind `fsDither`, family (e)
* sub_sampled.rs (layout `block _ bw 1`): `universal_subsample!` — kind `plain`, family (b) with a
  per-block function that ignores the row index; `universal_subsample_dither!` — kind `bayer`,
  family (b) with the row index
* bc.rs (set constructor `new_bc`, layout `block _ 4 4`): `block_4x4` = `block_universal::<4, 4, ..>`
  — kind `bc _`, family (c) with the layout's block size
* bi_planar.rs (set constructor `new_bi_planar`): `bi_planar_universal` — family (d)
-/

open C19 in
inductive Runs {α β : Type} (w : Nat) :
    SetCtor → EncKind → PixelInfo → (List (List α) → List β) → Prop where
  | uncompressed (bpp : Nat) (p : Path) (encPx : α → List β) (bufPx : Nat) (hb : 0 < bufPx) :
      Runs w .plain .plain (.fixed bpp) (encUncompressed p encPx bufPx)
  | subsample (bytes bw chunkPx : Nat) (f : List α → List β) :
      Runs w .plain .plain (.block bytes bw 1) (encSubsample bw chunkPx (fun _ => f))
  | bayer (bytes bw chunkPx : Nat) (f : Nat → List α → List β) :
      Runs w .plain .bayer (.block bytes bw 1) (encSubsample bw chunkPx f)
  | fsDither (bpp : Nat) (σ : Type) (step : σ → List α → List β × σ) (s0 : σ) :
      Runs w .plain .fsDither (.fixed bpp) (encDither step s0)
  | block (bytes bw bh : Nat) (wiring : BcWiring) (encBlock : List α → Nat → List β) :
      Runs w .bc (.bc wiring) (.block bytes bw bh) (encBlocks bw bh w encBlock)
  | biPlanar (p1 p2 sx sy : Nat) (kind : EncKind) (encPair : List (List α) → List β × List β) :
      Runs w .biPlanar kind (.biPlanar p1 p2 sx sy) (encBiPlanar encPair)

/-- `Dithering::new(color, alpha)` (C19's pair) as the enum of `Split.lean` -/
def ditheringOf (d : C19.Dithering) : Dithering :=
  match d.color, d.alpha with
  | false, false => .none
  | true, true => .colorAndAlpha
  | true, false => .color
  | false, true => .alpha

/-- the two pinned tables agree on everything `get_fragment_height` reads -/
def tablesAgree (sup : Support) (s : C19.Support) : Bool :=
  sup.dithering == ditheringOf s.dithering && sup.splitHeight == s.splitHeight &&
    sup.localDithering == s.localDithering

/-- the advertised split height against the set constructor and the row-group height of the
layout: a `NonZeroU8` multiple of the block height; none for bi-planar formats -/
def splitOk (ctor : C19.SetCtor) (px : PixelInfo) (sh : Option Nat) : Bool :=
  match ctor, px, sh with
  | .plain, .fixed _, some sh => decide (0 < sh ∧ sh < U8)
  | .plain, .block _ _ bh, some sh => decide (0 < sh ∧ sh < U8) && bh == 1
  | .bc, .block _ _ bh, some sh => decide (0 < sh ∧ sh < U8) && decide (0 < bh) && sh % bh == 0
  | .biPlanar, .biPlanar _ _ _ _, none => true
  | _, _, _ => false

/-- a body with state across rows (`fsDither`) or reading the row index (`bayer`) is picked only
when `get_fragment_height` refuses to split because global dithering applies -/
def kindOk (kind : C19.EncKind) (ctor : C19.SetCtor) (sup : Support) (d : Dithering) : Bool :=
  match kind, ctor with
  | .plain, .plain => true
  | _, .biPlanar => true
  | .bc _, .bc => true
  | .fsDither, .plain => !sup.localDithering && decide (d.intersect sup.dithering ≠ .none)
  | .bayer, .plain => !sup.localDithering && decide (d.intersect sup.dithering ≠ .none)
  | _, _ => false

/-- everything `fragmentwise_eq_whole_all_families` needs from the tables, for one format, input
colour and dithering option; `Theorems/C14.lean` evaluates it on all 73 × 12 × 4 combinations. -/
def familyCheck (f : C19.Format) (c : C19.ColorFormat) (d : C19.Dithering) : Bool :=
  match C19.encoderSet f with
  | none => supportOf f.name == some none
  | some s =>
    match supportOf f.name with
    | some (some sup) =>
      tablesAgree sup s.support && splitOk s.ctor f.row.px sup.splitHeight &&
        (match s.pick c d with
         | none => false
         | some i =>
           match s.encs[i]? with
           | none => false
           | some e => kindOk e.kind s.ctor sup (ditheringOf d))
    | _ => false

end EncRows
end Dds
