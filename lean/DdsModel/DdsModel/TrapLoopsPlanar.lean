/-
Trapping mirrors of the generic decode loops of `src/decode/read_write.rs` (C01), part 3: the bi-planar family.
`process_bi_planar_helper` (:1058), `ChannelConversionBuffer::process_bi_planar` (:891), `for_each_bi_planar` (:1139),
`for_each_bi_planar_rect` (:1199).  Conventions: `TrapLoops.lean`.

`BiPlaneInfo` is `(p1, p2, ssx, ssy)`: element sizes of the two planes and the sub-sampling of plane 2.  The pixel
function `f([Plane1; SSX], Plane2, u8) -> [OutPixel; SSX]` is total (C01 section 6); the helper only indexes its
fixed-size argument and result arrays, and every such index is checked here.  `size` = `size_of::<OutPixel>()`.
All three element types are byte arrays (alignment 1), so `cast::from_bytes` only checks the length.
-/
import DdsModel.TrapLoops
namespace Dds.TrapLoops
open Dds Dds.Trap

/-- `process_bi_planar_helper` after the offset part (:1100–1130): `width` pixels left that start at output pixel `off`;
`n1`, `n2`, `nd` = elements left in `plane1`, `plane2`, `decoded` -/
def planarTailT (ssx p1 size : Nat) (dec : Sl) (n1 n2 nd off width : Nat) : Option (List Ev) := do
  let full ← div width ssx                                               -- :1101
  let fullW ← ckU (full * ssx)                                           -- :1102
  dbgP (fullW ≤ n1)                                                      -- :1104 `&plane1[..full_w]`
  let c1 ← TrapUnc.fromBytesT (fullW * p1) (ssx * p1)                    --   `as_array_chunks(..).expect(..)`
  dbgP (full ≤ n2)                                                       -- :1105 `&plane2[..full]`
  let fm ← ckU (full * ssx)                                              -- :1107
  dbgP (fm ≤ nd)                                                         --   `&mut decoded[..full * SSX]`
  let cd ← TrapUnc.fromBytesT (fm * size) (ssx * size)                   --   `as_array_chunks_mut(..).expect(..)`
  dbgP (∀ x, x < full → x < c1 ∧ x < full ∧ x < cd)                     -- :1111–1114 `plane1_full[x]`, `plane2_full[x]`, `decoded_full[x]`
  let m ← ckU (full * ssx)                                               -- :1118
  let restW ← subU width m
  let e2 ← if restW > 0 then (do                                         -- :1119
      dbgP (∀ x, x < restW → x < ssx ∧ fullW + x < n1)                  -- :1122 `plane1_items[x] = plane1[full_w + x]`
      dbgP (full < n2)                                                   -- :1124 `plane2[full]`
      dbgP (∀ x, x < restW → fullW + x < nd ∧ x < ssx)                  -- :1128 `decoded[full_w + x] = out[x]`
      pure [Ev.wr ⟨dec.buf, dec.off + (off + fullW) * size, restW * size⟩])
    else pure []
  pure ((if full = 0 then [] else [Ev.wr ⟨dec.buf, dec.off + off * size, fm * size⟩]) ++ e2)

/-- `process_bi_planar_helper::<SSX, Plane1, Plane2, OutPixel>` (:1058) on `PlaneRange { offset, width, y }` -/
def planarHelperT (ssx p1 p2 size : Nat) (plane1 plane2 dec : Sl) (offset width : Nat) : Option (List Ev) := do
  let n1 ← TrapUnc.fromBytesT plane1.len p1                              -- :1071 `expect("Invalid plane1 buffer")`
  let n2 ← TrapUnc.fromBytesT plane2.len p2                              -- :1072
  let nd ← TrapUnc.fromBytesT dec.len size                               -- :1074
  if offset > 0 then do                                                  -- :1077
    dbgP (offset < ssx)                                                  -- :1078
    let a ← subU ssx offset                                              -- :1079
    let w := min a width
    dbgP (∀ x, x < w → x < ssx ∧ x < n1)                                -- :1083 `plane1_items[x] = plane1[x]`
    dbgP (0 < n2)                                                        -- :1085 `plane2[0]`
    dbgP (∀ x, x < w → x < nd ∧ x < ssx)                                -- :1089 `decoded[x] = out[x]`
    let width' ← subU width (w % U32B)                                   -- :1094 `range.width -= w as u32`
    dbgP (w ≤ n1)                                                        -- :1095 `&plane1[w..]`
    dbgP (1 ≤ n2)                                                        -- :1096 `&plane2[1..]`
    dbgP (w ≤ nd)                                                        -- :1097 `&mut decoded[w..]`
    let e ← planarTailT ssx p1 size dec (n1 - w) (n2 - 1) (nd - w) w width'
    pure ((if w = 0 then [] else [Ev.wr ⟨dec.buf, dec.off, w * size⟩]) ++ e)
  else planarTailT ssx p1 size dec n1 n2 nd 0 width

/-! ### `ChannelConversionBuffer::process_bi_planar` (:891) -/

/-- the main loop (:955–987) on what is left after the offset part -/
def convPlanarMainT (native : Color) (target : Unc.Channels) (ssx p1 p2 nbpp obpp bufPx : Nat) (plane1 plane2 out : Sl)
    (width : Nat) : Option (List Ev) := do
  let rm ← modT bufPx ssx                                                -- :957 `round_down_to_multiple`
  let pref ← subU bufPx rm
  dbgP (pref ≠ 0)                                                        -- :958 `step_by(0)` panics
  forT (fun cs => do
    let t ← ckU (cs + pref)                                              -- :959 (`usize`)
    let ce := min t width
    let csz ← subU ce cs                                                 -- :960
    let p2s ← div cs ssx                                                 -- :962
    let p2e ← divCeilT ce ssx                                            -- :963
    let a ← ckU (cs * p1)                                                -- :966
    let b ← ckU (ce * p1)
    let p1c ← plane1.range a b
    let c ← ckU (p2s * p2)                                               -- :967
    let d ← ckU (p2e * p2)
    let p2c ← plane2.range c d
    let e ← ckU (csz * nbpp)                                             -- :969
    let bufc ← tmpBuffer.upto e
    let g ← ckU (cs * obpp)                                              -- :971
    let h ← ckU (ce * obpp)
    let outc ← out.range g h
    let w1 ← planarHelperT ssx p1 p2 nbpp p1c p2c bufc 0 (csz % U32B)    -- :974 `width: chunk_size as u32`
    let w2 ← convertChannelsForT native target bufc outc                 -- :986
    pure (w1 ++ w2)) (Addr.stepStarts width pref)

/-- `process_bi_planar(info, plane1, plane2, out, PlaneRange { offset, width, y }, f)` -/
def convPlanarT (native : Color) (target : Unc.Channels) (ssx p1 p2 : Nat) (plane1 plane2 out : Sl) (offset width : Nat) :
    Option (List Ev) :=
  if native.ch = target then planarHelperT ssx p1 p2 native.bpp plane1 plane2 out offset width   -- :901
  else do
    let obpp ← (Color.mk target native.psz).bppT                         -- :906
    let a ← ckU (width * obpp)                                           -- :910
    dbgP (a = out.len)
    let b ← ckU (width * p1)                                             -- :911
    dbgP (plane1.len = b)
    let t ← ck32 (offset + width)                                        -- :914 (`u32`)
    let dc ← divCeilT t ssx
    let c ← ckU (dc * p2)
    dbgP (plane2.len = c)                                                -- :912
    let nbpp ← native.bppT                                               -- :918
    let bufPx ← div BUFFER_BYTES nbpp                                    -- :919
    if offset ≠ 0 then do                                                -- :924
      let a ← subU ssx offset                                            -- :925 (`u32`)
      let ow := min a width
      let x1 ← ckU (ow * p1)                                             -- :927
      let p1c ← plane1.upto x1
      let p2c ← plane2.upto p2                                           -- :928
      let x2 ← ckU (ow * nbpp)                                           -- :929
      let bufc ← tmpBuffer.upto x2
      let x3 ← ckU (ow * obpp)                                           -- :930
      let outc ← out.upto x3
      let w1 ← planarHelperT ssx p1 p2 nbpp p1c p2c bufc offset ow       -- :933
      let w2 ← convertChannelsForT native target bufc outc               -- :945
      let width' ← subU width ow                                         -- :949
      let plane1' ← plane1.drop x1                                       -- :950
      let plane2' ← plane2.drop p2                                       -- :951
      let out' ← out.drop x3                                             -- :952
      let e ← convPlanarMainT native target ssx p1 p2 nbpp obpp bufPx plane1' plane2' out' width'
      pure (w1 ++ w2 ++ e)
    else convPlanarMainT native target ssx p1 p2 nbpp obpp bufPx plane1 plane2 out width

/-! ### `for_each_bi_planar` (:1139) -/

/-- the `for y_offset in 0..sub_sampling_y as u8` loop (:1172–1194) for one chroma line; returns the new `y` -/
def planarFullInnerT (img : Img) (native : Color) (ssx p1 p2 p1Bpl : Nat) (plane1 uvLine : Sl) :
    List Nat → Nat → Option (Nat × List Ev)
  | [], y => some (y, [])
  | _ :: rest, y =>
    if y ≥ img.h then some (y, [])                                       -- :1173 `break`
    else do
      let a ← ckU (y * p1Bpl)                                            -- :1177
      let y1 ← ckU (y + 1)
      let b ← ckU (y1 * p1Bpl)
      let line1 ← plane1.range a b
      let outLine ← img.getRowT y                                        -- :1178
      let e ← convPlanarT native img.color.ch ssx p1 p2 line1 uvLine outLine 0 img.w   -- :1180
      let y' ← ckU (y + 1)                                               -- :1193
      let (yf, e') ← planarFullInnerT img native ssx p1 p2 p1Bpl plane1 uvLine rest y'
      pure (yf, e ++ e')

/-- `for_each_bi_planar` (the surface size is the image size) -/
def planarFullT (img : Img) (native : Color) (p1 p2 ssx ssy : Nat) : Option (List Ev) := do
  dbgP (img.color.psz = native.psz)                                      -- :1148
  let uvW ← divCeilT img.w ssx                                           -- :1153
  let uvLines ← divCeilT img.h ssy                                       -- :1154
  let uvBpl ← ckU (uvW * p2)                                             -- :1155
  let (lb, e0) ← LB.newT uvBpl uvLines                                   -- :1159
  let p1Bpl ← ckU (img.w * p1)                                           -- :1162
  let p1Len ← ckU (p1Bpl * img.h)                                        -- :1163 (`u64`; `alloc_read`: `usize::try_from` cannot fail on a 64-bit target)
  let plane1 : Sl := ⟨.plane1, 0, p1Len⟩
  let e1 ← whileLinesT (fun y uvLine => do
      dbgP (y < img.h)                                                   -- :1170
      planarFullInnerT img native ssx p1 p2 p1Bpl plane1 uvLine (List.range (ssy % 256)) y) (uvLines + 1) lb 0
  pure (e0 ++ [Ev.io (.alloc p1Len), Ev.io (.read p1Len)] ++ e1)

/-! ### `for_each_bi_planar_rect` (:1199) -/

/-- the `for y_offset` loop (:1250–1287) for one chroma line -/
def planarRectInnerT (img : Img) (ox oy : Nat) (native : Color) (ssx p1 p2 p1Bpl : Nat) (plane1 uvLine : Sl) :
    List Nat → Nat → Option (Nat × List Ev)
  | [], y => some (y, [])
  | _ :: rest, y =>
    if y < oy then do                                                    -- :1251
      let y' ← ckU (y + 1)                                               -- :1252
      planarRectInnerT img ox oy native ssx p1 p2 p1Bpl plane1 uvLine rest y'
    else do
      let t ← ck32 (oy + img.h)                                          -- :1255
      if y ≥ t then pure (y, [])                                         --   `break`
      else do
        let d ← subU y oy                                                -- :1259
        let a ← ckU (d * p1Bpl)
        let b ← ckU (ox * p1)                                            -- :1260
        let start ← ckU (a + b)
        let c ← ckU (img.w * p1)                                         -- :1262
        let stop ← ckU (start + c)
        let line1 ← plane1.range start stop                              -- :1261
        let d' ← subU y oy                                               -- :1264
        let outLine ← img.getRowT d'
        let q ← div ox ssx                                               -- :1266
        let uvS ← ckU (q * p2)
        let t3 ← ck32 (ox + img.w)                                       -- :1267
        let dc ← divCeilT t3 ssx
        let uvE ← ckU (dc * p2)
        let uv ← uvLine.range uvS uvE                                    -- :1269
        let off ← modT ox ssx                                            -- :1271
        let e ← convPlanarT native img.color.ch ssx p1 p2 line1 uv outLine off img.w   -- :1273
        let y' ← ckU (y + 1)                                             -- :1286
        let (yf, e') ← planarRectInnerT img ox oy native ssx p1 p2 p1Bpl plane1 uvLine rest y'
        pure (yf, e ++ e')

/-- `for_each_bi_planar_rect`: surface `W × H`, rect = the image at `(ox, oy)`.  A failing `checked_mul` (:1228) is
`Err(MemoryLimitExceeded)` before any operation: no event. -/
def planarRectT (img : Img) (W H ox oy : Nat) (native : Color) (p1 p2 ssx ssy : Nat) : Option (List Ev) := do
  dbgP (img.color.psz = native.psz)                                      -- :1212
  let uvBefore ← div oy ssy                                              -- :1217
  let hb ← divCeilT H ssy                                                -- :1218
  let t ← ck32 (oy + img.h)                                              -- :1219
  let hb2 ← divCeilT t ssy
  let uvAfter ← subU hb hb2
  let uvW ← divCeilT W ssx                                               -- :1220
  let hb' ← divCeilT H ssy                                               -- :1221
  let t1 ← subU hb' uvBefore
  let uvLines ← subU t1 uvAfter
  let uvBpl ← ckU (uvW * p2)                                             -- :1222
  let p1Bpl ← ckU (W * p1)                                               -- :1226
  if p1Bpl * img.h < USIZE then do                                       -- :1227 `checked_mul`
    let p1Len := p1Bpl * img.h
    let plane1 : Sl := ⟨.plane1, 0, p1Len⟩                               -- :1230
    let (lb, e0) ← LB.newT uvBpl uvLines                                 -- :1231
    let s1 ← ckU (p1Bpl * oy)                                            -- :1234 (`u64`)
    let t2 ← subU H oy                                                   -- :1238 (`u32`)
    let t3 ← subU t2 img.h
    let s2 ← ckU (p1Bpl * t3)
    let s3 ← ckU (uvBefore * uvBpl)                                      -- :1242
    let y0 ← ckU (uvBefore * ssy)                                        -- :1246
    let e1 ← whileLinesT (fun y uvLine => do
        let t ← ck32 (oy + img.h)                                        -- :1248
        dbgP (y < t)
        planarRectInnerT img ox oy native ssx p1 p2 p1Bpl plane1 uvLine (List.range (ssy % 256)) y) (uvLines + 1) lb y0
    let s4 ← ckU (uvAfter * uvBpl)                                       -- :1290
    pure ([Ev.io (.alloc p1Len)] ++ e0 ++
      [Ev.io (.skip s1), Ev.io (.read p1Len), Ev.io (.skip s2), Ev.io (.skip s3)] ++ e1 ++ [Ev.io (.skip s4)])
  else pure []

end Dds.TrapLoops
