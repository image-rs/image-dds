/-
Model of automatic mipmap generation.

* src/encoder.rs `Encoder::write_surface_impl`: the look-ahead gather of the mipmap sizes
  (`gatherSizes`), `MipmapCache::generate` (`selectStrategy`), `generate_from_source`,
  `generate_from_previous`, `generate_from_previous_two` as index bookkeeping (`plan`: from which
  earlier image every level is resized; image 0 is the source, image k the k-th generated level).
* src/resize.rs `resize_into`: the plain path (`Pixel<[T; N]>`: every channel on its own,
  `(acc + 0.5) as T`) and the straight-alpha path (`StraightAlpha<[T; 4]>`: premultiply,
  resize, divide by the resized alpha, with each precision's zero-alpha rule).

The external `resize` crate is a PARAMETER of the model (`Kernel`): for a filter and a pair of
sizes it yields, per output pixel, a list of taps (source pixel index, weight); the output
accumulator is `Σ wᵢ·xᵢ`. Assumed (trusted base, §4 of DESIGN.md): the taps address pixels of the
source and the weights sum to one (`Kernel.Normalised`); for Point/Box/Triangle they are also
non-negative (`Kernel.Convex`). Arithmetic is exact (`Rat`): binary32 rounding inside the
resizer is not modelled. `Aligner::align` only copies the pixel values into an aligned
contiguous buffer; in the model an image IS its pixel values, so alignment and row pitch do not
exist (the tie checks that they do not matter).
-/
import DdsModel.Encoder
namespace Dds
namespace Mip

/-- `ResizeFilter` -/
inductive Filter where
  | nearest | box | triangle | mitchell | lanczos3
deriving DecidableEq, Repr, Inhabited

/-- the three branches of `MipmapCache::generate` -/
inductive Strategy where
  | fromSource | fromPrevious | fromPreviousTwo
deriving DecidableEq, Repr, Inhabited

abbrev Sz := Nat × Nat

/-- `u32::is_power_of_two` (exactly one bit set) -/
def isPow2 (n : Nat) : Bool := n != 0 && 2 ^ n.log2 == n

/-- the look-ahead loop of `write_surface_impl`:
`while let Some(m) = lookahead.current() { if !m.is_mipmap() { break }; sizes.push(m.size()); lookahead.advance() }`.
`none` = panic inside the iterator; the fuel (255 ≥ number of levels) is never exhausted
(`C16.levels_and_sizes`). -/
def gatherSizes : Nat → SurfIter → Option (List Sz)
  | 0, _ => some []
  | fuel + 1, it =>
    match it.currentP with
    | none => none
    | some none => some []
    | some (some s) =>
      if s.level = 0 then some []
      else
        match it.advanceP with
        | none => none
        | some it' => (gatherSizes fuel it').map ((s.w, s.h) :: ·)

/-- `sizes.iter().chain(&[image.size]).all(|s| s.width.is_power_of_two() && s.height.is_power_of_two())` -/
def allPow2 (src : Sz) (sizes : List Sz) : Bool :=
  (sizes ++ [src]).all fun s => isPow2 s.1 && isPow2 s.2

/-- the decision in `MipmapCache::generate` -/
def selectStrategy (f : Filter) (src : Sz) (sizes : List Sz) : Strategy :=
  if f = .nearest then .fromSource
  else if allPow2 src sizes then
    if f = .box then .fromPrevious else .fromPreviousTwo
  else .fromSource

/-- `generate_from_source`: every level from image 0 -/
def planSource (sizes : List Sz) : List (Sz × Nat) := sizes.map fun s => (s, 0)

/-- the `for` loops of `generate_from_previous{,_two}`: the image resized next is number `src`,
and the variable holding it is replaced by the image generated one step later -/
def planLoop : List Sz → Nat → List (Sz × Nat)
  | [], _ => []
  | s :: rest, src => (s, src) :: planLoop rest (src + 1)

/-- `generate_from_previous`; `none` = panic of `sizes[0]` -/
def planPrevious : List Sz → Option (List (Sz × Nat))
  | [] => none
  | s0 :: rest => some ((s0, 0) :: planLoop rest 1)

/-- `generate_from_previous_two`; `none` = panic of `sizes[0]` -/
def planPreviousTwo : List Sz → Option (List (Sz × Nat))
  | [] => none
  | [s0] => some [(s0, 0)]
  | s0 :: s1 :: rest => some ((s0, 0) :: (s1, 0) :: planLoop rest 1)

/-- `MipmapCache::generate` as bookkeeping: the emitted levels in order, each with its size and
the number of the image it is resized from -/
def plan (f : Filter) (src : Sz) (sizes : List Sz) : Option (List (Sz × Nat)) :=
  match selectStrategy f src sizes with
  | .fromSource => some (planSource sizes)
  | .fromPrevious => planPrevious sizes
  | .fromPreviousTwo => planPreviousTwo sizes

/-! ### pixel values -/

/-- `Precision` -/
inductive Prec where
  | u8 | u16 | f32
deriving DecidableEq, Repr, Inhabited

/-- the value of "fully opaque" -/
def Prec.maxVal : Prec → Rat
  | .u8 => 255
  | .u16 => 65535
  | .f32 => 1

/-- Rust `x as uN` for a float `x`: truncate toward zero, saturate -/
def castSat (m : Nat) (v : Rat) : Rat := ((min m v.floor.toNat : Nat) : Rat)

/-- `IntoAccumulator::to_value` for one channel: `(acc + 0.5) as u8|u16`, the accumulator itself
for `f32` -/
def Prec.quant : Prec → Rat → Rat
  | .u8, v => castSat 255 (v + 1 / 2)
  | .u16, v => castSat 65535 (v + 1 / 2)
  | .f32, v => v

/-- one channel of an image, row-major -/
abbrev Plane := List Rat

structure Img where
  w : Nat
  h : Nat
  planes : List Plane
deriving Repr, Inhabited

abbrev Taps := List (Nat × Rat)

/-- the accumulator of one output pixel: `Σ wᵢ · x(i)` -/
def dot (t : Taps) (x : Nat → Rat) : Rat := (t.map fun iw => iw.2 * x iw.1).sum

def Plane.at (p : Plane) (i : Nat) : Rat := p.getD i 0

/-- the `resize` crate: taps of every output pixel (row-major) for a filter, a source size and a
destination size -/
structure Kernel where
  taps : Filter → (sw sh dw dh : Nat) → List Taps

def Taps.InRange (t : Taps) (n : Nat) : Prop := ∀ iw ∈ t, iw.1 < n
def Taps.sumW (t : Taps) : Rat := (t.map (·.2)).sum
def Taps.NonNeg (t : Taps) : Prop := ∀ iw ∈ t, 0 ≤ iw.2

/-- ASSUMPTION about every filter of the `resize` crate: one tap list per output pixel, taps
address source pixels, weights sum to one -/
def Kernel.Normalised (K : Kernel) (f : Filter) : Prop :=
  ∀ sw sh dw dh, (K.taps f sw sh dw dh).length = dw * dh ∧
    ∀ t ∈ K.taps f sw sh dw dh, t.InRange (sw * sh) ∧ t.sumW = 1

/-- ASSUMPTION about Point, Box and Triangle: additionally no negative weight -/
def Kernel.Convex (K : Kernel) (f : Filter) : Prop :=
  K.Normalised f ∧ ∀ sw sh dw dh, ∀ t ∈ K.taps f sw sh dw dh, t.NonNeg

/-- `resize_typed::<Pixel<[T; N]>>` restricted to one channel -/
def resizePlane (p : Prec) (ts : List Taps) (pl : Plane) : Plane :=
  ts.map fun t => p.quant (dot t pl.at)

/-- colour sample of `IntoStraightAlphaAccumulator::to_value`: `accC` = accumulated
premultiplied colour, `accA` = accumulated alpha -/
def saColour (p : Prec) (accC accA : Rat) : Rat :=
  match p with
  | .u8 => p.quant (accC * (if accA < 1 / 2 / 255 then 0 else 1 / accA))
  | .u16 => if p.quant accA = 0 then 0 else p.quant (accC * (1 / accA))
  | .f32 => if accA ≤ 0 then 0 else accC * (1 / accA)

/-- alpha sample of `IntoStraightAlphaAccumulator::to_value` -/
def saAlpha (p : Prec) (accA : Rat) : Rat :=
  match p with
  | .u8 => p.quant accA
  | .u16 => p.quant accA
  | .f32 => if accA ≤ 0 then 0 else accA

/-- `resize_typed::<StraightAlpha<[T; 4]>>`, one colour channel -/
def resizeColourSA (p : Prec) (ts : List Taps) (c a : Plane) : Plane :=
  ts.map fun t => saColour p (dot t fun i => c.at i * a.at i) (dot t a.at)

def resizeAlphaSA (p : Prec) (ts : List Taps) (a : Plane) : Plane :=
  ts.map fun t => saAlpha p (dot t a.at)

/-- `resize_into`: the straight-alpha path is taken iff the option is set and the colour format
is RGBA -/
def resizeImg (K : Kernel) (f : Filter) (p : Prec) (sa : Bool) (src : Img) (s : Sz) : Img :=
  let ts := K.taps f src.w src.h s.1 s.2
  match sa, src.planes with
  | true, [r, g, b, a] =>
    ⟨s.1, s.2, [resizeColourSA p ts r a, resizeColourSA p ts g a, resizeColourSA p ts b a,
                resizeAlphaSA p ts a]⟩
  | _, pls => ⟨s.1, s.2, pls.map (resizePlane p ts)⟩

/-- execute a plan: `acc` = levels generated so far; image number 0 is the source -/
def runPlan (R : Img → Sz → Img) (src : Img) : List (Sz × Nat) → List Img → List Img
  | [], acc => acc
  | (s, j) :: rest, acc => runPlan R src rest (acc ++ [R ((src :: acc).getD j src) s])

/-- `MipmapCache::generate`: the images handed to the callback, in order; `none` = panic -/
def generate (K : Kernel) (f : Filter) (p : Prec) (sa : Bool) (src : Img) (sizes : List Sz) :
    Option (List Img) :=
  (plan f (src.w, src.h) sizes).map fun pl => runPlan (resizeImg K f p sa) src pl []

/-! ### the mipmap part of `write_surface_impl` -/

/-- `get_maximum_mipmap_count` (`Header::with_mipmaps`) -/
def maxMipCount (n : Nat) : Nat := if n = 0 then 1 else n.log2 + 1

/-- What a generating `write_surface` call emits after the main surface: the state is the
encoder after `encode(main)` + `iter.advance()`. Result: sizes and source numbers of the levels
passed to `encode`, in order. `none` = panic. -/
def emitted (it : SurfIter) (f : Filter) (src : Sz) : Option (List (Sz × Nat)) :=
  match gatherSizes 255 it with
  | none => none
  | some sizes => plan f src sizes

end Mip
end Dds
