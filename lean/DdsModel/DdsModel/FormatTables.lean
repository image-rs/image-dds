/-
C19 — format tables and the detection / metadata decision procedures.

Model of
  * src/header.rs   `DxgiFormat` (valid codes, names), `FourCC` constants, `MaskPixelFormat`,
                    `RgbBitCount`, `PixelFormatFlags` bit values
  * src/pixel.rs    `TryFrom<DxgiFormat> for PixelInfo`, `From<Format> for PixelInfo`,
                    `PixelInfo::from_header`, `PixelInfo::bits_per_pixel`
  * src/format.rs   `Format`, `Format::from_header`, `TryFrom<Format> for DxgiFormat / FourCC`,
                    `Format::color`, `Format::encoding_support`
  * src/detect.rs   `special_cases`, `dxgi_format_to_supported`, `four_cc_to_dxgi`,
                    `four_cc_to_supported`, `KNOWN_PIXEL_FORMATS`, `masked_to_supported`,
                    `supported_to_masked`
  * src/encode/encoder.rs  `Flags` (bit values incl. `DITHER_ALPHA = 0x16`), `Flags::exact_for`,
                    `Flags::get_dithering`, `EncoderSet::{new,new_bc,new_bi_planar,
                    encoding_support,pick_encoder}`
  * src/encode/mod.rs      `get_encoders`, `EncodingSupport::supports_size`, `Dithering`
  * src/encode/{uncompressed,sub_sampled,bi_planar,bc}.rs  the encoder lists (colour sets, flags,
                    which kind of body each encoder has)

The ROWS of the header / detection tables follow the source: the DXGI rows (`dxgiTable`, `dxgiValid`),
`specialCases`, the FourCC tables, `maskRows` (= `KNOWN_PIXEL_FORMATS`), `TryFrom<Format> for DxgiFormat / FourCC`
(`Format.row .dxgi / .fourCC`) and the explicit arms of `From<Format> for PixelInfo` are taken from `SrcTables.lean`,
which tools/extract_tables.py regenerates from /repo's working tree on every check run. The theorems of
`Theorems/C19.lean` that are `decide` over them are therefore re-checked for the rows the code has now.
PINNED (literal Lean data): the `Format` inductive, per format the name, the layout the format definition gives
(`Format.spec .px`, the specification side of `metadata_consistent`) and the decoder's native colour, and the
encoder lists (`encoderSet`, transcribed from the macro-built lists of src/encode/*.rs). Everything is compared with
the library exhaustively on every run (cases `M`, `H` of the C19 stream); for the translated rows that comparison
validates the translator.
-/
import DdsModel.Layout
import DdsModel.SrcTables
namespace Dds.C19
open Dds

/-- src/format.rs `Format` (73 variants, declaration order of the harness list) -/
inductive Format where
  | R8G8B8_UNORM | B8G8R8_UNORM | R8G8B8A8_UNORM | R8G8B8A8_SNORM
  | B8G8R8A8_UNORM | B8G8R8X8_UNORM | B5G6R5_UNORM | B5G5R5A1_UNORM
  | B4G4R4A4_UNORM | A4B4G4R4_UNORM | R8_SNORM | R8_UNORM
  | R8G8_UNORM | R8G8_SNORM | A8_UNORM | R16_UNORM
  | R16_SNORM | R16G16_UNORM | R16G16_SNORM | R16G16B16A16_UNORM
  | R16G16B16A16_SNORM | R10G10B10A2_UNORM | R11G11B10_FLOAT | R9G9B9E5_SHAREDEXP
  | R16_FLOAT | R16G16_FLOAT | R16G16B16A16_FLOAT | R32_FLOAT
  | R32G32_FLOAT | R32G32B32_FLOAT | R32G32B32A32_FLOAT | R10G10B10_XR_BIAS_A2_UNORM
  | AYUV | Y410 | Y416 | R1_UNORM
  | R8G8_B8G8_UNORM | G8R8_G8B8_UNORM | UYVY | YUY2
  | Y210 | Y216 | NV12 | P010
  | P016 | BC1_UNORM | BC2_UNORM | BC2_UNORM_PREMULTIPLIED_ALPHA
  | BC3_UNORM | BC3_UNORM_PREMULTIPLIED_ALPHA | BC4_UNORM | BC4_SNORM
  | BC5_UNORM | BC5_SNORM | BC6H_UF16 | BC6H_SF16
  | BC7_UNORM | ASTC_4X4_UNORM | ASTC_5X4_UNORM | ASTC_5X5_UNORM
  | ASTC_6X5_UNORM | ASTC_6X6_UNORM | ASTC_8X5_UNORM | ASTC_8X6_UNORM
  | ASTC_8X8_UNORM | ASTC_10X5_UNORM | ASTC_10X6_UNORM | ASTC_10X8_UNORM
  | ASTC_10X10_UNORM | ASTC_12X10_UNORM | ASTC_12X12_UNORM | BC3_UNORM_RXGB
  | BC3_UNORM_NORMAL
deriving DecidableEq, Repr, Inhabited

/-- every format, in the order used by the case lines (`M <n>`, `D <n> ..`) -/
def Format.all : List Format :=
  [.R8G8B8_UNORM, .B8G8R8_UNORM, .R8G8B8A8_UNORM, .R8G8B8A8_SNORM,
   .B8G8R8A8_UNORM, .B8G8R8X8_UNORM, .B5G6R5_UNORM, .B5G5R5A1_UNORM,
   .B4G4R4A4_UNORM, .A4B4G4R4_UNORM, .R8_SNORM, .R8_UNORM,
   .R8G8_UNORM, .R8G8_SNORM, .A8_UNORM, .R16_UNORM,
   .R16_SNORM, .R16G16_UNORM, .R16G16_SNORM, .R16G16B16A16_UNORM,
   .R16G16B16A16_SNORM, .R10G10B10A2_UNORM, .R11G11B10_FLOAT, .R9G9B9E5_SHAREDEXP,
   .R16_FLOAT, .R16G16_FLOAT, .R16G16B16A16_FLOAT, .R32_FLOAT,
   .R32G32_FLOAT, .R32G32B32_FLOAT, .R32G32B32A32_FLOAT, .R10G10B10_XR_BIAS_A2_UNORM,
   .AYUV, .Y410, .Y416, .R1_UNORM,
   .R8G8_B8G8_UNORM, .G8R8_G8B8_UNORM, .UYVY, .YUY2,
   .Y210, .Y216, .NV12, .P010,
   .P016, .BC1_UNORM, .BC2_UNORM, .BC2_UNORM_PREMULTIPLIED_ALPHA,
   .BC3_UNORM, .BC3_UNORM_PREMULTIPLIED_ALPHA, .BC4_UNORM, .BC4_SNORM,
   .BC5_UNORM, .BC5_SNORM, .BC6H_UF16, .BC6H_SF16,
   .BC7_UNORM, .ASTC_4X4_UNORM, .ASTC_5X4_UNORM, .ASTC_5X5_UNORM,
   .ASTC_6X5_UNORM, .ASTC_6X6_UNORM, .ASTC_8X5_UNORM, .ASTC_8X6_UNORM,
   .ASTC_8X8_UNORM, .ASTC_10X5_UNORM, .ASTC_10X6_UNORM, .ASTC_10X8_UNORM,
   .ASTC_10X10_UNORM, .ASTC_12X10_UNORM, .ASTC_12X12_UNORM, .BC3_UNORM_RXGB,
   .BC3_UNORM_NORMAL]

/-- `Dds.C19.Format` and `Dds.Format` (FormatEnum.lean) are the same enumeration; the translated rows name the latter -/
def Format.toH : Format → Dds.Format
  | .R8G8B8_UNORM => .R8G8B8_UNORM
  | .B8G8R8_UNORM => .B8G8R8_UNORM
  | .R8G8B8A8_UNORM => .R8G8B8A8_UNORM
  | .R8G8B8A8_SNORM => .R8G8B8A8_SNORM
  | .B8G8R8A8_UNORM => .B8G8R8A8_UNORM
  | .B8G8R8X8_UNORM => .B8G8R8X8_UNORM
  | .B5G6R5_UNORM => .B5G6R5_UNORM
  | .B5G5R5A1_UNORM => .B5G5R5A1_UNORM
  | .B4G4R4A4_UNORM => .B4G4R4A4_UNORM
  | .A4B4G4R4_UNORM => .A4B4G4R4_UNORM
  | .R8_SNORM => .R8_SNORM
  | .R8_UNORM => .R8_UNORM
  | .R8G8_UNORM => .R8G8_UNORM
  | .R8G8_SNORM => .R8G8_SNORM
  | .A8_UNORM => .A8_UNORM
  | .R16_UNORM => .R16_UNORM
  | .R16_SNORM => .R16_SNORM
  | .R16G16_UNORM => .R16G16_UNORM
  | .R16G16_SNORM => .R16G16_SNORM
  | .R16G16B16A16_UNORM => .R16G16B16A16_UNORM
  | .R16G16B16A16_SNORM => .R16G16B16A16_SNORM
  | .R10G10B10A2_UNORM => .R10G10B10A2_UNORM
  | .R11G11B10_FLOAT => .R11G11B10_FLOAT
  | .R9G9B9E5_SHAREDEXP => .R9G9B9E5_SHAREDEXP
  | .R16_FLOAT => .R16_FLOAT
  | .R16G16_FLOAT => .R16G16_FLOAT
  | .R16G16B16A16_FLOAT => .R16G16B16A16_FLOAT
  | .R32_FLOAT => .R32_FLOAT
  | .R32G32_FLOAT => .R32G32_FLOAT
  | .R32G32B32_FLOAT => .R32G32B32_FLOAT
  | .R32G32B32A32_FLOAT => .R32G32B32A32_FLOAT
  | .R10G10B10_XR_BIAS_A2_UNORM => .R10G10B10_XR_BIAS_A2_UNORM
  | .AYUV => .AYUV
  | .Y410 => .Y410
  | .Y416 => .Y416
  | .R1_UNORM => .R1_UNORM
  | .R8G8_B8G8_UNORM => .R8G8_B8G8_UNORM
  | .G8R8_G8B8_UNORM => .G8R8_G8B8_UNORM
  | .UYVY => .UYVY
  | .YUY2 => .YUY2
  | .Y210 => .Y210
  | .Y216 => .Y216
  | .NV12 => .NV12
  | .P010 => .P010
  | .P016 => .P016
  | .BC1_UNORM => .BC1_UNORM
  | .BC2_UNORM => .BC2_UNORM
  | .BC2_UNORM_PREMULTIPLIED_ALPHA => .BC2_UNORM_PREMULTIPLIED_ALPHA
  | .BC3_UNORM => .BC3_UNORM
  | .BC3_UNORM_PREMULTIPLIED_ALPHA => .BC3_UNORM_PREMULTIPLIED_ALPHA
  | .BC4_UNORM => .BC4_UNORM
  | .BC4_SNORM => .BC4_SNORM
  | .BC5_UNORM => .BC5_UNORM
  | .BC5_SNORM => .BC5_SNORM
  | .BC6H_UF16 => .BC6H_UF16
  | .BC6H_SF16 => .BC6H_SF16
  | .BC7_UNORM => .BC7_UNORM
  | .ASTC_4X4_UNORM => .ASTC_4X4_UNORM
  | .ASTC_5X4_UNORM => .ASTC_5X4_UNORM
  | .ASTC_5X5_UNORM => .ASTC_5X5_UNORM
  | .ASTC_6X5_UNORM => .ASTC_6X5_UNORM
  | .ASTC_6X6_UNORM => .ASTC_6X6_UNORM
  | .ASTC_8X5_UNORM => .ASTC_8X5_UNORM
  | .ASTC_8X6_UNORM => .ASTC_8X6_UNORM
  | .ASTC_8X8_UNORM => .ASTC_8X8_UNORM
  | .ASTC_10X5_UNORM => .ASTC_10X5_UNORM
  | .ASTC_10X6_UNORM => .ASTC_10X6_UNORM
  | .ASTC_10X8_UNORM => .ASTC_10X8_UNORM
  | .ASTC_10X10_UNORM => .ASTC_10X10_UNORM
  | .ASTC_12X10_UNORM => .ASTC_12X10_UNORM
  | .ASTC_12X12_UNORM => .ASTC_12X12_UNORM
  | .BC3_UNORM_RXGB => .BC3_UNORM_RXGB
  | .BC3_UNORM_NORMAL => .BC3_UNORM_NORMAL

/-- inverse of `Format.toH` -/
def Format.ofH : Dds.Format → Format
  | .R8G8B8_UNORM => .R8G8B8_UNORM
  | .B8G8R8_UNORM => .B8G8R8_UNORM
  | .R8G8B8A8_UNORM => .R8G8B8A8_UNORM
  | .R8G8B8A8_SNORM => .R8G8B8A8_SNORM
  | .B8G8R8A8_UNORM => .B8G8R8A8_UNORM
  | .B8G8R8X8_UNORM => .B8G8R8X8_UNORM
  | .B5G6R5_UNORM => .B5G6R5_UNORM
  | .B5G5R5A1_UNORM => .B5G5R5A1_UNORM
  | .B4G4R4A4_UNORM => .B4G4R4A4_UNORM
  | .A4B4G4R4_UNORM => .A4B4G4R4_UNORM
  | .R8_SNORM => .R8_SNORM
  | .R8_UNORM => .R8_UNORM
  | .R8G8_UNORM => .R8G8_UNORM
  | .R8G8_SNORM => .R8G8_SNORM
  | .A8_UNORM => .A8_UNORM
  | .R16_UNORM => .R16_UNORM
  | .R16_SNORM => .R16_SNORM
  | .R16G16_UNORM => .R16G16_UNORM
  | .R16G16_SNORM => .R16G16_SNORM
  | .R16G16B16A16_UNORM => .R16G16B16A16_UNORM
  | .R16G16B16A16_SNORM => .R16G16B16A16_SNORM
  | .R10G10B10A2_UNORM => .R10G10B10A2_UNORM
  | .R11G11B10_FLOAT => .R11G11B10_FLOAT
  | .R9G9B9E5_SHAREDEXP => .R9G9B9E5_SHAREDEXP
  | .R16_FLOAT => .R16_FLOAT
  | .R16G16_FLOAT => .R16G16_FLOAT
  | .R16G16B16A16_FLOAT => .R16G16B16A16_FLOAT
  | .R32_FLOAT => .R32_FLOAT
  | .R32G32_FLOAT => .R32G32_FLOAT
  | .R32G32B32_FLOAT => .R32G32B32_FLOAT
  | .R32G32B32A32_FLOAT => .R32G32B32A32_FLOAT
  | .R10G10B10_XR_BIAS_A2_UNORM => .R10G10B10_XR_BIAS_A2_UNORM
  | .AYUV => .AYUV
  | .Y410 => .Y410
  | .Y416 => .Y416
  | .R1_UNORM => .R1_UNORM
  | .R8G8_B8G8_UNORM => .R8G8_B8G8_UNORM
  | .G8R8_G8B8_UNORM => .G8R8_G8B8_UNORM
  | .UYVY => .UYVY
  | .YUY2 => .YUY2
  | .Y210 => .Y210
  | .Y216 => .Y216
  | .NV12 => .NV12
  | .P010 => .P010
  | .P016 => .P016
  | .BC1_UNORM => .BC1_UNORM
  | .BC2_UNORM => .BC2_UNORM
  | .BC2_UNORM_PREMULTIPLIED_ALPHA => .BC2_UNORM_PREMULTIPLIED_ALPHA
  | .BC3_UNORM => .BC3_UNORM
  | .BC3_UNORM_PREMULTIPLIED_ALPHA => .BC3_UNORM_PREMULTIPLIED_ALPHA
  | .BC4_UNORM => .BC4_UNORM
  | .BC4_SNORM => .BC4_SNORM
  | .BC5_UNORM => .BC5_UNORM
  | .BC5_SNORM => .BC5_SNORM
  | .BC6H_UF16 => .BC6H_UF16
  | .BC6H_SF16 => .BC6H_SF16
  | .BC7_UNORM => .BC7_UNORM
  | .ASTC_4X4_UNORM => .ASTC_4X4_UNORM
  | .ASTC_5X4_UNORM => .ASTC_5X4_UNORM
  | .ASTC_5X5_UNORM => .ASTC_5X5_UNORM
  | .ASTC_6X5_UNORM => .ASTC_6X5_UNORM
  | .ASTC_6X6_UNORM => .ASTC_6X6_UNORM
  | .ASTC_8X5_UNORM => .ASTC_8X5_UNORM
  | .ASTC_8X6_UNORM => .ASTC_8X6_UNORM
  | .ASTC_8X8_UNORM => .ASTC_8X8_UNORM
  | .ASTC_10X5_UNORM => .ASTC_10X5_UNORM
  | .ASTC_10X6_UNORM => .ASTC_10X6_UNORM
  | .ASTC_10X8_UNORM => .ASTC_10X8_UNORM
  | .ASTC_10X10_UNORM => .ASTC_10X10_UNORM
  | .ASTC_12X10_UNORM => .ASTC_12X10_UNORM
  | .ASTC_12X12_UNORM => .ASTC_12X12_UNORM
  | .BC3_UNORM_RXGB => .BC3_UNORM_RXGB
  | .BC3_UNORM_NORMAL => .BC3_UNORM_NORMAL

/-- src/color/mod.rs `Channels` -/
inductive Channels where
  | gray | alpha | rgb | rgba
deriving DecidableEq, Repr, Inhabited

/-- src/color/mod.rs `Precision` -/
inductive Precision where
  | u8 | u16 | f32
deriving DecidableEq, Repr, Inhabited

structure ColorFormat where
  channels : Channels
  precision : Precision
deriving DecidableEq, Repr, Inhabited

/-- the 12 colour formats in the order of the case lines -/
def ColorFormat.all : List ColorFormat :=
  [⟨.gray, .u8⟩, ⟨.alpha, .u8⟩, ⟨.rgb, .u8⟩, ⟨.rgba, .u8⟩,
   ⟨.gray, .u16⟩, ⟨.alpha, .u16⟩, ⟨.rgb, .u16⟩, ⟨.rgba, .u16⟩,
   ⟨.gray, .f32⟩, ⟨.alpha, .f32⟩, ⟨.rgb, .f32⟩, ⟨.rgba, .f32⟩]

/-! ## Format rows: name, pixel layout, native colour, canonical DXGI code, FourCC written -/

/-- the pinned part of a format's row -/
structure FormatSpec where
  name : String
  /-- the layout of the format as the format definition gives it (DXGI documentation) — specification, pinned -/
  px : PixelInfo
  /-- native colour of the decoder (`Format::color`) -/
  color : ColorFormat

def Format.spec : Format → FormatSpec
  | .R8G8B8_UNORM => ⟨"R8G8B8_UNORM", .fixed 3, ⟨.rgb, .u8⟩⟩
  | .B8G8R8_UNORM => ⟨"B8G8R8_UNORM", .fixed 3, ⟨.rgb, .u8⟩⟩
  | .R8G8B8A8_UNORM => ⟨"R8G8B8A8_UNORM", .fixed 4, ⟨.rgba, .u8⟩⟩
  | .R8G8B8A8_SNORM => ⟨"R8G8B8A8_SNORM", .fixed 4, ⟨.rgba, .u8⟩⟩
  | .B8G8R8A8_UNORM => ⟨"B8G8R8A8_UNORM", .fixed 4, ⟨.rgba, .u8⟩⟩
  | .B8G8R8X8_UNORM => ⟨"B8G8R8X8_UNORM", .fixed 4, ⟨.rgb, .u8⟩⟩
  | .B5G6R5_UNORM => ⟨"B5G6R5_UNORM", .fixed 2, ⟨.rgb, .u8⟩⟩
  | .B5G5R5A1_UNORM => ⟨"B5G5R5A1_UNORM", .fixed 2, ⟨.rgba, .u8⟩⟩
  | .B4G4R4A4_UNORM => ⟨"B4G4R4A4_UNORM", .fixed 2, ⟨.rgba, .u8⟩⟩
  | .A4B4G4R4_UNORM => ⟨"A4B4G4R4_UNORM", .fixed 2, ⟨.rgba, .u8⟩⟩
  | .R8_SNORM => ⟨"R8_SNORM", .fixed 1, ⟨.gray, .u8⟩⟩
  | .R8_UNORM => ⟨"R8_UNORM", .fixed 1, ⟨.gray, .u8⟩⟩
  | .R8G8_UNORM => ⟨"R8G8_UNORM", .fixed 2, ⟨.rgb, .u8⟩⟩
  | .R8G8_SNORM => ⟨"R8G8_SNORM", .fixed 2, ⟨.rgb, .u8⟩⟩
  | .A8_UNORM => ⟨"A8_UNORM", .fixed 1, ⟨.alpha, .u8⟩⟩
  | .R16_UNORM => ⟨"R16_UNORM", .fixed 2, ⟨.gray, .u16⟩⟩
  | .R16_SNORM => ⟨"R16_SNORM", .fixed 2, ⟨.gray, .u16⟩⟩
  | .R16G16_UNORM => ⟨"R16G16_UNORM", .fixed 4, ⟨.rgb, .u16⟩⟩
  | .R16G16_SNORM => ⟨"R16G16_SNORM", .fixed 4, ⟨.rgb, .u16⟩⟩
  | .R16G16B16A16_UNORM => ⟨"R16G16B16A16_UNORM", .fixed 8, ⟨.rgba, .u16⟩⟩
  | .R16G16B16A16_SNORM => ⟨"R16G16B16A16_SNORM", .fixed 8, ⟨.rgba, .u16⟩⟩
  | .R10G10B10A2_UNORM => ⟨"R10G10B10A2_UNORM", .fixed 4, ⟨.rgba, .u16⟩⟩
  | .R11G11B10_FLOAT => ⟨"R11G11B10_FLOAT", .fixed 4, ⟨.rgb, .f32⟩⟩
  | .R9G9B9E5_SHAREDEXP => ⟨"R9G9B9E5_SHAREDEXP", .fixed 4, ⟨.rgb, .f32⟩⟩
  | .R16_FLOAT => ⟨"R16_FLOAT", .fixed 2, ⟨.gray, .f32⟩⟩
  | .R16G16_FLOAT => ⟨"R16G16_FLOAT", .fixed 4, ⟨.rgb, .f32⟩⟩
  | .R16G16B16A16_FLOAT => ⟨"R16G16B16A16_FLOAT", .fixed 8, ⟨.rgba, .f32⟩⟩
  | .R32_FLOAT => ⟨"R32_FLOAT", .fixed 4, ⟨.gray, .f32⟩⟩
  | .R32G32_FLOAT => ⟨"R32G32_FLOAT", .fixed 8, ⟨.rgb, .f32⟩⟩
  | .R32G32B32_FLOAT => ⟨"R32G32B32_FLOAT", .fixed 12, ⟨.rgb, .f32⟩⟩
  | .R32G32B32A32_FLOAT => ⟨"R32G32B32A32_FLOAT", .fixed 16, ⟨.rgba, .f32⟩⟩
  | .R10G10B10_XR_BIAS_A2_UNORM => ⟨"R10G10B10_XR_BIAS_A2_UNORM", .fixed 4, ⟨.rgba, .f32⟩⟩
  | .AYUV => ⟨"AYUV", .fixed 4, ⟨.rgba, .u8⟩⟩
  | .Y410 => ⟨"Y410", .fixed 4, ⟨.rgba, .u16⟩⟩
  | .Y416 => ⟨"Y416", .fixed 8, ⟨.rgba, .u16⟩⟩
  | .R1_UNORM => ⟨"R1_UNORM", .block 1 8 1, ⟨.gray, .u8⟩⟩
  | .R8G8_B8G8_UNORM => ⟨"R8G8_B8G8_UNORM", .block 4 2 1, ⟨.rgb, .u8⟩⟩
  | .G8R8_G8B8_UNORM => ⟨"G8R8_G8B8_UNORM", .block 4 2 1, ⟨.rgb, .u8⟩⟩
  | .UYVY => ⟨"UYVY", .block 4 2 1, ⟨.rgb, .u8⟩⟩
  | .YUY2 => ⟨"YUY2", .block 4 2 1, ⟨.rgb, .u8⟩⟩
  | .Y210 => ⟨"Y210", .block 8 2 1, ⟨.rgb, .u16⟩⟩
  | .Y216 => ⟨"Y216", .block 8 2 1, ⟨.rgb, .u16⟩⟩
  | .NV12 => ⟨"NV12", .biPlanar 1 2 2 2, ⟨.rgb, .u8⟩⟩
  | .P010 => ⟨"P010", .biPlanar 2 4 2 2, ⟨.rgb, .u16⟩⟩
  | .P016 => ⟨"P016", .biPlanar 2 4 2 2, ⟨.rgb, .u16⟩⟩
  | .BC1_UNORM => ⟨"BC1_UNORM", .block 8 4 4, ⟨.rgba, .u8⟩⟩
  | .BC2_UNORM => ⟨"BC2_UNORM", .block 16 4 4, ⟨.rgba, .u8⟩⟩
  | .BC2_UNORM_PREMULTIPLIED_ALPHA => ⟨"BC2_UNORM_PREMULTIPLIED_ALPHA", .block 16 4 4, ⟨.rgba, .u8⟩⟩
  | .BC3_UNORM => ⟨"BC3_UNORM", .block 16 4 4, ⟨.rgba, .u8⟩⟩
  | .BC3_UNORM_PREMULTIPLIED_ALPHA => ⟨"BC3_UNORM_PREMULTIPLIED_ALPHA", .block 16 4 4, ⟨.rgba, .u8⟩⟩
  | .BC4_UNORM => ⟨"BC4_UNORM", .block 8 4 4, ⟨.gray, .u8⟩⟩
  | .BC4_SNORM => ⟨"BC4_SNORM", .block 8 4 4, ⟨.gray, .u8⟩⟩
  | .BC5_UNORM => ⟨"BC5_UNORM", .block 16 4 4, ⟨.rgb, .u8⟩⟩
  | .BC5_SNORM => ⟨"BC5_SNORM", .block 16 4 4, ⟨.rgb, .u8⟩⟩
  | .BC6H_UF16 => ⟨"BC6H_UF16", .block 16 4 4, ⟨.rgb, .f32⟩⟩
  | .BC6H_SF16 => ⟨"BC6H_SF16", .block 16 4 4, ⟨.rgb, .f32⟩⟩
  | .BC7_UNORM => ⟨"BC7_UNORM", .block 16 4 4, ⟨.rgba, .u8⟩⟩
  | .ASTC_4X4_UNORM => ⟨"ASTC_4X4_UNORM", .block 16 4 4, ⟨.rgba, .u8⟩⟩
  | .ASTC_5X4_UNORM => ⟨"ASTC_5X4_UNORM", .block 16 5 4, ⟨.rgba, .u8⟩⟩
  | .ASTC_5X5_UNORM => ⟨"ASTC_5X5_UNORM", .block 16 5 5, ⟨.rgba, .u8⟩⟩
  | .ASTC_6X5_UNORM => ⟨"ASTC_6X5_UNORM", .block 16 6 5, ⟨.rgba, .u8⟩⟩
  | .ASTC_6X6_UNORM => ⟨"ASTC_6X6_UNORM", .block 16 6 6, ⟨.rgba, .u8⟩⟩
  | .ASTC_8X5_UNORM => ⟨"ASTC_8X5_UNORM", .block 16 8 5, ⟨.rgba, .u8⟩⟩
  | .ASTC_8X6_UNORM => ⟨"ASTC_8X6_UNORM", .block 16 8 6, ⟨.rgba, .u8⟩⟩
  | .ASTC_8X8_UNORM => ⟨"ASTC_8X8_UNORM", .block 16 8 8, ⟨.rgba, .u8⟩⟩
  | .ASTC_10X5_UNORM => ⟨"ASTC_10X5_UNORM", .block 16 10 5, ⟨.rgba, .u8⟩⟩
  | .ASTC_10X6_UNORM => ⟨"ASTC_10X6_UNORM", .block 16 10 6, ⟨.rgba, .u8⟩⟩
  | .ASTC_10X8_UNORM => ⟨"ASTC_10X8_UNORM", .block 16 10 8, ⟨.rgba, .u8⟩⟩
  | .ASTC_10X10_UNORM => ⟨"ASTC_10X10_UNORM", .block 16 10 10, ⟨.rgba, .u8⟩⟩
  | .ASTC_12X10_UNORM => ⟨"ASTC_12X10_UNORM", .block 16 12 10, ⟨.rgba, .u8⟩⟩
  | .ASTC_12X12_UNORM => ⟨"ASTC_12X12_UNORM", .block 16 12 12, ⟨.rgba, .u8⟩⟩
  | .BC3_UNORM_RXGB => ⟨"BC3_UNORM_RXGB", .block 16 4 4, ⟨.rgb, .u8⟩⟩
  | .BC3_UNORM_NORMAL => ⟨"BC3_UNORM_NORMAL", .block 16 4 4, ⟨.rgb, .u8⟩⟩

structure FormatRow where
  name : String
  /-- the layout of the format as the format definition gives it (DXGI documentation) -/
  px : PixelInfo
  /-- native colour of the decoder (`Format::color`) -/
  color : ColorFormat
  /-- `TryFrom<Format> for DxgiFormat` (translated: `SrcTables.formatToDxgi`) -/
  dxgi : Option Nat
  /-- `TryFrom<Format> for FourCC` (translated: `SrcTables.formatToFourCC`) -/
  fourCC : Option Nat

def Format.row (f : Format) : FormatRow :=
  { name := f.spec.name, px := f.spec.px, color := f.spec.color,
    dxgi := SrcTables.formatToDxgi.lookup f.toH, fourCC := SrcTables.formatToFourCC.lookup f.toH }

def Format.name (f : Format) : String := f.row.name

/-! ## DXGI codes -/

structure DxgiRow where
  code : Nat
  name : String
  /-- `TryFrom<DxgiFormat> for PixelInfo` (`none` = `Err(())`) -/
  px : Option PixelInfo
  /-- `detect::dxgi_format_to_supported` -/
  fmt : Option Format

/-- one row per named `DxgiFormat` constant (rows translated from `define_dxgi_formats!`, `TryFrom<DxgiFormat> for
PixelInfo` and `dxgi_format_to_supported`); `dxgi_codes_complete`: these are exactly the accepted codes -/
def dxgiTable : List DxgiRow :=
  SrcTables.dxgiNamed.map fun r => ⟨r.code, r.name, r.px, r.supported.map Format.ofH⟩

def dxgiRow? (code : Nat) : Option DxgiRow := dxgiTable.find? (·.code == code)

/-- `DxgiFormat::try_from(code).is_ok()`: the runs of accepted codes, translated from the source's range pattern -/
def dxgiValid (v : Nat) : Bool := SrcTables.dxgiValidRanges.any fun r => decide (r.1 ≤ v) && decide (v ≤ r.2)

/-- `PixelInfo::try_from(dxgi)` -/
def dxgiPixelInfo (code : Nat) : Option PixelInfo := (dxgiRow? code).bind (·.px)

/-- `detect::dxgi_format_to_supported` -/
def dxgiToFormat (code : Nat) : Option Format := (dxgiRow? code).bind (·.fmt)

/-- `detect::special_cases` (rows translated: alpha mode `Premultiplied = 2` with BC2_UNORM (74) / BC3_UNORM (77)) -/
def specialCases (code alphaMode : Nat) : Option Format :=
  (SrcTables.specialCases.find? fun t => t.1 == alphaMode && t.2.1 == code).map fun t => Format.ofH t.2.2

/-! ## FourCC -/

/-- little-endian ASCII FourCC -/
def fcc (a b c d : Char) : Nat := a.toNat + 256 * b.toNat + 65536 * c.toNat + 16777216 * d.toNat

def FCC_DXT1 := fcc 'D' 'X' 'T' '1'
def FCC_DXT2 := fcc 'D' 'X' 'T' '2'
def FCC_DXT3 := fcc 'D' 'X' 'T' '3'
def FCC_DXT4 := fcc 'D' 'X' 'T' '4'
def FCC_DXT5 := fcc 'D' 'X' 'T' '5'
def FCC_RXGB := fcc 'R' 'X' 'G' 'B'
def FCC_ATI1 := fcc 'A' 'T' 'I' '1'
def FCC_BC4U := fcc 'B' 'C' '4' 'U'
def FCC_BC4S := fcc 'B' 'C' '4' 'S'
def FCC_ATI2 := fcc 'A' 'T' 'I' '2'
def FCC_BC5U := fcc 'B' 'C' '5' 'U'
def FCC_BC5S := fcc 'B' 'C' '5' 'S'
def FCC_RGBG := fcc 'R' 'G' 'B' 'G'
def FCC_GRGB := fcc 'G' 'R' 'G' 'B'
def FCC_YUY2 := fcc 'Y' 'U' 'Y' '2'
def FCC_UYVY := fcc 'U' 'Y' 'V' 'Y'

/-- `detect::four_cc_to_dxgi` (first stage of `four_cc_to_supported`; rows translated) -/
def fourCCDxgiTable : List (Nat × Nat) := SrcTables.fourCCToDxgi

/-- second stage of `four_cc_to_supported`: FourCCs without DXGI equivalent (rows translated) -/
def fourCCDirectTable : List (Nat × Format) := SrcTables.fourCCDirect.map fun p => (p.1, Format.ofH p.2)

def fourCCToDxgi (cc : Nat) : Option Nat := (fourCCDxgiTable.find? (·.1 == cc)).map (·.2)

/-- `detect::four_cc_to_supported` = `Format::from_four_cc` -/
def fourCCToFormat (cc : Nat) : Option Format :=
  match fourCCToDxgi cc with
  | some dx => dxgiToFormat dx
  | none => (fourCCDirectTable.find? (·.1 == cc)).map (·.2)

/-! ## Mask pixel formats -/

/-- src/header.rs `MaskPixelFormat`; `bitCount` is the numeric value of `RgbBitCount` -/
structure MaskPF where
  flags : Nat
  bitCount : Nat
  r : Nat
  g : Nat
  b : Nat
  a : Nat
deriving DecidableEq, Repr, Inhabited

structure MaskRow where
  pat : MaskPF
  dxgi : Option Nat
  fmt : Format

-- PixelFormatFlags bit values
def PF_ALPHAPIXELS := 0x1
def PF_ALPHA := 0x2
def PF_RGB := 0x40
def PF_RGBA := 0x41
def PF_LUMINANCE := 0x20000
def PF_LUMINANCE_ALPHA := 0x20001
def PF_BUMP_DUDV := 0x80000

/-- `detect::KNOWN_PIXEL_FORMATS`, in table order (the first matching row wins); rows translated -/
def maskRows : List MaskRow :=
  SrcTables.knownPixelFormats.map fun r => ⟨⟨r.flags, r.bitCount, r.r, r.g, r.b, r.a⟩, r.dxgi, Format.ofH r.fmt⟩

/-- `PFPattern::matches` -/
def MaskRow.matches (row : MaskRow) (pf : MaskPF) : Bool :=
  pf.flags == row.pat.flags && pf.bitCount == row.pat.bitCount && pf.r == row.pat.r &&
  pf.g == row.pat.g && pf.b == row.pat.b && pf.a == row.pat.a

/-- `detect::masked_to_supported`: `find_map` over the table -/
def maskFind (pf : MaskPF) : List MaskRow → Option Format
  | [] => none
  | row :: rest => if row.matches pf then some row.fmt else maskFind pf rest

def maskToFormat (pf : MaskPF) : Option Format := maskFind pf maskRows

/-- `detect::supported_to_masked`: the first row of the format -/
def formatToMask (f : Format) : Option MaskPF := (maskRows.find? (·.fmt == f)).map (·.pat)

/-- `RgbBitCount::try_from(u32)` accepts exactly these -/
def bitCountValid (n : Nat) : Bool := n == 8 || n == 16 || n == 24 || n == 32

/-! ## `From<Format> for PixelInfo`, headers -/

/-- `impl From<Format> for PixelInfo`: the explicit arms (rows translated: `SrcTables.formatPixelInfoDirect`),
everything else through the canonical DXGI code and the DXGI table with two `unwrap()`s; `none` = panic. -/
def formatPixelInfoP (f : Format) : Option PixelInfo :=
  match SrcTables.formatPixelInfoDirect.lookup f.toH with
  | some p => some p
  | none =>
    match f.row.dxgi with
    | none => none
    | some dx => dxgiPixelInfo dx

/-- the header shapes a format can be detected from (what `Format::from_header` looks at) -/
inductive Hdr where
  /-- `Header::Dx10`: DXGI code and alpha mode (resource dimension, misc flags, array size and
  sizes are not consulted by either function) -/
  | dx10 (code alphaMode : Nat)
  | fourCC (cc : Nat)
  | mask (pf : MaskPF)
deriving Repr, Inhabited

/-- what the typed `Header` guarantees by construction -/
def Hdr.Valid : Hdr → Prop
  | .dx10 code alphaMode => dxgiValid code = true ∧ alphaMode < 5
  | .fourCC _ => True
  | .mask pf => bitCountValid pf.bitCount = true

inductive FmtErr where
  | dxgi | fourCC | mask
deriving DecidableEq, Repr, Inhabited

/-- `Format::from_header` -/
def formatOfHeader : Hdr → Except FmtErr Format
  | .dx10 code alphaMode =>
    match specialCases code alphaMode with
    | some f => .ok f
    | none =>
      match dxgiToFormat code with
      | some f => .ok f
      | none => .error .dxgi
  | .fourCC cc =>
    match fourCCToFormat cc with
    | some f => .ok f
    | none => .error .fourCC
  | .mask pf =>
    match maskToFormat pf with
    | some f => .ok f
    | none => .error .mask

/-- `PixelInfo::from_header`; outer `none` = panic (of the `unwrap`s in `From<Format>`) -/
def pixelInfoOfHeaderP : Hdr → Option (Except FmtErr PixelInfo)
  | .dx10 code _ =>
    match dxgiPixelInfo code with
    | some p => some (.ok p)
    | none => some (.error .dxgi)
  | .fourCC cc =>
    match fourCCToFormat cc with
    | some f => (formatPixelInfoP f).map .ok
    | none => some (.error .fourCC)
  | .mask pf => some (.ok (.fixed ((pf.bitCount % 256) / 8)))

/-- `PixelInfo::bits_per_pixel` -/
def bitsPerPixel : PixelInfo → Nat
  | .fixed b => b * 8
  | .block bytes bw bh => divCeil (bytes * 8) (bw * bh % 256)
  | .biPlanar p1 p2 sx sy => p1 * 8 + divCeil (p2 * 8) (sx * sy)

/-- bits per pixel as the format definition gives them: the limit of `8·bytes/pixels` for large
surfaces, rounded up (evaluated on a surface whose sides are multiples of every block size) -/
def bitsPerPixelSpec (p : PixelInfo) : Nat :=
  let n := 27720 -- lcm(1..12): a multiple of every block width / height / sub-sampling factor
  (8 * p.surfIdeal n n + n * n - 1) / (n * n)

/-! ## Encoders -/

/-- src/encode/mod.rs `Dithering` as the pair (colour, alpha) of `Dithering::new` -/
structure Dithering where
  color : Bool
  alpha : Bool
deriving DecidableEq, Repr, Inhabited

def Dithering.none : Dithering := ⟨false, false⟩
def Dithering.all : List Dithering := [⟨false, false⟩, ⟨true, false⟩, ⟨false, true⟩, ⟨true, true⟩]
/-- `Dithering::intersect` -/
def Dithering.intersect (a b : Dithering) : Dithering := ⟨a.color && b.color, a.alpha && b.alpha⟩
def Dithering.union (a b : Dithering) : Dithering := ⟨a.color || b.color, a.alpha || b.alpha⟩

/-- channel groups -/
inductive Group where
  | color | alpha
deriving DecidableEq, Repr

def Dithering.has (d : Dithering) : Group → Bool
  | .color => d.color
  | .alpha => d.alpha

/-- `ColorFormatSet` as used by the encoder table -/
inductive ColorSet where
  | single (c : ColorFormat)
  | ofPrec (p : Precision)
  | all
deriving DecidableEq, Repr

def ColorSet.contains : ColorSet → ColorFormat → Bool
  | .single c, x => c == x
  | .ofPrec p, x => p == x.precision
  | .all, _ => true

/-- the flags of an encoder as the source *means* them -/
structure SymFlags where
  /-- highest precision encoded exactly (`EXACT_F32` implies `EXACT_U16` implies `EXACT_U8`) -/
  exact : Option Precision
  ditherColor : Bool
  ditherAlpha : Bool
deriving DecidableEq, Repr

-- src/encode/encoder.rs `Flags` bit values, as written in the source
def FLAG_EXACT_U8 : Nat := 0x1
def FLAG_EXACT_U16 : Nat := 0x2 ||| FLAG_EXACT_U8
def FLAG_EXACT_F32 : Nat := 0x4 ||| FLAG_EXACT_U16
def FLAG_DITHER_COLOR : Nat := 0x8
/-- sic: `0x16`, not `0x10` — overlaps the bits `0x2` and `0x4` of `EXACT_U16` / `EXACT_F32` -/
def FLAG_DITHER_ALPHA : Nat := 0x16
def FLAG_DITHER_ALL : Nat := FLAG_DITHER_COLOR ||| FLAG_DITHER_ALPHA

/-- `Flags::exact_for` -/
def exactFor : Precision → Nat
  | .u8 => FLAG_EXACT_U8
  | .u16 => FLAG_EXACT_U16
  | .f32 => FLAG_EXACT_F32

/-- the `u8` actually stored for an encoder -/
def SymFlags.bits (s : SymFlags) : Nat :=
  (match s.exact with | none => 0 | some p => exactFor p) |||
  (if s.ditherColor then FLAG_DITHER_COLOR else 0) |||
  (if s.ditherAlpha then FLAG_DITHER_ALPHA else 0)

/-- bitflags `contains` -/
def flagsContain (a b : Nat) : Bool := a &&& b == b
/-- bitflags `intersects` (NOT used by the source; here for the comparison theorem) -/
def flagsIntersect (a b : Nat) : Bool := a &&& b != 0

/-- `Flags::get_dithering` -/
def getDithering (bits : Nat) : Dithering :=
  ⟨flagsContain bits FLAG_DITHER_COLOR, flagsContain bits FLAG_DITHER_ALPHA⟩

def Precision.rank : Precision → Nat
  | .u8 => 1 | .u16 => 2 | .f32 => 3

/-- the intended meaning of "exact for precision p" -/
def SymFlags.exactAt (s : SymFlags) (p : Precision) : Bool :=
  match s.exact with
  | none => false
  | some q => p.rank ≤ q.rank

/-- which `Dithering` component an encoder body hands to a block encoder -/
inductive Switch where
  | color | alpha
deriving DecidableEq, Repr

def Switch.on (s : Switch) (d : Dithering) : Bool :=
  match s with
  | .color => d.color
  | .alpha => d.alpha

/-- src/encode/bc.rs: which switch reaches which block encoder -/
structure BcWiring where
  /-- switch handed to the encoder(s) of the colour data (`get_bc1_options` / `get_bc4_options`:
  `options.dithering.color()`) -/
  colorBlock : Switch
  /-- switch handed to the encoder of the separately stored alpha block (BC2: `bc2_alpha`,
  BC3: `bc4_options.dither` for `get_alpha(&block)`); `none`: no alpha block is stored -/
  alphaBlock : Option Switch
  /-- `options.dithering.alpha()` rewrites the pixels before the *joint* colour+alpha block is
  compressed (BC1 punch-through alpha, BC7) -/
  alphaJoint : Bool
deriving DecidableEq, Repr

/-- what the body of an encoder does with `options.dithering` -/
inductive EncKind where
  /-- never reads it (`copy_directly`, `uncompressed_untyped`, `uncompressed_universal`,
  `uncompressed_universal_subsample`, `bi_planar_universal`) -/
  | plain
  /-- `uncompressed_universal_dither`: Floyd–Steinberg with `error_mask` from `options.dithering` -/
  | fsDither
  /-- R1_UNORM's second encoder: ordered (Bayer) dithering, unconditional once picked -/
  | bayer
  | bc (w : BcWiring)
deriving DecidableEq, Repr

structure Enc where
  colors : ColorSet
  flags : SymFlags
  kind : EncKind
deriving DecidableEq, Repr

/-- `Encoder::copy(color)` -/
def Enc.copy (c : ColorFormat) : Enc := ⟨.single c, ⟨some c.precision, false, false⟩, .plain⟩
/-- `color_convert!(target)` -/
def Enc.convert (c : ColorFormat) : Enc := ⟨.ofPrec c.precision, ⟨some c.precision, false, false⟩, .plain⟩
/-- `Encoder::new(ColorFormatSet::U8, Flags::EXACT_U8, ..)` -/
def Enc.u8Only : Enc := ⟨.ofPrec .u8, ⟨some .u8, false, false⟩, .plain⟩
/-- `universal!(..)` / `universal_subsample!(..)` / `Encoder::new_universal(..)` -/
def Enc.universal : Enc := ⟨.all, ⟨none, false, false⟩, .plain⟩
/-- `universal!(..).add_flags(Flags::EXACT_x)` -/
def Enc.universalExact (p : Precision) : Enc := ⟨.all, ⟨some p, false, false⟩, .plain⟩
/-- `universal_dither!(..)` with `DITHER_COLOR` (gray, rg, explicit) -/
def Enc.ditherC : Enc := ⟨.all, ⟨none, true, false⟩, .fsDither⟩
/-- `universal_dither!(..)` with `DITHER_ALPHA` -/
def Enc.ditherA : Enc := ⟨.all, ⟨none, false, true⟩, .fsDither⟩
/-- `universal_dither!(..)` with `DITHER_ALL` -/
def Enc.ditherCA : Enc := ⟨.all, ⟨none, true, true⟩, .fsDither⟩
def Enc.bcC (w : BcWiring) : Enc := ⟨.all, ⟨none, true, false⟩, .bc w⟩
def Enc.bcCA (w : BcWiring) : Enc := ⟨.all, ⟨none, true, true⟩, .bc w⟩

/-- which `EncoderSet` constructor -/
inductive SetCtor where
  | plain | bc | biPlanar
deriving DecidableEq, Repr

structure EncSet where
  ctor : SetCtor
  encs : List Enc
deriving Repr

def gU8 : ColorFormat := ⟨.gray, .u8⟩
def aU8 : ColorFormat := ⟨.alpha, .u8⟩
def rgbU8 : ColorFormat := ⟨.rgb, .u8⟩
def rgbaU8 : ColorFormat := ⟨.rgba, .u8⟩
def gU16 : ColorFormat := ⟨.gray, .u16⟩
def rgbaU16 : ColorFormat := ⟨.rgba, .u16⟩
def gF32 : ColorFormat := ⟨.gray, .f32⟩
def rgbF32 : ColorFormat := ⟨.rgb, .f32⟩
def rgbaF32 : ColorFormat := ⟨.rgba, .f32⟩

/-- colour blocks only, colour switch (BC4, BC5, RXGB, NORMAL: every stored block carries colour) -/
def wColorOnly : BcWiring := ⟨.color, none, false⟩
/-- BC2 / BC3 (+ premultiplied): alpha block follows the alpha switch, colour block the colour switch -/
def wSeparate : BcWiring := ⟨.color, some .alpha, false⟩
/-- BC1, BC7: one joint block; alpha dithering rewrites its input -/
def wJoint : BcWiring := ⟨.color, none, true⟩

/-- `encode::get_encoders` with the lists of uncompressed.rs / sub_sampled.rs / bi_planar.rs / bc.rs -/
def encoderSet : Format → Option EncSet
  | .R8G8B8_UNORM => some ⟨.plain, [.copy rgbU8, .convert rgbU8, .universal, .ditherC]⟩
  | .B8G8R8_UNORM => some ⟨.plain, [.u8Only, .universal, .ditherC]⟩
  | .R8G8B8A8_UNORM => some ⟨.plain, [.copy rgbaU8, .convert rgbaU8, .universal, .ditherCA]⟩
  | .R8G8B8A8_SNORM => some ⟨.plain, [.convert rgbaU8, .universal, .ditherCA]⟩
  | .B8G8R8A8_UNORM => some ⟨.plain, [.u8Only, .universal, .ditherCA]⟩
  | .B8G8R8X8_UNORM => some ⟨.plain, [.u8Only, .universal, .ditherC]⟩
  | .B5G6R5_UNORM => some ⟨.plain, [.universal, .ditherC]⟩
  | .B5G5R5A1_UNORM => some ⟨.plain, [.universal, .ditherCA]⟩
  | .B4G4R4A4_UNORM => some ⟨.plain, [.universal, .ditherCA]⟩
  | .A4B4G4R4_UNORM => some ⟨.plain, [.universal, .ditherCA]⟩
  | .R8_SNORM => some ⟨.plain, [.convert gU8, .universal, .ditherC]⟩
  | .R8_UNORM => some ⟨.plain, [.copy gU8, .convert gU8, .universal, .ditherC]⟩
  | .R8G8_UNORM => some ⟨.plain, [.universalExact .u8, .ditherC]⟩
  | .R8G8_SNORM => some ⟨.plain, [.universalExact .u8, .ditherC]⟩
  | .A8_UNORM => some ⟨.plain, [.copy aU8, .convert aU8, .universal, .ditherA]⟩
  | .R16_UNORM => some ⟨.plain, [.copy gU16, .convert gU16, .universal, .ditherC]⟩
  | .R16_SNORM => some ⟨.plain, [.convert gU16, .universal, .ditherC]⟩
  | .R16G16_UNORM => some ⟨.plain, [.universalExact .u16, .ditherC]⟩
  | .R16G16_SNORM => some ⟨.plain, [.universalExact .u16, .ditherC]⟩
  | .R16G16B16A16_UNORM => some ⟨.plain, [.copy rgbaU16, .convert rgbaU16, .universal, .ditherCA]⟩
  | .R16G16B16A16_SNORM => some ⟨.plain, [.convert rgbaU16, .universal, .ditherCA]⟩
  | .R10G10B10A2_UNORM => some ⟨.plain, [.universal, .ditherCA]⟩
  | .R11G11B10_FLOAT => some ⟨.plain, [.universal, .ditherC]⟩
  | .R9G9B9E5_SHAREDEXP => some ⟨.plain, [.universalExact .u8, .ditherC]⟩
  | .R16_FLOAT => some ⟨.plain, [.universalExact .u8, .ditherC]⟩
  | .R16G16_FLOAT => some ⟨.plain, [.universalExact .u8, .ditherC]⟩
  | .R16G16B16A16_FLOAT => some ⟨.plain, [.universalExact .u8, .ditherCA]⟩
  | .R32_FLOAT => some ⟨.plain, [.copy gF32, .convert gF32, .universal]⟩
  | .R32G32_FLOAT => some ⟨.plain, [.universalExact .f32]⟩
  | .R32G32B32_FLOAT => some ⟨.plain, [.copy rgbF32, .convert rgbF32, .universal]⟩
  | .R32G32B32A32_FLOAT => some ⟨.plain, [.copy rgbaF32, .convert rgbaF32, .universal]⟩
  | .R10G10B10_XR_BIAS_A2_UNORM => some ⟨.plain, [.universal, .ditherCA]⟩
  | .AYUV => some ⟨.plain, [.universal, .ditherCA]⟩
  | .Y410 => some ⟨.plain, [.universal, .ditherCA]⟩
  | .Y416 => some ⟨.plain, [.universalExact .u8, .ditherCA]⟩
  | .R1_UNORM => some ⟨.plain, [.universal, ⟨.all, ⟨none, true, false⟩, .bayer⟩]⟩
  | .R8G8_B8G8_UNORM => some ⟨.plain, [.universalExact .u8]⟩
  | .G8R8_G8B8_UNORM => some ⟨.plain, [.universalExact .u8]⟩
  | .UYVY => some ⟨.plain, [.universal]⟩
  | .YUY2 => some ⟨.plain, [.universal]⟩
  | .Y210 => some ⟨.plain, [.universalExact .u8]⟩
  | .Y216 => some ⟨.plain, [.universalExact .u8]⟩
  | .NV12 => some ⟨.biPlanar, [.universal]⟩
  | .P010 => some ⟨.biPlanar, [.universal]⟩
  | .P016 => some ⟨.biPlanar, [.universal]⟩
  | .BC1_UNORM => some ⟨.bc, [.bcCA wJoint]⟩
  | .BC2_UNORM => some ⟨.bc, [.bcCA wSeparate]⟩
  | .BC2_UNORM_PREMULTIPLIED_ALPHA => some ⟨.bc, [.bcCA wSeparate]⟩
  | .BC3_UNORM => some ⟨.bc, [.bcCA wSeparate]⟩
  | .BC3_UNORM_PREMULTIPLIED_ALPHA => some ⟨.bc, [.bcCA wSeparate]⟩
  | .BC4_UNORM => some ⟨.bc, [.bcC wColorOnly]⟩
  | .BC4_SNORM => some ⟨.bc, [.bcC wColorOnly]⟩
  | .BC5_UNORM => some ⟨.bc, [.bcC wColorOnly]⟩
  | .BC5_SNORM => some ⟨.bc, [.bcC wColorOnly]⟩
  | .BC7_UNORM => some ⟨.bc, [.bcCA wJoint]⟩
  | .BC3_UNORM_RXGB => some ⟨.bc, [.bcC wColorOnly]⟩
  | .BC3_UNORM_NORMAL => some ⟨.bc, [.bcC wColorOnly]⟩
  | .BC6H_UF16 | .BC6H_SF16 => none
  | .ASTC_4X4_UNORM | .ASTC_5X4_UNORM | .ASTC_5X5_UNORM | .ASTC_6X5_UNORM | .ASTC_6X6_UNORM
  | .ASTC_8X5_UNORM | .ASTC_8X6_UNORM | .ASTC_8X8_UNORM | .ASTC_10X5_UNORM | .ASTC_10X6_UNORM
  | .ASTC_10X8_UNORM | .ASTC_10X10_UNORM | .ASTC_12X10_UNORM | .ASTC_12X12_UNORM => none

/-- src/encode/mod.rs `EncodingSupport` (public part) -/
structure Support where
  dithering : Dithering
  splitHeight : Option Nat
  localDithering : Bool
  sizeMultiple : Option (Nat × Nat)
deriving DecidableEq, Repr

/-- `EncoderSet::new`: union of the stored flag bytes -/
def EncSet.combinedBits (s : EncSet) : Nat := s.encs.foldl (fun acc e => acc ||| e.flags.bits) 0

/-- `EncoderSet::{new,new_bc,new_bi_planar}` followed by `EncoderSet::encoding_support` -/
def EncSet.support (s : EncSet) : Support :=
  { dithering := getDithering s.combinedBits
    splitHeight := match s.ctor with | .plain => some 1 | .bc => some 4 | .biPlanar => none
    localDithering := s.ctor == .bc
    sizeMultiple := match s.ctor with | .biPlanar => some (2, 2) | _ => none }

/-- `Format::encoding_support` -/
def encodingSupport (f : Format) : Option Support := (encoderSet f).map (·.support)

/-- `EncodingSupport::supports_size` -/
def Support.supportsSize (s : Support) (w h : Nat) : Bool :=
  match s.sizeMultiple with
  | some (mw, mh) => w % mw == 0 && h % mh == 0
  | none => true

/-- `EncoderSet::pick_encoder` over the encoders accepting the colour: index of the chosen
encoder; `none` = the `expect("all color formats to be supported")` panics -/
def pickFrom (cands : List (Enc × Nat)) (c : ColorFormat) (d : Dithering) : Option Nat :=
  match cands.find? (fun e => flagsContain e.1.flags.bits (exactFor c.precision)) with
  | some e => some e.2
  | none =>
    match (if d ≠ Dithering.none then
             cands.find? (fun e => (getDithering e.1.flags.bits).intersect d ≠ Dithering.none)
           else none) with
    | some e => some e.2
    | none => cands.head?.map (·.2)

def EncSet.candidates (s : EncSet) (c : ColorFormat) : List (Enc × Nat) :=
  s.encs.zipIdx.filter (fun e => e.1.colors.contains c)

def EncSet.pick (s : EncSet) (c : ColorFormat) (d : Dithering) : Option Nat :=
  pickFrom (s.candidates c) c d

/-- The channel groups whose stored values an encoder body actually dithers when run with option
`d`.  `fsDither`: `error_mask` has the requested groups and the quantiser closure diffuses only the
groups it encodes, which are the groups of its flags (gray/rg/rgb closures feed constant 1.0 back
for the others).  `bc`: the switches of the wiring. -/
def Enc.effective (e : Enc) (d : Dithering) : Dithering :=
  match e.kind with
  | .plain => Dithering.none
  | .fsDither => d.intersect ⟨e.flags.ditherColor, e.flags.ditherAlpha⟩
  | .bayer => ⟨true, false⟩
  | .bc w =>
    ⟨w.colorBlock.on d,
     (match w.alphaBlock with | some s => s.on d | none => false) || (w.alphaJoint && d.alpha)⟩

/-- effective dithering of encoding colour `c` with option `d` in format `f` -/
def effectiveDithering (f : Format) (c : ColorFormat) (d : Dithering) : Option Dithering :=
  match encoderSet f with
  | none => none
  | some s =>
    match s.pick c d with
    | none => none
    | some i => (s.encs[i]?).map (·.effective d)

/-- does the format store alpha separately from colour (clause (c) of C19)?  Everything that is not
block compressed does (possibly with no alpha bits at all); a BC format does when no switch rewrites
a joint block. -/
def alphaIndependent (f : Format) : Bool :=
  match encoderSet f with
  | none => false
  | some s => s.encs.all fun e =>
      match e.kind with
      | .bc w => !w.alphaJoint
      | _ => true

end Dds.C19
