/-
Trapping mirrors of the MIPMAP-GENERATING part of the encoder: buffer handling and index arithmetic of
`src/resize.rs` and of `MipmapCache` / `write_surface_impl` in `src/encoder.rs`.

Style of `Trap.lean` / `TrapEnc.lean`: every operation that can panic in the `checked` profile (overflow checks and
debug assertions on; slice bounds, `copy_from_slice`, `expect`, `Vec` capacity overflow panic in every profile)
returns `Option`, `none` = panic.  Only addresses and lengths are modelled — whether one of these operations panics
depends on nothing else.  Pixel VALUES are `Mip.lean`'s (`runPlan` over the plan this mirror returns); the byte
values an alignment copy hands on are `alignBytes` below.

A `&[u8]` is `Sl` (address, length); a `Vec<u32>` is `VecBuf` (address, `len()`, `capacity()`, in elements).  The
allocator is a parameter `al` (old vector, new capacity ↦ address); ASSUMED: its results are 4-aligned
(`align_of::<u32>()`); an allocation FAILURE aborts and is outside the model.

The `resize` crate (0.8.9) is an external call with this ASSUMED contract, read from its `lib.rs`:
* `Resizer::new(w1, h1, w2, h2, ..)` (lib.rs:398 `Scale::new`) is `Err(InvalidParameters)` iff one of the four sizes
  is 0 (`NonZeroUsize::new(..).ok_or(..)?`, `dest_width == 0 || dest_height == 0`); otherwise `Ok` (its
  `try_reserve`s fail only when the allocator fails).
* `Resizer::resize(src, dst)` (lib.rs:583 `resize_internal`, stride = `w1`) is `Err(InvalidParameters)` iff
  `src.len() < w1 * h1` or `dst.len() != w2 * h2` (the rayon variant's `dst.len() < w2 * h2` is implied); otherwise `Ok`
  (`try_reserve_exact(w2 * h1)` accumulators: allocator).  Neither call panics; `resize_typed` turns every `Err` into a
  panic with `expect`.
`resizerNewT` / `resizerResizeT` are exactly these conditions.

Mirrored (file:line of /repo/src):
* color/mod.rs:94 `ColorFormat::buffer_size(..).expect(..)`; lib.rs:532 `Size::pixels`
* resize.rs:159–171 `get_aligned_slice` (`div_ceil`, `buffer.len() < buffer_len`, `Vec::resize`, `[..slice_len]`)
* resize.rs:19–24 `AlignedView::new` (two `debug_assert`s), :36 `as_image_view` (`ImageView::new(..).expect`, lib.rs:209)
* resize.rs:47–70 `AlignedBuffer::new` (`debug_assert!`), `as_view` (`&byte_slice[..len]`)
* resize.rs:82–111 `Aligner::align` (three branches; row copy `aligned_slice[a_start..a_end].copy_from_slice(row)`)
* resize.rs:124–157 `ResizeState::resize`, `resize`; :176–224 `resize_into` (three `debug_assert`s, dispatch)
* resize.rs:233–261 `resize_typed` (`cast::from_bytes(..).expect` ×2 = zerocopy `ref_from_bytes`: address aligned to the
  element, length a multiple of the pixel size; `Resizer::new(..).expect`; `resize(..).expect`)
* resize.rs:458–514 `IntoStraightAlphaAccumulator::to_value` (`recip` behind each precision's zero-alpha guard)
* encoder.rs:379–421 `MipmapCache::generate` (`debug_assert!` decreasing sizes, strategy), :424–463
  `generate_from_source` (rayon and sequential), :466–493 `generate_from_previous` (`sizes[0]`, `&sizes[1..]`),
  :496–536 `generate_from_previous_two` (`sizes[0]`, `sizes.len() == 1`, `sizes[1]`, `&sizes[2..]`)
* encoder.rs:156–241 `write_surface_impl` (`current.mipmap_level + 1` on `u8`, `saturating_sub`,
  `get_level_progress_range`: `level as i32 + 1`, `ProgressRange::from_to`'s `debug_assert!(from <= to)`;
  `Vec::with_capacity(16)`; the look-ahead loop; `level += 1` on `u8` in the callback)
-/
import DdsModel.Trap
import DdsModel.TrapEnc
import DdsModel.Mip
import DdsModel.Encoder
namespace Dds.TrapMip
open Dds Dds.Trap Dds.TrapEnc

/-! ## memory objects -/

/-- `&[u8]` / `&mut [u8]`: address of the first byte and length -/
structure Sl where
  addr : Nat
  len : Nat
deriving DecidableEq, Repr, Inhabited

/-- `Vec<AlignTo>` (`AlignTo = u32`): address, `len()` and `capacity()` in ELEMENTS -/
structure VecBuf where
  addr : Nat
  len : Nat
  cap : Nat
deriving DecidableEq, Repr, Inhabited

/-- `Vec::new()`: `NonNull::dangling()` is `align_of::<u32>()` -/
def VecBuf.empty : VecBuf := ⟨4, 0, 0⟩

/-- the allocator: (vector before, new capacity) ↦ address of the new allocation -/
abbrev Alloc := VecBuf → Nat → Nat

/-- `Vec::<u32>::resize(n, 0)` (alloc/raw_vec `grow_amortized`): within the capacity only `len` changes; otherwise
the new capacity is `max(max(2·cap, n), MIN_NON_ZERO_CAP = 4)` and a layout beyond `isize::MAX` bytes panics with
"capacity overflow" -/
def vecResizeT (al : Alloc) (b : VecBuf) (n : Nat) : Option VecBuf :=
  if n ≤ b.cap then some { b with len := n }
  else do
    let newCap := max (max (2 * b.cap) n) 4
    allocT newCap 4
    pure ⟨al b newCap, n, newCap⟩

/-- `color.buffer_size(size).expect(..)` (color/mod.rs:94): `pixels = width as u64 * height as u64` (lib.rs:533, plain
`*`), `checked_mul(bytes_per_pixel)?`, `bytes < isize::MAX` -/
def bufferSizeT (w h : Nat) (c : Color) : Option Nat := do
  let px ← mulU w h
  let bytes ← mulU px c.bpp          -- `checked_mul(..)?` then `expect`: `None` is the panic
  if bytes < 9223372036854775807 then some bytes else none

/-- `get_aligned_slice` (resize.rs:159–171): the buffer afterwards and the returned slice -/
def getAlignedSliceT (al : Alloc) (b : VecBuf) (w h : Nat) (c : Color) : Option (VecBuf × Sl) := do
  let sliceLen ← bufferSizeT w h c                       -- :160 `.expect("size too big for aligned slice")`
  let bufLen ← divCeilU sliceLen 4                       -- :165
  let b' ← if b.len < bufLen then vecResizeT al b bufLen else pure b   -- :166
  let n ← sliceTo (b'.len * 4) sliceLen                  -- :170 `&mut as_bytes_mut(..)[..slice_len]`
  pure (b', ⟨b'.addr, n⟩)

/-- seed C16d: `if buffer.capacity() < buffer_len` -/
def getAlignedSliceCapT (al : Alloc) (b : VecBuf) (w h : Nat) (c : Color) : Option (VecBuf × Sl) := do
  let sliceLen ← bufferSizeT w h c
  let bufLen ← divCeilU sliceLen 4
  let b' ← if b.cap < bufLen then vecResizeT al b bufLen else pure b
  let n ← sliceTo (b'.len * 4) sliceLen
  pure (b', ⟨b'.addr, n⟩)

/-- `AlignedView` -/
structure AView where
  sl : Sl
  w : Nat
  h : Nat
  c : Color
deriving DecidableEq, Repr

/-- `is_aligned(slice, alignment)` (resize.rs:172): `(ptr as usize) % alignment == 0` -/
def isAlignedT (s : Sl) (alignment : Nat) : Option Bool := do
  let r ← remU s.addr alignment
  pure (decide (r = 0))

/-- `AlignedView::new` (resize.rs:19–24) -/
def alignedViewNewT (s : Sl) (w h : Nat) (c : Color) : Option AView := do
  let n ← bufferSizeT w h c                              -- :20 `.expect("Invalid size")`
  dbgP (s.len = n)                                       -- :20
  let a ← isAlignedT s c.psize
  dbgP (a = true)                                        -- :21
  pure ⟨s, w, h, c⟩

/-- `AlignedView::as_image_view` (resize.rs:36) = `ImageView::new(view, size, color).expect(..)` (lib.rs:209–225):
the size the callback sees -/
def asImageViewT (a : AView) : Option Mip.Sz := do
  let e := a.w = 0 ∨ a.h = 0
  let w := if e then 0 else a.w
  let h := if e then 0 else a.h
  let px ← mulU w h                                      -- `size.pixels()`
  dbgP (a.sl.len = satMul64 px a.c.bpp)                  -- `None` → `expect` panics
  let _ ← mulU w a.c.bpp                                 -- :217 `row_pitch`
  pure (w, h)

/-- `AlignedBuffer` -/
structure ABuf where
  buf : VecBuf
  w : Nat
  h : Nat
  c : Color
deriving DecidableEq, Repr

/-- `AlignedBuffer::as_view` (resize.rs:61–70) -/
def asViewT (b : ABuf) : Option AView := do
  let len ← bufferSizeT b.w b.h b.c                      -- :63
  let n ← sliceTo (b.buf.len * 4) len                    -- :66
  pure ⟨⟨b.buf.addr, n⟩, b.w, b.h, b.c⟩

/-! ## the external `resize` crate: its ASSUMED contract -/

/-- `Resizer::new(w1, h1, w2, h2, ..).expect("failed to create resizer")` -/
def resizerNewT (w1 h1 w2 h2 : Nat) : Option Unit := dbgP (w1 ≠ 0 ∧ h1 ≠ 0 ∧ w2 ≠ 0 ∧ h2 ≠ 0)
/-- `resizer.resize(src, dst).expect("resize failed")` on `ns` source and `nd` destination pixels -/
def resizerResizeT (w1 h1 w2 h2 ns nd : Nat) : Option Unit := dbgP (w1 * h1 ≤ ns ∧ nd = w2 * h2)

/-- `cast::from_bytes::<[T; N]>(bytes).expect(..)` = zerocopy `ref_from_bytes`: the address must be aligned to
`align_of::<T>() = size_of::<T>()` and the length a multiple of the element size; the number of elements -/
def fromBytesAlignedT (s : Sl) (elem align : Nat) : Option Nat := do
  let r ← remU s.addr align
  dbgP (r = 0)
  TrapUnc.fromBytesT s.len elem

/-- `resize_typed::<P>` (resize.rs:233–261) for pixels of `n` channels of `psize` bytes -/
def resizeTypedT (src dst : Sl) (w1 h1 w2 h2 n psize : Nat) : Option Unit := do
  let ns ← fromBytesAlignedT src (n * psize) psize       -- :246 `.expect("invalid source data")`
  let nd ← fromBytesAlignedT dst (n * psize) psize       -- :248 `.expect("invalid destination data")`
  resizerNewT w1 h1 w2 h2                                -- :250–258
  resizerResizeT w1 h1 w2 h2 ns nd                       -- :260

/-- `resize_into` (resize.rs:176–224) -/
def resizeIntoT (src : AView) (dst : Sl) (w2 h2 : Nat) (sa : Bool) : Option Unit := do
  let n ← bufferSizeT w2 h2 src.c                        -- :187 `.expect(..)`
  dbgP (dst.len = n)                                     -- :185
  let a1 ← isAlignedT src.sl src.c.psize
  dbgP (a1 = true)                                       -- :191
  let a2 ← isAlignedT dst src.c.psize
  dbgP (a2 = true)                                       -- :192
  if sa && src.c.ch = .rgba then
    resizeTypedT src.sl dst src.w src.h w2 h2 4 src.c.psize            -- :205–210 `StraightAlpha<[T; 4]>`
  else
    resizeTypedT src.sl dst src.w src.h w2 h2 (TrapUnc.chanCount src.c.ch) src.c.psize   -- :213–223 `Pixel<[T; N]>`

/-- `crate::resize::resize` (resize.rs:142–157): a FRESH `Vec` per call -/
def resizeFreshT (al : Alloc) (src : AView) (w2 h2 : Nat) (sa : Bool) : Option ABuf := do
  let (b, dst) ← getAlignedSliceT al VecBuf.empty w2 h2 src.c          -- :151–152
  resizeIntoT src dst w2 h2 sa                                         -- :154
  let n ← bufferSizeT w2 h2 src.c                                      -- :50 `AlignedBuffer::new`
  dbgP (n ≤ b.len * 4)                                                 -- :48
  pure ⟨b, w2, h2, src.c⟩

/-- `ResizeState::resize` (resize.rs:124–139): the destination buffer is REUSED -/
def resizeStateT (al : Alloc) (dest : VecBuf) (src : AView) (w2 h2 : Nat) (sa : Bool) : Option (VecBuf × AView) := do
  let (b, dst) ← getAlignedSliceT al dest w2 h2 src.c                  -- :134
  resizeIntoT src dst w2 h2 sa                                         -- :136
  let a ← alignedViewNewT dst w2 h2 src.c                              -- :138
  pure (b, a)

/-! ## `Aligner::align` -/

/-- the row loop of `Aligner::align` (resize.rs:94–99) over the row lengths of `ImageView::rows` -/
def alignRowsT (sliceLen bpr : Nat) (rows : List Nat) : Option Unit := do
  let _ ← mapIdxT (fun y row => do
    dbgP (row = bpr)                                     -- :95
    let aStart ← mulU y bpr                              -- :96
    let aEnd ← addU aStart bpr                           -- :97
    let n ← sliceRange sliceLen aStart aEnd              -- :98
    copyFromSliceT n row) rows
  pure ()

/-- `Aligner::align` (resize.rs:82–111) for a view whose data starts at address `addr` -/
def alignT (al : Alloc) (b : VecBuf) (addr : Nat) (v : View) (c : Color) : Option (VecBuf × AView) := do
  let contiguous ← isContiguousT v                       -- :89
  if !contiguous then
    let (b', s) ← getAlignedSliceT al b v.w v.h c        -- :92
    let bpr ← mulU v.w c.bpp                             -- :93
    let rows ← rowsT v
    alignRowsT s.len bpr rows
    let a ← alignedViewNewT s v.w v.h c                  -- :110
    pure (b', a)
  else
    let al0 ← isAlignedT ⟨addr, v.len⟩ c.psize           -- :101
    if al0 then
      let a ← alignedViewNewT ⟨addr, v.len⟩ v.w v.h c
      pure (b, a)
    else
      let (b', s) ← getAlignedSliceT al b v.w v.h c      -- :105
      copyFromSliceT s.len v.len                         -- :106
      let a ← alignedViewNewT s v.w v.h c
      pure (b', a)

/-- row `y` of the aligned buffer `out` overwritten by the `bpr` bytes `row` -/
def copyRow (bpr : Nat) (row : Nat → Nat) (y : Nat) (out : Nat → Nat) : Nat → Nat :=
  fun i => if y * bpr ≤ i ∧ i < y * bpr + bpr then row (i - y * bpr) else out i

/-- the BYTES `Aligner::align` hands to the resizer, as a function of the caller's memory `mem` (byte at an
address): the view itself when it is contiguous and aligned, a whole-slice copy when it is contiguous, else row `y`
of the view copied to `[y·bpr, (y+1)·bpr)` of the aligned buffer (whose previous contents are `old`). -/
def alignBytes (mem : Nat → Nat) (old : Nat → Nat) (addr : Nat) (v : View) (c : Color) : Nat → Nat :=
  if v.pitch * v.h ≠ v.len then
    (List.range v.h).foldl (fun out y => copyRow (v.w * c.bpp) (fun j => mem (addr + y * v.pitch + j)) y out) old
  else if addr % c.psize = 0 then fun i => mem (addr + i)
  else fun i => mem (addr + i)

/-! ## `MipmapCache` -/

structure Cache where
  aligner : VecBuf
  resizer : VecBuf
deriving DecidableEq, Repr, Inhabited

/-- `MipmapCache::new` -/
def Cache.new : Cache := ⟨VecBuf.empty, VecBuf.empty⟩

/-- the `debug_assert!` loop at the top of `generate` (encoder.rs:387–394) -/
def decreasingT : Mip.Sz → List Mip.Sz → Option Unit
  | _, [] => some ()
  | last, s :: rest => do
    dbgP (s.1 ≤ last.1 ∧ s.2 ≤ last.2)
    decreasingT s rest

/-- `f(mipmap.as_view().as_image_view())` for an `AlignedBuffer` -/
def emitBufT (b : ABuf) : Option Mip.Sz := do
  let a ← asViewT b
  asImageViewT a

/-- sequential loop of `generate_from_source` (encoder.rs:454–460): `self.resizer.resize(..)`, buffer reused -/
def seqLoopT (al : Alloc) (src : AView) (sa : Bool) : VecBuf → List Mip.Sz → Option (VecBuf × List (Mip.Sz × Nat))
  | d, [] => some (d, [])
  | d, s :: rest => do
    let (d', a) ← resizeStateT al d src s.1 s.2 sa
    let e ← asImageViewT a
    let (d'', out) ← seqLoopT al src sa d' rest
    pure (d'', (e, 0) :: out)

/-- `generate_from_source` (encoder.rs:424–463); `rayon` = the crate feature (default on) -/
def genFromSourceT (al : Alloc) (rayon : Bool) (k : Cache) (addr : Nat) (v : View) (c : Color)
    (sizes : List Mip.Sz) (sa : Bool) : Option (Cache × List (Mip.Sz × Nat)) := do
  let (ab, src) ← alignT al k.aligner addr v c                          -- :435
  if rayon then
    let bufs ← mapT (fun s => resizeFreshT al src s.1 s.2 sa) sizes     -- :442–445
    let out ← mapT emitBufT bufs                                        -- :447–449
    pure (⟨ab, k.resizer⟩, out.map fun e => (e, 0))
  else
    let (d, out) ← seqLoopT al src sa k.resizer sizes
    pure (⟨ab, d⟩, out)

/-- the `for` loop of `generate_from_previous` (encoder.rs:483–490); `k` = number of the image in `prev` -/
def prevLoopT (al : Alloc) (sa : Bool) : ABuf → List Mip.Sz → Nat → Option (List (Mip.Sz × Nat))
  | _, [], _ => some []
  | prev, s :: rest, k => do
    let pv ← asViewT prev
    let next ← resizeFreshT al pv s.1 s.2 sa
    let e ← emitBufT next
    let out ← prevLoopT al sa next rest (k + 1)
    pure ((e, k) :: out)

/-- `generate_from_previous` (encoder.rs:466–493) -/
def genFromPreviousT (al : Alloc) (k : Cache) (addr : Nat) (v : View) (c : Color) (sizes : List Mip.Sz) (sa : Bool) :
    Option (Cache × List (Mip.Sz × Nat)) := do
  let (ab, src) ← alignT al k.aligner addr v c                          -- :476
  let s0 ← idx sizes 0                                                  -- :478 `sizes[0]`
  let first ← resizeFreshT al src s0.1 s0.2 sa
  let e0 ← emitBufT first                                               -- :479
  let _ ← sliceFrom sizes.length 1                                      -- :483 `&sizes[1..]`
  let out ← prevLoopT al sa first (sizes.drop 1) 1
  pure (⟨ab, k.resizer⟩, (e0, 0) :: out)

/-- the `for` loop of `generate_from_previous_two` (encoder.rs:521–533) -/
def prevTwoLoopT (al : Alloc) (sa : Bool) : ABuf → ABuf → List Mip.Sz → Nat → Option (List (Mip.Sz × Nat))
  | _, _, [], _ => some []
  | pp, p, s :: rest, k => do
    let pv ← asViewT pp
    let next ← resizeFreshT al pv s.1 s.2 sa
    let e ← emitBufT next
    let out ← prevTwoLoopT al sa p next rest (k + 1)
    pure ((e, k) :: out)

/-- `generate_from_previous_two` (encoder.rs:496–536) -/
def genFromPreviousTwoT (al : Alloc) (k : Cache) (addr : Nat) (v : View) (c : Color) (sizes : List Mip.Sz)
    (sa : Bool) : Option (Cache × List (Mip.Sz × Nat)) := do
  let (ab, src) ← alignT al k.aligner addr v c                          -- :506
  let s0 ← idx sizes 0                                                  -- :508
  let first ← resizeFreshT al src s0.1 s0.2 sa
  let e0 ← emitBufT first
  if sizes.length = 1 then pure (⟨ab, k.resizer⟩, [(e0, 0)])            -- :511
  else
    let s1 ← idx sizes 1                                                -- :515
    let second ← resizeFreshT al src s1.1 s1.2 sa
    let e1 ← emitBufT second
    let _ ← sliceFrom sizes.length 2                                    -- :521 `&sizes[2..]`
    let out ← prevTwoLoopT al sa first second (sizes.drop 2) 1
    pure (⟨ab, k.resizer⟩, (e0, 0) :: (e1, 0) :: out)

/-- seed C16a: `let (from_source, from_mipmaps) = sizes.split_at(2)` up front, no early return -/
def genFromPreviousTwoSplitT (al : Alloc) (k : Cache) (addr : Nat) (v : View) (c : Color) (sizes : List Mip.Sz)
    (sa : Bool) : Option (Cache × List (Mip.Sz × Nat)) := do
  let (ab, src) ← alignT al k.aligner addr v c
  let _ ← splitAtT sizes.length 2
  let s0 ← idx sizes 0
  let first ← resizeFreshT al src s0.1 s0.2 sa
  let e0 ← emitBufT first
  let s1 ← idx sizes 1
  let second ← resizeFreshT al src s1.1 s1.2 sa
  let e1 ← emitBufT second
  let out ← prevTwoLoopT al sa first second (sizes.drop 2) 1
  pure (⟨ab, k.resizer⟩, (e0, 0) :: (e1, 0) :: out)

/-- one generating call: the image (address of its data, view, colour), the sizes, the options -/
structure Call where
  addr : Nat
  v : View
  c : Color
  sizes : List Mip.Sz
  f : Mip.Filter
  sa : Bool
deriving Repr

/-- `MipmapCache::generate` (encoder.rs:379–421): the cache afterwards and, per emitted level, the size the callback
saw and the number of the image it was resized from -/
def generateT (al : Alloc) (rayon : Bool) (k : Cache) (q : Call) : Option (Cache × List (Mip.Sz × Nat)) := do
  decreasingT (q.v.w, q.v.h) q.sizes                                    -- :387–394
  match Mip.selectStrategy q.f (q.v.w, q.v.h) q.sizes with              -- :398–420
  | .fromSource => genFromSourceT al rayon k q.addr q.v q.c q.sizes q.sa
  | .fromPrevious => genFromPreviousT al k q.addr q.v q.c q.sizes q.sa
  | .fromPreviousTwo => genFromPreviousTwoT al k q.addr q.v q.c q.sizes q.sa

/-- a SEQUENCE of generating calls through one encoder: the cache (both buffers) is carried along -/
def generateSeqT (al : Alloc) (rayon : Bool) : Cache → List Call → Option (Cache × List (List (Mip.Sz × Nat)))
  | k, [] => some (k, [])
  | k, q :: rest => do
    let (k', out) ← generateT al rayon k q
    let (k'', outs) ← generateSeqT al rayon k' rest
    pure (k'', out :: outs)

/-! ## the straight-alpha `to_value`s (resize.rs:458–514): every `recip` sits behind a zero test -/

/-- `a.recip()` read as a division that must not see zero (binary32 `recip` of 0 is `inf`, not a panic; what the
property needs is that the guard keeps zero away — seed C16f's integer `/ a` does panic) -/
def recipT (a : Rat) : Option Rat := if a = 0 then none else some (1 / a)

/-- colour sample of `to_value` per precision, with the trapping reciprocal -/
def saColourT (p : Mip.Prec) (accC accA : Rat) : Option Rat :=
  match p with
  | .u8 => do                                                           -- :468–474
    let ar ← if accA < 1 / 2 / 255 then pure 0 else recipT accA
    pure (p.quant (accC * ar))
  | .u16 =>                                                             -- :486–498
    if p.quant accA = 0 then pure 0
    else do
      let ar ← recipT accA
      pure (p.quant (accC * ar))
  | .f32 =>                                                             -- :506–512
    if accA ≤ 0 then pure 0
    else do
      let ar ← recipT accA
      pure (accC * ar)

/-! ## `write_surface_impl` (encoder.rs:156–241) -/

/-- `mipmaps_to_generate` (encoder.rs:171–176): `current.mipmap_level + 1` is a plain `u8` addition -/
def toGenT (e : Enc) (s : SurfInfo) : Option Nat :=
  if e.generate && !e.layout.isVolume then do
    let l1 ← ck 256 (s.level + 1)                                       -- :173
    pure (e.layout.mips - l1)                                           -- `saturating_sub`
  else pure 0

/-- seed C11b: `self.layout.mipmaps() - 1` -/
def toGenSeedT (e : Enc) (_s : SurfInfo) : Option Nat :=
  if e.generate && !e.layout.isVolume then subU e.layout.mips 1 else pure 0

/-- `get_level_progress_range(level)` (encoder.rs:178–190) and the `sub_range` built from it: `level as i32 + 1`
(plain `i32` addition) and `ProgressRange::from_to`'s `debug_assert!(from <= to)`, over exact rationals
(the values are `Progress.lean`'s `levelRange`, C17; binary32 rounding of `powi` is outside the model) -/
def levelRangeT (toGen level : Nat) : Option Unit :=
  if toGen = 0 then pure ()                                             -- `ProgressRange::FULL`
  else do
    let _ ← ckI32 ((level : Int) + 1)                                   -- :187
    let a : Rat := 1 - (2 / 5 : Rat) ^ level
    let b : Rat := 1 - (2 / 5 : Rat) ^ (level + 1)
    dbgP (a ≤ b)                                                        -- progress.rs:32
    pure ()

/-- the callback of `generate` (encoder.rs:223–234) for the `n` generated levels: `level += 1` on a `u8` counter,
then that level's progress range -/
def levelCounterT (toGen : Nat) : Nat → Nat → Option Unit
  | 0, _ => some ()
  | n + 1, level => do
    let l ← ck 256 (level + 1)                                          -- :224
    let _ ← levelRangeT toGen l                                         -- :229
    levelCounterT toGen n l

/-- the image of a `write_surface` call and the mipmap options that matter for the buffers -/
structure Img where
  addr : Nat
  v : View
  c : Color
  f : Mip.Filter
  sa : Bool
deriving Repr

/-- `write_surface_impl` with its cache: every trapping operation in program order; the encoder state and result are
those of `Enc.write` (C11's model), which this function calls only AFTER all the checks of the same path.
`toGen` is the `mipmaps_to_generate` computation (the seed's variant can be plugged in). -/
def writeSurfaceWithT (toGen : Enc → SurfInfo → Option Nat) (al : Alloc) (rayon : Bool) (e : Enc) (k : Cache)
    (im : Img) (pre : Bool) : Option (Enc × EncRes × Cache) := do
  let cur ← e.iter.currentP                                             -- :165
  match cur with
  | none => pure (e, .tooManySurfaces, k)
  | some s =>
    if (s.w, s.h) ≠ normSizeE im.v.w im.v.h then pure (e, .unexpectedSurfaceSize, k)   -- :166
    else do
      let n ← toGen e s                                                 -- :171–176
      let _ ← levelRangeT n 0                                           -- :197
      if pre then pure (e, .cancelled, k)
      else if !e.sizeOk s.w s.h then pure (e, .invalidSize, k)          -- `encode(..)?`
      else do
        let it ← e.iter.advanceP                                        -- :200
        if n > 0 then do
          allocT 16 8                                                   -- :207 `Vec::with_capacity(16)` of `Size`
          let sizes ← Mip.gatherSizes 255 it                            -- :208–215
          let r := e.write im.v.w im.v.h pre
          -- the generated levels the encoder accepts before a size it rejects (all, when none is rejected)
          let good := sizes.takeWhile fun z => e.sizeOk z.1 z.2
          let (k', _) ← generateT al rayon k ⟨im.addr, im.v, im.c, sizes, im.f, im.sa⟩   -- :222–234
          levelCounterT n (min (good.length + 1) sizes.length) 0
          pure (r.1, r.2, k')
        else
          let r := e.write im.v.w im.v.h pre
          pure (r.1, r.2, k)

def writeSurfaceT := writeSurfaceWithT toGenT

end Dds.TrapMip
